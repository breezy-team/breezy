import BreezyVerif.Model.C34RT
import BreezyVerif.Lemmas.C34
/-! C34 — lemmas about the `--BZR--` metadata block of roundtrip.py. -/
namespace BreezyVerif.C34

theorem splitSep_eq (sep : UInt8) (b : Bytes) : splitSep sep b = b.splitOn sep := by
  induction b with
  | nil => rfl
  | cons x r ih =>
    obtain ⟨f, fs, h, h'⟩ := Lib.splitOn_cons sep x r
    simp [splitSep, ih, h, h']

theorem joinSep_eq (sep : UInt8) : ∀ l : List Bytes, joinSep sep l = [sep].intercalate l
  | [] => rfl
  | [x] => by simp [joinSep]
  | x :: y :: r => by simp [joinSep, joinSep_eq sep (y :: r)]

theorem readlines_eq (b : Bytes) : readlines b = Lib.splitAfter 10 b := by
  induction b with
  | nil => rfl
  | cons x r ih =>
    by_cases hx : x = 10 <;> cases h : Lib.splitAfter 10 r <;> simp [readlines, Lib.splitAfter, ih, hx, h]

theorem readlines_lines (ls : List Bytes) (h : ∀ l ∈ ls, (10 : UInt8) ∉ l) :
    readlines ((ls.map (· ++ [10])).flatten) = ls.map (· ++ [10]) := by
  have := Lib.splitAfter_flatten (t := (10 : UInt8)) (ls := ls.map (· ++ [10]))
    (fun l hl => by obtain ⟨p, hp, rfl⟩ := List.mem_map.1 hl; exact ⟨p, rfl, h p hp⟩) []
  simpa [Lib.splitAfter, ← readlines_eq] using this

theorem splitSep_join (sep : UInt8) (l : List Bytes) (hne : l ≠ []) (h : ∀ x ∈ l, sep ∉ x) :
    splitSep sep (joinSep sep l) = l := by
  rw [splitSep_eq, joinSep_eq, Lib.splitOn_intercalate sep h hne]

theorem joinSep_splitSep (sep : UInt8) (b : Bytes) : joinSep sep (splitSep sep b) = b := by
  rw [splitSep_eq, joinSep_eq, Lib.intercalate_splitOn]

theorem splitSep_mem_nosep (sep : UInt8) (b l : Bytes) (h : l ∈ splitSep sep b) : sep ∉ l :=
  Lib.not_mem_of_mem_splitOn (splitSep_eq sep b ▸ h)

theorem strip_pad (y : Bytes) (h1 : ∀ a t, y = a :: t → isWs a = false)
    (h2 : ∀ t b, y = t ++ [b] → isWs b = false) : strip (32 :: (y ++ [10])) = y := by
  cases y with
  | nil => decide
  | cons a t =>
    have ha := h1 a t rfl
    have e1 : List.dropWhile isWs (32 :: ((a :: t) ++ [10])) = a :: t ++ [10] := by
      have : isWs 32 = true := by decide
      simp [List.dropWhile, this, ha]
    unfold strip
    rw [e1]
    cases hrev : (a :: t).reverse with
    | nil => simp at hrev
    | cons b r' =>
      have hy : a :: t = r'.reverse ++ [b] := by
        have := congrArg List.reverse hrev
        simpa using this
      have hb := h2 _ _ hy
      have e2 : (a :: t ++ [10]).reverse = 10 :: b :: r' := by
        rw [List.reverse_append, hrev]; rfl
      rw [e2]
      have : isWs 10 = true := by decide
      simp only [List.dropWhile, this, hb]
      rw [← hrev]; simp

/-- no whitespace byte at all -/
def noWs (x : Bytes) : Bool := x.all fun c => !isWs c

theorem strip_pad_noWs (y : Bytes) (h : noWs y = true) : strip (32 :: (y ++ [10])) = y := by
  unfold noWs at h
  rw [List.all_eq_true] at h
  apply strip_pad
  · intro a t e; have := h a (by simp [e]); simpa using this
  · intro t b e; have := h b (by simp [e]); simpa using this

theorem rstripNl_line (l : Bytes) (h : 10 ∉ l) : rstripNl (l ++ [10]) = l := by
  unfold rstripNl
  rw [List.reverse_append]
  simp only [List.reverse_cons, List.reverse_nil, List.nil_append, List.singleton_append,
    List.dropWhile, decide_true]
  cases hr : l.reverse with
  | nil =>
    have : l = [] := by simpa using hr
    simp [this]
  | cons b r =>
    have hb : b ≠ 10 := by
      intro e
      have : b ∈ l := by
        have : b ∈ l.reverse := by rw [hr]; simp
        simpa using this
      exact h (e ▸ this)
    simp only [List.dropWhile, hb, decide_false]
    rw [← hr]; simp

theorem splitColon_kv (k v : Bytes) (h : 58 ∉ k) : splitColon (k ++ 58 :: v) = some (k, v) := by
  simp [splitColon, split1_nosep 58 k v h]

/-- a generated line `key: value\n` as `l.split(b":", 1)` sees it; `lit` is the generator's
literal `key: ` -/
theorem splitColon_line {lit key : Bytes} (hlit : lit = key ++ [58, 32]) (h : 58 ∉ key) (v : Bytes) :
    splitColon (lit ++ v ++ [10]) = some (key, 32 :: (v ++ [10])) := by
  rw [hlit, ← splitColon_kv key _ h]
  simp

theorem parseLine_rid (acc : Supp) (r : Bytes) (h : noWs r = true) :
    parseLine acc (bs "revision-id: " ++ r ++ [10]) = some { acc with revisionId := some r } := by
  unfold parseLine
  rw [splitColon_line (key := bs "revision-id") (by rw [bs_ofList, bs_ofList]; decide +kernel)
    (by rw [bs_ofList]; decide +kernel)]
  simp [strip_pad_noWs r h]

theorem parseLine_test (acc : Supp) (v : Bytes) (h : noWs v = true) :
    parseLine acc (bs "testament3-sha1: " ++ v ++ [10]) = some { acc with testament := some v } := by
  unfold parseLine
  rw [splitColon_line (key := bs "testament3-sha1") (by rw [bs_ofList, bs_ofList]; decide +kernel)
    (by rw [bs_ofList]; decide +kernel)]
  have n1 : bs "testament3-sha1" ≠ bs "revision-id" := by rw [bs_ofList, bs_ofList]; decide +kernel
  have n2 : bs "testament3-sha1" ≠ bs "parent-ids" := by rw [bs_ofList, bs_ofList]; decide +kernel
  simp [n1, n2, strip_pad_noWs v h]

/-- a revision id / sha: non-empty, no whitespace -/
def cleanId (x : Bytes) : Bool := decide (x ≠ []) && noWs x

theorem noWs_nosp {x : Bytes} (h : noWs x = true) : 32 ∉ x := by
  intro hm
  unfold noWs at h
  have := (List.all_eq_true.mp h) 32 hm
  exact absurd this (by decide)

theorem noWs_nonl {x : Bytes} (h : noWs x = true) : 10 ∉ x := by
  intro hm
  unfold noWs at h
  have := (List.all_eq_true.mp h) 10 hm
  exact absurd this (by decide)

theorem joinSep_last (sep : UInt8) (l : List Bytes) (x : Bytes) (b : UInt8) :
    ∃ t', joinSep sep (l ++ [x ++ [b]]) = t' ++ [b] := by
  rw [joinSep_eq]
  cases l with
  | nil => exact ⟨x, by simp⟩
  | cons y l =>
    exact ⟨[sep].intercalate (y :: l) ++ sep :: x,
      by rw [Lib.intercalate_append (List.cons_ne_nil y l) (List.cons_ne_nil _ _)]; simp⟩

theorem parseLine_pids (acc : Supp) (ids : List Bytes) (hne : ids ≠ [])
    (h : ∀ x ∈ ids, cleanId x = true) :
    parseLine acc (bs "parent-ids: " ++ joinSep 32 ids ++ [10]) = some { acc with parentIds := some ids } := by
  unfold parseLine
  rw [splitColon_line (key := bs "parent-ids") (by rw [bs_ofList, bs_ofList]; decide +kernel)
    (by rw [bs_ofList]; decide +kernel)]
  have n1 : bs "parent-ids" ≠ bs "revision-id" := by rw [bs_ofList, bs_ofList]; decide +kernel
  have hc : ∀ x ∈ ids, x ≠ [] ∧ noWs x = true := by
    intro x hx
    have := h x hx
    simpa [cleanId] using this
  have hstrip : strip (32 :: (joinSep 32 ids ++ [10])) = joinSep 32 ids := by
    apply strip_pad
    · intro a t ha
      -- the first byte of the join is the first byte of the first id
      obtain ⟨i1, rest, rfl⟩ := List.exists_cons_of_ne_nil hne
      obtain ⟨hi1, hw⟩ := hc i1 (by simp)
      obtain ⟨a', t1, rfl⟩ := List.exists_cons_of_ne_nil hi1
      rw [joinSep_eq, List.intercalate_cons_cons_left] at ha
      cases ha
      have := (List.all_eq_true.mp hw) a (by simp)
      simpa using this
    · intro t b hb
      obtain ⟨init, il, rfl⟩ : ∃ init il, ids = init ++ [il] :=
        ⟨ids.dropLast, ids.getLast hne, (List.dropLast_concat_getLast hne).symm⟩
      obtain ⟨hil, hw⟩ := hc il (by simp)
      obtain ⟨x, b', rfl⟩ : ∃ x b', il = x ++ [b'] :=
        ⟨il.dropLast, il.getLast hil, (List.dropLast_concat_getLast hil).symm⟩
      obtain ⟨t', ht'⟩ := joinSep_last 32 init x b'
      rw [ht'] at hb
      have : b = b' := by
        have := congrArg List.getLast? hb
        simpa using this.symm
      subst this
      have := (List.all_eq_true.mp hw) b (by simp)
      simpa using this
  simp only [n1, if_false, if_true, hstrip]
  rw [splitSep_join 32 ids hne (fun x hx => noWs_nosp (hc x hx).2)]

/-- a property name: no `:` and no newline -/
def cleanKey (k : Bytes) : Bool := !k.contains 58 && !k.contains 10

theorem propKey_facts (k : Bytes) (hk : cleanKey k = true) :
    58 ∉ propPrefix ++ k ∧ propPrefix ++ k ≠ bs "revision-id" ∧ propPrefix ++ k ≠ bs "parent-ids" ∧
    propPrefix ++ k ≠ bs "testament3-sha1" ∧ propPrefix.isPrefixOf (propPrefix ++ k) = true ∧
    (propPrefix ++ k).drop propPrefix.length = k := by
  simp only [cleanKey, Bool.and_eq_true, Bool.not_eq_true', List.contains_eq_mem,
    decide_eq_false_iff_not] at hk
  have hp : (58 : UInt8) ∉ propPrefix := by rw [propPrefix, bs_ofList]; decide +kernel
  -- "property-" differs from the other keys within its first two bytes
  have ne : ∀ {lit : Bytes}, propPrefix.take 2 ≠ lit.take 2 → propPrefix ++ k ≠ lit := by
    intro lit h e
    apply h
    have := congrArg (List.take 2) e
    rwa [List.take_append_of_le_length (by rw [propPrefix, bs_ofList]; decide +kernel)] at this
  refine ⟨by simp [hp, hk.1], ne ?_, ne ?_, ne ?_, by simp, by simp⟩ <;>
    (rw [propPrefix, bs_ofList, bs_ofList]; decide +kernel)

theorem parseLine_prop (acc : Supp) (k l : Bytes) (hk : cleanKey k = true) (hl : 10 ∉ l) :
    parseLine acc (bs "property-" ++ k ++ bs ": " ++ l ++ [10]) =
      some { acc with props := addProp acc.props k l } := by
  obtain ⟨h58, n1, n2, n3, hpre, hdrop⟩ := propKey_facts k hk
  have e : bs "property-" ++ k ++ bs ": " ++ l ++ [10] = (propPrefix ++ k) ++ 58 :: (32 :: (l ++ [10])) := by
    have : bs ": " = [58, 32] := by rw [bs_ofList]; decide +kernel
    rw [this]; simp [propPrefix]
  rw [e]
  unfold parseLine
  rw [splitColon_kv _ _ h58]
  simp only [n1, n2, n3, if_false, hpre, if_true, hdrop]
  have : List.drop 1 (32 :: (l ++ [10])) = l ++ [10] := rfl
  rw [this, rstripNl_line l hl]

/-- `cur += b"\n" + l` for a further line of a property value -/
theorem joinSep_merge (sep : UInt8) (a b : Bytes) (r : List Bytes) :
    joinSep sep (a :: b :: r) = joinSep sep ((a ++ sep :: b) :: r) := by
  cases r <;> simp [joinSep]

theorem addProp_new (P : List (Bytes × Bytes)) (k v : Bytes) (h : k ∉ P.map (·.1)) :
    addProp P k v = P ++ [(k, v)] := by
  unfold addProp
  have : P.any (fun kv => decide (kv.1 = k)) = false := by
    rw [List.any_eq_false]
    intro kv hkv
    simp only [decide_eq_true_eq]
    intro e
    exact h (List.mem_map.mpr ⟨kv, hkv, e⟩)
  simp [this]

theorem addProp_last (P : List (Bytes × Bytes)) (k cur v : Bytes) (h : k ∉ P.map (·.1)) :
    addProp (P ++ [(k, cur)]) k v = P ++ [(k, cur ++ 10 :: v)] := by
  unfold addProp
  have hany : (P ++ [(k, cur)]).any (fun kv => decide (kv.1 = k)) = true := by simp
  rw [if_pos hany]
  rw [List.map_append]
  congr 1
  · have : ∀ kv ∈ P, (if kv.1 = k then (kv.1, kv.2 ++ 10 :: v) else kv) = kv := by
      intro kv hkv
      have : kv.1 ≠ k := fun e => h (List.mem_map.mpr ⟨kv, hkv, e⟩)
      simp [this]
    calc P.map (fun kv => if kv.1 = k then (kv.1, kv.2 ++ 10 :: v) else kv)
        = P.map id := List.map_congr_left this
      _ = P := List.map_id P
  · simp

theorem fold_propTail (acc : Supp) (P : List (Bytes × Bytes)) (k : Bytes) (hk : cleanKey k = true)
    (hnew : k ∉ P.map (·.1)) : ∀ (ls : List Bytes) (cur : Bytes), (∀ l ∈ ls, (10 : UInt8) ∉ l) →
    (ls.map fun l => bs "property-" ++ k ++ bs ": " ++ l ++ [10]).foldlM parseLine
        { acc with props := P ++ [(k, cur)] } =
      some { acc with props := P ++ [(k, joinSep 10 (cur :: ls))] }
  | [], cur, _ => rfl
  | l :: ls, cur, h => by
    simp only [List.map_cons, List.foldlM_cons]
    rw [parseLine_prop _ k l hk (h l (by simp)), joinSep_merge]
    simp only [Option.bind_eq_bind, Option.bind_some, addProp_last P k cur l hnew]
    exact fold_propTail acc P k hk hnew ls (cur ++ 10 :: l) (fun x hx => h x (by simp [hx]))

theorem fold_propKey (acc : Supp) (k v : Bytes) (hk : cleanKey k = true)
    (hnew : k ∉ acc.props.map (·.1)) :
    ((splitSep 10 v).map fun l => bs "property-" ++ k ++ bs ": " ++ l ++ [10]).foldlM parseLine acc =
      some { acc with props := acc.props ++ [(k, v)] } := by
  cases hs : splitSep 10 v with
  | nil => exact absurd (splitSep_eq 10 v ▸ hs) (List.splitOn_ne_nil 10 v)
  | cons l0 ls =>
    have hno : ∀ l ∈ l0 :: ls, (10 : UInt8) ∉ l := by
      intro l hl; exact splitSep_mem_nosep 10 v l (by rw [hs]; exact hl)
    simp only [List.map_cons, List.foldlM_cons]
    rw [parseLine_prop acc k l0 hk (hno l0 (by simp))]
    simp only [Option.bind_eq_bind, Option.bind_some, addProp_new acc.props k l0 hnew]
    rw [fold_propTail acc acc.props k hk hnew ls l0 (fun x hx => hno x (by simp [hx])), ← hs, joinSep_splitSep]

theorem fold_props (acc : Supp) : ∀ (ps : List (Bytes × Bytes)) (P : List (Bytes × Bytes)),
    (∀ kv ∈ ps, cleanKey kv.1 = true) → ((P ++ ps).map (·.1)).Nodup →
    ((ps.flatMap fun kv => (splitSep 10 kv.2).map fun l => bs "property-" ++ kv.1 ++ bs ": " ++ l).map
        (· ++ [10])).foldlM parseLine { acc with props := P } =
      some { acc with props := P ++ ps }
  | [], P, _, _ => by simp
  | (k, v) :: ps, P, hk, hnd => by
    simp only [List.flatMap_cons, List.map_append, List.foldlM_append, List.map_map]
    have hnew : k ∉ P.map (·.1) := by
      intro hm
      simp only [List.map_append, List.map_cons] at hnd
      have := (List.nodup_append.mp hnd).2.2 k hm k (by simp) rfl
      exact this
    have h1 := fold_propKey { acc with props := P } k v (hk (k, v) (by simp)) hnew
    simp only [Function.comp_def] at h1 ⊢
    rw [h1]
    simp only [Option.bind_eq_bind, Option.bind_some]
    have h2 := fold_props acc ps (P ++ [(k, v)]) (fun kv hkv => hk kv (by simp [hkv]))
      (by simpa [List.append_assoc] using hnd)
    rw [h2]
    simp [List.append_assoc]

/-- the supplements `generate` / `parse` round-trip: ids without whitespace (and
non-empty), a non-empty parent tuple, property names without `:` / newline and
pairwise distinct (a dict), a verifier value without whitespace.  Property VALUES
are arbitrary bytes (multi-line, empty, trailing newlines …). -/
def WF (s : Supp) : Bool :=
  (match s.revisionId with
   | some r => cleanId r
   | none => true) &&
  (match s.parentIds with
   | some ids => decide (ids ≠ []) && ids.all cleanId
   | none => true) &&
  s.props.all (fun kv => cleanKey kv.1) && decide ((s.props.map (·.1)).Nodup) &&
  (match s.testament with
   | some v => noWs v
   | none => true)

theorem cleanId_iff {x : Bytes} : cleanId x = true ↔ x ≠ [] ∧ noWs x = true := by
  simp [cleanId]

theorem cleanKey_nonl {k : Bytes} (h : cleanKey k = true) : 10 ∉ k := by
  simp only [cleanKey, Bool.and_eq_true, Bool.not_eq_true', List.contains_eq_mem,
    decide_eq_false_iff_not] at h
  exact h.2

theorem generateLines_nonl (s : Supp) (h : WF s = true) : ∀ l ∈ generateLines s, (10 : UInt8) ∉ l := by
  obtain ⟨rid, pids, props, test⟩ := s
  simp only [WF, Bool.and_eq_true, decide_eq_true_eq, List.all_eq_true] at h
  obtain ⟨⟨⟨⟨h1, h2⟩, h3⟩, _⟩, h5⟩ := h
  have nl {a b : Bytes} (ha : (10 : UInt8) ∉ a) (hb : (10 : UInt8) ∉ b) : (10 : UInt8) ∉ a ++ b := by
    simp [ha, hb]
  intro l hl
  simp only [generateLines, List.mem_append] at hl
  rcases hl with ((hl | hl) | hl) | hl
  · cases rid with
    | none => simp [ridLines] at hl
    | some r =>
      have hr := cleanId_iff.mp h1
      simp only [ridLines, hr.1, ne_eq, not_false_eq_true, if_true, List.mem_singleton] at hl
      exact hl ▸ nl (by rw [bs_ofList]; decide +kernel) (noWs_nonl hr.2)
  · cases pids with
    | none => simp [pidLines] at hl
    | some ids =>
      simp only [Bool.and_eq_true, decide_eq_true_eq, List.all_eq_true] at h2
      simp only [pidLines, h2.1, ne_eq, not_false_eq_true, if_true, List.mem_singleton] at hl
      refine hl ▸ nl (by rw [bs_ofList]; decide +kernel) fun hm => ?_
      rcases Lib.mem_intercalate (joinSep_eq 32 ids ▸ hm) with e | ⟨x, hx, hcx⟩
      · exact absurd e (by decide)
      · exact noWs_nonl (cleanId_iff.mp (h2.2 x hx)).2 hcx
  · obtain ⟨kv, hkv, hl⟩ := List.mem_flatMap.mp hl
    obtain ⟨l', hl', rfl⟩ := List.mem_map.mp hl
    exact nl (nl (nl (by rw [bs_ofList]; decide +kernel) (cleanKey_nonl (h3 kv hkv)))
      (by rw [bs_ofList]; decide +kernel)) (splitSep_mem_nosep 10 kv.2 l' hl')
  · cases test with
    | none => simp [testLines] at hl
    | some v =>
      simp only [testLines, List.mem_singleton] at hl
      exact hl ▸ nl (by rw [bs_ofList]; decide +kernel) (noWs_nonl h5)

/-- `parse_roundtripping_metadata(generate_roundtripping_metadata(s)) == s` for every
well-formed supplement `s` (any number of properties with arbitrary — multi-line,
empty — values, any ids without whitespace) -/
theorem parse_generate (s : Supp) (h : WF s = true) : parseMeta (generate s) = some s := by
  unfold parseMeta generate
  rw [readlines_lines _ (generateLines_nonl s h)]
  obtain ⟨rid, pids, props, test⟩ := s
  simp only [WF, Bool.and_eq_true, decide_eq_true_eq, List.all_eq_true] at h
  obtain ⟨⟨⟨⟨h1, h2⟩, h3⟩, h4⟩, h5⟩ := h
  simp only [generateLines, List.map_append, List.foldlM_append]
  have g1 : ((ridLines rid).map (· ++ [10])).foldlM parseLine emptySupp =
      some { emptySupp with revisionId := rid } := by
    cases rid with
    | none => rfl
    | some r =>
      have hr := cleanId_iff.mp h1
      simp only [ridLines, hr.1, ne_eq, not_false_eq_true, if_true, List.map_cons, List.map_nil,
        List.foldlM_cons, List.foldlM_nil]
      rw [parseLine_rid _ r hr.2]; rfl
  rw [g1]
  simp only [Option.bind_eq_bind, Option.bind_some]
  have g2 : ∀ acc : Supp, acc.parentIds = none →
      ((pidLines pids).map (· ++ [10])).foldlM parseLine acc = some { acc with parentIds := pids } := by
    intro acc hacc
    cases pids with
    | none => cases acc; simp_all [pidLines]
    | some ids =>
      simp only [Bool.and_eq_true, decide_eq_true_eq, List.all_eq_true] at h2
      simp only [pidLines, h2.1, ne_eq, not_false_eq_true, if_true, List.map_cons, List.map_nil,
        List.foldlM_cons, List.foldlM_nil]
      rw [parseLine_pids _ ids h2.1 h2.2]; rfl
  rw [g2 _ rfl]
  simp only [Option.bind_some]
  have g3 : ∀ acc : Supp, acc.props = [] →
      ((propLines props).map (· ++ [10])).foldlM parseLine acc = some { acc with props := props } := by
    intro acc hp
    have := fold_props acc props [] h3 (by simpa using h4)
    have e : ({ acc with props := [] } : Supp) = acc := by cases acc; simp_all
    rw [e] at this
    simpa [propLines] using this
  rw [g3 _ rfl]
  simp only [Option.bind_some]
  cases test with
  | none => rfl
  | some v =>
    simp only [testLines, List.map_cons, List.map_nil, List.foldlM_cons, List.foldlM_nil]
    rw [parseLine_test _ v h5]
    rfl

/-- the marker `\n--BZR--\n` does not start inside the message (once the block is appended) -/
def noEarlyMarker (m rest : Bytes) : Bool :=
  (List.range m.length).all fun i => !marker.isPrefixOf (m.drop i ++ marker ++ rest)

/-- the marker does not occur in the message -/
def noMarkerIn (m : Bytes) : Bool :=
  (List.range m.length).all fun i => !marker.isPrefixOf (m.drop i)

theorem splitOnce_append {pat : Bytes} (hp : pat ≠ []) : ∀ (m rest : Bytes),
    (∀ i, i < m.length → pat.isPrefixOf (m.drop i ++ pat ++ rest) = false) →
    splitOnce pat (m ++ pat ++ rest) = some (m, rest)
  | [], rest, _ => by
    obtain ⟨p, ps, rfl⟩ := List.exists_cons_of_ne_nil hp
    have hpre : (p :: ps).isPrefixOf (p :: (ps ++ rest)) = true :=
      List.isPrefixOf_iff_prefix.mpr (List.prefix_append (p :: ps) rest)
    simp [splitOnce, hpre]
  | x :: m, rest, h => by
    have h0 : pat.isPrefixOf (x :: (m ++ pat ++ rest)) = false := by simpa using h 0 (by simp)
    have hrec := splitOnce_append hp m rest fun i hi => by simpa using h (i + 1) (by simpa using hi)
    rw [List.cons_append, List.cons_append, splitOnce, if_neg (by rw [h0]; exact Bool.false_ne_true), hrec]
    rfl

theorem splitOnce_absent (pat : Bytes) : ∀ (m : Bytes),
    (∀ i, i < m.length → pat.isPrefixOf (m.drop i) = false) → splitOnce pat m = none
  | [], _ => rfl
  | x :: m, h => by
    have h0 : pat.isPrefixOf (x :: m) = false := by simpa using h 0 (by simp)
    rw [splitOnce, if_neg (by rw [h0]; exact Bool.false_ne_true),
      splitOnce_absent pat m fun i hi => by simpa using h (i + 1) (by simpa using hi)]
    rfl

/-- `extract_bzr_metadata(inject_bzr_metadata(m, s)) == (m, s)` for every message
`m` in which the marker does not occur before the appended block and every
well-formed `s`; with an empty `s` nothing is appended and `(m, None)` comes back -/
theorem extract_inject (m : Bytes) (s : Supp) (hwf : WF s = true) :
    (generate s ≠ [] → noEarlyMarker m (generate s) = true →
      extractMeta (injectMeta m (some s)) = some (m, some s)) ∧
    (generate s = [] → noMarkerIn m = true → extractMeta (injectMeta m (some s)) = some (m, none)) := by
  constructor
  · intro hne hm
    unfold injectMeta extractMeta
    simp only [hne, if_false]
    rw [splitOnce_append (by rw [marker, bs_ofList]; exact List.cons_ne_nil _ _) m (generate s) (by
      intro i hi
      unfold noEarlyMarker at hm
      have := (List.all_eq_true.mp hm) i (List.mem_range.mpr hi)
      simpa using this)]
    simp [parse_generate s hwf]
  · intro he hm
    unfold injectMeta extractMeta
    simp only [he, if_true]
    rw [splitOnce_absent marker m (by
      intro i hi
      unfold noMarkerIn at hm
      have := (List.all_eq_true.mp hm) i (List.mem_range.mpr hi)
      simpa using this)]

end BreezyVerif.C34
