import BreezyVerif.Lemmas.C03Gen
/-
C03 — the hypotheses of the copy theorems (closure, agreement, completeness) are
preserved by the copy of a search result; sequences of fetches, idempotence,
per-file history.
-/
namespace BreezyVerif.C03

open BreezyVerif.C33 (PMap parentsOf parentsL bfs Reach)

/-- the source's revision ids are distinct (it is a dictionary) -/
def distinctRevs (r : Repo) : Bool := decide (r.revs.map (·.1)).Nodup

theorem get_of_mem_nodup {α β : Type} [DecidableEq α] {l : List (α × β)} (hnd : (l.map (·.1)).Nodup)
    {k : α} {v : β} (h : (k, v) ∈ l) : get l k = some v := by
  induction l with
  | nil => cases h
  | cons x xs ih =>
    obtain ⟨k', v'⟩ := x
    simp only [List.map_cons, List.nodup_cons] at hnd
    simp only [get]
    rcases List.mem_cons.mp h with heq | hm
    · simp at heq; simp [heq.1, heq.2]
    · have hk : k' ≠ k := by
        intro e; subst e
        exact hnd.1 (List.mem_map.mpr ⟨(k', v), hm, rfl⟩)
      simp only [hk, if_false]
      exact ih hnd.2 hm

section Generic
variable {ext fg : Bool} {src tgt t' : Repo} {rev : Rev} {m : List Rev} {es : List Entry}

/-- closure is preserved: afterwards the target again holds every source-present parent of what it holds -/
theorem fetchWith_closed (hok : SearchOK fg src tgt rev m) (hd : distinctRevs src = true)
    (hc : closed tgt src = true) (h : fetchWithE ext src tgt m es = .ok t') : closed t' src = true := by
  refine closed_iff.mpr fun k rec hmem hk p hp hps => ?_
  have hget := get_of_mem_nodup (of_decide_eq_true hd) hmem
  have hcp := copied_fetchWith h
  rcases hcp.hasRev.mp hk with ht | ⟨hm, _⟩
  · exact hcp.monotone.hasRev (closed_parent hc hget ht hp hps)
  · exact hcp.holdsAnc (hok.covers (Or.inr hc)) p (parent_mem_anc (hok.sub k hm) hget hp hps)

/-- agreement is preserved: what the target holds afterwards under a key of the source is the source's -/
theorem fetchWith_agree (ha : agree src tgt = true) (h : fetchWithE ext src tgt m es = .ok t') :
    agree src t' = true := by
  obtain ⟨hr, hi, ht⟩ := fetchWith_mem h
  have key : ∀ {α β : Type} [DecidableEq α] [DecidableEq β] {a b b' : List (α × β)}, agreeOn a b = true →
      (∀ k v, (k, v) ∈ b' → (k, v) ∈ b ∨ get a k = some v) → agreeOn a b' = true :=
    fun hab hb' => agreeOn_iff.mpr fun k v hm v' hv' =>
      (hb' k v hm).elim (fun h1 => agreeOn_iff.mp hab k v h1 v' hv')
        fun h1 => Option.some.inj (hv'.symm.trans h1)
  unfold agree
  rw [key (agree_revs ha) fun k v hm => (hr k v hm).imp_right And.right,
    key (agree_invs ha) fun k v hm => (hi k v hm).imp_right And.left, key (agree_texts ha) ht]
  rfl

end Generic

theorem mem_kind_entries {s : StreamKind} {src : Repo} {m : List Rev} {e : Entry} (he : e ∈ s.entries src m) :
    ∃ k ∈ m, e ∈ invOrEmpty src k := by
  cases s with
  | filtered x =>
    simp only [StreamKind.entries, streamEntries, List.mem_filter, List.mem_flatMap] at he
    exact he.1
  | perRevision =>
    simp only [StreamKind.entries, streamEntriesP, List.mem_flatMap, List.mem_filter] at he
    obtain ⟨k, hk, hek, _⟩ := he
    exact ⟨k, hk, hek⟩

theorem streamable_of_complete {s : StreamKind} {src : Repo} (hcs : complete src = true) {m : List Rev}
    (hm : ∀ k ∈ m, hasRev src k = true) : streamableE src m (s.entries src m) = true := by
  unfold streamableE
  simp only [Bool.and_eq_true, List.all_eq_true]
  constructor
  · intro k hk
    obtain ⟨rec, hrec⟩ := (hasRev_iff ..).mp (hm k hk)
    obtain ⟨i, hi, _⟩ := complete_inv hcs hrec
    simp [hi]
  · intro e he
    obtain ⟨k, hk, hek⟩ := mem_kind_entries he
    obtain ⟨rec, hrec⟩ := (hasRev_iff ..).mp (hm k hk)
    obtain ⟨i, hi, htexts⟩ := complete_inv hcs hrec
    obtain ⟨i', hi', hei⟩ := mem_invOrEmpty hek
    rw [hi] at hi'
    cases hi'
    obtain ⟨c, hc⟩ := htexts e hei
    simp [hc]

/-- from a consistent source a fetch of a revision it has never raises -/
theorem fetchB_ok_of_complete {n : Nat} (hn : 0 < n) {s : StreamKind} {ext fg : Bool} {src tgt : Repo} {rev : Rev}
    (hcs : complete src = true) (hs : hasRev src rev = true) : ∃ t', fetchB n s ext fg src tgt rev = .ok t' := by
  have h2 := streamable_of_complete (s := s) (m := missingB n fg src tgt rev) hcs fun k hk =>
    ((mem_anc ..).mp (missingB_sub_anc hn hk)).2
  exact ⟨_, guard_iff.mpr ⟨Or.inl hs, by rw [fetchWithE, h2]; rfl⟩⟩

/-- what every target reachable by fetching from `src` satisfies -/
def SeqInv (src t : Repo) : Prop := closed t src = true ∧ agree src t = true ∧ complete t = true

theorem seqInv_empty (src : Repo) : SeqInv src emptyRepo :=
  ⟨closed_iff.mpr fun _ _ _ ht => (nomatch ht), rfl, complete_intro fun _ _ hm => (nomatch hm)⟩

theorem seqInv_fetchB {n : Nat} (hn : 0 < n) {s : StreamKind} {ext fg : Bool} {src t t' : Repo} {rev : Rev}
    (d : Rev → Nat) (hx : kindOK s d src = true) (hd : distinctRevs src = true)
    (hinv : SeqInv src t) (h : fetchB n s ext fg src t rev = .ok t') : SeqInv src t' := by
  obtain ⟨hc, ha, hcomp⟩ := hinv
  have hw := (fetchB_ok h).2
  exact ⟨fetchWith_closed (searchOK_missingB hn fg src t rev) hd hc hw, fetchWith_agree ha hw,
    (fetchB_copied h).consistent (streamOK_kind (covers_missingB hn (Or.inr hc) rev) ha hcomp d hx) ha hcomp⟩

/-- data of one revision as the source holds it, present in `t` -/
def HoldsFaithfully (src t : Repo) (k : Rev) : Prop :=
  get t.revs k = get src.revs k ∧ (get src.revs k).isSome = true ∧
  ∀ i, get src.invs k = some i → get t.invs k = some i ∧
    ∀ e ∈ i, ∃ c, get t.texts e.key = some c ∧ ∀ c', get src.texts e.key = some c' → c' = c

theorem holds_mono {src t t' : Repo} {k : Rev} (hm : Extends t t') (h : HoldsFaithfully src t k) :
    HoldsFaithfully src t' k := by
  obtain ⟨h1, h2, h3⟩ := h
  refine ⟨?_, h2, fun i hi => ?_⟩
  · obtain ⟨v, hs⟩ := Option.isSome_iff_exists.mp h2
    rw [hs] at h1 ⊢
    exact hm.1 k v h1
  · obtain ⟨hi', ht⟩ := h3 i hi
    refine ⟨hm.2.1 k i hi', fun e he => ?_⟩
    obtain ⟨c, hc, hc'⟩ := ht e he
    exact ⟨c, hm.2.2 _ c hc, hc'⟩

section Seq
variable {n : Nat} {x : StreamKind} {ext : Bool} {src : Repo}

/-- a failed fetch leaves the target as it was: what every successful fetch keeps, a sequence keeps -/
theorem fetchSeq_induction (P : Repo → Prop)
    (step : ∀ t t' rev fg, P t → fetchB n x ext fg src t rev = .ok t' → P t') :
    ∀ (ops : List (Rev × Bool)) (t : Repo), P t → P (fetchSeq n x ext src t ops) := by
  intro ops
  induction ops with
  | nil => exact fun t h => h
  | cons op rest ih =>
    intro t hP
    obtain ⟨rev, fg⟩ := op
    unfold fetchSeq
    cases hf : fetchB n x ext fg src t rev with
    | error e => exact ih t hP
    | ok t1 => exact ih t1 (step t t1 rev fg hP hf)

theorem fetchSeq_append (t : Repo) (a b : List (Rev × Bool)) :
    fetchSeq n x ext src t (a ++ b) = fetchSeq n x ext src (fetchSeq n x ext src t a) b := by
  induction a generalizing t with
  | nil => rfl
  | cons op a ih =>
    obtain ⟨rev, fg⟩ := op
    simp only [List.cons_append, fetchSeq]
    cases fetchB n x ext fg src t rev <;> exact ih _

theorem fetchSeq_monotone (ops : List (Rev × Bool)) (t : Repo) : Extends t (fetchSeq n x ext src t ops) :=
  fetchSeq_induction (Extends t) (fun _ _ _ _ he hf => he.trans (fetchB_copied hf).monotone) ops t
    ⟨fun _ _ h => h, fun _ _ h => h, fun _ _ h => h⟩

theorem fetchSeq_inv (hn : 0 < n) (d : Rev → Nat) (hx : kindOK x d src = true)
    (hd : distinctRevs src = true) (ops : List (Rev × Bool)) (t : Repo) (h : SeqInv src t) :
    SeqInv src (fetchSeq n x ext src t ops) :=
  fetchSeq_induction (SeqInv src) (fun _ _ _ _ hi hf => seqInv_fetchB hn d hx hd hi hf) ops t h

end Seq

/-- one successful fetch into a target satisfying the invariant gives faithful copies of the whole ancestry -/
theorem fetchB_holds {n : Nat} (hn : 0 < n) {x : StreamKind} {ext fg : Bool} {src t t' : Repo} {rev : Rev}
    (d : Rev → Nat) (hx : kindOK x d src = true)
    (hinv : SeqInv src t) (h : fetchB n x ext fg src t rev = .ok t') :
    ∀ k ∈ anc src rev, HoldsFaithfully src t' k := by
  obtain ⟨hc, ha, hcomp⟩ := hinv
  have hcv := covers_missingB hn (fg := fg) (Or.inr hc) rev
  have hcp := fetchB_copied h
  intro k hk
  obtain ⟨h1, h2⟩ := hcp.faithful ha hcomp k hk (hcp.holdsAnc hcv k hk)
  refine ⟨h1, ?_, fun i hi => ⟨h2 i hi, fun e he => ?_⟩⟩
  · have := ((mem_anc ..).mp hk).2
    simpa [hasRev] using this
  · exact hcp.texts_faithful hcv (streamOK_kind hcv ha hcomp d hx) ha hcomp k hk i hi e he

/-- after a sequence of fetches into a target satisfying the invariant, the ancestry of every
requested revision the source has is held faithfully: the fetch that asks for it succeeds and
copies it, the later fetches keep it -/
theorem fetchSeq_holds {n : Nat} (hn : 0 < n) {x : StreamKind} {ext : Bool} {src : Repo}
    (d : Rev → Nat) (hx : kindOK x d src = true) (hd : distinctRevs src = true)
    (hcs : complete src = true) (ops : List (Rev × Bool)) (t : Repo) (hinv : SeqInv src t)
    (op : Rev × Bool) (hop : op ∈ ops) (hs : hasRev src op.1 = true) (k : Rev) (hk : k ∈ anc src op.1) :
    HoldsFaithfully src (fetchSeq n x ext src t ops) k := by
  obtain ⟨pre, post, rfl⟩ := List.append_of_mem hop
  obtain ⟨rev, fg⟩ := op
  have hinv1 := fetchSeq_inv (x := x) (ext := ext) hn d hx hd pre t hinv
  obtain ⟨t2, h2⟩ := fetchB_ok_of_complete hn (s := x) (ext := ext) (fg := fg)
    (tgt := fetchSeq n x ext src t pre) hcs hs
  rw [fetchSeq_append, fetchSeq, h2]
  exact holds_mono (fetchSeq_monotone post t2) (fetchB_holds hn d hx hinv1 h2 k hk)

theorem kind_entries_nil (s : StreamKind) (src : Repo) : s.entries src [] = [] := by
  cases s <;> simp [StreamKind.entries, streamEntries, streamEntriesP]

theorem fetchWith_nil (ext : Bool) (src t : Repo) : fetchWithE ext src t [] [] = .ok t := by
  have h2 : streamableE src [] [] = true := by simp [streamableE]
  unfold fetchWithE
  simp only [h2, Bool.not_true, Bool.false_eq_true, if_false]
  cases ext
  · simp [copyE]
  · simp [copyE, withParentInvs, parentInvFill]

theorem fetchB_again {n : Nat} (hn : 0 < n) {x : StreamKind} {ext fg : Bool} {src tgt t' : Repo} {rev : Rev}
    (h : fetchB n x ext fg src tgt rev = .ok t')
    (hrev : hasRev src rev = true → hasRev t' rev = true) :
    missingB n fg src t' rev = [] ∧ fetchB n x ext fg src t' rev = .ok t' := by
  have hguard := (fetchB_ok h).1
  have hcp := fetchB_copied h
  have ht'rev : hasRev src rev = true ∨ hasRev t' rev = true := by
    rcases hguard with hs | ⟨_, ht⟩
    · exact Or.inl hs
    · exact Or.inr (hcp.monotone.hasRev ht)
  have hempty : missingB n fg src t' rev = [] := by
    cases hfg : fg
    · have : hasRev t' rev = true := by
        rcases ht'rev with hs | ht
        · exact hrev hs
        · exact ht
      exact missingB_nil_of_held hn this
    · subst hfg
      apply List.eq_nil_iff_forall_not_mem.mpr
      intro k hk
      have hka := missingB_sub_anc hn hk
      have hnt := missingB_not_in_target hn hk
      have := hcp.holdsAnc (covers_missingB hn (Or.inl rfl) rev) k hka
      rw [this] at hnt
      cases hnt
  refine ⟨hempty, guard_iff.mpr
    ⟨hguard.imp_right fun ⟨hfg, ht⟩ => ⟨hfg, hcp.monotone.hasRev ht⟩, ?_⟩⟩
  rw [hempty, kind_entries_nil]
  exact fetchWith_nil ext src t'

theorem reach_exists_start {g : PMap} {S : List Rev} {k : Rev} (h : Reach g [] S k) : ∃ s ∈ S, Reach g [] [s] k := by
  induction h with
  | base hk => exact ⟨_, hk, Reach.base (by simp)⟩
  | step _ hns hps hk ih =>
    obtain ⟨s, hs, hr⟩ := ih
    exact ⟨s, hs, Reach.step hr hns hps hk⟩

theorem reach_acyclic {d : Rev → Nat} {src : Repo} (hacyc : acyclicBy d src = true) {a b : Rev}
    (h : Reach (graph src) [] [a] b) : a = b ∨ d b < d a := by
  induction h with
  | base hk => simp at hk; exact Or.inl hk.symm
  | @step j k ps _ _ hps hk ih =>
    obtain ⟨rec, hrec, rfl⟩ := parentsOf_graph_some hps
    have hlt : d k < d j := acyclicBy_lt hacyc hrec hk
    rcases ih with h1 | h1
    · subst h1; exact Or.inr hlt
    · exact Or.inr (Nat.lt_trans hlt h1)

theorem fetchB_rev_arrives {n : Nat} (hn : 0 < n) {x : StreamKind} {ext fg : Bool} {src tgt t' : Repo} {rev : Rev}
    (d : Rev → Nat) (hacyc : acyclicBy d src = true)
    (h : fetchB n x ext fg src tgt rev = .ok t') (hs : hasRev src rev = true) : hasRev t' rev = true := by
  have hcp := fetchB_copied h
  have hra := rev_mem_anc hs
  rcases anc_casesB hn (fg := fg) (tgt := tgt) hra with h1 | ⟨_, h1⟩ | ⟨_, h1⟩
  · exact hcp.hasRev.mpr (Or.inr ⟨h1, hs⟩)
  · exact hcp.monotone.hasRev h1
  · obtain ⟨s, hsm, hr⟩ := reach_exists_start h1
    obtain ⟨hsa, hst⟩ := List.mem_filter.mp hsm
    have h2 := reach_acyclic hacyc ((mem_anc ..).mp hsa).1
    have h3 := reach_acyclic hacyc hr
    have : s = rev := by
      rcases h2 with h2 | h2
      · exact h2.symm
      · rcases h3 with h3 | h3
        · exact h3
        · exact absurd (Nat.lt_trans h2 h3) (Nat.lt_irrefl _)
    subst this
    exact hcp.monotone.hasRev hst

theorem textsHaveParents_get {r : RepoH} (h : textsHaveParents r = true) {k : TextKey} {c : Nat}
    (hk : get r.repo.texts k = some c) : ∃ v, get r.tpar k = some v := by
  unfold textsHaveParents at h
  have := List.all_eq_true.mp h (k, c) (get_mem hk)
  cases hg : get r.tpar k with
  | none => simp [hg] at this
  | some v => exact ⟨v, rfl⟩

theorem fetchWithH_ok {ext : Bool} {src tgt t' : RepoH} {m : List Rev} {es : List Entry}
    (h : fetchWithH ext src tgt m es = .ok t') :
    fetchWithE ext src.repo tgt.repo m es = .ok t'.repo ∧ t'.tpar = copyMap src.tpar tgt.tpar es := by
  unfold fetchWithH at h
  cases hf : fetchWithE ext src.repo tgt.repo m es with
  | error e => simp [hf] at h
  | ok t =>
    simp only [hf, Except.ok.injEq] at h
    subst h
    exact ⟨rfl, rfl⟩

theorem fetchWithH_perfile {ext : Bool} {src tgt t' : RepoH} {rev : Rev} {m : List Rev} {es : List Entry}
    (hcv : Covers src.repo tgt.repo rev m) (hso : StreamOK src.repo tgt.repo m es)
    (ha : agree src.repo tgt.repo = true) (hcomp : complete tgt.repo = true)
    (hap : agreeOn src.tpar tgt.tpar = true) (htp : textsHaveParents tgt = true) (hsp : textsHaveParents src = true)
    (h : fetchWithH ext src tgt m es = .ok t') (k : Rev) (hk : k ∈ anc src.repo rev)
    (i : Inv) (hi : get src.repo.invs k = some i) (e : Entry) (he : e ∈ i) :
    ∃ ps, get t'.tpar e.key = some ps ∧ ∀ ps', get src.tpar e.key = some ps' → ps' = ps := by
  obtain ⟨hw, htp'⟩ := fetchWithH_ok h
  rw [htp']
  exact entry_valueG hap (fun k c hk => textsHaveParents_get htp hk)
    (fun e he => by
      obtain ⟨c, hc⟩ := streamableE_text (fetchWithE_ok hw).1 he
      exact textsHaveParents_get hsp hc) (streamOK_anc hcv hso ha hcomp hk hi he)

end BreezyVerif.C03
