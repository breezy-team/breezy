import BreezyVerif.Lemmas.C11
/-! C11 — lemmas: in a git tree the flags of directory entries play no role. -/
namespace BreezyVerif.C11
open BreezyVerif.C46 Forest

variable {c : Cfg} {pre pre' : Pre}

@[simp] theorem eraseDirI_name (i : Info) : (eraseDirI i).name = i.name := by
  unfold eraseDirI; split <;> rfl
@[simp] theorem eraseDirI_kind (i : Info) : (eraseDirI i).kind = i.kind := by
  unfold eraseDirI; split <;> rfl
@[simp] theorem eraseDirI_ignored (i : Info) : (eraseDirI i).ignored = i.ignored := by
  unfold eraseDirI; split <;> rfl
@[simp] theorem eraseDirI_helper (i : Info) : (eraseDirI i).helper = i.helper := by
  unfold eraseDirI; split <;> rfl
@[simp] theorem eraseDirI_valid (i : Info) : (eraseDirI i).valid = i.valid := by
  unfold eraseDirI; split <;> rfl

theorem eraseDirV_hasCtl (f : Forest) : hasCtl (eraseDirV f) = hasCtl f := by
  induction f with
  | nil => rfl
  | cons i kids rest _ ih2 => simp [eraseDirV, hasCtl, ih2]

theorem eraseDirV_get (f : Forest) (q : Path) :
    (eraseDirV f).get q = (f.get q).map fun x => (eraseDirI x.1, eraseDirV x.2) := by
  induction f, q using Forest.get.induct with
  | case1 | case2 | case3 => simp [eraseDirV, Forest.get]
  | case4 j kids rest a b ih => simpa [eraseDirV, Forest.get] using ih
  | case5 j kids rest n q e ih => simpa [eraseDirV, Forest.get, e] using ih

theorem eraseDirV_get_kind (f : Forest) (q : Path) :
    ((eraseDirV f).get q).map (fun x => x.1.kind) = (f.get q).map (fun x => x.1.kind) := by
  rw [eraseDirV_get]
  cases f.get q <;> simp

/-- git: whether an entry is visited depends neither on flags nor on phase 1 nor on its content -/
theorem visited_git (hf : c.fmt = .git) (p : Path) (m : Mode) (i : Info) (k : Forest) (x : Bool) :
    visited c pre p m i k x = (m == .walk && (!(p.head? == some ".git") && !i.ignored) || sched c pre.ud p i) := by
  have hg : (Fmt.git == Fmt.bzr) = false := rfl
  simp only [visited, listed, namedTreeRef, hf, hg, Bool.false_and, Bool.not_false, Bool.and_true]

/-- git: `step` does not look at the conversions of phase 1 -/
theorem step_git_pre (hf : c.fmt = .git) (hu : pre'.ud = pre.ud) (p : Path) (m : Mode) (i : Info) (k : Forest) :
    step c pre' p m i k = step c pre p m i k := by
  simp only [step, visited_git hf, hu]

theorem pass_git_pre (hf : c.fmt = .git) (hu : pre'.ud = pre.ud) (here : Path) (m : Mode) (f : Forest) :
    pass c pre' here m f = pass c pre here m f := by
  induction f generalizing here m with
  | nil => rfl
  | cons i kids rest ih1 ih2 => simp only [pass, step_git_pre hf hu, ih1, ih2]

/-- git: one entry — erasing the directory flag commutes with `step` -/
theorem step_git_erase (hf : c.fmt = .git) (p : Path) (m : Mode) (i : Info) (k : Forest) :
    ({ eraseDirI i with versioned := (step c pre p m (eraseDirI i) (eraseDirV k)).1 } : Info)
        = eraseDirI { i with versioned := (step c pre p m i k).1 } ∧
      (step c pre p m (eraseDirI i) (eraseDirV k)).2 = (step c pre p m i k).2 := by
  have ha : adds c p (eraseDirI i) (eraseDirV k) = adds c p i k := by
    simp only [adds, hf, eraseDirI_kind, eraseDirI_helper]
  have ho : opens c p (eraseDirI i) (eraseDirV k) = opens c p i k := by
    simp only [opens, passedOver, eraseDirV_hasCtl, eraseDirI_kind, eraseDirI_helper]
  rw [step_snd, step_snd, step_fst, step_fst, ha, ho]
  simp only [visited_git hf, sched, eraseDirI_kind, eraseDirI_ignored, and_true]
  -- a directory is not on a named path and a visit adds nothing to it
  cases hk : i.kind == .dir <;> simp [eraseDirI, hk, onPath, adds, hf, bne]

theorem pass_git_erase (hf : c.fmt = .git) (here : Path) (m : Mode) (f : Forest) :
    pass c pre here m (eraseDirV f) = eraseDirV (pass c pre here m f) := by
  induction f generalizing here m with
  | nil => rfl
  | cons i kids rest ih1 ih2 =>
    have hs := step_git_erase (c := c) (pre := pre) hf (here ++ [i.name]) m i kids
    simp only [pass, eraseDirV]
    congr 1
    · simpa only [eraseDirI_name] using hs.1
    · rw [eraseDirI_name, hs.2, ih1]
    · exact ih2 _ _

end BreezyVerif.C11
