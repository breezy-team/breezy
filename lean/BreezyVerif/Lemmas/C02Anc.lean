import BreezyVerif.Lemmas.C02Check
/-
C02: revision ancestry (`ranc`) is transitive and irreflexive on repositories
built from well-formed histories (ghost parents allowed); per-file ancestry
(`fanc`) is contained in it.
-/
namespace BreezyVerif.C02

/-- the revision graph of a repository as an association list, newest first -/
def graphOf (st : State) : List (Rev × List Rev) := st.map fun r => (r.id, r.parents)

theorem ranc_eq (st : State) (x : Rev) : ranc st x = Lib.sanc id (graphOf st) x := by
  induction st generalizing x with
  | nil => rfl
  | cons r st ih => simp only [ranc, graphOf, List.map_cons, Lib.sanc, ih, id]

theorem mem_mentioned_graphOf {st : State} {x : Rev} :
    x ∈ Lib.mentioned id (graphOf st) ↔ x ∈ mentioned st := by
  simp only [Lib.mentioned, graphOf, mentioned, ids, List.flatMap_map, List.mem_flatMap, List.mem_map,
    List.mem_append, List.mem_cons, List.map_id, and_or_left, exists_or, eq_comm]

/-- ids are taken in order: a revision's id is not recorded, not named as a
parent by an older revision, and not its own parent -/
def Fresh (st : State) : Prop := Lib.Fresh id (graphOf st)

theorem build_Fresh : ∀ (h : List Commit), hist h → Fresh (build h)
  | [], _ => trivial
  | _ :: older, hh =>
    ⟨by simpa [mkRec] using hh.2.2.1, fun h => hh.2.1 (mem_mentioned_graphOf.mp h), build_Fresh older hh.1⟩

theorem ranc_mem_mentioned {st : State} {x y : Rev} (h : y ∈ ranc st x) : y ∈ mentioned st :=
  mem_mentioned_graphOf.mp (Lib.sanc_mentioned (ranc_eq st x ▸ h))

theorem ranc_trans {st : State} (hf : Fresh st) {x y z : Rev}
    (hx : x ∈ ranc st z) (hy : y ∈ ranc st x) : y ∈ ranc st z := by
  rw [ranc_eq] at *
  exact Lib.sanc_trans hf hx hy

theorem ranc_irrefl {st : State} (hf : Fresh st) (x : Rev) : x ∉ ranc st x :=
  ranc_eq st x ▸ Lib.sanc_irrefl hf x

/-- a parent of a recorded revision, and every ancestor of that parent, is an
ancestor of the revision -/
theorem ranc_of_parent {st : State} (hf : Fresh st) {r : Rec} (hr : r ∈ st) {q : Rev}
    (hq : q ∈ r.parents) : q ∈ ranc st r.id ∧ ∀ y ∈ ranc st q, y ∈ ranc st r.id := by
  simp only [ranc_eq]
  exact Lib.sanc_of_parent hf (List.mem_map_of_mem (f := fun r => (r.id, r.parents)) hr) hq

/-- every stored per-file parent edge is a revision-ancestry edge -/
theorem text_edge_ranc (h : List Commit) (hh : hist h) :
    ∀ k ps, (k, ps) ∈ textsOf (build h) → ∀ p ∈ ps, p ∈ ranc (build h) k.2 := by
  intro k ps hk p hp
  have w := build_WF h hh
  have hf := build_Fresh h hh
  obtain ⟨r, hr, hid, ht⟩ := textsOf_mem hk
  have hps := parents_heads_build h hh r hr (k.1, ps) ht
  simp only at hps
  rw [hps] at hp
  obtain ⟨q, hq, e, he, hrev⟩ := candidates_entry (heads_subset hp)
  obtain ⟨r', hr', hid', hl⟩ := entryIn_mem he
  obtain ⟨hq1, hq2⟩ := ranc_of_parent hf hr hq
  rw [← hid]
  rcases w.anc r' hr' k.1 e hl with h1 | h1
  · rw [← hrev, h1, hid']; exact hq1
  · rw [← hrev]; exact hq2 _ (hid' ▸ h1)

/-- per-file ancestry is contained in revision ancestry: the latter is transitive and contains
every stored per-file edge -/
theorem fanc_sub_ranc_build (h : List Commit) (hh : hist h) (f : FileId) (x y : Rev)
    (hy : y ∈ fanc (textsOf (build h)) f x) : y ∈ ranc (build h) x := by
  rw [fanc_eq_sanc] at hy
  exact Lib.sanc_induct (mk := fun p => (f, p)) (fun k y => y ∈ ranc (build h) k.2)
    (fun _ _ _ => ranc_trans (build_Fresh h hh)) (fun e => text_edge_ranc h hh e.1 e.2) hy

end BreezyVerif.C02
