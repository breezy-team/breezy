import BreezyVerif.Model.C33
import BreezyVerif.Lemmas.Lib.Split
import BreezyVerif.Lemmas.Lib.Decimal
/-!
C33 — wire-form lemmas: `split`/`join` and decimal round trips.
-/
namespace BreezyVerif.C33

theorem split_eq (sep : UInt8) (b : Bytes) : split sep b = b.splitOn sep := by
  induction b with
  | nil => rfl
  | cons c cs ih =>
    obtain ⟨f, fs, h, h'⟩ := Lib.splitOn_cons sep c cs
    obtain ⟨h1, h2⟩ := List.cons.inj (ih.trans h)
    rw [h', split, splitAux]
    by_cases hc : c = sep <;> simp [hc, h1, h2]

theorem join_eq (sep : UInt8) : ∀ l : List Bytes, join sep l = [sep].intercalate l
  | [] => rfl
  | [x] => by simp [join]
  | x :: y :: rest => by simp [join, join_eq sep (y :: rest)]

theorem split_no_sep {sep : UInt8} {b : Bytes} (h : sep ∉ b) : split sep b = [b] := by
  rw [split_eq, Lib.splitOn_of_not_mem h]

theorem split_append_sep {sep : UInt8} {a : Bytes} (h : sep ∉ a) (rest : Bytes) :
    split sep (a ++ sep :: rest) = a :: split sep rest := by
  rw [split_eq, split_eq, Lib.splitOn_append_cons_of_not_mem h]

/-- `sep.join(l).split(sep) == l` for a non-empty list of fields free of `sep` -/
theorem split_join_ne (sep : UInt8) (l : List Bytes) (hne : l ≠ []) (h : ∀ x ∈ l, sep ∉ x) :
    split sep (join sep l) = l := by
  rw [split_eq, join_eq, Lib.splitOn_intercalate sep h hne]

theorem mem_join {sep c : UInt8} {l : List Bytes} (hc : c ∈ join sep l) :
    c = sep ∨ ∃ x ∈ l, c ∈ x :=
  Lib.mem_intercalate (join_eq sep l ▸ hc)

theorem toDecAux_eq {fuel n : Nat} (h : n < fuel) (acc : Bytes) :
    toDecAux fuel n acc = Lib.digits digit 10 n ++ acc := by
  induction fuel generalizing n acc with
  | zero => exact absurd h (Nat.not_lt_zero n)
  | succ fuel ih =>
    rw [toDecAux, Lib.digits]
    by_cases h10 : n < 10
    · rw [if_pos h10, if_pos (.inl h10)]; rfl
    · rw [if_neg h10, if_neg (not_or.2 ⟨h10, by decide⟩), ih (Lib.div_lt_fuel h (by decide) h10), List.append_assoc]; rfl

theorem toDec_eq (n : Nat) : toDec n = Lib.digits digit 10 n := by
  rw [toDec, toDecAux_eq (Nat.lt_succ_self n), List.append_nil]

theorem foldl_parseDecStep_none (s : Bytes) : s.foldl parseDecStep none = none := by
  induction s with
  | nil => rfl
  | cons c cs ih => exact ih

/-- `parseDec` is Horner's rule with `parseDecStep (some 0)` reading one digit -/
theorem foldl_parseDecStep (a : Nat) (s : Bytes) :
    s.foldl parseDecStep (some a) = Lib.value (parseDecStep (some 0)) 10 a s := by
  induction s generalizing a with
  | nil => rfl
  | cons c cs ih =>
    rw [List.foldl_cons, Lib.value, parseDecStep, parseDecStep]
    split
    · rw [ih, Option.bind_some, Nat.zero_mul, Nat.zero_add]
    · exact foldl_parseDecStep_none cs

theorem digit_toNat {n : Nat} (h : n < 10) : (digit n).toNat = 48 + n := by
  unfold digit
  rw [UInt8.toNat_ofNat']
  exact Nat.mod_eq_of_lt (Nat.lt_of_lt_of_le (Nat.add_lt_add_left h 48) (by decide))

theorem parseDecStep_digit (a n : Nat) (h : n < 10) :
    parseDecStep (some a) (digit n) = some (a * 10 + n) := by
  rw [parseDecStep, digit_toNat h, if_pos ⟨Nat.le_add_right _ _, Nat.le_of_lt_succ (Nat.add_lt_add_left h 48)⟩,
    Nat.add_sub_cancel_left]

theorem toDec_ne_nil (n : Nat) : toDec n ≠ [] :=
  toDec_eq n ▸ Lib.digits_ne_nil digit 10 n

theorem parseDec_toDec (n : Nat) : parseDec (toDec n) = some n := by
  rw [parseDec, if_neg (by simpa using toDec_ne_nil n), foldl_parseDecStep, toDec_eq]
  exact Lib.value_digits (by decide) (fun d hd => by rw [parseDecStep_digit 0 d hd, Nat.zero_mul, Nat.zero_add]) n

/-- a decimal numeral consists of the bytes `'0'`–`'9'` -/
theorem not_mem_toDec_of_lt {c : UInt8} (hc : c.toNat < 48) (n : Nat) : c ∉ toDec n := by
  intro h
  obtain ⟨m, hm, rfl⟩ := Lib.mem_digits (by decide) (toDec_eq n ▸ h)
  rw [digit_toNat hm] at hc
  exact absurd hc (Nat.not_lt.mpr (Nat.le_add_right 48 m))

theorem nl_not_mem_toDec (n : Nat) : NL ∉ toDec n := not_mem_toDec_of_lt (by decide) n

theorem sp_not_mem_toDec (n : Nat) : SP ∉ toDec n := not_mem_toDec_of_lt (by decide) n

end BreezyVerif.C33
