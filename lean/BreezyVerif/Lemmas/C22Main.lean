import BreezyVerif.Lemmas.C22Branch
/-!
C22 — the mainline of `mergeSort`: the left-hand history of the tip is numbered
(1), (2), … and nothing else gets a one-component revno.
-/
namespace BreezyVerif.C22

theorem getLast?_append_of_ne_nil {α : Type} (A : List α) {B : List α} (h : B ≠ []) :
    (A ++ B).getLast? = B.getLast? := by
  rw [List.getLast?_append, List.getLast?_eq_some_getLast h, Option.some_or]

/-- no left-most ghost on the chain: a chain node without a present left parent has no parents at all -/
def ChainClean (g : Graph) (chain : List Nat) : Prop := ∀ x ∈ chain, lpOf g x = none → parentsD g x = []

theorem lefthand_eq_cons (g : Graph) {fuel n : Nat} (hf : n < fuel) (hn : n < g.length) :
    ∃ t, lefthand g fuel n = n :: t := by
  cases fuel with
  | zero => omega
  | succ f =>
    rw [lefthand_succ, List.getElem?_eq_getElem hn]
    exact ⟨_, rfl⟩

/-- from a state in which nothing is completed, the left-hand chain of the first node is walked first: all its
nodes carry the first-child flag and its end is the first node completed -/
theorem Walks.chain {g : Graph} (hw : WF g) {d : Nat} {qs : List Nat} {st st' : Dfs} (h : Walks g d qs st st') :
    st.done = [] → ∀ n rest fuel, qs = n :: rest → n < fuel → ChainClean g (lefthand g fuel n) →
    (∀ x ∈ (lefthand g fuel n).tail, x ∉ st.seen) →
    (∀ x ∈ lefthand g fuel n, ∃ dd, (x, dd, true) ∈ st'.done) ∧
      st'.done.getLast?.map (·.1) = (lefthand g fuel n).getLast? := by
  induction h with
  | nil => intro _ n rest fuel h; cases h
  | skip hq _ _ => intro hd; rw [doneSet, hd] at hq; cases hq
  | @node d q qs ps st s1 s2 st' hnd hg w1 w2 w3 ih1 _ _ =>
    intro hd n rest fuel hqs hnf hclean hseen
    cases hqs
    obtain ⟨fuel, rfl⟩ : ∃ k, fuel = k + 1 := ⟨fuel - 1, by omega⟩
    obtain ⟨n2, h2⟩ := w2.done_suffix
    obtain ⟨n3, h3⟩ := w3.done_suffix
    simp only [lefthand_succ, hg] at hclean hseen ⊢
    have hlp : lpOf g q = leftParent g ps := by unfold lpOf; rw [hg]
    cases hl : leftParent g ps with
    | none =>
      rw [hl] at w1 hclean
      have hps : ps = [] := by
        rw [← parentsD_of_get hg]; exact hclean q (List.mem_cons_self ..) (hlp.trans hl)
      cases w1
      subst hps
      cases w2
      simp only [hd] at h3
      refine ⟨fun x hx => ⟨d, ?_⟩, ?_⟩
      · rw [List.mem_singleton.mp hx, h3, hl]; exact List.mem_append_right _ (List.mem_cons_self ..)
      · rw [h3, getLast?_append_of_ne_nil n3 (List.cons_ne_nil _ _)]; rfl
    | some l =>
      rw [hl] at w1 ih1
      simp only [hl, List.tail_cons] at hclean hseen
      have hlm := leftParent_mem hl
      have hlf : l < fuel := by rcases hw q _ hg l hlm.1 with h | h <;> omega
      obtain ⟨t, ht⟩ := lefthand_eq_cons g hlf hlm.2
      have hlseen : l ∉ st.seen := hseen l (by rw [ht]; exact List.mem_cons_self ..)
      obtain ⟨hflags, hlast⟩ := ih1 hd l [] fuel rfl hlf (fun x hx => hclean x (List.mem_cons_of_mem _ hx))
        (fun x hx hmem => by
          rcases List.mem_cons.mp hmem with hxl | hxs
          · -- the chain is strictly decreasing
            have hpw := lefthand_pairwise hw fuel l
            rw [ht] at hx hpw
            have := (List.pairwise_cons.mp hpw).1 x hx
            omega
          · exact hseen x (List.mem_of_mem_tail hx) hxs)
      have hs1 : s1.done ≠ [] := by
        obtain ⟨dd, hdd⟩ := hflags l (by rw [ht]; exact List.mem_cons_self ..)
        exact List.ne_nil_of_mem hdd
      simp only at h3 ⊢
      refine ⟨fun x hx => ?_, ?_⟩
      · rcases List.mem_cons.mp hx with rfl | hx
        · exact ⟨d, by rw [h3]; simp [hl, hlseen]⟩
        · obtain ⟨dd, hdd⟩ := hflags x hx
          exact ⟨dd, by rw [h3, h2]; simp [hdd]⟩
      · rw [ht, List.getLast?_cons_of_ne_nil (List.cons_ne_nil l t), ← ht, ← hlast, h3, h2,
          getLast?_append_of_ne_nil n3 (List.cons_ne_nil _ _),
          List.getLast?_cons_of_ne_nil (by simp [hs1] : n2 ++ s1.done ≠ []), getLast?_append_of_ne_nil n2 hs1]

/-- the oldest node of the left-hand chain has no present left parent -/
theorem lefthand_last_root {g : Graph} (hw : WF g) : ∀ (fuel n c : Nat), n < fuel → n < g.length →
    (lefthand g fuel n).getLast? = some c → lpOf g c = none := by
  intro fuel
  induction fuel with
  | zero => intro n c h; omega
  | succ fuel ih =>
    intro n c hnf hnl hlast
    have hg : g[n]? = some g[n] := List.getElem?_eq_getElem hnl
    rw [lefthand_succ, hg] at hlast
    simp only at hlast
    cases hl : leftParent g g[n] with
    | none =>
      rw [hl] at hlast
      simp only [List.getLast?_singleton, Option.some.injEq] at hlast
      subst hlast
      unfold lpOf; rw [hg]; exact hl
    | some l =>
      simp only [hl] at hlast
      have hlm := leftParent_mem hl
      have hlf : l < fuel := by rcases hw n _ hg l hlm.1 with h | h <;> omega
      obtain ⟨t, ht⟩ := lefthand_eq_cons g hlf hlm.2
      rw [List.getLast?_cons_of_ne_nil (by rw [ht]; exact List.cons_ne_nil _ _)] at hlast
      exact ih l c hlf hlm.2 hlast

theorem reverse_getElem?_succ {α : Type} {l : List α} {i : Nat} {a c : α} (ha : l.reverse[i]? = some a)
    (hc : l.reverse[i + 1]? = some c) : ∃ j, l[j]? = some c ∧ l[j + 1]? = some a := by
  have hlt : i + 1 < l.length := by
    have := (List.getElem?_eq_some_iff.mp hc).1
    rwa [List.length_reverse] at this
  rw [List.getElem?_reverse (by omega)] at ha
  rw [List.getElem?_reverse hlt] at hc
  refine ⟨l.length - 1 - (i + 1), hc, ?_⟩
  rw [← ha]
  congr 1
  omega

theorem reverse_getElem?_last {α : Type} {l : List α} {i : Nat} {a : α} (ha : l.reverse[i]? = some a)
    (hn : l.reverse[i + 1]? = none) : l.head? = some a := by
  have h1 : i < l.length := by
    have := (List.getElem?_eq_some_iff.mp ha).1
    rwa [List.length_reverse] at this
  have h2 : l.length ≤ i + 1 := by
    have := List.getElem?_eq_none_iff.mp hn
    rwa [List.length_reverse] at this
  rw [List.getElem?_reverse h1] at ha
  rw [List.head?_eq_getElem?, ← ha]
  congr 1
  omega

/-- consecutive mainline revisions (oldest first) are left-hand parent and child -/
theorem mainline_next (b : Branch) {n p r : Nat} (hp : b.history.reverse[n]? = some p)
    (hr : b.history.reverse[n + 1]? = some r) : lpOf b.g r = some p := by
  obtain ⟨j, hj, hj'⟩ := reverse_getElem?_succ hp hr
  exact history_next b j r p hj hj'

/-- `get_rev_id(n - 1)` is the left-hand parent of `get_rev_id(n)` (n ≥ 2) -/
theorem getRevId_pred (b : Branch) (n : Nat) (r : Nat) (h1 : 2 ≤ n) (h : b.getRevId n = .ok (.rev r)) :
    ∃ p, lpOf b.g r = some p ∧ b.getRevId ((n : Int) - 1) = .ok (.rev p) := by
  obtain ⟨m, hm, hr⟩ := (getRevId_iff b n r).mp h
  obtain ⟨m, rfl⟩ : ∃ k, m = k + 1 := ⟨m - 1, by omega⟩
  have hlt : m < b.history.reverse.length := Nat.lt_of_succ_lt (List.getElem?_eq_some_iff.mp hr).1
  exact ⟨_, mainline_next b (List.getElem?_eq_getElem hlt) hr,
    (getRevId_iff b _ _).mpr ⟨m, by omega, List.getElem?_eq_getElem hlt⟩⟩

/-- **the mainline of `mergeSort`**: the i-th revision of the left-hand chain (oldest first) is
numbered (i+1), and every one-component revno belongs to the chain -/
theorem mainline_spec (g : Graph) (hw : WF g) (tip : Nat) (htip : tip < g.length)
    (hclean : ChainClean g (lefthand g (tip + 1) tip)) :
    ∃ ms, mergeSort g tip = some ms ∧
      (∀ i x, (lefthand g (tip + 1) tip).reverse[i]? = some x → (x, [i + 1]) ∈ ms.map fun e => (e.rev, e.revno)) ∧
      (∀ k x, (x, [k]) ∈ (ms.map fun e => (e.rev, e.revno)) →
        1 ≤ k ∧ (lefthand g (tip + 1) tip).reverse[k - 1]? = some x) := by
  obtain ⟨st, out, stF, w, hinv, hcov, _, _, _, _, hF, hm, hms⟩ := mergeSort_spec g hw tip htip
  obtain ⟨hflags, hlast⟩ := w.chain hw rfl tip [] (tip + 1) rfl (Nat.lt_succ_self _) hclean
    (fun _ _ h => by cases h)
  refine ⟨_, hms, ?_⟩
  rw [hm]
  obtain ⟨t, ht⟩ := lefthand_eq_cons g (Nat.lt_succ_self tip) htip
  have hnx := lefthand_next g (tip + 1) tip
  generalize lefthand g (tip + 1) tip = L at hflags hlast ht hnx ⊢
  have hkeysF : (stF.revnos.map (·.1)).Nodup := by
    rw [hF.keys]; exact (List.reverse_perm _).nodup_iff.mpr (sched_of_inv hinv).nodup
  have hval : ∀ {x r r'}, (x, r) ∈ stF.revnos → (x, r') ∈ stF.revnos → r = r' := fun h1 h2 =>
    Option.some.inj ((lookup_of_mem _ _ _ hkeysF h1).symm.trans (lookup_of_mem _ _ _ hkeysF h2))
  -- the root of the chain is completed first, hence numbered (1)
  obtain ⟨c, hc0, hc1⟩ : ∃ c, L.reverse[0]? = some c ∧ (c, [1]) ∈ stF.revnos := by
    rw [← List.head?_eq_getElem?, List.head?_reverse, ← hlast]
    cases hdl : st.done.getLast? with
    | none => rw [hdl, ht, List.getLast?_cons] at hlast; cases hlast
    | some e0 => exact ⟨e0.1, rfl, hF.root1 e0 (by rw [List.head?_reverse]; exact hdl)⟩
  -- a chain node carries the first-child flag, so it continues its left parent's revno
  have hnext : ∀ {P y pr}, y ∈ L → lpOf g y = some P → (P, pr) ∈ stF.revnos →
      ∃ k, pr.getLast? = some k ∧ (y, pr.dropLast ++ [k + 1]) ∈ stF.revnos := by
    intro P y pr hy hP hPm
    obtain ⟨dd, hdd⟩ := hflags y hy
    obtain ⟨pr', k, h1, h2, h3⟩ := hF.fcr (y, dd, true) (List.mem_reverse.mpr hdd) rfl P hP
    cases hval h1 hPm
    exact ⟨k, h2, h3⟩
  refine ⟨?_, ?_⟩
  · -- the chain is numbered 1, 2, …
    intro i
    induction i with
    | zero =>
      intro x hx
      cases hc0.symm.trans hx
      exact hc1
    | succ i ih =>
      intro y hy
      obtain ⟨x, hx⟩ : ∃ x, L.reverse[i]? = some x :=
        ⟨_, List.getElem?_eq_getElem (Nat.lt_of_succ_lt (List.getElem?_eq_some_iff.mp hy).1)⟩
      obtain ⟨j, hjy, hjx⟩ := reverse_getElem?_succ hx hy
      obtain ⟨k, hk, hmem⟩ := hnext (List.mem_of_getElem? hjy) (hnx _ _ _ hjy hjx) (ih x hx)
      cases hk
      exact hmem
  · -- a one-component revno belongs to the chain
    intro k
    induction k using Nat.strongRecOn with
    | _ k ih =>
      intro x hxk
      have hk1 : 1 ≤ k := by
        rcases hF.shape x [k] hxk with ⟨k', hr, hk'⟩ | ⟨b, c', k', hr, _⟩
        · cases hr; exact hk'
        · cases hr
      refine ⟨hk1, ?_⟩
      rcases Nat.lt_or_ge k 2 with hk2 | hk2
      · obtain rfl : k = 1 := by omega
        cases hF.inj x [1] c hxk hc1
        exact hc0
      · -- k ≥ 2: x is the first child of the node numbered (k - 1)
        obtain ⟨m, rfl⟩ : ∃ m, k = m + 2 := ⟨k - 2, by omega⟩
        obtain ⟨e, he, hex, hef, P, pr, j, hP, hPm, hj, hr⟩ := hF.prov x [m + 2] (m + 2) hxk rfl hk2
        obtain ⟨ys, rfl⟩ := List.getLast?_eq_some_iff.mp hj
        rw [List.dropLast_concat] at hr
        obtain ⟨rfl, hj1⟩ := List.append_inj' (s₁ := []) hr rfl
        obtain rfl : j = m + 1 := by cases hj1; rfl
        obtain ⟨_, hPch⟩ := ih (m + 1) (Nat.lt_succ_self _) P hPm
        show L.reverse[m + 1]? = some x
        cases hy : L.reverse[m + 1]? with
        | some y =>
          -- y is the chain's first child of P as well
          obtain ⟨i, hiy, hiP⟩ := reverse_getElem?_succ hPch hy
          obtain ⟨dd, hdd⟩ := hflags y (List.mem_of_getElem? hiy)
          have := hinv.fcu e (List.mem_reverse.mp he) (y, dd, true) hdd hef rfl P (by rw [hex]; exact hP)
            (hnx _ _ _ hiy hiP)
          rw [hex] at this
          exact congrArg some this.symm
        | none =>
          -- P is the tip: x would be a child of the tip inside the tip's ancestry
          exfalso
          have hPt := reverse_getElem?_last hPch hy
          rw [ht] at hPt
          cases hPt
          have hxin : x ∈ doneSet st := List.mem_map.mpr ⟨e, List.mem_reverse.mp he, hex⟩
          have hreach := (hcov x).mp hxin
          have hxle := Reach.le hw hreach
          obtain ⟨ps, hgx⟩ : ∃ ps, g[x]? = some ps := ⟨_, List.getElem?_eq_getElem hreach.present⟩
          unfold lpOf at hP
          rw [hgx] at hP
          rcases hw x _ hgx tip (leftParent_mem hP).1 with h | h <;> omega

end BreezyVerif.C22
