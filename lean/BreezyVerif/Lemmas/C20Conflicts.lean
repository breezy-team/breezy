import BreezyVerif.Lemmas.C20
/-! C20 — helper lemmas: conflict ↔ stanza.

Every well-formed conflict is written as one uniform stanza (`Conflict.stanza`:
the attributes that are present, in a fixed order); the factory reads each
attribute back because the six tags are distinct. -/
namespace BreezyVerif.C20

theorem ctype_mem_all (ct : CType) : ct ∈ CType.all := by
  cases ct <;> simp [CType.all]

theorem typestring_table :
    ∀ ct ∈ CType.all, CType.ofString ct.typestring = some ct ∧ crSafe ct.typestring := by
  decide +kernel

theorem ofString_typestring (ct : CType) : CType.ofString ct.typestring = some ct :=
  (typestring_table ct (ctype_mem_all ct)).1

theorem typestring_crSafe (ct : CType) : crSafe ct.typestring :=
  (typestring_table ct (ctype_mem_all ct)).2

theorem tags_valid : validTag tPath = true ∧ validTag tType = true ∧ validTag tFileId = true
    ∧ validTag tConflictPath = true ∧ validTag tAction = true ∧ validTag tConflictFileId = true
    ∧ validTag tHash = true := by decide

theorem sget_append (a b : Stanza) (t : Str) : sget (a ++ b) t = (sget b t).or (sget a t) := by
  unfold sget
  rw [List.reverse_append, List.find?_append]
  cases List.find? (fun p => p.1 == t) b.reverse <;> rfl

theorem sget_optPair (t' : Str) (o : Option Str) (t : Str) :
    sget (optPair t' o) t = if t' = t then o else none := by
  cases o with
  | none => simp [optPair, sget]
  | some v => by_cases h : t' = t <;> simp [optPair, sget, h]

theorem all_optPair (q : Str × Str → Bool) (t : Str) (o : Option Str) (h : ∀ v, q (t, v) = true) :
    (optPair t o).all q = true := by
  cases o <;> simp [optPair, h]

def optSafe : Option Str → Prop
  | none => True
  | some v => crSafe v

instance (o : Option Str) : Decidable (optSafe o) := by
  cases o <;> unfold optSafe <;> infer_instance

theorem optPair_ok (t : Str) (o : Option Str) (ht : validTag t = true) (ho : optSafe o) :
    ∀ p ∈ optPair t o, validTag p.1 = true ∧ crSafe p.2 := by
  cases o with
  | none => simp [optPair]
  | some v => simpa [optPair] using ⟨ht, ho⟩

/-- what `as_stanza` writes for a well-formed conflict of any class: the attributes present, in this order -/
def Conflict.stanza (c : Conflict) : Stanza :=
  optPair tPath (some c.path) ++ optPair tType (some c.ctype.typestring) ++ optPair tFileId c.fileId
    ++ optPair tAction c.action ++ optPair tConflictPath c.conflictPath
    ++ optPair tConflictFileId c.conflictFileId

theorem asStanza_of_wf (c : Conflict) (h : c.wf = true) : asStanza c = some c.stanza := by
  unfold Conflict.wf at h
  unfold asStanza Conflict.stanza
  split at h <;>
    simp only [Bool.and_eq_true, Option.isNone_iff_eq_none, Option.isSome_iff_exists] at h
  · simp [h, optPair]
  · simp [h, optPair]
  · obtain ⟨⟨⟨a, ha⟩, hcp⟩, hcf⟩ := h
    simp [ha, hcp, hcf, optPair]
  · obtain ⟨⟨a, ha⟩, ⟨cp, hcp⟩⟩ := h
    simp [ha, hcp, optPair]

/-- the tags are pairwise distinct, so each lookup finds its own attribute -/
theorem sget_stanza (c : Conflict) :
    sget c.stanza tPath = some c.path ∧ sget c.stanza tType = some c.ctype.typestring ∧
    sget c.stanza tFileId = c.fileId ∧ sget c.stanza tAction = c.action ∧
    sget c.stanza tConflictPath = c.conflictPath ∧ sget c.stanza tConflictFileId = c.conflictFileId := by
  simp +decide only [Conflict.stanza, sget_append, sget_optPair, if_true, if_false, Option.or_none,
    Option.none_or, and_self]

theorem fromStanza_stanza (c : Conflict) (h : c.wf = true) : fromStanza c.stanza = .ok c := by
  obtain ⟨hp, ht, hf, ha, hcp, hcf⟩ := sget_stanza c
  -- `wf` leaves out exactly the attributes the constructor of the class does not take …
  have hall : (c.stanza.all fun p => p.1 == tType || (allowedTags c.ctype.shape).contains p.1) = true := by
    unfold Conflict.wf at h
    unfold Conflict.stanza
    split at h <;> rename_i hsh <;>
      simp only [Bool.and_eq_true, Option.isNone_iff_eq_none] at h <;>
      simp [hsh, h, optPair.eq_1, allowedTags, all_optPair]
  -- … and has those it requires
  have hreq : ((requiredTags c.ctype.shape).all fun t => (sget c.stanza t).isSome) = true := by
    unfold Conflict.wf at h
    split at h <;> rename_i hsh <;> simp only [Bool.and_eq_true] at h <;>
      simp [hsh, requiredTags, hp, ha, hcp, h]
  simp only [fromStanza, ht, ofString_typestring, buildConflict, hall, hreq, hp, hf, ha, hcp, hcf]
  rfl

/-- no attribute of the conflict has a line ending in CR -/
def Conflict.crSafe (c : Conflict) : Prop :=
  C20.crSafe c.path ∧ optSafe c.fileId ∧ optSafe c.conflictPath ∧ optSafe c.action ∧ optSafe c.conflictFileId

instance (c : Conflict) : Decidable c.crSafe := by unfold Conflict.crSafe; infer_instance

theorem stanza_ok (c : Conflict) (hc : c.crSafe) : StanzaOk c.stanza := by
  obtain ⟨hp, hf, hcp, ha, hcf⟩ := hc
  obtain ⟨t1, t2, t3, t4, t5, t6, _⟩ := tags_valid
  refine ⟨by simp [Conflict.stanza, optPair], fun p hmem => ?_⟩
  simp only [Conflict.stanza, List.mem_append] at hmem
  rcases hmem with ((((h | h) | h) | h) | h) | h
  · exact optPair_ok _ (some _) t1 hp p h
  · exact optPair_ok _ (some _) t2 (typestring_crSafe c.ctype) p h
  · exact optPair_ok _ _ t3 hf p h
  · exact optPair_ok _ _ t5 ha p h
  · exact optPair_ok _ _ t4 hcp p h
  · exact optPair_ok _ _ t6 hcf p h

theorem mapM_asStanza (cs : List Conflict) (h : ∀ c ∈ cs, c.wf = true) :
    cs.mapM asStanza = some (cs.map Conflict.stanza) := by
  induction cs with
  | nil => rfl
  | cons c t ih =>
    simp [List.mapM_cons, asStanza_of_wf c (h c (by simp)), ih (fun x hx => h x (by simp [hx]))]

end BreezyVerif.C20
