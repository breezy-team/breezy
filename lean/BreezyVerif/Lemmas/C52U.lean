import BreezyVerif.Model.C52
/-!
C52 — `upgrade`: what a pass keeps, and which formats it reaches (a format 3 tree only gets to 4).
-/
namespace BreezyVerif.C52

def bobs (b : UBranch) : (Nat × Nat) × Tags × Option Nat × Option Nat × Option Nat :=
  (b.info, b.tagsSeen, b.parent, b.bound, b.push)

theorem stepBranch_bobs (s : Step) (b : UBranch) (h : branchStep b.fmt new = some s) :
    bobs (stepBranch s b) = bobs b := by
  unfold branchStep at h
  split at h
  · rename_i c
    have h5 : b.fmt = 5 := by simp at c; exact c.1
    simp only [Option.some.injEq] at h; subst h
    simp [bobs, stepBranch, UBranch.info, UBranch.tagsSeen, h5]
  · split at h
    · rename_i c
      have h6 : b.fmt = 6 := by simp at c; exact c.1
      simp only [Option.some.injEq] at h; subst h
      simp [bobs, stepBranch, UBranch.info, UBranch.tagsSeen, h6]
    · split at h
      · rename_i c
        have h7 : b.fmt = 7 := by simp at c; exact c.1
        simp only [Option.some.injEq] at h; subst h
        simp [bobs, stepBranch, UBranch.info, UBranch.tagsSeen, h7]
      · cases h

theorem branchLoop_spec (fuel new : Nat) (b : UBranch) :
    match branchLoop fuel new b with
    | .ok (b', _) => bobs b' = bobs b
    | .error e => e = .badConversionTarget := by
  induction fuel generalizing b with
  | zero =>
    rw [branchLoop]
    by_cases hb : (b.fmt == new) = true
    · rw [if_pos hb]
    · rw [if_neg hb]
  | succ fuel ih =>
    rw [branchLoop]
    by_cases hb : (b.fmt == new) = true
    · rw [if_pos hb]
    · rw [if_neg hb]
      cases hs : branchStep b.fmt new with
      | none => rfl
      | some s =>
        have := ih (stepBranch s b)
        cases hr : branchLoop fuel new (stepBranch s b) with
        | error e => simpa [hr] using this
        | ok p => simpa [hr, stepBranch_bobs s b hs] using this

def tobs (t : UTree) : List Nat × Nat := (t.parents, t.inv)

theorem treeSteps_obs (t : UTree) (target : Nat) :
    tobs ((treeSteps t.fmt target).foldl (fun t s => stepTree s t) t) = tobs t := by
  unfold treeSteps
  by_cases h3 : t.fmt = 3
  · simp only [h3]
    by_cases hd : (target == 4 || target == 5 || target == 6) = true
    · simp [hd, stepTree, tobs, UTree.parents, h3]
    · simp [hd]
  · by_cases h4 : t.fmt = 4
    · simp only [h4]
      by_cases t5 : target = 5
      · simp [t5, stepTree, tobs, UTree.parents, h4]
      · by_cases t6 : target = 6
        · simp [t6, stepTree, tobs, UTree.parents, h4]
        · simp [t5, t6]
    · by_cases h5 : t.fmt = 5
      · simp only [h5]
        by_cases t6 : target = 6
        · simp [t6, stepTree, tobs, UTree.parents, h5]
        · simp [t6]
      · by_cases h6 : t.fmt = 6
        · simp only [h6]
          by_cases t5 : target = 5
          · simp [t5, stepTree, tobs, UTree.parents, h6]
          · simp [t5]
        · simp [h3, h4, h5, h6]

theorem uobs_eq (u u' : ULoc) (hr : u'.revs = u.revs)
    (hb : u'.branch.map bobs = u.branch.map bobs) (ht : u'.tree.map tobs = u.tree.map tobs) : uobs u' = uobs u := by
  unfold uobs
  rw [hr]
  cases hb1 : u.branch <;> cases hb2 : u'.branch <;> cases ht1 : u.tree <;> cases ht2 : u'.tree <;>
    simp_all [bobs, tobs]

theorem passRepo_same (tg : UTarget) (u : ULoc) :
    (passRepo tg u).1.revs = u.revs ∧ (passRepo tg u).1.branch = u.branch ∧ (passRepo tg u).1.tree = u.tree ∧
    (passRepo tg u).1.repo = u.repo.map (fun _ => tg.repo) := by
  unfold passRepo
  cases hr : u.repo with
  | none => simp [hr]
  | some r =>
    simp only
    split
    · rename_i c
      have : r = tg.repo := by simpa using c
      simp [hr, this]
    · simp

theorem passBranch_spec (tg : UTarget) (b : Option UBranch) :
    match passBranch tg b with
    | .ok (b', _) => b'.map bobs = b.map bobs
    | .error e => e = .badConversionTarget := by
  cases b with
  | none => rfl
  | some b0 =>
    have := branchLoop_spec 3 tg.branch b0
    simp only [passBranch]
    cases hl : branchLoop 3 tg.branch b0 with
    | error e => simpa [hl] using this
    | ok p => simpa [hl] using this

theorem passTree_obs (tg : UTarget) (t : Option UTree) : (passTree tg t).1.map tobs = t.map tobs := by
  cases t with
  | none => rfl
  | some t0 => simp [passTree, treeSteps_obs]

theorem upgradePass_spec (tg : UTarget) (u : ULoc) :
    uobs (upgradePass tg u).1 = uobs u ∧ (upgradePass tg u).2.2 ≠ some .upToDate := by
  obtain ⟨r1, r2, r3, _⟩ := passRepo_same tg u
  have hb := passBranch_spec tg (passRepo tg u).1.branch
  unfold upgradePass
  cases hp : passBranch tg (passRepo tg u).1.branch with
  | error e =>
    rw [hp] at hb
    subst hb
    exact ⟨uobs_eq u _ r1 (by rw [r2]) (by rw [r3]), by simp⟩
  | ok p =>
    rw [hp, r2] at hb
    refine ⟨uobs_eq u _ r1 hb ?_, by simp⟩
    have := passTree_obs tg (passRepo tg u).1.tree
    rw [r3] at this ⊢
    exact this

theorem upgradeLoop_spec (fuel : Nat) (tg : UTarget) (u : ULoc) :
    uobs (upgradeLoop fuel tg u).1 = uobs u ∧ (upgradeLoop fuel tg u).2.2 ≠ some .upToDate := by
  induction fuel generalizing u with
  | zero => exact ⟨rfl, by simp [upgradeLoop]⟩
  | succ fuel ih =>
    simp only [upgradeLoop]
    split
    · exact ⟨rfl, by simp⟩
    · have hp := upgradePass_spec tg u
      generalize upgradePass tg u = r at *
      obtain ⟨u', ss, e⟩ := r
      cases e with
      | some e => exact ⟨hp.1, by simpa using hp.2⟩
      | none => exact ⟨(ih u').1.trans hp.1, (ih u').2⟩

/-- the combinations `ConvertMetaToMeta` has converters for -/
def Supported (tg : UTarget) (u : ULoc) : Prop :=
  (tg.branch = 6 ∨ tg.branch = 7 ∨ tg.branch = 8) ∧ (tg.tree = 4 ∨ tg.tree = 5 ∨ tg.tree = 6) ∧
  (∀ b, u.branch = some b → 5 ≤ b.fmt ∧ b.fmt ≤ tg.branch) ∧
  (∀ t, u.tree = some t → 3 ≤ t.fmt ∧ t.fmt ≤ 6 ∧ (t.fmt ≤ tg.tree ∨ tg.tree = 5))

instance (tg : UTarget) (u : ULoc) : Decidable (Supported tg u) := by
  unfold Supported; infer_instance

theorem branchLoop_reaches (b : UBranch) (new : Nat) (hn : new = 6 ∨ new = 7 ∨ new = 8) (h5 : 5 ≤ b.fmt)
    (hle : b.fmt ≤ new) : ∃ b' ss, branchLoop 3 new b = .ok (b', ss) ∧ b'.fmt = new := by
  obtain ⟨fmt, rh, lr, pa, bo, pu, tg⟩ := b
  simp only at h5 hle
  have hf : fmt = 5 ∨ fmt = 6 ∨ fmt = 7 ∨ fmt = 8 := by omega
  rcases hn with rfl | rfl | rfl <;> rcases hf with rfl | rfl | rfl | rfl <;>
    first | omega | exact ⟨_, _, rfl, rfl⟩

/-- the tree format after one pass: a format 3 tree only gets to 4 -/
def passFmt (old target : Nat) : Nat := if old = 3 then 4 else target

theorem treeSteps_fmt (t : UTree) (target : Nat) (h3 : 3 ≤ t.fmt) (h6 : t.fmt ≤ 6)
    (htg : target = 4 ∨ target = 5 ∨ target = 6) (hs : t.fmt ≤ target ∨ target = 5) :
    ((treeSteps t.fmt target).foldl (fun t s => stepTree s t) t).fmt = passFmt t.fmt target := by
  obtain ⟨fmt, lr, pm, dp, inv⟩ := t
  simp only at h3 h6 hs
  have hf : fmt = 3 ∨ fmt = 4 ∨ fmt = 5 ∨ fmt = 6 := by omega
  rcases htg with rfl | rfl | rfl <;> rcases hf with rfl | rfl | rfl | rfl <;>
    first | omega | rfl

def needsF (tg : UTarget) (r b t : Option Nat) : Bool :=
  (match r with | some r => r != tg.repo | none => false) ||
  (match b with | some b => b != tg.branch | none => false) ||
  (match t with | some t => t != tg.tree | none => false)

theorem needs_eq (tg : UTarget) (u : ULoc) :
    needsConversion tg u = needsF tg u.repo (u.branch.map (·.fmt)) (u.tree.map (·.fmt)) := by
  unfold needsConversion needsF
  cases u.repo <;> cases u.branch <;> cases u.tree <;> rfl

theorem upgradePass_fmts (tg : UTarget) (u : ULoc) (h : Supported tg u) :
    (upgradePass tg u).2.2 = none ∧
    (upgradePass tg u).1.repo = u.repo.map (fun _ => tg.repo) ∧
    (upgradePass tg u).1.branch.map (·.fmt) = u.branch.map (fun _ => tg.branch) ∧
    (upgradePass tg u).1.tree.map (·.fmt) = u.tree.map (fun t => passFmt t.fmt tg.tree) := by
  obtain ⟨hb, ht, hbs, hts⟩ := h
  obtain ⟨r1, r2, r3, r4⟩ := passRepo_same tg u
  have hbr : ∃ b' ss, passBranch tg (passRepo tg u).1.branch = .ok (b', ss) ∧
      b'.map (·.fmt) = u.branch.map (fun _ => tg.branch) := by
    rw [r2]
    cases hub : u.branch with
    | none => exact ⟨none, [], rfl, rfl⟩
    | some b =>
      have hb' := hbs b hub
      obtain ⟨b', ss, hl, hf⟩ := branchLoop_reaches b tg.branch hb hb'.1 hb'.2
      exact ⟨some b', ss, by simp [passBranch, hl], by simp [hf]⟩
  obtain ⟨b', ss, hpb, hbf⟩ := hbr
  have htr : (passTree tg (passRepo tg u).1.tree).1.map (·.fmt) = u.tree.map (fun t => passFmt t.fmt tg.tree) := by
    rw [r3]
    cases hut : u.tree with
    | none => rfl
    | some t =>
      have := hts t hut
      simp [passTree, treeSteps_fmt t tg.tree this.1 this.2.1 ht this.2.2]
  unfold upgradePass
  simp only [hpb]
  exact ⟨trivial, r4, hbf, htr⟩

theorem upgradePass_supported (tg : UTarget) (u : ULoc) (h : Supported tg u) :
    Supported tg (upgradePass tg u).1 ∧ ∀ t, (upgradePass tg u).1.tree = some t → t.fmt ≠ 3 := by
  obtain ⟨_, _, p3, p4⟩ := upgradePass_fmts tg u h
  obtain ⟨hb, ht, hbs, hts⟩ := h
  have htree : ∀ t, (upgradePass tg u).1.tree = some t → ∃ t0, u.tree = some t0 ∧ t.fmt = passFmt t0.fmt tg.tree := by
    intro t htt
    rw [htt] at p4
    cases hut : u.tree with
    | none => simp [hut] at p4
    | some t0 => exact ⟨t0, rfl, by simpa [hut] using p4⟩
  refine ⟨⟨hb, ht, fun b hbb => ?_, fun t htt => ?_⟩, fun t htt => ?_⟩
  · rw [hbb] at p3
    cases hub : u.branch with
    | none => simp [hub] at p3
    | some b0 =>
      simp [hub] at p3
      omega
  · obtain ⟨t0, h0, hf⟩ := htree t htt
    have := hts t0 h0
    unfold passFmt at hf
    split at hf <;> omega
  · obtain ⟨t0, _, hf⟩ := htree t htt
    unfold passFmt at hf
    split at hf <;> omega

theorem upgradePass_done (tg : UTarget) (u : ULoc) (h : Supported tg u) (h3 : ∀ t, u.tree = some t → t.fmt ≠ 3) :
    needsConversion tg (upgradePass tg u).1 = false := by
  obtain ⟨_, q2, q3, q4⟩ := upgradePass_fmts tg u h
  rw [needs_eq, q2, q3, q4]
  unfold needsF
  cases u.repo <;> cases u.branch <;> cases hut : u.tree <;> simp [passFmt]
  all_goals exact fun e => absurd e (h3 _ hut)

theorem upgradeLoop_step (n : Nat) (tg : UTarget) (u : ULoc) (hn : needsConversion tg u = true)
    (he : (upgradePass tg u).2.2 = none) :
    upgradeLoop (n + 1) tg u =
      ((upgradeLoop n tg (upgradePass tg u).1).1,
       (upgradePass tg u).2.1 :: (upgradeLoop n tg (upgradePass tg u).1).2.1,
       (upgradeLoop n tg (upgradePass tg u).1).2.2) := by
  simp only [upgradeLoop, hn]
  generalize upgradePass tg u = p at *
  obtain ⟨u', ss, e⟩ := p
  subst he
  rfl

theorem upgradeLoop_stop (n : Nat) (tg : UTarget) (u : ULoc) (hn : needsConversion tg u = false) :
    upgradeLoop n tg u = (u, [], none) := by
  cases n <;> simp [upgradeLoop, hn]

end BreezyVerif.C52
