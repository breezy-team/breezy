import BreezyVerif.Lemmas.C26Inv
/-!
C26 — the dead-holder decision (`kill(pid, 0)` errno → dead?) and the run-level
invariants about steals: every steal in progress is directed at a lock whose
holder process no longer exists, and the steal policy alone never decides to
break the lock of a live holder — for any number of stealers, any uids.
-/
namespace BreezyVerif.C26

/-- `is_local_pid_dead` says "dead" for exactly one outcome of `kill(pid, 0)`: `ESRCH`.
`Ok`, `EPERM` (the process exists but belongs to another uid) and every other
errno mean "not known dead". -/
theorem pid_dead_iff_esrch (r : KillRes) : pidDeadOf r = true ↔ r = .esrch := by
  cases r <;> simp [pidDeadOf]

theorem killZero_esrch_iff (e p : Bool) : killZero e p = .esrch ↔ e = false := by
  cases e <;> cases p <;> simp [killZero]

theorem pidDeadOf_killZero (e p : Bool) : pidDeadOf (killZero e p) = !e := by
  cases e <;> cases p <;> rfl

theorem pidDeadOf_probe (cfg : Nat → Cfg) (crashed : Nat → Bool) (me o : Nat) :
    pidDeadOf (probe cfg crashed me o) = crashed o := by
  simp [probe, pidDeadOf_killZero]

/-- `is_lock_holder_known_dead` as evaluated by locker `me` on the lock `x` is true iff the recorded
host is ours and is not `localhost`, the recorded LOGNAME is ours and the holder process is gone.
In particular a live holder owned by a different uid (`EPERM`) is never stealable. -/
theorem stealable_iff_ours_and_gone (cfg : Nat → Cfg) (crashed : Nat → Bool) (me : Nat) (x : Nonce) :
    stealable cfg crashed me x = true ↔
      ((cfg x.owner).host = (cfg me).host ∧ (cfg x.owner).host ≠ 0 ∧
        (cfg x.owner).user.name = (cfg me).user.name ∧ crashed x.owner = true) := by
  simp only [stealable, knownDead, pidDeadOf_probe, Bool.and_eq_true, beq_iff_eq, Bool.not_eq_true',
    beq_eq_false_iff_ne, ne_eq, Bool.and_true]
  constructor
  · rintro ⟨⟨⟨a, b⟩, c⟩, d⟩; exact ⟨a, b, c, d⟩
  · rintro ⟨a, b, c, d⟩; exact ⟨⟨⟨a, b⟩, c⟩, d⟩

/-- the facts a steal of `x` by `i` rests on (all stable under further events) -/
def StealOk (cfg : Nat → Cfg) (crashed : Nat → Bool) (i : Nat) (x : Nonce) : Prop :=
  (cfg i).steal = true ∧ (cfg x.owner).host = (cfg i).host ∧ (cfg x.owner).host ≠ 0 ∧
    (cfg x.owner).user.name = (cfg i).user.name ∧ crashed x.owner = true

/-- every steal in progress is directed at a lock whose holder is ours and gone -/
def StealInv (s : Sys) : Prop :=
  ∀ i x, (s.lk i).pc.stealing = some x → StealOk s.cfg s.crashed i x

theorem StealInv.init (cfg : Nat → Cfg) (h : Option Dir) : StealInv (Sys.init cfg h) := by
  intro i x hx; simp [Sys.init, Pc.stealing] at hx

theorem StealInv.step {s : Sys} (inv : StealInv s) (e : Ev) : StealInv (s.step e) := by
  intro i x hx
  have keep : ∀ {x}, StealOk s.cfg s.crashed i x → StealOk (s.step e).cfg (s.step e).crashed i x := by
    intro x h
    rw [step_cfg]
    exact ⟨h.1, h.2.1, h.2.2.1, h.2.2.2.1, step_crashed s e _ h.2.2.2.2⟩
  rcases step_lk s e i with h | ⟨_, ⟨op, rfl, _, h⟩ | ⟨k, rfl, h⟩ | ⟨rfl, h⟩⟩ <;> rw [h] at hx
  · exact keep (inv i x hx)
  · rcases start_pc (s.lk i) op with h | h | ⟨_, h | h⟩ | ⟨_, _, h⟩ <;> simp [h, Pc.stealing] at hx
  · simpa [lfault_breaky] using breaky_of_stealing hx
  · have hl := lstep_sound (r := lstep i s.cfg s.crashed (s.lk i) s.held) rfl
    rcases hl.dec with hn | ⟨_, _, ⟨t, _, _, hp⟩ | ⟨y, _, _, ⟨_, hp⟩ | ⟨_, hp, _, h2, h3⟩⟩⟩
    · exact keep (inv i x ((hl.no_decision hn).2.2.2.1 x hx))
    · simp [hp, Pc.stealing] at hx
    · simp [hp, Pc.stealing] at hx
    · simp [hp, Pc.stealing] at hx
      exact keep (hx ▸ ⟨h3, (stealable_iff_ours_and_gone _ _ _ _).1 h2⟩)

structure NoUserBreak (s : Sys) : Prop where
  pcs : ∀ i, (s.lk i).pc.userBreaky = false
  alive : s.brokeAlive = false

theorem NoUserBreak.init (cfg : Nat → Cfg) (h : Option Dir) : NoUserBreak (Sys.init cfg h) :=
  ⟨fun _ => rfl, rfl⟩

theorem NoUserBreak.step {s : Sys} (nb : NoUserBreak s) (e : Ev) (he : e.noBreak = true) :
    NoUserBreak (s.step e) := by
  -- outside a user break a decision is a steal, hence against a dead holder
  have hd : ∀ i, (lstep i s.cfg s.crashed (s.lk i) s.held).2.2 = none ∨
      ((lstep i s.cfg s.crashed (s.lk i) s.held).1.pc.userBreaky = false ∧
        decisionAlive s.crashed (lstep i s.cfg s.crashed (s.lk i) s.held).2.2 = false) := by
    intro i
    have hp := nb.pcs i
    rcases (lstep_sound (r := lstep i s.cfg s.crashed (s.lk i) s.held) rfl).dec with
      hn | ⟨_, _, ⟨t, _, hk, _⟩ | ⟨x, hn, _, ⟨hk, _⟩ | ⟨_, hp', _, hst, _⟩⟩⟩
    · exact .inl hn
    · simp [hk, Pc.userBreaky] at hp
    · simp [hk, Pc.userBreaky] at hp
    · exact .inr ⟨by simp [hp', Pc.userBreaky],
        by simp [hn, decisionAlive, ((stealable_iff_ours_and_gone _ _ _ _).1 hst).2.2.2]⟩
  refine ⟨fun j => ?_, ?_⟩
  · rcases step_lk s e j with h | ⟨_, ⟨op, rfl, _, h⟩ | ⟨k, rfl, h⟩ | ⟨rfl, h⟩⟩ <;> rw [h]
    · exact nb.pcs j
    · rcases start_pc (s.lk j) op with h | h | ⟨_, h | h⟩ | ⟨rfl, _⟩
      case inr.inr.inr => simp [Ev.noBreak] at he
      all_goals simp [h, Pc.userBreaky]
    · cases hb : (lfault k (s.lk j)).pc.userBreaky
      · rfl
      · simpa [lfault_breaky] using breaky_of_userBreaky hb
    · rcases hd j with hn | ⟨h, _⟩
      · cases hb : (lstep j s.cfg s.crashed (s.lk j) s.held).1.pc.userBreaky
        · rfl
        · exact (((lstep_sound rfl).no_decision hn).2.2.1 hb).symm.trans (nb.pcs j)
      · exact h
  · rcases step_frame s e with ⟨_, _, h⟩ | ⟨i, r, _, _, rfl, _, _, h⟩ <;> rw [h, nb.alive]
    rcases hd i with hn | ⟨_, h⟩
    · rw [hn]; rfl
    · exact h

end BreezyVerif.C26
