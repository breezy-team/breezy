import BreezyVerif.Lemmas.C01
/-!
C01 — what anchors the selection to the path prefix relation the property
speaks about: an id whose path is at or below a filter path is selected
(`C10.selectIds_complete_tgt/src`), and `minimum_path_selection` keeps a prefix
of every path it is given (`minSel_prefix`).
-/
namespace BreezyVerif.C01
open BreezyVerif.C10

theorem iterate_mono {src tgt : Tree} {s : List Id} {j : Id} (h : j ∈ s) :
    ∀ n, j ∈ iterate (expandChildren src tgt) n s :=
  iterate_keeps h

/-- **an id whose basis (source) path is at or below a filter path is selected** -/
theorem selectIds_of_prefix_src {src tgt : Tree} (hw : wf src = true) {filt : List Path} {p path : Path} {i : Id}
    (hp : p ∈ filt) (hi : pathOf src i = some path) (hpre : p <+: path) : i ∈ selectIds src tgt filt :=
  selectIds_complete_src hw hp hi hpre

theorem not_mem_minSel {f : List Path} {p : Path} (hp : p ∈ f) (hm : p ∉ minSel f) :
    ∃ q ∈ f, q ≠ p ∧ q <+: p := by
  unfold minSel at hm
  rw [List.mem_filter] at hm
  have h2 : (f.any fun q => q != p && q.isPrefixOf p) = true := by
    cases h : (f.any fun q => q != p && q.isPrefixOf p) with
    | true => rfl
    | false => exact absurd ⟨hp, by simp [h]⟩ hm
  rw [List.any_eq_true] at h2
  obtain ⟨q, hq, hc⟩ := h2
  rw [Bool.and_eq_true] at hc
  exact ⟨q, hq, by simpa using hc.1, List.isPrefixOf_iff_prefix.mp hc.2⟩

theorem minSel_prefix (f : List Path) : ∀ (n : Nat) (p : Path), p.length ≤ n → p ∈ f →
    ∃ q ∈ minSel f, q <+: p := by
  intro n
  induction n with
  | zero =>
    intro p hl hp
    by_cases hm : p ∈ minSel f
    · exact ⟨p, hm, List.prefix_rfl⟩
    · obtain ⟨q, _, hne, hpre⟩ := not_mem_minSel hp hm
      have : p = [] := List.length_eq_zero_iff.mp (by omega)
      subst this
      rw [List.prefix_nil] at hpre
      exact absurd hpre hne
  | succ n ih =>
    intro p hl hp
    by_cases hm : p ∈ minSel f
    · exact ⟨p, hm, List.prefix_rfl⟩
    · obtain ⟨q, hq, hne, hpre⟩ := not_mem_minSel hp hm
      have hlen : q.length ≤ n := by
        have h1 := hpre.length_le
        by_cases he : q.length = p.length
        · exact absurd (hpre.eq_of_length he) hne
        · omega
      obtain ⟨q', hq', hpre'⟩ := ih q hlen hq
      exact ⟨q', hq', hpre'.trans hpre⟩

end BreezyVerif.C01
