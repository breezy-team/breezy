import BreezyVerif.Lemmas.C22Top
import BreezyVerif.Model.C25
/-!
C25 — every merge-sorted list is `stepwise`: from one revision to the next
(older) one the merge depth goes up by at most one.  Proved by induction on the
depth-first walk of the `mergeSort` specification (`C22.Walks`, Lemmas/C22Dfs.lean).
-/
namespace BreezyVerif.C25
open BreezyVerif.C22

/-- the most recently completed node is at depth ≤ `k` -/
def Top (l : List Entry) (k : Nat) : Prop := ∀ e, l.head? = some e → e.2.1 ≤ k

/-- most recent first: the node completed just before a node of depth `d` has depth ≤ `d + 1` -/
def Chain : List Entry → Prop
  | [] => True
  | e :: l => Top l (e.2.1 + 1) ∧ Chain l

theorem Top.mono {l : List Entry} {a b : Nat} (h : Top l a) (hab : a ≤ b) : Top l b :=
  fun e he => Nat.le_trans (h e he) hab

/-- what is proved about the state: the chain property and a bound on the top -/
def StepOk (s : Dfs) (k : Nat) : Prop := Chain s.done ∧ Top s.done k

/-- along a walk the depth goes up by at most one from a node to the one completed before it: the nodes
scheduled at depth `d` are completed at depth `d`, over what their parents completed at depth ≤ `d + 1` -/
theorem walks_steps {g : Graph} {d : Nat} {qs : List Nat} {st st' : Dfs} (h : Walks g d qs st st') :
    StepOk st (d + 1) → StepOk st' (d + 1) ∧ (Top st.done d → Top st'.done d) := by
  induction h with
  | nil => exact fun h => ⟨h, id⟩
  | skip _ _ ih => exact ih
  | @node d q qs ps st s1 s2 st' _ _ _ _ _ ih1 ih2 ih3 =>
    intro h
    obtain ⟨h1, _⟩ := ih1 h
    obtain ⟨h2, h2'⟩ := ih2 ⟨h1.1, h1.2.mono (Nat.le_succ _)⟩
    have hq : Top ((q, d, (leftParent g ps).all fun l => !st.seen.contains l) :: s2.done) d :=
      fun e he => by cases he; exact Nat.le_refl _
    obtain ⟨h3, h3'⟩ := ih3 ⟨⟨h2' h1.2, h2.1⟩, hq.mono (Nat.le_succ _)⟩
    exact ⟨h3, fun _ => h3' hq⟩

theorem stepwise_of_chain : ∀ (l : List Entry) (vs : List V) (n : Nat),
    vs.map (·.depth) = l.map (·.2.1) → Chain l → Top l n → stepwise n vs = true
  | [], vs, _, hm, _, _ => by
    have : vs = [] := by simpa using hm
    subst this; rfl
  | e :: l, vs, n, hm, hc, ht => by
    cases vs with
    | nil => simp at hm
    | cons v vs =>
      simp only [List.map_cons, List.cons.injEq] at hm
      simp only [stepwise, Bool.and_eq_true, decide_eq_true_eq]
      refine ⟨?_, stepwise_of_chain l vs (v.depth + 1) hm.2 hc.2 ?_⟩
      · rw [hm.1]; exact ht e rfl
      · rw [hm.1]; exact hc.1

/-- **Every merge-sorted list is stepwise**: the tip is at depth 0 and the depth goes up by at most one per step. -/
theorem mergeSort_stepwise_core (g : Graph) (hw : WF g) (tip : Nat) (ht : tip < g.length) (ms : List MS)
    (h : mergeSort g tip = some ms) : stepwise 1 (ms.map ofMS) = true := by
  obtain ⟨st, out, _, w, _, _, _, _, hmap, _, _, _, hms⟩ := mergeSort_spec g hw tip ht
  rw [h] at hms; cases hms
  obtain ⟨⟨hc, htop⟩, _⟩ := walks_steps w ⟨trivial, fun e he => by cases he⟩
  have h2 : out.map (·.2.1) = st.done.reverse.map (·.2.1) := by
    have := congrArg (List.map (·.2)) hmap
    simpa [List.map_map, Function.comp_def] using this
  apply stepwise_of_chain st.done _ 1 _ hc htop
  rw [List.map_map]
  have : ((fun v : V => v.depth) ∘ ofMS) = fun e : MS => e.depth := by funext e; rfl
  rw [this, eomFlags_depth, List.map_reverse, h2, List.map_reverse, List.reverse_reverse]

end BreezyVerif.C25
