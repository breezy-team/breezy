import BreezyVerif.Model.C06
import BreezyVerif.Lemmas.Lib.ListAux
/-
C06 helper lemmas about `exec`, `step`, `resumeToks` and the refusal predicate; the packs of an
open group (`groupPacks`) and the congruence of `commit` in the group's records (`commit_congr`).
-/
namespace BreezyVerif.C06

theorem exec_cons (fmt : Fmt) (r : Repo) (op : Op) (ops : List Op) :
    exec fmt r (op :: ops) = exec fmt (step fmt r op).1 ops := by
  simp only [exec, run]

theorem exec_nil (fmt : Fmt) (r : Repo) : exec fmt r [] = r := rfl

theorem exec_append (fmt : Fmt) (r : Repo) (a b : List Op) :
    exec fmt r (a ++ b) = exec fmt (exec fmt r a) b := by
  induction a generalizing r with
  | nil => rfl
  | cons op a ih => simp only [List.cons_append, exec_cons, ih]

theorem step_start (fmt : Fmt) {r : Repo} (h : r.wg = none) :
    step fmt r .start = ({ r with wg := some ⟨[], []⟩ }, .ok) := by
  simp only [step, h]

theorem step_insert (fmt : Fmt) {r : Repo} {g : Group} (rec : Rec) (h : r.wg = some g) :
    step fmt r (.insert rec) =
      ({ r with wg := some { g with fresh := g.fresh ++ [rec] }, stale := staleAfter r g rec }, .ok) := by
  simp only [step, h]

theorem step_abort (fmt : Fmt) {r : Repo} {g : Group} (h : r.wg = some g) :
    step fmt r .abort = ({ r with upload := removeAll r.upload g.resumed, wg := none }, .ok) := by
  simp only [step, h]

theorem step_reopen (fmt : Fmt) {r : Repo} (h : r.wg = none) :
    step fmt r .reopen = ({ r with stale := [] }, .ok) := by
  simp only [step, h]

/-- The packs an open group consists of: the tokens `_suspend_write_group` returns and the
packs an accepted `_commit_write_group` adds to `pack-names` (the new pack only if it holds data). -/
def groupPacks (g : Group) : List Pack := g.resumed ++ (if g.fresh.isEmpty then [] else [g.fresh])

theorem groupPacks_flatten (g : Group) : (groupPacks g).flatten = groupRecs g := by
  unfold groupPacks groupRecs
  cases g.fresh <;> simp

theorem groupPacks_resumed (ps : List Pack) : groupPacks ⟨[], ps⟩ = ps := by
  simp [groupPacks]

theorem groupPacks_eq_ite (g : Group) :
    groupPacks g = if g.fresh.isEmpty then g.resumed else g.resumed ++ [g.fresh] := by
  unfold groupPacks
  split <;> simp

theorem step_commit (fmt : Fmt) (r : Repo) (g : Group) (h : r.wg = some g) :
    step fmt r .commit =
      if refuses fmt r g then (r, .err .check)
      else ({ r with packs := r.packs ++ groupPacks g,
                     upload := removeAll r.upload g.resumed, wg := none }, .ok) := by
  simp only [step, h, groupPacks, List.append_assoc]

/-- only a commit changes the listed packs -/
theorem step_packs (fmt : Fmt) (r : Repo) (op : Op) (h : op ≠ .commit) :
    (step fmt r op).1.packs = r.packs := by
  cases op with
  | commit => exact absurd rfl h
  | start => simp only [step]; split <;> rfl
  | insert rec => simp only [step]; split <;> rfl
  | abort => simp only [step]; split <;> rfl
  | suspend =>
    simp only [step]; split
    · rfl
    · split <;> rfl
  | resume toks =>
    simp only [step]; split
    · rfl
    · split
      · rfl
      · rfl
      · rfl
  | reopen => simp only [step]; split <;> rfl

/-- insertions keep the group open and touch neither `pack-names` nor `upload/` -/
theorem exec_inserts (fmt : Fmt) (recs : List Rec) (r : Repo) (g : Group) (h : r.wg = some g) :
    (exec fmt r (recs.map Op.insert)).packs = r.packs ∧
    (exec fmt r (recs.map Op.insert)).upload = r.upload ∧
    (exec fmt r (recs.map Op.insert)).wg = some { g with fresh := g.fresh ++ recs } := by
  induction recs generalizing r g with
  | nil => exact ⟨rfl, rfl, by rw [List.append_nil]; exact h⟩
  | cons rec recs ih =>
    rw [List.map_cons, exec_cons]
    have hs := step_insert fmt rec h
    obtain ⟨h1, h2, h3⟩ := ih (step fmt r (.insert rec)).1 { g with fresh := g.fresh ++ [rec] }
      (by rw [hs])
    exact ⟨by rw [h1, hs], by rw [h2, hs], by rw [h3, List.append_assoc]; rfl⟩

theorem mem_addNew {l : List Pack} {x p : Pack} : p ∈ addNew l x ↔ p ∈ l ∨ p = x := by
  unfold addNew
  split
  · next hc => exact ⟨Or.inl, fun h => h.elim id (· ▸ List.contains_iff_mem.mp hc)⟩
  · exact List.mem_append.trans (or_congr Iff.rfl List.mem_singleton)

theorem not_contains {α : Type} [BEq α] [LawfulBEq α] {l : List α} {a : α} (h : a ∉ l) :
    (!l.contains a) = true := by
  rw [Bool.not_eq_true', Bool.eq_false_iff]
  exact fun hc => h (List.contains_iff_mem.mp hc)

theorem hasKey_iff {own : Pack} {k : Key} : hasKey own k = true ↔ ∃ rec ∈ own, rec.key = k := by
  simp only [hasKey, List.any_eq_true, beq_iff_eq]

theorem mem_rootsOf {own : Pack} {is : List Nat} {i c : Nat} {irec : Rec} (hi : i ∈ is)
    (hinv : invRec own i = some irec) (hc : c ∈ irec.roots) : c ∈ rootsOf own is :=
  List.mem_flatMap.mpr ⟨i, hi, by simp only [hinv]; exact hc⟩

theorem mem_itemsOf {own : Pack} {cs : List Nat} {c t : Nat} {crec : Rec} (hc : c ∈ cs)
    (hpage : own.find? (·.key == ⟨.chk, c⟩) = some crec) (ht : t ∈ crec.items) :
    t ∈ itemsOf own cs :=
  List.mem_flatMap.mpr ⟨c, hc, by simp only [hpage]; exact ht⟩

theorem removeAll_nil (l : List Pack) : removeAll l [] = l := by
  simp [removeAll]

theorem any_append_mcp (own a b : Pack) :
    missingCompressionParent own (a ++ b) =
      (missingCompressionParent own a || missingCompressionParent own b) := by
  simp [missingCompressionParent, List.any_append]

theorem resumeToks_ok (up : List Pack) (ps acc : List Pack)
    (hin : ∀ p ∈ ps, p ∈ up) (hnd : (acc ++ ps).Nodup) :
    resumeToks up (ps.map Tok.pack) acc = .ok (acc ++ ps) := by
  induction ps generalizing acc with
  | nil => rw [List.append_nil]; rfl
  | cons p ps ih =>
    have hp : ¬ acc.contains p = true := fun hc =>
      (List.nodup_append.mp hnd).2.2 p (List.contains_iff_mem.mp hc) p List.mem_cons_self rfl
    rw [List.map_cons, resumeToks, if_neg hp,
      if_pos (List.contains_iff_mem.mpr (hin p List.mem_cons_self)),
      ih (acc ++ [p]) (fun q hq => hin q (List.mem_cons_of_mem _ hq))
        (by rwa [List.append_assoc]), List.append_assoc]
    rfl

theorem resumeToks_bad (up : List Pack) (toks : List Tok) (acc : List Pack)
    (hbad : ∃ t ∈ toks, t = Tok.malformed ∨ ∃ p, t = Tok.pack p ∧ p ∉ up) :
    ∃ e acc', resumeToks up toks acc = .error (e, acc') ∧ (e = .unresumable ∨ e = .assertion) := by
  induction toks generalizing acc with
  | nil => obtain ⟨t, ht, _⟩ := hbad; simp at ht
  | cons t toks ih =>
    cases t with
    | malformed => exact ⟨.unresumable, acc, by simp [resumeToks], Or.inl rfl⟩
    | pack p =>
      simp only [resumeToks, List.contains_iff_mem]
      by_cases h1 : p ∈ acc
      · exact ⟨.assertion, acc, by rw [if_pos h1], Or.inr rfl⟩
      · by_cases h2 : p ∈ up
        · rw [if_neg h1, if_pos h2]
          apply ih
          obtain ⟨t, ht, hb⟩ := hbad
          rcases List.mem_cons.mp ht with e | hm
          · subst e
            rcases hb with hb | ⟨q, hq, hnq⟩
            · cases hb
            · cases hq
              exact absurd h2 hnq
          · exact ⟨t, hm, hb⟩
        · exact ⟨.unresumable, acc, by rw [if_neg h1, if_neg h2], Or.inl rfl⟩

theorem refuses_congr (fmt : Fmt) (r r' : Repo) (g : Group) (hp : r.packs = r'.packs)
    (hs : r.stale = r'.stale) : refuses fmt r g = refuses fmt r' g := by
  simp only [refuses, hp, hs]

/-- The object's bookkeeping is exact for the open group: it remembers a missing compression
parent precisely when a record of the new pack lacks one.  This is what a commit reads of `stale`. -/
def StaleExact (r : Repo) (g : Group) : Prop :=
  r.stale.isEmpty = !missingCompressionParent (r.packs.flatten ++ groupRecs g) g.fresh

/-- under exact bookkeeping the verdict depends only on the listed packs and the group's records,
not on how the records are divided into packs -/
theorem refuses_of_exact (fmt : Fmt) {r : Repo} {g : Group} (h : StaleExact r g) :
    refuses fmt r g =
      (missingCompressionParent (r.packs.flatten ++ groupRecs g) (groupRecs g) ||
        (fmt.checkInv && inventoryProblems (r.packs.flatten ++ groupRecs g) (groupRecs g))) := by
  have : groupRecs g = g.resumed.flatten ++ g.fresh := rfl
  simp only [refuses]
  rw [h, Bool.not_not, this, any_append_mcp, Bool.or_comm (missingCompressionParent _ g.fresh)]

/-- Two open groups with the same records over the same listed packs, each with exact
bookkeeping, get the same verdict from `commit`: both are refused and nothing changes, or both
are accepted and each group's packs become listed. -/
theorem commit_congr (fmt : Fmt) {r r' : Repo} {g g' : Group} (h : r.wg = some g) (h' : r'.wg = some g')
    (hp : r'.packs = r.packs) (hg : groupRecs g' = groupRecs g)
    (hs : StaleExact r g) (hs' : StaleExact r' g') :
    (step fmt r' .commit).2 = (step fmt r .commit).2 ∧
    ((step fmt r .commit).2 ≠ .ok →
      (step fmt r' .commit).1 = r' ∧ (step fmt r .commit).1 = r ∧ (step fmt r .commit).2 = .err .check) ∧
    ((step fmt r .commit).2 = .ok →
      (step fmt r' .commit).1.packs = r.packs ++ groupPacks g' ∧
      (step fmt r .commit).1.packs = r.packs ++ groupPacks g ∧
      (step fmt r' .commit).1.wg = none ∧ (step fmt r .commit).1.wg = none) := by
  have href : refuses fmt r' g' = refuses fmt r g := by
    rw [refuses_of_exact fmt hs, refuses_of_exact fmt hs', hp, hg]
  rw [step_commit fmt r g h, step_commit fmt r' g' h', href]
  by_cases hr : refuses fmt r g = true
  · rw [if_pos hr, if_pos hr]
    exact ⟨rfl, fun _ => ⟨rfl, rfl, rfl⟩, fun hc => by cases hc⟩
  · rw [if_neg hr, if_neg hr]
    exact ⟨rfl, fun hc => absurd rfl hc, fun _ => ⟨by rw [← hp], rfl, rfl, rfl⟩⟩

end BreezyVerif.C06
