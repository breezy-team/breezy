import BreezyVerif.Lemmas.C21D
/-! C21 — operation sequences over a system of branches. -/
namespace BreezyVerif.C21

/-- `l` has a branch exactly at the indices where `s` has one, and `R` relates the two -/
def Pointwise (R : Br → Br → Prop) (s l : List Br) : Prop :=
  l.length = s.length ∧ ∀ (i : Nat) (b : Br), s[i]? = some b → ∃ b', l[i]? = some b' ∧ R b b'

theorem Pointwise.refl {R : Br → Br → Prop} (hrefl : ∀ b, R b b) (s : List Br) : Pointwise R s s :=
  ⟨rfl, fun _ b hb => ⟨b, hb, hrefl b⟩⟩

theorem Pointwise.set {R : Br → Br → Prop} {s l : List Br} (h : Pointwise R s l) (i : Nat) (x : Br)
    (hx : ∀ b, s[i]? = some b → R b x) : Pointwise R s (l.set i x) := by
  refine ⟨by rw [List.length_set]; exact h.1, fun j b hb => ?_⟩
  by_cases hij : i = j
  · subst hij
    have hi : i < l.length := h.1 ▸ (List.getElem?_eq_some_iff.mp hb).1
    exact ⟨x, by rw [List.getElem?_set_self hi], hx b hb⟩
  · rw [List.getElem?_set_ne hij]
    exact h.2 j b hb

theorem Pointwise.of_mem {R : Br → Br → Prop} {s l : List Br} (h : Pointwise R s l) (b' : Br) (hb' : b' ∈ l) :
    ∃ b ∈ s, R b b' := by
  obtain ⟨i, hi, hget⟩ := List.mem_iff_getElem.mp hb'
  have hi' : i < s.length := h.1 ▸ hi
  obtain ⟨b'', h1, h2⟩ := h.2 i s[i] (List.getElem?_eq_getElem hi')
  rw [List.getElem?_eq_getElem hi, hget] at h1
  cases h1
  exact ⟨s[i], List.getElem_mem hi', h2⟩

theorem Pointwise.trans {R : Br → Br → Prop} (htrans : ∀ a b c, R a b → R b c → R a c) {s l m : List Br}
    (h1 : Pointwise R s l) (h2 : Pointwise R l m) : Pointwise R s m := by
  refine ⟨h2.1.trans h1.1, fun i b hb => ?_⟩
  obtain ⟨b1, hb1, hR1⟩ := h1.2 i b hb
  obtain ⟨b2, hb2, hR2⟩ := h2.2 i b1 hb1
  exact ⟨b2, hb2, htrans _ _ _ hR1 hR2⟩

/-- a relation between the old and the new state of every branch that each
single pull/push establishes is established pointwise by a step: a step only
ever `set`s the target, and the master before it, to the outcome of the operation -/
theorem stepAux_pointwise (R : Br → Br → Prop) (hrefl : ∀ b, R b b)
    (g : Graph) (s : List Br) (isPull : Bool) (si ti : Nat) (mi : Option Nat)
    (stop : Option Tip) (ow : Bool)
    (hop : ∀ src tgt m, s[si]? = some src →
      R tgt (applyOp g isPull src tgt m stop ow).tgt ∧
      ∀ mb, m = some mb → ∃ mb', (applyOp g isPull src tgt m stop ow).master = some mb' ∧ R mb mb') :
    Pointwise R s (stepAux g s isPull si ti mi stop ow) := by
  unfold stepAux
  cases hsrc : s[si]? with
  | none => exact .refl hrefl s
  | some src =>
    cases htgt : s[ti]? with
    | none => exact .refl hrefl s
    | some tgt =>
      dsimp only
      by_cases hst : si = ti
      · rw [if_pos hst]; exact .refl hrefl s
      rw [if_neg hst]
      cases mi with
      | none =>
        refine (Pointwise.refl hrefl s).set ti _ fun b hb => ?_
        cases hb.symm.trans htgt
        exact (hop src tgt none hsrc).1
      | some m =>
        dsimp only
        cases hm : s[m]? with
        | none => exact .refl hrefl s
        | some mb =>
          dsimp only
          by_cases hne : m = si ∨ m = ti
          · rw [if_pos hne]; exact .refl hrefl s
          rw [if_neg hne]
          obtain ⟨h1, h2⟩ := hop src tgt (some mb) hsrc
          obtain ⟨mb', hmb', hR⟩ := h2 mb rfl
          rw [hmb']
          refine ((Pointwise.refl hrefl s).set m mb' fun b hb => ?_).set ti _ fun b hb => ?_
          · cases hb.symm.trans hm
            exact hR
          · cases hb.symm.trans htgt
            exact h1

theorem step_pointwise (R : Br → Br → Prop) (hrefl : ∀ b, R b b) (g : Graph) (s : List Br) (op : Op)
    (hop : ∀ isPull src tgt m stop, src ∈ s →
      R tgt (applyOp g isPull src tgt m stop op.ow).tgt ∧
      ∀ mb, m = some mb → ∃ mb', (applyOp g isPull src tgt m stop op.ow).master = some mb' ∧ R mb mb') :
    Pointwise R s (step g s op) := by
  cases op with
  | pull si ti mi stop ow =>
    exact stepAux_pointwise R hrefl g s true si ti mi stop ow
      (fun src tgt m hs => hop true src tgt m stop (List.mem_of_getElem? hs))
  | push si ti mi stop ow =>
    exact stepAux_pointwise R hrefl g s false si ti mi stop ow
      (fun src tgt m hs => hop false src tgt m stop (List.mem_of_getElem? hs))

/-- **Operation sequences.**  A reflexive and transitive relation `R` that every accepted `_update_revisions`
of the sequence establishes — for sources that satisfy an invariant `I` which `R` carries along — holds
between the first and the last state of every branch. -/
theorem run_pointwise (R : Br → Br → Prop) (I : Br → Prop) (hrefl : ∀ b, R b b)
    (htrans : ∀ a b c, R a b → R b c → R a c) (hI : ∀ b b', I b → R b b' → I b') (g : Graph) (ops : List Op)
    (hop : ∀ op ∈ ops, ∀ src stop b b', I src → updateRevisions g src b stop op.ow = .ok b' → R b b')
    (s : List Br) (hs : ∀ b ∈ s, I b) : Pointwise R s (run g s ops) :=
  List.foldlRecOn (motive := Pointwise R s) ops _ (.refl hrefl s) fun s' h op hmem =>
    h.trans htrans <| step_pointwise R hrefl g s' op fun isPull src tgt m stop hsrc =>
      have ⟨b, hb, hR⟩ := h.of_mem src hsrc
      applyOp_pres R hrefl g src stop op.ow (fun b1 b2 => hop op hmem src stop b1 b2 (hI b src (hs b hb) hR))
        isPull tgt m

end BreezyVerif.C21
