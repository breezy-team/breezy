import BreezyVerif.Lemmas.C31B
/-
The decidable shape predicates `isCanon` / `isMild`, and `Mild` (every "%" starts a canonical
escape, all other bytes arbitrary) as a `PctClass`; it contains both `Canon` and
`NoPct` strings.
-/
namespace BreezyVerif.C31

theorem canon_of_isCanon {p : Bytes} (h : isCanon p = true) : Canon p := by
  unfold isCanon at h
  have e : escape (pctDecode p) = p := by simpa using h
  rw [← e]
  exact canon_escape _

theorem ofNat_split {x y : Nat} (hx : x < 16) (hy : y < 16) :
    (UInt8.ofNat (16 * x + y)).toNat / 16 = x ∧ (UInt8.ofNat (16 * x + y)).toNat % 16 = y := by
  rw [UInt8.toNat_ofNat', Nat.mod_eq_of_lt (show 16 * x + y < 2 ^ 8 by omega),
    Nat.mul_add_div (by decide), Nat.div_eq_of_lt hy, Nat.mul_add_mod, Nat.mod_eq_of_lt hy]
  exact ⟨rfl, rfl⟩

theorem escape_pctDecode_canon {p : Bytes} (h : Canon p) : escape (pctDecode p) = p := by
  induction h with
  | nil => simp [pctDecode, escape]
  | safe c r hc _ ih =>
    rw [pctDecode_cons_ne (ne_PCT_of_isSafe hc)]
    simp [escape, hc, ih]
  | esc x y r hx hy hv _ ih =>
    rw [pctDecode_esc (hexV_hexU x hx) (hexV_hexU y hy)]
    obtain ⟨h1, h2⟩ := ofNat_split hx hy
    simp only [escape, hv, Bool.false_eq_true, ↓reduceIte, h1, h2, ih]

theorem isCanon_of_canon {p : Bytes} (h : Canon p) : isCanon p = true := by
  unfold isCanon
  simp [escape_pctDecode_canon h]

/-- every "%" starts an upper-case escape of a byte that is not safe; other bytes arbitrary -/
inductive Mild : Bytes → Prop
  | nil : Mild []
  | other (c : UInt8) (r : Bytes) : c ≠ PCT → Mild r → Mild (c :: r)
  | esc (x y : Nat) (r : Bytes) : x < 16 → y < 16 → isSafe (UInt8.ofNat (16 * x + y)) = false →
      Mild r → Mild (PCT :: hexU x :: hexU y :: r)

theorem toNat_le_of_range {lo c hi : UInt8} (h : (decide (lo ≤ c) && decide (c ≤ hi)) = true) :
    c.toNat ≤ hi.toNat :=
  UInt8.le_iff_toNat_le.1 (of_decide_eq_true (Bool.and_eq_true_iff.1 h).2)

theorem hexV_lt {c : UInt8} {x : Nat} (h : hexV c = some x) : x < 16 := by
  unfold hexV at h
  -- in each range the digit value is `c - lo' ≤ hi - lo' < 16`
  split at h
  · cases h
    exact Nat.lt_of_le_of_lt (Nat.sub_le_sub_right (toNat_le_of_range ‹_›) 48) (by decide)
  · split at h
    · cases h
      exact Nat.lt_of_le_of_lt (Nat.sub_le_sub_right (toNat_le_of_range ‹_›) 55) (by decide)
    · split at h
      · cases h
        exact Nat.lt_of_le_of_lt (Nat.sub_le_sub_right (toNat_le_of_range ‹_›) 87) (by decide)
      · cases h

theorem mild_of_isMild : ∀ (p : Bytes), isMild p = true → Mild p
  | [], _ => .nil
  | [c], h => by
    simp [isMild] at h
    exact .other c [] h .nil
  | [c, a], h => by
    simp [isMild] at h
    exact .other c _ h.1 (.other a [] h.2 .nil)
  | c :: a :: b :: r, h => by
    unfold isMild at h
    split at h
    · rename_i hc
      subst hc
      split at h
      · rename_i x y hx hy
        simp only [Bool.and_eq_true, beq_iff_eq, Bool.not_eq_eq_eq_not, Bool.not_true] at h
        obtain ⟨⟨⟨ha, hb⟩, hs⟩, hr⟩ := h
        rw [ha, hb]
        exact .esc x y r (hexV_lt hx) (hexV_lt hy) hs (mild_of_isMild r hr)
      · cases h
    · rename_i hc
      exact .other c _ hc (mild_of_isMild (a :: b :: r) h)

theorem mild_of_canon {p : Bytes} (h : Canon p) : Mild p := by
  induction h with
  | nil => exact .nil
  | safe c r hc _ ih =>
    exact .other c r (ne_PCT_of_isSafe hc) ih
  | esc x y r hx hy hv _ ih => exact .esc x y r hx hy hv ih

theorem mild_of_noPct : ∀ (p : Bytes), NoPct p → Mild p := by
  intro p
  induction p with
  | nil => intro _; exact .nil
  | cons c r ih =>
    intro h
    exact .other c r (fun e => h (by simp [e])) (ih (fun e => h (by simp [e])))

theorem mildClass : PctClass Mild (· ≠ PCT) True where
  nil := .nil
  plain := .other
  esc := fun x y r _ => .esc x y r
  ind := fun h0 h1 h2 p hp => by
    induction hp with
    | nil => exact h0
    | other c r hc hr ih => exact h1 c r hc hr ih
    | esc x y r hx hy hv hr ih => exact h2 x y r trivial hx hy hv hr ih
  ne_pct := fun _ h => h
  hex := hexU_ne_PCT'
  sl := by decide

theorem goodSeg_mild_of_canon {s : Seg} (h : GoodSeg Canon s) : GoodSeg Mild s :=
  ⟨mild_of_canon h.1, h.2.1, h.2.2⟩

end BreezyVerif.C31
