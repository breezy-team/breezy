import BreezyVerif.Model.C36
/-! C36 — the escapers built from successive `bytes.replace` calls on single bytes (file ids, git
config values, section names): each acts as one character-wise substitution.  Before them, the
shape of a parser that checks a prefix and goes on with what follows it. -/
namespace BreezyVerif.C36

/-- `x.startswith(pfx)` together with a condition on `x[len(pfx):]`: `x` is the prefix followed by
something that meets the condition.  The parsers of prefixed identifiers (`refs/heads/…`,
`refs/tags/…`, `git-v1:…`) all have this shape. -/
theorem prefixed_iff {α : Type} [BEq α] [LawfulBEq α] {pfx x : List α} {P : List α → Prop} :
    (pfx.isPrefixOf x = true ∧ P (x.drop pfx.length)) ↔ ∃ e, x = pfx ++ e ∧ P e := by
  constructor
  · rintro ⟨hp, h⟩
    obtain ⟨t, rfl⟩ := List.isPrefixOf_iff_prefix.mp hp
    exact ⟨t, rfl, by rwa [List.drop_left] at h⟩
  · rintro ⟨e, rfl, h⟩
    exact ⟨List.isPrefixOf_iff_prefix.mpr ⟨e, rfl⟩, by rwa [List.drop_left]⟩

theorem replaceByte_append (c : Nat) (rep l1 l2 : List Nat) :
    replaceByte c rep (l1 ++ l2) = replaceByte c rep l1 ++ replaceByte c rep l2 :=
  List.flatMap_append

theorem replaceByte_singleton (c : Nat) (rep : List Nat) (x : Nat) :
    replaceByte c rep [x] = if x = c then rep else [x] :=
  List.flatMap_singleton ..

/-- the three `replace` passes act as one character-wise substitution -/
def escapeOne (c : Nat) : List Nat :=
  if c = 0x5f then [0x5f, 0x5f] else if c = 0x20 then [0x5f, 0x73] else if c = 0x0c then [0x5f, 0x63] else [c]

theorem escapeFileId_nil : escapeFileId [] = [] := rfl

theorem escapeFileId_singleton (x : Nat) : escapeFileId [x] = escapeOne x := by
  by_cases h1 : x = 0x5f; · subst h1; rfl
  by_cases h2 : x = 0x20; · subst h2; rfl
  by_cases h3 : x = 0x0c; · subst h3; rfl
  simp only [escapeFileId, escapeOne, replaceByte_singleton, h1, h2, h3, if_false]

theorem escapeFileId_cons (x : Nat) (f : List Nat) : escapeFileId (x :: f) = escapeOne x ++ escapeFileId f := by
  rw [← escapeFileId_singleton, ← List.singleton_append]
  simp only [escapeFileId, replaceByte_append]

theorem unescape_escapeOne (x : Nat) (rest : List Nat) :
    unescapeFileId (escapeOne x ++ rest) = (unescapeFileId rest).map (x :: ·) := by
  unfold escapeOne
  by_cases h1 : x = 0x5f
  · subst h1; simp [unescapeFileId]
  · by_cases h2 : x = 0x20
    · subst h2; simp [unescapeFileId]
    · by_cases h3 : x = 0x0c
      · subst h3; simp [unescapeFileId]
      · rw [unescapeFileId.eq_def]; simp [h1, h2, h3]

/-- the five `replace` passes of `_escape_value` act as one character-wise substitution -/
def cfgEscOne (b : Nat) : NBytes :=
  if b = 92 then [92, 92] else if b = 13 then [92, 114] else if b = 10 then [92, 110]
  else if b = 9 then [92, 116] else if b = 34 then [92, 34] else [b]

theorem cfgEscape_nil : cfgEscape [] = [] := rfl

theorem cfgEscape_singleton (x : Nat) : cfgEscape [x] = cfgEscOne x := by
  by_cases h1 : x = 92; · subst h1; rfl
  by_cases h2 : x = 13; · subst h2; rfl
  by_cases h3 : x = 10; · subst h3; rfl
  by_cases h4 : x = 9; · subst h4; rfl
  by_cases h5 : x = 34; · subst h5; rfl
  simp only [cfgEscape, cfgEscOne, replaceByte_singleton, h1, h2, h3, h4, h5, if_false]

theorem cfgEscape_append (a b : NBytes) : cfgEscape (a ++ b) = cfgEscape a ++ cfgEscape b := by
  simp only [cfgEscape, replaceByte_append]

theorem cfgEscape_cons (x : Nat) (v : NBytes) : cfgEscape (x :: v) = cfgEscOne x ++ cfgEscape v := by
  rw [← cfgEscape_singleton, ← cfgEscape_append, List.singleton_append]

theorem cfgEscOne_cases (b : Nat) :
    (cfgEscOne b = [b] ∧ b ≠ 13 ∧ b ≠ 10 ∧ b ≠ 9) ∨ ∃ e, cfgEscOne b = [92, e] ∧ isWs e = false := by
  by_cases h1 : b = 92; · subst h1; exact .inr ⟨_, rfl, rfl⟩
  by_cases h2 : b = 13; · subst h2; exact .inr ⟨_, rfl, rfl⟩
  by_cases h3 : b = 10; · subst h3; exact .inr ⟨_, rfl, rfl⟩
  by_cases h4 : b = 9; · subst h4; exact .inr ⟨_, rfl, rfl⟩
  by_cases h5 : b = 34; · subst h5; exact .inr ⟨_, rfl, rfl⟩
  exact .inl ⟨by rw [cfgEscOne, if_neg h1, if_neg h2, if_neg h3, if_neg h4, if_neg h5], h2, h3, h4⟩

theorem subsecEscape_cons (x : Nat) (n : NBytes) :
    subsecEscape (x :: n) = (if x = 92 then [92, 92] else if x = 34 then [92, 34] else [x]) ++ subsecEscape n := by
  have h1 : subsecEscape [x] = if x = 92 then [92, 92] else if x = 34 then [92, 34] else [x] := by
    by_cases h1 : x = 92; · subst h1; rfl
    by_cases h2 : x = 34; · subst h2; rfl
    simp only [subsecEscape, replaceByte_singleton, h1, h2, if_false]
  rw [← h1, ← List.singleton_append]
  simp only [subsecEscape, replaceByte_append]

theorem subsecUnescape_cons_ne {x : Nat} (h : x ≠ 92) (l : NBytes) :
    subsecUnescape (x :: l) = x :: subsecUnescape l := by
  cases l <;> simp [subsecUnescape, h]

end BreezyVerif.C36
