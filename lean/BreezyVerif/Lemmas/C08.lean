import BreezyVerif.Model.C08
import BreezyVerif.Lemmas.C03
/-
C08 — helper lemmas.
-/
namespace BreezyVerif.C08

open BreezyVerif.C03

theorem both_invs_get (s : Stacked) (k : Rev) :
    get (both s).invs k = match get s.st.invs k with
      | some i => some i
      | none => get s.fb.invs k := by
  unfold both
  cases h : get s.st.invs k with
  | some i => exact get_append_some h
  | none => exact get_append_none h

theorem both_texts_isSome (s : Stacked) (k : TextKey)
    (h : (get s.st.texts k).isSome = true ∨ (get s.fb.texts k).isSome = true) :
    (get (both s).texts k).isSome = true := by
  unfold both
  cases hs : get s.st.texts k with
  | some c => rw [get_append_some hs]; rfl
  | none =>
    rw [get_append_none hs]
    exact h.resolve_left (by simp [hs])

/-- `both s` is `C03.unionRepo s.st s.fb`: what a fetch from a stacked source reads -/
theorem hasRev_both (s : Stacked) (p : Rev) : hasRev (both s) p = presentRev s p :=
  hasRev_union s.st s.fb p

theorem presentRev_iff {s : Stacked} {p : Rev} :
    presentRev s p = true ↔ hasRev s.st p = true ∨ hasRev s.fb p = true := by
  simp [presentRev]

theorem get_singleton {α β : Type} [DecidableEq α] (k q : α) (v : β) :
    C03.get [(k, v)] q = if k = q then some v else none := by
  simp [C03.get]

theorem mem_parentEntries {s : Stacked} {rec : RevRec} {e : Entry} :
    e ∈ parentEntries s rec ↔
      ∃ p ∈ rec.parents, presentRev s p = true ∧ ∃ ip, get s.st.invs p = some ip ∧ e ∈ ip := by
  unfold parentEntries
  rw [List.mem_flatMap]
  constructor
  · rintro ⟨p, hp, hep⟩
    obtain ⟨hp1, hp2⟩ := List.mem_filter.mp hp
    exact ⟨p, hp1, hp2, mem_invOrEmpty hep⟩
  · rintro ⟨p, hp1, hp2, ip, hip, he⟩
    exact ⟨p, List.mem_filter.mpr ⟨hp1, hp2⟩, by rw [invOrEmpty_of_get hip]; exact he⟩

theorem stackableRevW_iff {s : Stacked} {k : Rev} {rec : RevRec} :
    stackableRevW s k rec = true ↔ ∃ inv, get s.st.invs k = some inv ∧
      ∀ e ∈ inv, e ∈ parentEntries s rec ∨ (get s.st.texts e.key).isSome = true := by
  unfold stackableRevW
  cases get s.st.invs k with
  | none => simp
  | some inv => simp [List.all_eq_true]

theorem stackableRev_iff {s : Stacked} {k : Rev} {rec : RevRec} :
    stackableRev s k rec = true ↔ stackableRevW s k rec = true ∧
      ∀ p ∈ rec.parents, presentRev s p = true → (get s.st.invs p).isSome = true := by
  unfold stackableRev stackableRevW
  cases get s.st.invs k with
  | none => simp
  | some inv =>
    rw [Bool.and_eq_true, and_comm, List.all_eq_true (l := rec.parents)]
    refine and_congr_right fun _ => forall₂_congr fun p _ => ?_
    cases presentRev s p <;> simp

theorem stackable_iff {s : Stacked} :
    stackable s = true ↔ ∀ k rec, (k, rec) ∈ s.st.revs → stackableRev s k rec = true := by
  simp only [stackable, List.all_eq_true, Prod.forall]

theorem stackableW_iff {s : Stacked} :
    stackableW s = true ↔ ∀ k rec, (k, rec) ∈ s.st.revs → stackableRevW s k rec = true := by
  simp only [stackableW, List.all_eq_true, Prod.forall]

theorem stackableW_rev {s : Stacked} (h : stackableW s = true) {k : Rev} {rec : RevRec}
    (hk : get s.st.revs k = some rec) :
    ∃ inv, get s.st.invs k = some inv ∧
      ∀ e ∈ inv, e ∈ parentEntries s rec ∨ (get s.st.texts e.key).isSome = true :=
  stackableRevW_iff.mp (stackableW_iff.mp h k rec (get_mem hk))

theorem checkNew_iff {st : Repo} {new : List Rev} : checkNew st new = true ↔
    ∀ k ∈ new, ∃ inv, get st.invs k = some inv ∧
      ∀ e ∈ inv, e ∈ parentOnlyEntries st new ∨ (get st.texts e.key).isSome = true := by
  unfold checkNew
  rw [List.all_eq_true]
  refine forall₂_congr fun k _ => ?_
  cases get st.invs k with
  | none => simp
  | some inv => simp [List.all_eq_true]

/-- `s'` holds what `s` holds; every operation on a stacked repository grows it in this sense -/
structure Grows (s s' : Stacked) : Prop where
  invs : ∀ {q i}, get s.st.invs q = some i → get s'.st.invs q = some i
  texts : ∀ {q}, (get s.st.texts q).isSome = true → (get s'.st.texts q).isSome = true
  present : ∀ {p}, presentRev s p = true → presentRev s' p = true

/-- an operation that only adds records to the local store and leaves the fallback alone grows the stack -/
theorem Grows.of_extends {s s' : Stacked} (he : Extends s.st s'.st) (hfb : s'.fb = s.fb) : Grows s s' where
  invs hq := he.2.1 _ _ hq
  texts hq := by
    obtain ⟨c, hc⟩ := Option.isSome_iff_exists.mp hq
    rw [he.2.2 _ c hc]
    rfl
  present hp := by
    rw [presentRev_iff, hfb]
    exact (presentRev_iff.mp hp).imp_left he.hasRev

theorem stackableRevW_mono {s s' : Stacked} (g : Grows s s') {k : Rev} {rec : RevRec}
    (h : stackableRevW s k rec = true) : stackableRevW s' k rec = true := by
  obtain ⟨inv, hi, hall⟩ := stackableRevW_iff.mp h
  refine stackableRevW_iff.mpr ⟨inv, g.invs hi, fun e he => (hall e he).imp (fun h1 => ?_) g.texts⟩
  obtain ⟨p, hp, hpp, ip, hip, hep⟩ := mem_parentEntries.mp h1
  exact mem_parentEntries.mpr ⟨p, hp, g.present hpp, ip, g.invs hip, hep⟩

/-- the per-revision invariant survives growth of the local store, provided every parent
that newly counts as present has its inventory locally -/
theorem stackableRev_mono {s s' : Stacked} (g : Grows s s') {k : Rev} {rec : RevRec}
    (hnewp : ∀ p ∈ rec.parents, presentRev s' p = true →
      presentRev s p = true ∨ (get s'.st.invs p).isSome = true)
    (h : stackableRev s k rec = true) : stackableRev s' k rec = true := by
  obtain ⟨hW, hpar⟩ := stackableRev_iff.mp h
  refine stackableRev_iff.mpr ⟨stackableRevW_mono g hW, fun p hp hp' => ?_⟩
  refine (hnewp p hp hp').elim (fun h1 => ?_) id
  obtain ⟨ip, hip⟩ := Option.isSome_iff_exists.mp (hpar p hp h1)
  rw [g.invs hip]; rfl

theorem topo_iff {r : Repo} :
    topo r = true ↔ ∀ k rec, (k, rec) ∈ r.revs → ∀ p ∈ rec.parents, p < k := by
  simp only [topo, List.all_eq_true, decide_eq_true_eq, Prod.forall]

theorem readable_iff {r : Repo} {k : Rev} :
    readable r k = true ↔ ∃ inv, get r.invs k = some inv ∧ ∀ e ∈ inv, (get r.texts e.key).isSome = true := by
  unfold readable
  cases h : get r.invs k with
  | none => simp
  | some inv => simp [List.all_eq_true]

/-- a revision of the (complete) fallback is readable through the stack, whatever inventory copy is local -/
theorem readable_of_fallback {s : Stacked} (hfb : complete s.fb = true) (hag : invsAgree s = true)
    {p : Rev} (hp : hasRev s.fb p = true) : readable (both s) p = true := by
  obtain ⟨rec, hrec⟩ := (hasRev_iff ..).mp hp
  obtain ⟨i, hi, htexts⟩ := complete_inv hfb hrec
  refine readable_iff.mpr ⟨i, ?_, fun e he => ?_⟩
  · rw [both_invs_get]
    cases hl : get s.st.invs p with
    | none => exact hi
    | some il => rw [agreeOn_eq hag hl hi]
  · obtain ⟨c, hc⟩ := htexts e he
    exact both_texts_isSome s e.key (Or.inr (by rw [hc]; rfl))

theorem get_filter_ne {α β : Type} [DecidableEq α] (l : List (α × β)) (k q : α) :
    C03.get (l.filter fun kv => !decide (kv.1 = k)) q = if q = k then none else C03.get l q := by
  induction l with
  | nil => simp [C03.get]
  | cons x xs ih =>
    obtain ⟨k', v⟩ := x
    by_cases hk : k' = k
    · subst hk
      simp only [List.filter_cons, decide_true, Bool.not_true, Bool.false_eq_true, if_false, ih, C03.get]
      by_cases hq : q = k'
      · simp [hq]
      · have : ¬ k' = q := fun h => hq h.symm
        simp [hq, this]
    · simp only [List.filter_cons, hk, decide_false, Bool.not_false, if_true, C03.get, ih]
      by_cases hq : k' = q
      · subst hq; simp [hk]
      · simp [hq]

theorem get_dedupKeys {α β : Type} [DecidableEq α] (l : List (α × β)) (q : α) :
    C03.get (dedupKeys l) q = C03.get l q := by
  induction l with
  | nil => rfl
  | cons x xs ih =>
    obtain ⟨k, v⟩ := x
    simp only [dedupKeys, C03.get, get_filter_ne, ih]
    by_cases hq : k = q
    · simp [hq]
    · have : ¬ q = k := fun h => hq h.symm
      simp [hq, this]

theorem mem_dedupKeys {α β : Type} [DecidableEq α] {l : List (α × β)} {kv : α × β}
    (h : kv ∈ dedupKeys l) : kv ∈ l := by
  induction l with
  | nil => cases h
  | cons x xs ih =>
    obtain ⟨k, v⟩ := x
    simp only [dedupKeys, List.mem_cons, List.mem_filter] at h
    rcases h with h | h
    · exact h ▸ List.mem_cons_self
    · exact List.mem_cons_of_mem _ (ih h.1)

theorem pack_presentRev (s : Stacked) (p : Rev) : presentRev (pack s) p = presentRev s p := by
  unfold presentRev hasRev pack packRepo
  simp only [get_dedupKeys]

theorem pack_grows (s : Stacked) : Grows s (pack s) :=
  .of_extends ⟨fun _ _ h => (get_dedupKeys ..).trans h, fun _ _ h => (get_dedupKeys ..).trans h,
    fun _ _ h => (get_dedupKeys ..).trans h⟩ rfl

end BreezyVerif.C08
