import BreezyVerif.Model.C13
import BreezyVerif.Lemmas.C13
/-! helper lemmas for C13: `os.rename` neither reads nor writes the executable
bit — it commutes with erasing all bits -/
namespace BreezyVerif.C13

def Node.erase : Node → Node
  | .file c _ => .file c false
  | n => n

theorem eraseExec_eq (fs : FS) : eraseExec fs = fs.map fun e => (e.1, e.2.erase) := by
  unfold eraseExec
  apply List.map_congr_left
  intro e _
  obtain ⟨k, n⟩ := e
  cases n <;> rfl

theorem eraseExec_cons (e : Path × Node) (fs : FS) :
    eraseExec (e :: fs) = (e.1, e.2.erase) :: eraseExec fs := by
  simp [eraseExec_eq]

theorem get_eraseExec (fs : FS) (p : Path) : get (eraseExec fs) p = (get fs p).map Node.erase := by
  induction fs with
  | nil => simp [eraseExec, get]
  | cons e fs ih =>
    rw [eraseExec_cons, get_cons, get_cons, ih]
    by_cases h : e.1 = p <;> simp [h]

theorem map_erase_eq_dir (o : Option Node) : (o.map Node.erase = some .dir) ↔ o = some .dir := by
  cases o with
  | none => simp
  | some n => cases n <;> simp [Node.erase]

theorem keysUnder_eraseExec (fs : FS) (b : Path) : keysUnder (eraseExec fs) b = keysUnder fs b := by
  simp [keysUnder, eraseExec_eq, List.any_map, Function.comp_def]

theorem hasChildren_eraseExec (fs : FS) (b : Path) :
    hasChildren (eraseExec fs) b = hasChildren fs b := by
  simp [hasChildren, eraseExec_eq, List.any_map, Function.comp_def]

theorem moveL_eraseExec (fs : FS) (a b : Path) : moveL (eraseExec fs) a b = eraseExec (moveL fs a b) := by
  simp only [moveL, eraseExec_eq, List.map_map]
  apply List.map_congr_left
  intro e _
  simp only [Function.comp]
  by_cases h : a.isPrefixOf e.1 = true <;> simp [h]

theorem deleteAny_eraseExec (fs : FS) (p : Path) : deleteAny (eraseExec fs) p = eraseExec (deleteAny fs p) := by
  simp only [deleteAny, eraseExec_eq, List.filter_map]
  rfl

theorem parentErr_eraseExec (fs : FS) (p : Path) : parentErr (eraseExec fs) p = parentErr fs p := by
  unfold parentErr
  congr 2
  funext i
  rw [get_eraseExec]
  cases get fs (p.take i) with
  | none => rfl
  | some n => cases n <;> rfl

/-- **`os.rename` is blind to the executable bit.**  It reads the file system through lookups,
`keysUnder`, `hasChildren` and `parentErr`, and writes it through `moveL` and `deleteAny`; each of
these commutes with erasing the bits, and no check tells two regular files apart. -/
theorem rename_eraseExec (fs : FS) (a b : Path) :
    rename (eraseExec fs) a b = (rename fs a b).map eraseExec := by
  simp only [rename, get_eraseExec, ne_eq, map_erase_eq_dir, keysUnder_eraseExec, hasChildren_eraseExec,
    parentErr_eraseExec, deleteAny_eraseExec, moveL_eraseExec]
  generalize get fs a.dropLast = pa
  generalize get fs b.dropLast = pb
  generalize parentErr fs a = ea
  generalize parentErr fs b = eb
  generalize keysUnder fs b = ku
  generalize hasChildren fs b = hc
  generalize moveL fs a b = m1
  generalize moveL (deleteAny fs b) a b = m2
  generalize get fs a = ga
  generalize get fs b = gb
  by_cases h0 : a = [] ∨ b = []
  · rw [if_pos h0, if_pos h0]; rfl
  rw [if_neg h0, if_neg h0]
  by_cases h1 : ¬pa = some Node.dir
  · rw [if_pos h1, if_pos h1]; rfl
  rw [if_neg h1, if_neg h1]
  by_cases h2 : ¬pb = some Node.dir
  · rw [if_pos h2, if_pos h2]; rfl
  rw [if_neg h2, if_neg h2]
  cases ga with
  | none => rfl
  | some na =>
    simp only [Option.map_some]
    by_cases h3 : a = b
    · rw [if_pos h3, if_pos h3]; rfl
    rw [if_neg h3, if_neg h3]
    by_cases h4 : a.isPrefixOf b = true
    · rw [if_pos h4, if_pos h4]; rfl
    rw [if_neg h4, if_neg h4]
    by_cases h5 : b.isPrefixOf a = true
    · rw [if_pos h5, if_pos h5]; rfl
    rw [if_neg h5, if_neg h5]
    cases gb with
    | none => cases ku <;> rfl
    | some nb => cases na <;> cases nb <;> first | rfl | (cases hc <;> rfl)

theorem eraseExec_setExec (fs : FS) (p : Path) (x : Bool) : eraseExec (setExec fs p x) = eraseExec fs := by
  induction fs with
  | nil => rfl
  | cons e fs ih =>
    unfold setExec
    split
    · obtain ⟨k, n⟩ := e
      cases n <;> rfl
    · rw [eraseExec_cons, eraseExec_cons, ih]

theorem rename_erase_congr {fs1 fs2 : FS} (h : eraseExec fs1 = eraseExec fs2) (a b : Path) :
    (rename fs1 a b).map eraseExec = (rename fs2 a b).map eraseExec := by
  rw [← rename_eraseExec, ← rename_eraseExec, h]

end BreezyVerif.C13
