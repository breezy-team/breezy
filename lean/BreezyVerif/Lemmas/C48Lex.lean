import BreezyVerif.Model.C48
/-! C48 — lexer composition (`/**/` in the middle of a pattern) and idempotence
of `normalize`. -/
namespace BreezyVerif.C48

/-! ### running the lexer over a prefix -/

/-- the lexer state and the tokens emitted after reading `a` -/
def lexSteps (full : Bool) (st : LexSt) : List Char → Option (LexSt × List Tok)
  | [] => some (st, [])
  | c :: s =>
    match step full st c with
    | none => none
    | some (st', ts) =>
      match lexSteps full st' s with
      | none => none
      | some (st'', r) => some (st'', ts ++ r)

theorem lexRun_append (full : Bool) (a b : List Char) :
    ∀ (st st' : LexSt) (ta : List Tok), lexSteps full st a = some (st', ta) →
      lexRun full st (a ++ b) = (lexRun full st' b).map (ta ++ ·) := by
  induction a with
  | nil =>
    intro st st' ta h
    simp only [lexSteps, Option.some.injEq, Prod.mk.injEq] at h
    obtain ⟨rfl, rfl⟩ := h
    simp only [List.nil_append]
    cases lexRun full st b <;> rfl
  | cons c a ih =>
    intro st st' ta h
    simp only [lexSteps] at h
    simp only [List.cons_append, lexRun]
    cases hs : step full st c with
    | none => simp [hs] at h
    | some r =>
      obtain ⟨st1, ts⟩ := r
      simp only [hs] at h
      cases hr : lexSteps full st1 a with
      | none => simp [hr] at h
      | some r2 =>
        obtain ⟨st2, tr⟩ := r2
        simp only [hr, Option.some.injEq, Prod.mk.injEq] at h
        obtain ⟨rfl, rfl⟩ := h
        simp only []
        rw [ih st1 st2 tr hr]
        cases lexRun full st2 b <;> simp

/-- at a segment start, `k` stars already read: `m` more stars and a `/` -/
theorem segStars_run (p : List Char) : ∀ (m k : Nat),
    lexRun true (.segStars k) (List.replicate m '*' ++ '/' :: p) =
      (lexRun true .seg p).map ((if k + m ≥ 1 then [Tok.starstar] else [Tok.star, Tok.lit '/']) ++ ·) := by
  intro m
  induction m with
  | zero =>
    intro k
    have e : step true (.segStars k) '/' =
        (if k ≥ 1 then some (.seg, [Tok.starstar]) else some (.seg, [Tok.star, Tok.lit '/'])) := rfl
    simp only [List.replicate_zero, List.nil_append, lexRun, e, Nat.add_zero]
    by_cases hk : k ≥ 1
    · simp only [if_pos hk]; cases lexRun true .seg p <;> rfl
    · simp only [if_neg hk]; cases lexRun true .seg p <;> rfl
  | succ m ih =>
    intro k
    have e : step true (.segStars k) '*' = some (.segStars (k + 1), []) := rfl
    simp only [List.replicate_succ, List.cons_append, lexRun, e]
    rw [ih (k + 1), Nat.add_right_comm]
    cases lexRun true LexSt.seg p <;> rfl

/-! ### normalize is idempotent -/

/-- no backslash and no two adjacent `/`; `prev` = the previous character was a `/` -/
def cleanFrom (prev : Bool) : List Char → Bool
  | [] => true
  | c :: s => if c == '\\' then false else if c == '/' then (!prev && cleanFrom true s) else cleanFrom false s

theorem clean_collapseAux (s : List Char) : ∀ prev, cleanFrom prev (collapseAux prev s) = true := by
  induction s with
  | nil => intro prev; simp [collapseAux, cleanFrom]
  | cons c s ih =>
    intro prev
    unfold collapseAux
    by_cases hc : isSlash c = true
    · simp only [hc, if_true]
      cases prev with
      | true => simpa using ih true
      | false => simp [cleanFrom, ih true]
    · have hc' : isSlash c = false := by simpa using hc
      simp only [hc', Bool.false_eq_true, if_false]
      have h1 : (c == '\\') = false := by
        simp only [isSlash, Bool.or_eq_false_iff] at hc'; exact hc'.2
      have h2 : (c == '/') = false := by
        simp only [isSlash, Bool.or_eq_false_iff] at hc'; exact hc'.1
      simp [cleanFrom, h1, h2, ih false]

theorem collapseAux_of_clean (s : List Char) : ∀ prev, cleanFrom prev s = true → collapseAux prev s = s := by
  induction s with
  | nil => intro prev _; rfl
  | cons c s ih =>
    intro prev h
    unfold cleanFrom at h
    by_cases h1 : (c == '\\') = true
    · simp [h1] at h
    · have h1' : (c == '\\') = false := by simpa using h1
      simp only [h1', Bool.false_eq_true, if_false] at h
      by_cases h2 : (c == '/') = true
      · simp only [h2, if_true, Bool.and_eq_true, Bool.not_eq_true'] at h
        obtain ⟨hp, hs⟩ := h
        subst hp
        have hc : c = '/' := by simpa using h2
        subst hc
        unfold collapseAux
        simp [isSlash, ih true hs]
      · have h2' : (c == '/') = false := by simpa using h2
        simp only [h2', Bool.false_eq_true, if_false] at h
        unfold collapseAux
        simp [isSlash, h1', h2', ih false h]

theorem clean_prefix (a b : List Char) : ∀ prev, cleanFrom prev (a ++ b) = true → cleanFrom prev a = true := by
  induction a with
  | nil => intro prev _; rfl
  | cons c a ih =>
    intro prev h
    simp only [List.cons_append, cleanFrom] at h ⊢
    by_cases h1 : (c == '\\') = true
    · simp [h1] at h
    · have h1' : (c == '\\') = false := by simpa using h1
      simp only [h1', Bool.false_eq_true, if_false] at h ⊢
      by_cases h2 : (c == '/') = true
      · simp only [h2, if_true, Bool.and_eq_true] at h ⊢
        exact ⟨h.1, ih true h.2⟩
      · have h2' : (c == '/') = false := by simpa using h2
        simp only [h2', Bool.false_eq_true, if_false] at h ⊢
        exact ih false h

theorem rstripSlash_prefix (s : List Char) : rstripSlash s <+: s := by
  unfold rstripSlash
  have := List.dropWhile_suffix (l := s.reverse) (· == '/')
  have h2 := List.reverse_prefix.mpr this
  simpa using h2

theorem clean_rstrip (s : List Char) (h : cleanFrom false s = true) : cleanFrom false (rstripSlash s) = true := by
  obtain ⟨t, ht⟩ := rstripSlash_prefix s
  rw [← ht] at h
  exact clean_prefix _ t false h

theorem dropWhile_idem {α : Type} (p : α → Bool) (l : List α) : (l.dropWhile p).dropWhile p = l.dropWhile p := by
  induction l with
  | nil => rfl
  | cons a l ih =>
    by_cases h : p a = true
    · simp [h, ih]
    · simp [h]

theorem rstripSlash_idem (s : List Char) : rstripSlash (rstripSlash s) = rstripSlash s := by
  unfold rstripSlash
  rw [List.reverse_reverse, dropWhile_idem]

/-- a slash-free prefix is neither created nor destroyed by `collapse` -/
theorem isPrefixOf_collapse (pre : List Char) (hpre : ∀ c ∈ pre, isSlash c = false) :
    ∀ s : List Char, pre.isPrefixOf (collapseAux false s) = pre.isPrefixOf s := by
  induction pre with
  | nil => intro s; simp
  | cons a pre ih =>
    intro s
    have ha : isSlash a = false := hpre a (by simp)
    have ha1 : (a == '/') = false := by
      simp only [isSlash, Bool.or_eq_false_iff] at ha; exact ha.1
    cases s with
    | nil => simp [collapseAux]
    | cons c s =>
      unfold collapseAux
      by_cases hc : isSlash c = true
      · have hac : (a == c) = false := by
          apply Bool.eq_false_iff.mpr
          intro e
          have e' : a = c := by simpa using e
          rw [e', hc] at ha
          exact absurd ha (by simp)
        simp [hc, List.isPrefixOf, ha1, hac]
      · have hc' : isSlash c = false := by simpa using hc
        simp only [hc', Bool.false_eq_true, if_false, List.isPrefixOf]
        rw [ih (fun x hx => hpre x (by simp [hx])) s]

theorem isPrefixOf_of_rstrip (pre s : List Char) (h : pre.isPrefixOf (rstripSlash s) = true) :
    pre.isPrefixOf s = true := by
  rw [List.isPrefixOf_iff_prefix] at h ⊢
  exact h.trans (rstripSlash_prefix s)

/-- a prefix that ends in a non-slash survives `rstripSlash` -/
theorem rstrip_keeps (pre x : List Char) (l : Char) (hl : pre.getLast? = some l) (hns : (l == '/') = false) :
    pre.isPrefixOf (rstripSlash (pre ++ x)) = true := by
  rw [List.isPrefixOf_iff_prefix]
  unfold rstripSlash
  rw [List.reverse_append, List.dropWhile_append]
  have hhead : pre.reverse.head? = some l := by simpa [List.head?_reverse] using hl
  have hkeep : pre.reverse.dropWhile (· == '/') = pre.reverse := by
    cases hr : pre.reverse with
    | nil => rfl
    | cons y ys =>
      rw [hr] at hhead
      simp only [List.head?_cons, Option.some.injEq] at hhead
      subst hhead
      simp [hns]
  split
  · rw [hkeep, List.reverse_reverse]; exact List.prefix_refl _
  · rw [List.reverse_append, List.reverse_reverse]; exact List.prefix_append _ _

def isRe (p : List Char) : Bool := startsWith reP p || startsWith nreP p

theorem rstrip_short (r : List Char) (h : ¬ r.length > 1) : (if r.length > 1 then rstripSlash r else r) = r := by
  simp [h]

theorem rstrip_fix (q : List Char) :
    let r := if q.length > 1 then rstripSlash q else q
    (if r.length > 1 then rstripSlash r else r) = r := by
  simp only []
  by_cases hq : q.length > 1
  · simp only [hq, if_true]
    by_cases hr : (rstripSlash q).length > 1
    · simp only [hr, if_true, rstripSlash_idem]
    · simp [hr]
  · simp [hq]

theorem isRe_rstrip (p : List Char) (h : isRe p = true) : isRe (rstripSlash p) = true := by
  unfold isRe startsWith at h ⊢
  rw [Bool.or_eq_true] at h ⊢
  rcases h with h | h
  · left
    obtain ⟨x, rfl⟩ := List.isPrefixOf_iff_prefix.mp h
    exact rstrip_keeps reP x ':' (by decide) (by decide)
  · right
    obtain ⟨x, rfl⟩ := List.isPrefixOf_iff_prefix.mp h
    exact rstrip_keeps nreP x ':' (by decide) (by decide)

theorem normalize_re (x : List Char) (h : isRe x = true) :
    normalize x = if x.length > 1 then rstripSlash x else x := by
  unfold normalize; unfold isRe at h; simp only [h, if_true]

theorem normalize_nonre (x : List Char) (h : (startsWith reP x || startsWith nreP x) = false) :
    normalize x = if (collapse x).length > 1 then rstripSlash (collapse x) else collapse x := by
  unfold normalize; simp only [h, Bool.false_eq_true, if_false]

/-- `normalize_pattern` is idempotent -/
theorem normalize_idempotent (p : List Char) : normalize (normalize p) = normalize p := by
  by_cases hre : isRe p = true
  · -- `RE:` / `!RE:` patterns: only trailing slashes are stripped
    have h1 := normalize_re p hre
    have hre2 : isRe (normalize p) = true := by
      rw [h1]; split
      · exact isRe_rstrip p hre
      · exact hre
    rw [normalize_re (normalize p) hre2, h1]
    exact rstrip_fix p
  · have hre' : (startsWith reP p || startsWith nreP p) = false := by
      unfold isRe at hre; simpa using hre
    have h1 := normalize_nonre p hre'
    have hclean : cleanFrom false (normalize p) = true := by
      rw [h1]; split
      · exact clean_rstrip _ (clean_collapseAux p false)
      · exact clean_collapseAux p false
    have hq : (startsWith reP (collapse p) || startsWith nreP (collapse p)) = false := by
      unfold startsWith collapse at *
      rw [isPrefixOf_collapse reP (by decide), isPrefixOf_collapse nreP (by decide)]
      exact hre'
    have hre2 : (startsWith reP (normalize p) || startsWith nreP (normalize p)) = false := by
      rw [h1]; split
      · rw [Bool.or_eq_false_iff] at hq ⊢
        constructor
        · apply Bool.eq_false_iff.mpr; intro h
          have := isPrefixOf_of_rstrip reP _ h
          unfold startsWith at hq; rw [hq.1] at this; exact absurd this (by simp)
        · apply Bool.eq_false_iff.mpr; intro h
          have := isPrefixOf_of_rstrip nreP _ h
          unfold startsWith at hq; rw [hq.2] at this; exact absurd this (by simp)
      · exact hq
    rw [normalize_nonre (normalize p) hre2,
      show collapse (normalize p) = normalize p from collapseAux_of_clean _ false hclean, h1]
    exact rstrip_fix (collapse p)

end BreezyVerif.C48
