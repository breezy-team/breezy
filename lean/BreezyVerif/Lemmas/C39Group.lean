import BreezyVerif.Model.C39
/-! C39 helper lemmas: slices and stretches of equal lines; what `validChain` and
`validGroupsFrom` say, and the hunk of a valid group. -/
namespace BreezyVerif.C39

variable {α : Type}

theorem drop_eq_slice_append (l : List α) (i j : Nat) (hij : i ≤ j) :
    l.drop i = slice l i j ++ l.drop j := by
  unfold slice
  have : l.drop j = (l.drop i).drop (j - i) := by
    rw [List.drop_drop]; congr 1; omega
  rw [this, List.take_append_drop]

theorem slice_append (l : List α) (i j k : Nat) (hij : i ≤ j) (hjk : j ≤ k) :
    slice l i j ++ slice l j k = slice l i k := by
  unfold slice
  have h1 : (l.drop i).take (k - i) = (l.drop i).take (j - i) ++ ((l.drop i).drop (j - i)).take (k - j) := by
    have : k - i = (j - i) + (k - j) := by omega
    rw [this, List.take_add]
  rw [h1, List.drop_drop]
  congr 3
  omega

theorem slice_self (l : List α) (i : Nat) : slice l i i = [] := by
  unfold slice; simp

theorem length_slice (l : List α) (i j : Nat) (hj : j ≤ l.length) : (slice l i j).length = j - i := by
  rw [slice, List.length_take, List.length_drop]
  omega

theorem getElem?_slice (l : List α) (i j k : Nat) :
    (slice l i j)[k]? = if k < j - i then l[i + k]? else none := by
  unfold slice
  rw [List.getElem?_take]
  split
  · rw [List.getElem?_drop]
  · rfl

theorem mem_slice (l : List α) (i j : Nat) (x : α) (h : x ∈ slice l i j) : x ∈ l :=
  List.mem_of_mem_drop (List.mem_of_mem_take h)

theorem slice_add (l : List α) (i m s t : Nat) (ht : t ≤ m) :
    slice l (i + s) (i + t) = ((slice l i (i + m)).take t).drop s := by
  simp only [slice, Nat.add_sub_add_left, Nat.add_sub_cancel_left, List.take_take, Nat.min_eq_left ht,
    List.drop_take, List.drop_drop]

theorem slice_sub (a b : List α) (i j m s t : Nat) (h : slice a i (i + m) = slice b j (j + m))
    (ht : t ≤ m) : slice a (i + s) (i + t) = slice b (j + s) (j + t) := by
  rw [slice_add a i m s t ht, slice_add b j m s t ht, h]

/-- the two texts agree from `(i, j)` to their ends -/
def tailEq (a b : List Line) (i j : Nat) : Prop := ∀ k, a[i + k]? = b[j + k]?

theorem tailEq_iff_drop_eq (a b : List Line) (i j : Nat) : tailEq a b i j ↔ a.drop i = b.drop j := by
  simp only [tailEq, List.ext_getElem?_iff, List.getElem?_drop]

theorem tailEq_of_drop_eq (a b : List Line) (i j : Nat) (h : a.drop i = b.drop j) : tailEq a b i j :=
  (tailEq_iff_drop_eq a b i j).mpr h

/-- `(i, j)` lies some number of equal lines behind `(pi, pj)`: what `validGroupsFrom` asks
between the end of one group and the start of the next -/
structure Gap (a b : List Line) (pi pj i j : Nat) : Prop where
  hi : pi ≤ i
  hj : pj ≤ j
  eq : slice a pi i = slice b pj j
  len : i - pi = j - pj

theorem gap_refl (a b : List Line) (i j : Nat) : Gap a b i j i j :=
  ⟨Nat.le_refl _, Nat.le_refl _, by rw [slice_self, slice_self], by rw [Nat.sub_self, Nat.sub_self]⟩

theorem gap_drop {a b : List Line} {pi pj i j : Nat} (g : Gap a b pi pj i j) (t : a.drop i = b.drop j) :
    a.drop pi = b.drop pj := by
  rw [drop_eq_slice_append a pi i g.hi, drop_eq_slice_append b pj j g.hj, g.eq, t]

theorem validOp_bounds (a b : List Line) (o : Op) (h : validOp a b o = true) :
    o.i1 ≤ o.i2 ∧ o.j1 ≤ o.j2 ∧ o.i2 ≤ a.length ∧ o.j2 ≤ b.length := by
  simp only [validOp, Bool.and_eq_true, decide_eq_true_eq] at h
  obtain ⟨⟨⟨⟨h1, h2⟩, h3⟩, h4⟩, _⟩ := h
  exact ⟨h1, h2, h3, h4⟩

theorem gap_of_validOp {a b : List Line} {i i' j j' : Nat} (h : validOp a b ⟨.equal, i, i', j, j'⟩ = true) :
    Gap a b i j i' j' := by
  simp only [validOp, Bool.and_eq_true, decide_eq_true_eq] at h
  exact ⟨h.1.1.1.1, h.1.1.1.2, h.2.1, h.2.2⟩

theorem validOp_equal_sub (a b : List Line) (o : Op) (ht : o.tag = .equal) (hv : validOp a b o = true) :
    ∃ m, o.i2 = o.i1 + m ∧ o.j2 = o.j1 + m ∧ ∀ s t, s ≤ t → t ≤ m →
      validOp a b ⟨.equal, o.i1 + s, o.i1 + t, o.j1 + s, o.j1 + t⟩ = true := by
  simp only [validOp, ht, Bool.and_eq_true, decide_eq_true_eq] at hv ⊢
  obtain ⟨⟨⟨⟨h1, h2⟩, h3⟩, h4⟩, h5, h6⟩ := hv
  obtain ⟨m, e1⟩ := Nat.exists_eq_add_of_le h1
  have e2 : o.j2 = o.j1 + m := by omega
  rw [e1] at h3 h5
  rw [e2] at h4 h5
  refine ⟨m, e1, e2, fun s t hst ht => ⟨⟨⟨⟨Nat.add_le_add_left hst _, Nat.add_le_add_left hst _⟩,
    Nat.le_trans (Nat.add_le_add_left ht _) h3⟩, Nat.le_trans (Nat.add_le_add_left ht _) h4⟩,
    slice_sub a b _ _ m s t h5 ht, by rw [Nat.add_sub_add_left, Nat.add_sub_add_left]⟩⟩

theorem validChain_cons (a b : List Line) (i j : Nat) (o : Op) (os : List Op) (e : Nat × Nat) :
    validChain a b i j (o :: os) = some e ↔
      o.i1 = i ∧ o.j1 = j ∧ validOp a b o = true ∧ validChain a b o.i2 o.j2 os = some e := by
  simp only [validChain]
  split
  · rename_i h; simp [h]
  · rename_i h
    simp only [reduceCtorEq, false_iff]
    intro ⟨h1, h2, h3, _⟩
    exact h ⟨h1, h2, h3⟩

theorem validChain_append (a b : List Line) (xs ys : List Op) (i j mi mj : Nat)
    (h : validChain a b i j xs = some (mi, mj)) :
    validChain a b i j (xs ++ ys) = validChain a b mi mj ys := by
  induction xs generalizing i j with
  | nil =>
    simp only [validChain, Option.some.injEq, Prod.mk.injEq] at h
    obtain ⟨rfl, rfl⟩ := h
    rfl
  | cons x xs ih =>
    obtain ⟨h1, h2, h3, h4⟩ := (validChain_cons a b i j x xs _).mp h
    simp only [List.cons_append, validChain, h1, h2, h3, and_self, if_true]
    exact ih _ _ h4

theorem validChain_le (a b : List Line) (ops : List Op) (i j ei ej : Nat)
    (hv : validChain a b i j ops = some (ei, ej)) (hi : i ≤ a.length) (hj : j ≤ b.length) :
    i ≤ ei ∧ j ≤ ej ∧ ei ≤ a.length ∧ ej ≤ b.length := by
  induction ops generalizing i j with
  | nil =>
    simp only [validChain, Option.some.injEq, Prod.mk.injEq] at hv
    omega
  | cons o os ih =>
    obtain ⟨rfl, rfl, hvo, hc⟩ := (validChain_cons ..).mp hv
    obtain ⟨b1, b2, b3, b4⟩ := validOp_bounds a b o hvo
    have := ih _ _ hc b3 b4
    omega

theorem validChain_getLast (a b : List Line) (ops : List Op) (i j ei ej : Nat)
    (h : validChain a b i j ops = some (ei, ej)) (l : Op) (hl : ops.getLast? = some l) :
    l.i2 = ei ∧ l.j2 = ej := by
  induction ops generalizing i j with
  | nil => simp at hl
  | cons o os ih =>
    obtain ⟨-, -, -, hc⟩ := (validChain_cons ..).mp h
    cases os with
    | nil =>
      simp only [List.getLast?_singleton, Option.some.injEq] at hl
      simpa [validChain, hl] using hc
    | cons o' os' => exact ih _ _ hc (by simpa using hl)

theorem validGroupsFrom_cons (a b : List Line) (pi pj : Nat) (g : Group) (gs : List Group) :
    validGroupsFrom a b pi pj (g :: gs) = true ↔ ∃ o os ei ej, g = o :: os ∧ Gap a b pi pj o.i1 o.j1 ∧
      validChain a b o.i1 o.j1 (o :: os) = some (ei, ej) ∧ validGroupsFrom a b ei ej gs = true := by
  cases g with
  | nil => simp [validGroupsFrom]
  | cons o os =>
    rw [validGroupsFrom]
    constructor
    · intro h
      simp only [Bool.and_eq_true, decide_eq_true_eq] at h
      obtain ⟨⟨⟨⟨h1, h2⟩, h3⟩, h4⟩, h5⟩ := h
      cases hc : validChain a b o.i1 o.j1 (o :: os) with
      | none => simp [hc] at h5
      | some e => exact ⟨o, os, e.1, e.2, rfl, ⟨h1, h2, h3, h4⟩, hc, by simpa [hc] using h5⟩
    · rintro ⟨o', os', ei, ej, he, g, hc, hr⟩
      cases he
      simp [g.hi, g.hj, g.eq, g.len, hc, hr]

theorem groupHunk_chain (a b : List Line) (o : Op) (os : List Op) (ei ej : Nat)
    (h : validChain a b o.i1 o.j1 (o :: os) = some (ei, ej)) :
    groupHunk a b (o :: os) =
      some ⟨o.i1 + 1, ei - o.i1, o.j1 + 1, ej - o.j1, none, (o :: os).flatMap (opLines a b)⟩ := by
  cases hl : (o :: os).getLast? with
  | none => simp at hl
  | some l =>
    obtain ⟨rfl, rfl⟩ := validChain_getLast a b _ _ _ _ _ h l hl
    simp [groupHunk, hl]

theorem mapM_cons_some {α β : Type} (f : α → Option β) (x : α) (xs : List α) (ys : List β) :
    (x :: xs).mapM f = some ys ↔ ∃ y ys', f x = some y ∧ xs.mapM f = some ys' ∧ y :: ys' = ys := by
  cases hx : f x <;> cases hxs : List.mapM f xs <;> simp [List.mapM_cons, hx, hxs]

/-- `fixFirst` changes at most the first hunk, and of it at most a position from 1 to 0 -/
theorem fixFirst_cons (a b : List Line) (h : Hunk) (hs : List Hunk) :
    ∃ o m, fixFirst a b (h :: hs) = { h with origPos := o, modPos := m } :: hs ∧
      o ≤ h.origPos ∧ o - 1 = h.origPos - 1 ∧ m ≤ h.modPos := by
  have same : ∃ o m, h :: hs = { h with origPos := o, modPos := m } :: hs ∧
      o ≤ h.origPos ∧ o - 1 = h.origPos - 1 ∧ m ≤ h.modPos := ⟨_, _, rfl, Nat.le_refl _, rfl, Nat.le_refl _⟩
  simp only [fixFirst]
  split
  · split
    · rename_i hc
      exact ⟨0, _, rfl, Nat.zero_le _, by rw [hc.1], Nat.le_refl _⟩
    · exact same
  · split
    · split
      · exact ⟨_, 0, rfl, Nat.le_refl _, rfl, Nat.zero_le _⟩
      · exact same
    · exact same

theorem fixFirst_lines (a b : List Line) (hs : List Hunk) :
    (fixFirst a b hs).map (·.lines) = hs.map (·.lines) := by
  cases hs with
  | nil => rfl
  | cons h hs =>
    obtain ⟨o, m, e, -⟩ := fixFirst_cons a b h hs
    rw [e]
    rfl

theorem mkHunks_lines (a b : List Line) (gs : List Group) (hs : List Hunk) (hm : mkHunks a b gs = some hs) :
    hs.map (·.lines) = gs.map (·.flatMap (opLines a b)) := by
  simp only [mkHunks, Option.map_eq_some_iff] at hm
  obtain ⟨hs0, hm0, rfl⟩ := hm
  rw [fixFirst_lines]
  induction gs generalizing hs0 with
  | nil => simp at hm0; subst hm0; rfl
  | cons g gs ih =>
    obtain ⟨h, hs', hg, hm', rfl⟩ := (mapM_cons_some ..).mp hm0
    simp only [List.map_cons, ih hs' hm']
    unfold groupHunk at hg
    split at hg
    · simp only [Option.some.injEq] at hg; rw [← hg]
    · simp at hg

end BreezyVerif.C39
