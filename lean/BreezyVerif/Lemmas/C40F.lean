import BreezyVerif.Model.C40F
import BreezyVerif.Lemmas.C47Date
/-
C40 — the directive's timestamp (`format_patch_date` / `parse_patch_date`) and its fields round-trip.
-/
namespace BreezyVerif.C40

open BreezyVerif.C47 (fmtBase parseBase inRange padAtLeast padNat digitsVal length_padNat digitsVal_padNat
  padAtLeast_two parseBase_fmtBase)

theorem length_fmtBase (secs : Int) : (fmtBase secs).length = 19 := by
  simp [fmtBase, length_padNat]

/-- the domain on which a (time, timezone) pair survives the directive's timestamp -/
def dateOK (secs off : Int) : Bool :=
  off % 60 = 0 ∧ (secs = 0 → off = 0) ∧ 0 ≤ secs + off ∧ inRange (secs + off) ∧ off.natAbs < 86400

theorem hm_split (n : Nat) (h : n % 60 = 0) :
    ((n / 3600 : Nat) : Int) * 3600 + ((n / 60 % 60 : Nat) : Int) * 60 = n := by
  have h1 : n / 3600 = n / 60 / 60 := (Nat.div_div_eq_div_mul n 60 60).symm
  have h2 := Nat.div_add_mod (n / 60) 60
  have h3 := Nat.div_add_mod n 60
  rw [h] at h3
  rw [h1]
  omega

theorem digitsVal_pad2 (k : Nat) (h : k < 100) : digitsVal 0 (padNat 2 k) = some k := by
  rw [digitsVal_padNat, Nat.zero_mul, Nat.zero_add, Nat.mod_eq_of_lt h]

theorem parsePatchDate_canonical (x : Int) (neg : Bool) (n : Nat) (h60 : n % 60 = 0) (hn : n < 86400)
    (hr : inRange x = true) :
    parsePatchDate (fmtBase x ++ ' ' :: (if neg then '-' else '+') :: (padNat 2 (n / 3600) ++ padNat 2 (n / 60 % 60))) =
      .ok (x - (if neg then -(n : Int) else n), if neg then -(n : Int) else n) := by
  have hH : n / 3600 < 24 := Nat.div_lt_of_lt_mul hn
  have hM : n / 60 % 60 < 60 := Nat.mod_lt _ (by decide)
  have hl := length_fmtBase x
  have l2 := length_padNat 2 (n / 3600)
  unfold parsePatchDate
  rw [if_neg (by simp [hl, length_padNat])]
  simp only [List.take_left' hl, List.drop_left' hl, List.drop_succ_cons, List.drop_zero, List.take_succ_cons,
    List.take_zero, List.take_left' l2, List.drop_left' l2, digitsVal_pad2 _ (Nat.lt_trans hH (by decide)),
    digitsVal_pad2 _ (Nat.lt_trans hM (by decide))]
  rw [if_neg (by cases neg <;> simp), if_neg (not_or.mpr ⟨Nat.not_le.mpr hH, Nat.not_le.mpr hM⟩)]
  simp only [parseBase_fmtBase x hr, hr, true_and, if_true, hm_split n h60]
  cases neg <;> simp

/-- `parse_patch_date(format_patch_date(t, tz)) = (t, tz)` for every whole-second time and
every offset that is a multiple of a minute, below a day in magnitude, with `t + tz ≥ 0`
in years 0..9999 and (`t = 0 → tz = 0`: the epoch is always written in UTC) -/
theorem patch_date_roundtrip (secs off : Int) (h : dateOK secs off = true) :
    ∃ s, formatPatchDate secs off = .ok s ∧ parsePatchDate s = .ok (secs, off) := by
  simp only [dateOK, Bool.decide_and, Bool.and_eq_true, decide_eq_true_eq] at h
  obtain ⟨h60, hz, hnn, hr, hoff⟩ := h
  have hoff' : (if secs = 0 then 0 else off) = off := by
    split
    · rename_i hs; exact (hz hs).symm
    · rfl
  have hfmt : formatPatchDate secs off = .ok (fmtBase (secs + off) ++ ' ' :: (if off ≥ 0 then '+' else '-') ::
      (padAtLeast 2 (off.natAbs / 3600) ++ padAtLeast 2 (off.natAbs / 60 % 60))) := by
    unfold formatPatchDate
    rw [if_neg fun h => h h60]
    simp only [hoff']
    rw [if_neg (Int.not_lt.mpr hnn), hr]
    rfl
  refine ⟨_, hfmt, ?_⟩
  have hH : off.natAbs / 3600 < 24 := Nat.div_lt_of_lt_mul hoff
  have hM : off.natAbs / 60 % 60 < 60 := Nat.mod_lt _ (by decide)
  rw [padAtLeast_two _ (Nat.lt_trans hH (by decide)), padAtLeast_two _ (Nat.lt_trans hM (by decide))]
  -- the sign written and the magnitude give the offset back
  have hback : (if off ≥ 0 then '+' else '-') = (if decide (off < 0) = true then '-' else '+') ∧
      (if decide (off < 0) = true then -(off.natAbs : Int) else off.natAbs) = off := by
    by_cases hn : off < 0
    · rw [if_neg (Int.not_le.mpr hn), decide_eq_true hn, if_pos rfl, if_pos rfl,
        Int.ofNat_natAbs_of_nonpos (Int.le_of_lt hn), Int.neg_neg]
      exact ⟨rfl, rfl⟩
    · rw [if_pos (Int.not_lt.mp hn), decide_eq_false hn, if_neg Bool.false_ne_true, if_neg Bool.false_ne_true,
        Int.natAbs_of_nonneg (Int.not_lt.mp hn)]
      exact ⟨rfl, rfl⟩
  have hn60 : off.natAbs % 60 = 0 :=
    Nat.mod_eq_zero_of_dvd (Int.natAbs_dvd_natAbs.mpr (Int.dvd_of_emod_eq_zero h60))
  rw [hback.1, parsePatchDate_canonical _ (decide (off < 0)) off.natAbs hn60 hoff hr, hback.2, Int.add_sub_cancel]

/-- the domain on which the fields survive: a testament sha1 is given (not needed by the
tolerant variant), there is a merge source, and the date is in the timestamp's domain -/
def fieldsOKV (tolerant : Bool) (d : Directive Fields) : Bool :=
  (tolerant ∨ d.fields.testamentSha1.isSome) ∧ (d.fields.sourceBranch.isSome ∨ d.bundle.isSome) ∧
    dateOK d.fields.time d.fields.timezone

def fieldsOK (d : Directive Fields) : Bool := fieldsOKV false d

theorem lookup_append (a b : Stanza) (k : Key) : lookup (a ++ b) k = (lookup a k).or (lookup b k) := by
  induction a with
  | nil => rfl
  | cons x a ih =>
    rw [List.cons_append, lookup, lookup]
    split
    · rfl
    · exact ih

theorem lookup_optional (K k : Key) (o : Option Str) :
    lookup (o.map (Prod.mk K)).toList k = if K = k then o else none := by
  cases o with
  | none => simp only [Option.map_none, Option.toList_none, lookup, ite_self]
  | some t => simp only [Option.map_some, Option.toList_some, lookup]

/-- the stanza with its optional tags written as lists, which is what the lookups below read -/
theorem toPairs_eq (f : Fields) : toPairs f = (formatPatchDate f.time f.timezone).map fun ts =>
    [(Key.revisionId, f.revisionId), (Key.targetBranch, f.targetBranch)] ++
      (f.testamentSha1.map (Prod.mk Key.testamentSha1)).toList ++ [(Key.timestamp, ts)] ++
      (f.sourceBranch.map (Prod.mk Key.sourceBranch)).toList ++ (f.message.map (Prod.mk Key.message)).toList ++
      [(Key.baseRevisionId, f.baseRevisionId)] := by
  unfold toPairs
  cases formatPatchDate f.time f.timezone with
  | error e => rfl
  | ok ts => cases f.testamentSha1 <;> cases f.sourceBranch <;> cases f.message <;> rfl

theorem lookup_toPairs {f : Fields} {st : Stanza} (h : toPairs f = .ok st) :
    (∃ ts, formatPatchDate f.time f.timezone = .ok ts ∧ lookup st .timestamp = some ts) ∧
    lookup st .revisionId = some f.revisionId ∧ lookup st .baseRevisionId = some f.baseRevisionId ∧
    lookup st .targetBranch = some f.targetBranch ∧ lookup st .testamentSha1 = f.testamentSha1 ∧
    lookup st .sourceBranch = f.sourceBranch ∧ lookup st .message = f.message := by
  rw [toPairs_eq] at h
  cases hts : formatPatchDate f.time f.timezone with
  | error e => rw [hts] at h; cases h
  | ok ts =>
    rw [hts] at h
    cases h
    refine ⟨⟨ts, rfl, ?_⟩, ?_⟩
    all_goals simp only [lookup_append, lookup_optional, lookup, reduceCtorEq, if_false, if_true, Option.or_some,
      Option.none_or, Option.or_none, Option.getD_none, and_self]

theorem pairs_roundtrip (tolerant : Bool) (d : Directive Fields) (hf : fieldsOKV tolerant d = true) :
    ∃ st, toPairs d.fields = .ok st ∧ fromPairsV tolerant st d.bundle.isSome = .ok d.fields := by
  simp only [fieldsOKV, Bool.decide_and, Bool.decide_or, Bool.and_eq_true, Bool.or_eq_true, decide_eq_true_eq] at hf
  obtain ⟨ht, hsrc, hd⟩ := hf
  obtain ⟨ts, hfmt, hp⟩ := patch_date_roundtrip _ _ hd
  obtain ⟨st, hst⟩ : ∃ st, toPairs d.fields = .ok st := by
    unfold toPairs; rw [hfmt]; exact ⟨_, rfl⟩
  obtain ⟨⟨ts', hfmt', h1⟩, h2, h3, h4, h5, h6, h7⟩ := lookup_toPairs hst
  cases hfmt.symm.trans hfmt'
  refine ⟨st, hst, ?_⟩
  unfold fromPairsV
  simp only [h1, hp, h2, h3, h4, h5, h6, h7]
  -- the constructor's two checks pass: a testament sha1 (or the tolerant variant), a merge source
  rw [if_neg, if_neg]
  · intro h
    rcases hsrc with hs | hs
    · rw [← Option.not_isSome, hs] at h; exact absurd h.1 (by decide)
    · rw [hs] at h; exact absurd h.2 (by decide)
  · intro h
    rcases ht with hs | hs
    · rw [hs] at h; exact absurd h.2 (by decide)
    · rw [← Option.not_isSome, hs] at h; exact absurd h.1 (by decide)

/-- the fields survive every way `read` of carrying the lines through which the directive with the stanza survives -/
theorem fields_roundtrip (tolerant : Bool) (rio : Codec Stanza) (d : Directive Fields)
    (hf : fieldsOKV tolerant d = true) (read : List Line → List Line)
    (h : ∀ st, fromLines rio (read (toLines rio ⟨st, d.patch, d.bundle⟩)) = .ok ⟨st, d.patch, d.bundle⟩) :
    ∃ lines, toLinesF rio d = .ok lines ∧ fromLinesFV tolerant rio (read lines) = .ok d := by
  obtain ⟨st, hst, hback⟩ := pairs_roundtrip tolerant d hf
  refine ⟨toLines rio ⟨st, d.patch, d.bundle⟩, by simp only [toLinesF, hst], ?_⟩
  unfold fromLinesFV
  rw [h st]
  simp only [hback]

end BreezyVerif.C40
