import BreezyVerif.Model.C26
/-!
C26 — what the invariant proofs need to know about one transport step (`lstep`), a failing call
(`lfault`), the start of an operation (`startOp`) and one event of a schedule (`Sys.step`); a schedule in
which one live locker moves alone, as a fold over that locker's state and `held/` (`run_solo`).

What a step can do is listed once, by the relation `LStep`; a fact about a step is stated about the pcs
`p`, `p'` and the other indices of an `h : LStep …`, and a caller who has a step of the machine supplies
`lstep_sound`.
-/
namespace BreezyVerif.C26

/-- pcs of `break_lock` / `force_break` / `force_break_corrupt` -/
def Pc.breaky : Pc → Bool
  | .kPeek | .bPeek _ _ | .bRename _ _ | .bRead _ _ | .bDelete _ | .bRmdir _
  | .xRename _ | .xRead _ | .xDelete | .xRmdir => true
  | _ => false

def Pc.corruptBreak : Pc → Bool
  | .xRename _ | .xRead _ | .xDelete | .xRmdir => true
  | _ => false

/-- pcs at which `_lock_held` must be true (they are entered only through the
`if not self._lock_held` guards of `unlock` / `confirm`) -/
def Pc.needsHeld : Pc → Bool
  | .uConfirm | .uRename | .cPeek => true
  | _ => false

/-- pcs at which the pending directory exists and carries our info -/
def Pc.hasPend : Pc → Bool
  | .aRename | .aPeekC => true
  | .bPeek _ r | .bRename _ r | .bRead _ r | .bDelete r | .bRmdir r => r
  | _ => false

/-- the lock whose info this `force_break` examined and is about to rename away -/
def Pc.expects : Pc → Option Nonce
  | .bPeek x _ | .bRename x _ => some x
  | _ => none

/-- the lock a `force_break` called from `_handle_lock_contention` (a steal) is working on -/
def Pc.stealing : Pc → Option Nonce
  | .bPeek x true | .bRename x true | .bRead x true => some x
  | _ => none

/-- pcs of a break the *user* asked for: `break_lock`, its `force_break` (`ret = false`)
and `force_break_corrupt` -/
def Pc.userBreaky : Pc → Bool
  | .kPeek | .xRename _ | .xRead _ | .xDelete | .xRmdir => true
  | .bPeek _ r | .bRename _ r | .bRead _ r | .bDelete r | .bRmdir r => !r
  | _ => false

def okDir (x : Nonce) : Option Dir := some (some (.ok x))

theorem okDir_inj {a b : Nonce} (h : okDir a = okDir b) : a = b := by
  simpa [okDir] using h
theorem ownerOf_okDir (x : Nonce) : ownerOf (okDir x) = some x.owner := rfl
theorem ownerOf_eq_some {h : Option Dir} {i : Nat} : ownerOf h = some i ↔ ∃ n, h = okDir ⟨i, n⟩ := by
  unfold ownerOf okDir
  split
  · rename_i x; cases x; simp
  · simp_all

section
variable (me : Locker) (k : Kind) (ret : Bool) (e : Res)
@[simp] theorem dropTmp_pc : (dropTmp me k).pc = me.pc := by unfold dropTmp; split <;> rfl
@[simp] theorem dropTmp_held : (dropTmp me k).held = me.held := by unfold dropTmp; split <;> rfl
@[simp] theorem dropTmp_pend : (dropTmp me k).pend = me.pend := by unfold dropTmp; split <;> rfl
@[simp] theorem dropTmp_nonce : (dropTmp me k).nonce = me.nonce := by unfold dropTmp; split <;> rfl
@[simp] theorem dropTmp_tmp : (dropTmp me k).tmp = none := by unfold dropTmp; split <;> simp_all
@[simp] theorem dropPend_pc : (dropPend me).pc = me.pc := by unfold dropPend; split <;> rfl
@[simp] theorem dropPend_held : (dropPend me).held = me.held := by unfold dropPend; split <;> rfl
@[simp] theorem dropPend_tmp : (dropPend me).tmp = me.tmp := by unfold dropPend; split <;> rfl
@[simp] theorem dropPend_nonce : (dropPend me).nonce = me.nonce := by unfold dropPend; split <;> rfl
@[simp] theorem dropPend_pend : (dropPend me).pend = none := by unfold dropPend; split <;> simp_all
@[simp] theorem done_pc : (me.done e).pc = .idle := rfl
@[simp] theorem done_held : (me.done e).held = me.held := rfl
@[simp] theorem done_pend : (me.done e).pend = me.pend := rfl
@[simp] theorem done_tmp : (me.done e).tmp = me.tmp := rfl
@[simp] theorem done_nonce : (me.done e).nonce = me.nonce := rfl
@[simp] theorem breakErr_pc : (breakErr me ret e).pc = if ret then .aCleanDel e else .idle := by
  unfold breakErr; split <;> simp_all
@[simp] theorem breakErr_held : (breakErr me ret e).held = me.held := by unfold breakErr; split <;> rfl
@[simp] theorem breakErr_pend : (breakErr me ret e).pend = me.pend := by unfold breakErr; split <;> rfl
@[simp] theorem breakErr_tmp : (breakErr me ret e).tmp = me.tmp := by unfold breakErr; split <;> rfl
@[simp] theorem breakErr_nonce : (breakErr me ret e).nonce = me.nonce := by unfold breakErr; split <;> rfl
end

theorem breaky_of_corrupt {p : Pc} : p.corruptBreak = true → p.breaky = true := by
  cases p <;> simp [Pc.corruptBreak, Pc.breaky]
theorem breaky_of_expects {p : Pc} {x : Nonce} : p.expects = some x → p.breaky = true := by
  cases p <;> simp [Pc.expects, Pc.breaky]
theorem breaky_of_stealing {p : Pc} {x : Nonce} : p.stealing = some x → p.breaky = true := by
  cases p <;> simp [Pc.stealing, Pc.breaky]
theorem breaky_of_userBreaky {p : Pc} : p.userBreaky = true → p.breaky = true := by
  cases p <;> simp [Pc.userBreaky, Pc.breaky]

theorem peekDir_ok {h : Option Dir} {x : Nonce} : peekDir h = .ok x ↔ h = okDir x := by
  unfold peekDir okDir
  split <;> simp_all

section
variable (id : Nat) (cfg : Nat → Cfg) (crashed : Nat → Bool) (me : Locker) (held : Option Dir)

/-- `LStep id cfg crashed me held p p' flag serial pend disk dec`: a successful transport call of locker `id`
in state `me` at pc `p`, with `held/` as given, can lead to pc `p'` leaving `_lock_held = flag`, the serial of
its nonce `= serial`, its pending directory `= pend`, `held/ = disk`, and taking the decision `dec`; a
hypothesis is what the code found out on the way.  One constructor per edge of the control flow of
`lockdir.py`, edges that differ in nothing the invariants look at being merged (`fin`: every way an
operation ends without `_lock_held = True` being set; `giveUp`: every entry into `_remove_pending_dir`;
`retry`: back to the top of the `while True` of `_attempt_lock`).  Whatever holds of every step is read off
this relation by `cases`, and only `lstep_sound` looks into `lstep` for it; a given step at a given pc is
computed with `lstep` itself. -/
inductive LStep : Pc → Pc → Bool → Nat → Option Dir → Option Dir → Decision → Prop
  /-- an operation ends (or the locker is idle); the confirming `peek` of `_attempt_lock` ends it this way
  only if it did not read our nonce -/
  | fin (p : Pc) (q : Option Dir) (other : p = .aConfirm → held ≠ okDir ⟨id, me.nonce⟩) :
      LStep p .idle me.held me.nonce q held none
  -- `_attempt_lock`: `_create_pending_dir` (mkdir, put), rename into place, the confirming `peek`
  | mkdir (q : Option Dir) : LStep .aMkdir .aPut me.held (me.nonce + 1) q held none
  | put : LStep .aPut .aRename me.held me.nonce (okDir ⟨id, me.nonce⟩) held none
  | renameIn (q : Option Dir) (free : held = none) : LStep .aRename .aConfirm me.held me.nonce q me.pend none
  | contended : LStep .aRename .aPeekC me.held me.nonce me.pend held none
  | confirmed (q : Option Dir) (own : held = okDir ⟨id, me.nonce⟩) : LStep .aConfirm .idle true me.nonce q held none
  -- `_remove_pending_dir`, after `LockContention` or an error inside a steal
  | giveUp (p : Pc) (e : Res) (q : Option Dir) (pc : p.hasPend = true) :
      LStep p (.aCleanDel e) me.held me.nonce q held none
  | cleanDel (e : Res) (q : Option Dir) : LStep (.aCleanDel e) (.aCleanRmdir e) me.held me.nonce q held none
  /-- the lock a steal went for has gone, or the steal is complete -/
  | retry (p : Pc) (pc : p.hasPend = true) : LStep p .aRename me.held me.nonce me.pend held none
  -- `unlock`: `confirm`, rename away, delete, rmdir
  | unlockChecked (q : Option Dir) (own : held = okDir ⟨id, me.nonce⟩) :
      LStep .uConfirm .uRename me.held me.nonce q held none
  | unlockRename (q : Option Dir) : LStep .uRename .uDelete false me.nonce q none none
  | unlockDelete (q : Option Dir) : LStep .uDelete .uRmdir me.held me.nonce q held none
  -- the decisions to break: `_handle_lock_contention` (a steal), `break_lock`
  | steal (x : Nonce) (seen : held = okDir x) (notHeld : me.held = false)
      (dead : stealable cfg crashed id x = true) (on : (cfg id).steal = true) :
      LStep .aPeekC (.bPeek x true) me.held me.nonce me.pend held (some (some x))
  | userBreak (x : Nonce) (q : Option Dir) (seen : held = okDir x) :
      LStep .kPeek (.bPeek x false) me.held me.nonce q held (some (some x))
  | userBreakCorrupt (t : Nat) (q : Option Dir) (seen : peekDir held = .corrupt t) :
      LStep .kPeek (.xRename t) me.held me.nonce q held (some none)
  -- `force_break x`: `peek` (still `x`?), rename away, read back, delete, rmdir
  | examined (x : Nonce) (ret : Bool) (seen : held = okDir x) :
      LStep (.bPeek x ret) (.bRename x ret) me.held me.nonce me.pend held none
  | breakRename (x : Nonce) (ret : Bool) : LStep (.bRename x ret) (.bRead x ret) me.held me.nonce me.pend none none
  | breakRead (x : Nonce) (ret : Bool) : LStep (.bRead x ret) (.bDelete ret) me.held me.nonce me.pend held none
  | breakDelete (ret : Bool) : LStep (.bDelete ret) (.bRmdir ret) me.held me.nonce me.pend held none
  -- `force_break_corrupt`: rename away, read back, delete, rmdir
  | corruptRename (t : Nat) (q : Option Dir) : LStep (.xRename t) (.xRead t) me.held me.nonce q none none
  | corruptRead (t : Nat) (q : Option Dir) : LStep (.xRead t) .xDelete me.held me.nonce q held none
  | corruptDelete (q : Option Dir) : LStep .xDelete .xRmdir me.held me.nonce q held none

end

section
variable {id : Nat} {cfg : Nat → Cfg} {crashed : Nat → Bool} {me : Locker} {held : Option Dir}

/-- Every leaf of `lstep` is an instance of a constructor.  Splitting the one equation `hr` is much quicker
to check than splitting a goal that mentions the step several times; `constructor` finds the constructor by
the pcs and the other indices, and what is left are its hypotheses, which are the conditions on the way to
the leaf. -/
theorem lstep_sound {r : Locker × Option Dir × Decision} (hr : lstep id cfg crashed me held = r) :
    LStep id cfg crashed me held me.pc r.1.pc r.1.held r.1.nonce r.1.pend r.2.1 r.2.2 := by
  unfold lstep breakErr at hr
  generalize hp : me.pc = p at hr ⊢
  split at hr <;> (try split at hr) <;> (try split at hr) <;> (try split at hr) <;> subst hr <;>
    simp only [hp, done_pc, done_held, done_nonce, done_pend, dropTmp_held, dropTmp_nonce, dropTmp_pend,
      dropPend_held, dropPend_nonce] <;>
    constructor <;> first | rfl | simp_all [← peekDir_ok, Pc.hasPend]

variable {p p' : Pc} {fl : Bool} {n : Nat} {q d : Option Dir} {dc : Decision}
  (h : LStep id cfg crashed me held p p' fl n q d dc)
include h

/-- how a step can change `held/` -/
theorem LStep.disk :
    (p = .aRename ∧ held = none ∧ d = me.pend ∧ p' = .aConfirm) ∨
      (p' ≠ .aConfirm ∧ (d = held ∨
        (d = none ∧ ((p = .uRename ∧ fl = false) ∨ (∃ x ret, p = .bRename x ret) ∨ ∃ t, p = .xRename t)))) := by
  cases h <;> simp [*]

theorem LStep.hasPend (hp : p'.hasPend = true) :
    (p.hasPend = true ∧ q = me.pend ∧ n = me.nonce) ∨ q = okDir ⟨id, n⟩ := by
  cases h <;> simp_all [Pc.hasPend]

theorem LStep.dec :
    dc = none ∨ (d = held ∧ fl = me.held ∧
      ((∃ t, dc = some none ∧ p = .kPeek ∧ p' = .xRename t) ∨
       (∃ x, dc = some (some x) ∧ held = okDir x ∧
          ((p = .kPeek ∧ p' = .bPeek x false) ∨
           (p = .aPeekC ∧ p' = .bPeek x true ∧ me.held = false ∧
             stealable cfg crashed id x = true ∧ (cfg id).steal = true))))) := by
  cases h <;> simp [*]

theorem LStep.break_succ (hn : dc = none) (hb : p'.breaky = true) :
    (∃ x b, p = .bPeek x b ∧ p' = .bRename x b ∧ d = held) ∨
    (∃ x b, p = .bRename x b ∧ p' = .bRead x b) ∨
    (∃ x b, p = .bRead x b ∧ p' = .bDelete b) ∨
    (∃ b, p = .bDelete b ∧ p' = .bRmdir b) ∨
    (∃ t, p = .xRename t ∧ p' = .xRead t) ∨
    (∃ t, p = .xRead t ∧ p' = .xDelete) ∨
    (p = .xDelete ∧ p' = .xRmdir) := by
  cases h <;> simp_all [Pc.breaky]

/-- every class of break pcs is closed under going back one step along `LStep.break_succ` -/
theorem LStep.no_decision (hn : dc = none) :
    (p'.breaky = true → p.breaky = true) ∧
    (p'.corruptBreak = true → p.corruptBreak = true) ∧
    (p'.userBreaky = true → p.userBreaky = true) ∧
    (∀ x, p'.stealing = some x → p.stealing = some x) ∧
    (∀ x, p'.expects = some x → p.expects = some x ∧ d = held) ∧
    (∀ x b, p' ≠ .bPeek x b) := by
  by_cases hb : p'.breaky = true
  · rcases h.break_succ hn hb with ⟨x, b, h, h', e⟩ | ⟨x, b, h, h'⟩ | ⟨x, b, h, h'⟩ | ⟨b, h, h'⟩ |
        ⟨t, h, h'⟩ | ⟨t, h, h'⟩ | ⟨h, h'⟩ <;>
      simp [*, Pc.breaky, Pc.corruptBreak, Pc.userBreaky, Pc.expects, Pc.stealing] <;>
      cases b <;> simp
  · exact ⟨fun h => absurd h hb, fun h => absurd (breaky_of_corrupt h) hb,
      fun h => absurd (breaky_of_userBreaky h) hb,
      fun _ h => absurd (breaky_of_stealing h) hb, fun _ h => absurd (breaky_of_expects h) hb,
      fun x b h => hb (by simp [h, Pc.breaky])⟩

theorem LStep.flag :
    fl = me.held ∨ (p = .aConfirm ∧ held = okDir ⟨id, me.nonce⟩ ∧ d = held ∧ fl = true) ∨
      (p = .uRename ∧ d = none ∧ fl = false) := by
  cases h <;> simp [*]

/-- `_lock_held` is true wherever `unlock` / `confirm` need it -/
theorem LStep.need (hh : p.needsHeld = true → me.held = true) (hn : p'.needsHeld = true) : fl = true := by
  cases h <;> simp_all [Pc.needsHeld]

/-- a locker inside a break does not believe it holds the lock: a break is entered with `_lock_held`
false and does not change it -/
theorem LStep.nothold (hh : p.breaky = true → me.held = false) (hb : p'.breaky = true) : fl = false := by
  rcases h.dec with hn | ⟨_, e, ⟨t, _, hk, _⟩ | ⟨x, _, _, ⟨hk, _⟩ | ⟨_, _, hf, _⟩⟩⟩
  · have hb' := (h.no_decision hn).1 hb
    rcases h.flag with e | ⟨e, _⟩ | ⟨e, _⟩
    · rw [e]; exact hh hb'
    · simp [e, Pc.breaky] at hb'
    · simp [e, Pc.breaky] at hb'
  · rw [e]; exact hh (by simp [hk, Pc.breaky])
  · rw [e]; exact hh (by simp [hk, Pc.breaky])
  · rw [e]; exact hf

/-- a claim is kept with `held/` untouched, or is new and then `held/` is our pending directory -/
theorem LStep.claims (hh : p.breaky = true → me.held = false) (hc : (fl || p' == .aConfirm) = true) :
    ((me.held || p == .aConfirm) = true ∧ d = held) ∨ (p = .aRename ∧ held = none ∧ d = me.pend) := by
  rcases h.disk with ⟨h1, h2, h3, _⟩ | ⟨h1, hd⟩
  · exact .inr ⟨h1, h2, h3⟩
  have hf : fl = true := by simpa [h1] using hc
  rcases h.flag with e | ⟨e, _, e', _⟩ | ⟨_, _, e⟩
  · rw [e] at hf
    refine .inl ⟨by simp [hf], ?_⟩
    rcases hd with hd | ⟨_, ⟨_, e'⟩ | ⟨x, ret, e'⟩ | ⟨t, e'⟩⟩
    · exact hd
    · rw [e'] at e; rw [← e] at hf; cases hf
    · simp [hh (by simp [e', Pc.breaky])] at hf
    · simp [hh (by simp [e', Pc.breaky])] at hf
  · exact .inl ⟨by simp [e], e'⟩
  · rw [e] at hf; cases hf

/-- only `mkdir`, the first call of an attempt, draws a new nonce -/
theorem LStep.nonce : n = me.nonce ∨ (p = .aMkdir ∧ n = me.nonce + 1) := by
  cases h <;> simp

end

section
variable (id : Nat) (cfg : Nat → Cfg) (crashed : Nat → Bool) (me : Locker) (held : Option Dir)

/-- what a decision to break was based on -/
theorem lstep_decision (x : Nonce) :
    (lstep id cfg crashed me held).2.2 = some (some x) →
      held = okDir x ∧ (lstep id cfg crashed me held).2.1 = held ∧
      (me.pc = .kPeek ∨ (me.pc = .aPeekC ∧ stealable cfg crashed id x = true ∧ (cfg id).steal = true)) := by
  intro hd
  rcases (lstep_sound (r := lstep id cfg crashed me held) rfl).dec with
    hn | ⟨h1, _, ⟨t, hn, _⟩ | ⟨y, hn, h2, ⟨hk, _⟩ | ⟨ha, _, _, hst⟩⟩⟩ <;> rw [hn] at hd <;> cases hd
  · exact ⟨h2, h1, .inl hk⟩
  · exact ⟨h2, h1, .inr ⟨ha, hst⟩⟩

end

section
variable (k : FaultKind) (me : Locker) (op : Op)

theorem lfault_held : (lfault k me).held = me.held := by
  unfold lfault breakErr; split <;> (try split) <;> simp
theorem lfault_nonce : (lfault k me).nonce = me.nonce := by
  unfold lfault breakErr; split <;> (try split) <;> simp
theorem lfault_pc :
    (lfault k me).pc = .idle ∨ (me.pc = .aRename ∧ (lfault k me).pc = .aPeekC ∧ (lfault k me).pend = me.pend) ∨
      ∃ e, (lfault k me).pc = .aCleanDel e := by
  unfold lfault breakErr; split <;> (try split) <;> simp [*]
theorem lfault_idle : me.pc = .idle → lfault k me = me := by intro h; unfold lfault; simp [h]

theorem lfault_breaky : (lfault k me).pc.breaky = false := by
  rcases lfault_pc k me with h | ⟨_, h, _⟩ | ⟨e, h⟩ <;> simp [h, Pc.breaky]
theorem lfault_needs : (lfault k me).pc.needsHeld = false := by
  rcases lfault_pc k me with h | ⟨_, h, _⟩ | ⟨e, h⟩ <;> simp [h, Pc.needsHeld]
theorem lfault_pend : (lfault k me).pc.hasPend = true → me.pc.hasPend = true ∧ (lfault k me).pend = me.pend := by
  rcases lfault_pc k me with h | ⟨h', h, hp⟩ | ⟨e, h⟩ <;> simp [h, Pc.hasPend]
  exact ⟨by simp [h'], hp⟩
theorem lfault_claims : (lfault k me).claims = true → me.claims = true := by
  rcases lfault_pc k me with h | ⟨_, h, _⟩ | ⟨e, h⟩ <;> simp +contextual [h, Locker.claims, lfault_held]

theorem start_held : (startOp me op).held = me.held := by
  unfold startOp; cases op <;> cases hh : me.held <;> simp [Locker.done, hh]
theorem start_nonce : (startOp me op).nonce = me.nonce := by
  unfold startOp; cases op <;> cases hh : me.held <;> simp [Locker.done]
theorem start_pc :
    (startOp me op).pc = .idle ∨ (startOp me op).pc = .aMkdir ∨
      (me.held = true ∧ ((startOp me op).pc = .uConfirm ∨ (startOp me op).pc = .cPeek)) ∨
      (op = .brk ∧ me.held = false ∧ (startOp me op).pc = .kPeek) := by
  unfold startOp; cases op <;> cases hh : me.held <;> simp [Locker.done]
end

@[simp] theorem upd_same {α : Type} (f : Nat → α) (i : Nat) (a : α) : upd f i a i = a := by simp [upd]
theorem upd_other {α : Type} (f : Nat → α) {i j : Nat} (a : α) (h : j ≠ i) : upd f i a j = f j := by
  simp [upd, h]

theorem step_lk (s : Sys) (e : Ev) (j : Nat) :
    (s.step e).lk j = s.lk j ∨ (s.crashed j = false ∧
      ((∃ op, e = .start j op ∧ (s.lk j).pc = .idle ∧ (s.step e).lk j = startOp (s.lk j) op) ∨
       (∃ k, e = .fault j k ∧ (s.step e).lk j = lfault k (s.lk j)) ∨
       (e = .step j ∧ (s.step e).lk j = (lstep j s.cfg s.crashed (s.lk j) s.held).1))) := by
  cases e with
  | crash i => exact .inl rfl
  | start i op =>
    by_cases hj : j = i
    · subst hj
      by_cases hc : s.crashed j = true
      · simp [Sys.step, hc]
      · by_cases hi : (s.lk j).pc = .idle <;> simp [Sys.step, hc, hi]
    · simp only [Sys.step]; split <;> (try split) <;> simp [upd_other _ _ hj]
  | fault i _ | step i =>
    by_cases hj : j = i
    · subst hj
      by_cases hc : s.crashed j = true <;> simp [Sys.step, hc]
    · simp only [Sys.step]; split <;> simp [upd_other _ _ hj]

theorem step_frame (s : Sys) (e : Ev) :
    ((s.step e).held = s.held ∧ (s.step e).breaks = s.breaks ∧ (s.step e).brokeAlive = s.brokeAlive) ∨
    ∃ i r, e = .step i ∧ s.crashed i = false ∧ lstep i s.cfg s.crashed (s.lk i) s.held = r ∧
      (s.step e).held = r.2.1 ∧ (s.step e).breaks = s.breaks + (if r.2.2.isSome then 1 else 0) ∧
      (s.step e).brokeAlive = (s.brokeAlive || decisionAlive s.crashed r.2.2) := by
  cases e with
  | step i =>
    by_cases hc : s.crashed i = true
    · simp [Sys.step, hc]
    · exact .inr ⟨i, _, rfl, by simpa using hc, rfl, by simp [Sys.step, hc]⟩
  | crash i => exact .inl ⟨rfl, rfl, rfl⟩
  | _ => simp only [Sys.step]; split <;> (try split) <;> exact .inl ⟨rfl, rfl, rfl⟩

@[simp] theorem step_cfg (s : Sys) (e : Ev) : (s.step e).cfg = s.cfg := by
  cases e <;> simp [Sys.step] <;> split <;> (try split) <;> rfl

theorem step_crashed (s : Sys) (e : Ev) (j : Nat) (h : s.crashed j = true) : (s.step e).crashed j = true := by
  cases e with
  | crash i => simp only [Sys.step, upd]; split <;> simp [h]
  | _ => simp only [Sys.step]; split <;> (try split) <;> exact h

theorem run_cons (s : Sys) (e : Ev) (es : List Ev) : s.run (e :: es) = (s.step e).run es := rfl

theorem run_induction {P : Sys → Prop} {C : Ev → Prop} {s : Sys}
    (step : ∀ t e, t.cfg = s.cfg → C e → P t → P (t.step e)) (h : P s) (evs : List Ev)
    (hev : ∀ e ∈ evs, C e) : P (s.run evs) :=
  (List.foldlRecOn (motive := fun t : Sys => t.cfg = s.cfg ∧ P t) evs _ ⟨rfl, h⟩ fun t ht e he =>
    ⟨(step_cfg t e).trans ht.1, step t e ht.1 (hev e he) ht.2⟩).2

/-- an event of locker `i` as it acts on that locker's state and `held/`: all a live locker touches, the
ghosts of `Sys` aside -/
def soloStep (i : Nat) (cfg : Nat → Cfg) (crashed : Nat → Bool) (st : Locker × Option Dir) : Ev → Locker × Option Dir
  | .start _ op => if st.1.pc = .idle then (startOp st.1 op, st.2) else st
  | .step _ => ((lstep i cfg crashed st.1 st.2).1, (lstep i cfg crashed st.1 st.2).2.1)
  | .fault _ k => (lfault k st.1, st.2)
  | .crash _ => st

/-- locker `i` starts an operation, performs a call or has a call fail -/
def Ev.actBy (i : Nat) : Ev → Bool
  | .start j _ | .step j | .fault j _ => j == i
  | .crash _ => false

theorem step_solo {i : Nat} {e : Ev} (he : e.actBy i = true) {s : Sys} (hal : s.crashed i = false) :
    ((s.step e).lk i, (s.step e).held) = soloStep i s.cfg s.crashed (s.lk i, s.held) e ∧
      (s.step e).crashed = s.crashed := by
  cases e with
  | crash j => cases he
  | start j op =>
    obtain rfl : j = i := by simpa [Ev.actBy] using he
    by_cases hi : (s.lk j).pc = .idle <;> simp [Sys.step, soloStep, hal, hi]
  | step j | fault j k =>
    obtain rfl : j = i := by simpa [Ev.actBy] using he
    simp [Sys.step, soloStep, hal]

/-- a run in which only the live locker `i` moves is a run of `soloStep` -/
theorem run_solo (i : Nat) (evs : List Ev) (hev : evs.all (Ev.actBy i) = true) (s : Sys) (hal : s.crashed i = false) :
    (s.run evs).lk i = (evs.foldl (soloStep i s.cfg s.crashed) (s.lk i, s.held)).1 ∧
      (s.run evs).held = (evs.foldl (soloStep i s.cfg s.crashed) (s.lk i, s.held)).2 := by
  induction evs generalizing s with
  | nil => exact ⟨rfl, rfl⟩
  | cons e es ih =>
    rw [List.all_cons, Bool.and_eq_true] at hev
    obtain ⟨h1, h2⟩ := step_solo hev.1 hal
    rw [run_cons, List.foldl_cons, ← h1, ← step_cfg s e, ← h2]
    exact ih hev.2 _ (h2 ▸ hal)
end BreezyVerif.C26
