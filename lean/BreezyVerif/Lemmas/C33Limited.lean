import BreezyVerif.Lemmas.C33Heads
/-!
C33 — the limited recipe's key set, declaratively; ghost keys on the wire.
-/
namespace BreezyVerif.C33

/-- `Reach` from a start *predicate* instead of a start list -/
inductive ReachP (g : PMap) (stop : List Key) (P : Key → Prop) : Key → Prop
  | base {k : Key} : P k → ReachP g stop P k
  | step {j k : Key} {ps : List Key} : ReachP g stop P j → j ∉ stop →
      parentsOf g j = some ps → k ∈ ps → ReachP g stop P k

theorem reach_iff_reachP {g : PMap} {stop start : List Key} {P : Key → Prop}
    (h : ∀ k, k ∈ start ↔ P k) (k : Key) : Reach g stop start k ↔ ReachP g stop P k := by
  constructor
  · intro hr
    induction hr with
    | base hk => exact ReachP.base ((h _).mp hk)
    | step _ hjs hjp hkp ih => exact ReachP.step ih hjs hjp hkp
  · intro hr
    induction hr with
    | base hk => exact Reach.base ((h _).mpr hk)
    | step _ hjs hjp hkp ih => exact Reach.step ih hjs hjp hkp

theorem isEmpty_false_of_ne {pm : PMap} (h : ¬ pm.isEmpty = true) : pm.isEmpty = false := by
  cases pm <;> simp_all

theorem limitedSearchResult_nil {pm : PMap} (h : pm.isEmpty = true) (tips : List Key) (depth : Nat) :
    limitedSearchResult pm tips depth = some ⟨⟨[], [], 0⟩, []⟩ := by
  unfold limitedSearchResult
  rw [if_pos h]

/-- the limited recipe in terms of the client's own walk `sc` from the possible heads with the tips as stop keys:
keys and count are always those of the walk; start and stop keys are left empty for an empty cache, whose walk
keeps no key -/
theorem limitedSearchResult_walk (pm : PMap) (tips : List Key) (depth : Nat) :
    ∃ sc start stop, bfs pm (findPossibleHeads pm tips depth) tips = some sc ∧
      Inv pm tips (findPossibleHeads pm tips depth) sc [] ∧
      limitedSearchResult pm tips depth = some ⟨⟨start, stop, sc.included.length⟩, sc.included⟩ ∧
      ((pm = [] ∧ start = [] ∧ stop = [] ∧ sc.included = []) ∨
       (start = (findPossibleHeads pm tips depth).filter
            (· ∉ (findPossibleHeads pm tips depth).filter fun h => h ∈ sc.queried.flatMap (parentsL pm)) ∧
        stop = dedup sc.stopped)) := by
  obtain ⟨sc, hsc, hinv⟩ := bfs_inv pm (findPossibleHeads pm tips depth) tips
  cases pm with
  | nil =>
    have hK : sc.included = [] := List.eq_nil_iff_forall_not_mem.mpr fun k hk =>
      let ⟨_, _, _, hps⟩ := (mem_included hinv k).mp hk
      nomatch hps
    exact ⟨sc, [], [], hsc, hinv, by rw [hK]; exact limitedSearchResult_nil rfl tips depth, Or.inl ⟨rfl, rfl, rfl, hK⟩⟩
  | cons kv pm =>
    refine ⟨sc, _, _, hsc, hinv, ?_, Or.inr ⟨rfl, rfl⟩⟩
    simp only [limitedSearchResult, runSearch, hsc, List.isEmpty_cons, Bool.false_eq_true, if_false]

/-- membership in the client's own walk, in terms of `Reach` over the cache -/
theorem limited_keys_mem (pm : PMap) (tips : List Key) (depth : Nat) (L : Limited)
    (hL : limitedSearchResult pm tips depth = some L) (k : Key) :
    k ∈ L.keys ↔ Reach pm tips (findPossibleHeads pm tips depth) k ∧ k ∉ tips ∧
      ∃ ps, parentsOf pm k = some ps := by
  obtain ⟨sc, _, _, _, hinv, heq, _⟩ := limitedSearchResult_walk pm tips depth
  cases hL.symm.trans heq
  exact mem_included hinv k

theorem mem_childrenOf {pm : PMap} {p c : Key} : c ∈ childrenOf pm p ↔ ∃ ps, (c, ps) ∈ pm ∧ p ∈ ps := by
  unfold childrenOf
  simp only [List.mem_map, List.mem_filter, decide_eq_true_eq]
  constructor
  · rintro ⟨⟨c', ps⟩, ⟨hm, hp⟩, rfl⟩; exact ⟨ps, hm, hp⟩
  · rintro ⟨ps, hm, hp⟩; exact ⟨(c, ps), ⟨hm, hp⟩, rfl⟩

theorem exists_atDist {pm : PMap} {tips : List Key} : ∀ (n : Nat) (k : Key), PathN pm tips n k →
    ∃ m, m ≤ n ∧ AtDist pm tips m k := by
  intro n
  induction n using Nat.strongRecOn with
  | _ n ih =>
    intro k hp
    by_cases hmin : ∀ m, m < n → ¬ PathN pm tips m k
    · exact ⟨n, Nat.le_refl _, hp, hmin⟩
    · have : ∃ m, m < n ∧ PathN pm tips m k := by
        by_cases hex : ∃ m, m < n ∧ PathN pm tips m k
        · exact hex
        · exact absurd (fun m hm hpm => hex ⟨m, hm, hpm⟩) hmin
      obtain ⟨m, hm, hpm⟩ := this
      obtain ⟨m', hm', hd⟩ := ih m hm k hpm
      exact ⟨m', Nat.le_trans hm' (Nat.le_of_lt hm), hd⟩

/-- **lower bound**: when the tips are not cached themselves (they are the keys
being asked for), every key within `depth` child steps of a tip is reached from
the chosen heads by parent steps through cached non-tip keys -/
theorem reach_of_within (pm : PMap) (tips : List Key) (depth : Nat) (d : Key → Nat)
    (hac : Acyclic d pm) (hnd : (keysOf pm).Nodup) (htips : ∀ t ∈ tips, t ∉ keysOf pm) :
    ∀ (N : Nat) (k : Key), d k = N → k ∈ keysOf pm → (∃ n, n ≤ depth ∧ PathN pm tips n k) →
      Reach pm tips (findPossibleHeads pm tips depth) k := by
  intro N
  induction N using Nat.strongRecOn with
  | _ N ih =>
    intro k hdk hkey ⟨n, hn, hp⟩
    obtain ⟨m, hm, hd⟩ := exists_atDist n k hp
    by_cases hmd : m = depth
    · subst hmd
      exact Reach.base ((findPossibleHeads_char pm tips m k).mpr (Or.inl hd))
    · by_cases hch : childrenOf pm k = []
      · exact Reach.base ((findPossibleHeads_char pm tips depth k).mpr
          (Or.inr ⟨m, Nat.lt_of_le_of_ne (Nat.le_trans hm hn) hmd, hd, hch⟩))
      · obtain ⟨c, hc⟩ := List.exists_mem_of_ne_nil _ hch
        obtain ⟨ps, hmem, hkps⟩ := mem_childrenOf.mp hc
        have hpc : parentsOf pm c = some ps := parentsOf_of_mem hnd hmem
        have hlt : d c < d k := hac (c, ps) hmem k hkps
        have hckey : c ∈ keysOf pm := mem_keys_of_parentsOf hpc
        obtain ⟨t, ht, hs⟩ := hd.1
        have hrc := ih (d c) (hdk ▸ hlt) c rfl hckey
          ⟨m + 1, Nat.lt_of_le_of_ne (Nat.le_trans hm hn) hmd, t, ht, childSteps_snoc hs hc⟩
        exact Reach.step hrc (fun hct => htips c hct hckey) hpc hkps

theorem reach_ghosts {g : PMap} {start stop gs gs' : List Key}
    (hgs : ∀ e ∈ gs, parentsOf g e = none) (hgs' : ∀ e ∈ gs', parentsOf g e = none) (k : Key) :
    (Reach g (gs' ++ stop) (gs ++ start) k ∧ k ∉ gs' ++ stop ∧ ∃ ps, parentsOf g k = some ps) ↔
      (Reach g stop start k ∧ k ∉ stop ∧ ∃ ps, parentsOf g k = some ps) := by
  have h1 : ∀ k, Reach g (gs' ++ stop) (gs ++ start) k → Reach g stop start k ∨ k ∈ gs := by
    intro k hr
    induction hr with
    | base hk =>
      rcases List.mem_append.mp hk with h | h
      · exact Or.inr h
      · exact Or.inl (Reach.base h)
    | step _ hjs hjp hkp ih =>
      rcases ih with ih | ih
      · exact Or.inl (Reach.step ih (fun h => hjs (List.mem_append_right _ h)) hjp hkp)
      · rw [hgs _ ih] at hjp; cases hjp
  have h2 : ∀ k, Reach g stop start k → Reach g (gs' ++ stop) (gs ++ start) k := by
    intro k hr
    induction hr with
    | base hk => exact Reach.base (List.mem_append_right _ hk)
    | step _ hjs hjp hkp ih =>
      refine Reach.step ih ?_ hjp hkp
      intro h
      rcases List.mem_append.mp h with h | h
      · rw [hgs' _ h] at hjp; cases hjp
      · exact hjs h
  constructor
  · rintro ⟨hr, hns, ps, hps⟩
    rcases h1 k hr with h | h
    · exact ⟨h, fun hh => hns (List.mem_append_right _ hh), ps, hps⟩
    · rw [hgs _ h] at hps; cases hps
  · rintro ⟨hr, hns, ps, hps⟩
    refine ⟨h2 k hr, ?_, ps, hps⟩
    intro h
    rcases List.mem_append.mp h with h | h
    · rw [hgs' _ h] at hps; cases hps
    · exact hns h

/-- the server answers `NoSuchRevision` exactly when the number of keys it
walks differs from the count in the recipe (and never with `discard_excess`) -/
theorem recreate_ok_iff (g : PMap) (r : Recipe) (s : Search) (hs : bfs g r.start r.stop = some s) :
    (recreate g r false = some .noSuchRevision ↔ s.included.length ≠ r.count) ∧
    (s.included.length = r.count →
      recreate g r false = some (.ok (dedup r.start) (dedup s.stopped) s.included)) ∧
    recreate g r true = some (.ok (dedup r.start) (dedup s.stopped) s.included) := by
  unfold recreate
  simp only [hs]
  by_cases h : s.included.length = r.count <;> simp [h]

/-- a recipe whose replay walks exactly `K`, and as many keys as its count says, is accepted with `K` -/
theorem recreate_of_exact {g : PMap} {r : Recipe} {K : List Key}
    (h : ∀ s, bfs g r.start r.stop = some s → (∀ k, k ∈ s.included ↔ k ∈ K) ∧ s.included.length = r.count) :
    ∃ a b inc, recreate g r false = some (.ok a b inc) ∧ ∀ k, k ∈ inc ↔ k ∈ K := by
  obtain ⟨s, hs, _⟩ := bfs_inv g r.start r.stop
  exact ⟨_, _, _, (recreate_ok_iff g r s hs).2.1 (h s hs).2, (h s hs).1⟩

/-- a recipe the server accepts is still accepted, with the same included keys,
when ghost keys are added to its start and stop lists -/
theorem recreate_add_ghosts (g : PMap) (r : Recipe) (gs gs' : List Key)
    (hgs : ∀ e ∈ gs, parentsOf g e = none) (hgs' : ∀ e ∈ gs', parentsOf g e = none)
    (a b inc : List Key) (h : recreate g r false = some (.ok a b inc)) :
    ∃ a' b' inc', recreate g ⟨gs ++ r.start, gs' ++ r.stop, r.count⟩ false = some (.ok a' b' inc') ∧
      ∀ k, k ∈ inc' ↔ k ∈ inc := by
  obtain ⟨s, hs, hinv⟩ := bfs_inv g r.start r.stop
  obtain ⟨s', hs', hinv'⟩ := bfs_inv g (gs ++ r.start) (gs' ++ r.stop)
  unfold recreate at h
  simp only [hs, Bool.not_false, Bool.true_and] at h
  split at h
  · cases h
  · rename_i hcount
    simp only [bne_iff_ne, ne_eq, Decidable.not_not] at hcount
    cases h
    have hmem : ∀ k, k ∈ s'.included ↔ k ∈ s.included := by
      intro k
      rw [mem_included hinv' k, mem_included hinv k]
      exact reach_ghosts hgs hgs' k
    have hlen := length_eq_of_mem_iff (nodup_included hinv') (nodup_included hinv) hmem
    exact ⟨_, _, _, (recreate_ok_iff g ⟨gs ++ r.start, gs' ++ r.stop, r.count⟩ s' hs').2.1 (hlen.trans hcount), hmem⟩

end BreezyVerif.C33
