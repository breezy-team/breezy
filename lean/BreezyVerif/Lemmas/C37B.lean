import BreezyVerif.Model.C37
import BreezyVerif.Lemmas.C37
/-! C37 — lemmas for the resolve form of the CAS condition, for the
classification of all two-updater schedules and for containers with a
packed-refs cache. -/
namespace BreezyVerif.C37

/-! ### `current` versus `readRef` / `follow` -/

theorem current_eq_readRef (s : Store) (r : Nat) :
    current s r = (match readRef s r with | some v => v | none => .sha 0) := by
  unfold current readRef
  cases lookup s.loose r with
  | some v => rfl
  | none =>
    cases lookup s.packed r with
    | some x => rfl
    | none => rfl

/-- `follow` fails only on a name that is itself a loose symbolic ref -/
theorem follow_none_sym (s : Store) (n : Nat) (h : follow s n = none) :
    ∃ t, lookup s.loose n = some (.sym t) := by
  unfold follow followAux at h
  cases hr : readRef s n with
  | none => simp [hr] at h
  | some v =>
    cases v with
    | sha x => simp [hr] at h
    | sym t =>
      refine ⟨t, ?_⟩
      unfold readRef at hr
      cases hl : lookup s.loose n with
      | some w => simpa [hl] using hr
      | none =>
        rw [hl] at hr
        cases hp : lookup s.packed n with
        | none => simp [hp] at hr
        | some x => simp [hp] at hr

/-! ### two updaters: every schedule -/

/-- an updater run to completion on `s` without interruption -/
def fin (s : Store) (u : Upd) : Store × Phase := stepUpd s u (readPhase s u)

theorem fin_eq_spec (s : Store) (u : Upd) : fin s u = specUpd s u := by
  unfold fin specUpd readPhase
  cases hk : u.kind with
  | set =>
    simp only [setIfEquals]
    by_cases h : current s (realName s u.name) = .sha u.old
    · simp [h, stepUpd]
    · simp [h, stepUpd]
  | add =>
    simp only [addIfNew]
    cases hf : follow s u.name with
    | none => simp [stepUpd]
    | some p =>
      obtain ⟨names, contents⟩ := p
      cases contents with
      | some c => simp [stepUpd]
      | none => simp [stepUpd]
  | rm =>
    simp only [removeIfEquals]
    by_cases h : current s u.name = .sha u.old
    · simp [h, stepUpd]
    · simp [h, stepUpd]

theorem step_finished (s : Store) (u : Upd) (p : Phase) (h : p.finished = true) : stepUpd s u p = (s, p) := by
  cases p <;> simp [Phase.finished] at h <;> rfl

theorem step_pending (s : Store) (u : Upd) (p : Phase) (h : p.pending = true) : (stepUpd s u p).2 = .done true := by
  cases p <;> simp [Phase.pending] at h <;> rfl

theorem read_fin_or_pending (s : Store) (u : Upd) :
    (readPhase s u).finished = true ∨ (readPhase s u).pending = true := by
  unfold readPhase
  cases u.kind with
  | set => simp only; split <;> simp [Phase.finished, Phase.pending]
  | add =>
    simp only
    cases follow s u.name with
    | none => simp [Phase.finished]
    | some p =>
      obtain ⟨names, contents⟩ := p
      cases contents <;> simp [Phase.finished, Phase.pending]
  | rm => simp only; split <;> simp [Phase.finished, Phase.pending]

theorem pending_not_finished (p : Phase) (h : p.pending = true) : p.finished = false := by
  cases p <;> simp [Phase.pending] at h <;> rfl

theorem step_read_finished (x s : Store) (u : Upd) : (stepUpd x u (readPhase s u)).2.finished = true := by
  rcases read_fin_or_pending s u with h | h
  · rw [step_finished _ _ _ h]; exact h
  · rw [step_pending _ _ _ h]; rfl

theorem fin_finished (s : Store) (u : Upd) : (fin s u).2.finished = true := step_read_finished s s u

theorem fin_of_read_finished (s : Store) (u : Upd) (h : (readPhase s u).finished = true) :
    fin s u = (s, readPhase s u) := step_finished _ _ _ h

/-- the states two updaters can be in, starting from `(s, idle, idle)` -/
inductive Reach (s : Store) (a b : Upd) : Store × Phase × Phase → Prop
  | i00 : Reach s a b (s, .idle, .idle)
  | i10 : Reach s a b (s, readPhase s a, .idle)
  | i01 : Reach s a b (s, .idle, readPhase s b)
  | i11 : Reach s a b (s, readPhase s a, readPhase s b)
  | a20 : Reach s a b ((fin s a).1, (fin s a).2, .idle)
  | a21 : Reach s a b ((fin s a).1, (fin s a).2, readPhase (fin s a).1 b)
  | a22 : Reach s a b ((fin (fin s a).1 b).1, (fin s a).2, (fin (fin s a).1 b).2)
  | b02 : Reach s a b ((fin s b).1, .idle, (fin s b).2)
  | b12 : Reach s a b ((fin s b).1, readPhase (fin s b).1 a, (fin s b).2)
  | b22 : Reach s a b ((fin (fin s b).1 a).1, (fin (fin s b).1 a).2, (fin s b).2)
  | ra21 : Reach s a b ((fin s a).1, (fin s a).2, readPhase s b)
  | ra22 : Reach s a b ((stepUpd (fin s a).1 b (readPhase s b)).1, (fin s a).2,
      (stepUpd (fin s a).1 b (readPhase s b)).2)
  | rb12 : Reach s a b ((fin s b).1, readPhase s a, (fin s b).2)
  | rb22 : Reach s a b ((stepUpd (fin s b).1 a (readPhase s a)).1,
      (stepUpd (fin s b).1 a (readPhase s a)).2, (fin s b).2)

theorem reach_step_a (s : Store) (a b : Upd) (st : Store × Phase × Phase) (h : Reach s a b st) :
    Reach s a b ((stepUpd st.1 a st.2.1).1, (stepUpd st.1 a st.2.1).2, st.2.2) := by
  cases h with
  | i00 => exact .i10
  | i10 => exact .a20
  | i01 => exact .i11
  | i11 => exact .ra21
  | a20 => simp only [step_finished _ a _ (fin_finished s a)]; exact .a20
  | a21 => simp only [step_finished _ a _ (fin_finished s a)]; exact .a21
  | a22 => simp only [step_finished _ a _ (fin_finished s a)]; exact .a22
  | b02 => exact .b12
  | b12 => exact .b22
  | b22 => simp only [step_finished _ a _ (fin_finished (fin s b).1 a)]; exact .b22
  | ra21 => simp only [step_finished _ a _ (fin_finished s a)]; exact .ra21
  | ra22 => simp only [step_finished _ a _ (fin_finished s a)]; exact .ra22
  | rb12 => exact .rb22
  | rb22 => simp only [step_finished _ a _ (step_read_finished (fin s b).1 s a)]; exact .rb22

theorem reach_step_b (s : Store) (a b : Upd) (st : Store × Phase × Phase) (h : Reach s a b st) :
    Reach s a b ((stepUpd st.1 b st.2.2).1, st.2.1, (stepUpd st.1 b st.2.2).2) := by
  cases h with
  | i00 => exact .i01
  | i10 => exact .i11
  | i01 => exact .b02
  | i11 => exact .rb12
  | a20 => exact .a21
  | a21 => exact .a22
  | a22 => simp only [step_finished _ b _ (fin_finished (fin s a).1 b)]; exact .a22
  | b02 => simp only [step_finished _ b _ (fin_finished s b)]; exact .b02
  | b12 => simp only [step_finished _ b _ (fin_finished s b)]; exact .b12
  | b22 => simp only [step_finished _ b _ (fin_finished s b)]; exact .b22
  | ra21 => exact .ra22
  | ra22 => simp only [step_finished _ b _ (step_read_finished (fin s a).1 s b)]; exact .ra22
  | rb12 => simp only [step_finished _ b _ (fin_finished s b)]; exact .rb12
  | rb22 => simp only [step_finished _ b _ (fin_finished s b)]; exact .rb22

theorem reach_run (s : Store) (a b : Upd) (l : List Bool) (st : Store × Phase × Phase) (h : Reach s a b st) :
    Reach s a b (runSched a b l st) := by
  induction l generalizing st with
  | nil => exact h
  | cons c rest ih =>
    obtain ⟨x, pa, pb⟩ := st
    cases c with
    | false => exact ih _ (reach_step_a s a b _ h)
    | true => exact ih _ (reach_step_b s a b _ h)

/-- sequential outcome "A then B" / "B then A" / the two raced outcomes -/
def seqAB (s : Store) (a b : Upd) : Store × Phase × Phase :=
  ((fin (fin s a).1 b).1, (fin s a).2, (fin (fin s a).1 b).2)

def seqBA (s : Store) (a b : Upd) : Store × Phase × Phase :=
  ((fin (fin s b).1 a).1, (fin (fin s b).1 a).2, (fin s b).2)

def racedAB (s : Store) (a b : Upd) : Store × Phase × Phase :=
  ((stepUpd (fin s a).1 b (readPhase s b)).1, (fin s a).2, (stepUpd (fin s a).1 b (readPhase s b)).2)

def racedBA (s : Store) (a b : Upd) : Store × Phase × Phase :=
  ((stepUpd (fin s b).1 a (readPhase s a)).1, (stepUpd (fin s b).1 a (readPhase s a)).2, (fin s b).2)

theorem reach_finished (s : Store) (a b : Upd) (st : Store × Phase × Phase) (h : Reach s a b st)
    (ha : st.2.1.finished = true) (hb : st.2.2.finished = true) :
    st = seqAB s a b ∨ st = seqBA s a b ∨
      ((readPhase s a).pending = true ∧ (readPhase s b).pending = true ∧
        (st = racedAB s a b ∨ st = racedBA s a b)) := by
  cases h with
  | i00 => simp [Phase.finished] at ha
  | i10 => simp [Phase.finished] at hb
  | i01 => simp [Phase.finished] at ha
  | a20 => simp [Phase.finished] at hb
  | b02 => simp [Phase.finished] at ha
  | i11 =>
    left
    simp only at ha hb
    simp [seqAB, fin_of_read_finished s a ha, fin_of_read_finished s b hb]
  | a21 =>
    left
    simp only at hb
    simp [seqAB, fin_of_read_finished _ b hb]
  | a22 => left; rfl
  | b12 =>
    right; left
    simp only at ha
    simp [seqBA, fin_of_read_finished _ a ha]
  | b22 => right; left; rfl
  | ra21 =>
    right; left
    simp only at hb
    have hE := fin_of_read_finished s b hb
    simp only [seqBA, hE]
  | rb12 =>
    left
    simp only at ha
    have hE := fin_of_read_finished s a ha
    simp only [seqAB, hE]
  | ra22 =>
    rcases read_fin_or_pending s b with hfb | hpb
    · right; left
      have hE := fin_of_read_finished s b hfb
      simp only [seqBA, hE, step_finished _ b _ hfb]
    · rcases read_fin_or_pending s a with hfa | hpa
      · left
        have hE := fin_of_read_finished s a hfa
        simp only [seqAB, hE]
        rfl
      · right; right
        exact ⟨hpa, hpb, Or.inl rfl⟩
  | rb22 =>
    rcases read_fin_or_pending s a with hfa | hpa
    · left
      have hE := fin_of_read_finished s a hfa
      simp only [seqAB, hE, step_finished _ a _ hfa]
    · rcases read_fin_or_pending s b with hfb | hpb
      · right; left
        have hE := fin_of_read_finished s b hfb
        simp only [seqBA, hE]
        rfl
      · right; right
        exact ⟨hpa, hpb, Or.inr rfl⟩

/-! progress: two moves finish an updater -/

/-- the moves an updater still needs -/
def Phase.movesLeft : Phase → Nat
  | .idle => 2
  | .willWrite _ => 1
  | .willDel _ => 1
  | .done _ => 0
  | .raised => 0

theorem finished_of_movesLeft (p : Phase) (h : p.movesLeft = 0) : p.finished = true := by
  cases p <;> first | rfl | cases h

theorem movesLeft_read (s : Store) (u : Upd) : (readPhase s u).movesLeft ≤ 1 := by
  have h := read_fin_or_pending s u
  revert h
  cases readPhase s u <;> simp [Phase.finished, Phase.pending, Phase.movesLeft]

theorem movesLeft_step (s : Store) (u : Upd) (p : Phase) : (stepUpd s u p).2.movesLeft ≤ p.movesLeft - 1 := by
  cases p with
  | idle => exact movesLeft_read s u
  | _ => exact Nat.zero_le _

theorem movesLeft_run (a b : Upd) (l : List Bool) (st : Store × Phase × Phase) :
    (runSched a b l st).2.1.movesLeft ≤ st.2.1.movesLeft - l.count false ∧
      (runSched a b l st).2.2.movesLeft ≤ st.2.2.movesLeft - l.count true := by
  induction l generalizing st with
  | nil => exact ⟨Nat.le_refl _, Nat.le_refl _⟩
  | cons c rest ih =>
    obtain ⟨x, pa, pb⟩ := st
    cases c with
    | false =>
      obtain ⟨h1, h2⟩ := ih ((stepUpd x a pa).1, (stepUpd x a pa).2, pb)
      rw [List.count_cons_self, List.count_cons_of_ne (by decide), Nat.add_comm, Nat.sub_add_eq]
      exact ⟨Nat.le_trans h1 (Nat.sub_le_sub_right (movesLeft_step x a pa) _), h2⟩
    | true =>
      obtain ⟨h1, h2⟩ := ih ((stepUpd x b pb).1, pa, (stepUpd x b pb).2)
      rw [List.count_cons_self, List.count_cons_of_ne (by decide), Nat.add_comm, Nat.sub_add_eq]
      exact ⟨h1, Nat.le_trans h2 (Nat.sub_le_sub_right (movesLeft_step x b pb) _)⟩

/-! ### containers with a packed-refs cache -/

theorem view_coherent (c : Cache) (s : Store) (h : coherent c s = true) : view c s = s := by
  cases c with
  | none => rfl
  | some p =>
    simp only [coherent, beq_iff_eq] at h
    subst h
    cases s; rfl

theorem coherent_none (s : Store) : coherent none s = true := rfl

theorem coherent_same_packed (c : Cache) (s s' : Store) (hp : s'.packed = s.packed) (h : coherent c s = true) :
    coherent c s' = true := by
  cases c with
  | none => rfl
  | some p => simpa [coherent, hp] using h

/-- a coherent cache stays coherent when packed-refs is (perhaps) loaded and then left alone -/
theorem coherent_load (b : Bool) (c : Cache) (s s' : Store) (hp : s'.packed = s.packed) (h : coherent c s = true) :
    coherent (if b then some s.packed else c) s' = true := by
  cases b with
  | false => exact coherent_same_packed c s s' hp h
  | true => simp [coherent, hp]

/-- a container whose cache is coherent behaves as the specification and its cache stays coherent
(every operation except the outside `pack`, which no container performs) -/
theorem stepC_eq_spec (c : Cache) (s : Store) (op : Op) (h : coherent c s = true) :
    ∃ c', stepC c s op = ((specStep s op).1, (specStep s op).2, c') ∧
      ((∀ n, op ≠ .pack n) → coherent c' (specStep s op).2 = true) := by
  have hv := view_coherent c s h
  cases op with
  | set n old new =>
    simp only [stepC, specStep, setIfEquals, hv]
    cases old with
    | none => exact ⟨_, rfl, fun _ => coherent_load _ c s _ rfl h⟩
    | some o =>
      by_cases hcur : current s (realName s n) = .sha o
      · simp only [if_pos hcur]
        exact ⟨_, rfl, fun _ => coherent_load _ c s _ rfl h⟩
      · simp only [if_neg hcur]
        exact ⟨_, rfl, fun _ => coherent_load _ c s _ rfl h⟩
  | rm n old =>
    simp only [stepC, specStep, removeIfEquals, hv]
    have hgo : coherent (some (erase s.packed n)) (del s n) = true := by simp [coherent, del]
    cases old with
    | none => exact ⟨_, rfl, fun _ => hgo⟩
    | some o =>
      by_cases hcur : current s n = .sha o
      · simp only [if_pos hcur]
        exact ⟨_, rfl, fun _ => hgo⟩
      · simp only [if_neg hcur]
        exact ⟨_, rfl, fun _ => coherent_load _ c s _ rfl h⟩
  | add n x =>
    simp only [stepC, specStep, addIfNew, hv]
    cases follow s n with
    | none => exact ⟨_, rfl, fun _ => coherent_load _ c s _ rfl h⟩
    | some p =>
      obtain ⟨names, contents⟩ := p
      cases contents with
      | some v => exact ⟨_, rfl, fun _ => coherent_load _ c s _ rfl h⟩
      | none => exact ⟨_, rfl, fun _ => coherent_load _ c s _ rfl h⟩
  | pack n => exact ⟨c, rfl, fun hne => absurd rfl (hne n)⟩

/-- operations that leave packed-refs alone -/
def Op.keepsPacked : Op → Bool
  | .set _ _ _ => true
  | .add _ _ => true
  | _ => false

theorem stepC_keepsPacked (c : Cache) (s : Store) (op : Op) (hk : op.keepsPacked = true) :
    (stepC c s op).2.1.packed = s.packed := by
  cases op with
  | set n old new =>
    simp only [stepC]
    cases old with
    | none => rfl
    | some o => simp only []; split <;> rfl
  | add n x =>
    simp only [stepC]
    cases follow (view c s) n with
    | none => rfl
    | some p =>
      obtain ⟨names, contents⟩ := p
      cases contents <;> rfl
  | rm n old => simp [Op.keepsPacked] at hk
  | pack n => simp [Op.keepsPacked] at hk

theorem Op.keepsPacked_not_pack (op : Op) (hk : op.keepsPacked = true) : ∀ n, op ≠ .pack n := by
  intro n e; subst e; simp [Op.keepsPacked] at hk

/-- the state `runCC` and `cohRun` go on from when `who` has done `op` with outcome `r` -/
def nextCC (who : Bool) (op : Op) (r : Res × Store × Cache) (ca cb : Cache) : Store × Cache × Cache :=
  match op with
  | .pack _ => (r.2.1, ca, cb)
  | _ => if who then (r.2.1, ca, r.2.2) else (r.2.1, r.2.2, cb)

theorem nextCC_fst (who : Bool) (op : Op) (r : Res × Store × Cache) (ca cb : Cache) :
    (nextCC who op r ca cb).1 = r.2.1 := by
  cases op <;> cases who <;> rfl

theorem nextCC_of_ne_pack (who : Bool) (op : Op) (r : Res × Store × Cache) (ca cb : Cache)
    (h : ∀ n, op ≠ .pack n) :
    nextCC who op r ca cb = if who then (r.2.1, ca, r.2.2) else (r.2.1, r.2.2, cb) := by
  cases op with
  | pack n => exact absurd rfl (h n)
  | _ => rfl

/-- a run of two containers is the specification whenever `good`, a condition on what remains of the
run, makes each step agree with the specification and holds again afterwards -/
theorem runCC_eq_runSpec (step : Cache → Store → Op → Res × Store × Cache)
    (good : List (Bool × Op) → Store × Cache × Cache → Prop)
    (hgood : ∀ who op rest s ca cb, good ((who, op) :: rest) (s, ca, cb) →
      (step (if who then cb else ca) s op).1 = (specStep s op).1 ∧
      (step (if who then cb else ca) s op).2.1 = (specStep s op).2 ∧
      good rest (nextCC who op (step (if who then cb else ca) s op) ca cb))
    (l : List (Bool × Op)) (st : Store × Cache × Cache) (h : good l st) :
    (runCC step l st).1 = (runSpec (l.map Prod.snd) st.1).1 ∧
      (runCC step l st).2.1 = (runSpec (l.map Prod.snd) st.1).2 := by
  induction l generalizing st with
  | nil => exact ⟨rfl, rfl⟩
  | cons e rest ih =>
    obtain ⟨who, op⟩ := e
    obtain ⟨s, ca, cb⟩ := st
    obtain ⟨h1, h2, h3⟩ := hgood _ _ _ _ _ _ h
    have := ih _ h3
    rw [nextCC_fst, h2] at this
    exact ⟨congr (congrArg List.cons h1) this.1, this.2⟩

theorem cohRun_cons (who : Bool) (op : Op) (rest : List (Bool × Op)) (s : Store) (ca cb : Cache) :
    cohRun ((who, op) :: rest) (s, ca, cb) =
      ((match op with
        | .pack _ => true
        | _ => coherent (if who then cb else ca) s) &&
        cohRun rest (nextCC who op (stepC (if who then cb else ca) s op) ca cb)) := rfl

end BreezyVerif.C37
