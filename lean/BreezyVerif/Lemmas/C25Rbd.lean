import BreezyVerif.Model.C25
/-!
C25 — `reverse_by_depth` (`rbd`) in closed form: `rbdS`, a function on the list alone that the model's
fuelled recursion over depths computes (`rbd_eq`).  What is proved about `rbd` is proved about `rbdS`.
-/
namespace BreezyVerif.C25
open BreezyVerif.C22

/-- fuel needed at level `d` -/
def need (d : Nat) (l : List V) : Nat := (l.map fun v => v.depth - d + 1).sum

theorem need_nil (d : Nat) : need d [] = 0 := rfl

theorem need_cons (d : Nat) (v : V) (l : List V) : need d (v :: l) = (v.depth - d + 1) + need d l := by
  simp [need]

theorem need_sublist {d : Nat} : ∀ {l1 l2 : List V}, List.Sublist l1 l2 → need d l1 ≤ need d l2 := by
  intro l1 l2 h
  induction h with
  | slnil => exact Nat.le_refl _
  | cons a _ ih => rw [need_cons]; omega
  | cons_cons a _ ih => rw [need_cons, need_cons]; omega

theorem need_succ (d : Nat) : ∀ (t : List V), (∀ v ∈ t, d + 1 ≤ v.depth) →
    need d t = need (d + 1) t + t.length
  | [], _ => rfl
  | v :: t, h => by
    rw [need_cons, need_cons, need_succ d t (fun x hx => h x (List.mem_cons_of_mem _ hx))]
    have := h v (List.mem_cons_self ..)
    simp only [List.length_cons]
    omega

/-- a part of `l` without revisions of depth `d` lies deeper and needs less fuel -/
theorem deeper {d fuel : Nat} {l t : List V} (hd : ∀ v ∈ l, d ≤ v.depth) (hfuel : need d l < fuel + 1)
    (hsub : List.Sublist t l) (hne : ∀ v ∈ t, v.depth ≠ d) (ht : t ≠ []) :
    (∀ v ∈ t, d + 1 ≤ v.depth) ∧ need (d + 1) t < fuel := by
  have hd1 : ∀ v ∈ t, d + 1 ≤ v.depth := fun v hv =>
    Nat.lt_of_le_of_ne (hd v (hsub.subset hv)) (Ne.symm (hne v hv))
  have h1 := need_succ d t hd1
  have h2 := need_sublist (d := d) hsub
  have h3 := List.length_pos_iff.mpr ht
  exact ⟨hd1, by omega⟩

theorem chunk_cons (d : Nat) (v : V) (l : List V) :
    chunk d (v :: l) = if v.depth == d then ([], (v, (chunk d l).1) :: (chunk d l).2)
      else (v :: (chunk d l).1, (chunk d l).2) := rfl

/-- what `chunk` computes -/
theorem chunk_spec (d : Nat) : ∀ (l : List V),
    l = (chunk d l).1 ++ ((chunk d l).2.map fun c => c.1 :: c.2).flatten ∧
    (∀ v ∈ (chunk d l).1, v.depth ≠ d) ∧ List.Sublist (chunk d l).1 l ∧
    (∀ c ∈ (chunk d l).2, c.1.depth = d ∧ (∀ v ∈ c.2, v.depth ≠ d) ∧ List.Sublist c.2 l)
  | [] => ⟨rfl, (fun _ h => by cases h), List.Sublist.slnil, (fun _ h => by cases h)⟩
  | v :: l => by
    obtain ⟨h1, h2, h3, h4⟩ := chunk_spec d l
    rw [chunk_cons]
    by_cases hv : (v.depth == d) = true
    · simp only [hv, if_true]
      refine ⟨?_, (fun _ h => by cases h), List.nil_sublist _, ?_⟩
      · simp only [List.nil_append, List.map_cons, List.flatten_cons, List.cons_append]
        rw [← h1]
      · intro c hc
        rcases List.mem_cons.mp hc with rfl | hc
        · exact ⟨by simpa using hv, h2, h3.cons _⟩
        · obtain ⟨a, b, c'⟩ := h4 c hc
          exact ⟨a, b, c'.cons _⟩
    · simp only [hv, Bool.false_eq_true, if_false]
      refine ⟨?_, ?_, h3.cons_cons _, ?_⟩
      · simp only [List.cons_append]
        rw [← h1]
      · intro x hx
        rcases List.mem_cons.mp hx with rfl | hx
        · simpa using hv
        · exact h2 x hx
      · intro c hc
        obtain ⟨a, b, c'⟩ := h4 c hc
        exact ⟨a, b, c'.cons _⟩

/-- the revisions of depth `d` are the heads of the chunks -/
theorem chunk_heads (d : Nat) : ∀ l : List V, l.filter (fun v => v.depth == d) = (chunk d l).2.map (·.1)
  | [] => rfl
  | v :: l => by
    rw [chunk_cons, List.filter_cons, chunk_heads d l]
    cases v.depth == d <;> rfl

/-- pointwise relation between two lists of the same length -/
def Rel2 {α β : Type} (P : α → β → Prop) : List α → List β → Prop
  | [], [] => True
  | a :: l, b :: bs => P a b ∧ Rel2 P l bs
  | _, _ => False

theorem mapM_rel_of_some {α β : Type} (f : α → Option β) (P : α → β → Prop) : ∀ (l : List α) (bs : List β),
    l.mapM f = some bs → (∀ a ∈ l, ∀ b, f a = some b → P a b) → Rel2 P l bs
  | [], bs, h, _ => by
    simp at h; subst h; trivial
  | a :: l, bs, h, hp => by
    simp only [List.mapM_cons, Option.bind_eq_bind] at h
    cases hfa : f a with
    | none => simp [hfa] at h
    | some b =>
      cases hl : l.mapM f with
      | none => simp [hfa, hl] at h
      | some bs' =>
        simp [hfa, hl] at h
        subst h
        exact ⟨hp a (List.mem_cons_self ..) b hfa,
          mapM_rel_of_some f P l bs' hl (fun x hx => hp x (List.mem_cons_of_mem _ hx))⟩

theorem filter_nil_of_perm {p : V → Bool} {a b : List V} (h : a.Perm b) (hb : ∀ v ∈ b, p v = false) :
    a.filter p = [] := by
  rw [List.filter_eq_nil_iff]
  intro v hv
  rw [hb v (h.mem_iff.mp hv)]
  exact Bool.false_ne_true

theorem flatten_map_singleton {α β : Type} (f : α → β) : ∀ (l : List α), (l.map fun a => [f a]).flatten = l.map f
  | [] => rfl
  | a :: l => by simp [flatten_map_singleton f l]

theorem rbd_succ (fuel d : Nat) (l : List V) :
    rbd (fuel + 1) d l =
      match (if (chunk d l).1.isEmpty then some [] else rbd fuel (d + 1) (chunk d l).1),
        (chunk d l).2.mapM (fun c => (if c.2.isEmpty then some [] else rbd fuel (d + 1) c.2).map (c.1 :: ·)) with
      | some pre', some cs' => some (cs'.reverse.flatten ++ pre')
      | _, _ => none := rfl

/-- the statement proved about `rbd` -/
def RbdOk (d : Nat) (l r : List V) : Prop :=
  r.Perm l ∧ r.filter (fun v => v.depth == d) = (l.filter fun v => v.depth == d).reverse

/-- `reverse_by_depth` in closed form, without fuel and without the recursion over depths: going through the
list from its end, each revision is put in front of the revisions it encloses (the run of deeper revisions
that follows it), which by then stand at the end of the result.  (The result is the post-order of the forest, reversed.) -/
def rbdS : List V → List V
  | [] => []
  | v :: l =>
    let k := (rbdS l).length - (l.takeWhile fun x => v.depth < x.depth).length
    (rbdS l).take k ++ v :: (rbdS l).drop k

theorem rbdS_cons (v : V) (l : List V) : rbdS (v :: l) =
    (rbdS l).take ((rbdS l).length - (l.takeWhile fun x => v.depth < x.depth).length) ++
      v :: (rbdS l).drop ((rbdS l).length - (l.takeWhile fun x => v.depth < x.depth).length) := rfl

theorem rbdS_perm : ∀ l : List V, (rbdS l).Perm l
  | [] => .refl _
  | v :: l => by
    rw [rbdS_cons]
    refine List.perm_middle.trans (List.Perm.cons v ?_)
    rw [List.take_append_drop]
    exact rbdS_perm l

theorem rbdS_length (l : List V) : (rbdS l).length = l.length := (rbdS_perm l).length_eq

/-- a revision stays in front of the revisions it encloses -/
theorem rbdS_cons_deeper (v : V) (t : List V) (h : ∀ x ∈ t, v.depth < x.depth) : rbdS (v :: t) = v :: rbdS t := by
  have : (t.takeWhile fun x => v.depth < x.depth) = t := by
    have := List.takeWhile_append_of_pos (p := fun x : V => decide (v.depth < x.depth)) (l₁ := t) (l₂ := [])
      (fun x hx => by simpa using h x hx)
    simpa using this
  rw [rbdS_cons, this, rbdS_length, Nat.sub_self]
  rfl

theorem takeWhile_append_stop {p : V → Bool} : ∀ (a b : List V), (∀ y, b.head? = some y → p y = false) →
    (a ++ b).takeWhile p = a.takeWhile p
  | [], [], _ => rfl
  | [], y :: b, h => by simp [h y rfl]
  | x :: a, b, h => by
    simp only [List.cons_append, List.takeWhile_cons, takeWhile_append_stop a b h]

/-- **`reverse_by_depth` exchanges two parts of the list when the second starts at a depth that nothing in the
first goes below** (in particular at the depth being reversed). -/
theorem rbdS_append : ∀ (t l' : List V), (∀ x ∈ t, ∀ y, l'.head? = some y → y.depth ≤ x.depth) →
    rbdS (t ++ l') = rbdS l' ++ rbdS t
  | [], l', _ => by simp [rbdS]
  | x :: t, l', h => by
    have ih := rbdS_append t l' (fun z hz => h z (List.mem_cons_of_mem _ hz))
    have hstop : ((t ++ l').takeWhile fun z => x.depth < z.depth) = t.takeWhile fun z => x.depth < z.depth :=
      takeWhile_append_stop t l' fun y hy => by simpa using h x (List.mem_cons_self ..) y hy
    have hm : (t.takeWhile fun z => x.depth < z.depth).length ≤ (rbdS t).length := by
      rw [rbdS_length]; exact (List.takeWhile_sublist _).length_le
    rw [List.cons_append, rbdS_cons, rbdS_cons, hstop, ih, List.length_append, Nat.add_sub_assoc hm,
      List.take_length_add_append, List.drop_length_add_append, List.append_assoc]

theorem blocks_head_depth {d : Nat} {bs : List (V × List V)} (h : ∀ b ∈ bs, b.1.depth = d) {y : V}
    (hy : (bs.map fun b => b.1 :: b.2).flatten.head? = some y) : y.depth = d := by
  cases bs with
  | nil => cases hy
  | cons b _ => cases hy; exact h b (List.mem_cons_self ..)

/-- **`reverse_by_depth` on a list given block by block** (a revision of depth `d` followed by deeper ones):
the blocks in the opposite order, each with its tail reversed by depth in turn. -/
theorem rbdS_blocks (d : Nat) : ∀ (bs : List (V × List V)), (∀ b ∈ bs, b.1.depth = d ∧ ∀ v ∈ b.2, d < v.depth) →
    rbdS (bs.map fun b => b.1 :: b.2).flatten = (bs.map fun b => b.1 :: rbdS b.2).reverse.flatten
  | [], _ => rfl
  | b :: bs, h => by
    have hb := h b (List.mem_cons_self ..)
    have hbs := fun x hx => h x (List.mem_cons_of_mem _ hx)
    rw [List.map_cons, List.flatten_cons, rbdS_append, rbdS_blocks d bs hbs, rbdS_cons_deeper _ _ (hb.1 ▸ hb.2)]
    · simp
    · intro x hx y hy
      have hy' := blocks_head_depth (fun b' hb' => (hbs b' hb').1) hy
      rcases List.mem_cons.mp hx with rfl | hx
      · omega
      · have := hb.2 x hx; omega

/-- the closed form along the decomposition `chunk d` (no fuel involved) -/
theorem rbdS_chunk (d : Nat) (l : List V) (hd : ∀ v ∈ l, d ≤ v.depth) :
    rbdS l = ((chunk d l).2.map fun c => c.1 :: rbdS c.2).reverse.flatten ++ rbdS (chunk d l).1 := by
  obtain ⟨heq, hpre, hpresub, hcs⟩ := chunk_spec d l
  have hdeep : ∀ t : List V, List.Sublist t l → (∀ v ∈ t, v.depth ≠ d) → ∀ v ∈ t, d < v.depth :=
    fun t hsub hne v hv => Nat.lt_of_le_of_ne (hd v (hsub.subset hv)) (Ne.symm (hne v hv))
  have hblocks : ∀ b ∈ (chunk d l).2, b.1.depth = d ∧ ∀ v ∈ b.2, d < v.depth :=
    fun b hb => ⟨(hcs b hb).1, hdeep b.2 (hcs b hb).2.2 (hcs b hb).2.1⟩
  conv => lhs; rw [heq]
  rw [rbdS_append, rbdS_blocks d _ hblocks]
  intro x hx y hy
  have hy' := blocks_head_depth (fun b hb => (hblocks b hb).1) hy
  have := hdeep _ hpresub hpre x hx
  omega

theorem mapM_eq_map {α β : Type} (f : α → Option β) (g : α → β) : ∀ (l : List α),
    (∀ a ∈ l, f a = some (g a)) → l.mapM f = some (l.map g)
  | [], _ => rfl
  | a :: l, h => by
    simp [List.mapM_cons, h a (List.mem_cons_self ..), mapM_eq_map f g l (fun x hx => h x (List.mem_cons_of_mem _ hx))]

/-- **the model's `rbd` computes the closed form** whenever the fuel suffices -/
theorem rbd_eq : ∀ (fuel d : Nat) (l : List V), (∀ v ∈ l, d ≤ v.depth) → need d l < fuel →
    rbd fuel d l = some (rbdS l) := by
  intro fuel
  induction fuel with
  | zero => intro d l _ h; omega
  | succ fuel ih =>
    intro d l hd hfuel
    obtain ⟨heq, hpre, hpresub, hcs⟩ := chunk_spec d l
    have sub : ∀ t : List V, List.Sublist t l → (∀ v ∈ t, v.depth ≠ d) →
        (if t.isEmpty then some [] else rbd fuel (d + 1) t) = some (rbdS t) := by
      intro t hsub hne
      cases t with
      | nil => rfl
      | cons x t =>
        obtain ⟨hd1, hn⟩ := deeper hd hfuel hsub hne (List.cons_ne_nil x t)
        exact ih (d + 1) (x :: t) hd1 hn
    rw [rbd_succ, sub _ hpresub hpre, mapM_eq_map _ (fun c => c.1 :: rbdS c.2) _
      (fun c hc => by rw [sub c.2 (hcs c hc).2.2 (hcs c hc).2.1]; rfl), rbdS_chunk d l hd]

theorem rbdS_filter (d : Nat) (l : List V) (hd : ∀ v ∈ l, d ≤ v.depth) :
    (rbdS l).filter (fun v => v.depth == d) = (l.filter fun v => v.depth == d).reverse := by
  obtain ⟨_, hpre, _, hcs⟩ := chunk_spec d l
  have hnone : ∀ t : List V, (∀ v ∈ t, v.depth ≠ d) → (rbdS t).filter (fun v => v.depth == d) = [] :=
    fun t ht => filter_nil_of_perm (rbdS_perm t) (fun v hv => by simpa using ht v hv)
  have hblock : ∀ c ∈ (chunk d l).2, (c.1 :: rbdS c.2).filter (fun v => v.depth == d) = [c.1] := by
    intro c hc
    have h1 : (c.1.depth == d) = true := by simpa using (hcs c hc).1
    rw [List.filter_cons, h1, if_pos rfl, hnone c.2 (hcs c hc).2.1]
  rw [rbdS_chunk d l hd, List.filter_append, hnone _ hpre, List.append_nil, List.filter_flatten,
    List.map_reverse, List.map_map, List.map_congr_left (g := fun c => [c.1]) hblock, chunk_heads,
    ← List.map_reverse, flatten_map_singleton (fun c : V × List V => c.1), List.map_reverse]

/-- **core lemma**: with enough fuel `rbd` succeeds, permutes, and reverses the current depth -/
theorem rbd_core : ∀ (fuel d : Nat) (l : List V), (∀ v ∈ l, d ≤ v.depth) → need d l < fuel →
    ∃ r, rbd fuel d l = some r ∧ RbdOk d l r :=
  fun fuel d l hd hf => ⟨rbdS l, rbd_eq fuel d l hd hf, rbdS_perm l, rbdS_filter d l hd⟩

/-- if `rbd` succeeds (any fuel) the result has the two properties -/
theorem rbd_ok_of_some : ∀ (fuel d : Nat) (l r : List V), (∀ v ∈ l, d ≤ v.depth) →
    rbd fuel d l = some r → need d l < fuel → RbdOk d l r := by
  intro fuel d l r hd h hf
  obtain ⟨r', hr', hok⟩ := rbd_core fuel d l hd hf
  rw [h] at hr'; cases hr'
  exact hok

theorem need_zero_lt_fuel (l : List V) : need 0 l < rbdFuel l := by
  unfold need rbdFuel
  simp

/-- the top-level call, as `log.py` makes it, in closed form -/
theorem reverseByDepth_eq (l : List V) : reverseByDepth l = some ((rbdS l).filter fun v => !v.revno.isEmpty) := by
  rw [reverseByDepth, rbd_eq _ 0 l (fun _ _ => Nat.zero_le _) (need_zero_lt_fuel l)]
  rfl

end BreezyVerif.C25
