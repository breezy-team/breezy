import BreezyVerif.Lemmas.C39Group
import BreezyVerif.Lemmas.C39Header
/-! C39 helper lemmas: a diff written to a byte stream and read back line by line
is the same list of lines; texts are byte strings split after every newline. -/
namespace BreezyVerif.C39

/-- a written line: ends with `\n` and has no other `\n` -/
def termLine (l : Bytes) : Bool := endsNl l ∧ nlB ∉ l.dropLast

/-- a line of a text: at most a final `\n` -/
def cleanLine (l : Bytes) : Bool := nlB ∉ l.dropLast

def content : HLine → Line
  | .ctx l => l
  | .ins l => l
  | .rem l => l

theorem splitNL_eq (s : Bytes) : splitNL s = Lib.splitAfter nlB s := by
  induction s with
  | nil => rfl
  | cons c cs ih =>
    by_cases hc : c = nlB <;> cases h : Lib.splitAfter nlB cs <;> simp [splitNL, Lib.splitAfter, ih, hc, h]

theorem splitNL_last (p : Bytes) (hp : nlB ∉ p) (hne : p ≠ []) : splitNL p = [p] := by
  rw [splitNL_eq, Lib.splitAfter_last hp hne]

theorem termLine_split (l : Bytes) (h : termLine l = true) : ∃ p, l = p ++ [nlB] ∧ nlB ∉ p := by
  simp only [termLine, Bool.decide_and, Bool.and_eq_true, decide_eq_true_eq, endsNl] at h
  refine ⟨l.dropLast, ?_, h.2⟩
  have hne : l ≠ [] := by intro he; simp [he] at h
  have := List.dropLast_concat_getLast hne
  rw [List.getLast?_eq_some_getLast hne] at h
  simp only [Option.some.injEq] at h
  rw [← h.1]; exact this.symm

/-- reading back a written stream of terminated lines -/
theorem splitNL_flatten (ls : List Bytes) (rest : Bytes) (h : ∀ l ∈ ls, termLine l = true) :
    splitNL (ls.flatten ++ rest) = ls ++ splitNL rest := by
  rw [splitNL_eq, splitNL_eq, Lib.splitAfter_flatten fun l hl => termLine_split l (h l hl)]

theorem flatten_splitNL (s : Bytes) : (splitNL s).flatten = s := by
  rw [splitNL_eq, Lib.flatten_splitAfter]

/-- the lines of a split byte string are non-empty and have at most a final newline -/
theorem splitNL_clean (s : Bytes) : ∀ l ∈ splitNL s, l ≠ [] ∧ cleanLine l = true := by
  intro l hl
  simpa [cleanLine] using Lib.of_mem_splitAfter (splitNL_eq s ▸ hl)

/-! ### every line `internal_diff` writes is terminated -/

theorem termLine_writeLine (c : UInt8) (x : Bytes) (hc : c ≠ nlB) (hx : cleanLine x = true) :
    ∀ w ∈ writeLine (c :: x), termLine w = true := by
  simp only [cleanLine, decide_eq_true_eq] at hx
  intro w hw
  unfold writeLine at hw
  split at hw
  · rename_i he
    simp only [List.mem_singleton] at hw
    subst hw
    simp only [termLine, he, decide_eq_true_eq, true_and]
    cases x with
    | nil => simp [endsNl] at he; exact absurd he hc
    | cons d x =>
      rw [List.dropLast_cons_of_ne_nil (by simp)]
      simp only [List.mem_cons, not_or]
      exact ⟨fun h => hc h.symm, by simpa using hx⟩
  · rename_i he
    simp only [List.mem_cons, List.not_mem_nil, or_false] at hw
    rcases hw with rfl | rfl
    · simp only [termLine, Bool.decide_and, Bool.and_eq_true, decide_eq_true_eq]
      refine ⟨by rw [endsNl, List.getLast?_concat]; simp, ?_⟩
      rw [List.dropLast_concat]
      simp only [List.mem_cons, not_or]
      refine ⟨fun h => hc h.symm, ?_⟩
      -- x does not end in a newline and has none before its last byte
      intro hmem
      cases hxe : x.getLast? with
      | none => simp [List.getLast?_eq_none_iff] at hxe; subst hxe; simp at hmem
      | some z =>
        have hne : x ≠ [] := by intro h; subst h; simp at hxe
        have hsplit := List.dropLast_concat_getLast hne
        rw [List.getLast?_eq_some_getLast hne] at hxe
        simp only [Option.some.injEq] at hxe
        rw [← hsplit, List.mem_append] at hmem
        rcases hmem with hm | hm
        · exact hx hm
        · simp only [List.mem_singleton] at hm
          apply he
          simp [endsNl, List.getLast?_cons_of_ne_nil hne, List.getLast?_eq_some_getLast hne, hm]
    · decide

theorem termLine_headerFull (h : Hunk) : termLine (headerFull h) = true := by
  have hd : digitV nlB = none := by decide
  simp only [termLine, Bool.decide_and, Bool.and_eq_true, decide_eq_true_eq]
  have : headerFull h = ([atB, atB, spB, minusB] ++ natB h.origPos ++ [commaB] ++ natB h.origRange ++ [spB, plusB]
      ++ natB h.modPos ++ [commaB] ++ natB h.modRange ++ [spB, atB, atB]) ++ [nlB] := by
    simp [headerFull, List.append_assoc]
  rw [this, List.dropLast_concat]
  refine ⟨by rw [endsNl, List.getLast?_concat]; simp, ?_⟩
  simp only [List.mem_append, List.mem_cons, List.not_mem_nil, or_false, not_or]
  have n1 := not_mem_natB h.origPos nlB hd
  have n2 := not_mem_natB h.origRange nlB hd
  have n3 := not_mem_natB h.modPos nlB hd
  have n4 := not_mem_natB h.modRange nlB hd
  refine ⟨⟨⟨⟨⟨⟨⟨⟨?_, n1⟩, ?_⟩, n2⟩, ?_⟩, n3⟩, ?_⟩, n4⟩, ?_⟩ <;> decide

theorem termLine_hline (l : HLine) (hl : cleanLine (content l) = true) :
    ∀ w ∈ writeLine (hlineBytes l), termLine w = true := by
  cases l with
  | ctx x => exact termLine_writeLine spB x (by decide) hl
  | ins x => exact termLine_writeLine plusB x (by decide) hl
  | rem x => exact termLine_writeLine minusB x (by decide) hl

theorem termLine_diffLines (hs : List Hunk) (hc : ∀ h ∈ hs, ∀ l ∈ h.lines, cleanLine (content l) = true) :
    ∀ w ∈ diffLines hs, termLine w = true := by
  intro w hw
  unfold diffLines at hw
  split at hw
  · simp at hw
  · simp only [List.cons_append, List.nil_append, List.mem_cons, List.mem_append, List.mem_flatMap,
      List.not_mem_nil, or_false] at hw
    rcases hw with rfl | rfl | ⟨h, hh, hw⟩ | rfl
    · decide
    · decide
    · rcases hw with rfl | ⟨l, hl, hw⟩
      · exact termLine_headerFull h
      · exact termLine_hline l (hc h hh l hl) w hw
    · decide

/-! ### hunk lines come from the two texts -/

theorem opLines_mem (a b : List Line) (o : Op) : ∀ l ∈ opLines a b o, content l ∈ a ∨ content l ∈ b := by
  intro l hl
  unfold opLines at hl
  cases ht : o.tag <;> simp only [ht, List.mem_map, List.mem_append] at hl
  · obtain ⟨x, hx, rfl⟩ := hl; exact Or.inl (mem_slice _ _ _ _ hx)
  · rcases hl with ⟨x, hx, rfl⟩ | ⟨x, hx, rfl⟩
    · exact Or.inl (mem_slice _ _ _ _ hx)
    · exact Or.inr (mem_slice _ _ _ _ hx)
  · obtain ⟨x, hx, rfl⟩ := hl; exact Or.inl (mem_slice _ _ _ _ hx)
  · obtain ⟨x, hx, rfl⟩ := hl; exact Or.inr (mem_slice _ _ _ _ hx)

theorem mkHunks_mem (a b : List Line) (gs : List Group) (hs : List Hunk) (hm : mkHunks a b gs = some hs) :
    ∀ h ∈ hs, ∀ l ∈ h.lines, content l ∈ a ∨ content l ∈ b := by
  intro h hh l hl
  have h1 : h.lines ∈ hs.map (·.lines) := List.mem_map.mpr ⟨h, hh, rfl⟩
  rw [mkHunks_lines a b gs hs hm] at h1
  obtain ⟨g, -, he⟩ := List.mem_map.mp h1
  rw [← he] at hl
  obtain ⟨o, -, hl⟩ := List.mem_flatMap.mp hl
  exact opLines_mem a b o l hl

end BreezyVerif.C39
