import BreezyVerif.Lemmas.C43Transport
import BreezyVerif.Lemmas.C43Renames
/-!
C43 — single steps of the uploader read through the listing `look` (each writes
one slot), and the removal phase with its deferred directory deletions.
-/
namespace BreezyVerif.C43

theorem path_split (p : Path) (hp : p ≠ []) : p = p.dropLast ++ [p.getLast hp] :=
  (List.dropLast_concat_getLast hp).symm

theorem isChildOf_iff (a b : Path) : isChildOf a b = true ↔ ∃ x, a = b ++ [x] := by
  unfold isChildOf
  constructor
  · intro h
    simp only [Bool.and_eq_true, bne_iff_ne, ne_eq, beq_iff_eq] at h
    exact ⟨a.getLast h.1, h.2 ▸ path_split a h.1⟩
  · rintro ⟨x, rfl⟩
    simp

theorem dropLast_ne (p : Path) (hp : p ≠ []) : p.dropLast ≠ p := by
  intro he
  have := congrArg List.length he
  rw [List.length_dropLast] at this
  have := List.length_pos_iff.mpr hp
  omega

theorem exec_delete (c : Cfg) (t : Tree) (s : State) (p : Path) (o : Obs) (hp : p ≠ [])
    (h : look s.root p = some o) (ho : o ≠ .dir) :
    ∃ r', exec c t s (.delete p) = ({ s with root := r' }, none) ∧
      ∀ q, look r' q = if q = p then none else look s.root q := by
  obtain ⟨r', h1, h2⟩ := tDelete_spec s.root p o hp h ho
  exact ⟨r', by rw [exec, h1], h2⟩

theorem exec_rmdir (c : Cfg) (t : Tree) (s : State) (p : Path) (hp : p ≠ [])
    (h : look s.root p = some .dir) (hno : ∀ y, look s.root (p ++ [y]) = none) :
    ∃ r', exec c t s (.rmdir p) = ({ s with root := r' }, none) ∧
      ∀ q, look r' q = if q = p then none else look s.root q := by
  obtain ⟨r', h1, h2⟩ := (tRmdir_spec s.root p hp h).1 hno
  exact ⟨r', congrArg (lift s) h1, h2⟩

theorem exec_mkdir (c : Cfg) (t : Tree) (s : State) (p : Path) (hp : p ≠ [])
    (hpar : look s.root p.dropLast = some .dir) (h : look s.root p = none) :
    ∃ r', exec c t s (.mkdir p) = ({ s with root := r' }, none) ∧
      ∀ q, look r' q = if q = p then some .dir else look s.root q := by
  obtain ⟨r', h1, h2⟩ := tMkdir_spec s.root p hp hpar h
  exact ⟨r', congrArg (lift s) h1, h2⟩

theorem find_path {t : Tree} {p : Path} {e : TEnt} (h : t.find p = some e) : e.path = p := by
  have := List.find?_some h
  exact beq_iff_eq.mp this

theorem find_mem {t : Tree} {p : Path} {e : TEnt} (h : t.find p = some e) : e ∈ t :=
  List.mem_of_find?_eq_some h

theorem tlook_of_find {t : Tree} {p : Path} {e : TEnt} (h : t.find p = some e) : t.look p = some e.obs := by
  rw [Tree.look, h]; rfl

theorem kindAt_some {t : Tree} {p : Path} {k : Kind} (h : kindAt t p = some k) :
    ∃ e, t.find p = some e ∧ e.kind = k :=
  Option.map_eq_some_iff.mp h

theorem obs_file {e : TEnt} (h : e.kind = .file) : e.obs = .file e.content e.exec := by rw [TEnt.obs, h]

theorem obs_link {e : TEnt} (h : e.kind = .symlink) : e.obs = .link e.target := by rw [TEnt.obs, h]

theorem obs_dir {e : TEnt} (h : e.kind = .dir) : e.obs = .dir := by rw [TEnt.obs, h]

theorem obs_ne_dir {e : TEnt} (h : e.kind ≠ .dir) : e.obs ≠ .dir := by
  cases hk : e.kind with
  | dir => exact absurd hk h
  | file => rw [obs_file hk]; exact Obs.noConfusion
  | symlink => rw [obs_link hk]; exact Obs.noConfusion

theorem doUploadFile_spec (t : Tree) (root : Node) (p : Path) (e : TEnt) (hp : p ≠ [])
    (he : t.find p = some e) (hk : e.kind = .file)
    (hpar : look root p.dropLast = some .dir) (h : look root p ≠ some .dir) :
    ∃ r', doUploadFile t root p p = .ok r' ∧
      ∀ q, look r' q = if q = p then some e.obs else look root q := by
  rw [obs_file hk, doUploadFile, he]
  simp only [hk]
  exact tPut_spec root p e.content e.exec hp hpar h

theorem exec_uploadFile (c : Cfg) (t : Tree) (s : State) (p : Path) (e : TEnt) (hp : p ≠ [])
    (he : t.find p = some e) (hk : e.kind = .file)
    (hpar : look s.root p.dropLast = some .dir) (h : look s.root p ≠ some .dir) :
    ∃ r', exec c t s (.uploadFile p p) = ({ s with root := r' }, none) ∧
      ∀ q, look r' q = if q = p then some e.obs else look s.root q := by
  obtain ⟨r', h1, h2⟩ := doUploadFile_spec t s.root p e hp he hk hpar h
  exact ⟨r', congrArg (lift s) h1, h2⟩

theorem look_dropLast_of_set {r1 root : Node} {p : Path} {o : Option Obs} (hp : p ≠ [])
    (h : ∀ q, look r1 q = if q = p then o else look root q) (hpar : look root p.dropLast = some .dir) :
    look r1 p.dropLast = some .dir := by
  rw [h, if_neg (dropLast_ne p hp), hpar]

theorem look_set_set {r1 r2 root : Node} {p : Path} {o1 o2 : Option Obs}
    (h1 : ∀ q, look r1 q = if q = p then o1 else look root q)
    (h2 : ∀ q, look r2 q = if q = p then o2 else look r1 q) :
    ∀ q, look r2 q = if q = p then o2 else look root q := by
  intro q
  rw [h2 q, h1 q]
  by_cases hq : q = p
  · rw [if_pos hq, if_pos hq]
  · rw [if_neg hq, if_neg hq, if_neg hq]

/-- `_force_clear` on a slot that holds no directory: the slot is emptied, unless it holds a file and the
uploader leaves files alone -/
theorem forceClear_spec (c : Cfg) (root : Node) (p : Path) (hp : p ≠ []) (h : look root p ≠ some .dir) :
    ∃ r1 o, forceClear c root p = .ok r1 ∧ (∀ q, look r1 q = if q = p then o else look root q) ∧
      (o = none ∨ (o = look root p ∧ c.robustSymlinks = false ∧ ∃ x b, look root p = some (.file x b))) := by
  have keep : ∀ q, look root q = if q = p then look root p else look root q := by
    intro q
    by_cases hq : q = p
    · rw [if_pos hq, hq]
    · rw [if_neg hq]
  unfold forceClear
  cases hl : lookup root p with
  | none => exact ⟨root, none, rfl, by rw [← show look root p = none by rw [look, hl]; rfl]; exact keep, Or.inl rfl⟩
  | some n =>
    have hlk : look root p = some n.obs := by rw [look, hl]; rfl
    cases n with
    | dir ks => exact absurd hlk h
    | link t' =>
      obtain ⟨r1, h1, h2⟩ := tDelete_spec root p _ hp hlk Obs.noConfusion
      exact ⟨r1, none, h1, h2, Or.inl rfl⟩
    | file c' e' =>
      cases hrob : c.robustSymlinks with
      | true =>
        obtain ⟨r1, h1, h2⟩ := tDelete_spec root p _ hp hlk Obs.noConfusion
        exact ⟨r1, none, h1, h2, Or.inl rfl⟩
      | false => exact ⟨root, look root p, rfl, keep, Or.inr ⟨rfl, rfl, c', e', hlk⟩⟩

/-- `upload_symlink_robustly` onto a slot that holds no directory -/
theorem exec_symlinkRobust (c : Cfg) (t : Tree) (s : State) (p : Path) (tg : String) (hp : p ≠ [])
    (hrob : c.robustSymlinks = true ∨ ∀ x b, look s.root p ≠ some (.file x b)) (hbad : c.badLinks = [])
    (hpar : look s.root p.dropLast = some .dir) (h : look s.root p ≠ some .dir) :
    ∃ r', exec c t s (.symlinkRobust p tg) = ({ s with root := r' }, none) ∧
      ∀ q, look r' q = if q = p then some (.link tg) else look s.root q := by
  obtain ⟨r1, o, hc1, hc2, ho⟩ := forceClear_spec c s.root p hp h
  have ho' : o = none := by
    rcases ho with rfl | ⟨_, hf, x, b, hx⟩
    · rfl
    · rcases hrob with hr | hr
      · rw [hr] at hf; cases hf
      · exact absurd hx (hr x b)
  subst ho'
  obtain ⟨r', h1, h2⟩ := tSymlink_spec r1 p tg hp (look_dropLast_of_set hp hc2 hpar) (by rw [hc2, if_pos rfl])
  refine ⟨r', ?_, look_set_set hc2 h2⟩
  rw [exec, hc1]
  simp only [linkFate, hbad, List.find?_nil, Option.map_none, h1, lift]

/-- the steps that create the tree's entry at `p` write it into a slot that holds no directory, and nothing at all
when the entry is a directory -/
theorem run_create (c : Cfg) (t : Tree) (s : State) (p : Path) (e : TEnt) (hp : p ≠ [])
    (hrob : c.robustSymlinks = true) (hbad : c.badLinks = []) (he : t.find p = some e)
    (hpar : look s.root p.dropLast = some .dir) (h : look s.root p ≠ some .dir)
    (hd : e.kind = .dir → look s.root p = none) :
    ∃ r', run c t s (createSteps c t p) = ({ s with root := r' }, none) ∧
      ∀ q, look r' q = if q = p then t.look p else look s.root q := by
  rw [tlook_of_find he]
  unfold createSteps
  rw [he]
  cases hk : e.kind with
  | file =>
    obtain ⟨r', h1, h2⟩ := exec_uploadFile c t s p e hp he hk hpar h
    exact ⟨r', by simp only [hk, run, h1], h2⟩
  | dir =>
    obtain ⟨r', h1, h2⟩ := exec_mkdir c t s p hp hpar (hd hk)
    exact ⟨r', by simp only [hk, run, h1], by rw [obs_dir hk]; exact h2⟩
  | symlink =>
    obtain ⟨r', h1, h2⟩ := exec_symlinkRobust c t s p e.target hp (Or.inl hrob) hbad hpar h
    exact ⟨r', by simp only [hk, symlinkStep, hrob, if_true, run, h1], by rw [obs_link hk]; exact h2⟩

def rmStep (r : Removed) : Step :=
  match r.kind with
  | .dir => .rmdirMaybe r.path
  | _ => .delete r.path

/-- what the listing must show for a removed entry -/
def RmOK (root : Node) (r : Removed) : Prop :=
  r.path ≠ [] ∧ (r.kind = .dir → look root r.path = some .dir) ∧
    (r.kind ≠ .dir → ∃ o, look root r.path = some o ∧ o ≠ .dir)

/-- a removal either takes its path away now or, for a directory that still has children, defers it -/
theorem exec_rmStep (c : Cfg) (t : Tree) (s : State) (r : Removed) (h : RmOK s.root r) :
    (∃ r1, exec c t s (rmStep r) = ({ s with root := r1 }, none) ∧
        ∀ q, look r1 q = if q = r.path then none else look s.root q) ∨
      (r.kind = .dir ∧ exec c t s (rmStep r) = ({ s with pendingDel := s.pendingDel ++ [r.path] }, none)) := by
  obtain ⟨hp, hdir, hnd⟩ := h
  unfold rmStep
  by_cases hk : r.kind = .dir
  · simp only [hk]
    have hd := tRmdir_spec s.root r.path hp (hdir hk)
    by_cases hc : ∃ y, look s.root (r.path ++ [y]) ≠ none
    · exact Or.inr ⟨trivial, by rw [exec, hd.2 hc]; rfl⟩
    · obtain ⟨r1, e1, e2⟩ := hd.1 fun y => Classical.not_not.mp fun h => hc ⟨y, h⟩
      exact Or.inl ⟨r1, by rw [exec, e1], e2⟩
  · obtain ⟨o, ho1, ho2⟩ := hnd hk
    have := exec_delete c t s r.path o hp ho1 ho2
    cases hkk : r.kind with
    | dir => exact absurd hkk hk
    | file => exact Or.inl this
    | symlink => exact Or.inl this

theorem exec_finishRenames_nil (c : Cfg) (t : Tree) (s : State) (hs : s.pendingRen = []) :
    exec c t s .finishRenames = (s, none) := by
  obtain ⟨ro, pdl, prn⟩ := s
  cases hs
  rw [exec]
  cases c.renames <;> rfl

theorem finishDel_append (root : Node) (a b : List Path) :
    finishDel root (a ++ b) = (match finishDel root a with
      | (r, none) => finishDel r b
      | (r, some e) => (r, some e)) := by
  induction a generalizing root with
  | nil => rfl
  | cons p a ih =>
    simp only [List.cons_append, finishDel]
    cases tRmdir root p with
    | ok r => exact ih r
    | error e => rfl

/-- the removals in delta order and the deferred deletions they leave behind (which `finish_deletions` runs in
reverse): a directory that cannot go at its turn goes last, after everything below it -/
theorem removal_rounds (c : Cfg) (t : Tree) (rm : List Removed) (s : State)
    (h1 : ∀ r ∈ rm, RmOK s.root r) (h2 : (rm.map (·.path)).Nodup)
    (h3 : rm.Pairwise fun a b => ∀ x, a.path ≠ b.path ++ [x])
    (h4 : ∀ r ∈ rm, r.kind = .dir → ∀ x, look s.root (r.path ++ [x]) ≠ none → r.path ++ [x] ∈ rm.map (·.path)) :
    ∃ r1 pd r', run c t s (rm.map rmStep) = ({ s with root := r1, pendingDel := s.pendingDel ++ pd }, none) ∧
      finishDel r1 pd.reverse = (r', none) ∧
      ∀ q, look r' q = if q ∈ rm.map (·.path) then none else look s.root q := by
  induction rm generalizing s with
  | nil => exact ⟨s.root, [], s.root, by rw [List.append_nil]; rfl, rfl, fun q => by simp⟩
  | cons r rm ih =>
    rw [List.map_cons, List.nodup_cons] at h2
    rw [List.pairwise_cons] at h3
    have hr := h1 r List.mem_cons_self
    rcases exec_rmStep c t s r hr with ⟨r1, he1, he2⟩ | ⟨hk, he1⟩
    · -- removed now: the later entries, at other paths, see what they saw
      have h1' : ∀ r' ∈ rm, RmOK r1 r' := by
        intro r' hr'
        have hne : r'.path ≠ r.path := fun e => h2.1 (List.mem_map.mpr ⟨r', hr', e⟩)
        have := h1 r' (List.mem_cons_of_mem _ hr')
        unfold RmOK at this ⊢
        rwa [he2, if_neg hne]
      have h4' : ∀ r' ∈ rm, r'.kind = .dir → ∀ x, look r1 (r'.path ++ [x]) ≠ none →
          r'.path ++ [x] ∈ rm.map (·.path) := by
        intro r' hr' hk' x hx
        rw [he2] at hx
        by_cases he : r'.path ++ [x] = r.path
        · rw [if_pos he] at hx; exact absurd rfl hx
        · rw [if_neg he] at hx
          exact (List.mem_cons.mp (h4 r' (List.mem_cons_of_mem _ hr') hk' x hx)).resolve_left he
      obtain ⟨r2, pd, r', hrun, hfin, hq⟩ := ih { s with root := r1 } h1' h2.2 h3.2 h4'
      refine ⟨r2, pd, r', by simp only [List.map_cons, run, he1]; exact hrun, hfin, fun q => ?_⟩
      rw [hq q, show look r1 q = _ from he2 q]
      by_cases hqe : q = r.path
      · simp only [List.map_cons, List.mem_cons, hqe, true_or, if_true, ite_self]
      · simp only [List.map_cons, List.mem_cons, hqe, false_or, if_false]
    · -- deferred: no later directory is the parent of `r`, so the rest is a removal phase of its own; `r` goes last
      have h4' : ∀ r' ∈ rm, r'.kind = .dir → ∀ x, look s.root (r'.path ++ [x]) ≠ none →
          r'.path ++ [x] ∈ rm.map (·.path) := fun r' hr' hk' x hx =>
        (List.mem_cons.mp (h4 r' (List.mem_cons_of_mem _ hr') hk' x hx)).resolve_left fun he => h3.1 r' hr' x he.symm
      obtain ⟨r2, pd, r', hrun, hfin, hq⟩ := ih { s with pendingDel := s.pendingDel ++ [r.path] }
        (fun r' hr' => h1 r' (List.mem_cons_of_mem _ hr')) h2.2 h3.2 h4'
      have hdir : look r' r.path = some .dir := by rw [hq, if_neg h2.1]; exact hr.2.1 hk
      have hno : ∀ y, look r' (r.path ++ [y]) = none := by
        intro y
        rw [hq]
        split
        · rfl
        · next hin =>
          refine Classical.not_not.mp fun hx => hin ((List.mem_cons.mp (h4 r List.mem_cons_self hk y hx)).resolve_left ?_)
          exact fun he => absurd (congrArg List.length he) (by simp)
      obtain ⟨r3, e1, e2⟩ := (tRmdir_spec r' r.path hr.1 hdir).1 hno
      refine ⟨r2, r.path :: pd, r3, ?_, ?_, fun q => ?_⟩
      · simp only [List.map_cons, run, he1]
        rw [hrun, List.append_assoc]; rfl
      · rw [List.reverse_cons, finishDel_append, hfin]
        simp only [finishDel, e1]
      · rw [e2 q, hq q]
        by_cases hqe : q = r.path
        · simp only [List.map_cons, List.mem_cons, hqe, true_or, if_true]
        · simp only [List.map_cons, List.mem_cons, hqe, false_or, if_false]

/-- **the removal phase**: the removals in delta order (parents first), the
(empty) rename rounds and the deferred deletions remove exactly the removed
paths -/
theorem run_removal_phase (c : Cfg) (t : Tree) (rm : List Removed) (root : Node)
    (h1 : ∀ r ∈ rm, RmOK root r) (h2 : (rm.map (·.path)).Nodup)
    (h3 : rm.Pairwise fun a b => ∀ x, a.path ≠ b.path ++ [x])
    (h4 : ∀ r ∈ rm, r.kind = .dir → ∀ x, look root (r.path ++ [x]) ≠ none → r.path ++ [x] ∈ rm.map (·.path)) :
    ∃ r', run c t { root := root } (rm.map rmStep ++ [.finishRenames, .finishDeletions]) = ({ root := r' }, none) ∧
      ∀ q, look r' q = if q ∈ rm.map (·.path) then none else look root q := by
  obtain ⟨r1, pd, r', hrun, hfin, hq⟩ := removal_rounds c t rm { root := root } h1 h2 h3 h4
  rw [List.nil_append] at hrun
  refine ⟨r', ?_, hq⟩
  rw [run_append, hrun]
  simp only [run, exec_finishRenames_nil c t { root := r1, pendingDel := pd } rfl]
  simp only [exec, hfin]

end BreezyVerif.C43
