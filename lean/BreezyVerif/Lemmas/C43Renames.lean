import BreezyVerif.Lemmas.C43
import BreezyVerif.Lemmas.Lib.InsertSort
/-!
C43 — the rename phase of the uploader as two rounds of independent top-level
moves: staging to the temporary names, then finishing, in delta order or (children
first) in the order of the new paths, a permutation of the staging order.
-/
namespace BreezyVerif.C43

/-- the name of the k-th temporary -/
def sname (k : Nat) : String := s!".tmp.{k}"

theorem stamp_eq (k : Nat) : stamp k = [sname k] := rfl

/-- the renames `(old name, new name)` of top-level entries as delta records -/
def toRenamed (rs : List (String × String)) : List Renamed :=
  rs.map fun r => ⟨[r.1], [r.2], false⟩

def stageMoves : List (String × String) → Nat → List (String × String)
  | [], _ => []
  | (o, _) :: r, k => (o, sname k) :: stageMoves r (k + 1)

def finishMoves : List (String × String) → Nat → List (String × String)
  | [], _ => []
  | (_, n) :: r, k => (sname k, n) :: finishMoves r (k + 1)

def pendOf : List (String × String) → Nat → List (Nat × Path)
  | [], _ => []
  | (_, n) :: r, k => (k, [n]) :: pendOf r (k + 1)

theorem stageMoves_srcs (rs : List (String × String)) (k : Nat) :
    (stageMoves rs k).map (·.1) = rs.map (·.1) := by
  induction rs generalizing k with
  | nil => rfl
  | cons r rs ih => obtain ⟨o, n⟩ := r; simp [stageMoves, ih]

theorem finishMoves_dsts (rs : List (String × String)) (k : Nat) :
    (finishMoves rs k).map (·.2) = rs.map (·.2) := by
  induction rs generalizing k with
  | nil => rfl
  | cons r rs ih => obtain ⟨o, n⟩ := r; simp [finishMoves, ih]

theorem finishMoves_srcs (rs : List (String × String)) (k : Nat) :
    (finishMoves rs k).map (·.1) = (stageMoves rs k).map (·.2) := by
  induction rs generalizing k with
  | nil => rfl
  | cons r rs ih => obtain ⟨o, n⟩ := r; simp [finishMoves, stageMoves, ih]

theorem via_stamp (rs : List (String × String)) (k : Nat) (r : String × String) (hr : r ∈ rs) :
    ∃ s, (r.1, s) ∈ stageMoves rs k ∧ (s, r.2) ∈ finishMoves rs k := by
  induction rs generalizing k with
  | nil => cases hr
  | cons r0 rs ih =>
    obtain ⟨o, n⟩ := r0
    rcases List.mem_cons.mp hr with rfl | h
    · exact ⟨sname k, by simp [stageMoves], by simp [finishMoves]⟩
    · obtain ⟨s, h1, h2⟩ := ih (k + 1) h
      exact ⟨s, by simp [stageMoves, h1], by simp [finishMoves, h2]⟩

theorem ignored_nil (p : Path) : ignored [] p = false := by
  unfold ignored
  induction p with
  | nil => rfl
  | cons a p ih => simp [List.any_cons]

theorem run_append (c : Cfg) (t : Tree) (s : State) (xs ys : List Step) :
    run c t s (xs ++ ys) =
      (match run c t s xs with
        | (s', none) => run c t s' ys
        | (s', some e) => (s', some e)) := by
  induction xs generalizing s with
  | nil => simp [run]
  | cons x xs ih =>
    simp only [List.cons_append, run]
    cases h : exec c t s x with
    | mk s' e =>
      cases e with
      | none => simp only [ih]
      | some e => rfl

/-- the staging steps of the plan, executed: the renames to the temporary
names, one after the other, remembering where each has to go -/
theorem run_stage (c : Cfg) (t : Tree) (rs : List (String × String)) (k : Nat) (s : State) (root' : Node)
    (h : seqRename s.root (stageMoves rs k) = (root', none)) :
    run c t s (renameSteps [] (toRenamed rs) k) =
      ({ s with root := root', pendingRen := s.pendingRen ++ pendOf rs k }, none) := by
  induction rs generalizing k s with
  | nil =>
    simp only [stageMoves, seqRename] at h
    cases h
    simp [toRenamed, renameSteps, run, pendOf]
  | cons r rs ih =>
    obtain ⟨o, n⟩ := r
    simp only [stageMoves, seqRename] at h
    cases hr : tRename s.root [o] [sname k] with
    | error e => rw [hr] at h; cases h
    | ok r1 =>
      rw [hr] at h
      simp only at h
      simp only [toRenamed, List.map_cons, renameSteps, ignored_nil, Bool.false_and, Bool.false_eq_true,
        if_false, List.nil_append, run, exec, stamp_eq, hr]
      have := ih (k + 1) { s with root := r1, pendingRen := s.pendingRen ++ [(k, [n])] } h
      simp only [toRenamed] at this
      rw [this]
      simp [pendOf, List.append_assoc]

theorem perm_insertByNew (x : Nat × Path) (l : List (Nat × Path)) : (insertByNew x l).Perm (x :: l) :=
  Lib.perm_insert insertByNew (fun x y => decide (x.2 ≤ y.2) = true) (fun _ => rfl) (fun _ _ _ => rfl) x l

theorem perm_sortByNew (l : List (Nat × Path)) : (sortByNew l).Perm l :=
  Lib.perm_insertSort _ perm_insertByNew rfl (fun _ _ => rfl) l

/-- the move a pending top-level rename stands for -/
def pendMove (p : Nat × Path) : String × String :=
  (sname p.1, match p.2 with | [n] => n | _ => "")

theorem pendMove_pendOf (rs : List (String × String)) (k : Nat) :
    (pendOf rs k).map pendMove = finishMoves rs k := by
  induction rs generalizing k with
  | nil => rfl
  | cons r rs ih =>
    obtain ⟨o, n⟩ := r
    simp only [pendOf, List.map_cons, finishMoves, ih]
    simp [pendMove]

def TopLevel (l : List (Nat × Path)) : Prop := ∀ p ∈ l, ∃ n, p.2 = [n]

theorem topLevel_pendOf (rs : List (String × String)) (k : Nat) : TopLevel (pendOf rs k) := by
  induction rs generalizing k with
  | nil => intro p hp; cases hp
  | cons r rs ih =>
    obtain ⟨o, n⟩ := r
    intro p hp
    simp only [pendOf] at hp
    rcases List.mem_cons.mp hp with rfl | h
    · exact ⟨n, rfl⟩
    · exact ih (k + 1) p h

/-- finishing any list of pending top-level renames = running their moves -/
theorem finishRen_eq_moves (root : Node) (l : List (Nat × Path)) (h : TopLevel l) :
    finishRen root l = seqRename root (l.map pendMove) := by
  induction l generalizing root with
  | nil => rfl
  | cons p l ih =>
    obtain ⟨k, path⟩ := p
    obtain ⟨n, hn⟩ := h (k, path) List.mem_cons_self
    simp only at hn
    subst hn
    have e : pendMove (k, [n]) = (sname k, n) := by simp [pendMove]
    simp only [List.map_cons, e, finishRen, seqRename, stamp_eq]
    cases tRename root [sname k] [n] with
    | error e => rfl
    | ok r1 => exact ih r1 (fun q hq => h q (List.mem_cons_of_mem _ hq))

theorem finishRen_eq (root : Node) (rs : List (String × String)) (k : Nat) :
    finishRen root (pendOf rs k) = seqRename root (finishMoves rs k) := by
  rw [finishRen_eq_moves root _ (topLevel_pendOf rs k), pendMove_pendOf]

theorem Independent.perm {l l' : List (String × String)} (hp : l.Perm l') (h : Independent l) :
    Independent l' := by
  obtain ⟨h1, h2, h3⟩ := h
  refine ⟨(List.Perm.nodup_iff (hp.map _)).mp h1, (List.Perm.nodup_iff (hp.map _)).mp h2, ?_⟩
  intro a ha hb
  exact h3 a ((hp.map _).mem_iff.mpr ha) ((hp.map _).mem_iff.mpr hb)

end BreezyVerif.C43
