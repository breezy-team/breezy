import BreezyVerif.Lemmas.C30V3
import BreezyVerif.Lemmas.C30CK
import BreezyVerif.Lemmas.C30Req
import BreezyVerif.Lemmas.C29Req
/-! whole requests on the server's pipe (`_get_line` + dispatch + decoder) and whole
protocol 1/2 responses on the client's (`read_line`s + body reader): laws and completeness -/
namespace BreezyVerif.C30
open BreezyVerif.C29

theorem seq_feed_line {S2 : Type} (M2 : Machine S2) (k : Line → S2) (l x : Bytes)
    (h : (10 : UInt8) ∉ l) :
    (seqMachine lineMachine M2 k).feed (.inl (.reading [])) (l ++ 10 :: x)
      = .inr (M2.feed (k (.done l x)) x) := by
  simp only [seqMachine, lineMachine, Line.feed, List.nil_append, splitLine_of_notMem x h,
    Line.finished, if_true, Line.unused]

theorem seq_inr_feed {S1 S2 : Type} (M1 : Machine S1) (M2 : Machine S2) (k : S1 → S2) (s : S2)
    (x : Bytes) : (seqMachine M1 M2 k).feed (.inr s) x = .inr (M2.feed s x) := rfl

theorem line_const_laws {S : Type} {M : Machine S} {wf : S → Prop} (L : Laws M wf) (init : S)
    (hwf : wf init) (hun : M.fin init = true → M.unused init = []) :
    Laws (seqMachine lineMachine M (const init)) (seqWf lineMachine lineWf wf) :=
  Laws.seq lineLaws L (const init) (fun _ _ _ => rfl) (fun _ _ _ => hwf) (fun _ _ _ h => hun h)

def serveWf : Line ⊕ (V3 ⊕ Req) → Prop := seqWf lineMachine lineWf (altWf v3Wf reqWf)

theorem req_feed_line_nl (w : List Bytes → Bool) (l : Bytes) (h : (10 : UInt8) ∉ l) :
    Req.feed w (.line []) (l ++ [10]) =
      if w (splitSoh l) then .body (splitSoh l) (.expectingLength []) else .done (splitSoh l) none [] := by
  rw [Req.feed_line, List.nil_append, Req.lineStep, splitLine_of_notMem [] h]
  simp only
  split
  · simp [LP.feed, LP.init, LP.lengthStep, splitLine, Req.afterBody]
  · rfl

theorem serveLaws (w : List Bytes → Bool) (okH okS : Bytes → Bool) :
    Laws (serveMachine w okH okS) serveWf := by
  refine Laws.seq lineLaws (Laws.alt (v3gLaws okH okS) (reqLaws w)) (serveDispatch w) ?_ ?_ ?_
  · intro s1 x h
    cases s1 with
    | reading buf => simp [lineMachine, Line.finished] at h
    | done l u => rfl
  · intro s1 hwf h
    cases s1 with
    | reading buf => simp [lineMachine, Line.finished] at h
    | done l u =>
      simp only [serveDispatch]
      split
      · exact v3Wf_init false
      · split
        · exact reqWf_init
        · exact (reqLaws w).wf_feed _ _ reqWf_init
  · intro s1 hwf h hf
    cases s1 with
    | reading buf => simp [lineMachine, Line.finished] at h
    | done l u =>
      simp only [serveDispatch]
      split
      · simp [altMachine, v3gMachine, guardMachine, v3Machine, V3.init, V3.unused]
      · split
        · rfl
        · show Req.unused (Req.feed w (.line []) (l ++ [10])) = []
          rw [req_feed_line_nl w l hwf]
          split <;> rfl

theorem serveWf_init : serveWf serveInit := ⟨lineWf_init, rfl⟩

def marker3Line : Bytes := marker3.dropLast
def request2Line : Bytes := request2.dropLast

theorem marker3_eq : marker3 = marker3Line ++ [10] := by decide +kernel
theorem request2_eq : request2 = request2Line ++ [10] := by decide +kernel
theorem marker3Line_nl : (10 : UInt8) ∉ marker3Line := by decide +kernel
theorem request2Line_nl : (10 : UInt8) ∉ request2Line := by decide +kernel

/-- requests the pipe server can be sent: what the real client encoders write, any version -/
inductive WellFormedRequest (w : List Bytes → Bool) (okH okS : Bytes → Bool) : Bytes → Prop
  /-- `ProtocolThreeRequester`: marker, bencoded header dict, parts, `e` -/
  | v3 (headers : Bytes) (parts : List Part) (hh : headers.length < 4294967296)
      (hp : V3.partsOk parts = true) (hH : okH headers = true)
      (hS : parts.all (fun p => evOk okH okS p.ev) = true) :
      WellFormedRequest w okH okS (v3Encode headers parts)
  /-- `SmartClientRequestProtocolTwo`: marker, argument line, optional bulk body -/
  | v2 (args : List Bytes) (body : Option Bytes) (hok : Req.argsOk args = true)
      (hwb : w args = body.isSome) :
      WellFormedRequest w okH okS (request2 ++ reqEncode args body)
  /-- `SmartClientRequestProtocolOne`: the same without marker (an argument line that
  happens to spell a version marker is read as that marker) -/
  | v1 (args : List Bytes) (body : Option Bytes) (hok : Req.argsOk args = true)
      (hwb : w args = body.isSome) (h3 : encodeTuple args ≠ marker3)
      (h2 : encodeTuple args ≠ request2) :
      WellFormedRequest w okH okS (reqEncode args body)

theorem v3_feed_encodeBody (headers : Bytes) (parts : List Part)
    (hh : headers.length < 4294967296) (hp : V3.partsOk parts = true) :
    V3.feed (V3.init false) (v3EncodeBody headers parts)
      = .done (.headers headers :: (parts.map Part.ev ++ [.end_])) [] := by
  rw [← List.append_nil (v3EncodeBody headers parts)]
  exact V3.proc_headers_encode headers parts [] [] hh hp

theorem v3_feed_encode (headers : Bytes) (parts : List Part)
    (hh : headers.length < 4294967296) (hp : V3.partsOk parts = true) :
    V3.feed (V3.init true) (v3Encode headers parts)
      = .done (.headers headers :: (parts.map Part.ev ++ [.end_])) [] := by
  rw [← List.append_nil (v3Encode headers parts)]
  exact V3.proc_version_encode headers parts [] hh hp

theorem v3Ok_done (okH okS : Bytes → Bool) (headers : Bytes) (parts : List Part) (u : Bytes)
    (hH : okH headers = true) (hS : parts.all (fun p => evOk okH okS p.ev) = true) :
    v3Ok okH okS (.done (.headers headers :: (parts.map Part.ev ++ [.end_])) u) = true := by
  simp only [v3Ok, V3.events, List.all_cons, evOk, hH, Bool.true_and, List.all_append,
    List.all_map, List.all_nil, Bool.and_true]
  simpa [Function.comp_def] using hS

theorem serve_complete {w : List Bytes → Bool} {okH okS : Bytes → Bool} {msg : Bytes}
    (h : WellFormedRequest w okH okS msg) :
    (serveMachine w okH okS).fin ((serveMachine w okH okS).feed serveInit msg) = true ∧
    (serveMachine w okH okS).unused ((serveMachine w okH okS).feed serveInit msg) = [] := by
  cases h with
  | v3 headers parts hh hp hH hS =>
    have e : v3Encode headers parts = marker3Line ++ 10 :: v3EncodeBody headers parts := by
      simp [v3Encode, marker3_eq]
    rw [e]
    simp only [serveMachine, serveInit, seq_feed_line _ _ _ _ marker3Line_nl]
    simp only [serveDispatch, ← marker3_eq, if_true]
    simp only [seqMachine, altMachine, v3gMachine, guardMachine, v3Machine,
      v3_feed_encodeBody headers parts hh hp, V3.finished, V3.unused, Bool.true_and,
      v3Ok_done okH okS headers parts [] hH hS, and_self]
  | v2 args body hok hwb =>
    have e : request2 ++ reqEncode args body = request2Line ++ 10 :: reqEncode args body := by
      simp [request2_eq]
    rw [e]
    simp only [serveMachine, serveInit, seq_feed_line _ _ _ _ request2Line_nl]
    have hne : request2 ≠ marker3 := by decide +kernel
    simp only [serveDispatch, ← request2_eq, hne, if_false, if_true]
    simp only [seqMachine, altMachine, reqMachine, req_feed_encode w args body hok hwb,
      Req.finished, Req.unused, and_self]
  | v1 args body hok hwb h3 h2 =>
    have hnl : (10 : UInt8) ∉ joinSoh args := by
      simp only [Req.argsOk, Bool.and_eq_true] at hok
      exact Req.joinSoh_no_nl hok.2
    obtain ⟨tail, e⟩ : ∃ tail, reqEncode args body = joinSoh args ++ 10 :: tail := by
      cases body <;> simp [reqEncode, encodeTuple]
    have := req_feed_encode w args body hok hwb
    rw [e] at this ⊢
    simp only [serveMachine, serveInit, seq_feed_line _ _ _ _ hnl]
    have e3 : joinSoh args ++ [10] ≠ marker3 := h3
    have e2 : joinSoh args ++ [10] ≠ request2 := h2
    simp only [serveDispatch, e3, e2, if_false]
    simp only [seqMachine, altMachine, reqMachine, Req.feed_append, List.append_assoc,
      List.singleton_append]
    rw [this]
    exact ⟨rfl, rfl⟩

def bodyWf : LP ⊕ (CK ⊕ Bytes) → Prop := altWf lpWf (altWf ckWf (fun _ => True))

theorem bodyLaws : Laws bodyMachine bodyWf := Laws.alt lpLaws (Laws.alt ckLaws nilLaws)

theorem bodyWf_init (bk : BodyKind) : bodyWf (bodyInit bk) := by
  cases bk
  · trivial
  · exact lpWf_init
  · exact ckWf_init

theorem bodyInit_unused (bk : BodyKind) : bodyMachine.unused (bodyInit bk) = [] := by
  cases bk <;> rfl

/-- what the three body readers expect on the wire -/
inductive WellFormedBody : BodyKind → Bytes → Prop
  | none : WellFormedBody .none []
  | bulk (body : Bytes) : WellFormedBody .bulk (lpEncode body)
  | stream (chunks : List Bytes) (err : Option (List Bytes)) :
      WellFormedBody .stream (ckEncode chunks err)

theorem body_complete {bk : BodyKind} {b : Bytes} (h : WellFormedBody bk b) :
    bodyMachine.fin (bodyMachine.feed (bodyInit bk) b) = true ∧
    bodyMachine.unused (bodyMachine.feed (bodyInit bk) b) = [] := by
  cases h with
  | none => exact ⟨rfl, rfl⟩
  | bulk body =>
    simp only [bodyMachine, bodyInit, altMachine, lpMachine, lp_feed_encode, LP.finished,
      LP.unused, and_self]
  | stream chunks err =>
    simp only [bodyMachine, bodyInit, altMachine, ckMachine, ck_feed_encode, CK.finished,
      CK.unused, and_self]

def client1Wf : Line ⊕ (LP ⊕ (CK ⊕ Bytes)) → Prop := seqWf lineMachine lineWf bodyWf

theorem client1Laws (bk : BodyKind) : Laws (client1 bk) client1Wf :=
  line_const_laws bodyLaws _ (bodyWf_init bk) (fun _ => bodyInit_unused bk)

def client2Wf : Line ⊕ (Line ⊕ (Line ⊕ (LP ⊕ (CK ⊕ Bytes)))) → Prop :=
  seqWf lineMachine lineWf (seqWf lineMachine lineWf client1Wf)

theorem client1Wf_init : client1Wf (.inl (.reading [])) := ⟨lineWf_init, rfl⟩

theorem client2Laws (bk : BodyKind) : Laws (client2 bk) client2Wf :=
  line_const_laws (line_const_laws (client1Laws bk) _ client1Wf_init (fun h => by cases h))
    _ (show seqWf lineMachine lineWf client1Wf (.inl (.reading [])) from ⟨lineWf_init, rfl⟩)
    (fun h => by cases h)

/-- protocol 1 response: tuple line, then the body the caller reads -/
inductive WellFormedResponse1 (bk : BodyKind) : Bytes → Prop
  | mk (tuple body : Bytes) (ht : (10 : UInt8) ∉ tuple) (hb : WellFormedBody bk body) :
      WellFormedResponse1 bk (tuple ++ 10 :: body)

/-- protocol 2 response: `bzr response 2\n`, status line, tuple line, body -/
inductive WellFormedResponse2 (bk : BodyKind) : Bytes → Prop
  | mk (status tuple body : Bytes) (hs : (10 : UInt8) ∉ status) (ht : (10 : UInt8) ∉ tuple)
      (hb : WellFormedBody bk body) :
      WellFormedResponse2 bk (response2 ++ (status ++ 10 :: (tuple ++ 10 :: body)))


theorem client2Wf_init : client2Wf client2Init := ⟨lineWf_init, rfl⟩

theorem client1_complete {bk : BodyKind} {msg : Bytes} (h : WellFormedResponse1 bk msg) :
    Complete (client1 bk) client1Wf client1Init msg := by
  refine .of (client1Laws bk) client1Wf_init ?_
  cases h with
  | mk tuple body ht hb =>
    simp only [client1, client1Machine, client1Init, seq_feed_line _ _ _ _ ht, const]
    exact body_complete hb

theorem client2_complete {bk : BodyKind} {msg : Bytes} (h : WellFormedResponse2 bk msg) :
    Complete (client2 bk) client2Wf client2Init msg := by
  refine .of (client2Laws bk) client2Wf_init ?_
  cases h with
  | mk status tuple body hs ht hb =>
    have e : response2 ++ (status ++ 10 :: (tuple ++ 10 :: body))
        = response2Line ++ 10 :: (status ++ 10 :: (tuple ++ 10 :: body)) := by
      simp [response2_eq]
    rw [e]
    simp only [client2, client2Machine, client2Init, seq_feed_line _ _ _ _ response2Line_no_nl, const,
      seq_feed_line _ _ _ _ hs, seq_feed_line _ _ _ _ ht]
    exact body_complete hb

end BreezyVerif.C30
