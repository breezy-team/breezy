import BreezyVerif.Model.C40
import BreezyVerif.Lemmas.C03Copy
/-
C40 — bundles.  Installing a bundle of either format is a copy in the sense of C03
(`copied_installV4`, `copied_install09`: `C03.Copied`) of revisions that cover the target's
ancestry once the base is held (`covers_bundle`: `C03.Covers`), so the install theorems are
C03's copy theorems; the rest says which records a written bundle of either format holds,
and that the text records it carries suffice (`bundle_streamOK`, `streamOK_install09`).
-/
namespace BreezyVerif.C40

open BreezyVerif.C03 (Rev FileId TextKey Entry RevRec Inv Repo get hasRev graph reach anc invOrEmpty
  Exclusion streamEntries testament agree agreeOn complete noOrphanInv StreamOK Covers Copied)
open BreezyVerif.C33 (Reach parentsL)

section Assoc
variable {ρ κ β : Type} [DecidableEq κ]

theorem get_map_of_fun {key : ρ → κ} {val : ρ → β} {f : κ → Option β} {l : List ρ}
    (hf : ∀ r ∈ l, f (key r) = some (val r)) {k : κ} (hk : k ∈ l.map key) :
    get (l.map fun r => (key r, val r)) k = f k := by
  induction l with
  | nil => cases hk
  | cons x xs ih =>
    simp only [List.map_cons, C03.get]
    split
    · rename_i hx
      rw [← hx, hf x List.mem_cons_self]
    · rename_i hx
      rcases List.mem_cons.mp hk with h | h
      · exact absurd h.symm hx
      · exact ih (fun r hr => hf r (List.mem_cons_of_mem _ hr)) h

/-- concatenated maps each of which answers `v` or nothing at `k` answer `v` as soon as one of them does -/
theorem get_flatMap_of_fun {g : ρ → List (κ × β)} {l : List ρ} {k : κ} {v : β}
    (hg : ∀ r ∈ l, get (g r) k = none ∨ get (g r) k = some v) (hr : ∃ r ∈ l, get (g r) k = some v) :
    get (l.flatMap g) k = some v := by
  induction l with
  | nil => exact nomatch hr
  | cons x xs ih =>
    rw [List.flatMap_cons]
    cases hx : get (g x) k with
    | some w =>
      rw [C03.get_append_some hx]
      exact hx.symm.trans ((hg x List.mem_cons_self).resolve_left (by rw [hx]; exact nofun))
    | none =>
      rw [C03.get_append_none hx]
      obtain ⟨r, hr, hk⟩ := hr
      refine ih (fun r hr => hg r (List.mem_cons_of_mem _ hr)) ⟨r, ?_, hk⟩
      refine (List.mem_cons.mp hr).resolve_left fun h => ?_
      rw [h, hx] at hk
      cases hk

end Assoc

theorem get_map_none {ρ κ β : Type} [DecidableEq κ] (key : ρ → κ) (val : ρ → β) (l : List ρ) (k : κ)
    (hno : ∀ r ∈ l, key r ≠ k) : get (l.map fun r => (key r, val r)) k = none := by
  induction l with
  | nil => rfl
  | cons x xs ih =>
    simp only [List.map_cons, C03.get]
    split
    · rename_i hk; exact absurd hk (hno x (by simp))
    · exact ih (fun r hr => hno r (by simp [hr]))

/-- what a bundle carries: the source-present ancestry of the target that is not
reachable from the base -/
theorem bundle_revs_spec (src : Repo) (base target k : Rev) :
    k ∈ bundleRevs src base target ↔ k ∈ anc src target ∧ ¬ Reach (graph src) [] [base] k := by
  unfold bundleRevs
  simp [List.mem_filter, C03.mem_reach]

/-- … so every ancestor of the target is either carried or an ancestor of the base -/
theorem bundle_partition (src : Repo) (base target k : Rev) (hk : k ∈ anc src target) :
    k ∈ bundleRevs src base target ∨ k ∈ anc src base := by
  by_cases hr : Reach (graph src) [] [base] k
  · exact Or.inr ((C03.mem_anc src base k).mpr ⟨hr, ((C03.mem_anc src target k).mp hk).2⟩)
  · exact Or.inl ((bundle_revs_spec src base target k).mpr ⟨hk, hr⟩)

theorem mem_targetLast (m : List Rev) (t k : Rev) : k ∈ targetLast m t ↔ k ∈ m := by
  unfold targetLast
  split
  · rename_i ht
    simp only [List.mem_append, List.mem_filter, List.mem_singleton, decide_eq_true_eq]
    constructor
    · rintro (⟨h, _⟩ | h)
      · exact h
      · exact h ▸ ht
    · intro h
      by_cases hk : k = t
      · exact Or.inr hk
      · exact Or.inl ⟨h, hk⟩
  · rfl

theorem anc_trans {src : Repo} {a b c : Rev} (h1 : b ∈ anc src a) (h2 : c ∈ anc src b) : c ∈ anc src a := by
  rw [C03.mem_anc] at h1 h2 ⊢
  exact ⟨C03.reach_trans h1.1 h2.1, h2.2⟩

/-- "the repository contains the base": every source-present ancestor of the base -/
def holdsBase (src tgt : Repo) (base : Rev) : Bool := (anc src base).all (hasRev tgt)

/-- the bundled revisions cover the target's ancestry for a repository that holds the base:
what a revision search provides for a fetch (`C03.Covers`) -/
theorem covers_bundle {src tgt : Repo} {base target : Rev} (hb : holdsBase src tgt base = true) :
    Covers src tgt target (bundleRevs src base target) :=
  ⟨fun _ hk => ((bundle_revs_spec ..).mp hk).1, fun k hk =>
    (bundle_partition src base target k hk).imp_right (List.all_eq_true.mp hb k)⟩

theorem writeV4_ok {sel : TextSel} {src : Repo} {base target : Rev} {b : Bundle}
    (h : writeV4 sel src base target = .ok b) :
    (∀ k ∈ bundleRevs src base target, (get src.invs k).isSome = true) ∧
    (∀ e ∈ bundleEntries sel src (bundleRevs src base target), (get src.texts e.key).isSome = true) ∧
    b.revs = (targetLast (bundleRevs src base target) target).filterMap (fun k => (get src.revs k).map fun v => (k, v)) ∧
    b.invs = (bundleRevs src base target).filterMap (fun k => (get src.invs k).map fun v => (k, v)) ∧
    b.texts = (bundleEntries sel src (bundleRevs src base target)).filterMap
      (fun e => (get src.texts e.key).map fun c => (e.key, c)) := by
  unfold writeV4 at h
  simp only at h
  split at h
  · cases h
  · rename_i hw
    simp only [writable, Bool.not_eq_true, Bool.not_eq_false', Bool.and_eq_true, List.all_eq_true] at hw
    injection h with h
    subst h
    -- `rfl` for the projections is slow to check: the unifier unfolds the bundled set
    exact ⟨hw.1, hw.2, by simp only, by simp only, by simp only⟩

theorem bundle_revs_get {sel : TextSel} {src : Repo} {base target : Rev} {b : Bundle}
    (h : writeV4 sel src base target = .ok b) (k : Rev) :
    get b.revs k = if k ∈ bundleRevs src base target then get src.revs k else none := by
  rw [(writeV4_ok h).2.2.1, C03.get_filterMap_keyed]
  simp only [mem_targetLast]

theorem bundle_invs_get {sel : TextSel} {src : Repo} {base target : Rev} {b : Bundle}
    (h : writeV4 sel src base target = .ok b) (k : Rev) :
    get b.invs k = if k ∈ bundleRevs src base target then get src.invs k else none := by
  rw [(writeV4_ok h).2.2.2.1, C03.get_filterMap_keyed]

theorem bundle_texts_get {sel : TextSel} {src : Repo} {base target : Rev} {b : Bundle}
    (h : writeV4 sel src base target = .ok b) (k : TextKey) :
    get b.texts k = if k ∈ (bundleEntries sel src (bundleRevs src base target)).map Entry.key
      then get src.texts k else none := by
  rw [(writeV4_ok h).2.2.2.2]
  have := C03.get_filterMap_keyOf Entry.key (get src.texts) (bundleEntries sel src (bundleRevs src base target)) k
  -- the two `if`s decide membership through different instances
  by_cases hk : k ∈ (bundleEntries sel src (bundleRevs src base target)).map Entry.key
  · rw [if_pos hk] at this ⊢; exact this
  · rw [if_neg hk] at this ⊢; exact this

/-- source well-formedness used for XML-inventory bundles: the revision that last
changed an entry is a source-present ancestor (or the revision itself) … -/
def trevAncestral (src : Repo) : Bool :=
  src.invs.all fun kv => kv.2.all fun e => decide (e.trev ∈ anc src kv.1)

/-- … and its own inventory has an entry with that text key -/
def trevOrigin (src : Repo) : Bool :=
  src.invs.all fun kv => kv.2.all fun e =>
    match get src.invs e.trev with
    | some i => i.any fun e' => e'.key == e.key
    | none => false

/-- the hypothesis on the source a text selection needs -/
def selOK (sel : TextSel) (src : Repo) : Bool :=
  match sel with
  | .chk x => x == .revisionPresent || noOrphanInv src
  | .xml => trevAncestral src && trevOrigin src

/-- every inventory entry of a bundled revision is among the bundle's text records or its
text is already in the installing repository -/
theorem bundle_streamOK (sel : TextSel) (src tgt : Repo) (base target : Rev)
    (hb : holdsBase src tgt base = true) (ha : agree src tgt = true) (hc : complete tgt = true)
    (hs : selOK sel src = true) :
    StreamOK src tgt (bundleRevs src base target) (bundleEntries sel src (bundleRevs src base target)) := by
  cases sel with
  | chk x => exact C03.streamOK_filtered (covers_bundle hb) ha hc (by simpa [selOK] using hs)
  | xml =>
    intro k hk i hi e he
    simp only [bundleEntries]
    by_cases ht : e.trev ∈ bundleRevs src base target
    · left
      simp only [List.mem_filter, List.mem_flatMap, decide_eq_true_eq]
      exact ⟨⟨k, hk, by rw [C03.invOrEmpty_of_get hi]; exact he⟩, ht⟩
    · right
      simp only [selOK, Bool.and_eq_true] at hs
      have hmem := C03.get_mem hi
      have h1 := List.all_eq_true.mp (List.all_eq_true.mp hs.1 (k, i) hmem) e he
      have h2 := List.all_eq_true.mp (List.all_eq_true.mp hs.2 (k, i) hmem) e he
      simp only [decide_eq_true_eq] at h1
      have hta : e.trev ∈ anc src target := anc_trans ((bundle_revs_spec ..).mp hk).1 h1
      cases hti : get src.invs e.trev with
      | none => simp [hti] at h2
      | some it =>
        simp only [hti, List.any_eq_true, beq_iff_eq] at h2
        obtain ⟨e', he', hkey⟩ := h2
        obtain ⟨c, hc'⟩ := C03.text_of_held ha hc (((covers_bundle hb).cover _ hta).resolve_left ht) hti he'
        exact ⟨c, hkey ▸ hc'⟩

/-- installing a written v4 bundle is a copy of the bundled revisions and the selected texts
from the source: the copy theorems of C03 apply to it -/
theorem copied_installV4 {sel : TextSel} {src tgt : Repo} {base target : Rev} {b : Bundle}
    (hw : writeV4 sel src base target = .ok b) :
    Copied src tgt (installV4 b tgt).1 (bundleRevs src base target)
      (bundleEntries sel src (bundleRevs src base target)) where
  revs k := by
    show get (tgt.revs ++ b.revs) k = _
    cases h : get tgt.revs k with
    | some v => exact C03.get_append_some h
    | none => rw [C03.get_append_none h, bundle_revs_get hw]
  invsOld h := C03.get_append_some h
  invsNew hk hn := by
    show get (tgt.invs ++ b.invs) _ = _
    rw [C03.get_append_none hn, bundle_invs_get hw, if_pos hk]
  textOld h := C03.get_append_some h
  textNew he hn := by
    show get (tgt.texts ++ b.texts) _ = _
    rw [C03.get_append_none hn, bundle_texts_get hw, if_pos (List.mem_map_of_mem he)]
  srcInv k hk := Option.isSome_iff_exists.mp ((writeV4_ok hw).1 k hk)
  srcText e he := Option.isSome_iff_exists.mp ((writeV4_ok hw).2.1 e he)

theorem mapM_ok {α β ε : Type} (f : α → Except ε β) :
    ∀ (l : List α) (rs : List β), l.mapM f = .ok rs →
      (∀ a ∈ l, ∃ r ∈ rs, f a = .ok r) ∧ (∀ r ∈ rs, ∃ a ∈ l, f a = .ok r) := by
  intro l
  induction l with
  | nil =>
    intro rs h
    cases h
    exact ⟨fun _ h => (nomatch h), fun _ h => (nomatch h)⟩
  | cons a as ih =>
    intro rs h
    rw [List.mapM_cons] at h
    cases hfa : f a with
    | error e => rw [hfa] at h; cases h
    | ok r =>
      cases hrest : as.mapM f with
      | error e => rw [hfa, hrest] at h; cases h
      | ok rs' =>
        rw [hfa, hrest] at h
        cases h
        obtain ⟨h1, h2⟩ := ih rs' hrest
        exact ⟨List.forall_mem_cons.mpr ⟨⟨r, .head _, hfa⟩, fun x hx => (h1 x hx).imp fun _ h => ⟨.tail _ h.1, h.2⟩⟩,
          List.forall_mem_cons.mpr ⟨⟨a, .head _, hfa⟩, fun r' hr' => (h2 r' hr').imp fun _ h => ⟨.tail _ h.1, h.2⟩⟩⟩

theorem rec09_ok {src : Repo} {base target k : Rev} {r : Rec09} (h : rec09 src base target k = .ok r) :
    r.rev = k ∧ get src.revs k = some r.info ∧ get src.invs k = some r.inv ∧
    (∀ e ∈ r.inv, ∃ c, get src.texts e.key = some c) ∧ r.texts = C03.copyMap src.texts [] r.inv := by
  unfold rec09 at h
  split at h
  · rename_i rr inv hr hi
    simp only at h
    split at h
    · cases h
    · split at h
      · cases h
      · rename_i hall
        cases h
        simp only [Bool.not_eq_true, Bool.not_eq_false', List.all_eq_true] at hall
        exact ⟨rfl, hr, hi, fun e he => Option.isSome_iff_exists.mp (hall e he), rfl⟩
  · cases h

theorem write09_ok {src : Repo} {base target : Rev} {rs : List Rec09} (h : write09 src base target = .ok rs) :
    (∀ k ∈ bundleRevs src base target, ∃ r ∈ rs, r.rev = k) ∧
    ∀ r ∈ rs, r.rev ∈ bundleRevs src base target ∧ get src.revs r.rev = some r.info ∧
      get src.invs r.rev = some r.inv ∧ (∀ e ∈ r.inv, ∃ c, get src.texts e.key = some c) ∧
      r.texts = C03.copyMap src.texts [] r.inv := by
  obtain ⟨hfw, hbw⟩ := mapM_ok _ _ _ h
  constructor
  · intro k hk
    obtain ⟨r, hr, hfr⟩ := hfw k (List.mem_reverse.mpr ((mem_targetLast ..).mpr hk))
    exact ⟨r, hr, (rec09_ok hfr).1⟩
  · intro r hr
    obtain ⟨a, ha, hfa⟩ := hbw r hr
    obtain ⟨rfl, h⟩ := rec09_ok hfa
    exact ⟨(mem_targetLast ..).mp (List.mem_reverse.mp ha), h⟩

theorem install09_ok {rs : List Rec09} {tgt t' : Repo} (h : install09 rs tgt = .ok t') :
    deps09ok rs tgt = true ∧
    t' = { revs := tgt.revs ++ (rs.filter fun r => !hasRev tgt r.rev).map (fun r => (r.rev, r.info))
           invs := tgt.invs ++ (rs.filter fun r => !hasRev tgt r.rev).map (fun r => (r.rev, r.inv))
           texts := tgt.texts ++ (rs.filter fun r => !hasRev tgt r.rev).flatMap (·.texts) } := by
  unfold install09 at h
  split at h
  · cases h
  · rename_i hd
    simp only [Bool.not_eq_true, Bool.not_eq_false'] at hd
    exact ⟨hd, (Except.ok.inj h).symm⟩

theorem roundtrip09_ok {src tgt t' : Repo} {base target : Rev} (h : roundtrip09 src tgt base target = .ok t') :
    ∃ rs, write09 src base target = .ok rs ∧
      t' = { revs := tgt.revs ++ (rs.filter fun r => !hasRev tgt r.rev).map (fun r => (r.rev, r.info))
             invs := tgt.invs ++ (rs.filter fun r => !hasRev tgt r.rev).map (fun r => (r.rev, r.inv))
             texts := tgt.texts ++ (rs.filter fun r => !hasRev tgt r.rev).flatMap (·.texts) } := by
  unfold roundtrip09 at h
  split at h
  · cases h
  · rename_i rs hrs
    exact ⟨rs, hrs, (install09_ok h).2⟩

/-- writing a 0.9 bundle and installing it into a complete repository is a copy of the bundled
revisions and of every text of the trees of those the repository lacked -/
theorem copied_install09 {src tgt t' : Repo} {base target : Rev} (hc : complete tgt = true)
    (hw : roundtrip09 src tgt base target = .ok t') :
    Copied src tgt t' (bundleRevs src base target)
      (((bundleRevs src base target).filter fun k => !hasRev tgt k).flatMap (invOrEmpty src)) := by
  obtain ⟨rs, hwr, rfl⟩ := roundtrip09_ok hw
  obtain ⟨hcov, hrs⟩ := write09_ok hwr
  have hnew : ∀ r ∈ rs.filter fun r => !hasRev tgt r.rev, r ∈ rs := fun r hr => (List.mem_filter.mp hr).1
  -- a bundled revision `tgt` lacks has its record among the installed ones
  have hmem : ∀ k ∈ bundleRevs src base target, hasRev tgt k = false →
      k ∈ (rs.filter fun r => !hasRev tgt r.rev).map (·.rev) := fun k hk hf => by
    obtain ⟨r, hr, rfl⟩ := hcov k hk
    exact List.mem_map.mpr ⟨r, List.mem_filter.mpr ⟨hr, by rw [hf]; rfl⟩, rfl⟩
  have hes : ∀ e ∈ ((bundleRevs src base target).filter fun k => !hasRev tgt k).flatMap (invOrEmpty src),
      ∃ r ∈ rs.filter fun r => !hasRev tgt r.rev, e ∈ r.inv := fun e he => by
    obtain ⟨k, hk, hek⟩ := List.mem_flatMap.mp he
    obtain ⟨hkm, hkt⟩ := List.mem_filter.mp hk
    obtain ⟨r, hr, rfl⟩ := List.mem_map.mp (hmem k hkm (by simpa using hkt))
    exact ⟨r, hr, by rwa [C03.invOrEmpty_of_get (hrs r (hnew r hr)).2.2.1] at hek⟩
  refine ⟨fun k => ?_, C03.get_append_some, fun {k} hk hn => ?_, C03.get_append_some, fun {e} he hn => ?_,
    fun k hk => ?_, fun e he => ?_⟩
  · cases hg : get tgt.revs k with
    | some v => exact C03.get_append_some hg
    | none =>
      refine (C03.get_append_none hg).trans ?_
      by_cases hk : k ∈ bundleRevs src base target
      · exact (get_map_of_fun (fun r hr => (hrs r (hnew r hr)).2.1) (hmem k hk (by rw [hasRev, hg]; rfl))).trans
          (if_pos hk).symm
      · exact (get_map_none _ _ _ k fun r hr e => hk (e ▸ (hrs r (hnew r hr)).1)).trans (if_neg hk).symm
  · -- `tgt` is complete: without an inventory of `k` it has no revision `k` either
    have hf : hasRev tgt k = false := Bool.eq_false_iff.mpr fun ht => by
      obtain ⟨w, hw⟩ := (C03.hasRev_iff ..).mp ht
      obtain ⟨i, hi, _⟩ := C03.complete_inv hc hw
      rw [hn] at hi
      cases hi
    exact (C03.get_append_none hn).trans
      (get_map_of_fun (fun r hr => (hrs r (hnew r hr)).2.2.1) (hmem k hk hf))
  · obtain ⟨r, hr, her⟩ := hes e he
    obtain ⟨c, hcs⟩ := (hrs r (hnew r hr)).2.2.2.1 e her
    rw [hcs]
    -- every installed record answers with the source's text or not at all, and `r` answers
    refine (C03.get_append_none hn).trans (get_flatMap_of_fun (fun r' hr' => ?_) ⟨r, hr, ?_⟩)
    · rw [(hrs r' (hnew r' hr')).2.2.2.2, C03.copyMap_get]
      show (if _ then _ else _) = _ ∨ _
      split
      · exact Or.inr hcs
      · exact Or.inl rfl
    · rw [(hrs r (hnew r hr)).2.2.2.2, C03.copyMap_get]
      exact (if_pos (List.mem_map_of_mem her)).trans hcs
  · obtain ⟨r, hr, rfl⟩ := hcov k hk
    exact ⟨r.inv, (hrs r hr).2.2.1⟩
  · obtain ⟨r, hr, her⟩ := hes e he
    exact (hrs r (hnew r hr)).2.2.2.1 e her

theorem streamOK_install09 (src tgt : Repo) (base target : Rev) (ha : agree src tgt = true) (hc : complete tgt = true) :
    StreamOK src tgt (bundleRevs src base target)
      (((bundleRevs src base target).filter fun k => !hasRev tgt k).flatMap (invOrEmpty src)) := by
  intro k hk i hi e he
  cases ht : hasRev tgt k with
  | true => exact Or.inr (C03.text_of_held ha hc ht hi he)
  | false =>
    exact Or.inl (List.mem_flatMap.mpr ⟨k, List.mem_filter.mpr ⟨hk, by rw [ht]; rfl⟩,
      by rw [C03.invOrEmpty_of_get hi]; exact he⟩)

/-- **Faithful install, any format.**  Let `tgt` hold the base's ancestry, agree with `src` and be
complete, and let `t'` be a copy of the bundled revisions into it.  Then every source-present
ancestor of the target is in `t'` with the source's revision record, inventory and testament. -/
theorem faithful_of_copied {src tgt t' : Repo} {base target : Rev} {es : List Entry}
    (hcp : Copied src tgt t' (bundleRevs src base target) es)
    (hb : holdsBase src tgt base = true) (ha : agree src tgt = true) (hc : complete tgt = true)
    {k : Rev} (hk : k ∈ anc src target) (hsi : (get src.invs k).isSome = true) :
    hasRev t' k = true ∧ get t'.revs k = get src.revs k ∧ get t'.invs k = get src.invs k ∧
    testament t' k = testament src k := by
  have hkt := hcp.holdsAnc (covers_bundle hb) k hk
  have hf := hcp.faithful ha hc k hk hkt
  obtain ⟨i, hi⟩ := Option.isSome_iff_exists.mp hsi
  exact ⟨hkt, hf.1, (hf.2 i hi).trans hi.symm, C03.testament_eq hf hsi⟩

end BreezyVerif.C40
