import BreezyVerif.Lemmas.C30LP
import BreezyVerif.Lemmas.C29CK
/-! the five laws for ChunkedBodyDecoder -/
namespace BreezyVerif.C30
open BreezyVerif.C29

def ckWf : CK → Prop
  | .expectingHeader buf => (10 : UInt8) ∉ buf
  | .expectingLength buf _ => (10 : UInt8) ∉ buf
  | .readingChunk l _ _ => 0 < l
  | _ => True

theorem ckWf_lengthStep (b : Bytes) (acc : CKAcc) : ckWf (CK.lengthStep b acc) := by
  fun_induction CK.lengthStep b acc
  case case1 h => exact splitLine_none_notMem h
  case case6 h => exact Nat.sub_pos_of_lt (Nat.lt_of_not_le h)
  -- a recursive call is the induction hypothesis; `done` and `failed` are well-formed
  any_goals assumption
  all_goals trivial

theorem ckWf_feed (s : CK) (x : Bytes) (_h : ckWf s) : ckWf (s.feed x) := by
  cases s with
  | expectingHeader buf =>
    rw [CK.feed_eH]; unfold CK.headerStep
    split
    · rename_i h; exact splitLine_none_notMem h
    · split
      · exact ckWf_lengthStep _ _
      · trivial
  | expectingLength buf acc => exact ckWf_lengthStep _ _
  | readingChunk l cur acc =>
    rw [CK.feed_rC]
    split
    · exact ckWf_lengthStep _ _
    · rename_i h; exact Nat.sub_pos_of_lt (Nat.lt_of_not_le h)
  | done cs u => trivial
  | failed e => trivial

/-- a finished run over `b` saw a line, used at least the four bytes `END\n`, and left
unused only bytes after the first line -/
theorem ck_lengthStep_fin (b : Bytes) (acc : CKAcc) (h : (CK.lengthStep b acc).finished = true) :
    ∃ line rest, splitLine b = some (line, rest) ∧
      4 + (CK.lengthStep b acc).unused.length ≤ b.length ∧
      (CK.lengthStep b acc).unused.length ≤ rest.length := by
  fun_induction CK.lengthStep b acc
  case case2 rest hs ih =>
    obtain ⟨_, _, _, h4, _⟩ := ih h
    exact ⟨_, _, hs, Nat.le_trans h4 (Nat.le_of_lt (splitLine_length hs)),
      Nat.le_trans (Nat.le_add_left _ 4) h4⟩
  case case3 rest hs _ =>
    refine ⟨_, _, hs, ?_, Nat.le_refl _⟩
    rw [splitLine_some_length hs]
    exact Nat.le_refl (4 + rest.length)
  case case5 line rest hs _ _ n _ hle ih =>
    obtain ⟨_, _, _, h4, _⟩ := ih h
    have h4 := Nat.le_trans h4 (List.drop_sublist n rest).length_le
    exact ⟨_, _, hs, Nat.le_trans h4 (Nat.le_of_lt (splitLine_length hs)),
      Nat.le_trans (Nat.le_add_left _ 4) h4⟩
  -- the remaining results are waiting or failed states, which are not finished
  all_goals cases h

theorem ckLaws : Laws ckMachine ckWf where
  append := CK.feed_append
  wf_feed := ckWf_feed
  fin_feed := by
    intro s x h
    cases s with
    | done cs u => exact ⟨rfl, rfl⟩
    | _ => cases h
  fin_stop := by intro s h; exact h
  hint := by
    intro s q hwf hnf hfin
    cases s with
    | expectingHeader buf =>
      simp only [ckMachine, CK.feed_eH] at hfin ⊢
      unfold CK.headerStep at hfin ⊢
      cases hs : splitLine (buf ++ q) with
      | none => rw [hs] at hfin; cases hfin
      | some lr =>
        obtain ⟨line, rest⟩ := lr
        simp only [hs] at hfin ⊢
        split at hfin
        · rename_i hc
          obtain ⟨_, _, _, h4, _⟩ := ck_lengthStep_fin rest .empty hfin
          obtain ⟨h1, h2⟩ := splitLine_append_prefix hs hwf
          rw [hc] at h1 h2
          refine ⟨rfl, ?_⟩
          simp only [hc, if_true, chunkedHeader, List.length_cons, List.length_nil,
            CK.nextReadSize] at h1 h2 ⊢
          omega
        · cases hfin
    | expectingLength buf acc =>
      simp only [ckMachine, CK.feed_eL] at hfin ⊢
      obtain ⟨line, rest, hs, h4, hr⟩ := ck_lengthStep_fin _ acc hfin
      obtain ⟨h1, h2⟩ := splitLine_append_prefix hs hwf
      refine ⟨rfl, ?_⟩
      simp only [List.length_append, CK.nextReadSize] at h4 ⊢
      split <;> omega
    | readingChunk l cur acc =>
      simp only [ckMachine, CK.feed_rC] at hfin ⊢
      split at hfin
      · rename_i hle
        obtain ⟨_, _, _, h4, _⟩ := ck_lengthStep_fin _ _ hfin
        refine ⟨rfl, ?_⟩
        simp only [List.length_drop, hle, if_true, CK.nextReadSize] at h4 ⊢
        omega
      · cases hfin
    | done cs u => cases hnf
    | failed e => cases hfin

theorem ckWf_init : ckWf CK.init := by simp [CK.init, ckWf]

theorem ck_feed_encode (chunks : List Bytes) (err : Option (List Bytes)) :
    CK.feed CK.init (ckEncode chunks err) = .done (ckExpected chunks err) [] := by
  rw [← List.append_nil (ckEncode chunks err), CK.feed_init_encode]

end BreezyVerif.C30
