import BreezyVerif.Model.C35Y
import BreezyVerif.Lemmas.C35
/-
Helper lemmas for the yielded-object theorems of Props/C35.lean.
-/
namespace BreezyVerif.C35

/-- simultaneous structural induction over file-id nodes and child lists -/
theorem FNode.induction {P : FNode → Prop} {Q : FChildren → Prop}
    (file : ∀ k c x, P (.file k c x)) (link : ∀ k t, P (.link k t))
    (dir : ∀ f cs, Q cs → P (.dir f cs)) (nil : Q .nil)
    (cons : ∀ name n rest, P n → Q rest → Q (.cons name n rest)) : (∀ n, P n) ∧ ∀ cs, Q cs :=
  ⟨fun n => FNode.rec (motive_1 := P) (motive_2 := Q) file link dir nil cons n,
    fun cs => FChildren.rec (motive_1 := P) (motive_2 := Q) file link dir nil cons cs⟩

theorem ents_path_ne :
    (∀ n parent path name, path ≠ [] → ∀ e ∈ entsN parent path name n, e.path ≠ []) ∧
    ∀ cs parent pre, ∀ e ∈ entsC parent pre cs, e.path ≠ [] := by
  refine FNode.induction ?_ ?_ ?_ ?_ ?_
  · intro k c x parent path name hp e h
    cases List.mem_singleton.1 h
    exact hp
  · intro k t parent path name hp e h
    cases List.mem_singleton.1 h
    exact hp
  · intro f cs ih parent path name hp e h
    rcases List.mem_cons.1 h with rfl | h
    · exact hp
    · exact ih f path e h
  · exact fun _ _ _ h => nomatch h
  · intro name n rest ihn ihr parent pre e h
    rcases List.mem_append.1 h with h | h
    · exact ihn parent _ name (List.append_ne_nil_of_right_ne_nil _ (List.cons_ne_nil _ _)) e h
    · exact ihr parent pre e h

/-- the leaves of (the subtree at) an entry of a tree are leaves of the tree -/
theorem ents_leaves :
    (∀ n parent path name, ∀ e ∈ entsN parent path name n,
      ∀ x ∈ leaves (eraseN e.node), x ∈ leaves (eraseN n)) ∧
    ∀ cs parent pre, ∀ e ∈ entsC parent pre cs, ∀ x ∈ leaves (eraseN e.node), x ∈ leavesC (eraseC cs) := by
  refine FNode.induction ?_ ?_ ?_ ?_ ?_
  · intro k c x parent path name e h
    cases List.mem_singleton.1 h
    exact fun _ hx => hx
  · intro k t parent path name e h
    cases List.mem_singleton.1 h
    exact fun _ hx => hx
  · intro f cs ih parent path name e h
    rcases List.mem_cons.1 h with rfl | h
    · exact fun _ hx => hx
    · exact ih f path e h
  · exact fun _ _ _ h => nomatch h
  · intro name n rest ihn ihr parent pre e h x hx
    rcases List.mem_append.1 h with h | h
    · exact List.mem_append_left _ (ihn parent _ name e h x hx)
    · exact List.mem_append_right _ (ihr parent pre e h x hx)

/-- a file entry of a tree is one of its leaves -/
theorem entsN_file_leaf (parent : Bytes) (path : Path) (name : Bytes) :
    (n : FNode) → ∀ e ∈ entsN parent path name n, ∀ k c x, e.node = .file k c x → (k, c) ∈ leaves (eraseN n) :=
  fun n e h k c x hn => ents_leaves.1 n parent path name e h _ (by rw [hn]; exact List.mem_singleton.2 rfl)

/-- the leaves below a directory entry are leaves of the tree -/
theorem entsN_dir_leaves (parent : Bytes) (path : Path) (name : Bytes) :
    (n : FNode) → ∀ e ∈ entsN parent path name n, ∀ f cs, e.node = .dir f cs →
      ∀ x ∈ leavesC (eraseC cs), x ∈ leaves (eraseN n) :=
  fun n e h f cs hn x hx => ents_leaves.1 n parent path name e h x (by rw [hn]; exact hx)

theorem ftree_leaves (t : FTree) (e : Ent) (he : e ∈ t.ents) :
    ∀ x ∈ leaves (eraseN e.node), x ∈ leavesC (eraseC t.cs) := by
  rcases List.mem_cons.1 he with rfl | he
  · exact fun _ hx => hx
  · exact ents_leaves.2 t.cs t.rootFid [] e he

theorem hitKey_file {e : FNode} {k0 : Key} {c : Bytes} {x0 : Bool} {pk : Key}
    (h : hitKey e (.file k0 c x0) = some pk) : ∃ x, e = .file pk c x := by
  cases e with
  | file k c' x =>
    simp only [hitKey] at h
    split at h
    · rename_i hc
      simp only [Option.some.injEq] at h
      have : c' = c := by simpa using hc
      subst this; subst h
      exact ⟨x, rfl⟩
    · simp at h
  | link k t => simp [hitKey] at h
  | dir f cs => simp [hitKey] at h

/-- `find_unchanged_parent_ie` for a file returns the key of an identical text of another parent -/
theorem otherHit_file_mem : ∀ (others : List FTree) (fid : Bytes) (k0 : Key) (c : Bytes) (x0 : Bool) (pk : Key),
    otherHit others fid (.file k0 c x0) = some pk → (pk, c) ∈ others.flatMap fun o => leavesC (eraseC o.cs)
  | [] => fun _ _ _ _ _ h => nomatch h
  | o :: rest => fun fid k0 c x0 pk h => by
    simp only [List.flatMap_cons, List.mem_append]
    unfold otherHit at h
    split at h
    · rename_i k hk
      simp only [Option.some.injEq] at h
      subst h
      simp only [Option.bind_eq_some_iff] at hk
      obtain ⟨e, hf, hh⟩ := hk
      obtain ⟨x, hx⟩ := hitKey_file hh
      exact Or.inl (ftree_leaves o e (List.mem_of_find?_eq_some hf) _ (by rw [hx]; exact List.mem_singleton.2 rfl))
    · exact Or.inr (otherHit_file_mem rest fid k0 c x0 pk h)

/-- the ids `directory_to_tree` is given while the dirty directories are rebuilt
are the from-scratch ones, for every SHA map that is correct for the leaves
that can be asked for -/
theorem yExp_eq (H : GObj → Sha) (cache : Cache) (es0 : List Ent) (others : List FTree)
    (ls : List (Key × Bytes)) (hc : cacheOK H cache ls = true)
    (ho : ∀ x ∈ others.flatMap (fun o => leavesC (eraseC o.cs)), x ∈ ls) :
    (∀ n parent name, (∀ x ∈ leaves (eraseN n), x ∈ ls) →
      yExpN H cache es0 others parent name n = expNode H (eraseN n)) ∧
    ∀ cs parent, (∀ x ∈ leavesC (eraseC cs), x ∈ ls) →
      yExpC H cache es0 others parent cs = expChildren H (eraseC cs) := by
  refine FNode.induction ?_ ?_ ?_ ?_ ?_
  · intro k c x parent name hl
    have hk : (k, c) ∈ ls := hl _ (List.mem_singleton.2 rfl)
    simp only [yExpN, eraseN, expNode, exportMode]
    congr 2
    split
    · split
      · rename_i pk hp
        exact cacheOK_getD hc (ho _ (otherHit_file_mem others k.fid k c x pk hp))
      · rfl
    · exact cacheOK_getD hc hk
  · intro k t parent name hl
    have hk : (k, t) ∈ ls := hl _ (List.mem_singleton.2 rfl)
    simp only [yExpN, eraseN, expNode, exportMode]
    congr 2
    split
    · rfl
    · exact cacheOK_getD hc hk
  · intro f cs ih parent name hl
    rw [yExpN, eraseN, expNode, ih f hl]
  · exact fun _ _ => rfl
  · intro name n rest ihn ihr parent hl
    rw [yExpC, eraseC, expChildren, ihn parent name fun x hx => hl x (List.mem_append_left _ hx),
      ihr parent fun x hx => hl x (List.mem_append_right _ hx)]
    rfl

theorem yExpN_eq (H : GObj → Sha) (cache : Cache) (es0 : List Ent) (others : List FTree)
    (ls : List (Key × Bytes)) (hc : cacheOK H cache ls = true)
    (ho : ∀ x ∈ others.flatMap (fun o => leavesC (eraseC o.cs)), x ∈ ls) :
    (n : FNode) → (parent name : Bytes) → (∀ x ∈ leaves (eraseN n), x ∈ ls) →
      yExpN H cache es0 others parent name n = expNode H (eraseN n) :=
  (yExp_eq H cache es0 others ls hc ho).1

theorem entAtPath_root (t : FTree) : entAtPath t.ents [] = some ⟨t.rootFid, [], [], [], .dir t.rootFid t.cs⟩ := by
  simp [entAtPath, FTree.ents]

theorem entAtPath_mem {es : List Ent} {p : Path} {e : Ent} (h : entAtPath es p = some e) : e ∈ es ∧ e.path = p := by
  refine ⟨List.mem_of_find?_eq_some h, ?_⟩
  have := List.find?_some h
  simpa using this

/-- the new entry of a reported change is an entry of the tree -/
theorem changes_new_mem (base : Option FTree) (t : FTree) (c : Change) (hc : c ∈ changes base t)
    (e : Ent) (he : c.new = some e) : e ∈ t.ents := by
  unfold changes at hc
  simp only [List.mem_append, List.mem_filterMap] at hc
  rcases hc with ⟨e1, h1, h2⟩ | ⟨e0, _, h2⟩
  · unfold entChange at h2
    split at h2
    · simp only [Option.some.injEq] at h2
      subst h2
      simp only [Option.some.injEq] at he
      subst he; exact h1
    · split at h2
      · simp at h2
      · simp only [Option.some.injEq] at h2
        subst h2
        simp only [Option.some.injEq] at he
        subst he; exact h1
  · split at h2
    · simp at h2
    · simp only [Option.some.injEq] at h2
      subst h2
      simp at he

/-- a yielded blob is filed under the path of the new entry of its change, a file or a symlink -/
theorem changeBlob_new {v : Variant} {H : GObj → Sha} {cache : Cache} {others : List FTree} {c : Change}
    {x : Path × Sha} (hx : changeBlob v H cache others c = some x) :
    ∃ e, c.new = some e ∧ e.path = x.1 ∧ ∀ f cs, e.node ≠ .dir f cs := by
  unfold changeBlob at hx
  by_cases hs : c.skipped = true
  · rw [if_pos hs] at hx
    cases hx
  · rw [if_neg hs] at hx
    split at hx
    · rename_i fid path pa nm k content ex hnew
      refine ⟨_, hnew, ?_, fun _ _ h => nomatch h⟩
      split at hx
      · split at hx
        · cases hx
        · split at hx
          · cases hx
            rfl
          · cases hx
      · cases hx
        rfl
    · rename_i fid path pa nm k target hnew
      refine ⟨_, hnew, ?_, fun _ _ h => nomatch h⟩
      split at hx
      · cases hx
        rfl
      · cases hx
    · cases hx

/-- a yielded blob never has the empty path -/
theorem changeBlob_path_ne (fb : Variant) (H : GObj → Sha) (cache : Cache) (base : Option FTree) (others : List FTree)
    (t : FTree) (c : Change) (hc : c ∈ changes base t) (x : Path × Sha) (hx : changeBlob fb H cache others c = some x) :
    x.1 ≠ [] := by
  obtain ⟨e, hnew, hp, hd⟩ := changeBlob_new hx
  rw [← hp]
  rcases List.mem_cons.1 (changes_new_mem base t c hc e hnew) with rfl | hm
  · exact (hd _ _ rfl).elim
  · exact ents_path_ne.2 t.cs t.rootFid [] e hm

end BreezyVerif.C35
