import BreezyVerif.Lemmas.C24
/-! C24 — the local git tag store (`LocalGitTagDict._set_tag_dict`,
`GitTags.get_tag_dict`, `InterTagsFromGitToLocalGit.merge`). -/
namespace BreezyVerif.C24

section git
variable {κ ν : Type} [DecidableEq κ]

theorem dget_filter_key (d : Dict κ ν) (p : κ → Bool) (n : κ) :
    dget (d.filter fun e => p e.1) n = if p n then dget d n else none := by
  induction d with
  | nil => simp
  | cons e r ih =>
    obtain ⟨a, b⟩ := e
    simp only [List.filter_cons, dget_cons]
    by_cases h : a = n
    · subst h
      cases hp : p a <;> simp [dget_cons, hp, ih]
    · cases hp : p a <;> simp [dget_cons, h, ih]

theorem dget_ddel (d : Dict κ ν) (k n : κ) :
    dget (ddel d k) n = if n = k then none else dget d n := by
  unfold ddel
  rw [dget_filter_key d (fun x => !(x == k)) n]
  by_cases h : n = k <;> simp [h]

theorem dkeys_filter_sublist (d : Dict κ ν) (p : κ × ν → Bool) :
    (dkeys (d.filter p)).Sublist (dkeys d) := by
  unfold dkeys
  exact (List.filter_sublist (l := d) (p := p)).map Prod.fst

theorem filter_nodup (d : Dict κ ν) (p : κ × ν → Bool) (h : (dkeys d).Nodup) :
    (dkeys (d.filter p)).Nodup :=
  (dkeys_filter_sublist d p).nodup h

theorem ddel_nodup (d : Dict κ ν) (k : κ) (h : (dkeys d).Nodup) : (dkeys (ddel d k)).Nodup :=
  filter_nodup d _ h

theorem dget_foldl_ddel (ex : List κ) (d : Dict κ ν) (n : κ) :
    dget (ex.foldl ddel d) n = if n ∈ ex then none else dget d n := by
  induction ex generalizing d with
  | nil => simp
  | cons k r ih =>
    rw [List.foldl_cons, ih, dget_ddel]
    by_cases h1 : n = k
    · subst h1; simp
    · by_cases h2 : n ∈ r <;> simp [h1, h2]

theorem foldl_ddel_nodup (ex : List κ) (d : Dict κ ν) (h : (dkeys d).Nodup) :
    (dkeys (ex.foldl ddel d)).Nodup :=
  List.foldlRecOn (motive := fun d : Dict κ ν => (dkeys d).Nodup) ex _ h fun d hd k _ => ddel_nodup d k hd

theorem dget_filter_val (d : Dict κ ν) (hn : (dkeys d).Nodup) (p : ν → Bool) (n : κ) :
    dget (d.filter fun e => p e.2) n = (dget d n).filter p := by
  induction d with
  | nil => simp
  | cons e r ih =>
    obtain ⟨a, b⟩ := e
    obtain ⟨ha, hr⟩ := dkeys_nodup_cons.mp hn
    simp only [List.filter_cons, dget_cons]
    by_cases h : a = n
    · subst h
      cases hp : p b <;> simp [dget_cons, Option.filter, hp, ih hr, (dget_eq_none_iff r a).mpr ha]
    · cases hp : p b <;> simp [dget_cons, h, ih hr]

theorem gitRead_get (cls : ν → RevClass) (refs : Dict κ ν) (hn : (dkeys refs).Nodup) (n : κ) :
    dget (gitRead cls refs) n = (dget refs n).filter fun v => (cls v).isCommit :=
  dget_filter_val refs hn (fun v => (cls v).isCommit) n

theorem gitRead_nodup (cls : ν → RevClass) (refs : Dict κ ν) (hn : (dkeys refs).Nodup) :
    (dkeys (gitRead cls refs)).Nodup := filter_nodup refs _ hn

/-- whatever is readable is a commit -/
theorem gitRead_commit (cls : ν → RevClass) (refs : Dict κ ν) (n : κ) (v : ν)
    (h : dget (gitRead cls refs) n = some v) : cls v = .commit := by
  have hm := (List.mem_filter.mp (dget_some_mem _ n v h)).2
  cases hc : cls v <;> simp_all [RevClass.isCommit]

theorem gitSet_fold_refs (strict : Bool) (cls : ν → RevClass) (to : Dict κ ν) (hn : (dkeys to).Nodup)
    (st : Dict κ ν × List κ) (n : κ) :
    dget (to.foldl (gitSetStep strict cls) st).1 n
      = match dget to n with
        | some v => if setTagWrites strict (cls v) then some v else dget st.1 n
        | none => dget st.1 n :=
  foldl_local (gitSetStep strict cls) n (fun st => dget st.1 n)
    (fun v r => if setTagWrites strict (cls v) then some v else r)
    (fun st v => by
      unfold gitSetStep
      cases setTagWrites strict (cls v)
      · rfl
      · exact dget_dset_self st.1 n v)
    (fun st k v hk => by
      unfold gitSetStep
      cases setTagWrites strict (cls v)
      · rfl
      · exact dget_dset_ne st.1 k n v hk) to hn st

theorem gitSet_fold_extra (strict : Bool) (cls : ν → RevClass) (to : Dict κ ν)
    (st : Dict κ ν × List κ) (n : κ) :
    n ∈ (to.foldl (gitSetStep strict cls) st).2 ↔ n ∈ st.2 ∧ n ∉ dkeys to := by
  induction to generalizing st with
  | nil => simp [dkeys]
  | cons e r ih =>
    rw [List.foldl_cons, ih]
    simp only [gitSetStep, List.mem_filter, dkeys, List.map_cons, List.mem_cons, not_or,
      Bool.not_eq_true', beq_eq_false_iff_ne, and_assoc]

theorem gitSet_fold_nodup (strict : Bool) (cls : ν → RevClass) (to : Dict κ ν)
    (st : Dict κ ν × List κ) (h : (dkeys st.1).Nodup) :
    (dkeys (to.foldl (gitSetStep strict cls) st).1).Nodup :=
  List.foldlRecOn (motive := fun st : Dict κ ν × List κ => (dkeys st.1).Nodup) to _ h
    fun st hb e _ => by
      unfold gitSetStep
      cases setTagWrites strict (cls e.2)
      · exact hb
      · exact dset_nodup _ _ _ hb

theorem gitSetTagDict_nodup (strict : Bool) (cls : ν → RevClass) (refs to : Dict κ ν)
    (h : (dkeys refs).Nodup) : (dkeys (gitSetTagDict strict cls refs to)).Nodup := by
  unfold gitSetTagDict
  exact foldl_ddel_nodup _ _ (gitSet_fold_nodup strict cls to _ h)

end git
section spec
variable {κ ν : Type} [DecidableEq κ] [DecidableEq ν]

/-- what a merge onto a local git store must leave readable for one tag name:
the statement's value (`specVal`) when the store can hold it; a value the store
cannot hold (ghost, or absent with a `strict` `set_tag`) leaves the destination's
definition alone; an absent commit written by a non-strict `set_tag` is a broken
ref, i.e. no readable tag. -/
def gitSpec (strict : Bool) (cls : ν → RevClass) (s d : Option ν) (ow : Bool) : Option ν :=
  match specVal s d ow with
  | none => none
  | some v =>
    match cls v with
    | .commit => some v
    | .ghost => d
    | .absent => if strict then d else none

/-- raw target ref of one tag after `InterTagsFromGitToLocalGit.merge` -/
def g2gSpec (cls : ν → RevClass) (s d : Option ν) (ow : Bool) : Option ν :=
  match s, d with
  | none, d => d
  | some v, none => if (cls v).isCommit then some v else none
  | some v, some w => if v = w then some w else if ow && (cls v).isCommit then some v else some w

/-- update reported for one tag by `InterTagsFromGitToLocalGit.merge` -/
def g2gUpd (cls : ν → RevClass) (s d : Option ν) (ow : Bool) : Option ν :=
  match s, d with
  | none, _ => none
  | some v, none => if (cls v).isCommit then some v else none
  | some v, some w => if v ≠ w ∧ ow = true ∧ (cls v).isCommit = true then some v else none

theorem g2gUpd_none (cls : ν → RevClass) (d : Option ν) (ow : Bool) : g2gUpd cls none d ow = none := by
  unfold g2gUpd; rfl

theorem g2gUpd_commit {cls : ν → RevClass} {s d : Option ν} {ow : Bool} {v : ν}
    (h : g2gUpd cls s d ow = some v) : (cls v).isCommit = true := by
  unfold g2gUpd at h
  split at h
  · cases h
  · split at h
    · cases h; assumption
    · cases h
  · split at h
    · cases h; exact ‹_ ∧ _ ∧ _›.2.2
    · cases h

theorem g2gSpec_eq_or (cls : ν → RevClass) (s d : Option ν) (ow : Bool) :
    g2gSpec cls s d ow = (g2gUpd cls s d ow).or d := by
  unfold g2gSpec g2gUpd
  cases s with
  | none => rfl
  | some v =>
    cases d with
    | none => cases hv : (cls v).isCommit <;> simp [hv]
    | some w => by_cases h : v = w <;> cases ow <;> cases hv : (cls v).isCommit <;> simp [h, hv]

/-- the state of the git → git loop as a state of the generic loop (`refs` is the dictionary) -/
def G2G.toRec (st : G2G κ ν) : Rec κ ν := ⟨st.refs, st.updates, st.conflicts⟩

theorem g2gStep_eq_mergeStep (cls : ν → RevClass) (ow : Bool) (sel : Option (κ → Bool)) (st : G2G κ ν)
    (e : κ × ν) :
    (g2gStep cls ow sel st e).toRec
      = mergeStep (g2gUpd cls · · ow) (fun v w => !ow && v != w && (cls w).isCommit) sel st.toRec e := by
  obtain ⟨k, v⟩ := e
  unfold g2gStep mergeStep G2G.toRec
  cases hs : selected sel k with
  | false => simp [g2gUpd, dsetOpt, conflictOf]
  | true =>
    cases hc : dget st.refs k with
    | none => cases hv : (cls v).isCommit <;> simp [hv, g2gUpd, dsetOpt, conflictOf]
    | some w =>
      by_cases hw : w = v
      · simp [hw, g2gUpd, dsetOpt, conflictOf]
      · have hw' : ¬ v = w := fun e => hw e.symm
        cases ow
        · cases hcw : (cls w).isCommit <;> simp [hw, hw', hcw, g2gUpd, dsetOpt, conflictOf]
        · cases hv : (cls v).isCommit <;> simp [hw, hw', hv, g2gUpd, dsetOpt, conflictOf]

theorem gitToGit_eq (cls : ν → RevClass) (refs src : Dict κ ν) (ow : Bool) (sel : Option (κ → Bool)) :
    (gitToGit cls refs src ow sel).toRec
      = src.foldl (mergeStep (g2gUpd cls · · ow) (fun v w => !ow && v != w && (cls w).isCommit) sel)
          ⟨refs, [], []⟩ :=
  (List.foldl_hom G2G.toRec fun st e => (g2gStep_eq_mergeStep cls ow sel st e).symm).symm

theorem g2g_refs_nodup (cls : ν → RevClass) (refs src : Dict κ ν) (ow : Bool)
    (sel : Option (κ → Bool)) (hr : (dkeys refs).Nodup) :
    (dkeys (gitToGit cls refs src ow sel).refs).Nodup := by
  show (dkeys (gitToGit cls refs src ow sel).toRec.result).Nodup
  rw [gitToGit_eq]
  exact (mergeLoop_nodup _ _ sel src _).1 hr

end spec
end BreezyVerif.C24
