import BreezyVerif.Lemmas.C16
/-! C16 — lemmas for the commit/uncommit round trip and the parent filter. -/
namespace BreezyVerif.C16
open BreezyVerif.C21

theorem keepTagsOutside_fresh (r : Rev) (ps : List Rev) (g : Graph) (tags : Tags) (hr : r ∉ ps)
    (ht : ∀ t ∈ tags, t.2 ≠ r) : keepTagsOutside ((r, ps) :: g) tags r ps = tags := by
  unfold keepTagsOutside
  rw [List.filter_eq_self]
  intro t htm
  cases hc : (findUniqueAncestors ((r, ps) :: g) r ps).contains t.2
  · rfl
  · exfalso
    exact ht t htm (fua_fresh r ps g hr t.2 (by simpa using hc))

theorem removedTags_fresh (r : Rev) (ps : List Rev) (g : Graph) (tags : Tags) (hr : r ∉ ps)
    (ht : ∀ t ∈ tags, t.2 ≠ r) : removedTags ((r, ps) :: g) tags r ps = [] := by
  unfold removedTags
  rw [List.map_eq_nil_iff, List.filter_eq_nil_iff]
  intro t htm hc
  exact ht t htm (fua_fresh r ps g hr t.2 (by simpa using hc))

theorem dropTags_nil (tags : Tags) : dropTags tags [] = tags := by
  simp [dropTags]

theorem filterRest_sub (hs : List Tip) : ∀ (l acc : List Rev) (x : Rev), x ∈ filterRest hs acc l → x ∈ l := by
  intro l
  induction l with
  | nil => intro acc x h; simp [filterRest] at h
  | cons r rest ih =>
    intro acc x h
    unfold filterRest at h
    split at h
    · exact List.mem_cons_of_mem _ (ih acc x h)
    · simp only [List.mem_cons] at h ⊢
      rcases h with h | h
      · exact Or.inl h
      · exact Or.inr (ih _ x h)

/-- a head that was not accepted yet is kept -/
theorem filterRest_keeps (hs : List Tip) : ∀ (l acc : List Rev) (x : Rev), x ∈ l → x ∉ acc →
    some x ∈ hs → x ∈ filterRest hs acc l := by
  intro l
  induction l with
  | nil => intro acc x h; simp at h
  | cons r rest ih =>
    intro acc x hx hacc hh
    unfold filterRest
    by_cases hrx : r = x
    · subst hrx
      simp [hacc, hh]
    · have hx' : x ∈ rest := by
        simp only [List.mem_cons] at hx
        rcases hx with hx | hx
        · exact absurd hx.symm hrx
        · exact hx
      split
      · exact ih acc x hx' hacc hh
      · simp only [List.mem_cons]
        right
        apply ih _ x hx' _ hh
        simp only [List.mem_cons, not_or]
        exact ⟨fun e => hrx e.symm, hacc⟩

/-- the checks `uncommit` and `uncommitNoTree` make before they walk from the old tip -/
def guarded (st : St) (d : Nat) (isLocal : Bool) (k : Rev → Except Err St) : Except Err St :=
  if isLocal && st.master.isNone then .error .localRequiresBound
  else
    match st.br.tip with
    | none => .error .emptyBranch
    | some old =>
      if outOfDate (masterFor isLocal st) (some old) then .error .outOfDate
      else if st.br.revno < d then .error .badDepth
      else k old

theorem uncommit_eq_guarded (g : Graph) (st : St) (d : Nat) (keep loc : Bool) :
    uncommit g st d keep loc = guarded st d loc fun old =>
      match walk g old d st.parents.tail with
      | .error e => .error e
      | .ok (t, pm) => .ok (finish g st old t pm d keep loc) := by
  unfold uncommit guarded
  cases st.br.tip <;> rfl

theorem uncommitNoTree_eq_guarded (g : Graph) (st : St) (d : Nat) (keep loc : Bool) :
    uncommitNoTree g st d keep loc = guarded st d loc fun old =>
      match walk g old d [] with
      | .error e => .error e
      | .ok (t, _) => .ok { finish g st old t [] d keep loc with parents := st.parents } := by
  unfold uncommitNoTree guarded
  cases st.br.tip <;> rfl

theorem guarded_ok {st st' : St} {d : Nat} {loc : Bool} {k : Rev → Except Err St}
    (h : guarded st d loc k = .ok st') :
    ∃ old, st.br.tip = some old ∧ k old = .ok st' ∧ d ≤ st.br.revno ∧
      outOfDate (masterFor loc st) st.br.tip = false ∧ (loc = true → st.master.isSome = true) := by
  unfold guarded at h
  by_cases h1 : (loc && st.master.isNone) = true
  · rw [if_pos h1] at h; cases h
  rw [if_neg h1] at h
  cases htip : st.br.tip with
  | none => rw [htip] at h; cases h
  | some old =>
    rw [htip] at h
    dsimp only at h
    by_cases h2 : outOfDate (masterFor loc st) (some old) = true
    · rw [if_pos h2] at h; cases h
    by_cases h3 : st.br.revno < d
    · rw [if_neg h2, if_pos h3] at h; cases h
    rw [if_neg h2, if_neg h3] at h
    refine ⟨old, rfl, h, Nat.le_of_not_lt h3, Bool.eq_false_iff.2 h2, fun hl => ?_⟩
    cases hm : st.master.isNone
    · simp at hm; simpa using hm
    · simp [hl, hm] at h1

theorem guarded_eq {st : St} {d : Nat} {loc : Bool} {k : Rev → Except Err St} {old : Rev}
    (h1 : (loc && st.master.isNone) = false) (htip : st.br.tip = some old)
    (h2 : outOfDate (masterFor loc st) (some old) = false) (h3 : d ≤ st.br.revno) :
    guarded st d loc k = k old := by
  unfold guarded
  rw [htip]
  dsimp only
  rw [if_neg (by simp [h1]), if_neg (by simp [h2]), if_neg (Nat.not_lt.2 h3)]

/-- what a successful `uncommit` has done -/
theorem uncommit_ok_inv (g : Graph) (st st' : St) (d : Nat) (keep loc : Bool)
    (h : uncommit g st d keep loc = .ok st') :
    ∃ old t pm, st.br.tip = some old ∧ walk g old d st.parents.tail = .ok (t, pm) ∧
      st' = finish g st old t pm d keep loc := by
  rw [uncommit_eq_guarded] at h
  obtain ⟨old, htip, hk, _⟩ := guarded_ok h
  cases hw : walk g old d st.parents.tail with
  | error e => rw [hw] at hk; cases hk
  | ok p =>
    obtain ⟨t, pm⟩ := p
    rw [hw] at hk
    cases hk
    exact ⟨old, t, pm, htip, hw, rfl⟩

/-- a successful `uncommit` removed no more revisions than the branch had, and a bound branch was in step -/
theorem uncommit_ok_guards (g : Graph) (st st' : St) (d : Nat) (keep loc : Bool)
    (h : uncommit g st d keep loc = .ok st') :
    d ≤ st.br.revno ∧ outOfDate (masterFor loc st) st.br.tip = false ∧ (loc = true → st.master.isSome = true) := by
  rw [uncommit_eq_guarded] at h
  obtain ⟨_, _, _, hg⟩ := guarded_ok h
  exact hg

/-- what a successful `uncommit(tree=None)` has done -/
theorem uncommitNoTree_ok_inv (g : Graph) (st st' : St) (d : Nat) (keep loc : Bool)
    (h : uncommitNoTree g st d keep loc = .ok st') :
    ∃ old t pm, st.br.tip = some old ∧ walk g old d [] = .ok (t, pm) ∧ d ≤ st.br.revno ∧
      st' = { finish g st old t [] d keep loc with parents := st.parents } := by
  rw [uncommitNoTree_eq_guarded] at h
  obtain ⟨old, htip, hk, hd, _⟩ := guarded_ok h
  cases hw : walk g old d [] with
  | error e => rw [hw] at hk; cases hk
  | ok p =>
    obtain ⟨t, pm⟩ := p
    rw [hw] at hk
    cases hk
    exact ⟨old, t, pm, htip, hw, hd, rfl⟩

theorem treeOK_head {g : Graph} {st : St} (h : treeOK g st = true) : st.parents.head? = st.br.tip := by
  simp only [treeOK, Bool.and_eq_true, beq_iff_eq] at h
  exact h.1.1

/-- uncommitting one revision that was just added on top of the parent list `ps` walks back to its first parent -/
theorem walk_fresh (r : Rev) (ps : List Rev) (g : Graph) (pm : List Rev) (hp : tipPresent g ps.head? = true) :
    walk ((r, ps) :: g) r 1 pm = .ok (ps.head?, pm ++ ps.tail.reverse) := by
  cases ps with
  | nil => simp [walk]
  | cons p rest =>
    simp only [walk, if_true]
    exact walk_zero g p _ hp

/-- what `uncommit` writes after a commit of the tree as the fresh revision `r` is the state before the commit;
`master'` is the master after the commit: advanced with the branch, or left alone by `commit --local` -/
theorem finish_fresh (g : Graph) (st : St) (r : Rev) (master' : Option Branch) (keep loc : Bool)
    (hrp : r ∉ st.parents) (htree : treeOK g st = true) (htags : ∀ t ∈ st.br.tags, t.2 ≠ r)
    (hm : master'.map (fun m => { m with tip := if loc then m.tip else st.br.tip,
                                         revno := if loc then m.revno else st.br.revno }) = st.master) :
    finish ((r, st.parents) :: g) ⟨{ st.br with tip := some r, revno := st.br.revno + 1 }, master', [r]⟩ r
      st.parents.head? st.parents.tail.reverse 1 keep loc = st := by
  obtain ⟨⟨tip, revno, tags⟩, master, parents⟩ := st
  simp only [treeOK, Bool.and_eq_true, beq_iff_eq] at htree
  obtain ⟨⟨hhead, hfilt⟩, _⟩ := htree
  dsimp only at hhead hfilt hrp htags hm
  subst hhead hm
  have hnp : newParents parents.head? parents.tail.reverse = parents := by
    cases parents <;> simp [newParents]
  simp only [finish, hnp, keepTagsOutside_fresh r parents g tags hrp htags,
    removedTags_fresh r parents g tags hrp htags, filterParents_cons r parents g parents hrp, hfilt,
    dropTags_nil, ite_self, Nat.add_sub_cancel]

theorem lefthand_head (g : Graph) : ∀ (r : Rev) (l : List Rev), lefthand g r = some l → l.head? = some r := by
  induction g with
  | nil => intro r l h; simp [lefthand] at h
  | cons e g ih =>
    obtain ⟨n, ps⟩ := e
    intro r l h
    unfold lefthand at h
    by_cases hn : n = r
    · simp only [hn, if_true] at h
      cases ps with
      | nil => simp at h; subst h; rfl
      | cons p rest =>
        simp only [Option.map_eq_some_iff] at h
        obtain ⟨l', _, rfl⟩ := h
        rfl
    · simp only [hn, if_false] at h
      exact ih r l h

theorem lhTip_head (g : Graph) (t : Tip) (l : List Rev) (h : lhTip g t = some l) : t = l.head? := by
  cases t with
  | none => simp [lhTip] at h; subst h; rfl
  | some x => exact (lefthand_head g x l h).symm

end BreezyVerif.C16
