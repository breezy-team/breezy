import BreezyVerif.Model.C07
/-!
C07 — helper lemmas: digit arithmetic of the distribution, the inner
`consume` loop, and the invariant of the planner's main loop (`loop_spec`),
from which `plan_spec` describes `plan_autopack_combinations` completely.
-/
namespace BreezyVerif.C07

theorem distAux_sum (fuel : Nat) : ∀ (t size : Nat), t ≤ fuel →
    (distAux fuel t size).sum = t * size := by
  induction fuel with
  | zero => intro t size h; rw [Nat.le_zero.mp h, Nat.zero_mul]; rfl
  | succ f ih =>
    intro t size h
    rw [distAux]
    by_cases h0 : t = 0
    · rw [if_pos h0, h0, Nat.zero_mul]; rfl
    · rw [if_neg h0, List.sum_append_nat, List.sum_replicate_nat,
        ih _ _ (Nat.le_of_lt_succ (Nat.lt_of_lt_of_le (Nat.div_lt_self (Nat.pos_of_ne_zero h0) (by decide)) h)),
        Nat.mul_comm size 10, ← Nat.mul_assoc, ← Nat.add_mul, Nat.mul_comm (t / 10) 10,
        Nat.add_comm, Nat.div_add_mod]

theorem distAux_length (fuel : Nat) : ∀ (t size : Nat),
    (distAux fuel t size).length = digitSumAux fuel t := by
  induction fuel with
  | zero => intro t size; rfl
  | succ f ih =>
    intro t size
    rw [distAux, digitSumAux]
    by_cases h0 : t = 0
    · rw [if_pos h0, if_pos h0]; rfl
    · rw [if_neg h0, if_neg h0, List.length_append, List.length_replicate, ih]

/-- in the "already packed better" branch a head bucket that fits is deleted -/
theorem consume_add_cons (d k : Nat) (ds : List Nat) (h : 0 < d + k) :
    consume (d + k) (d :: ds) = consume k ds := by
  generalize hn : d + k = n at h
  cases n with
  | zero => exact absurd h (Nat.lt_irrefl 0)
  | succ n => rw [consume, if_pos (hn ▸ Nat.le_add_right d k), ← hn, Nat.add_sub_cancel_left]

theorem consume_spec : ∀ (ds : List Nat) (c : Nat), c ≤ ds.sum →
    ∃ ds', consume c ds = .ok ds' ∧ ds'.sum + c = ds.sum ∧ ds'.length ≤ ds.length := by
  intro ds
  induction ds with
  | nil =>
    intro c h
    rw [Nat.le_zero.mp h]
    exact ⟨[], rfl, rfl, Nat.le_refl _⟩
  | cons d ds ih =>
    intro c h
    cases c with
    | zero => exact ⟨d :: ds, rfl, rfl, Nat.le_refl _⟩
    | succ c =>
      rw [List.sum_cons] at h ⊢
      by_cases hd : d ≤ c + 1
      · obtain ⟨k, hk⟩ := Nat.exists_eq_add_of_le hd
        rw [hk] at h ⊢
        obtain ⟨ds', h1, h2, h3⟩ := ih k (Nat.le_of_add_le_add_left h)
        rw [consume_add_cons d k ds (hk ▸ Nat.succ_pos c)]
        exact ⟨ds', h1, by rw [← h2, Nat.add_left_comm], Nat.le_succ_of_le h3⟩
      · rw [consume, if_neg hd]
        exact ⟨_, rfl, by rw [List.sum_cons, Nat.add_right_comm,
          Nat.sub_add_cancel (Nat.le_of_not_le hd)], Nat.le_refl _⟩

theorem cnt_cons (p : Pack) (ps : List Pack) : cnt (p :: ps) = p.1 + cnt ps := rfl

theorem cnt_nil : cnt [] = 0 := rfl

theorem opsPacks_snoc (done : List Op) (o : Op) : opsPacks (done ++ [o]) = opsPacks done ++ o.2 := by
  simp [opsPacks]

theorem opsCount_snoc (done : List Op) (o : Op) : opsCount (done ++ [o]) = opsCount done + o.1 := by
  rw [opsCount, List.map_append, List.sum_append_nat]
  rfl

/-- The loop invariant.  From any loop state in which the remaining buckets
can still hold the remaining packs plus the open combination
(`cnt rest + cur.1 ≤ dist.sum`), the loop terminates without error, and splits
`rest` into the packs it selects for combination (`sel`, in order) and the
packs it leaves alone (`kept`); every kept pack deletes at least one bucket,
and an open or filled combination accounts for one more bucket. -/
theorem loop_spec (rest : List Pack) : ∀ (dist : List Nat) (cur : Op) (done : List Op),
    (∀ p ∈ rest, 0 < p.1) → cnt rest + cur.1 ≤ dist.sum →
    ∃ ops sel kept, loop rest dist cur done = .ok ops ∧
      opsPacks ops = opsPacks done ++ cur.2 ++ sel ∧
      opsCount ops = opsCount done + cur.1 + cnt sel ∧
      (sel ++ kept).Perm rest ∧ sel.Sublist rest ∧
      kept.length ≤ dist.length ∧
      ((0 < cur.1 ∨ sel ≠ []) → kept.length + 1 ≤ dist.length) := by
  induction rest with
  | nil =>
    intro dist cur done _ hsum
    refine ⟨done ++ [cur], [], [], rfl, by rw [opsPacks_snoc, List.append_nil],
      opsCount_snoc done cur, .refl _, .refl _, Nat.zero_le _, fun h => ?_⟩
    cases dist with
    | nil =>
      have h0 : cur.1 ≤ 0 := Nat.le_trans (Nat.le_add_left _ _) hsum
      exact h.elim (fun hc => absurd h0 (Nat.not_le_of_gt hc)) (absurd rfl)
    | cons d ds => exact Nat.succ_le_succ (Nat.zero_le _)
  | cons p rest ih =>
    intro dist cur done hpos hsum
    have hp : 0 < p.1 := hpos p List.mem_cons_self
    have hpos' : ∀ q ∈ rest, 0 < q.1 := fun q hq => hpos q (List.mem_cons_of_mem _ hq)
    rw [cnt_cons] at hsum
    cases dist with
    | nil =>
      have h0 : p.1 ≤ 0 :=
        Nat.le_trans (Nat.le_trans (Nat.le_add_right _ _) (Nat.le_add_right _ _)) hsum
      exact absurd h0 (Nat.not_le_of_gt hp)
    | cons d ds =>
      rw [List.sum_cons] at hsum
      by_cases hd : d ≤ p.1
      · -- keep: the pack is at least as large as the head bucket, which it uses up
        obtain ⟨k, hk⟩ := Nat.exists_eq_add_of_le hd
        have hs : k + (cnt rest + cur.1) ≤ ds.sum :=
          Nat.le_of_add_le_add_left (by rwa [hk, Nat.add_assoc, Nat.add_assoc] at hsum)
        obtain ⟨dist', hc1, hc2, hc3⟩ := consume_spec ds k (Nat.le_trans (Nat.le_add_right _ _) hs)
        rw [← hc2, Nat.add_comm k] at hs
        obtain ⟨ops, sel, kept, h1, h2, h3, h4, h5, h6, h7⟩ :=
          ih dist' cur done hpos' (Nat.le_of_add_le_add_right hs)
        have h0 : loop (p :: rest) (d :: ds) cur done = .ok ops := by
          rw [loop, if_pos hd, hk, consume_add_cons d k ds (hk ▸ hp), hc1]
          exact h1
        exact ⟨ops, sel, p :: kept, h0, h2, h3, List.perm_middle.trans (h4.cons p), h5.cons p,
          Nat.succ_le_succ (Nat.le_trans h6 hc3),
          fun h => Nat.succ_le_succ (Nat.le_trans (h7 h) hc3)⟩
      · have hsum' : cur.1 + p.1 + cnt rest ≤ d + ds.sum := by
          rwa [Nat.add_right_comm, Nat.add_comm p.1] at hsum
        by_cases hfill : d ≤ cur.1 + p.1
        · -- combine, bucket filled
          obtain ⟨ops, sel, kept, h1, h2, h3, h4, h5, h6, h7⟩ :=
            ih ds (0, []) (done ++ [(cur.1 + p.1, cur.2 ++ [p])]) hpos'
              (Nat.le_of_add_le_add_left (Nat.le_trans (Nat.add_le_add_right hfill _) hsum'))
          refine ⟨ops, p :: sel, kept, by rw [loop, if_neg hd, if_pos hfill]; exact h1, ?_, ?_, h4.cons p, h5.cons_cons p,
            Nat.le_succ_of_le h6, fun _ => Nat.succ_le_succ h6⟩
          · rw [h2, opsPacks_snoc]
            simp only [List.append_assoc, List.append_nil, List.cons_append, List.nil_append]
          · rw [h3, opsCount_snoc, cnt_cons]
            simp only [Nat.add_zero, Nat.add_assoc]
        · -- combine, bucket still open
          obtain ⟨ops, sel, kept, h1, h2, h3, h4, h5, h6, h7⟩ :=
            ih (d :: ds) (cur.1 + p.1, cur.2 ++ [p]) done hpos'
              (Nat.le_trans (Nat.le_of_eq (Nat.add_comm _ _)) hsum')
          refine ⟨ops, p :: sel, kept, by rw [loop, if_neg hd, if_neg hfill]; exact h1, ?_, ?_, h4.cons p, h5.cons_cons p, h6,
            fun _ => h7 (.inl (Nat.add_pos_right _ hp))⟩
          · rw [h2]
            simp only [List.append_assoc, List.cons_append, List.nil_append]
          · rw [h3, cnt_cons]
            simp only [Nat.add_assoc]

theorem insertDesc_perm (x : Pack) (l : List Pack) : (insertDesc x l).Perm (x :: l) := by
  induction l with
  | nil => simp [insertDesc]
  | cons y ys ih =>
    unfold insertDesc
    split
    · exact List.Perm.refl _
    · exact (List.Perm.cons y ih).trans (List.Perm.swap x y ys)

theorem sortDesc_perm (packs : List Pack) : (sortDesc packs).Perm packs := by
  induction packs with
  | nil => simp [sortDesc]
  | cons x xs ih =>
    show (insertDesc x (sortDesc xs)).Perm (x :: xs)
    exact (insertDesc_perm x _).trans (List.Perm.cons x ih)

theorem cnt_append (a b : List Pack) : cnt (a ++ b) = cnt a + cnt b := by
  rw [cnt, counts, List.map_append, List.sum_append_nat]
  rfl

theorem cnt_perm {a b : List Pack} (h : a.Perm b) : cnt a = cnt b := by
  unfold cnt counts
  exact (h.map _).sum_nat

/-- Complete description of `plan` for any distribution that can hold the
packs: it either plans nothing because there are no more packs than buckets, or
plans exactly one combination `ps` of at least two packs. -/
theorem plan_spec (packs : List Pack) (dist : List Nat)
    (hpos : ∀ p ∈ packs, 0 < p.1) (hsum : cnt packs ≤ dist.sum) :
    (packs.length ≤ dist.length ∧ plan packs dist = .ok []) ∨
    (dist.length < packs.length ∧ ∃ ps kept, plan packs dist = .ok [(cnt ps, ps)] ∧
      2 ≤ ps.length ∧ (ps ++ kept).Perm packs ∧ ps.Sublist (sortDesc packs) ∧
      kept.length + 1 ≤ dist.length) := by
  by_cases hlen : packs.length ≤ dist.length
  · exact .inl ⟨hlen, by rw [plan, if_pos hlen]⟩
  · have hperm := sortDesc_perm packs
    obtain ⟨ops, sel, kept, h1, h2, h3, h4, h5, h6, h7⟩ :=
      loop_spec (sortDesc packs) dist (0, []) []
        (fun p hp => hpos p (hperm.mem_iff.mp hp)) (by rw [cnt_perm hperm]; exact hsum)
    replace h2 : opsPacks ops = sel := h2
    replace h3 : opsCount ops = cnt sel := h3.trans (Nat.zero_add _)
    have hl : sel.length + kept.length = packs.length :=
      List.length_append ▸ (h4.trans hperm).length_eq
    -- more packs than buckets, and every kept pack has its bucket: something is selected,
    -- which accounts for one more bucket, so at least two packs are
    have hne : sel ≠ [] := by
      rintro rfl
      exact hlen (hl ▸ Nat.zero_add _ ▸ h6)
    have h7' := h7 (.inr hne)
    have h2l : 2 ≤ sel.length := by omega
    refine .inr ⟨Nat.lt_of_not_le hlen, sel, kept, ?_, h2l, h4.trans hperm, h5, h7'⟩
    rw [plan, if_neg hlen, h1]
    show (if (opsPacks ops).length = 1 then _ else _) = _
    rw [h2, h3, if_neg (Nat.ne_of_gt h2l)]

theorem packDistribution_sum (t : Nat) : (packDistribution t).sum = t := by
  unfold packDistribution
  split
  · next h => simp [h]
  · rw [List.sum_reverse_nat, distAux_sum t t 1 (Nat.le_refl t)]; simp

theorem packDistribution_length (t : Nat) : (packDistribution t).length = maxPackCount t := by
  unfold packDistribution maxPackCount
  split
  · simp
  · simp [distAux_length]

/-- `plan_spec` for the distribution of a total that covers the packs; the
number of buckets is `_max_pack_count` -/
theorem plan_total_spec (packs : List Pack) (total : Nat)
    (hpos : ∀ p ∈ packs, 0 < p.1) (htot : cnt packs ≤ total) :
    (packs.length ≤ maxPackCount total ∧ plan packs (packDistribution total) = .ok []) ∨
    (maxPackCount total < packs.length ∧ ∃ ps kept,
      plan packs (packDistribution total) = .ok [(cnt ps, ps)] ∧ 2 ≤ ps.length ∧
      (ps ++ kept).Perm packs ∧ ps.Sublist (sortDesc packs) ∧
      kept.length + 1 ≤ maxPackCount total) := by
  have := plan_spec packs (packDistribution total) hpos ((packDistribution_sum total).symm ▸ htot)
  rwa [packDistribution_length] at this

theorem filter_pos_id (packs : List Pack) (hpos : ∀ p ∈ packs, 0 < p.1) :
    packs.filter (fun p => p.1 != 0) = packs := by
  rw [List.filter_eq_self]
  intro p hp
  have := hpos p hp
  simp; omega

theorem cnt_filter_le (packs : List Pack) (f : Pack → Bool) : cnt (packs.filter f) ≤ cnt packs := by
  induction packs with
  | nil => exact Nat.le_refl _
  | cons p ps ih =>
    rw [List.filter_cons]
    by_cases h : f p = true
    · rw [if_pos h]; exact Nat.add_le_add_left ih _
    · rw [if_neg h]; exact Nat.le_trans ih (Nat.le_add_left _ _)

/-! ### carrying out a plan (`_execute_pack_operations`) -/

/-- removing the packs of a combination (`_remove_pack_from_memory` for every
combined pack) leaves exactly the packs that were not selected -/
theorem foldl_erase_perm (ps : List Pack) : ∀ (packs kept : List Pack),
    (ps ++ kept).Perm packs → (ps.foldl (fun acc p => acc.erase p) packs).Perm kept := by
  induction ps with
  | nil => intro packs kept h; simpa using h.symm
  | cons p ps ih =>
    intro packs kept h
    simp only [List.foldl_cons]
    exact ih _ _ (List.cons_perm_iff_perm_erase.mp h).2

theorem packsAfter_single (n c : Nat) {ps : List Pack} (hne : ps ≠ []) :
    packsAfter n [(c, ps)] = n - ps.length + 1 := by
  cases ps with
  | nil => exact absurd rfl hne
  | cons p ps => rfl

theorem executeOpsDup_nil (d : Nat) (packs : List Pack) : executeOpsDup d packs [] = packs := rfl

/-- a single non-empty combination `ps` of `packs` is replaced by one new pack -/
theorem executeOpsDup_single (d n : Nat) (packs ps kept : List Pack) (hne : ps ≠ [])
    (h : (ps ++ kept).Perm packs) :
    (executeOpsDup d packs [(n, ps)]).Perm ((n - d, 0) :: kept) := by
  have he : ps.isEmpty = false := by cases ps <;> simp_all
  simp only [executeOpsDup, he]
  exact List.Perm.cons _ (foldl_erase_perm ps packs kept h)

/-! ### `_max_pack_count` is the digit sum of `str(total)` -/

theorem charDigit_digitChar : ∀ d, d < 10 → charDigit (Nat.digitChar d) = d := by decide

/-- the fuelled recursion is the sum of the decimal digit characters -/
theorem digitSumAux_eq_toDigits (fuel : Nat) : ∀ t, t ≤ fuel →
    digitSumAux fuel t = if t = 0 then 0 else ((Nat.toDigits 10 t).map charDigit).sum := by
  induction fuel with
  | zero => intro t h; rw [Nat.le_zero.mp h]; rfl
  | succ f ih =>
    intro t h
    rw [digitSumAux]
    by_cases h0 : t = 0
    · rw [if_pos h0, if_pos h0]
    · rw [if_neg h0, if_neg h0, ih (t / 10) (Nat.le_of_lt_succ
        (Nat.lt_of_lt_of_le (Nat.div_lt_self (Nat.pos_of_ne_zero h0) (by decide)) h))]
      by_cases hlt : t < 10
      · rw [if_pos (Nat.div_eq_of_lt hlt), Nat.toDigits_of_lt_base hlt, List.map_cons, List.map_nil,
          List.sum_cons, List.sum_nil, charDigit_digitChar t hlt, Nat.mod_eq_of_lt hlt]
      · have hle := Nat.le_of_not_lt hlt
        rw [if_neg (Nat.ne_of_gt (Nat.div_pos hle (by decide))),
          Nat.toDigits_of_base_le (by decide) hle, List.map_append, List.sum_append_nat,
          List.map_cons, List.map_nil, List.sum_cons, List.sum_nil,
          charDigit_digitChar (t % 10) (Nat.mod_lt t (by decide)), Nat.add_zero, Nat.add_comm]

end BreezyVerif.C07
