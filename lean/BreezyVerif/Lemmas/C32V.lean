import BreezyVerif.Lemmas.C32S
/-
C32, lock-scope sessions, the steps: the logical lock keeps coherence, and a body
lemma lifts through `with lock:`, a step and a script; caches exist only inside a lock
scope, for ANY client variant, and bodies that agree up to the caches cannot be told
apart by an operation with its own lock cycle; `NoOrphan` (every physical lock has a
holder that will release it) is kept by every specification step other than
`leave_lock_in_place()`; data of the witness theorems.
-/
namespace BreezyVerif.C32

theorem acquire_coh (wr : Bool) (tok : Option Nat) (o : Obj) (st : St) (k1 : LockSt) (s1 : St) (hc : Coherent o st)
    (h : acquire primLock true wr tok o.lk st = .ok (k1, s1)) :
    Coherent { o with lk := k1 } s1 ∧ (wr = true → k1.mode = .w) := by
  obtain ⟨h1, h2, h3, h4, h5⟩ := hc
  rcases acquire_ok h with ⟨_, _, t, hp, rfl⟩ | ⟨_, rfl, rfl, rfl⟩ | ⟨_, hw, rfl, rfl⟩
  · cases tok with
    | none =>
      obtain ⟨_, _, rfl, rfl⟩ := primLock_none_ok hp
      exact ⟨⟨h1, h2, h3, h4, fun _ => ⟨rfl, rfl⟩⟩, fun _ => rfl⟩
    | some t' =>
      obtain ⟨hl, rfl, rfl⟩ := primLock_some_ok hp
      exact ⟨⟨h1, h2, h3, h4, fun _ => ⟨rfl, hl⟩⟩, fun _ => rfl⟩
  · exact ⟨⟨h1, h2, h3, h4, nofun⟩, nofun⟩
  · exact ⟨⟨h1, h2, h3, h4, h5⟩, hw⟩

theorem clear_coh (o : Obj) (st : St) (k : LockSt) (hk : k.mode = .unlocked) :
    Coherent ({ o with lk := k }.clear) st :=
  ⟨cacheOK_none _, cacheOK_none _, cacheOK_none _, cacheOK_none _, fun hx => by simp [Obj.clear, hk] at hx⟩

theorem release_coh (o : Obj) (st : St) (hc : Coherent o st) :
    let r := release primRelease o.lk st
    Coherent (if r.2.2.2 then { o with lk := r.2.1 }.clear else { o with lk := r.2.1 }) r.2.2.1 := by
  rcases release_cases primRelease o.lk st with ⟨_, h⟩ | ⟨_, _, h⟩ | ⟨_, _, e, s1, h, _⟩
  · rw [h]; exact hc
  · rw [h]; exact hc
  · rw [h]; exact clear_coh o s1 _ rfl

/-- an invariant of objects that ignores the lock state and survives dropping the caches -/
structure LkStable (P : Obj → Prop) : Prop where
  lk : ∀ o k, P o → P { o with lk := k }
  clear : ∀ o, P o → P o.clear

theorem setLeave_coh (b : Bool) (o : Obj) (st : St) (k1 : LockSt) (hc : Coherent o st)
    (h : setLeave b o.lk = .ok k1) : Coherent { o with lk := k1 } st := by
  obtain ⟨h1, h2, h3, h4, h5⟩ := hc
  unfold setLeave at h
  split at h
  · rename_i hm
    injection h with h
    subst h
    exact ⟨h1, h2, h3, h4, fun _ => h5 hm⟩
  · cases h

/-- the second holder's lock / unlock keeps the object coherent: it never touches a lock the object holds -/
theorem ownerStep_coh (lock : Bool) (o : Obj) (st : St) (hc : Coherent o st) :
    Coherent o (ownerStep lock o.lk st).2 := by
  obtain ⟨h1, h2, h3, h4, h5⟩ := hc
  rcases ownerStep_cases lock o.lk st with h | ⟨hlk, h⟩ | ⟨ht, _, hlent, hlk, h⟩ | ⟨ht, _, _, h⟩ <;> rw [h]
  · exact ⟨h1, h2, h3, h4, h5⟩
  · refine ⟨h1, h2, h3, h4, fun hm => ?_⟩
    have hs := (h5 hm).1
    rw [(h5 hm).2.symm.trans hlk] at hs
    cases hs
  · exact ⟨h1, h2, h3, h4, fun hm => absurd ⟨hm, (h5 hm).2.symm.trans hlk⟩ hlent⟩
  · exact ⟨h1, h2, h3, h4, h5⟩

/-- lifting a body lemma through `with lock:` -/
theorem withLk_spec (wr : Bool) (o : Obj) (st : St) (body : Obj → St → Res × Obj × St) (sbody : St → Res × St)
    (P : Obj → Prop) (hP : LkStable P) (hc : Coherent o st) (hp : P o)
    (hlk : ∀ o' st', (body o' st').2.1.lk = o'.lk)
    (hbody : ∀ o' st', Coherent o' st' → P o' → (wr = true → o'.lk.mode = .w) →
      ((body o' st').1, (body o' st').2.2) = sbody st' ∧
      Coherent (body o' st').2.1 (body o' st').2.2 ∧ P (body o' st').2.1) :
    let x := withLk primLock primRelease true wr o st body
    let y := withLkS wr o.lk st sbody
    x.1 = y.1 ∧ x.2.1.lk = y.2.1 ∧ x.2.2 = y.2.2 ∧ Coherent x.2.1 x.2.2 ∧ P x.2.1 := by
  unfold withLk withLkS
  cases ha : acquire primLock true wr none o.lk st with
  | error e => exact ⟨rfl, rfl, rfl, hc, hp⟩
  | ok p =>
    obtain ⟨k1, s1⟩ := p
    obtain ⟨c1, w1⟩ := acquire_coh wr none o st k1 s1 hc ha
    obtain ⟨b1, b3, b4⟩ := hbody { o with lk := k1 } s1 c1 (hP.lk o k1 hp) w1
    simp only []
    have e1 : (body { o with lk := k1 } s1).1 = (sbody s1).1 := congrArg Prod.fst b1
    have e2 : (body { o with lk := k1 } s1).2.2 = (sbody s1).2 := congrArg Prod.snd b1
    have e3 : (body { o with lk := k1 } s1).2.1.lk = k1 := hlk _ _
    have rc := release_coh _ _ b3
    rw [e3, e2] at rc
    rw [e1, e2, e3]
    refine ⟨rfl, ?_, rfl, rc, ?_⟩
    · split <;> rfl
    · split
      · exact hP.clear _ (hP.lk _ _ b4)
      · exact hP.lk _ _ b4

/-- one step of an object whose bodies satisfy the body lemma = one step of the specification -/
theorem sessStep_spec (src : Graph) (body : SOp → Obj → St → Res × Obj × St) (P : Obj → Prop) (hP : LkStable P)
    (o : Obj) (st : St) (op : SOp) (hc : Coherent o st) (hp : P o)
    (hlk : ∀ o' st', (body op o' st').2.1.lk = o'.lk)
    (hbody : ∀ o' st', Coherent o' st' → P o' → (op.needsWrite = true → o'.lk.mode = .w) →
      ((body op o' st').1, (body op o' st').2.2) = specBody src op st' ∧
      Coherent (body op o' st').2.1 (body op o' st').2.2 ∧ P (body op o' st').2.1) :
    let x := sessStep primLock primRelease true body o st op
    let y := specStep src o.lk st op
    x.1 = y.1 ∧ x.2.1.lk = y.2.1 ∧ x.2.2 = y.2.2 ∧ Coherent x.2.1 x.2.2 ∧ P x.2.1 := by
  cases op with
  | lockW =>
    simp only [sessStep, specStep]
    cases ha : acquire primLock true true none o.lk st with
    | error e => exact ⟨rfl, rfl, rfl, hc, hp⟩
    | ok p =>
      obtain ⟨k1, s1⟩ := p
      exact ⟨rfl, rfl, rfl, (acquire_coh true none o st k1 s1 hc ha).1, hP.lk o k1 hp⟩
  | lockTok good =>
    simp only [sessStep, specStep]
    cases ha : acquire primLock true true (sessTok st good) o.lk st with
    | error e => exact ⟨rfl, rfl, rfl, hc, hp⟩
    | ok p =>
      obtain ⟨k1, s1⟩ := p
      exact ⟨rfl, rfl, rfl, (acquire_coh true _ o st k1 s1 hc ha).1, hP.lk o k1 hp⟩
  | lockR =>
    simp only [sessStep, specStep]
    cases ha : acquire primLock true false none o.lk st with
    | error e => exact ⟨rfl, rfl, rfl, hc, hp⟩
    | ok p =>
      obtain ⟨k1, s1⟩ := p
      exact ⟨rfl, rfl, rfl, (acquire_coh false none o st k1 s1 hc ha).1, hP.lk o k1 hp⟩
  | unlock =>
    simp only [sessStep, specStep]
    refine ⟨trivial, ?_, trivial, release_coh o st hc, ?_⟩
    · split <;> rfl
    · split
      · exact hP.clear _ (hP.lk _ _ hp)
      · exact hP.lk _ _ hp
  | leave =>
    simp only [sessStep, specStep]
    cases hs : setLeave true o.lk with
    | error e => exact ⟨rfl, rfl, rfl, hc, hp⟩
    | ok k1 => exact ⟨rfl, rfl, rfl, setLeave_coh true o st k1 hc hs, hP.lk o k1 hp⟩
  | dontLeave =>
    simp only [sessStep, specStep]
    cases hs : setLeave false o.lk with
    | error e => exact ⟨rfl, rfl, rfl, hc, hp⟩
    | ok k1 => exact ⟨rfl, rfl, rfl, setLeave_coh false o st k1 hc hs, hP.lk o k1 hp⟩
  | ownerLock => exact ⟨rfl, rfl, rfl, ownerStep_coh true o st hc, hp⟩
  | ownerUnlock => exact ⟨rfl, rfl, rfl, ownerStep_coh false o st hc, hp⟩
  | _ => exact withLk_spec _ o st _ _ P hP hc hp hlk hbody

/-- a step function that refines the specification's step under an invariant `Inv` (for operations satisfying
`ok`) refines it along every script -/
theorem runSess_spec (src : Graph) (step : Obj → St → SOp → Res × Obj × St) (Inv : Obj → St → Prop) (ok : SOp → Prop)
    (hstep : ∀ o st op, Inv o st → ok op →
      let x := step o st op
      let y := specStep src o.lk st op
      x.1 = y.1 ∧ x.2.1.lk = y.2.1 ∧ x.2.2 = y.2.2 ∧ Inv x.2.1 x.2.2) :
    ∀ (ops : List SOp) (o : Obj) (st : St), Inv o st → (∀ op ∈ ops, ok op) →
      let x := runSess step o st ops
      let y := runSpec src o.lk st ops
      x.1 = y.1 ∧ x.2.1.lk = y.2.1 ∧ x.2.2 = y.2.2 ∧ Inv x.2.1 x.2.2
  | [], _, _, hi, _ => ⟨rfl, rfl, rfl, hi⟩
  | op :: ops, o, st, hi, hok => by
    obtain ⟨s1, s2, s3, s4⟩ := hstep o st op hi (hok op (by simp))
    obtain ⟨r1, r2, r3, r4⟩ := runSess_spec src step Inv ok hstep ops _ _ s4
      (fun o ho => hok o (List.mem_cons_of_mem _ ho))
    simp only [runSess, runSpec]
    rw [← s1, ← s2, ← s3]
    exact ⟨congrArg _ r1, r2, r3, r4⟩

theorem acquire_locked (plock : St → Option Nat → Except Err (Nat × St)) (reset wr : Bool) (tok : Option Nat)
    (k : LockSt) (st : St) (k1 : LockSt) (s1 : St) (h : acquire plock reset wr tok k st = .ok (k1, s1)) :
    k1.mode ≠ .unlocked := by
  rcases acquire_ok h with ⟨_, _, t, _, rfl⟩ | ⟨_, _, _, rfl⟩ | ⟨hm, _, _, rfl⟩
  · nofun
  · nofun
  · exact hm

theorem release_scoped (prel : St → Nat → Except Err St) (o : Obj) (st : St) (hs : Scoped o) :
    let r := release prel o.lk st
    Scoped (if r.2.2.2 then { o with lk := r.2.1 }.clear else { o with lk := r.2.1 }) := by
  rcases release_cases prel o.lk st with ⟨_, h⟩ | ⟨hm, _, h⟩ | ⟨_, _, e, s1, h, _⟩
  · rw [h]; exact hs
  · rw [h]; exact fun hx => absurd hx hm
  · rw [h]; exact fun _ => ⟨rfl, rfl, rfl, rfl⟩

/-- caches live only inside a lock scope: one step of any object whose bodies leave the lock state alone -/
theorem sessStep_scoped (plock : St → Option Nat → Except Err (Nat × St)) (prel : St → Nat → Except Err St)
    (reset : Bool) (body : SOp → Obj → St → Res × Obj × St) (hb : ∀ op o st, (body op o st).2.1.lk = o.lk)
    (o : Obj) (st : St) (op : SOp) (hs : Scoped o) : Scoped (sessStep plock prel reset body o st op).2.1 := by
  have hw : ∀ wr (b : Obj → St → Res × Obj × St), (∀ o st, (b o st).2.1.lk = o.lk) →
      Scoped (withLk plock prel reset wr o st b).2.1 := by
    intro wr b hb'
    unfold withLk
    cases ha : acquire plock reset wr none o.lk st with
    | error e => exact hs
    | ok p =>
      obtain ⟨k1, s1⟩ := p
      simp only []
      apply release_scoped
      intro hx
      rw [hb'] at hx
      exact absurd hx (acquire_locked plock reset wr none o.lk st k1 s1 ha)
  have hacq : ∀ wr tok (res : Res) (f : St → LockSt → St),
      Scoped (match acquire plock reset wr tok o.lk st with
        | .error e => (Res.err e, o, st)
        | .ok (k1, s1) => (res, { o with lk := k1 }, f s1 k1)).2.1 := by
    intro wr tok res f
    cases ha : acquire plock reset wr tok o.lk st with
    | error e => exact hs
    | ok p =>
      obtain ⟨k1, s1⟩ := p
      intro hx
      exact absurd hx (acquire_locked plock reset wr tok o.lk st k1 s1 ha)
  have hset : ∀ b, Scoped (match setLeave b o.lk with
        | .error e => (Res.err e, o, st)
        | .ok k1 => (Res.ok, { o with lk := k1 }, st)).2.1 := by
    intro b
    unfold setLeave
    by_cases hm : o.lk.mode = .w
    · simp only [hm, if_true]
      intro hx
      simp at hx
    · simp only [hm, if_false]
      exact hs
  cases op with
  | lockW => exact hacq true none .token (fun s k => { s with known := k.token })
  | lockTok good => exact hacq true _ .token (fun s _ => s)
  | lockR => exact hacq false none .ok (fun s _ => s)
  | unlock => exact release_scoped prel o st hs
  | leave => exact hset true
  | dontLeave => exact hset false
  | ownerLock => exact hs
  | ownerUnlock => exact hs
  | _ => exact hw _ _ (hb _)

theorem runSess_scoped (step : Obj → St → SOp → Res × Obj × St)
    (hstep : ∀ o st op, Scoped o → Scoped (step o st op).2.1) :
    ∀ (ops : List SOp) (o : Obj) (st : St), Scoped o → Scoped (runSess step o st ops).2.1
  | [], _, _, hs => hs
  | op :: ops, o, st, hs => by
    simp only [runSess]
    exact runSess_scoped step hstep ops _ _ (hstep o st op hs)

theorem tagsInv_stable (v : Variant) : LkStable (TagsInv v) where
  lk := fun _ _ h => h
  clear := fun _ h => by
    rcases h with h | _
    · exact Or.inl h
    · exact Or.inr rfl

theorem localObj_stable : LkStable LocalObj where
  lk := fun _ _ h => h
  clear := fun _ h => ⟨h.1, rfl, rfl⟩

theorem afterSetTip_clear (v1 v2 : Variant) (o : Obj) (n : Nat) (r : RevId) :
    (afterSetTip v1 o n r).clear = (afterSetTip v2 o n r).clear := by
  unfold afterSetTip Obj.clear
  cases v1.tipCoherent <;> cases v2.tipCoherent <;> rfl

/-- the client variants differ in cache maintenance only: every operation body gives the same result and
stored state, and the same object once its caches are dropped, whatever the variant -/
theorem rsBody_mod_caches (v1 v2 : Variant) (src : Graph) (ex : List RevId) (op : SOp) (o : Obj) (st : St) :
    let x := rsBody v1 src ex op o st
    let y := rsBody v2 src ex op o st
    x.1 = y.1 ∧ x.2.2 = y.2.2 ∧ x.2.1.clear = y.2.1.clear := by
  cases op with
  | setTip n r =>
    simp only [rsBody, rTip_eq]
    by_cases hc : r ≠ nullRev ∧ lookup r src = none
    · rw [if_pos hc, if_pos hc]
      exact ⟨rfl, rfl, rfl⟩
    · rw [if_neg hc, if_neg hc]
      cases o.lk.token with
      | none => exact ⟨rfl, rfl, rfl⟩
      | some t =>
        dsimp only
        cases rWriteTip src _ ex t n r with
        | error e => exact ⟨rfl, rfl, rfl⟩
        | ok s2 => exact ⟨rfl, rfl, afterSetTip_clear v1 v2 _ n r⟩
  | tagSet name r =>
    simp only [rsBody, rTags_eq]
    cases o.lk.token with
    | none => exact ⟨rfl, rfl, rfl⟩
    | some t =>
      dsimp only
      cases rWriteTags src st ex t (dset (o.tagsC.getD st.tags) name r) with
      | error e => exact ⟨rfl, rfl, rfl⟩
      | ok s1 => exact ⟨rfl, rfl, rfl⟩
  | pull ow n r stags =>
    simp only [rsBody, Obj.clear]
    exact ⟨trivial, trivial, trivial⟩
  | _ => exact ⟨rfl, rfl, rfl⟩

theorem acquire_unlocked_count (plock : St → Option Nat → Except Err (Nat × St)) (reset wr : Bool) (tok : Option Nat)
    (k : LockSt) (st : St) (k1 : LockSt) (s1 : St) (hu : k.mode = .unlocked)
    (h : acquire plock reset wr tok k st = .ok (k1, s1)) : k1.count = 1 := by
  rcases acquire_ok h with ⟨_, _, t, _, rfl⟩ | ⟨_, _, _, rfl⟩ | ⟨hm, _⟩
  · rfl
  · rfl
  · exact absurd hu hm

theorem release_count_one (prel : St → Nat → Except Err St) (k : LockSt) (st : St) (hm : k.mode ≠ .unlocked)
    (hc : k.count = 1) : (release prel k st).2.2.2 = true := by
  rcases release_cases prel k st with ⟨h0, _⟩ | ⟨_, h1, _⟩ | ⟨_, _, e, s1, h, _⟩
  · exact absurd h0 hm
  · omega
  · rw [h]

theorem clear_lk (o : Obj) (k : LockSt) : ({ o with lk := k } : Obj).clear = { o.clear with lk := k } := rfl

/-- two bodies that agree up to the caches are indistinguishable when the operation opens and closes its own lock scope -/
theorem withLk_unlocked_mod_caches (plock : St → Option Nat → Except Err (Nat × St)) (prel : St → Nat → Except Err St)
    (reset wr : Bool) (o : Obj) (st : St) (b1 b2 : Obj → St → Res × Obj × St) (hu : o.lk.mode = .unlocked)
    (hlk : ∀ o' st', (b1 o' st').2.1.lk = o'.lk ∧ (b2 o' st').2.1.lk = o'.lk)
    (hb : ∀ o' st',
      let x := b1 o' st'
      let y := b2 o' st'
      x.1 = y.1 ∧ x.2.2 = y.2.2 ∧ x.2.1.clear = y.2.1.clear) :
    withLk plock prel reset wr o st b1 = withLk plock prel reset wr o st b2 := by
  unfold withLk
  cases ha : acquire plock reset wr none o.lk st with
  | error e => rfl
  | ok p =>
    obtain ⟨k1, s1⟩ := p
    simp only []
    obtain ⟨e1, e2, e3⟩ := hb { o with lk := k1 } s1
    obtain ⟨l1, l2⟩ := hlk { o with lk := k1 } s1
    have hc := acquire_unlocked_count plock reset wr none o.lk st k1 s1 hu ha
    have hm := acquire_locked plock reset wr none o.lk st k1 s1 ha
    rw [l1, l2, ← e1, ← e2]
    simp only [] at l1 l2
    have hr := release_count_one prel k1 (b1 { o with lk := k1 } s1).2.2 hm hc
    simp only [hr, if_true, clear_lk, e3]

/-- … hence so are two step functions whose bodies agree up to the caches, on an unlocked object: the lock
operations do not run a body, every other operation is its own lock scope -/
theorem sessStep_unlocked_mod_caches (plock : St → Option Nat → Except Err (Nat × St))
    (prel : St → Nat → Except Err St) (reset : Bool) (b1 b2 : SOp → Obj → St → Res × Obj × St) (o : Obj) (st : St)
    (op : SOp) (hu : o.lk.mode = .unlocked)
    (hlk : ∀ op o' st', (b1 op o' st').2.1.lk = o'.lk ∧ (b2 op o' st').2.1.lk = o'.lk)
    (hb : ∀ op o' st',
      let x := b1 op o' st'
      let y := b2 op o' st'
      x.1 = y.1 ∧ x.2.2 = y.2.2 ∧ x.2.1.clear = y.2.1.clear) :
    sessStep plock prel reset b1 o st op = sessStep plock prel reset b2 o st op := by
  cases op with
  | lockW | lockR | unlock | lockTok _ | leave | dontLeave | ownerLock | ownerUnlock => rfl
  | _ => exact withLk_unlocked_mod_caches _ _ _ _ o st _ _ hu (hlk _) (hb _)

theorem coherent_fresh (st : St) : Coherent {} st :=
  ⟨cacheOK_none _, cacheOK_none _, cacheOK_none _, cacheOK_none _, fun h => by simp at h⟩

/-! ### data of the witness theorems: a1 ← a2 ← a3 and the rival x3 (child of a2) -/

def wA1 : RevId := [97, 49]
def wA2 : RevId := [97, 50]
def wA3 : RevId := [97, 51]
def wX3 : RevId := [120, 51]
def wSrc : Graph := [(wA1, []), (wA2, [wA1]), (wA3, [wA2]), (wX3, [wA2])]
/-- one write-lock scope: pull (VFS branch caches the tip), tip change over RPC, pull from the rival -/
def wScript : List SOp := [.lockW, .pull false 2 wA2 [], .setTip 3 wA3, .pull false 3 wX3 [], .unlock]
def tV1 : Bytes := [118, 49]
def tV2 : Bytes := [118, 50]
def tMine : Bytes := [109]

/-- every physical lock has a holder that will release it: the lock is free, or held by the second holder
object, or held by the object under test in a lock scope whose last unlock releases it -/
def NoOrphan (k : LockSt) (st : St) : Prop :=
  st.lock = none ∨ (st.owner.isSome = true ∧ st.lock = st.owner) ∨ (k.mode = .w ∧ k.leave = false ∧ st.lock = k.token)

instance (k : LockSt) (st : St) : Decidable (NoOrphan k st) := by unfold NoOrphan; infer_instance

theorem specBody_frame (src : Graph) (op : SOp) (st : St) :
    (specBody src op st).2.lock = st.lock ∧ (specBody src op st).2.owner = st.owner := by
  cases op with
  | setTip n r =>
    simp only [specBody]
    split
    · exact ⟨rfl, rfl⟩
    · unfold specFetch; split <;> exact ⟨rfl, rfl⟩
  | pull ow n r stags =>
    obtain ⟨g, t, d, h⟩ := specPull_frame src ow n r stags st
    exact h ▸ ⟨rfl, rfl⟩
  | _ => exact ⟨rfl, rfl⟩

theorem acquire_noOrphan (wr : Bool) (tok : Option Nat) (k : LockSt) (st : St) (k1 : LockSt) (s1 : St)
    (h : acquire primLock true wr tok k st = .ok (k1, s1)) (hn : NoOrphan k st) : NoOrphan k1 s1 := by
  -- an unlocked object is not the holder: the lock is free or the second holder's
  have free : k.mode = .unlocked → st.lock = none ∨ (st.owner.isSome = true ∧ st.lock = st.owner) := fun hm =>
    hn.imp_right fun h23 => h23.elim id fun h3 => nomatch hm.symm.trans h3.1
  rcases acquire_ok h with ⟨hm, _, t, hp, rfl⟩ | ⟨hm, _, rfl, rfl⟩ | ⟨_, _, rfl, rfl⟩
  · cases tok with
    | none =>
      obtain ⟨_, _, rfl, rfl⟩ := primLock_none_ok hp
      exact Or.inr (Or.inr ⟨rfl, rfl, rfl⟩)
    | some t' =>
      obtain ⟨hl, rfl, rfl⟩ := primLock_some_ok hp
      exact (free hm).elim (fun h1 => nomatch h1.symm.trans hl) fun h2 => Or.inr (Or.inl h2)
  · exact (free hm).imp_right Or.inl
  · exact hn

/-- the unlock keeps `NoOrphan`: this is where an untokened lock is released -/
theorem release_noOrphan (k : LockSt) (st : St) (hn : NoOrphan k st) :
    NoOrphan (release primRelease k st).2.1 (release primRelease k st).2.2.1 := by
  rcases release_cases primRelease k st with ⟨_, h⟩ | ⟨_, _, h⟩ | ⟨_, _, e, s1, h, hf⟩
  · rw [h]; exact hn
  · rw [h]; exact hn
  · rw [h]
    -- the last unlock: afterwards the object holds nothing, so its own lock must have been released
    rcases hf with ⟨_, rfl, hno⟩ | ⟨t, hm, hl, ht, hp⟩
    · rcases hn with h1 | h2 | h3
      · exact Or.inl h1
      · exact Or.inr (Or.inl h2)
      · cases htk : k.token with
        | none => exact Or.inl (h3.2.2.trans htk)
        | some t => exact absurd ⟨h3.1, h3.2.1, by rw [htk]; rfl⟩ hno
    · unfold primRelease at hp
      by_cases hlk : st.lock = some t
      · rw [if_pos hlk] at hp
        cases hp
        exact Or.inl rfl
      · rw [if_neg hlk] at hp
        cases hp
        exact hn.imp_right (Or.imp_right fun h3 => absurd (h3.2.2.trans ht) hlk)

/-- the script never calls `leave_lock_in_place()` (which deliberately orphans the lock) -/
def NoLeave : SOp → Prop
  | .leave => False
  | _ => True

instance (op : SOp) : Decidable (NoLeave op) := by cases op <;> unfold NoLeave <;> infer_instance

theorem withLkS_noOrphan (wr : Bool) (k : LockSt) (st : St) (body : St → Res × St)
    (hb : ∀ s, (body s).2.lock = s.lock ∧ (body s).2.owner = s.owner) (hn : NoOrphan k st) :
    NoOrphan (withLkS wr k st body).2.1 (withLkS wr k st body).2.2 := by
  unfold withLkS
  cases ha : acquire primLock true wr none k st with
  | error e => exact hn
  | ok p =>
    obtain ⟨k1, s1⟩ := p
    simp only []
    have h1 := acquire_noOrphan wr none k st k1 s1 ha hn
    have h2 : NoOrphan k1 (body s1).2 := by
      obtain ⟨bl, bo⟩ := hb s1
      unfold NoOrphan at h1 ⊢
      rw [bl, bo]
      exact h1
    exact release_noOrphan k1 (body s1).2 h2

theorem ownerStep_noOrphan (lock : Bool) (k : LockSt) (st : St) (hn : NoOrphan k st) :
    NoOrphan k (ownerStep lock k st).2 := by
  rcases ownerStep_cases lock k st with h | ⟨_, h⟩ | ⟨ht, _, _, _, h⟩ | ⟨ht, hown, hlk, h⟩ <;> rw [h]
  · exact hn
  · exact Or.inr (Or.inl ⟨rfl, rfl⟩)
  · exact Or.inl rfl
  · exact hn.imp_right (Or.imp_left fun h2 => absurd (h2.2.trans hown) hlk)

theorem specStep_noOrphan (src : Graph) (k : LockSt) (st : St) (op : SOp) (hop : NoLeave op) (hn : NoOrphan k st) :
    NoOrphan (specStep src k st op).2.1 (specStep src k st op).2.2 := by
  cases op with
  | leave => exact absurd hop (by simp [NoLeave])
  | lockW =>
    simp only [specStep]
    cases ha : acquire primLock true true none k st with
    | error e => exact hn
    | ok p =>
      obtain ⟨k1, s1⟩ := p
      exact acquire_noOrphan true none k st k1 s1 ha hn
  | lockTok good =>
    simp only [specStep]
    cases ha : acquire primLock true true (sessTok st good) k st with
    | error e => exact hn
    | ok p =>
      obtain ⟨k1, s1⟩ := p
      exact acquire_noOrphan true _ k st k1 s1 ha hn
  | lockR =>
    simp only [specStep]
    cases ha : acquire primLock true false none k st with
    | error e => exact hn
    | ok p =>
      obtain ⟨k1, s1⟩ := p
      exact acquire_noOrphan false none k st k1 s1 ha hn
  | unlock => exact release_noOrphan k st hn
  | dontLeave =>
    simp only [specStep, setLeave]
    by_cases hm : k.mode = .w
    · simp only [hm, if_true]
      rcases hn with h1 | h2 | h3
      · exact Or.inl h1
      · exact Or.inr (Or.inl h2)
      · exact Or.inr (Or.inr ⟨rfl, rfl, h3.2.2⟩)
    · simp only [hm, if_false]
      exact hn
  | ownerLock => exact ownerStep_noOrphan true k st hn
  | ownerUnlock => exact ownerStep_noOrphan false k st hn
  | tip => exact withLkS_noOrphan _ k st (specBody src .tip) (specBody_frame src .tip) hn
  | setTip n r => exact withLkS_noOrphan _ k st (specBody src (.setTip n r)) (specBody_frame src (.setTip n r)) hn
  | pull ow n r stags => exact withLkS_noOrphan _ k st (specBody src (.pull ow n r stags)) (specBody_frame src (.pull ow n r stags)) hn
  | tagSet name r => exact withLkS_noOrphan _ k st (specBody src (.tagSet name r)) (specBody_frame src (.tagSet name r)) hn
  | tagDict => exact withLkS_noOrphan _ k st (specBody src .tagDict) (specBody_frame src .tagDict) hn

theorem runSpec_noOrphan (src : Graph) :
    ∀ (ops : List SOp) (k : LockSt) (st : St), (∀ op ∈ ops, NoLeave op) → NoOrphan k st →
      NoOrphan (runSpec src k st ops).2.1 (runSpec src k st ops).2.2
  | [], _, _, _, hn => hn
  | op :: ops, k, st, hops, hn => by
    simp only [runSpec]
    exact runSpec_noOrphan src ops _ _ (fun o ho => hops o (List.mem_cons_of_mem _ ho))
      (specStep_noOrphan src k st op (hops op (by simp)) hn)

/-- data of `stale_leave_flag_witness` -/
def leaveScript : List SOp := [.ownerLock, .lockTok true, .unlock, .ownerUnlock, .lockW, .unlock, .ownerLock]

end BreezyVerif.C32
