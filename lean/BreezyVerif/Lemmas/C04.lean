import BreezyVerif.Model.C04Fault
import BreezyVerif.Lemmas.Lib.InsertSort
/-!
C04 — helper lemmas: what the operation lists of the model consist of, frame
properties of `step`, the shape of `_save_pack_names`, membership in the
three-way merge, the planner only selects packs it was given.
-/
namespace BreezyVerif.C04

/-- `f` lives where readable packs live and belongs to a pack of `ns` -/
def touches (ns : List Nat) (f : File) : Bool :=
  (f.dir == .packs || f.dir == .indices) && ns.contains f.stem

/-- the operation neither replaces `pack-names` nor creates, truncates, moves,
overwrites or deletes a file of a pack in `ns` -/
def safeOp (ns : List Nat) : Op → Bool
  | .beginWrite f => !touches ns f
  | .endWrite _ => true
  | .move a b => !touches ns a && !touches ns b
  | .delete f => !touches ns f
  | .lock => true
  | .unlock => true
  | .putNames _ => false

def isPut : Op → Bool
  | .putNames _ => true
  | _ => false

theorem mem_rm {l : List File} {f g : File} : f ∈ rm l g ↔ f ∈ l ∧ f ≠ g := by
  simp [rm]

theorem run_append (d : Disk) (a b : List Op) : run d (a ++ b) = run (run d a) b := by
  simp [run, List.foldl_append]

theorem run_cons (d : Disk) (op : Op) (l : List Op) : run d (op :: l) = run (step d op) l := rfl

theorem run_nil (d : Disk) : run d [] = d := rfl

theorem forall_mem_newPackOps {P : Op → Prop} {chk : Bool} {tmp : File} {name : Nat} :
    (∀ op ∈ newPackOps chk tmp name, P op) ↔
      P (.beginWrite tmp) ∧
      (∀ e ∈ idxExts chk, P (.beginWrite ⟨.indices, name, e⟩) ∧ P (.endWrite ⟨.indices, name, e⟩)) ∧
      P (.endWrite tmp) ∧ P (.move tmp ⟨.packs, name, .pack⟩) := by
  simp only [newPackOps, finishOps, List.forall_mem_cons, List.forall_mem_append, List.forall_mem_flatMap,
    List.not_mem_nil, false_imp_iff, implies_true, and_true]

theorem mem_obsoleteOps {chk : Bool} {n : Nat} {op : Op} (h : op ∈ obsoleteOps chk n) :
    ∃ a b, op = .move a b ∧ a.stem = n ∧ b.stem = n ∧ b.dir = .obsolete := by
  simp only [obsoleteOps, List.mem_cons, List.mem_map] at h
  rcases h with rfl | ⟨e, _, rfl⟩ <;> exact ⟨_, _, rfl, rfl, rfl, rfl⟩

/-- every deletion of `_clear_obsolete_packs` is in `obsolete_packs/` -/
theorem mem_clearOrd {d : Disk} {p : List Nat} {ord : List File} {op : Op} (h : op ∈ clearOrd d p ord) :
    ∃ f, op = .delete f ∧ f.dir = .obsolete := by
  simp only [clearOrd, List.mem_map, List.mem_append, List.mem_filter, List.contains_eq_mem,
    decide_eq_true_eq] at h
  obtain ⟨f, (⟨_, hf⟩ | ⟨hf, _⟩), rfl⟩ := h <;>
  · simp only [clearTargets, List.mem_filter, Bool.and_eq_true, decide_eq_true_eq] at hf
    exact ⟨f, rfl, hf.2.1⟩

theorem clearOrd_nil (d : Disk) (p : List Nat) : clearOrd d p [] = clearOps d p := by
  simp only [clearOrd, clearOps, List.filter_nil, List.nil_append, List.contains_nil, Bool.not_false]
  rw [List.filter_eq_self.2 fun _ _ => rfl]

theorem mem_clearOps {d : Disk} {p : List Nat} {op : Op} (h : op ∈ clearOps d p) :
    ∃ f, op = .delete f ∧ f.dir = .obsolete :=
  mem_clearOrd (clearOrd_nil d p ▸ h)

theorem step_names_noPut (d : Disk) (op : Op) (h : isPut op = false) : (step d op).names = d.names := by
  cases op with
  | putNames => cases h
  | _ => simp only [step, apply_ite Disk.names, ite_self]

theorem run_names_noPut (l : List Op) (d : Disk) (h : ∀ op ∈ l, isPut op = false) :
    (run d l).names = d.names :=
  List.foldlRecOn (motive := fun t : Disk => t.names = d.names) l _ rfl fun t ht op ho =>
    (step_names_noPut t op (h op ho)).trans ht

theorem isPut_of_safe {ns : List Nat} {op : Op} (h : safeOp ns op = true) : isPut op = false := by
  cases op <;> first | rfl | cases h

/-- a complete file survives every operation that does not name it -/
theorem mem_step_files {d : Disk} {op : Op} {f : File} (hf : f ∈ d.files)
    (h : match op with
         | .beginWrite g => f ≠ g
         | .move a b => f ≠ a ∧ f ≠ b
         | .delete g => f ≠ g
         | _ => True) : f ∈ (step d op).files := by
  cases op with
  | beginWrite g => simp [step, mem_rm, hf, h]
  | endWrite g => simp only [step]; split <;> simp [hf]
  | move a b =>
    simp only [step]
    split
    · simp [mem_rm, hf, h.1, h.2]
    · split
      · simp [mem_rm, hf, h.2]
      · exact hf
  | delete g => simp [step, mem_rm, hf, h]
  | lock => exact hf
  | unlock => exact hf
  | putNames ns => exact hf

theorem ready_iff {chk : Bool} {d : Disk} {n : Nat} :
    ready chk d n = true ↔ ∀ f ∈ packFiles chk n, f ∈ d.files := by
  simp [ready]

theorem complete_iff {chk : Bool} {d : Disk} : complete chk d = true ↔ ∀ n ∈ d.names, ready chk d n = true :=
  List.all_eq_true

theorem packFiles_touches {chk : Bool} {n : Nat} {ns : List Nat} {f : File}
    (hf : f ∈ packFiles chk n) (hn : n ∈ ns) : touches ns f = true := by
  simp only [packFiles, List.mem_cons, List.mem_map] at hf
  rcases hf with rfl | ⟨e, _, rfl⟩ <;> simp [touches, hn]

theorem ne_of_touches {ns : List Nat} {f g : File} (hf : touches ns f = true) (hg : touches ns g = false) :
    f ≠ g := by
  intro e; subst e; rw [hf] at hg; cases hg

/-- an operation that does not touch the files of packs in `ns` and is not the
`pack-names` replacement changes neither `pack-names` nor the completeness of
any pack of `ns` -/
theorem step_safe' (chk : Bool) (ns : List Nat) (d : Disk) (op : Op) (h : safeOp ns op = true) :
    (step d op).names = d.names ∧
    ∀ n ∈ ns, ready chk d n = true → ready chk (step d op) n = true := by
  refine ⟨step_names_noPut d op (isPut_of_safe h), ?_⟩
  intro n hn hr
  rw [ready_iff] at hr ⊢
  intro f hf
  have ht := packFiles_touches hf hn
  apply mem_step_files (hr f hf)
  cases op with
  | beginWrite g => simp [safeOp] at h; exact ne_of_touches ht h
  | move a b =>
    simp [safeOp] at h
    exact ⟨ne_of_touches ht h.1, ne_of_touches ht h.2⟩
  | delete g => simp [safeOp] at h; exact ne_of_touches ht h
  | _ => trivial

theorem run_safe (chk : Bool) (ns : List Nat) (ops : List Op) (d : Disk)
    (h : ∀ op ∈ ops, safeOp ns op = true) :
    (run d ops).names = d.names ∧
    ∀ n ∈ ns, ready chk d n = true → ready chk (run d ops) n = true := by
  induction ops generalizing d with
  | nil => exact ⟨rfl, fun _ _ h => h⟩
  | cons op rest ih =>
    have h1 := step_safe' chk ns d op (h op (by simp))
    have h2 := ih (step d op) (fun o ho => h o (by simp [ho]))
    rw [run_cons]
    exact ⟨h2.1.trans h1.1, fun n hn hr => h2.2 n hn (h1.2 n hn hr)⟩

theorem touches_false_of_dir {f : File} (ns : List Nat) (h : f.dir = .upload ∨ f.dir = .obsolete) :
    touches ns f = false := by
  rcases h with h | h <;> simp [touches, h]

theorem touches_false_of_not_mem {ns : List Nat} {f : File} (h : f.stem ∉ ns) : touches ns f = false := by
  simp [touches, h]

/-- writing a new pack called `name` is safe for every collection that does
not contain `name` -/
theorem newPackOps_safe (chk : Bool) (ns : List Nat) (tmp : File) (name : Nat)
    (ht : tmp.dir = .upload) (hn : name ∉ ns) :
    ∀ op ∈ newPackOps chk tmp name, safeOp ns op = true := by
  have hup := touches_false_of_dir ns (.inl ht)
  have h1 : ∀ dir e, touches ns ⟨dir, name, e⟩ = false := fun _ _ => touches_false_of_not_mem hn
  simp [forall_mem_newPackOps, safeOp, hup, h1]

theorem newPackOps_noPut (chk : Bool) (tmp : File) (name : Nat) :
    ∀ op ∈ newPackOps chk tmp name, isPut op = false :=
  forall_mem_newPackOps.2 ⟨rfl, fun _ _ => ⟨rfl, rfl⟩, rfl, rfl⟩

theorem safeOp_delete_obsolete (ns : List Nat) {f : File} (h : f.dir = .obsolete) :
    safeOp ns (.delete f) = true := by
  simp [safeOp, touches_false_of_dir ns (.inr h)]

theorem obsoleteOps_safe (chk : Bool) (ns : List Nat) (n : Nat) (hn : n ∉ ns) :
    ∀ op ∈ obsoleteOps chk n, safeOp ns op = true := by
  intro op hop
  obtain ⟨a, b, rfl, ha, hb, _⟩ := mem_obsoleteOps hop
  simp [safeOp, touches_false_of_not_mem (ha ▸ hn), touches_false_of_not_mem (hb ▸ hn)]

theorem clearOrd_safe (ns : List Nat) (d : Disk) (p : List Nat) (ord : List File) :
    ∀ op ∈ clearOrd d p ord, safeOp ns op = true := by
  intro op hop
  obtain ⟨f, rfl, hf⟩ := mem_clearOrd hop
  exact safeOp_delete_obsolete ns hf

theorem clearOps_safe (ns : List Nat) (d : Disk) (p : List Nat) :
    ∀ op ∈ clearOps d p, safeOp ns op = true :=
  clearOrd_nil d p ▸ clearOrd_safe ns d p []

theorem clearOps_noPut (d : Disk) (p : List Nat) : ∀ op ∈ clearOps d p, isPut op = false :=
  fun op hop => isPut_of_safe (clearOps_safe [] d p op hop)

theorem mem_mergeNames {disk atLoad mine : List Nat} {n : Nat} :
    n ∈ mergeNames disk atLoad mine ↔
      (n ∈ disk ∧ ¬(n ∈ atLoad ∧ n ∉ mine)) ∨ (n ∈ mine ∧ n ∉ atLoad ∧ n ∉ disk) := by
  simp only [mergeNames, List.mem_append, List.mem_filter, List.contains_eq_mem,
    Bool.and_eq_true, Bool.not_eq_eq_eq_not, Bool.not_true, decide_eq_true_eq, decide_eq_false_iff_not,
    Bool.and_eq_false_imp]
  by_cases h1 : n ∈ atLoad <;> by_cases h2 : n ∈ mine <;> by_cases h3 : n ∈ disk <;> simp [h1, h2, h3]

theorem mem_mergeNames_cases {disk atLoad mine : List Nat} {n : Nat} (h : n ∈ mergeNames disk atLoad mine) :
    n ∈ disk ∨ (n ∈ mine ∧ n ∉ atLoad) :=
  (mem_mergeNames.mp h).imp (·.1) fun h => ⟨h.1, h.2.1⟩

theorem mem_mergeNames_self {disk mine : List Nat} {n : Nat} : n ∈ mergeNames disk disk mine ↔ n ∈ mine := by
  rw [mem_mergeNames]
  by_cases h1 : n ∈ disk <;> by_cases h2 : n ∈ mine <;> simp [h1, h2]

/-- the operations `_save_pack_names` may perform after the `put_file` -/
def saveAllowed (chk : Bool) (d : Disk) (obs : Option (List Nat)) (ord : List File) : List Op :=
  saveClear d obs ord ++ [Op.unlock] ++ saveObsol chk d obs

theorem saveOps_eq (chk : Bool) (d : Disk) (v : View) (obs : Option (List Nat)) :
    saveOps chk d v obs = Op.lock :: Op.putNames (saveN d v) :: saveAllowed chk d obs [] := by
  cases obs <;> simp [saveOps, saveAllowed, saveClear, saveObsol, saveN, clearOrd_nil]

theorem mem_saveClear {d : Disk} {obs : Option (List Nat)} {ord : List File} {op : Op}
    (h : op ∈ saveClear d obs ord) : ∃ f, op = .delete f ∧ f.dir = .obsolete := by
  cases obs with
  | none => cases h
  | some s => exact mem_clearOrd h

theorem mem_saveObsol {chk : Bool} {d : Disk} {obs : Option (List Nat)} {op : Op}
    (h : op ∈ saveObsol chk d obs) : ∃ s, obs = some s ∧ ∃ n ∈ s, op ∈ obsoleteOps chk n := by
  cases obs with
  | none => cases h
  | some s =>
    obtain ⟨n, hn, hop⟩ := List.mem_flatMap.mp h
    exact ⟨s, rfl, n, (List.mem_filter.mp hn).1, hop⟩

theorem saveAllowed_safe (chk : Bool) (d : Disk) (N : List Nat) (obs : Option (List Nat)) (ord : List File)
    (h : ∀ s, obs = some s → ∀ n ∈ s, n ∉ N) :
    ∀ op ∈ saveAllowed chk d obs ord, safeOp N op = true := by
  refine List.forall_mem_append.2 ⟨List.forall_mem_append.2 ⟨fun op hop => ?_, by simp [safeOp]⟩,
    fun op hop => ?_⟩
  · obtain ⟨f, rfl, hf⟩ := mem_saveClear hop
    exact safeOp_delete_obsolete N hf
  · obtain ⟨s, hs, n, hn, hop⟩ := mem_saveObsol hop
    exact obsoleteOps_safe chk N n (h s hs n hn) op hop

theorem saveAllowed_noPut (chk : Bool) (d : Disk) (obs : Option (List Nat)) (ord : List File) :
    ∀ op ∈ saveAllowed chk d obs ord, isPut op = false := fun op hop =>
  isPut_of_safe (saveAllowed_safe chk d [] obs ord (fun _ _ _ _ => List.not_mem_nil) op hop)

/-- whatever the directory looks like, after `_save_pack_names` the content of
`pack-names` is the three-way merge -/
theorem run_saveOps_names (chk : Bool) (d0 d : Disk) (v : View) (obs : Option (List Nat)) :
    (run d0 (saveOps chk d v obs)).names = mergeNames d.names v.atLoad v.names := by
  rw [saveOps_eq, run_cons, run_cons, run_names_noPut _ _ (saveAllowed_noPut chk d obs [])]
  rfl

theorem planLoop_subset (ex : List (Nat × Nat)) (dist : List Nat) (cur : Nat) (acc res : List Nat)
    (h : planLoop ex dist cur acc = some res) :
    ∀ n ∈ res, n ∈ acc ∨ n ∈ ex.map (·.1) := by
  induction ex generalizing dist cur acc with
  | nil =>
    simp [planLoop] at h; subst h; intro n hn; exact Or.inl hn
  | cons p rest ih =>
    obtain ⟨name, cnt⟩ := p
    cases dist with
    | nil => simp [planLoop] at h
    | cons d0 dist =>
      simp only [planLoop] at h
      intro n hn
      split at h
      · split at h
        · cases h
        · rcases ih _ _ _ h n hn with h1 | h1
          · exact Or.inl h1
          · exact Or.inr (by simp [h1])
      · split at h <;>
        · rcases ih _ _ _ h n hn with h1 | h1
          · simp only [List.mem_append, List.mem_singleton] at h1
            rcases h1 with h1 | rfl
            · exact Or.inl h1
            · exact Or.inr (by simp)
          · exact Or.inr (by simp [h1])

theorem perm_insertDesc (p : Nat × Nat) (l : List (Nat × Nat)) : (insertDesc p l).Perm (p :: l) :=
  Lib.perm_insert insertDesc (fun p q => q.2 < p.2) (fun _ => rfl) (fun _ _ _ => rfl) p l

/-- the fold runs from the left, so it sorts the reversed list -/
theorem perm_sortDesc (l : List (Nat × Nat)) : (sortDesc l).Perm l := by
  rw [sortDesc, ← List.foldr_reverse]
  exact (Lib.perm_insertSort (List.foldr insertDesc []) perm_insertDesc rfl (fun _ _ => rfl) _).trans
    (List.reverse_perm l)

theorem mem_sortDesc (l : List (Nat × Nat)) (q : Nat × Nat) : q ∈ sortDesc l ↔ q ∈ l :=
  (perm_sortDesc l).mem_iff

/-- `plan_autopack_combinations` combines only packs of the collection: what holds of every name it was
given holds of every name it selects -/
theorem planAutopack_subset (packs : List (Nat × Nat)) {P : Nat → Prop} (hP : ∀ p ∈ packs, P p.1) (s : List Nat)
    (h : planAutopack packs = .combine s) : ∀ n ∈ s, P n := by
  unfold planAutopack at h
  simp only at h
  split at h
  · cases h
  · split at h
    · cases h; intro n hn; cases hn
    · generalize hpl : planLoop _ _ 0 [] = r at h
      cases r with
      | none => cases h
      | some res =>
        have hsub := planLoop_subset _ _ _ _ _ hpl
        have key : ∀ n ∈ res, P n := by
          intro n hn
          rcases hsub n hn with h1 | h1
          · cases h1
          · obtain ⟨q, hq, rfl⟩ := List.mem_map.mp h1
            exact hP q (List.mem_filter.mp ((mem_sortDesc _ q).mp hq)).1
        cases res with
        | nil => cases h; intro n hn; cases hn
        | cons a t =>
          cases t with
          | nil => cases h
          | cons b t' => cases h; exact key

end BreezyVerif.C04
