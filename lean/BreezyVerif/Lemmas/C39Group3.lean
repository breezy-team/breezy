import BreezyVerif.Lemmas.C39Group2
import BreezyVerif.Lemmas.C39Wf
/-! C39 helper lemmas: the hunks of the grouped opcodes of valid matching blocks
contain exactly the lines outside the blocks. -/
namespace BreezyVerif.C39

/-! ### grouping only cuts and drops `equal` opcodes

so a quantity `f` that vanishes on them has the same sum over the groups as over the opcodes -/

section
variable (f : Op → Nat) (hf : ∀ o, o.tag = .equal → f o = 0)
include hf

theorem groupLoop_sum (n : Nat) (os cur : List Op) :
    ((groupLoop n cur os).map (fun g => (g.map f).sum)).sum = (cur.map f).sum + (os.map f).sum := by
  induction os generalizing cur with
  | nil =>
    unfold groupLoop
    split
    · rename_i hcond
      rcases hcond with rfl | ⟨hlen, htag⟩
      · rfl
      · match cur, hlen with
        | [o], _ => simp [hf o (by simpa using htag)]
    · simp [List.sum_reverse]
  | cons o os ih =>
    unfold groupLoop
    split
    · rename_i hcond
      simp [ih, hf, hcond.1, List.sum_reverse]
    · simp only [ih, List.map_cons, List.sum_cons]
      omega

theorem trimHead_sum (n : Nat) (ops : List Op) : ((trimHead n ops).map f).sum = (ops.map f).sum := by
  cases ops with
  | nil => rfl
  | cons o os =>
    simp only [trimHead]
    split
    · rename_i h
      simp [hf, h]
    · rfl

theorem trimLast_sum (n : Nat) (ops : List Op) : ((trimLast n ops).map f).sum = (ops.map f).sum := by
  induction ops with
  | nil => rfl
  | cons o os ih =>
    cases os with
    | nil =>
      simp only [trimLast]
      split
      · rename_i h
        simp [hf, h]
      · rfl
    | cons o2 os' =>
      rw [trimLast_cons_cons, List.map_cons, List.sum_cons, ih, List.map_cons (l := o2 :: os'), List.sum_cons]

theorem grouped_sum (n : Nat) (codes : List Op) :
    ((grouped n codes).map (fun g => (g.map f).sum)).sum = (codes.map f).sum := by
  by_cases h : codes = []
  · subst h; rw [grouped_nil]; rfl
  · simp only [grouped, h, if_false]
    rw [groupLoop_sum f hf, trimLast_sum f hf, trimHead_sum f hf]
    simp

end

theorem insCount_equal (a b : List Line) (o : Op) (h : o.tag = .equal) :
    insCount (opLines a b o) = 0 ∧ remCount (opLines a b o) = 0 := by
  simp [opLines, h, insCount, remCount, ← List.countP_eq_length_filter, List.countP_map, Function.comp_def]

/-- the number of lines an opcode leaves as they are -/
def eqLen (o : Op) : Nat := if o.tag = .equal then o.j2 - o.j1 else 0

theorem counts_op (a b : List Line) (o : Op) (hv : validOp a b o = true) :
    insCount (opLines a b o) + eqLen o + o.j1 = o.j2 ∧ remCount (opLines a b o) + eqLen o + o.i1 = o.i2 := by
  obtain ⟨b1, b2, b3, b4⟩ := validOp_bounds a b o hv
  have la := length_slice a o.i1 o.i2 b3
  have lb := length_slice b o.j1 o.j2 b4
  simp only [validOp, Bool.and_eq_true, decide_eq_true_eq] at hv
  obtain ⟨-, htag⟩ := hv
  unfold eqLen opLines
  cases ht : o.tag <;> simp only [ht, decide_eq_true_eq, Bool.and_eq_true] at htag <;>
    simp [insCount, remCount, ← List.countP_eq_length_filter, List.countP_map, Function.comp_def, la, lb] <;> omega

/-- along any valid chain the inserted lines and the unchanged lines make up the stretch of `b` it
covers, the removed and the unchanged lines the stretch of `a` -/
theorem chain_counts (a b : List Line) (ops : List Op) (i j ei ej : Nat)
    (hv : validChain a b i j ops = some (ei, ej)) :
    (ops.map fun o => insCount (opLines a b o)).sum + (ops.map eqLen).sum + j = ej ∧
    (ops.map fun o => remCount (opLines a b o)).sum + (ops.map eqLen).sum + i = ei := by
  induction ops generalizing i j with
  | nil =>
    simp only [validChain, Option.some.injEq, Prod.mk.injEq] at hv
    simpa using hv.symm
  | cons o os ih =>
    obtain ⟨rfl, rfl, hvo, hc⟩ := (validChain_cons ..).mp hv
    obtain ⟨c1, c2⟩ := counts_op a b o hvo
    obtain ⟨r1, r2⟩ := ih _ _ hc
    simp only [List.map_cons, List.sum_cons]
    omega

theorem eqLen_gapOps (i i' j j' : Nat) : ((gapOps i i' j j').map eqLen).sum = 0 := by
  unfold gapOps
  split
  · rfl
  · split
    · rfl
    · split <;> rfl

/-- the unchanged lines of `get_opcodes` are those of the matching blocks -/
theorem opcodesFrom_eqLen (a b : List Line) (ks : List Block) (i j : Nat) (hv : validBlocksFrom a b i j ks = true) :
    ((opcodesFrom a.length b.length i j ks).map eqLen).sum = (ks.map (·.n)).sum := by
  induction ks generalizing i j with
  | nil => exact eqLen_gapOps ..
  | cons k ks ih =>
    simp only [validBlocksFrom, Bool.and_eq_true, decide_eq_true_eq] at hv
    rw [opcodesFrom_cons _ _ _ _ _ _ hv.1.1.1.1.2, List.map_append, List.sum_append, eqLen_gapOps, Nat.zero_add,
      List.map_cons, List.sum_cons, ih _ _ hv.2, List.map_cons, List.sum_cons]
    exact congrArg (· + _) (Nat.add_sub_cancel_left ..)

theorem insCount_flatMap {α : Type} (F : α → List HLine) (l : List α) :
    insCount (l.flatMap F) = (l.map (fun x => insCount (F x))).sum ∧
    remCount (l.flatMap F) = (l.map (fun x => remCount (F x))).sum := by
  simp [insCount, remCount, ← List.countP_eq_length_filter, List.countP_flatMap, Function.comp_def]

end BreezyVerif.C39
