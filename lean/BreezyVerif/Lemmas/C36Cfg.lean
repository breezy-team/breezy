import BreezyVerif.Lemmas.C36Esc
import BreezyVerif.Lemmas.C36Url
/-! C36 — the git configuration: the entries `set_parent` writes and `get_parent` reads, and how
dulwich's `_parse_string` reads back a value `_format_string` wrote. -/
namespace BreezyVerif.C36

theorem cfgGet_set (c : Cfg) (k k' : CfgKey) (v : NBytes) :
    cfgGet (cfgSet c k v) k' = if k = k' then some v else cfgGet c k' := by
  induction c with
  | nil => simp [cfgSet, cfgGet]
  | cons e rest ih =>
    by_cases h1 : e.1 = k <;> by_cases h2 : k = k' <;> simp_all [cfgSet, cfgGet]

theorem keys_ne : bRemote ≠ bBranch ∧ bMerge ≠ bRemote ∧ bFetch ≠ bUrl := by decide

theorem setParent_ok {c c' : Cfg} {name loc t : Str} {b : Option Str} {r : Option NBytes}
    (hsplit : bzrUrlToGitUrl loc = .ok (t, b, r)) (hset : setParent c name loc = .ok c') :
    ∃ nm te c2, encodeUtf8 false name = some nm ∧ encodeUtf8 false t = some te ∧
      c2 = cfgSet (cfgSet c (bRemote, getOrigin c nm, bUrl) te) (bRemote, getOrigin c nm, bFetch)
        (fetchA ++ getOrigin c nm ++ fetchB) ∧
      if name = [] then c' = c2 else ∃ m, effRef b r = some m ∧ c' = cfgSet c2 (bBranch, nm, bMerge) m := by
  unfold setParent at hset
  cases hnm : encodeUtf8 false name with
  | none => rw [hnm] at hset; cases hset
  | some nm =>
    simp only [hnm, hsplit] at hset
    cases hte : encodeUtf8 false t with
    | none => rw [hte] at hset; cases hset
    | some te =>
      refine ⟨nm, te, _, rfl, rfl, rfl, ?_⟩
      simp only [hte] at hset
      split
      · next h0 => rw [if_pos h0] at hset; cases hset; rfl
      · next h0 =>
        rw [if_neg h0] at hset
        cases hm : effRef b r with
        | none => rw [hm] at hset; cases hset
        | some m => rw [hm] at hset; cases hset; exact ⟨m, rfl, rfl⟩

theorem go_escOne (inq : Bool) (ws : NBytes) (b : Nat) (tl : NBytes) (h13 : b ≠ 13)
    (hq : inq = false → b ≠ 32 ∧ b ≠ 35 ∧ b ≠ 59) (hws : inq = true → ws = []) :
    cfgParseGo inq false ws (cfgEscOne b ++ tl) = (cfgParseGo inq false [] tl).map (ws ++ b :: ·) := by
  unfold cfgEscOne
  by_cases h1 : b = 92
  · subst h1; simp [cfgParseGo, cfgUnescChar, Function.comp_def]
  · by_cases h3 : b = 10
    · subst h3; simp [cfgParseGo, cfgUnescChar, Function.comp_def]
    · by_cases h4 : b = 9
      · subst h4; simp [cfgParseGo, cfgUnescChar, Function.comp_def]
      · by_cases h5 : b = 34
        · subst h5; simp [cfgParseGo, cfgUnescChar, Function.comp_def]
        · simp only [h1, h13, h3, h4, h5, if_false, List.cons_append, List.nil_append]
          cases inq with
          | true =>
            cases hws rfl
            by_cases hb : b = 32
            · subst hb; simp [cfgParseGo]
            · simp [cfgParseGo, h1, h4, h5, hb]
          | false =>
            obtain ⟨a1, a2, a3⟩ := hq rfl
            simp [cfgParseGo, h1, h4, h5, a1, a2, a3]

theorem go_quoted : ∀ (v : NBytes), 13 ∉ v → cfgParseGo true false [] (cfgEscape v ++ [34]) = some v
  | [], _ => by simp [cfgEscape_nil, cfgParseGo]
  | b :: rest, h => by
    simp only [List.mem_cons, not_or] at h
    have ih := go_quoted rest h.2
    rw [cfgEscape_cons, List.append_assoc, go_escOne true [] b _ (fun e => h.1 e.symm) (by simp) (by simp), ih]
    rfl

theorem go_unquoted : ∀ (v ws : NBytes), 13 ∉ v → 35 ∉ v → 59 ∉ v → v.getLast? ≠ some 32 →
    (v = [] → ws = []) → cfgParseGo false false ws (cfgEscape v) = some (ws ++ v)
  | [], ws, _, _, _, _, h0 => by simp [cfgEscape_nil, cfgParseGo, h0 rfl]
  | b :: rest, ws, h13, h35, h59, hl, _ => by
    simp only [List.mem_cons, not_or] at h13 h35 h59
    rw [cfgEscape_cons]
    have hl' : rest ≠ [] → rest.getLast? ≠ some 32 := by
      intro hne
      cases rest with
      | nil => exact absurd rfl hne
      | cons r rs => simpa [List.getLast?_cons_cons] using hl
    by_cases hb : b = 32
    · subst hb
      have : cfgEscOne 32 = [32] := by decide
      rw [this]
      simp only [List.cons_append, List.nil_append]
      have hne : rest ≠ [] := by
        intro e; subst e; simp at hl
      simp [cfgParseGo, go_unquoted rest (ws ++ [32]) h13.2 h35.2 h59.2 (hl' hne) (fun e => absurd e hne)]
    · rw [go_escOne false ws b _ (fun e => h13.1 e.symm)
        (fun _ => ⟨hb, fun e => h35.1 e.symm, fun e => h59.1 e.symm⟩) (by simp)]
      by_cases hne : rest = []
      · subst hne; simp [cfgEscape_nil, cfgParseGo]
      · rw [go_unquoted rest [] h13.2 h35.2 h59.2 (hl' hne) (fun _ => rfl)]
        simp

theorem isWs_cases {c : Nat} (hw : isWs c = true) (hne : c ≠ 13 ∧ c ≠ 10 ∧ c ≠ 9) : c = 32 ∨ c = 11 ∨ c = 12 := by
  simp only [isWs, Bool.or_eq_true, Bool.and_eq_true, decide_eq_true_eq] at hw
  omega

theorem cfgEscape_head_ws {v : NBytes} {c : Nat} (h : (cfgEscape v).head? = some c) (hw : isWs c = true) :
    v.head? = some c ∧ (c = 32 ∨ c = 11 ∨ c = 12) := by
  cases v with
  | nil => cases h
  | cons b rest =>
    rw [cfgEscape_cons] at h
    rcases cfgEscOne_cases b with ⟨hb, hne⟩ | ⟨e, hb, _⟩ <;> rw [hb] at h <;> cases h
    · exact ⟨rfl, isWs_cases hw hne⟩
    · cases hw

theorem cfgEscape_last_ws {v : NBytes} {c : Nat} (h : (cfgEscape v).getLast? = some c) (hw : isWs c = true) :
    v.getLast? = some c ∧ (c = 32 ∨ c = 11 ∨ c = 12) := by
  rcases List.eq_nil_or_concat v with rfl | ⟨init, b, rfl⟩
  · cases h
  · rw [List.concat_eq_append, cfgEscape_append, cfgEscape_singleton, List.getLast?_append] at h
    rw [List.concat_eq_append, List.getLast?_append]
    rcases cfgEscOne_cases b with ⟨hb, hne⟩ | ⟨e, hb, he⟩ <;> rw [hb] at h <;> cases h
    · exact ⟨rfl, isWs_cases hw hne⟩
    · exact absurd hw (ne_true_of_eq_false he)

/-- `o` is the first or the last byte of the value: one statement serves both ends -/
theorem isWs_false_of {c : Nat} {o : Option Nat} (h : isWs c = true → o = some c ∧ (c = 32 ∨ c = 11 ∨ c = 12))
    (h32 : o ≠ some 32) (h11 : o ≠ some 11) (h12 : o ≠ some 12) : isWs c = false :=
  Bool.eq_false_iff.mpr fun hw => by
    obtain ⟨hv, rfl | rfl | rfl⟩ := h hw
    · exact h32 hv
    · exact h11 hv
    · exact h12 hv

end BreezyVerif.C36
