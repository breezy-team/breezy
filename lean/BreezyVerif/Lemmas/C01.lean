import BreezyVerif.Model.C01
import BreezyVerif.Lemmas.C10Filter
/-!
C01 — helper lemmas: lookups in the committed inventory, which records are kept,
git path lookups.
-/
namespace BreezyVerif.C01
open BreezyVerif.C10 Lib

theorem get_recordOne (eff t : Tree) (j i : Id) :
    get (recordOne eff t j) i = if j = i then get eff j else get t i := by
  unfold recordOne
  split
  · rename_i e he
    rw [get_set]
    by_cases h : j = i
    · subst h; simp [he]
    · simp [h]
  · rename_i he
    rw [get_erase]
    by_cases h : j = i
    · subst h; simp [he]
    · simp [h]

theorem get_commitTree (eff : Tree) (S : List Id) (basis : Tree) (i : Id) :
    get (commitTree basis eff S) i = if i ∈ S then get eff i else get basis i := by
  unfold commitTree
  induction S generalizing basis with
  | nil => simp
  | cons j rest ih =>
    simp only [List.foldl_cons]
    rw [ih, get_recordOne]
    by_cases hr : i ∈ rest
    · simp [hr]
    · by_cases hj : j = i
      · subst hj; simp [hr]
      · have hij : ¬ i = j := fun h => hj h.symm
        simp [hr, hj, hij]

theorem get_effective (w : WT) (i : Id) :
    get (effective w) i = if i ∈ w.missing then none else get w.inv i := by
  unfold effective
  rw [get_filter_key w.inv (fun k => !w.missing.contains k) i]
  by_cases h : i ∈ w.missing <;> simp [h]

/-- ids at or below the selected paths in either tree (`none` selects everything) -/
def pathSelected (basis : Tree) (w : WT) (sel : Option (List Path)) (i : Id) : Prop :=
  match sel with
  | none => True
  | some f => i ∈ selectIds basis w.inv f

theorem keep_of_paths {src tgt : Tree} {i : Id} {c : Change} {excl : List Path}
    (h : change src tgt i = some c)
    (h1 : insideOpt excl (pathOf src i) = false) (h2 : insideOpt excl (pathOf tgt i) = false) :
    keepChange excl c = true := by
  obtain ⟨_, _, _, hs, ht⟩ := change_spec h
  unfold keepChange
  rw [hs, ht]
  have h0 : insideOpt excl none = false := rfl
  by_cases a : (get src i).isSome = true <;> by_cases b : (get tgt i).isSome = true <;>
    simp only [a, b, if_true, if_false, h1, h2, h0, Bool.or_false, Bool.not_false, Bool.false_eq_true]

theorem mem_commitIds {excl : List Path} {cs : List Change} {i : Id} :
    i ∈ commitIds excl cs ↔ ∃ c ∈ cs, keepChange excl c = true ∧ c.id = i := by
  unfold commitIds
  simp only [List.mem_map, List.mem_filter]
  constructor
  · rintro ⟨c, ⟨hc, hk⟩, hi⟩; exact ⟨c, hc, hk, hi⟩
  · rintro ⟨c, hc, hk, hi⟩; exact ⟨c, ⟨hc, hk⟩, hi⟩

theorem glookup_eq_lookup (t : GTree) (p : Path) : glookup t p = t.lookup p :=
  lookup_of_eqns (fun _ => rfl) (fun _ _ _ _ => rfl) t p

theorem glookup_append (a b : GTree) (p : Path) :
    glookup (a ++ b) p = (glookup a p).orElse fun _ => glookup b p := by
  simp only [glookup_eq_lookup, List.lookup_append]
  cases a.lookup p <;> rfl

theorem glookup_filter_key (t : GTree) (f : Path → Bool) (p : Path) :
    glookup (t.filter fun x => f x.1) p = if f p = true then glookup t p else none := by
  rw [glookup_eq_lookup, glookup_eq_lookup, lookup_filter_key]

theorem glookup_written (wt : GTree) (l : List Path) (p : Path) :
    glookup (l.filterMap fun q => (glookup wt q).map fun n => (q, n)) p
      = if p ∈ l then glookup wt p else none := by
  rw [glookup_eq_lookup, lookup_filterMap_keyed]

theorem glookup_mem {t : GTree} {p : Path} {n : Node} (h : glookup t p = some n) : ∃ x ∈ t, x.1 = p :=
  ⟨(p, n), mem_of_lookup (glookup_eq_lookup t p ▸ h), rfl⟩

/-- the reported change list names every working-tree path whose content differs
from the basis as the new path of some record -/
def gCovers (basis wt : GTree) (cs : List GChange) : Bool :=
  wt.all fun x => glookup basis x.1 == glookup wt x.1 || cs.any fun c => c.new == some x.1

/-- a record's old path is gone from the working tree unless the record stays
at that path (what a rename / removal / modification record means) -/
def gCoherent (wt : GTree) (cs : List GChange) : Bool :=
  cs.all fun c => match c.old with
    | none => true
    | some p => c.new == some p || (glookup wt p).isNone

theorem gCovers_spec {basis wt : GTree} {cs : List GChange} (h : gCovers basis wt cs = true) {p : Path} {n : Node}
    (hwt : glookup wt p = some n) : glookup basis p = glookup wt p ∨ ∃ c ∈ cs, c.new = some p := by
  obtain ⟨x, hx, rfl⟩ := glookup_mem hwt
  have := List.all_eq_true.mp h x hx
  simpa only [Bool.or_eq_true, beq_iff_eq, List.any_eq_true] using this

theorem gCoherent_spec {wt : GTree} {cs : List GChange} (h : gCoherent wt cs = true) {c : GChange} (hc : c ∈ cs)
    {p : Path} (ho : c.old = some p) : c.new = some p ∨ glookup wt p = none := by
  have := List.all_eq_true.mp h c hc
  rw [ho] at this
  simpa only [Bool.or_eq_true, beq_iff_eq, Option.isNone_iff_eq_none] using this

theorem mem_gWritten_iff {wt : GTree} {kept : List GChange} {p : Path} :
    p ∈ gWritten wt kept ↔ (∃ c ∈ kept, c.new = some p) ∧ (glookup wt p).isSome = true := by
  unfold gWritten
  rw [List.mem_filterMap]
  constructor
  · rintro ⟨c, hc, h⟩
    cases hn : c.new with
    | none => simp [hn] at h
    | some q =>
      simp only [hn, Option.bind_some] at h
      split at h
      · rename_i hq; simp at h; subst h; exact ⟨⟨c, hc, hn⟩, hq⟩
      · cases h
  · rintro ⟨⟨c, hc, hn⟩, hp⟩
    exact ⟨c, hc, by simp [hn, hp]⟩

theorem mem_gDeleted {kept : List GChange} {p : Path} : p ∈ gDeleted kept ↔ ∃ c ∈ kept, c.old = some p := by
  unfold gDeleted
  rw [List.mem_filterMap]

end BreezyVerif.C01
