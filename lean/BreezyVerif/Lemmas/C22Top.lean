import BreezyVerif.Lemmas.C22Num
/-!
C22 — `mergeSort` as a whole: total on topologically numbered graphs, lists
exactly the revisions reachable from the tip, each once, with pairwise
different dotted revnos.
-/
namespace BreezyVerif.C22

theorem PF.suffix {g : Graph} : ∀ (xs : List Entry) {l : List Entry}, PF g (xs ++ l) → PF g l
  | [], _, h => h
  | _ :: xs, _, h => PF.suffix xs h.2

theorem eomFlags_map (g : Graph) : ∀ (l : List (Nat × Nat × List Nat)),
    (eomFlags g l).map (fun e => (e.rev, e.depth, e.revno)) = l
  | [] => rfl
  | [(n, d, r)] => rfl
  | (n, d, r) :: (n', d', r') :: rest => by
    have := eomFlags_map g ((n', d', r') :: rest)
    simp only [eomFlags, List.map_cons] at this ⊢
    rw [this]

theorem eomFlags_rev (g : Graph) (l : List (Nat × Nat × List Nat)) :
    (eomFlags g l).map (·.rev) = l.map (·.1) := by
  have := congrArg (List.map (·.1)) (eomFlags_map g l)
  simpa [List.map_map, Function.comp_def] using this

theorem eomFlags_depth (g : Graph) (l : List (Nat × Nat × List Nat)) :
    (eomFlags g l).map (·.depth) = l.map (·.2.1) := by
  have := congrArg (List.map (·.2.1)) (eomFlags_map g l)
  simpa [List.map_map, Function.comp_def] using this

theorem eomFlags_revno (g : Graph) (l : List (Nat × Nat × List Nat)) :
    (eomFlags g l).map (·.revno) = l.map (·.2.2) := by
  have := congrArg (List.map (·.2.2)) (eomFlags_map g l)
  simpa [List.map_map, Function.comp_def] using this

theorem inv_empty (g : Graph) : Inv g ⟨[], []⟩ :=
  ⟨List.nodup_nil, trivial, (fun e he => by cases he), (fun e he => by cases he)⟩

/-- the walk completes the nodes in an order the numbering can follow -/
theorem sched_of_inv {g : Graph} {st : Dfs} (hinv : Inv g st) : Sched g st.done.reverse := by
  refine ⟨?_, fun e1 h1 e2 h2 => hinv.fcu e1 (List.mem_reverse.mp h1) e2 (List.mem_reverse.mp h2), ?_⟩
  · rw [List.map_reverse]
    exact (List.reverse_perm _).nodup_iff.mpr hinv.nodup
  · intro a e b hab
    have hd : st.done = b.reverse ++ e :: a.reverse := by
      have := congrArg List.reverse hab
      simpa using this
    have hpf := hinv.pf
    rw [hd] at hpf
    obtain ⟨⟨hlt, hpar⟩, _⟩ := PF.suffix _ hpf
    refine ⟨hlt, fun P hP => ?_⟩
    unfold lpOf at hP
    have hg : g[e.1]? = some g[e.1] := List.getElem?_eq_getElem hlt
    rw [hg] at hP
    have hm := leftParent_mem hP
    have := hpar P (by rw [parentsD_of_get hg]; exact hm.1) hm.2
    rwa [List.map_reverse, List.mem_reverse] at this

/-- everything `mergeSort` computes, with the facts proved about the walk and the numbering -/
theorem mergeSort_spec (g : Graph) (hw : WF g) (tip : Nat) (htip : tip < g.length) :
    ∃ (st : Dfs) (out : List (Nat × Nat × List Nat)) (stF : Num),
      Walks g 0 [tip] ⟨[], []⟩ st ∧ Inv g st ∧
      (∀ x, x ∈ doneSet st ↔ Reach g tip x) ∧
      (∃ fc rest, st.done = (tip, 0, fc) :: rest) ∧
      numberAll g ⟨[], []⟩ st.done.reverse = some out ∧
      out.map (fun e => (e.1, e.2.1)) = st.done.reverse.map (fun e => (e.1, e.2.1)) ∧
      (out.map (·.2.2)).Nodup ∧
      NumInv g st.done.reverse stF ∧
      (eomFlags g out.reverse).map (fun e => (e.rev, e.revno)) = stF.revnos ∧
      mergeSort g tip = some (eomFlags g out.reverse) := by
  obtain ⟨st, hv, w⟩ := visit_walks hw htip
  obtain ⟨hinv, ⟨new, hnew, _, hp⟩, hin⟩ :=
    w.inv hw (fun q hq => by rw [List.mem_singleton.mp hq]; exact htip) (inv_empty g)
  have hcov : ∀ x, x ∈ doneSet st ↔ Reach g tip x := by
    intro x
    constructor
    · intro hx
      obtain ⟨e, he, rfl⟩ := List.mem_map.mp hx
      rw [hnew, List.append_nil] at he
      obtain ⟨⟨r, hr, hreach⟩, _⟩ := hp e he
      rw [List.mem_singleton.mp hr] at hreach
      exact hreach
    · exact fun hr => closed_reach hinv.pf hr (hin tip (List.mem_singleton.mpr rfl))
  have hhead : ∃ fc rest, st.done = (tip, 0, fc) :: rest := by
    cases w with
    | skip h _ => cases h
    | node _ _ _ _ w3 => cases w3; exact ⟨_, _, rfl⟩
  obtain ⟨out, stF, hall, hmap, hnodup, _, hF, hFrev⟩ :=
    numberAll_spec g (sched_of_inv hinv) st.done.reverse [] ⟨[], []⟩ rfl (numInv_empty g)
  have hm : (eomFlags g out.reverse).map (fun e => (e.rev, e.revno)) = stF.revnos := by
    rw [hFrev, List.append_nil]
    have := congrArg (List.map fun e : Nat × Nat × List Nat => (e.1, e.2.2)) (eomFlags_map g out.reverse)
    simp only [List.map_map, Function.comp_def, List.map_reverse] at this
    exact this
  refine ⟨st, out, stF, w, hinv, hcov, hhead, hall, hmap, hnodup, hF, hm, ?_⟩
  unfold mergeSort mergeSortCore dfsOrder
  simp [hv, hall]

end BreezyVerif.C22
