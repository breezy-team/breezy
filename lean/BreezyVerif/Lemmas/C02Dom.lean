import BreezyVerif.Lemmas.C02Anc
/-
C02: per-file ancestry of a built repository is a strict partial order; a
single per-file head dominates every other candidate.
-/
namespace BreezyVerif.C02

/-- the texts of one commit: same revision, one per file id, parents older -/
theorem fresh_new (f : FileId) (cid : Rev) (l : List (FileId × List Rev)) (hn : (l.map (·.1)).Nodup)
    (hp : ∀ t ∈ l, ∀ p ∈ t.2, p ≠ cid) :
    Lib.Fresh (fun p => (f, p)) (l.map fun t => ((t.1, cid), t.2)) := by
  induction l with
  | nil => trivial
  | cons t l ih =>
    rw [List.map_cons, List.nodup_cons] at hn
    refine ⟨?_, ?_, ih hn.2 fun u hu => hp u (List.mem_cons_of_mem _ hu)⟩
    · intro hm
      obtain ⟨p, hp', e⟩ := List.mem_map.mp hm
      exact hp t List.mem_cons_self p hp' (congrArg Prod.snd e)
    · intro hm
      obtain ⟨e, he, hm⟩ := List.mem_flatMap.mp hm
      obtain ⟨u, hu, rfl⟩ := List.mem_map.mp he
      rcases List.mem_cons.mp hm with h | h
      · exact hn.1 (List.mem_map.mpr ⟨u, hu, (congrArg Prod.fst h).symm⟩)
      · obtain ⟨p, hp', e⟩ := List.mem_map.mp h
        exact hp u (List.mem_cons_of_mem _ hu) p hp' (congrArg Prod.snd e)

/-- whatever the per-file graph mentions is mentioned by the repository -/
theorem mentioned_textsOf (h : List Commit) (hh : hist h) (f : FileId) {k : FileId × Rev}
    (hk : k ∈ Lib.mentioned (fun p => (f, p)) (textsOf (build h))) : k.2 ∈ mentioned (build h) := by
  obtain ⟨⟨k', ps⟩, he, hm⟩ := List.mem_flatMap.mp hk
  rcases List.mem_cons.mp hm with rfl | hm
  · exact id_mem_mentioned (textsOf_key_mem he)
  · obtain ⟨p, hp, rfl⟩ := List.mem_map.mp hm
    exact ranc_mem_mentioned (text_edge_ranc h hh k' ps he p hp)

/-- the per-file graph of a built repository lists every text key before all it refers to -/
theorem textsOf_fresh : ∀ (h : List Commit), hist h → ∀ f, Lib.Fresh (fun p => (f, p)) (textsOf (build h))
  | [], _, _ => trivial
  | c :: older, hh, f => by
    have w := build_WF older hh.1
    obtain ⟨hment, _, hnd⟩ := hh.2
    have hid : c.id ∉ ids (build older) := fun h => hment (id_mem_mentioned h)
    show Lib.Fresh _ (textsOf (mkRec (build older) c :: build older))
    rw [textsOf_cons]
    refine Lib.fresh_append
      (fresh_new f c.id _ (hnd.sublist (filterMap_keys_sublist c.tree fun f a => (recordOne (build older) c f a).2))
        fun t ht p hp e => ?_)
      (textsOf_fresh older hh.1 f) fun e he hm => ?_
    · rw [(mkRec_texts_mem w hid ht).1] at hp
      exact hid (e ▸ w.cand_mem (heads_subset hp))
    · obtain ⟨t, _, rfl⟩ := List.mem_map.mp he
      exact hment (mentioned_textsOf older hh.1 f hm)

theorem fanc_trans_build (h : List Commit) (hh : hist h) (f : FileId) (x y z : Rev)
    (hx : x ∈ fanc (textsOf (build h)) f z) (hy : y ∈ fanc (textsOf (build h)) f x) :
    y ∈ fanc (textsOf (build h)) f z := by
  rw [fanc_eq_sanc] at *
  exact Lib.sanc_trans (textsOf_fresh h hh f) hx hy

theorem fanc_irrefl_build (h : List Commit) (hh : hist h) (f : FileId) (x : Rev) :
    x ∉ fanc (textsOf (build h)) f x := by
  rw [fanc_eq_sanc]
  exact Lib.sanc_irrefl (textsOf_fresh h hh f) x

/-- a non-empty finite set has a maximal element for any strict partial order -/
theorem exists_maximal (R : Nat → Nat → Prop) (trans : ∀ a b c, R a b → R b c → R a c)
    (irrefl : ∀ a, ¬ R a a) : ∀ (l : List Nat), l ≠ [] → ∃ m ∈ l, ∀ d ∈ l, ¬ R m d
  | [], h => absurd rfl h
  | [a], _ => ⟨a, List.mem_cons_self, fun d hd => by
      simp only [List.mem_singleton] at hd; subst hd; exact irrefl _⟩
  | a :: b :: l, _ => by
    obtain ⟨m, hm, hmax⟩ := exists_maximal R trans irrefl (b :: l) (by simp)
    by_cases hr : R m a
    · refine ⟨a, List.mem_cons_self, fun d hd => ?_⟩
      rcases List.mem_cons.mp hd with h | h
      · subst h; exact irrefl _
      · exact fun had => hmax d h (trans m a d hr had)
    · refine ⟨m, List.mem_cons_of_mem _ hm, fun d hd => ?_⟩
      rcases List.mem_cons.mp hd with h | h
      · subst h; exact hr
      · exact hmax d h

/-- when the candidates have a single head, every other candidate is a per-file
ancestor of it (for any graph whose ancestry is a strict partial order) -/
theorem single_head_dominates {g : TGraph} {f : FileId} {cands : List Rev} {x : Rev}
    (trans : ∀ a b c, a ∈ fanc g f b → b ∈ fanc g f c → a ∈ fanc g f c)
    (irrefl : ∀ a, a ∉ fanc g f a)
    (hh : heads g f cands = [x]) : ∀ c ∈ cands, c ≠ x → c ∈ fanc g f x := by
  intro c hc hcx
  -- a candidate other than `x` is not a head, so it is below another candidate
  have below : ∀ d ∈ cands, d ≠ x → ∃ d' ∈ cands, d' ≠ d ∧ d ∈ fanc g f d' := by
    intro d hd hdx
    apply Classical.byContradiction
    intro hno
    have : d ∈ heads g f cands :=
      mem_heads_iff.mpr ⟨hd, fun d' hd' hne hx => hno ⟨d', hd', hne, hx⟩⟩
    rw [hh] at this
    exact hdx (List.mem_singleton.mp this)
  let S := cands.filter fun d => (fanc g f d).contains c
  have hS : ∀ d, d ∈ S ↔ d ∈ cands ∧ c ∈ fanc g f d := by
    intro d; simp [S]
  obtain ⟨d0, hd0, _, hcd0⟩ := below c hc hcx
  have hne : S ≠ [] := List.ne_nil_of_mem ((hS d0).mpr ⟨hd0, hcd0⟩)
  obtain ⟨m, hm, hmax⟩ := exists_maximal (fun a b => a ∈ fanc g f b) trans irrefl S hne
  obtain ⟨hmc, hcm⟩ := (hS m).mp hm
  by_cases hmx : m = x
  · exact hmx ▸ hcm
  · obtain ⟨d', hd', _, hmd'⟩ := below m hmc hmx
    exact absurd hmd' (hmax d' ((hS d').mpr ⟨hd', trans c m d' hcm hmd'⟩))

end BreezyVerif.C02
