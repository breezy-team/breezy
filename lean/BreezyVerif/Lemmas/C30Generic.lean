import BreezyVerif.Model.C30
import BreezyVerif.Lemmas.C29LP
/-! generic reading-loop theorems from five laws of a decoder -/
namespace BreezyVerif.C30
open BreezyVerif.C29

structure Laws {S : Type} (M : Machine S) (wf : S → Prop) : Prop where
  append : ∀ s a b, M.feed (M.feed s a) b = M.feed s (a ++ b)
  wf_feed : ∀ s x, wf s → wf (M.feed s x)
  fin_feed : ∀ s x, M.fin s = true →
    M.fin (M.feed s x) = true ∧ M.unused (M.feed s x) = M.unused s ++ x
  fin_stop : ∀ s, M.fin s = true → M.stop s = true
  /-- whatever continuation `q` completes the message from `s`, the hint is at
  least 1 and at most the part of `q` that belongs to the message -/
  hint : ∀ s q, wf s → M.fin s = false → M.fin (M.feed s q) = true →
    M.stop s = false ∧ 1 ≤ M.nrs s ∧ M.nrs s + ((M.unused (M.feed s q)).length : Int) ≤ q.length

variable {S : Type} {M : Machine S} {wf : S → Prop}

theorem Laws.feed_feedAll (L : Laws M wf) (s : S) (segs : List Bytes) (q : Bytes) :
    M.feed (feedAll M.feed s segs) q = M.feed s (segs.flatten ++ q) := by
  induction segs generalizing s with
  | nil => simp [feedAll]
  | cons a r ih =>
    simp only [feedAll, List.flatten_cons, List.append_assoc]
    rw [ih, L.append]

theorem Laws.not_fin (L : Laws M wf) (s : S) (q : Bytes) (hq : q ≠ [])
    (hu : M.unused (M.feed s q) = []) : M.fin s = false := by
  cases hf : M.fin s with
  | false => rfl
  | true =>
    have := (L.fin_feed s q hf).2
    rw [hu] at this
    have : q = [] := by
      have h2 := congrArg List.length this
      simp at h2
      exact List.eq_nil_of_length_eq_zero (by omega)
    exact absurd this hq

theorem readSize_bounds (want : Int) (c : Nat) (h : 1 ≤ want) :
    1 ≤ readSize want c ∧ (readSize want c : Int) ≤ want := by
  unfold readSize
  have : (want.toNat : Int) = want := Int.toNat_of_nonneg (by omega)
  omega

/-- `w` is exactly one message for the decoder in the well-formed state `s`: one read of `w`
finishes it with nothing left over.  Since `s` is any state, this is also the invariant of a
reading loop, with `w` the part of the message still outstanding (`Complete.feed`). -/
structure Complete (M : Machine S) (wf : S → Prop) (s : S) (w : Bytes) : Prop where
  laws : Laws M wf
  wf0 : wf s
  fin : M.fin (M.feed s w) = true
  unused : M.unused (M.feed s w) = []

namespace Complete
variable {s s0 : S} {w : Bytes}

theorem of (L : Laws M wf) (h0 : wf s0)
    (h : M.fin (M.feed s0 w) = true ∧ M.unused (M.feed s0 w) = []) : Complete M wf s0 w :=
  ⟨L, h0, h.1, h.2⟩

/-- once a first part `a` of the message has been read, the rest `b` is one message for the
state reached -/
theorem feed {a b : Bytes} (C : Complete M wf s (a ++ b)) : Complete M wf (M.feed s a) b :=
  ⟨C.laws, C.laws.wf_feed s a C.wf0, by rw [C.laws.append]; exact C.fin,
    by rw [C.laws.append]; exact C.unused⟩

theorem feedAll (segs : List Bytes) {q : Bytes} (C : Complete M wf s (segs.flatten ++ q)) :
    Complete M wf (feedAll M.feed s segs) q := by
  induction segs generalizing s with
  | nil => exact C
  | cons a r ih =>
    rw [List.flatten_cons, List.append_assoc] at C
    exact ih C.feed

theorem take_drop (C : Complete M wf s w) (k : Nat) :
    Complete M wf (M.feed s (w.take k)) (w.drop k) :=
  feed (by rw [List.take_append_drop]; exact C)

/-- while part of the message is outstanding the decoder is not done and asks for between one
byte and what is outstanding -/
theorem hint (C : Complete M wf s w) (hw : w ≠ []) :
    M.fin s = false ∧ M.stop s = false ∧ 1 ≤ M.nrs s ∧ M.nrs s ≤ w.length := by
  have hnf := C.laws.not_fin s w hw C.unused
  have := C.laws.hint s w C.wf0 hnf C.fin
  rw [C.unused] at this
  exact ⟨hnf, by simpa using this⟩

/-- THE LOOP CONSUMES EXACTLY THE MESSAGE: started in a state `s` from which `w` completes
the message exactly, under every short-read schedule the loop never blocks, terminates, has
read all of `w` and nothing else, and ends in the state one big `accept_bytes(w)` would give. -/
theorem loop_from (C : Complete M wf s w) (hw : w ≠ []) (sched : Nat → Nat) (fuel i : Nat)
    (hf : w.length < fuel) : pipeLoop M sched fuel i s w = .finished (M.feed s w) [] := by
  induction fuel generalizing i s w with
  | zero => exact absurd hf (Nat.not_lt_zero _)
  | succ fuel ih =>
    obtain ⟨_, hstop, h1, h2⟩ := C.hint hw
    obtain ⟨k1, k2⟩ := readSize_bounds (M.nrs s) (sched i) h1
    have hnb : ¬ (M.nrs s ≤ 0 ∨ (w.length : Int) < M.nrs s) := by omega
    rw [pipeLoop, if_neg (by simp [hstop]), if_neg hnb]
    dsimp only
    generalize readSize (M.nrs s) (sched i) = k at k1 k2
    by_cases hd : w.drop k = []
    · -- the read took all that was outstanding: the next test ends the loop
      have ht : w.take k = w := by
        have := List.take_append_drop k w
        rwa [hd, List.append_nil] at this
      rw [hd, ht]
      cases fuel with
      | zero => have := List.length_pos_iff.2 hw; omega
      | succ fuel => rw [pipeLoop, if_pos (C.laws.fin_stop _ C.fin)]
    · rw [ih (C.take_drop k) hd _ (by rw [List.length_drop]; omega), C.laws.append,
        List.take_append_drop]

/-- TRUNCATED MESSAGE: from a state `s` from which `a ++ q` would complete the message
exactly (`q ≠ []` is the part the peer never sends), under every short-read schedule
the loop reads all of `a`, then gets EOF, and at no point reports completion. -/
theorem eof_from {a q : Bytes} (C : Complete M wf s (a ++ q)) (hq : q ≠ []) (sched : Nat → Nat)
    (fuel i : Nat) (hf : a.length < fuel) :
    ∃ s', pipeLoopEof M sched fuel i s a = .eof s' ∧ M.stop s' = false ∧ M.fin s' = false := by
  induction fuel generalizing i s a with
  | zero => exact absurd hf (Nat.not_lt_zero _)
  | succ fuel ih =>
    obtain ⟨hnf, hstop, h1, _⟩ := C.hint (by simp [hq])
    rw [pipeLoopEof, if_neg (by simp [hstop]), if_neg (by omega)]
    by_cases ha : a = []
    · subst ha
      exact ⟨s, rfl, hstop, hnf⟩
    · rw [if_neg (by simpa using ha)]
      dsimp only
      obtain ⟨k1, _⟩ := readSize_bounds (M.nrs s) (sched i) h1
      have hl := List.length_pos_iff.2 ha
      refine ih (a := a.drop _)
        (feed (by rw [← List.append_assoc, List.take_append_drop]; exact C)) _ ?_
      rw [List.length_drop]
      omega

/-! The same three facts about the states reached while the message `w` is delivered to
`s0` in arbitrary reads `segs`. -/

theorem no_overread (C : Complete M wf s0 w) (segs : List Bytes) (q : Bytes)
    (hw : segs.flatten ++ q = w) (hq : q ≠ []) :
    let s := C29.feedAll M.feed s0 segs
    M.stop s = false ∧ 1 ≤ M.nrs s ∧ M.nrs s ≤ q.length := by
  subst hw
  exact ((C.feedAll segs).hint hq).2

theorem fin_at_end (C : Complete M wf s0 w) (segs : List Bytes) (hne : segs ≠ [])
    (hw : segs.flatten = w) : M.fin (C29.feedAll M.feed s0 segs) = true := by
  rw [feedAll_eq_feed _ C.laws.append _ hne, hw]
  exact C.fin

theorem stops_at_end (C : Complete M wf s0 w) (segs : List Bytes) (hne : segs ≠ [])
    (hw : segs.flatten = w) : M.stop (C29.feedAll M.feed s0 segs) = true :=
  C.laws.fin_stop _ (C.fin_at_end segs hne hw)

theorem loop (C : Complete M wf s0 w) (sched : Nat → Nat) (i : Nat) (segs : List Bytes) (q : Bytes)
    (hw : segs.flatten ++ q = w) (hq : q ≠ []) :
    pipeLoop M sched (q.length + 1) i (C29.feedAll M.feed s0 segs) q = .finished (M.feed s0 w) [] := by
  subst hw
  rw [(C.feedAll segs).loop_from hq sched _ i (Nat.lt_succ_self _), C.laws.feed_feedAll]

theorem eof (C : Complete M wf s0 w) (sched : Nat → Nat) (i : Nat) (segs : List Bytes)
    (avail q : Bytes) (hw : segs.flatten ++ (avail ++ q) = w) (hq : q ≠ []) :
    ∃ s', pipeLoopEof M sched (avail.length + 1) i (C29.feedAll M.feed s0 segs) avail = .eof s' ∧
      M.stop s' = false ∧ M.fin s' = false := by
  subst hw
  exact (C.feedAll segs).eof_from hq sched _ i (Nat.lt_succ_self _)

end Complete

/-- NO OVER-READ: in every state reached while the message `w` is delivered in
arbitrary reads, with `q` the part of `w` not yet delivered: the decoder asks
for at least one and at most `|q|` bytes, and does not report completion. -/
theorem Laws.no_overread (L : Laws M wf) (s0 : S) (w : Bytes) (h0 : wf s0)
    (hfin : M.fin (M.feed s0 w) = true) (hun : M.unused (M.feed s0 w) = [])
    (segs : List Bytes) (q : Bytes) (hw : segs.flatten ++ q = w) (hq : q ≠ []) :
    let s := feedAll M.feed s0 segs
    M.stop s = false ∧ 1 ≤ M.nrs s ∧ M.nrs s ≤ q.length :=
  Complete.no_overread ⟨L, h0, hfin, hun⟩ segs q hw hq

end BreezyVerif.C30
