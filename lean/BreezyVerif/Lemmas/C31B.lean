import BreezyVerif.Lemmas.C31
/-
The chroot/userdir/local stack keeps every relpath of a `PctClass` (`Canon`, `Mild`, or
`NoPct`: no '%' at all) inside the served directory.
-/
namespace BreezyVerif.C31

def NoPct (p : Bytes) : Prop := PCT ∉ p

theorem mem_of_mem_splitSl {p : Bytes} {s : Seg} {c : UInt8} (hs : s ∈ splitSl p) (hc : c ∈ s) : c ∈ p :=
  Lib.mem_of_mem_splitOn (splitSl_eq p ▸ hs) hc

theorem mem_joinSl {segs : List Seg} {c : UInt8} (h : c ∈ joinSl segs) : c = SL ∨ ∃ s ∈ segs, c ∈ s :=
  Lib.mem_intercalate (joinSl_eq segs ▸ h)

theorem noPctClass : PctClass NoPct (· ≠ PCT) False where
  nil := List.not_mem_nil
  plain := fun _ _ hc hr hm => (List.mem_cons.1 hm).elim (fun e => hc e.symm) hr
  esc := fun _ _ _ h => h.elim
  ind := fun h0 h1 _ p hp => by
    induction p with
    | nil => exact h0
    | cons c r ih =>
      have hr : NoPct r := fun h => hp (List.mem_cons_of_mem _ h)
      exact h1 c r (fun e => hp (e ▸ List.mem_cons_self)) hr (ih hr)
  ne_pct := fun _ h => h
  hex := hexU_ne_PCT'
  sl := by decide

/-- segments a transport base may consist of -/
def GoodSeg (P : Bytes → Prop) (s : Seg) : Prop := P s ∧ SL ∉ s ∧ s ≠ dotdot

theorem cmbStep_good {P : Bytes → Prop} {stk : List Seg} {seg : Seg}
    (hs : ∀ s ∈ stk, GoodSeg P s) (hp : P seg) (hsl : SL ∉ seg) :
    ∀ s ∈ cmbStep stk seg, GoodSeg P s := by
  unfold cmbStep
  split
  · exact hs
  · split
    · intro s h; exact hs s (List.mem_of_mem_drop h)
    · rename_i h2
      intro s h
      cases h with
      | head => exact ⟨hp, hsl, h2⟩
      | tail _ h' => exact hs s h'

theorem foldl_cmbStep_good {P : Bytes → Prop} : ∀ (segs : List Seg) (stk : List Seg),
    (∀ s ∈ stk, GoodSeg P s) → (∀ s ∈ segs, P s ∧ SL ∉ s) →
    ∀ s ∈ segs.foldl cmbStep stk, GoodSeg P s
  | [], stk, hs, _ => by simpa using hs
  | x :: xs, stk, hs, hx => by
    simp only [List.foldl_cons]
    exact foldl_cmbStep_good xs (cmbStep stk x)
      (cmbStep_good hs (hx x (by simp)).1 (hx x (by simp)).2)
      (fun s h => hx s (List.mem_cons_of_mem _ h))

section
variable {P : Bytes → Prop} {Q : UInt8 → Prop} {e : Prop} (E : PctClass P Q e)
include E

theorem combine_good {stk : List Seg} {rel : Bytes}
    (hs : ∀ s ∈ stk, GoodSeg P s) (hr : P rel) : ∀ s ∈ combine stk rel, GoodSeg P s := by
  unfold combine
  simp only []
  rw [E.normPct hr]
  apply foldl_cmbStep_good
  · split
    · simp
    · exact hs
  · intro s h
    exact ⟨E.splitSl hr s h, splitSl_noSl rel s h⟩

theorem PctClass.stkPath {stk : List Seg} (hs : ∀ s ∈ stk, GoodSeg P s) : P (stkPath stk) := by
  unfold C31.stkPath
  exact E.joinSl _ (fun s h => (hs s (by simpa using h)).1)

end

theorem splitSl_stkPath {P : Bytes → Prop} {stk : List Seg}
    (hs : ∀ s ∈ stk, GoodSeg P s) : stk = [] ∨ splitSl (stkPath stk) = stk.reverse := by
  cases stk with
  | nil => exact Or.inl rfl
  | cons x t =>
    right
    unfold stkPath
    exact splitSl_joinSl _ (by simp) (fun s h => (hs s (List.mem_reverse.mp h)).2.1)

/-- segments that survive OS resolution / chroot combination when no ".." is present -/
def keep (s : Seg) : Bool := decide (s ≠ [] ∧ s ≠ dotSeg)

def segsK (b : Bytes) : List Seg := (splitSl b).filter keep

theorem foldl_osStep_nodotdot : ∀ (segs : List Seg) (stk : List Seg),
    (∀ s ∈ segs, s ≠ dotdot) → segs.foldl osStep stk = (segs.filter keep).reverse ++ stk
  | [], stk, _ => by simp
  | x :: xs, stk, h => by
    have hx : x ≠ dotdot := h x (by simp)
    have ih := foldl_osStep_nodotdot xs (osStep stk x) (fun s hs => h s (List.mem_cons_of_mem _ hs))
    simp only [List.foldl_cons]
    rw [ih]
    unfold osStep keep
    by_cases h1 : x = []
    · simp [h1]
    · by_cases h2 : x = dotSeg
      · simp [h2]
      · simp [h1, h2, hx]

theorem osResolve_nodotdot {root : List Seg} {u : Bytes} (h : ∀ s ∈ splitSl u, s ≠ dotdot) :
    osResolve root u = root ++ segsK u := by
  unfold osResolve segsK
  rw [foldl_osStep_nodotdot _ _ h]
  simp

theorem osResolve_inside {root : List Seg} {u : Bytes} (h : ∀ s ∈ splitSl u, s ≠ dotdot) :
    inside root (osResolve root u) := by
  rw [osResolve_nodotdot h]
  exact List.prefix_append _ _

/-- `unescape` either decodes, or — when the decoded bytes are not UTF-8 — hands its input back -/
theorem unescape_ok {s r : Bytes} (h : unescape s = .ok r) :
    r = pctDecode s ∨ (validUtf8 (pctDecode s) = false ∧ r = s) := by
  unfold unescape at h
  split at h
  · cases h
  · simp only [] at h
    split at h
    · cases h; exact Or.inl rfl
    · cases h; exact Or.inr ⟨Bool.eq_false_iff.2 ‹_›, rfl⟩

theorem osRel_ok {b u : Bytes} (h : osRel b = .ok u) : unescape b = .ok u := by
  unfold osRel at h
  cases hu : unescape b with
  | error e => rw [hu] at h; cases h
  | ok v =>
    rw [hu] at h
    simp only [] at h
    split at h
    · cases h
    · cases h; rfl

section
variable {P : Bytes → Prop} {Q : UInt8 → Prop} {e : Prop} (E : PctClass P Q e)
include E

theorem keep_decode {s : Seg} (h : P s) : keep (pctDecode s) = keep s := by
  unfold keep
  by_cases h1 : s = []
  · subst h1; simp [pctDecode]
  · by_cases h2 : s = dotSeg
    · subst h2; decide
    · have e1 : pctDecode s ≠ [] := fun hd => h1 (E.decode_nil h hd)
      have e2 : pctDecode s ≠ dotSeg := fun hd => h2 (E.decode_dot h hd)
      simp [h1, h2, e1, e2]

theorem segsK_decode {b : Bytes} (h : P b) : segsK (pctDecode b) = (segsK b).map pctDecode := by
  unfold segsK
  rw [E.split_decode h, List.filter_map]
  congr 1
  apply List.filter_congr
  intro s hs
  exact keep_decode E (E.splitSl h s hs)

/-- what the OS resolves for a relpath of the class without "..": the kept segments, decoded — or,
when the decoded bytes are not UTF-8 and `unescape` hands its input back, the kept segments as
written -/
theorem osRel_locate_nodotdot {root : List Seg} {b u : Bytes} (hm : P b)
    (hnd : ∀ s ∈ splitSl b, s ≠ dotdot) (h : osRel b = .ok u) :
    osResolve root u = root ++ (segsK b).map pctDecode
      ∨ (validUtf8 (pctDecode b) = false ∧ osResolve root u = root ++ segsK b) := by
  rcases unescape_ok (osRel_ok h) with rfl | ⟨hv, rfl⟩
  · left
    rw [osResolve_nodotdot, segsK_decode E hm]
    rw [E.split_decode hm]
    intro s hs
    obtain ⟨t, ht, rfl⟩ := List.mem_map.mp hs
    intro hd
    exact hnd t ht (E.decode_dotdot (E.splitSl hm t ht) hd)
  · exact Or.inr ⟨hv, osResolve_nodotdot hnd⟩

/-- a path made of good segments has no ".." left, so what the OS resolves stays below the root -/
theorem osRel_inside {root : List Seg} {stk : List Seg} {u : Bytes}
    (hs : ∀ s ∈ stk, GoodSeg P s) (h : osRel (stkPath stk) = .ok u) :
    inside root (osResolve root u) := by
  have hnd : ∀ s ∈ splitSl (stkPath stk), s ≠ dotdot := by
    rcases splitSl_stkPath hs with rfl | hr
    · decide
    · rw [hr]
      exact fun s hm => (hs s (List.mem_reverse.1 hm)).2.2
  rcases osRel_locate_nodotdot E (root := root) (E.stkPath hs) hnd h with hr | ⟨_, hr⟩
  · rw [hr]; exact List.prefix_append _ _
  · rw [hr]; exact List.prefix_append _ _

/-- the whole stack: a relpath of the class on a transport whose base is of the class, behind a
filter that preserves the class, lands inside the served directory -/
theorem locate_inside (cfg : Cfg) (cloneStk : List Seg) (rel : Bytes) (loc : List Seg)
    (hf : ∀ p, P p → P (cfg.filter p))
    (hs : ∀ s ∈ cloneStk, GoodSeg P s) (hr : P rel)
    (h : locate cfg cloneStk rel = .ok loc) : inside cfg.rootDir loc := by
  unfold locate at h
  cases ho : osRel (backingRel cfg cloneStk rel) with
  | error e => rw [ho] at h; cases h
  | ok u =>
    rw [ho] at h
    cases h
    unfold backingRel at ho
    have h1 := combine_good E hs hr
    cases hb : cfg.basePath with
    | none =>
      rw [hb] at ho
      exact osRel_inside E h1 ho
    | some b =>
      rw [hb] at ho
      simp only [] at ho
      have h2 : P (cfg.filter (stkPath (combine cloneStk rel))) := hf _ (E.stkPath h1)
      have h3 := combine_good E (stk := []) (by simp) h2
      exact osRel_inside E h3 ho

theorem PctClass.withSlash {p : Bytes} (h : P p) : P (withSlash p) := by
  unfold C31.withSlash
  split
  · exact h
  · exact E.append h (E.plain SL [] E.sl E.nil)

theorem PctClass.expandUserdirs {expander : Bytes → Bytes} (he : ∀ p, P p → P (expander p))
    (base : Bytes) {p : Bytes} (hp : P p) : P (expandUserdirs expander base p) := by
  unfold C31.expandUserdirs
  split
  · simp only []
    split
    · exact E.drop (E.withSlash (he p hp)) _
    · exact hp
  · exact hp

/-- `expanduser` with home directories of the class stays in the class: it replaces a
prefix of the path by a home directory -/
theorem PctClass.expanduser {tbl : List (Bytes × Bytes)} (ht : ∀ e ∈ tbl, P (rstripSl e.2))
    {p : Bytes} (hp : P p) : P (expanduser tbl p) := by
  unfold C31.expanduser
  cases p with
  | nil => exact hp
  | cons c rest =>
    simp only []
    split
    · cases hl : lookupHome tbl (rest.takeWhile (· ≠ SL)) with
      | none => exact hp
      | some home =>
        simp only []
        have hh : P (rstripSl home) := by
          unfold lookupHome at hl
          cases hfnd : tbl.find? (fun e => e.1 = rest.takeWhile (· ≠ SL)) with
          | none => rw [hfnd] at hl; cases hl
          | some e =>
            rw [hfnd] at hl
            cases hl
            exact ht e (List.mem_of_find?_eq_some hfnd)
        have htail : P (rest.dropWhile (· ≠ SL)) := by
          rw [List.suffix_iff_eq_drop.1 (List.dropWhile_suffix _)]
          exact E.drop hp (_ + 1)
        split
        · exact E.plain SL [] E.sl E.nil
        · exact E.append hh htail
    · exact hp

end

theorem isChildUrl_iff (p url : Bytes) :
    isChildUrl (p ++ [SL]) url = true ↔ url = p ∨ ∃ rest, url = p ++ SL :: rest := by
  unfold isChildUrl
  simp only [Bool.or_eq_true, beq_iff_eq, List.dropLast_concat]
  constructor
  · rintro (h | h)
    · exact Or.inl h
    · obtain ⟨t, ht⟩ := List.isPrefixOf_iff_prefix.mp h
      exact Or.inr ⟨t, by simp [← ht]⟩
  · rintro (h | ⟨rest, h⟩)
    · exact Or.inl h
    · right
      exact List.isPrefixOf_iff_prefix.mpr ⟨rest, by simp [h]⟩

/-- a successful `translate_client_path` returns "." or the escaped "." ++ joinpath of what
follows the root -/
theorem translate_ok {root cp r : Bytes} (h : translate root cp = .ok r) :
    r = [DOT] ∨ ∃ rel, joinpathRoot ((addSlash cp).drop root.length) = .ok rel ∧
      r = escape (DOT :: rel) := by
  unfold translate at h
  split at h
  · cases h
  · unfold translateAbs at h
    split at h
    · cases h; exact Or.inl rfl
    · split at h
      · cases hj : joinpathRoot (List.drop root.length (addSlash cp)) with
        | error e => rw [hj] at h; cases h
        | ok rel =>
          rw [hj] at h
          simp only [] at h
          split at h
          · cases h; exact Or.inr ⟨rel, rfl, rfl⟩
          · cases h
      · cases h

theorem jpStep_mem {stk : List Seg} {c : Seg} {stk' : List Seg} (h : jpStep stk c = .ok stk') :
    ∀ s ∈ stk', s ∈ stk ∨ s = c := by
  obtain rfl | ⟨_, x, rfl⟩ | ⟨_, _, rfl⟩ := jpStep_ok h
  · exact fun s hs => Or.inl hs
  · exact fun s hs => Or.inl (List.mem_cons_of_mem _ hs)
  · intro s hs
    cases hs with
    | head => exact Or.inr rfl
    | tail _ h' => exact Or.inl h'

theorem jpFold_mem (cs stk stk' : List Seg) (h : jpFold stk cs = .ok stk') :
    ∀ s ∈ stk', s ∈ stk ∨ s ∈ cs :=
  jpFold_ind (I := fun a => ∀ s ∈ a, s ∈ stk ∨ s ∈ cs) cs
    (fun _ hc _ _ ha hs s hsb => (jpStep_mem hs s hsb).elim (ha s) fun e => Or.inr (e ▸ hc))
    (fun _ hs => Or.inl hs) h

/-- `joinpath` invents no bytes: every byte of the result is a '/' or a byte of the argument -/
theorem joinpath_bytes {a r : Bytes} (h : joinpathRoot a = .ok r) : ∀ c ∈ r, c = SL ∨ c ∈ a := by
  obtain ⟨stk, hf, rfl⟩ := joinpathRoot_ok h
  have hm := jpFold_mem _ _ _ hf
  split
  · intro c hc
    exact Or.inl (List.mem_singleton.1 hc)
  · intro c hc
    rcases mem_joinSl hc with e | ⟨s, hs, hcs⟩
    · exact Or.inl e
    · rcases hm s (List.mem_reverse.mp hs) with h1 | h1
      · split at h1
        · cases h1
        · simp only [List.mem_singleton] at h1; subst h1; cases hcs
      · exact Or.inr (mem_of_mem_splitSl h1 hcs)

end BreezyVerif.C31
