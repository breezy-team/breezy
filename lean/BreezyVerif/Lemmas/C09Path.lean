import BreezyVerif.Model.C09
/-!
C09 — path-space status (`pathStatus`, the git comparison): lookups by path and
the soundness / completeness lemmas over arbitrary listings.
-/
namespace BreezyVerif.C09
open BreezyVerif.C10

/-- the node a listing has at path `p` (first match) -/
def lookup (l : List (Path × Node)) (p : Path) : Option Node := (l.find? (·.1 == p)).map (·.2)

/-- the path a path-space record talks about -/
def PathChange.path : PathChange → Path
  | .added p _ => p
  | .removed p _ => p
  | .modified p => p

/-- `pathStatus` over two arbitrary listings -/
def pstat (b w : List (Path × Node)) : List PathChange :=
  (b.filterMap fun x => match w.find? (·.1 == x.1) with
      | none => some (.removed x.1 x.2.kind)
      | some y => if x.2 == y.2 then none else some (.modified x.1))
  ++ (w.filterMap fun y => match b.find? (·.1 == y.1) with
      | none => some (.added y.1 y.2.kind)
      | some _ => none)

theorem pathStatus_eq (s : State) : pathStatus s = pstat (listing s.basis) (listing (wtTree s)) := rfl

theorem find_first_of_nodup {l : List (Path × Node)} (hn : (l.map (·.1)).Nodup) {x : Path × Node} (hx : x ∈ l) :
    l.find? (·.1 == x.1) = some x := by
  induction l with
  | nil => cases hx
  | cons a rest ih =>
    simp only [List.map_cons, List.nodup_cons] at hn
    rcases List.mem_cons.mp hx with h | h
    · subst h; simp
    · have hne : ¬ a.1 = x.1 := by
        intro heq
        exact hn.1 (heq ▸ List.mem_map_of_mem (f := (·.1)) h)
      simp only [List.find?_cons]
      have : (a.1 == x.1) = false := by simpa using hne
      rw [this]
      exact ih hn.2 h

theorem pstat_complete (b w : List (Path × Node)) (p : Path) (h : lookup b p ≠ lookup w p) :
    ∃ c ∈ pstat b w, c.path = p := by
  unfold lookup at h
  cases hb : b.find? (·.1 == p) with
  | some x =>
    have hxb : x ∈ b := List.mem_of_find?_eq_some hb
    have hxp : x.1 = p := by simpa using List.find?_some hb
    cases hw : w.find? (·.1 == p) with
    | none =>
      refine ⟨.removed x.1 x.2.kind, ?_, hxp⟩
      unfold pstat
      apply List.mem_append_left
      rw [List.mem_filterMap]
      exact ⟨x, hxb, by rw [hxp, hw]⟩
    | some y =>
      rw [hb, hw] at h
      have hne : ¬ x.2 = y.2 := by simpa using h
      refine ⟨.modified x.1, ?_, hxp⟩
      unfold pstat
      apply List.mem_append_left
      rw [List.mem_filterMap]
      refine ⟨x, hxb, ?_⟩
      rw [hxp, hw]
      have : (x.2 == y.2) = false := by simpa using hne
      simp [this]
  | none =>
    rw [hb] at h
    cases hw : w.find? (·.1 == p) with
    | none => rw [hw] at h; exact absurd rfl h
    | some y =>
      have hyw : y ∈ w := List.mem_of_find?_eq_some hw
      have hyp : y.1 = p := by simpa using List.find?_some hw
      refine ⟨.added y.1 y.2.kind, ?_, hyp⟩
      unfold pstat
      apply List.mem_append_right
      rw [List.mem_filterMap]
      exact ⟨y, hyw, by rw [hyp, hb]⟩

/-- soundness: every record names a path whose entries differ (the basis listing
must not list a path twice) -/
theorem pstat_sound (b w : List (Path × Node)) (hn : (b.map (·.1)).Nodup) (c : PathChange) (hc : c ∈ pstat b w) :
    lookup b c.path ≠ lookup w c.path := by
  unfold pstat at hc
  rcases List.mem_append.mp hc with hc | hc
  · rw [List.mem_filterMap] at hc
    obtain ⟨x, hxb, hx⟩ := hc
    have hfirst := find_first_of_nodup hn hxb
    cases hw : w.find? (·.1 == x.1) with
    | none =>
      rw [hw] at hx
      simp at hx; subst hx
      simp [lookup, PathChange.path, hfirst, hw]
    | some y =>
      rw [hw] at hx
      by_cases hxy : x.2 = y.2
      · simp [hxy] at hx
      · have : (x.2 == y.2) = false := by simpa using hxy
        simp [this] at hx; subst hx
        simp [lookup, PathChange.path, hfirst, hw, hxy]
  · rw [List.mem_filterMap] at hc
    obtain ⟨y, hyw, hy⟩ := hc
    cases hb : b.find? (·.1 == y.1) with
    | some _ => rw [hb] at hy; cases hy
    | none =>
      rw [hb] at hy
      simp at hy; subst hy
      have hsome : (w.find? (·.1 == y.1)).isSome = true := by
        rw [List.find?_isSome]
        exact ⟨y, hyw, by simp⟩
      cases hw : w.find? (·.1 == y.1) with
      | none => rw [hw] at hsome; cases hsome
      | some z => simp [lookup, PathChange.path, hb, hw]

end BreezyVerif.C09
