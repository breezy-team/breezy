import BreezyVerif.Lemmas.C10Round
/-!
C10 — the loop with the optional `examined_file_ids` fix (`preciseLoopG`): for
`fx = false` it is the loop of the unchanged code; one invariant for both
variants (true records, ancestor closure, children of entries that stopped being
directories); the fixed loop always terminates.
-/
namespace BreezyVerif.C10

theorem preciseLoopG_false (src tgt : Tree) : ∀ (n : Nat) (st : PState) (ex : List Id),
    preciseLoopG false src tgt n st ex = preciseLoop src tgt n st := by
  intro n
  induction n with
  | zero => intro st ex; rfl
  | succ n ih =>
    intro st ex
    unfold preciseLoopG preciseLoop
    have hf : ∀ l : List Id, l.filter (fun _ => true) = l := fun l => List.filter_eq_self.mpr (by simp)
    simp only [Bool.false_and, Bool.not_false, Bool.and_true, hf]
    split
    · rfl
    · exact ih _ _

theorem iterChangesG_false (impl : Impl) (src tgt : Tree) (filt : Option (List Path)) (incl reqv : Bool) :
    iterChangesG false impl src tgt filt incl reqv = iterChanges impl src tgt filt incl reqv := by
  unfold iterChangesG iterChanges gFuel
  simp only [Bool.false_eq_true, if_false, preciseLoopG_false]

/-- the ids a round of `preciseLoopG` still has to look at -/
def pendingG (fx : Bool) (st : PState) (ex : List Id) : List Id :=
  st.precise.filter fun i => !st.changed.contains i && !(fx && ex.contains i)

/-- the ids a round examines: the pending ids and the source entries at their target paths -/
def currentG (fx : Bool) (src tgt : Tree) (st : PState) (ex : List Id) : List Id :=
  unionNew (pendingG fx st ex) (((pendingG fx st ex).filterMap fun i => (pathOf tgt i).bind (idAt src)).filter
    fun o => !(fx && (st.changed.contains o || ex.contains o)))

theorem preciseLoopG_succ (fx : Bool) (src tgt : Tree) (n : Nat) (st : PState) (ex : List Id) :
    preciseLoopG fx src tgt (n + 1) st ex =
      if (pendingG fx st ex).isEmpty then some st.out
      else preciseLoopG fx src tgt n (afterRound src tgt st (currentG fx src tgt st ex))
        (ex ++ currentG fx src tgt st ex) := by
  rw [← round_eq]; rfl

theorem preciseLoopG_induct {fx : Bool} {src tgt : Tree} {I : PState → List Id → Prop}
    (round : ∀ st ex, I st ex → (pendingG fx st ex).isEmpty = false →
      I (afterRound src tgt st (currentG fx src tgt st ex)) (ex ++ currentG fx src tgt st ex)) :
    ∀ (n : Nat) (st : PState) (ex : List Id) (out : List Change), I st ex →
      preciseLoopG fx src tgt n st ex = some out →
      ∃ st' ex', I st' ex' ∧ (pendingG fx st' ex').isEmpty = true ∧ st'.out = out := by
  intro n
  induction n with
  | zero => intro st ex out _ h; cases h
  | succ n ih =>
    intro st ex out hI h
    rw [preciseLoopG_succ] at h
    cases hp : (pendingG fx st ex).isEmpty with
    | true =>
      rw [hp, if_pos rfl] at h
      exact ⟨st, ex, hI, hp, Option.some.inj h⟩
    | false =>
      rw [hp, if_neg (by decide)] at h
      exact ih _ _ out (round st ex hI hp) h

theorem mem_pendingG {fx : Bool} {st : PState} {ex : List Id} {p : Id} (hp : p ∈ st.precise)
    (hc : p ∉ st.changed) (he : p ∉ ex) : p ∈ pendingG fx st ex := by
  simp [pendingG, List.mem_filter, hp, hc, he]

/-- invariant of `preciseLoopG`: `base` are the records emitted before the loop, `ex` the ids the
loop has examined -/
structure GInv (src tgt : Tree) (base : List Change) (st : PState) (ex : List Id) : Prop where
  outTrue : ∀ c ∈ st.out, c.isChanged = true ∧ change src tgt c.id = some c
  changedHas : ∀ i ∈ st.changed, ∃ c ∈ base ++ st.out, c.id = i
  recIn : ∀ c ∈ base ++ st.out, c.id ∈ st.changed
  exDone : ∀ i ∈ ex, i ∈ st.changed ∨ NotChange src tgt i
  parents : ∀ k, (k ∈ ex ∨ k ∈ st.changed) → ∀ p, tgtPar tgt k = some p →
    p ∈ st.precise ∨ p ∈ st.changed ∨ p ∈ ex
  children : ∀ c ∈ st.out, stoppedDir c = true → ∀ ch ∈ childrenOf src c.id,
    ch ∈ st.precise ∨ ch ∈ st.changed ∨ ch ∈ ex

/-- what holds when the loop is finished: `K` = the ids examined or emitted -/
structure Closed (src tgt : Tree) (base out : List Change) (K : List Id) : Prop where
  outTrue : ∀ c ∈ out, c.isChanged = true ∧ change src tgt c.id = some c
  recIn : ∀ c ∈ base ++ out, c.id ∈ K
  kDone : ∀ k ∈ K, (∃ c ∈ base ++ out, c.id = k) ∨ NotChange src tgt k
  kClosed : ∀ k ∈ K, ∀ p, tgtPar tgt k = some p → p ∈ K
  kids : ∀ c ∈ out, stoppedDir c = true → ∀ ch ∈ childrenOf src c.id, ch ∈ K

theorem ginv_round (fx : Bool) {src tgt : Tree} {base : List Change} {st : PState} {ex : List Id}
    (inv : GInv src tgt base st ex) :
    GInv src tgt base (afterRound src tgt st (currentG fx src tgt st ex)) (ex ++ currentG fx src tgt st ex) := by
  generalize hcur : currentG fx src tgt st ex = cur
  unfold afterRound
  -- what was pending, emitted or examined before the round is emitted or examined after it
  have old : ∀ p, (p ∈ st.precise ∨ p ∈ st.changed ∨ p ∈ ex) →
      p ∈ unionNew [] (cur.flatMap (wanted src tgt)) ∨
      p ∈ unionNew st.changed (cur.filter fun i => (emit src tgt i).isSome) ∨ p ∈ ex ++ cur := by
    intro p hp
    by_cases hc : p ∈ st.changed
    · exact Or.inr (Or.inl (mem_unionNew.mpr (Or.inl hc)))
    · by_cases he : p ∈ ex
      · exact Or.inr (Or.inr (List.mem_append_left _ he))
      · have : p ∈ st.precise := by simpa [hc, he] using hp
        exact Or.inr (Or.inr (List.mem_append_right _ (hcur ▸ mem_unionNew.mpr (Or.inl (mem_pendingG this hc he)))))
  -- what an examined id asks for is pending after the round
  have new : ∀ i ∈ cur, ∀ p, p ∈ wanted src tgt i → p ∈ unionNew [] (cur.flatMap (wanted src tgt)) :=
    fun i hi p hp => mem_unionNew.mpr (Or.inr (List.mem_flatMap.mpr ⟨i, hi, hp⟩))
  refine ⟨?_, ?_, ?_, ?_, ?_, ?_⟩
  · intro c hc
    rcases List.mem_append.mp hc with h | h
    · exact inv.outTrue c h
    · obtain ⟨i, _, hi⟩ := List.mem_filterMap.mp h
      exact (emit_true hi).2
  · intro i hi
    rcases mem_unionNew.mp hi with h | h
    · obtain ⟨c, hc, hci⟩ := inv.changedHas i h
      exact ⟨c, by rw [← List.append_assoc]; exact List.mem_append_left _ hc, hci⟩
    · obtain ⟨h1, h2⟩ := List.mem_filter.mp h
      obtain ⟨c, hc⟩ := Option.isSome_iff_exists.mp h2
      exact ⟨c, List.mem_append_right _ (List.mem_append_right _ (List.mem_filterMap.mpr ⟨i, h1, hc⟩)), (emit_true hc).1⟩
  · intro c hc
    rw [← List.append_assoc] at hc
    rcases List.mem_append.mp hc with h | h
    · exact mem_unionNew.mpr (Or.inl (inv.recIn c h))
    · obtain ⟨i, hi, hc⟩ := List.mem_filterMap.mp h
      exact mem_unionNew.mpr (Or.inr (List.mem_filter.mpr ⟨(emit_true hc).1 ▸ hi, by rw [(emit_true hc).1, hc]; rfl⟩))
  · intro i hi
    rcases List.mem_append.mp hi with h | h
    · exact (inv.exDone i h).imp (fun h' => mem_unionNew.mpr (Or.inl h')) id
    · cases he : emit src tgt i with
      | none => exact Or.inr (emit_eq_none.mp he)
      | some c => exact Or.inl (mem_unionNew.mpr (Or.inr (List.mem_filter.mpr ⟨h, by rw [he]; rfl⟩)))
  · intro k hk p hp
    by_cases hkc : k ∈ cur
    · exact Or.inl (new k hkc p (mem_wanted.mpr (Or.inl hp)))
    · refine old p (inv.parents k ?_ p hp)
      rcases hk with h | h
      · exact Or.inl ((List.mem_append.mp h).resolve_right hkc)
      · exact Or.inr ((mem_unionNew.mp h).resolve_right fun h' => hkc (List.mem_filter.mp h').1)
  · intro c hc hs ch hch
    rcases List.mem_append.mp hc with h | h
    · exact old ch (inv.children c h hs ch hch)
    · obtain ⟨i, hi, hc⟩ := List.mem_filterMap.mp h
      rw [(emit_true hc).1] at hch
      exact Or.inl (new i hi ch (mem_wanted.mpr (Or.inr ⟨c, hc, hs, hch⟩)))

theorem preciseLoopG_closed (fx : Bool) (src tgt : Tree) (base : List Change) (n : Nat) (st : PState) (ex : List Id)
    (out : List Change) (inv : GInv src tgt base st ex) (h : preciseLoopG fx src tgt n st ex = some out) :
    ∃ K, Closed src tgt base out K := by
  obtain ⟨st', ex', inv, hp, rfl⟩ := preciseLoopG_induct (fun _ _ hI _ => ginv_round fx hI) n st ex out inv h
  -- nothing is pending: what is needed has been emitted or examined
  have hprec : ∀ p, (p ∈ st'.precise ∨ p ∈ st'.changed ∨ p ∈ ex') → p ∈ ex' ++ st'.changed := by
    intro p hp'
    rcases hp' with h | h | h
    · by_cases hc : p ∈ st'.changed
      · exact List.mem_append.mpr (Or.inr hc)
      · by_cases he : p ∈ ex'
        · exact List.mem_append.mpr (Or.inl he)
        · have := mem_pendingG (fx := fx) h hc he
          rw [List.isEmpty_iff.mp hp] at this
          cases this
    · exact List.mem_append.mpr (Or.inr h)
    · exact List.mem_append.mpr (Or.inl h)
  refine ⟨ex' ++ st'.changed, inv.outTrue, fun c hc => List.mem_append.mpr (Or.inr (inv.recIn c hc)), ?_,
    fun k hk p hp => hprec p (inv.parents k (List.mem_append.mp hk) p hp),
    fun c hc hs ch hch => hprec ch (inv.children c hc hs ch hch)⟩
  intro k hk
  rcases List.mem_append.mp hk with h | h
  · rcases inv.exDone k h with h' | h'
    · exact Or.inl (inv.changedHas k h')
    · exact Or.inr h'
  · exact Or.inl (inv.changedHas k h)

theorem baseTgt_mem {src tgt : Tree} {sel : List Id} {incl : Bool} {c : Change} (h : c ∈ baseTgt src tgt sel incl) :
    change src tgt c.id = some c ∧ (c.isChanged = true ∨ incl = true) ∧ c.id ∈ sel ∧ c.id ∈ ids tgt := by
  unfold baseTgt at h
  rw [List.mem_filterMap] at h
  obtain ⟨i, hi, hc⟩ := h
  rw [List.mem_filter] at hi
  cases hr : change src tgt i with
  | none => simp [hr] at hc
  | some r =>
    simp only [hr, Option.bind_some] at hc
    split at hc
    · rename_i hch
      cases hc
      rw [change_id hr]
      exact ⟨hr, by simpa using hch, by simpa using hi.2, hi.1⟩
    · cases hc

theorem baseRemoved_mem {src tgt : Tree} {sel : List Id} {c : Change} (h : c ∈ baseRemoved src tgt sel) :
    change src tgt c.id = some c ∧ c.isChanged = true ∧ c.id ∈ sel ∧ c.id ∈ ids src ∧ get tgt c.id = none := by
  unfold baseRemoved at h
  rw [List.mem_filterMap] at h
  obtain ⟨i, hi, hc⟩ := h
  rw [List.mem_filter] at hi
  have h2 := hi.2
  simp only [Bool.and_eq_true, Option.isNone_iff_eq_none, List.contains_eq_mem, decide_eq_true_eq] at h2
  rw [change_id hc]
  exact ⟨hc, removed_isChanged hc h2.2, h2.1, hi.1, h2.2⟩

theorem mem_tgtParents_iff {cs : List Change} {p : Id} :
    p ∈ tgtParents cs ↔ ∃ c ∈ cs, c.tgt.bind (·.parent) = some p := by
  unfold tgtParents
  rw [mem_unionNew, List.mem_filterMap]
  simp

theorem ginv_start (src tgt : Tree) (sel : List Id) (incl : Bool) :
    GInv src tgt (baseTgt src tgt sel incl ++ baseRemoved src tgt sel)
      { precise := tgtParents (baseTgt src tgt sel incl),
        changed := (baseTgt src tgt sel incl ++ baseRemoved src tgt sel).map (·.id), out := [] } [] := by
  refine ⟨by simp, ?_, ?_, by simp, ?_, by simp⟩
  · intro i hi
    simp only [List.mem_map] at hi
    obtain ⟨c, hc, hci⟩ := hi
    exact ⟨c, by simpa using hc, hci⟩
  · intro c hc
    simp only [List.append_nil] at hc
    exact List.mem_map.mpr ⟨c, hc, rfl⟩
  · intro k hk p hp
    rcases hk with hk | hk
    · cases hk
    · simp only [List.mem_map] at hk
      obtain ⟨c, hc, hci⟩ := hk
      rcases List.mem_append.mp hc with hc | hc
      · left
        rw [mem_tgtParents_iff]
        refine ⟨c, hc, ?_⟩
        rw [change_tgtPar (baseTgt_mem hc).1, hci]; exact hp
      · exfalso
        have := (baseRemoved_mem hc).2.2.2.2
        rw [hci] at this
        unfold tgtPar at hp
        rw [this] at hp; cases hp

/-- every id the loop can ever look at -/
def reachable (src tgt : Tree) : List Id := ids src ++ ids tgt ++ tgt.filterMap (·.2.parent)

theorem reachable_length (src tgt : Tree) : (reachable src tgt).length ≤ src.length + 2 * tgt.length := by
  unfold reachable ids
  have := List.length_filterMap_le (fun x : Id × Entry => x.2.parent) tgt
  simp only [List.length_append, List.length_map]
  omega

theorem tgtPar_mem_reachable {src tgt : Tree} {i p : Id} (h : tgtPar tgt i = some p) : p ∈ reachable src tgt := by
  unfold tgtPar at h
  cases hg : get tgt i with
  | none => simp [hg] at h
  | some e =>
    simp only [hg, Option.bind_some] at h
    unfold reachable
    apply List.mem_append.mpr; right
    rw [List.mem_filterMap]
    exact ⟨(i, e), get_mem hg, h⟩

theorem wanted_reachable {src tgt : Tree} {i p : Id} (h : p ∈ wanted src tgt i) : p ∈ reachable src tgt := by
  rcases mem_wanted.mp h with h | ⟨_, _, _, h⟩
  · exact tgtPar_mem_reachable h
  · exact List.mem_append_left _ (List.mem_append_left _ (childrenOf_sub_ids h))

theorem filter_length_lt {α : Type} (p q : α → Bool) (hpq : ∀ a, q a = true → p a = true)
    (l : List α) (x : α) (hx : x ∈ l) (hpx : p x = true) (hqx : q x = false) :
    (l.filter q).length < (l.filter p).length := by
  have hq : l.filter q = (l.filter p).filter q := by
    rw [List.filter_filter]
    apply List.filter_congr
    intro a _
    cases h : q a
    · rfl
    · rw [hpq a h]; rfl
  rw [hq, List.length_filter_lt_length_iff_exists]
  exact ⟨x, List.mem_filter.mpr ⟨hx, hpx⟩, by rw [hqx]; decide⟩

/-- ids of the reachable not examined yet -/
def unexamined (src tgt : Tree) (ex : List Id) : Nat := ((reachable src tgt).filter fun u => !ex.contains u).length

theorem preciseLoopG_true_terminates (src tgt : Tree) :
    ∀ (n : Nat) (st : PState) (ex : List Id), (∀ p ∈ st.precise, p ∈ reachable src tgt) →
      unexamined src tgt ex < n → ∃ out, preciseLoopG true src tgt n st ex = some out := by
  intro n
  induction n with
  | zero => intro st ex _ h; omega
  | succ n ih =>
    intro st ex hu hm
    rw [preciseLoopG_succ]
    cases hp : pendingG true st ex with
    | nil => exact ⟨_, rfl⟩
    | cons x _ =>
      rw [← hp, if_neg (by rw [hp]; exact Bool.noConfusion)]
      apply ih
      · intro p hp'
        obtain ⟨i, _, hi⟩ := mem_afterRound_precise.mp hp'
        exact wanted_reachable hi
      · -- the pending id `x` is examined for the first time
        have hx : x ∈ pendingG true st ex := by rw [hp]; exact List.mem_cons_self
        obtain ⟨hxp, hxc⟩ := List.mem_filter.mp hx
        have hxe : x ∉ ex := by
          intro he
          simp [he] at hxc
        have hxcur : x ∈ currentG true src tgt st ex := mem_unionNew.mpr (Or.inl hx)
        have : unexamined src tgt (ex ++ currentG true src tgt st ex) < unexamined src tgt ex := by
          unfold unexamined
          apply filter_length_lt (fun u => !ex.contains u) (fun u => !(ex ++ currentG true src tgt st ex).contains u)
            _ _ x (hu x hxp)
          · simp [hxe]
          · simp [hxcur]
          · intro a ha
            simp only [Bool.not_eq_true', List.contains_eq_mem, decide_eq_false_iff_not, List.mem_append, not_or] at ha ⊢
            exact ha.1
        omega

end BreezyVerif.C10
