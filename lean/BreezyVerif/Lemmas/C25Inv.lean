import BreezyVerif.Lemmas.C25Rbd
import BreezyVerif.Lemmas.C22Top
/-!
C25 — `reverse_by_depth` is an involution on well-nested lists (forests in
pre-order): applying it twice gives the list back.
-/
namespace BreezyVerif.C25
open BreezyVerif.C22

theorem need_perm (d : Nat) {a b : List V} (h : a.Perm b) : need d a = need d b := by
  unfold need
  exact (h.map _).sum_nat

/-- **`reverse_by_depth` undoes itself on forests in pre-order** -/
theorem rbdS_invol : ∀ (fuel d : Nat) (l : List V), (∀ v ∈ l, d ≤ v.depth) → need d l < fuel →
    wellNestedAux fuel d l = true → rbdS (rbdS l) = l := by
  intro fuel
  induction fuel with
  | zero => intro d l _ h; omega
  | succ fuel ih =>
    intro d l hd hfuel hwn
    obtain ⟨heq, _, _, hcs⟩ := chunk_spec d l
    simp only [wellNestedAux, Bool.and_eq_true, List.all_eq_true, Bool.or_eq_true] at hwn
    obtain ⟨hpe, hall⟩ := hwn
    have hpre0 : (chunk d l).1 = [] := List.isEmpty_iff.mp hpe
    -- the tails of the blocks are forests one level down
    have htail : ∀ c ∈ (chunk d l).2, rbdS (rbdS c.2) = c.2 := by
      intro c hc
      obtain ⟨_, hne, hsub⟩ := hcs c hc
      cases hc2 : c.2 with
      | nil => rfl
      | cons x t =>
        obtain ⟨hd1, hn⟩ := deeper hd hfuel hsub hne (by rw [hc2]; exact List.cons_ne_nil x t)
        rw [hc2] at hd1 hn
        refine ih (d + 1) (x :: t) hd1 hn ?_
        rcases hall c hc with h | h
        · rw [hc2] at h; simp at h
        · rw [hc2] at h; exact h
    -- the result, block by block: the same heads, in the opposite order, over the reversed tails
    have hB : ∀ b ∈ ((chunk d l).2.map fun c => (c.1, rbdS c.2)).reverse, b.1.depth = d ∧ ∀ v ∈ b.2, d < v.depth := by
      intro b hb
      obtain ⟨c, hc, rfl⟩ := List.mem_map.mp (List.mem_reverse.mp hb)
      obtain ⟨hcd, hne, hsub⟩ := hcs c hc
      refine ⟨hcd, fun v hv => ?_⟩
      have hv' := (rbdS_perm c.2).mem_iff.mp hv
      exact Nat.lt_of_le_of_ne (hd v (hsub.subset hv')) (Ne.symm (hne v hv'))
    have h1 : rbdS l = ((((chunk d l).2.map fun c => (c.1, rbdS c.2)).reverse).map fun b => b.1 :: b.2).flatten := by
      rw [rbdS_chunk d l hd, hpre0]
      simp [rbdS, List.map_reverse, Function.comp_def]
    rw [h1, rbdS_blocks d _ hB]
    simp only [List.map_reverse, List.reverse_reverse, List.map_map, Function.comp_def]
    conv => rhs; rw [heq, hpre0, List.nil_append]
    congr 1
    exact List.map_congr_left fun c hc => by rw [htail c hc]

theorem stepwise_prefix : ∀ (a b : List V) (n : Nat), stepwise n (a ++ b) = true → stepwise n a = true
  | [], _, _, _ => rfl
  | v :: a, b, n, h => by
    simp only [List.cons_append, stepwise, Bool.and_eq_true] at h ⊢
    exact ⟨h.1, stepwise_prefix a b _ h.2⟩

/-- in a stepwise list the tail of every chunk at depth `d` is stepwise from depth `d + 1` -/
theorem stepwise_chunk (d : Nat) : ∀ (l : List V) (n : Nat), stepwise n l = true →
    ∀ c ∈ (chunk d l).2, stepwise (d + 1) c.2 = true
  | [], _, _, c, hc => by simp [chunk] at hc
  | v :: l, n, h, c, hc => by
    simp only [stepwise, Bool.and_eq_true] at h
    rw [chunk_cons] at hc
    by_cases hv : (v.depth == d) = true
    · simp only [hv, if_true] at hc
      rcases List.mem_cons.mp hc with rfl | hc
      · have hvd : v.depth = d := by simpa using hv
        obtain ⟨heq, _⟩ := chunk_spec d l
        have h2 := h.2
        rw [heq, hvd] at h2
        exact stepwise_prefix _ _ _ h2
      · exact stepwise_chunk d l _ h.2 c hc
    · simp only [hv, Bool.false_eq_true, if_false] at hc
      exact stepwise_chunk d l _ h.2 c hc

theorem wellNested_of_stepwise : ∀ (fuel d : Nat) (l : List V), (∀ v ∈ l, d ≤ v.depth) → need d l < fuel →
    stepwise d l = true → wellNestedAux fuel d l = true := by
  intro fuel
  induction fuel with
  | zero => intro d l _ h; omega
  | succ fuel ih =>
    intro d l hd hfuel hs
    obtain ⟨_, _, _, hcs⟩ := chunk_spec d l
    simp only [wellNestedAux, Bool.and_eq_true, List.all_eq_true, Bool.or_eq_true]
    refine ⟨?_, ?_⟩
    · cases l with
      | nil => rfl
      | cons v l =>
        simp only [stepwise, Bool.and_eq_true, decide_eq_true_eq] at hs
        have : v.depth = d := by
          have := hd v (List.mem_cons_self ..)
          omega
        have hv : (v.depth == d) = true := by simpa using this
        rw [chunk_cons, hv]; rfl
    · intro c hc
      obtain ⟨_, hne, hsub⟩ := hcs c hc
      cases hc2 : c.2 with
      | nil => left; rfl
      | cons x t =>
        right
        obtain ⟨hd1, hn⟩ := deeper hd hfuel hsub hne (by rw [hc2]; exact List.cons_ne_nil x t)
        rw [hc2] at hd1 hn
        have := stepwise_chunk d l d hs c hc
        rw [hc2] at this
        exact ih (d + 1) (x :: t) hd1 hn this

theorem mergeSort_revno_ne_nil (g : Graph) (hw : WF g) (tip : Nat) (ht : tip < g.length) (ms : List MS)
    (h : mergeSort g tip = some ms) : ∀ e ∈ ms, e.revno ≠ [] := by
  obtain ⟨_, out, stF, _, _, _, _, _, _, _, hF, hm, hms⟩ := mergeSort_spec g hw tip ht
  rw [h] at hms; cases hms
  intro e he hnil
  have hmem : (e.rev, e.revno) ∈ stF.revnos := hm ▸ List.mem_map_of_mem (f := fun e => (e.rev, e.revno)) he
  rcases hF.shape _ _ hmem with ⟨k, hr, _⟩ | ⟨b, c, k, hr, _⟩
  · rw [hnil] at hr; cases hr
  · rw [hnil] at hr; cases hr

end BreezyVerif.C25
