import BreezyVerif.Lemmas.C20Conflicts
import BreezyVerif.Lemmas.Lib.ListAux
/-! C20 — helper lemmas: selection loop and merge-modified loop. -/
namespace BreezyVerif.C20

theorem selectLoop_eq (paths ids : List Str) (recurse : Bool) (cs new sel : List Conflict) :
    selectLoop paths ids recurse cs (new, sel)
      = (new ++ cs.filter (fun c => !isSelected paths ids recurse c),
         sel ++ cs.filter (fun c => isSelected paths ids recurse c)) := by
  induction cs generalizing new sel with
  | nil => simp [selectLoop]
  | cons c t ih =>
    unfold selectLoop
    by_cases h : isSelected paths ids recurse c = true
    · simp [h, ih]
    · simp only [Bool.not_eq_true] at h
      simp [h, ih]

theorem isSelected_iff (paths ids : List Str) (recurse : Bool) (c : Conflict) :
    isSelected paths ids recurse c = true ↔
      ((c.path ∈ paths ∨ (recurse = true ∧ ∃ d ∈ paths, isInside d c.path = true))
        ∨ (∃ cp, c.conflictPath = some cp ∧
            (cp ∈ paths ∨ (recurse = true ∧ ∃ d ∈ paths, isInside d cp = true)))
        ∨ (∃ i, c.fileId = some i ∧ i ∈ ids)
        ∨ (∃ i, c.conflictFileId = some i ∧ i ∈ ids)) := by
  unfold isSelected isInsideAny
  cases c.conflictPath <;> cases c.fileId <;> cases c.conflictFileId <;> simp [or_assoc]

theorem isSelected_mono {paths paths' ids ids' : List Str} {recurse recurse' : Bool} (c : Conflict)
    (hp : ∀ p ∈ paths, p ∈ paths') (hi : ∀ i ∈ ids, i ∈ ids') (hr : recurse = true → recurse' = true)
    (hs : isSelected paths ids recurse c = true) : isSelected paths' ids' recurse' c = true := by
  have hpath : ∀ p, (p ∈ paths ∨ (recurse = true ∧ ∃ d ∈ paths, isInside d p = true)) →
      (p ∈ paths' ∨ (recurse' = true ∧ ∃ d ∈ paths', isInside d p = true)) :=
    fun p => Or.imp (hp p) fun ⟨h, d, hd, hin⟩ => ⟨hr h, d, hp d hd, hin⟩
  rw [isSelected_iff] at hs ⊢
  exact hs.imp (hpath _) (Or.imp (fun ⟨cp, e, h⟩ => ⟨cp, e, hpath cp h⟩)
    (Or.imp (fun ⟨i, e, h⟩ => ⟨i, e, hi i h⟩) fun ⟨i, e, h⟩ => ⟨i, e, hi i h⟩))

theorem dset_new (d : List (Str × Str)) (k v : Str) (h : k ∉ d.map Prod.fst) : dset d k v = d ++ [(k, v)] := by
  induction d with
  | nil => rfl
  | cons e t ih =>
    obtain ⟨a, b⟩ := e
    simp only [List.map_cons, List.mem_cons, not_or] at h
    have : a ≠ k := fun e => h.1 e.symm
    simp [dset, this, ih h.2]

/-- which recorded hashes survive: the path is versioned and the hash is the file's current one -/
def mmKeep (tree : List TFile) (ph : Str × Str) : Bool :=
  match tree.find? fun f => f.path == ph.1 with
  | some f => decide (some ph.2 = f.sha)
  | none => false

def mmStanzas (tree : List TFile) (hashes : List (Str × Str)) : List Stanza :=
  hashes.filterMap fun ph => (path2id tree ph.1).map fun i => [(tFileId, i), (tHash, ph.2)]

theorem mmLoop_spec (tree : List TFile) (hid : (tree.map (·.fileId)).Nodup)
    (hashes : List (Str × Str)) (hp : (hashes.map Prod.fst).Nodup) (acc : List (Str × Str))
    (hacc : ∀ ph ∈ hashes, ph.1 ∉ acc.map Prod.fst) :
    mmLoop tree (mmStanzas tree hashes) acc = some (acc ++ hashes.filter (mmKeep tree)) := by
  induction hashes generalizing acc with
  | nil => simp [mmStanzas, mmLoop]
  | cons ph rest ih =>
    obtain ⟨p, h⟩ := ph
    simp only [List.map_cons, List.nodup_cons] at hp
    have hrest : ∀ q ∈ rest, q.1 ∉ acc.map Prod.fst := fun q hq => hacc q (by simp [hq])
    cases hf : tree.find? (fun f => f.path == p) with
    | none =>
      have := ih hp.2 acc hrest
      simpa [mmStanzas, path2id, hf, mmKeep, List.filter_cons] using this
    | some f =>
      have hpath : f.path = p := by simpa using List.find?_some hf
      have hid2 : id2file tree f.fileId = some f :=
        Lib.find?_key_of_mem TFile.fileId hid (List.mem_of_find?_eq_some hf)
      have hstep : mmStanzas tree ((p, h) :: rest) = [(tFileId, f.fileId), (tHash, h)] :: mmStanzas tree rest := by
        simp [mmStanzas, path2id, hf]
      rw [hstep, mmLoop]
      simp only [show sgetFirst [(tFileId, f.fileId), (tHash, h)] tFileId = some f.fileId by simp [sgetFirst],
        show sgetFirst [(tFileId, f.fileId), (tHash, h)] tHash = some h by simp [sgetFirst, tFileId, tHash], hid2,
        List.filter_cons, mmKeep, hf]
      by_cases hs : some h = f.sha
      · simp only [hs, if_true, decide_true]
        rw [hpath, dset_new acc p h (hacc (p, h) (by simp)), ih hp.2 (acc ++ [(p, h)]), List.append_assoc]
        · rfl
        · intro q hq
          simp only [List.map_append, List.map_cons, List.map_nil, List.mem_append, List.mem_singleton, not_or]
          exact ⟨hrest q hq, fun e => hp.1 (e ▸ List.mem_map_of_mem hq)⟩
      · simp only [hs, if_false, decide_false]
        exact ih hp.2 acc hrest
theorem mmStanzas_ok (tree : List TFile) (hashes : List (Str × Str))
    (ht : ∀ f ∈ tree, crSafe f.fileId) (hh : ∀ ph ∈ hashes, crSafe ph.2) :
    ∀ s ∈ mmStanzas tree hashes, StanzaOk s := by
  intro s hs
  simp only [mmStanzas, List.mem_filterMap, Option.map_eq_some_iff] at hs
  obtain ⟨ph, hph, i, hi, rfl⟩ := hs
  simp only [path2id, Option.map_eq_some_iff] at hi
  obtain ⟨f, hf, rfl⟩ := hi
  have hmem : f ∈ tree := List.mem_of_find?_eq_some hf
  obtain ⟨_, _, t3, _, _, _, t7⟩ := tags_valid
  refine ⟨by simp, ?_⟩
  intro q hq
  simp only [List.mem_cons, List.not_mem_nil, or_false] at hq
  rcases hq with rfl | rfl
  · exact ⟨t3, ht f hmem⟩
  · exact ⟨t7, hh ph hph⟩

end BreezyVerif.C20
