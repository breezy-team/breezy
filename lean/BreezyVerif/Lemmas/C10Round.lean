import BreezyVerif.Lemmas.C10Path
/-!
C10 — one pass of the `for file_id in current_ids` body in closed form (what every
examined id emits and asks for), one round of the `_handle_precise_ids` loop as a
function, the loop as its iteration, divergence of the loop from a state that
recurs, and termination when no target path is occupied in the source by another id.
-/
namespace BreezyVerif.C10

/-- the parent id of `k` in the target -/
def tgtPar (tgt : Tree) (k : Id) : Option Id := (get tgt k).bind (·.parent)

theorem change_tgtPar {src tgt : Tree} {i : Id} {r : Change} (h : change src tgt i = some r) :
    r.tgt.bind (·.parent) = tgtPar tgt i := by
  rw [change_tgt h]
  unfold tgtPar
  cases get tgt i <;> rfl

/-- What examining `file_id` adds to the `precise_file_ids` of the next round: always
`result.parent_id[1]`, its parent in the target (`None` is discarded); and, when its record is a
change that stopped being a directory, the children `source.iter_child_entries` lists. -/
def wanted (src tgt : Tree) (i : Id) : List Id :=
  (tgtPar tgt i).toList ++ if (emit src tgt i).any stoppedDir then childrenOf src i else []

theorem mem_wanted {src tgt : Tree} {i j : Id} :
    j ∈ wanted src tgt i ↔ tgtPar tgt i = some j ∨
      ∃ r, emit src tgt i = some r ∧ stoppedDir r = true ∧ j ∈ childrenOf src i := by
  unfold wanted
  cases emit src tgt i <;> simp [Option.mem_toList]

theorem unionNew_append (l a b : List Id) : unionNew l (a ++ b) = unionNew (unionNew l a) b :=
  List.foldl_append

theorem addParent_eq (l : List Id) (r : Change) : addParent l r = unionNew l (r.tgt.bind (·.parent)).toList := by
  unfold addParent
  cases r.tgt.bind (·.parent) <;> rfl

/-- **what examining `i` does**, field by field -/
theorem examine_eq (src tgt : Tree) (st : PState) (i : Id) :
    examine src tgt st i =
      ⟨unionNew st.precise (wanted src tgt i),
       if (emit src tgt i).isSome then insertNew st.changed i else st.changed,
       st.out ++ (emit src tgt i).toList⟩ := by
  unfold examine wanted emit
  cases hc : change src tgt i with
  | none => simp [tgtPar, (change_none_iff.mp hc).2, unionNew]
  | some r =>
    cases hch : r.isChanged with
    | false => simp [hch, Option.filter, addParent_eq, change_tgtPar hc]
    | true =>
      cases hs : stoppedDir r <;> simp [hch, hs, Option.filter, addParent_eq, change_tgtPar hc, unionNew_append]

/-- **one pass over `l` in closed form**: each field of the result depends on `st` through the
same field only -/
theorem pass_eq (src tgt : Tree) (l : List Id) (st : PState) :
    l.foldl (examine src tgt) st =
      ⟨unionNew st.precise (l.flatMap (wanted src tgt)),
       unionNew st.changed (l.filter fun i => (emit src tgt i).isSome),
       st.out ++ l.filterMap (emit src tgt)⟩ := by
  induction l generalizing st with
  | nil => simp [unionNew]
  | cons i rest ih =>
    rw [List.foldl_cons, ih, examine_eq, List.flatMap_cons, unionNew_append, List.filter_cons, List.filterMap_cons]
    cases emit src tgt i <;> simp [unionNew]

/-- The state after the round of the `while` loop that examines `cur` (`precise_file_ids = set()`,
then the `for` body on every id of `cur`), in closed form. -/
def afterRound (src tgt : Tree) (st : PState) (cur : List Id) : PState :=
  ⟨unionNew [] (cur.flatMap (wanted src tgt)),
   unionNew st.changed (cur.filter fun i => (emit src tgt i).isSome),
   st.out ++ cur.filterMap (emit src tgt)⟩

theorem round_eq (src tgt : Tree) (st : PState) (cur : List Id) :
    cur.foldl (examine src tgt) { st with precise := [] } = afterRound src tgt st cur :=
  pass_eq src tgt cur _

theorem mem_afterRound_precise {src tgt : Tree} {st : PState} {cur : List Id} {p : Id} :
    p ∈ (afterRound src tgt st cur).precise ↔ ∃ i ∈ cur, p ∈ wanted src tgt i := by
  simp [afterRound, mem_unionNew, List.mem_flatMap]

/-- the ids the loop still has to look at: `precise_file_ids - changed_file_ids` -/
def pending (st : PState) : List Id := st.precise.filter fun i => !st.changed.contains i

/-- the source entries sitting at the target paths of the pending ids -/
def occupants (src tgt : Tree) (st : PState) : List Id :=
  (pending st).filterMap fun i => (pathOf tgt i).bind (idAt src)

/-- one pass of the `while` body; `none` when the loop is finished -/
def preciseRound (src tgt : Tree) (st : PState) : Option PState :=
  if (pending st).isEmpty then none
  else some ((unionNew (pending st) (occupants src tgt st)).foldl (examine src tgt) { st with precise := [] })

theorem preciseLoop_succ (src tgt : Tree) (n : Nat) (st : PState) :
    preciseLoop src tgt (n + 1) st =
      match preciseRound src tgt st with
      | none => some st.out
      | some st' => preciseLoop src tgt n st' := by
  unfold preciseRound
  rw [preciseLoop]
  by_cases h : (pending st).isEmpty = true
  · have h' : (st.precise.filter fun i => !st.changed.contains i).isEmpty = true := h
    simp only [h, h', if_true]
  · have h' : ¬ (st.precise.filter fun i => !st.changed.contains i).isEmpty = true := h
    simp only [h, h', Bool.false_eq_true, if_false]
    rfl

theorem preciseLoop_done {src tgt : Tree} {st : PState} (h : preciseRound src tgt st = none) (n : Nat) :
    preciseLoop src tgt (n + 1) st = some st.out := by
  rw [preciseLoop_succ, h]

theorem preciseLoop_step {src tgt : Tree} {st st' : PState} (h : preciseRound src tgt st = some st') (n : Nat) :
    preciseLoop src tgt (n + 1) st = preciseLoop src tgt n st' := by
  rw [preciseLoop_succ, h]

/-! ### divergence

What a round does to `precise` and `changed` does not depend on `out`, so a
round that gives these two back unchanged can be repeated for ever. -/

theorem preciseRound_key (src tgt : Tree) {st st' : PState} (hp : st.precise = st'.precise)
    (hc : st.changed = st'.changed) :
    (preciseRound src tgt st).map (fun s => (s.precise, s.changed)) =
      (preciseRound src tgt st').map (fun s => (s.precise, s.changed)) := by
  have hpend : pending st = pending st' := by unfold pending; rw [hp, hc]
  unfold preciseRound occupants
  rw [hpend]
  split
  · rfl
  · rw [round_eq, round_eq]
    simp only [Option.map_some, afterRound, hc]

theorem preciseLoop_none_of_cycle {src tgt : Tree} {P C : List Id}
    (h : (preciseRound src tgt ⟨P, C, []⟩).map (fun s => (s.precise, s.changed)) = some (P, C)) :
    ∀ (n : Nat) (out : List Change), preciseLoop src tgt n ⟨P, C, out⟩ = none := by
  intro n
  induction n with
  | zero => intro out; rfl
  | succ n ih =>
    intro out
    have hk := preciseRound_key src tgt (st := ⟨P, C, out⟩) (st' := ⟨P, C, []⟩) rfl rfl
    rw [h] at hk
    cases hr : preciseRound src tgt ⟨P, C, out⟩ with
    | none => rw [hr] at hk; cases hk
    | some st' =>
      rw [hr] at hk
      obtain ⟨p, c, o⟩ := st'
      cases hk
      rw [preciseLoop_step hr]
      exact ih o

/-- **a start state that reaches such a cycle after `k` rounds makes the loop diverge**, whatever
the fuel; both hypotheses are closed computations -/
theorem preciseLoop_none_of_reaches_cycle {src tgt : Tree} {P C : List Id}
    (hcycle : (preciseRound src tgt ⟨P, C, []⟩).map (fun s => (s.precise, s.changed)) = some (P, C)) :
    ∀ (k : Nat) (st : PState),
      (iterate (·.bind (preciseRound src tgt)) k (some st)).map (fun s => (s.precise, s.changed)) = some (P, C) →
      ∀ n, preciseLoop src tgt n st = none := by
  intro k
  induction k with
  | zero =>
    intro st h n
    obtain ⟨p, c, o⟩ := st
    cases h
    exact preciseLoop_none_of_cycle hcycle n o
  | succ k ih =>
    intro st h n
    have hnone : ∀ j, iterate (·.bind (preciseRound src tgt)) j none = none := by
      intro j
      induction j with
      | zero => rfl
      | succ j ihj => exact ihj
    cases hr : preciseRound src tgt st with
    | none =>
      rw [show iterate (·.bind (preciseRound src tgt)) (k + 1) (some st) =
        iterate (·.bind (preciseRound src tgt)) k (preciseRound src tgt st) from rfl, hr, hnone] at h
      cases h
    | some st' =>
      cases n with
      | zero => rfl
      | succ n =>
        rw [preciseLoop_step hr]
        exact ih st' (by rw [← hr]; exact h) n

/-- the state `iter_changes(specific_files=filt)` hands to `_handle_precise_ids` -/
def startState (src tgt : Tree) (filt : List Path) : PState :=
  { precise := tgtParents (baseTgt src tgt (selectIds src tgt filt) false),
    changed := (baseTgt src tgt (selectIds src tgt filt) false ++ baseRemoved src tgt (selectIds src tgt filt)).map (·.id),
    out := [] }

/-! ### termination when no target path is occupied by another id

The loop is then a plain walk up the target's parent chains, one level per round. -/

theorem pathOf_parent {t : Tree} {i p : Id} {e : Entry} {path : Path} (hg : get t i = some e)
    (hp : e.parent = some p) (hpath : pathOf t i = some path) :
    ∃ pp, pathOf t p = some pp ∧ path = pp ++ [e.name] := by
  obtain ⟨e', ge, c⟩ := pathFuel_cases hpath
  rw [hg] at ge
  cases ge
  rcases c with ⟨hnone, _⟩ | ⟨q, pp, hq, fq, hpp⟩
  · rw [hp] at hnone; cases hnone
  · rw [hp] at hq
    cases hq
    exact ⟨pp, pathFuel_le fq _ (by omega), hpp⟩

/-- `i` is a directory of the target less than `k` levels below the root -/
def Shallow (tgt : Tree) (k : Nat) (i : Id) : Prop :=
  ∃ e path, get tgt i = some e ∧ e.node.kind = .dir ∧ pathOf tgt i = some path ∧ path.length < k

theorem wanted_shallow {src tgt : Tree} (hw : wf tgt = true) {k : Nat} {i j : Id}
    (hi : Shallow tgt (k + 1) i) (hj : j ∈ wanted src tgt i) : Shallow tgt k j := by
  obtain ⟨e, path, ge, hdir, hpath, hlen⟩ := hi
  rcases mem_wanted.mp hj with h | ⟨r, hr, hs, _⟩
  · have hpj : e.parent = some j := by simpa [tgtPar, ge] using h
    obtain ⟨pe, gpe, hpd⟩ := wf_parent hw ge hpj
    obtain ⟨pp, hpp, heq⟩ := pathOf_parent ge hpj hpath
    refine ⟨pe, pp, gpe, hpd, hpp, ?_⟩
    rw [heq, List.length_append] at hlen
    exact Nat.lt_of_succ_lt_succ hlen
  · -- `i` is a directory of the target: it did not stop being one
    rw [stoppedDir, change_tgt (emit_eq_some.mp hr).1, ge] at hs
    simp [Entry.meta, hdir] at hs

theorem occupants_sub_pending {src tgt : Tree} (hocc : noPathOccupant src tgt = true) (st : PState)
    (hp : ∀ j ∈ st.precise, ∃ e, get tgt j = some e) :
    ∀ o ∈ occupants src tgt st, o ∈ pending st := by
  intro o ho
  unfold occupants at ho
  rw [List.mem_filterMap] at ho
  obtain ⟨i, hi, hio⟩ := ho
  have hip : i ∈ st.precise := (List.mem_filter.mp hi).1
  obtain ⟨e, ge⟩ := hp i hip
  unfold noPathOccupant at hocc
  rw [List.all_eq_true] at hocc
  have := hocc i (mem_ids_of_get ge)
  rw [hio] at this
  simp only [beq_iff_eq] at this
  rw [this]; exact hi

/-- one round brings every needed id one level closer to the root -/
theorem round_shallow {src tgt : Tree} (hw : wf tgt = true) (hocc : noPathOccupant src tgt = true) {k : Nat}
    {st st' : PState} (hp : ∀ j ∈ st.precise, Shallow tgt (k + 1) j) (h : preciseRound src tgt st = some st') :
    ∀ j ∈ st'.precise, Shallow tgt k j := by
  unfold preciseRound at h
  split at h
  · cases h
  · cases h
    rw [round_eq]
    intro j hj
    obtain ⟨i, hi, hji⟩ := mem_afterRound_precise.mp hj
    refine wanted_shallow hw (hp i ?_) hji
    rcases mem_unionNew.mp hi with h1 | h1
    · exact (List.mem_filter.mp h1).1
    · exact (List.mem_filter.mp (occupants_sub_pending hocc st (fun j hj => by
        obtain ⟨e, _, ge, _⟩ := hp j hj; exact ⟨e, ge⟩) i h1)).1

theorem preciseLoop_terminates_of_shallow {src tgt : Tree} (hw : wf tgt = true) (hocc : noPathOccupant src tgt = true) :
    ∀ (k : Nat) (st : PState), (∀ j ∈ st.precise, Shallow tgt k j) →
      ∀ n, k + 1 ≤ n → ∃ cs, preciseLoop src tgt n st = some cs := by
  intro k
  induction k with
  | zero =>
    intro st hp n hn
    obtain ⟨m, rfl⟩ : ∃ m, n = m + 1 := ⟨n - 1, by omega⟩
    have : st.precise = [] := by
      cases hs : st.precise with
      | nil => rfl
      | cons x _ =>
        obtain ⟨_, _, _, _, _, hl⟩ := hp x (by rw [hs]; exact List.mem_cons_self)
        omega
    have hr : preciseRound src tgt st = none := by
      unfold preciseRound pending
      simp [this]
    exact ⟨st.out, preciseLoop_done hr m⟩
  | succ k ih =>
    intro st hp n hn
    obtain ⟨m, rfl⟩ : ∃ m, n = m + 1 := ⟨n - 1, by omega⟩
    cases hr : preciseRound src tgt st with
    | none => exact ⟨st.out, preciseLoop_done hr m⟩
    | some st' =>
      rw [preciseLoop_step hr]
      exact ih st' (round_shallow hw hocc hp hr) m (by omega)

end BreezyVerif.C10
