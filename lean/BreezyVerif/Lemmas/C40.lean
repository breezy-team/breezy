import BreezyVerif.Lemmas.Lib.Span
import BreezyVerif.Model.C40
import BreezyVerif.Lemmas.Lib.Split
/-
C40 — merge directives and patch verification: line splitting, the payload
sections, re-reading the serialised bytes line by line, the normaliser.
-/
namespace BreezyVerif.C40

theorem joinLines_splitLines (b : Bytes) : joinLines (splitLines b) = b := by
  fun_induction splitLines b <;> simp_all [joinLines]

theorem splitNL_eq (b : Bytes) : splitNL b = Lib.splitAfter 10 b := by
  induction b with
  | nil => rfl
  | cons x r ih =>
    by_cases hx : x = 10 <;> cases h : Lib.splitAfter 10 r <;> simp [splitNL, Lib.splitAfter, ih, hx, h]

theorem joinLines_splitNL (b : Bytes) : joinLines (splitNL b) = b := by
  rw [splitNL_eq, joinLines, Lib.flatten_splitAfter]

/-- no line of the patch looks like the bundle marker -/
def noMarker (ls : List Line) : Bool := ls.all fun l => !isPrefix beginBundlePrefix l

/-- the payload lines `to_lines` produces from a given line splitting -/
def payload (split : Bytes → List Line) (p b : Option Bytes) : List Line :=
  (match p with | none => [] | some p => beginPatch :: split p) ++
  (match b with | none => [] | some b => beginBundle :: split b)

theorem sections_payload (split : Bytes → List Line) (hj : ∀ x, joinLines (split x) = x)
    (p b : Option Bytes) (hp : ∀ x, p = some x → noMarker (split x) = true) :
    sections (payload split p b) = .ok (p, b) := by
  have hbp : isPrefix beginPatchPrefix beginPatch = true := by decide
  have hbb : isPrefix beginBundlePrefix beginBundle = true := by decide
  have hpb : isPrefix beginPatchPrefix beginBundle = false := by decide
  cases p with
  | none =>
    cases b with
    | none => rfl
    | some b => simp [payload, sections, hpb, hbb, hj]
  | some p =>
    have hall : ∀ a ∈ split p, (fun l => !isPrefix beginBundlePrefix l) a = true :=
      fun a ha => List.all_eq_true.mp (hp p rfl) a ha
    cases b with
    | none =>
      obtain ⟨h1, h2⟩ := Lib.span_append (l₂ := []) hall nofun
      rw [List.append_nil] at h1 h2
      simp [payload, sections, hbp, h1, h2, hj]
    | some b =>
      obtain ⟨h1, h2⟩ := Lib.span_append (l₂ := beginBundle :: split b) hall (by simp [hbb])
      simp only [payload, sections, hbp, if_true, List.cons_append]
      rw [h1, h2]
      simp [hj]

/-- a single physical line: non-empty, ends with `\n`, no other `\n` -/
def isLine (l : Line) : Bool :=
  match l.reverse with
  | [] => false
  | x :: rest => x == 10 && !rest.contains 10

/-- empty, or ends with a newline -/
def endsNL (b : Bytes) : Bool := b.isEmpty || b.getLast? == some 10

theorem isLine_split {l : Line} (h : isLine l = true) : ∃ a : Bytes, l = a ++ [10] ∧ a.contains 10 = false := by
  unfold isLine at h
  split at h
  · cases h
  · rename_i x rest hrev
    simp only [Bool.and_eq_true, beq_iff_eq, Bool.not_eq_true'] at h
    exact ⟨rest.reverse, by rw [List.reverse_eq_cons_iff.mp hrev, h.1], by simpa using h.2⟩

theorem splitNL_append (a b : Bytes) (ha : endsNL a = true) : splitNL (a ++ b) = splitNL a ++ splitNL b := by
  simp only [splitNL_eq]
  exact Lib.splitAfter_append (by simpa [endsNL] using ha) b

theorem splitNL_noNL (l : Bytes) (h : l.contains 10 = false) (hne : l ≠ []) : splitNL l = [l] := by
  rw [splitNL_eq, Lib.splitAfter_last (by simpa using h) hne]

theorem splitNL_joinLines_append (ls : List Line) (h : ∀ l ∈ ls, isLine l = true) (rest : Bytes) :
    splitNL (joinLines ls ++ rest) = ls ++ splitNL rest := by
  rw [splitNL_eq, splitNL_eq, joinLines,
    Lib.splitAfter_flatten fun l hl => (isLine_split (h l hl)).imp fun a ha => ⟨ha.1, by simpa using ha.2⟩]

theorem splitNL_line_append {m : Line} (h : isLine m = true) (rest : Bytes) :
    splitNL (m ++ rest) = m :: splitNL rest := by
  simpa [joinLines] using splitNL_joinLines_append [m] (by simpa using h) rest

def nonws (b : Bytes) : Bytes := b.filter fun x => !isWs x

theorem nonws_cons_ws {x : UInt8} (h : isWs x = true) (b : Bytes) : nonws (x :: b) = nonws b := by
  simp [nonws, h]

theorem nonws_cons_congr (x : UInt8) {b b' : Bytes} (h : nonws b = nonws b') : nonws (x :: b) = nonws (x :: b') := by
  unfold nonws at h ⊢
  rw [List.filter_cons, List.filter_cons, h]

theorem nonws_normEol (b : Bytes) : nonws (normEol b) = nonws b := by
  fun_induction normEol b with
  | case1 => rfl
  | case2 rest ih => rw [nonws_cons_ws rfl, nonws_cons_ws rfl, nonws_cons_ws rfl, ih]
  | case3 rest _ ih => rw [nonws_cons_ws rfl, nonws_cons_ws rfl, ih]
  | case4 b rest _ _ ih => exact nonws_cons_congr b ih

theorem nonws_stripTrail (b : Bytes) : nonws (stripTrail b) = nonws b := by
  induction b with
  | nil => rfl
  | cons x rest ih =>
    unfold stripTrail
    split
    · rename_i h
      rw [ih, h.1, nonws_cons_ws rfl]
    · exact nonws_cons_congr x ih

/-- the normalisation only ever touches spaces, CR and LF -/
theorem norm_skeleton (b : Bytes) : nonws (norm b) = nonws b := by
  unfold norm; rw [nonws_stripTrail, nonws_normEol]

theorem verify_nonws {calcd s : Bytes} (h : verifyPatch calcd s = true) : nonws s = nonws calcd := by
  rw [← norm_skeleton s, ← norm_skeleton calcd, eq_of_beq h]

theorem nonws_insert (pre post : Bytes) (y : UInt8) (hy : isWs y = false) :
    nonws (pre ++ y :: post) = nonws pre ++ y :: nonws post := by
  simp [nonws, hy]

theorem nonws_insert_ws (pre post : Bytes) (x : UInt8) (hx : isWs x = true) :
    nonws (pre ++ x :: post) = nonws (pre ++ post) := by
  simp [nonws, hx]

theorem nonws_insert_length (pre post : Bytes) (y : UInt8) (hy : isWs y = false) :
    (nonws (pre ++ y :: post)).length = (nonws (pre ++ post)).length + 1 := by
  rw [nonws_insert pre post y hy]
  simp only [nonws, List.filter_append, List.length_append, List.length_cons]
  omega

end BreezyVerif.C40
