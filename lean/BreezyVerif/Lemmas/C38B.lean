import BreezyVerif.Lemmas.C38
/-
C38 — the index backend's storage refines its flat policy model (`step .index`):
`_add_node` and write groups on the layered store, the refinement relation, and
the shared blob/tree dict of the in-memory backend.
-/
namespace BreezyVerif.C38

theorem gitKey_inj (a b : B) : gitKey a = gitKey b ↔ a = b := by simp [gitKey]

theorem commitKey_inj (a b : B) : commitKey a = commitKey b ↔ a = b := by simp [commitKey]

theorem blobKey_inj (f r f' r' : B) : blobKey f r = blobKey f' r' ↔ f = f' ∧ r = r' := by simp [blobKey]

theorem gitKey_ne_blobKey (a f r : B) : gitKey a ≠ blobKey f r := by
  simp [gitKey, blobKey, kGit, kBlob]

theorem gitKey_ne_commitKey (a r : B) : gitKey a ≠ commitKey r := by
  simp [gitKey, commitKey, kGit, kCommit]

theorem commitKey_ne_blobKey (a f r : B) : commitKey a ≠ blobKey f r := by
  simp [commitKey, blobKey, kCommit, kBlob]

/-- the invariant behind reopen: `_add_node` never makes a key occur twice in
the store (files and builder together) -/
theorem addNode_keeps_keys_unique (s s' : IdxStore) (k : IKey) (v : B)
    (hn : s.allKeys.Nodup) (h : s.addNode k v = some s') : s'.allKeys.Nodup := by
  unfold IdxStore.addNode at h
  cases hb : s.builder with
  | none => simp [hb] at h
  | some b =>
    simp only [hb] at h
    cases hg : s.get k with
    | some v' =>
      simp only [hg, Option.some.injEq] at h
      subst h
      exact hn
    | none =>
      simp only [hg, Option.some.injEq] at h
      subst h
      rw [IdxStore.get_eq] at hg
      have hk := alGet_none _ hg
      rw [IdxStore.allKeys_eq] at hn ⊢
      simp only [hb, Option.getD_some] at hk hn ⊢
      rw [← List.append_assoc, List.map_append]
      exact Lib.nodup_concat hn hk

/-- with a builder open `_add_node` succeeds; it leaves the files alone and the builder open -/
theorem addNode_ok (s : IdxStore) (k : IKey) (v : B) (hb : s.builder ≠ none) :
    ∃ s', s.addNode k v = some s' ∧ s'.files = s.files ∧ s'.builder ≠ none := by
  unfold IdxStore.addNode
  cases hb' : s.builder with
  | none => exact absurd hb' hb
  | some b =>
    dsimp only
    cases s.get k with
    | some v' => exact ⟨s, rfl, rfl, hb⟩
    | none => exact ⟨_, rfl, rfl, nofun⟩

/-- `_add_node` as a function on answers: the key is bound afterwards, to the value it already
had, else to the new one; every other key answers as before -/
theorem get_addNode (s s' : IdxStore) (k : IKey) (v : B) (h : s.addNode k v = some s') (q : IKey) :
    s'.get q = if q = k then some ((s.get k).getD v) else s.get q := by
  unfold IdxStore.addNode at h
  cases hb : s.builder with
  | none => simp [hb] at h
  | some b =>
    simp only [hb] at h
    cases hg : s.get k with
    | some v' =>
      simp only [hg, Option.some.injEq] at h
      subst h
      split
      · next hq => rw [hq, hg]; rfl
      · rfl
    | none =>
      simp only [hg, Option.some.injEq] at h
      subst h
      simp only [IdxStore.get_eq, hb, Option.getD_some] at hg ⊢
      rw [← List.append_assoc, alGet_append]
      simp only [alGet]
      by_cases hq : q = k
      · subst hq
        rw [hg]
        simp
      · have hkq : ¬ k = q := fun e => hq e.symm
        simp only [hq, hkq, if_false]
        cases alGet (s.files.flatMap id ++ b) q <;> rfl

theorem alGet_alAddNew {κ : Type} [DecidableEq κ] (l : List (κ × B)) (k q : κ) (v : B) :
    alGet (alAddNew k v l) q = if q = k then some ((alGet l k).getD v) else alGet l q := by
  unfold alAddNew
  cases hg : alGet l k with
  | some v' =>
    dsimp only
    split
    · next hq => rw [hq, hg]; rfl
    · rfl
  | none =>
    simp only [alGet_append, alGet]
    by_cases hq : q = k
    · subst hq; simp [hg]
    · have : ¬ k = q := fun h => hq h.symm
      simp only [hq, if_false, this]
      cases alGet l q <;> rfl

theorem firstRow_addIfNoSha (st : St) (row : Row) (sha : B) :
    firstRow { st with git := addIfNoSha row st.git } sha =
      if sha = row.1 then some ((firstRow st row.1).getD row) else firstRow st sha := by
  unfold addIfNoSha firstRow
  by_cases ha : st.git.any (fun r => r.1 == row.1) = true
  · rw [if_pos ha]
    by_cases hs : sha = row.1
    · subst hs
      rw [if_pos rfl]
      dsimp only
      obtain ⟨r, hr, hrs⟩ := List.any_eq_true.1 ha
      cases hf : st.git.find? (fun r => r.1 == row.1) with
      | some x => rfl
      | none => exact absurd hrs (List.find?_eq_none.1 hf r hr)
    · rw [if_neg hs]
  · have hnone : st.git.find? (fun r => r.1 == row.1) = none :=
      List.find?_eq_none.2 fun x hx hxs => ha (List.any_eq_true.2 ⟨x, hx, hxs⟩)
    rw [if_neg ha, List.find?_append]
    by_cases hs : sha = row.1
    · subst hs
      rw [if_pos rfl, hnone]
      simp
    · have hb : (row.1 == sha) = false := beq_false_of_ne fun h => hs h.symm
      rw [if_neg hs]
      cases st.git.find? (fun r => r.1 == sha) with
      | some x => rfl
      | none => simp [List.find?, hb]

/-- the layered store answers every key the index updater writes as the flat index-policy state does -/
structure Refines (s : IdxStore) (st : St) : Prop where
  git : ∀ sha, s.get (gitKey sha) = (firstRow st sha).map (fun r => encEntry r.2)
  blob : ∀ f r, s.get (blobKey f r) = alGet st.blobs (f, r)
  commit : ∀ r, (s.get (commitKey r)).map commitShaOf = alGet st.commits r

theorem Refines.of_get_eq {s s' : IdxStore} {st : St} (hR : Refines s st) (h : ∀ k, s'.get k = s.get k) :
    Refines s' st :=
  ⟨fun x => (h _).trans (hR.git x), fun f r => (h _).trans (hR.blob f r), fun r => by rw [h]; exact hR.commit r⟩

theorem refines_empty : Refines IdxStore.empty St.empty := by
  constructor <;> intros <;> rfl

theorem get_addNode_ne {s s' : IdxStore} {k : IKey} {v : B} (h : s.addNode k v = some s') {q : IKey} (hq : q ≠ k) :
    s'.get q = s.get q := by
  rw [get_addNode s s' k v h, if_neg hq]

theorem refines_git_add (s s' : IdxStore) (st : St) (row : Row) (hR : Refines s st)
    (h : s.addNode (gitKey row.1) (encEntry row.2) = some s') :
    Refines s' { st with git := addIfNoSha row st.git } := by
  refine ⟨fun sha => ?_, fun f r => (get_addNode_ne h (gitKey_ne_blobKey _ f r).symm).trans (hR.blob f r),
    fun r => by rw [get_addNode_ne h (gitKey_ne_commitKey _ r).symm]; exact hR.commit r⟩
  rw [get_addNode s s' _ _ h, firstRow_addIfNoSha]
  by_cases hs : sha = row.1
  · subst hs
    simp only [if_true, hR.git row.1]
    cases firstRow st row.1 <;> rfl
  · have : ¬ gitKey sha = gitKey row.1 := fun e => hs ((gitKey_inj _ _).1 e)
    simp only [this, hs, if_false]
    exact hR.git sha

theorem refines_blob_add (s s' : IdxStore) (st : St) (f r sha : B) (hR : Refines s st)
    (h : s.addNode (blobKey f r) sha = some s') :
    Refines s' { st with blobs := alAddNew (f, r) sha st.blobs } := by
  refine ⟨fun x => (get_addNode_ne h (gitKey_ne_blobKey x f r)).trans (hR.git x), fun f' r' => ?_,
    fun x => by rw [get_addNode_ne h (commitKey_ne_blobKey x f r)]; exact hR.commit x⟩
  simp only [get_addNode s s' _ _ h, alGet_alAddNew, blobKey_inj, Prod.mk.injEq, hR.blob]

theorem commitShaOf_enc (sha t : B) (hlen : sha.length = 40) : commitShaOf (sha ++ sp ++ t) = sha := by
  unfold commitShaOf
  rw [List.append_assoc]
  exact List.take_left' hlen

theorem refines_commit_add (s s' : IdxStore) (st : St) (r sha v : B) (hv : commitShaOf v = sha) (hR : Refines s st)
    (h : s.addNode (commitKey r) v = some s') :
    Refines s' { st with commits := alAddNew r sha st.commits } := by
  refine ⟨fun x => (get_addNode_ne h (gitKey_ne_commitKey x r)).trans (hR.git x),
    fun f' r' => (get_addNode_ne h (commitKey_ne_blobKey r f' r').symm).trans (hR.blob f' r'), fun x => ?_⟩
  rw [get_addNode s s' _ _ h]
  show _ = alGet (alAddNew r sha st.commits) x
  rw [alGet_alAddNew]
  by_cases hx : x = r
  · subst hx
    simp only [if_true]
    rw [← hR.commit x]
    cases s.get (commitKey x) with
    | some v' => rfl
    | none => exact congrArg some hv
  · have : ¬ commitKey x = commitKey r := fun e => hx ((commitKey_inj _ _).1 e)
    simp only [this, hx, if_false]
    exact hR.commit x

theorem addNodes_cons {s s' : IdxStore} {k : IKey} {v : B} {rest : List (IKey × B)}
    (h : s.addNodes ((k, v) :: rest) = some s') : ∃ s1, s.addNode k v = some s1 ∧ s1.addNodes rest = some s' := by
  unfold IdxStore.addNodes at h
  cases h1 : s.addNode k v with
  | none => simp [h1] at h
  | some s1 => exact ⟨s1, rfl, by simpa [h1] using h⟩

/-- one `add_object` on the layered store is one step of the flat index policy -/
theorem refines_addOp (s s' : IdxStore) (st : St) (o : Op) (hw : o.wf = true) (hR : Refines s st)
    (h : s.addNodes (opNodes o) = some s') : Refines s' (step .index st o) := by
  cases o with
  | commit r sha t tm =>
    obtain ⟨s1, h1, h⟩ := addNodes_cons h
    obtain ⟨s2, h2, h⟩ := addNodes_cons h
    cases h
    have hlen : sha.length = 40 := by simpa [Op.wf] using hw
    exact refines_commit_add s1 s' _ r sha _ (commitShaOf_enc sha t hlen)
      (refines_git_add s s1 st (sha, .commit r t tm) hR h1) h2
  | blob sha f r =>
    obtain ⟨s1, h1, h⟩ := addNodes_cons h
    obtain ⟨s2, h2, h⟩ := addNodes_cons h
    cases h
    exact refines_blob_add s1 s' _ f r sha (refines_git_add s s1 st (sha, .blob f r) hR h1) h2
  | tree sha f r =>
    obtain ⟨s1, h1, h⟩ := addNodes_cons h
    cases h
    have r1 := refines_git_add s s' st (sha, .tree f r) hR h1
    exact ⟨r1.git, r1.blob, r1.commit⟩

/-- no key occurs twice in the store (files and builder together) -/
def IdxStore.Good (s : IdxStore) : Prop := s.allKeys.Nodup

theorem addNodes_append (s : IdxStore) (a b : List (IKey × B)) :
    s.addNodes (a ++ b) = match s.addNodes a with | none => none | some s' => s'.addNodes b := by
  induction a generalizing s with
  | nil => rfl
  | cons x xs ih =>
    obtain ⟨k, v⟩ := x
    simp only [List.cons_append, IdxStore.addNodes]
    cases s.addNode k v with
    | none => rfl
    | some s1 => exact ih s1

theorem addNodes_inv (s : IdxStore) (ns : List (IKey × B)) (hb : s.builder ≠ none) (hn : s.allKeys.Nodup) :
    ∃ s', s.addNodes ns = some s' ∧ s'.builder ≠ none ∧ s'.allKeys.Nodup ∧ s'.files = s.files := by
  induction ns generalizing s with
  | nil => exact ⟨s, rfl, hb, hn, rfl⟩
  | cons x xs ih =>
    obtain ⟨k, v⟩ := x
    obtain ⟨s1, h1, hf1, hb1⟩ := addNode_ok s k v hb
    obtain ⟨s2, h2, hb2, hn2, hf2⟩ := ih s1 hb1 (addNode_keeps_keys_unique s s1 k v hn h1)
    exact ⟨s2, by simp [IdxStore.addNodes, h1, h2], hb2, hn2, hf2.trans hf1⟩

theorem refines_addOps (s : IdxStore) (st : St) (ops : List Op) (hw : ∀ o ∈ ops, o.wf = true) (hR : Refines s st)
    (s' : IdxStore) (h : s.addNodes (ops.flatMap opNodes) = some s') : Refines s' (run .index st ops) := by
  induction ops generalizing s st with
  | nil =>
    simp only [List.flatMap_nil, IdxStore.addNodes, Option.some.injEq] at h
    subst h
    exact hR
  | cons o rest ih =>
    simp only [List.flatMap_cons, addNodes_append] at h
    cases h1 : s.addNodes (opNodes o) with
    | none => simp [h1] at h
    | some s1 =>
      simp only [h1] at h
      have r1 := refines_addOp s s1 st o (hw o (by simp)) hR h1
      simp only [run, List.foldl_cons]
      exact ih s1 (step .index st o) (fun o' ho' => hw o' (by simp [ho'])) r1 h

/-- committing the write group does not change any answer -/
theorem commit_get (s s' : IdxStore) (h : s.commitWriteGroup = some s') (hn : s.allKeys.Nodup) (k : IKey) :
    s'.get k = s.get k := by
  unfold IdxStore.commitWriteGroup at h
  cases hb : s.builder with
  | none => simp [hb] at h
  | some b =>
    simp only [hb, Option.some.injEq] at h
    subst h
    rw [IdxStore.allKeys_eq] at hn
    simp only [IdxStore.get_eq, hb, Option.getD_some, Option.getD_none, List.flatMap_cons, id,
      List.append_nil] at hn ⊢
    exact alGet_perm _ _ List.perm_append_comm hn k

/-- a write group on a closed, duplicate-free store that refines the flat model always succeeds; the result is
closed and duplicate-free again and refines the flat model after the group's adds -/
theorem writeGroup_inv (s : IdxStore) (st : St) (ops : List Op) (hw : ∀ o ∈ ops, o.wf = true)
    (hb : s.builder = none) (hn : s.allKeys.Nodup) (hR : Refines s st) :
    ∃ s', s.writeGroup ops = some s' ∧ s'.builder = none ∧ s'.allKeys.Nodup ∧
      Refines s' (run .index st ops) := by
  unfold IdxStore.writeGroup IdxStore.startWriteGroup
  simp only [hb]
  have hn0 : ({ s with builder := some [] } : IdxStore).allKeys.Nodup := by
    simpa [IdxStore.allKeys, hb] using hn
  have hR0 : Refines { s with builder := some [] } st := by
    have hget : ∀ k, ({ s with builder := some [] } : IdxStore).get k = s.get k := by
      intro k
      simp only [IdxStore.get_eq, hb, Option.getD_some, Option.getD_none]
    exact hR.of_get_eq hget
  obtain ⟨s2, h2, hb2, hn2, _⟩ := addNodes_inv { s with builder := some [] } (ops.flatMap opNodes) (by simp) hn0
  have hR2 := refines_addOps _ st ops hw hR0 s2 h2
  simp only [h2]
  cases hbb : s2.builder with
  | none => exact absurd hbb hb2
  | some b =>
    have hc : s2.commitWriteGroup = some { files := b :: s2.files, builder := none } := by
      simp [IdxStore.commitWriteGroup, hbb]
    refine ⟨_, hc, rfl, ?_, ?_⟩
    · have : ((s2.files.flatMap id ++ b).map (·.1)).Nodup := by
        simpa [IdxStore.allKeys, hbb, keysOf] using hn2
      have hp : (b ++ s2.files.flatMap id).Perm (s2.files.flatMap id ++ b) := List.perm_append_comm
      have := (hp.map (·.1)).nodup_iff.2 this
      simpa [IdxStore.allKeys, keysOf] using this
    · exact hR2.of_get_eq (commit_get s2 _ hc hn2)

theorem runGroups_inv (s : IdxStore) (st : St) (gs : List (List Op)) (hw : ∀ g ∈ gs, ∀ o ∈ g, o.wf = true)
    (hb : s.builder = none) (hn : s.allKeys.Nodup) (hR : Refines s st) :
    ∃ s', s.runGroups gs = some s' ∧ s'.builder = none ∧ s'.allKeys.Nodup ∧
      Refines s' (run .index st gs.flatten) := by
  induction gs generalizing s st with
  | nil => exact ⟨s, rfl, hb, hn, by simpa [run] using hR⟩
  | cons g rest ih =>
    obtain ⟨s1, h1, hb1, hn1, hR1⟩ := writeGroup_inv s st g (hw g (by simp)) hb hn hR
    obtain ⟨s2, h2, hb2, hn2, hR2⟩ := ih s1 (run .index st g) (fun g' hg' => hw g' (by simp [hg'])) hb1 hn1 hR1
    refine ⟨s2, by simp [IdxStore.runGroups, h1, h2], hb2, hn2, ?_⟩
    simpa [run, List.flatten_cons, List.foldl_append] using hR2

theorem addIfNoSha_nodup (row : Row) (l : List Row) (h : (l.map (·.1)).Nodup) :
    ((addIfNoSha row l).map (·.1)).Nodup := by
  unfold addIfNoSha
  by_cases ha : l.any (fun r => r.1 == row.1) = true
  · simpa [ha] using h
  · simp only [ha, Bool.false_eq_true, if_false, List.map_append, List.map_cons, List.map_nil]
    refine Lib.nodup_concat h fun hm => ha ?_
    obtain ⟨x, hx, hxe⟩ := List.mem_map.1 hm
    exact List.any_eq_true.mpr ⟨x, hx, by simp [hxe]⟩

theorem step_index_git (st : St) (o : Op) : (step .index st o).git = addIfNoSha o.row st.git := by
  cases o <;> rfl

theorem run_index_nodup (st : St) (ops : List Op) (h : (st.git.map (·.1)).Nodup) :
    ((run .index st ops).git.map (·.1)).Nodup := by
  induction ops generalizing st with
  | nil => exact h
  | cons o rest ih =>
    simp only [run, List.foldl_cons]
    apply ih
    rw [step_index_git]
    exact addIfNoSha_nodup _ _ h

theorem filter_of_nodup_keys (l : List Row) (sha : B) (h : (l.map (·.1)).Nodup) :
    l.filter (fun r => r.1 == sha) = (l.find? (fun r => r.1 == sha)).toList := by
  induction l with
  | nil => rfl
  | cons x xs ih =>
    simp only [List.map_cons, List.nodup_cons] at h
    by_cases hx : x.1 = sha
    · have hnone : xs.filter (fun r => r.1 == sha) = [] := by
        rw [List.filter_eq_nil_iff]
        intro r hr hrs
        apply h.1
        have : r.1 = x.1 := by rw [hx]; simpa using hrs
        rw [← this]
        exact List.mem_map.2 ⟨r, hr, rfl⟩
      simp [hx, hnone]
    · simp [hx, ih h.2]

/-- the last add that binds `k`, among the adds `sel` picks (chronological list, later wins) -/
def lastOf (sel : Op → Option (FKey × B)) : List Op → FKey → Option B
  | [], _ => none
  | o :: rest, k =>
    match lastOf sel rest k with
    | some v => some v
    | none => match sel o with
      | some (k', s) => if k' = k then some s else none
      | none => none

def blobAdd : Op → Option (FKey × B)
  | .blob s f r => some ((f, r), s)
  | _ => none

def treeAdd : Op → Option (FKey × B)
  | .tree s f r => some ((f, r), s)
  | _ => none

theorem blobAdd_some {o : Op} {p : FKey × B} (h : blobAdd o = some p) : o.fkey = some p.1 ∧ o.sha = p.2 := by
  cases o <;> cases h <;> exact ⟨rfl, rfl⟩

theorem treeAdd_some {o : Op} {p : FKey × B} (h : treeAdd o = some p) : o.fkey = some p.1 ∧ o.sha = p.2 := by
  cases o <;> cases h <;> exact ⟨rfl, rfl⟩

theorem step_dict_blobs (st : St) (o : Op) :
    (step .dict st o).blobs = match blobAdd o with | some (k, s) => alSet k s st.blobs | none => st.blobs := by
  cases o <;> rfl

theorem step_dict_trees (st : St) (o : Op) :
    (step .dict st o).trees = match treeAdd o with | some (k, s) => alSet k s st.trees | none => st.trees := by
  cases o <;> rfl

/-- a map of the specification that the adds picked by `sel` bind and the others leave alone answers with the
last such add -/
theorem run_dict_lastOf (sel : Op → Option (FKey × B)) (proj : St → List (FKey × B))
    (hstep : ∀ st o, proj (step .dict st o) = match sel o with | some (k, s) => alSet k s (proj st) | none => proj st)
    (ops : List Op) (st : St) (k : FKey) :
    alGet (proj (run .dict st ops)) k = match lastOf sel ops k with | some v => some v | none => alGet (proj st) k := by
  induction ops generalizing st with
  | nil => rfl
  | cons o rest ih =>
    simp only [run, List.foldl_cons] at ih ⊢
    rw [ih (step .dict st o), hstep]
    simp only [lastOf]
    cases lastOf sel rest k with
    | some v => rfl
    | none =>
      cases sel o with
      | none => rfl
      | some p =>
        obtain ⟨k', s⟩ := p
        dsimp only
        by_cases hk : k' = k
        · subst hk; simp [alGet_alSet_same]
        · simp only [hk, if_false]
          exact alGet_alSet_other _ _ _ hk _

/-- the shared dict agrees with the map of one kind for a key that only adds of that kind use -/
theorem sharedId_eq_lastOf (sel : Op → Option (FKey × B))
    (hsel : ∀ o p, sel o = some p → o.fkey = some p.1 ∧ o.sha = p.2) (ops : List Op) (k : FKey)
    (h : ∀ o ∈ ops, o.fkey = some k → (sel o).isSome = true) : sharedId ops k = lastOf sel ops k := by
  induction ops with
  | nil => rfl
  | cons o rest ih =>
    simp only [sharedId, lastOf]
    rw [ih (fun o' ho' => h o' (List.mem_cons_of_mem _ ho'))]
    cases lastOf sel rest k with
    | some v => rfl
    | none =>
      cases hs : sel o with
      | some p =>
        obtain ⟨hk, hv⟩ := hsel o p hs
        simp only [hk, hv, Option.some.injEq]
      | none =>
        have hne : ¬ o.fkey = some k := fun hk => by simpa [hs] using h o (by simp) hk
        simp only [hne, if_false]

theorem alSet_nodup {κ : Type} [DecidableEq κ] (k : κ) (v : B) (l : List (κ × B)) (h : (l.map (·.1)).Nodup) :
    ((alSet k v l).map (·.1)).Nodup :=
  alSet_eq_set k v l ▸ Lib.AList.nodup_keys_set h k v

theorem run_dict_trees_nodup (st : St) (ops : List Op) (h : (st.trees.map (·.1)).Nodup) :
    ((run .dict st ops).trees.map (·.1)).Nodup := by
  induction ops generalizing st with
  | nil => exact h
  | cons o rest ih =>
    simp only [run, List.foldl_cons]
    apply ih
    cases o with
    | commit r s t tm => exact h
    | blob s f r => exact h
    | tree s f r => exact alSet_nodup _ _ _ h

theorem alGet_entries_of_nodup {κ : Type} [DecidableEq κ] (l : List (κ × B)) (k : κ) (v : B)
    (hn : (l.map (·.1)).Nodup) (h : alGet l k = some v) : ∀ e ∈ l, e.1 = k → e.2 = v :=
  fun _ he hk => congrArg Prod.snd (Lib.inj_of_nodup_map (·.1) hn he (alGet_mem l h) hk)

end BreezyVerif.C38
