import BreezyVerif.Lemmas.C09
/-!
C09 — git flavour: when does the pruning of directories (`pruneGit`) keep every
directory of the basis after a revert?  A condition on the basis alone.
-/
namespace BreezyVerif.C09
open BreezyVerif.C10

theorem mem_childrenOf {t : Tree} {p c : Id} :
    c ∈ childrenOf t p ↔ ∃ e, (c, e) ∈ t ∧ e.parent = some p := by
  unfold childrenOf
  simp only [List.mem_map, List.mem_filter, beq_iff_eq]
  constructor
  · rintro ⟨x, ⟨hx, hp⟩, rfl⟩
    exact ⟨x.2, hx, hp⟩
  · rintro ⟨e, he, hp⟩
    exact ⟨(c, e), ⟨he, hp⟩, rfl⟩

theorem below_mono {t t' : Tree} (h : ∀ p c, c ∈ childrenOf t p → c ∈ childrenOf t' p)
    (n m : Nat) (hnm : n ≤ m) (i j : Id) (hj : j ∈ below t n i) : j ∈ below t' m i := by
  induction n generalizing m i with
  | zero => simp [below] at hj
  | succ n ih =>
    cases m with
    | zero => omega
    | succ m =>
      simp only [below, List.mem_flatMap, List.mem_cons] at hj ⊢
      obtain ⟨c, hc, hj⟩ := hj
      refine ⟨c, h i c hc, ?_⟩
      rcases hj with hj | hj
      · exact Or.inl hj
      · exact Or.inr (ih m (by omega) c hj)

theorem below_mem_ids {t : Tree} (n : Nat) (i j : Id) (hj : j ∈ below t n i) : j ∈ ids t := by
  induction n generalizing i with
  | zero => simp [below] at hj
  | succ n ih =>
    simp only [below, List.mem_flatMap, List.mem_cons] at hj
    obtain ⟨c, hc, hj⟩ := hj
    rcases hj with hj | hj
    · subst hj
      obtain ⟨e, he, _⟩ := mem_childrenOf.mp hc
      exact List.mem_map_of_mem (f := (·.1)) he
    · exact ih c hj

/-- **after a git revert the pruning keeps every entry of a git-representable
basis** (ids of the basis unique; every directory has a file of the basis below it) -/
theorem gitKeeps_of_closed (bk : Bool) (s : State) (hn : (ids s.basis).Nodup) (hc : gitClosed s.basis = true) :
    ∀ i ∈ ids s.basis, i ∈ (pruneGit (revert .git bk s)).ver := by
  intro i hi
  have hD : ∀ c, c ∈ ids s.basis → get (revert .git bk s).disk c = get s.basis c :=
    fun c hc' => revert_disk_get .git bk s c hc'
  -- children in the basis are children on disk after the revert
  have hch : ∀ p c, c ∈ childrenOf s.basis p → c ∈ childrenOf (revert .git bk s).disk p := by
    intro p c hcp
    obtain ⟨e, he, hp⟩ := mem_childrenOf.mp hcp
    have hg := get_of_mem hn he
    have hcm : c ∈ ids s.basis := mem_ids_of_get hg
    exact mem_childrenOf.mpr ⟨e, get_mem (by rw [hD c hcm, hg]), hp⟩
  -- the disk is at least as large as the basis
  have hlen : s.basis.length ≤ (revert .git bk s).disk.length := by
    have hsub : ids s.basis ⊆ ids (revert .git bk s).disk := by
      intro c hc'
      have h1 := get_isSome_of_mem hc'
      rw [← hD c hc'] at h1
      cases hg : get (revert .git bk s).disk c with
      | none => rw [hg] at h1; cases h1
      | some e => exact mem_ids_of_get hg
    have := List.Nodup.length_le_of_subset hn hsub
    simpa [ids] using this
  unfold pruneGit
  simp only [List.mem_filter]
  refine ⟨mem_revert_ver.mpr (Or.inl hi), ?_⟩
  have hsome := get_isSome_of_mem hi
  cases hb : get s.basis i with
  | none => rw [hb] at hsome; cases hsome
  | some e =>
    have hmem : (i, e) ∈ s.basis := get_mem hb
    have hcl := (List.all_eq_true.mp hc) (i, e) hmem
    simp only [Bool.or_eq_true, bne_iff_ne, ne_eq] at hcl
    have hdi : get (revert .git bk s).disk i = some e := by rw [hD i hi, hb]
    simp only [Bool.or_eq_true, Bool.not_eq_eq_eq_not, Bool.not_true, beq_iff_eq]
    rcases hcl with (hk | hp) | hbel
    · left; left
      simp only [isDir, hdi]
      simpa using hk
    · left; right
      simp only [hdi, Option.bind_some]
      simpa using hp
    · right
      rw [List.any_eq_true] at hbel ⊢
      obtain ⟨j, hj, hnd⟩ := hbel
      have hjb : j ∈ ids s.basis := below_mem_ids _ _ _ hj
      refine ⟨j, below_mono hch _ _ hlen _ _ hj, ?_⟩
      have hjv : (revert .git bk s).ver.contains j = true := by
        simp only [List.contains_eq_mem, decide_eq_true_eq]
        exact mem_revert_ver.mpr (Or.inl hjb)
      have hjd : isDir (revert .git bk s).disk j = isDir s.basis j := by
        simp only [isDir, hD j hjb]
      simp only [hjv, hjd, Bool.true_and]
      exact hnd

end BreezyVerif.C09
