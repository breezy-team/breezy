import BreezyVerif.Model.C20
import BreezyVerif.Lemmas.Lib.Split
/-! C20 — helper lemmas: the rio text layer. -/
namespace BreezyVerif.C20

theorem splitNL_eq (v : Str) : splitNL v = v.splitOn '\n' := by
  induction v with
  | nil => rfl
  | cons c r ih =>
    obtain ⟨f, fs, h, h'⟩ := Lib.splitOn_cons '\n' c r
    simp [splitNL, ih, h, h']

theorem splitNL_ne_nil (v : Str) : splitNL v ≠ [] :=
  splitNL_eq v ▸ List.splitOn_ne_nil '\n' v

/-- the continuation lines of a value, each with the `\n` that preceded it -/
def pendOf (conts : List Str) : Str := conts.flatMap fun x => '\n' :: x

theorem splitNL_noNL (v : Str) : ∀ l ∈ splitNL v, '\n' ∉ l :=
  fun _ h => Lib.not_mem_of_mem_splitOn (splitNL_eq v ▸ h)

theorem splitNL_unlines (ls : List Str) (h : ∀ l ∈ ls, '\n' ∉ l) : splitNL (unlines ls) = ls ++ [[]] := by
  simpa [splitNL_eq, unlines] using Lib.splitOn_lines h []

theorem fileLines_unlines (ls : List Str) (h : ∀ l ∈ ls, '\n' ∉ l) : fileLines (unlines ls) = ls := by
  unfold fileLines
  simp only [splitNL_unlines ls h]
  simp

/-- a line the reader returns unchanged -/
def crSafeLine (l : Str) : Prop := l.getLast? ≠ some '\r'

theorem stripCR_of_safe (l : Str) (h : crSafeLine l) : stripCR l = l := by
  unfold stripCR crSafeLine at *
  rw [← List.head?_reverse] at h
  cases hr : l.reverse with
  | nil => simp [List.reverse_eq_nil_iff.mp hr]
  | cons c t =>
    rw [hr] at h
    have hc : (c == '\r') = false := by simpa using h
    rw [List.dropWhile_cons_of_neg (by simp [hc]), ← hr, List.reverse_reverse]

theorem splitBlocks_ne_nil (ls : List Str) : splitBlocks ls ≠ [] := by
  induction ls with
  | nil => simp [splitBlocks]
  | cons l r ih =>
    unfold splitBlocks
    split
    · simp
    · cases h : splitBlocks r with
      | nil => exact absurd h ih
      | cons b bs => simp

theorem splitBlocks_prepend (b r x : List Str) (xs : List (List Str)) (hb : ∀ l ∈ b, l ≠ [])
    (hr : splitBlocks r = x :: xs) : splitBlocks (b ++ r) = (b ++ x) :: xs := by
  induction b with
  | nil => simpa using hr
  | cons l t ih =>
    have hl : l.isEmpty = false := by
      have := hb l (by simp); cases l <;> simp_all
    rw [List.cons_append, splitBlocks, ih fun x hx => hb x (by simp [hx])]
    simp [hl]
theorem blocks_of_body (ss : List Stanza)
    (hne : ∀ s ∈ ss, stanzaLines s ≠ []) (hl : ∀ s ∈ ss, ∀ l ∈ stanzaLines s, l ≠ []) :
    (splitBlocks (bodyLines ss)).takeWhile (fun b => !b.isEmpty) = ss.map stanzaLines := by
  induction ss with
  | nil => simp [bodyLines, splitBlocks]
  | cons s rest ih =>
    have hs : (stanzaLines s).isEmpty = false := by
      have := hne s (by simp); cases h : stanzaLines s <;> simp_all
    cases rest with
    | nil =>
      have := splitBlocks_prepend (stanzaLines s) [] [] [] (hl s (by simp)) rfl
      simp only [List.append_nil] at this
      simp [bodyLines, this, hs]
    | cons s2 rest2 =>
      have : bodyLines (s :: s2 :: rest2) = stanzaLines s ++ [] :: bodyLines (s2 :: rest2) := rfl
      rw [this, splitBlocks_prepend _ _ [] (splitBlocks (bodyLines (s2 :: rest2))) (hl s (by simp))
        (by simp [splitBlocks])]
      simp only [List.append_nil, List.takeWhile_cons, hs, Bool.not_false, if_true, List.map_cons]
      rw [ih (fun x hx => hne x (by simp [hx])) (fun x hx => hl x (by simp [hx]))]
      simp

theorem validTag_facts (t : Str) (h : validTag t = true) :
    (∃ c r, t = c :: r ∧ c ≠ '\t') ∧ ':' ∉ t ∧ '\n' ∉ t := by
  unfold validTag at h
  simp only [Bool.and_eq_true, Bool.not_eq_true', List.all_eq_true] at h
  obtain ⟨hne, hall⟩ : t ≠ [] ∧ ∀ c ∈ t, validTagChar c = true := ⟨by cases t <;> simp_all, h.2⟩
  refine ⟨?_, ?_, ?_⟩
  · cases t with
    | nil => exact absurd rfl hne
    | cons c r =>
      refine ⟨c, r, rfl, ?_⟩
      intro e
      have := hall c (by simp)
      rw [e] at this
      exact absurd this (by decide)
  · intro hm; exact absurd (hall _ hm) (by decide)
  · intro hm; exact absurd (hall _ hm) (by decide)

theorem splitTag_tag (t v : Str) (h : ':' ∉ t) : splitTag (t ++ ':' :: ' ' :: v) = some (t, v) := by
  induction t with
  | nil => simp [splitTag]
  | cons c r ih =>
    have hc : c ≠ ':' := fun e => h (by simp [e])
    have hr : ':' ∉ r := fun e => h (by simp [e])
    cases r with
    | nil =>
      simp only [List.cons_append, List.nil_append]
      rw [splitTag]
      simp [hc, splitTag]
    | cons d r' =>
      have := ih hr
      simp only [List.cons_append] at this ⊢
      rw [splitTag]
      simp [hc, this]

theorem parseLines_conts (conts : List Str) (rest : List Str) (pend : Str) (ps : Stanza)
    (h : parseLines rest = .ok (pend, ps)) :
    parseLines (conts.map (fun l => '\t' :: l) ++ rest) = .ok (pendOf conts ++ pend, ps) := by
  induction conts with
  | nil => simpa [pendOf] using h
  | cons c t ih =>
    simp only [List.map_cons, List.cons_append]
    rw [parseLines, ih]
    simp [pendOf]

theorem parseLines_value (t v : Str) (rest : List Str) (ps : Stanza) (ht : validTag t = true)
    (h : parseLines rest = .ok ([], ps)) :
    parseLines (valueLines t v ++ rest) = .ok ([], (t, v) :: ps) := by
  obtain ⟨⟨c, r, hcr, hct⟩, hcolon, _⟩ := validTag_facts t ht
  unfold valueLines
  cases hs : splitNL v with
  | nil => exact absurd hs (splitNL_ne_nil v)
  | cons l0 conts =>
    have hv : l0 ++ pendOf conts = v := by
      rw [pendOf, ← Lib.intercalate_cons, ← hs, splitNL_eq, Lib.intercalate_splitOn]
    simp only [List.cons_append]
    rw [parseLines, parseLines_conts conts rest [] ps h]
    have hline : t ++ ':' :: ' ' :: l0 = c :: (r ++ ':' :: ' ' :: l0) := by rw [hcr]; rfl
    have hst := splitTag_tag t l0 hcolon
    rw [hline] at hst ⊢
    simp only [hct, if_false, hst, ht, if_true, List.append_nil, hv]

theorem parseLines_stanza (s : Stanza) (hs : ∀ p ∈ s, validTag p.1 = true) :
    parseLines (stanzaLines s) = .ok ([], s) := by
  induction s with
  | nil => simp [stanzaLines, parseLines]
  | cons p t ih =>
    have : stanzaLines (p :: t) = valueLines p.1 p.2 ++ stanzaLines t := by simp [stanzaLines]
    rw [this, parseLines_value p.1 p.2 _ t (hs p (by simp)) (ih (fun q hq => hs q (by simp [hq])))]

theorem parseBlock_stanza (s : Stanza) (hs : ∀ p ∈ s, validTag p.1 = true) :
    parseBlock (stanzaLines s) = .ok s := by
  unfold parseBlock
  rw [parseLines_stanza s hs]

/-- no line of the value ends in CR -/
def crSafe (v : Str) : Prop := ∀ l ∈ splitNL v, l.getLast? ≠ some '\r'

instance (v : Str) : Decidable (crSafe v) := by unfold crSafe; infer_instance

theorem crSafeLine_cons (c : Char) (l : Str) (hc : c ≠ '\r') (hl : l.getLast? ≠ some '\r') :
    (c :: l).getLast? ≠ some '\r' := by
  rw [List.getLast?_cons]
  cases h : l.getLast? with
  | none => simp [hc]
  | some x =>
    simp only [Option.getD_some, ne_eq, Option.some.injEq]
    intro e; exact hl (by rw [h, e])

theorem valueLines_facts (t v : Str) (ht : validTag t = true) (hv : crSafe v) :
    ∀ l ∈ valueLines t v, l ≠ [] ∧ '\n' ∉ l ∧ crSafeLine l := by
  obtain ⟨_, _, hnl⟩ := validTag_facts t ht
  have hno := splitNL_noNL v
  unfold valueLines crSafe crSafeLine at *
  cases hs : splitNL v with
  | nil => exact absurd hs (splitNL_ne_nil v)
  | cons l0 conts =>
    rw [hs] at hno hv
    simp only [List.forall_mem_cons] at hno hv
    simp only [List.forall_mem_cons, List.forall_mem_map]
    refine ⟨⟨by simp, by simp [hnl, hno.1], ?_⟩, fun x hx =>
      ⟨by simp, by simp [hno.2 x hx], crSafeLine_cons '\t' x (by decide) (hv.2 x hx)⟩⟩
    -- the last character is that of `' ' :: l0`
    rw [List.getLast?_append, List.getLast?_cons_cons, List.getLast?_cons, Option.some_or, ← List.getLast?_cons]
    exact crSafeLine_cons ' ' l0 (by decide) hv.1
/-- a stanza the text layer reproduces: non-empty, valid tags, CR-safe values -/
def StanzaOk (s : Stanza) : Prop := s ≠ [] ∧ ∀ p ∈ s, validTag p.1 = true ∧ crSafe p.2

theorem valueLines_ne_nil (t v : Str) : valueLines t v ≠ [] := by
  unfold valueLines; split <;> simp

theorem stanzaLines_facts (s : Stanza) (h : StanzaOk s) :
    stanzaLines s ≠ [] ∧ ∀ l ∈ stanzaLines s, l ≠ [] ∧ '\n' ∉ l ∧ crSafeLine l := by
  obtain ⟨hne, hp⟩ := h
  constructor
  · cases s with
    | nil => exact absurd rfl hne
    | cons p t =>
      simp only [stanzaLines, List.flatMap_cons, ne_eq, List.append_eq_nil_iff, not_and]
      intro h1; exact absurd h1 (valueLines_ne_nil _ _)
  · intro l hl
    simp only [stanzaLines, List.mem_flatMap] at hl
    obtain ⟨p, hps, hlp⟩ := hl
    exact valueLines_facts p.1 p.2 (hp p hps).1 (hp p hps).2 l hlp

theorem bodyLines_facts (ss : List Stanza) (h : ∀ s ∈ ss, StanzaOk s) :
    ∀ l ∈ bodyLines ss, '\n' ∉ l ∧ crSafeLine l := by
  induction ss with
  | nil => simp [bodyLines]
  | cons s rest ih =>
    have hs := (stanzaLines_facts s (h s (by simp))).2
    cases rest with
    | nil => exact fun l hl => (hs l hl).2
    | cons s2 r2 =>
      simp only [show bodyLines (s :: s2 :: r2) = stanzaLines s ++ [] :: bodyLines (s2 :: r2) from rfl,
        List.forall_mem_append, List.forall_mem_cons]
      exact ⟨fun l hl => (hs l hl).2, ⟨by simp, by simp [crSafeLine]⟩, ih fun x hx => h x (by simp [hx])⟩

theorem mapM_ok {α β : Type} (f : α → Except Err β) (g : β → α) (l : List β)
    (h : ∀ x ∈ l, f (g x) = .ok x) : (l.map g).mapM f = .ok l := by
  induction l with
  | nil => rfl
  | cons x t ih =>
    simp only [List.map_cons, List.mapM_cons, h x (by simp), ih (fun y hy => h y (by simp [hy]))]
    rfl

/-- `Except` has no decidable equality; a concrete successful result is checked through `toOption` -/
theorem ok_of_toOption {ε α : Type} {e : Except ε α} {a : α} (h : e.toOption = some a) : e = .ok a := by
  cases e <;> simp_all [Except.toOption]

theorem readStanzas_body (ss : List Stanza) (h : ∀ s ∈ ss, StanzaOk s) :
    readStanzas (unlines (bodyLines ss)) = .ok ss := by
  have hb := bodyLines_facts ss h
  unfold readStanzas
  simp only
  rw [fileLines_unlines _ (fun l hl => (hb l hl).1)]
  have hmap : (bodyLines ss).map stripCR = bodyLines ss := by
    simpa using List.map_congr_left (g := id) fun l hl => stripCR_of_safe l (hb l hl).2
  rw [hmap, blocks_of_body ss (fun s hs => (stanzaLines_facts s (h s hs)).1)
    (fun s hs l hl => ((stanzaLines_facts s (h s hs)).2 l hl).1)]
  exact mapM_ok parseBlock stanzaLines ss (fun s hs => parseBlock_stanza s (fun p hp => ((h s hs).2 p hp).1))

theorem afterHeader_unlines (header : Str) (body : List Str) :
    afterHeader header (unlines (header :: body)) = some (unlines body) := by
  have : unlines (header :: body) = (header ++ ['\n']) ++ unlines body := by simp [unlines]
  rw [afterHeader, this, if_pos (by simp [List.isPrefixOf_iff_prefix]),
    show header.length + 1 = (header ++ ['\n']).length by simp, List.drop_left]

end BreezyVerif.C20
