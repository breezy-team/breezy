import BreezyVerif.Lemmas.C02
/-
C02: file ids are recorded independently of each other.  Restricting every
committed tree to a set of file ids restricts every recorded inventory and the
per-file graph to that set and changes nothing else.  (This is what justifies
leaving the root directory out of the model for the non-rich-root formats,
where it is not a text key.)
-/
namespace BreezyVerif.C02

def keepCommit (k : FileId → Bool) (c : Commit) : Commit :=
  { c with tree := c.tree.filter fun x => k x.1 }

def keepRec (k : FileId → Bool) (r : Rec) : Rec :=
  { r with inv := r.inv.filter (fun x => k x.1), texts := r.texts.filter fun x => k x.1 }

theorem invOf_keep (k : FileId → Bool) (st : State) (p : Rev) :
    invOf (st.map (keepRec k)) p = (invOf st p).map fun i => i.filter fun x => k x.1 := by
  induction st with
  | nil => rfl
  | cons r st ih =>
    simp only [List.map_cons, invOf, keepRec]
    by_cases e : r.id = p
    · simp [e]
    · simp only [e, if_false]; exact ih

theorem entryIn_keep (k : FileId → Bool) (st : State) (f : FileId) (p : Rev) (hk : k f = true) :
    entryIn (st.map (keepRec k)) f p = entryIn st f p := by
  simp only [entryIn, invOf_keep]
  cases invOf st p with
  | none => rfl
  | some i => simp only [Option.map_some]; exact (Lib.lookup_filter_key i k f).trans (if_pos hk)

theorem candEntries_keep (k : FileId → Bool) (st : State) (ps : List Rev) (f : FileId)
    (hk : k f = true) : candEntries (st.map (keepRec k)) ps f = candEntries st ps f := by
  simp only [candEntries]
  congr 1
  funext p
  exact entryIn_keep k st f p hk

theorem textsOf_keep (k : FileId → Bool) (st : State) :
    textsOf (st.map (keepRec k)) = (textsOf st).filter fun x => k x.1.1 := by
  induction st with
  | nil => rfl
  | cons r st ih =>
    simp only [List.map_cons, textsOf_cons, ih, List.filter_append, keepRec]
    congr 1
    induction r.texts with
    | nil => rfl
    | cons t ts iht =>
      simp only [List.filter_cons]
      by_cases ht : k t.1 = true
      · simp only [ht, if_true, List.map_cons, List.filter_cons, iht]
      · have ht' : k t.1 = false := by simpa using ht
        simp only [ht', Bool.false_eq_true, ↓reduceIte, List.map_cons, List.filter_cons, iht]

theorem fanc_keep (k : FileId → Bool) (f : FileId) (hk : k f = true) :
    ∀ (g : TGraph) (c : Rev), fanc (g.filter fun x => k x.1.1) f c = fanc g f c
  | [], _ => rfl
  | (key, ps) :: older, c => by
    have ih := fanc_keep k f hk older
    simp only [List.filter_cons]
    by_cases hkey : k key.1 = true
    · simp only [hkey, if_true, fanc, ih]
    · have hne : ¬ key = (f, c) := by
        intro e
        apply hkey
        rw [e]; exact hk
      have hkey' : k key.1 = false := by simpa using hkey
      simp only [hkey', Bool.false_eq_true, ↓reduceIte, fanc, hne, ih]

theorem heads_keep (k : FileId → Bool) (st : State) (f : FileId) (cands : List Rev) (hk : k f = true) :
    heads (textsOf (st.map (keepRec k))) f cands = heads (textsOf st) f cands := by
  apply heads_congr
  intro c _
  rw [textsOf_keep]
  exact fanc_keep k f hk _ c

theorem recordOne_keep (k : FileId → Bool) (st : State) (c : Commit) (f : FileId) (a : Attr)
    (hk : k f = true) :
    recordOne (st.map (keepRec k)) (keepCommit k c) f a = recordOne st c f a := by
  simp only [recordOne, keepCommit, candidates, entryWithRev, candEntries_keep k st _ f hk,
    heads_keep k st f _ hk]

theorem map_filter_agree {β : Type} (l : Tree) (k : FileId → Bool) (F G : FileId → Attr → β)
    (h : ∀ f a, k f = true → F f a = G f a) :
    ((l.filter fun x => k x.1).map fun t => (t.1, F t.1 t.2))
      = (l.map fun t => (t.1, G t.1 t.2)).filter fun x => k x.1 := by
  induction l with
  | nil => rfl
  | cons t l ih =>
    simp only [List.filter_cons, List.map_cons]
    by_cases ht : k t.1 = true
    · simp only [ht, if_true, List.map_cons, ih, h t.1 t.2 ht]
    · have ht' : k t.1 = false := by simpa using ht
      simp only [ht', Bool.false_eq_true, ↓reduceIte, ih]

theorem filterMap_filter_agree {β : Type} (l : Tree) (k : FileId → Bool) (F G : FileId → Attr → Option β)
    (h : ∀ f a, k f = true → F f a = G f a) :
    ((l.filter fun x => k x.1).filterMap fun t => (F t.1 t.2).map fun b => (t.1, b))
      = (l.filterMap fun t => (G t.1 t.2).map fun b => (t.1, b)).filter fun x => k x.1 := by
  induction l with
  | nil => rfl
  | cons t l ih =>
    simp only [List.filter_cons, List.filterMap_cons]
    by_cases ht : k t.1 = true
    · simp only [ht, if_true, List.filterMap_cons, ih, h t.1 t.2 ht]
      cases G t.1 t.2 with
      | none => rfl
      | some b => simp [ht]
    · have ht' : k t.1 = false := by simpa using ht
      simp only [ht', Bool.false_eq_true, ↓reduceIte, ih]
      cases G t.1 t.2 with
      | none => rfl
      | some b => simp [ht']

theorem mkRec_keep (k : FileId → Bool) (st : State) (c : Commit) :
    mkRec (st.map (keepRec k)) (keepCommit k c) = keepRec k (mkRec st c) := by
  have hinv := map_filter_agree c.tree k
    (fun f a => (recordOne (st.map (keepRec k)) (keepCommit k c) f a).1)
    (fun f a => (recordOne st c f a).1) fun f a hk => by rw [recordOne_keep k st c f a hk]
  have htx := filterMap_filter_agree c.tree k
    (fun f a => (recordOne (st.map (keepRec k)) (keepCommit k c) f a).2)
    (fun f a => (recordOne st c f a).2) fun f a hk => by rw [recordOne_keep k st c f a hk]
  simp only [mkRec, keepRec]
  congr 1

theorem build_keep (k : FileId → Bool) : ∀ (h : List Commit),
    build (h.map (keepCommit k)) = (build h).map (keepRec k)
  | [] => rfl
  | c :: older => by
    simp only [List.map_cons, build, record, build_keep k older, mkRec_keep]

end BreezyVerif.C02
