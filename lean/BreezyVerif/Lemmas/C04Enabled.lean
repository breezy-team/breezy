import BreezyVerif.Lemmas.C04
/-!
C04 — enabledness: the total `step` treats a transport call whose precondition
fails (closing a stream that is not open, moving / deleting a missing file,
taking a held lock) as a no-op.  `runT` runs an operation list and FAILS at the
first call whose precondition does not hold — except for the calls whose failure
the real code tolerates (`except (errors.PathError, errors.TransportError)`
around every `delete` of `_clear_obsolete_packs` and every `move` of
`_obsolete_packs`).  The lemmas show that the operation lists of the model never
take a "missing file" branch of `step` outside those tolerated calls, and that
`NewPack.finish` leaves its pack complete.
-/
namespace BreezyVerif.C04

/-- calls whose failure the real code catches and logs -/
def tolerated : Op → Bool
  | .delete f => f.dir == .obsolete
  | .move _ b => b.dir == .obsolete
  | _ => false

/-- run, failing at the first non-tolerated call whose precondition fails -/
def runT (d : Disk) : List Op → Option Disk
  | [] => some d
  | op :: rest => if Enabled d op || tolerated op then runT (step d op) rest else none

/-- about a variable, so that closing a goal with it does not make `rfl` unfold a concrete run -/
theorem runT_nil (d : Disk) : runT d [] = some (run d []) := rfl

theorem runT_cons (d : Disk) (op : Op) (l : List Op) (h : (Enabled d op || tolerated op) = true)
    (hl : runT (step d op) l = some (run (step d op) l)) : runT d (op :: l) = some (run d (op :: l)) := by
  simp only [runT, h, if_true, hl, run_cons]

theorem runT_append_some (d : Disk) (a b : List Op)
    (ha : runT d a = some (run d a)) (hb : runT (run d a) b = some (run (run d a) b)) :
    runT d (a ++ b) = some (run d (a ++ b)) := by
  induction a generalizing d with
  | nil => exact hb
  | cons op rest ih =>
    simp only [runT, List.cons_append] at ha ⊢
    split at ha
    · rename_i h
      simp only [h, if_true]
      exact ih (step d op) ha hb
    · cases ha

theorem runT_tolerated (d : Disk) (l : List Op) (h : ∀ op ∈ l, tolerated op = true) :
    runT d l = some (run d l) := by
  induction l generalizing d with
  | nil => rfl
  | cons op rest ih =>
    exact runT_cons d op rest (by simp [h op]) (ih _ fun o ho => h o (by simp [ho]))

theorem runT_eq_runE (d : Disk) (l : List Op) (h : ∀ op ∈ l, tolerated op = false) : runT d l = runE d l := by
  induction l generalizing d with
  | nil => rfl
  | cons op rest ih =>
    simp only [runT, runE, h op (by simp), Bool.or_false, ih _ fun o ho => h o (by simp [ho])]

def noLock : Op → Bool
  | .lock => false
  | .unlock => false
  | _ => true

theorem step_locked {d : Disk} {op : Op} (h : noLock op = true) : (step d op).locked = d.locked := by
  cases op with
  | lock => cases h
  | unlock => cases h
  | _ => simp only [step, apply_ite Disk.locked, ite_self]

theorem run_locked (l : List Op) (d : Disk) (h : ∀ op ∈ l, noLock op = true) : (run d l).locked = d.locked :=
  List.foldlRecOn (motive := fun t : Disk => t.locked = d.locked) l _ rfl fun _ ht op ho =>
    (step_locked (h op ho)).trans ht

theorem newPackOps_noLock (chk : Bool) (tmp : File) (name : Nat) :
    ∀ op ∈ newPackOps chk tmp name, noLock op = true :=
  forall_mem_newPackOps.2 ⟨rfl, fun _ _ => ⟨rfl, rfl⟩, rfl, rfl⟩

theorem mem_step_torn {d : Disk} {op : Op} {f : File} (hf : f ∈ d.torn)
    (h : match op with
         | .endWrite g => f ≠ g
         | .move a b => f ≠ a ∧ f ≠ b
         | .delete g => f ≠ g
         | _ => True) : f ∈ (step d op).torn := by
  cases op with
  | beginWrite g => by_cases e : f = g <;> simp [step, mem_rm, hf, e]
  | endWrite g => simp only [step]; split <;> simp [mem_rm, hf, h]
  | move a b =>
    simp only [step]
    split
    · simp [mem_rm, hf, h.2]
    · split
      · simp [mem_rm, hf, h.1, h.2]
      · exact hf
  | delete g => simp [step, mem_rm, hf, h]
  | lock => exact hf
  | unlock => exact hf
  | putNames ns => exact hf

theorem mem_step_endWrite {d : Disk} {f : File} (h : f ∈ d.torn) : f ∈ (step d (.endWrite f)).files := by
  simp [step, h]

theorem mem_step_move {d : Disk} {a b : File} (h : a ∈ d.files) : b ∈ (step d (.move a b)).files := by
  simp [step, h]

theorem run_writes {α : Type} (g : α → File) (l : List α) (d : Disk) :
    let ops := l.flatMap fun a => [Op.beginWrite (g a), Op.endWrite (g a)]
    runT d ops = some (run d ops) ∧ (∀ a ∈ l, g a ∈ (run d ops).files) ∧
    (∀ f ∈ d.files, f ∈ (run d ops).files) ∧
    (∀ f ∈ d.torn, (∀ a ∈ l, f ≠ g a) → f ∈ (run d ops).torn) := by
  induction l generalizing d with
  | nil => exact ⟨rfl, (fun _ h => nomatch h), fun _ h => h, fun _ h _ => h⟩
  | cons a l ih =>
    obtain ⟨hT, hW, hF, hO⟩ := ih (step (step d (.beginWrite (g a))) (.endWrite (g a)))
    have hopen : g a ∈ (step d (.beginWrite (g a))).torn := by simp [step]
    have hnew := mem_step_endWrite hopen
    simp only [List.flatMap_cons, List.cons_append, List.nil_append, run_cons]
    refine ⟨runT_cons _ _ _ rfl (runT_cons _ _ _ (by simp [Enabled, hopen]) hT), ?_, ?_, ?_⟩
    · intro b hb
      rcases List.mem_cons.mp hb with rfl | hb
      · exact hF _ hnew
      · exact hW b hb
    · intro f hf
      by_cases e : f = g a
      · exact hF f (e ▸ hnew)
      · exact hF f (mem_step_files (mem_step_files hf e) trivial)
    · intro f hf hne
      have h1 : f ≠ g a := hne a (by simp)
      exact hO f (mem_step_torn (mem_step_torn hf trivial) h1) fun c hc => hne c (by simp [hc])

/-- **No call of "write a new pack and `finish()` it" can fail**, from any
directory state (every stream that is closed was opened, the upload file that is
renamed exists), **and `NewPack.finish` leaves the pack complete.** -/
theorem run_newPackOps (chk : Bool) (d : Disk) (tmp : File) (name : Nat) (ht : tmp.dir = .upload) :
    runT d (newPackOps chk tmp name) = some (run d (newPackOps chk tmp name)) ∧
    ready chk (run d (newPackOps chk tmp name)) name = true := by
  have hne : ∀ e ∈ idxExts chk, tmp ≠ ⟨.indices, name, e⟩ := fun e _ h => by rw [h] at ht; cases ht
  obtain ⟨hT, hW, -, hO⟩ := run_writes (⟨.indices, name, ·⟩) (idxExts chk) (step d (.beginWrite tmp))
  have hopen := hO tmp (by simp [step]) hne
  have hclosed := mem_step_endWrite hopen
  rw [newPackOps, finishOps]
  constructor
  · refine runT_cons _ _ _ rfl (runT_append_some _ _ _ hT (runT_cons _ _ _ ?_ (runT_cons _ _ _ ?_ (runT_nil _))))
    · simp only [Enabled, hopen, decide_true, Bool.true_or]
    · simp only [Enabled, hclosed, decide_true, Bool.true_or]
  · -- (stating the same by `show` makes the unifier unfold `step`)
    rw [ready_iff, run_cons, run_append, run_cons, run_cons, run_nil]
    intro f hf
    rcases List.mem_cons.mp hf with rfl | hf
    · exact mem_step_move hclosed
    · obtain ⟨e, he, rfl⟩ := List.mem_map.mp hf
      exact mem_step_files (op := .move _ _) (mem_step_files (op := .endWrite _) (hW e he) trivial)
        ⟨(hne e he).symm, by simp⟩

/-- after `open_write_stream(upload/tmp)` … `finish()` the pack `name` has its
`.pack` and all its indices in place -/
theorem finish_ready' (chk : Bool) (d : Disk) (tmp : File) (name : Nat) (ht : tmp.dir = .upload) :
    ready chk (run d (newPackOps chk tmp name)) name = true :=
  (run_newPackOps chk d tmp name ht).2

theorem newPackOps_enabled (chk : Bool) (d : Disk) (t : Nat) (auto : Bool) (name : Nat) :
    runT d (newPackOps chk (upTmp t auto) name) = some (run d (newPackOps chk (upTmp t auto) name)) :=
  (run_newPackOps chk d _ name rfl).1

/-- **No non-tolerated call of `_save_pack_names` can fail** when the names lock
is free: the lock is taken before `put_file`, and is still held when it is
released (the deletions in between do not touch it).  `pre` is what the operation
did before: it did not fail and left the lock alone. -/
theorem saveOps_enabled (chk : Bool) (d0 d : Disk) (v : View) (obs : Option (List Nat)) (pre : List Op)
    (hpre : runT d0 pre = some (run d0 pre)) (hnl : ∀ op ∈ pre, noLock op = true) (hl : d0.locked = false) :
    runT d0 (pre ++ saveOps chk d v obs) = some (run d0 (pre ++ saveOps chk d v obs)) := by
  refine runT_append_some _ _ _ hpre ?_
  have hl : (run d0 pre).locked = false := (run_locked pre d0 hnl).trans hl
  have hclear : ∀ op ∈ saveClear d obs [], tolerated op = true ∧ noLock op = true := by
    intro op hop
    obtain ⟨f, rfl, hf⟩ := mem_saveClear hop
    simp [tolerated, noLock, hf]
  have hobsol : ∀ op ∈ saveObsol chk d obs, tolerated op = true := by
    intro op hop
    obtain ⟨_, _, n, _, hop⟩ := mem_saveObsol hop
    obtain ⟨a, b, rfl, _, _, hb⟩ := mem_obsoleteOps hop
    simp [tolerated, hb]
  rw [saveOps_eq, saveAllowed, List.append_assoc]
  refine runT_cons _ _ _ (by simp [Enabled, hl]) (runT_cons _ _ _ rfl ?_)
  refine runT_append_some _ _ _ (runT_tolerated _ _ fun op h => (hclear op h).1) ?_
  refine runT_cons _ _ _ ?_ (runT_tolerated _ _ hobsol)
  rw [Enabled, run_locked _ _ fun op h => (hclear op h).2]
  rfl

end BreezyVerif.C04
