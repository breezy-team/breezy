import BreezyVerif.Lemmas.C50
/-! C50 — unquoted words, quoted segments and mixed command lines (`layout`). -/
namespace BreezyVerif.C50

/-- `emit` only reads `quoted` and `chars` -/
def emitQ (q : Bool) (chars : Str) (rest : List (Bool × Str)) : List (Bool × Str) :=
  if !q && chars.isEmpty then [] else (q, chars) :: rest

theorem emit_eq (x : Ctx) (rest : List (Bool × Str)) : emit x rest = emitQ x.quoted x.chars rest := by
  unfold emit emitQ result
  split <;> simp_all

/-- what follows a word: the end, or a whitespace character -/
def Boundary (rest : Str) : Prop := rest = [] ∨ ∃ c more, rest = c :: more ∧ isWs c = true

theorem ws_not_allowed {sq : Bool} {c : Char} (h : isWs c = true) : allowed sq c = false := by
  cases ha : allowed sq c with
  | false => rfl
  | true => rw [allowed_not_ws ha] at h; exact absurd h (by simp)

theorem ws_ne_bs {c : Char} (h : isWs c = true) : c ≠ '\\' := by
  intro e; subst e; simp at h

/-- a character outside the quoting syntax is appended after the pending backslashes; the machine is in
`_Word` afterwards -/
theorem run_stN_char (sq : Bool) (o : Outer) (n : Nat) (x : Ctx) {c : Char} (cs : Str)
    (hp : plain sq c = true) :
    run sq (stN (.plain o) n) x (c :: cs) = run sq (stN (.plain .word) 0) (x.app (rep n ++ [c])) cs := by
  simp only [plain, Bool.and_eq_true, Bool.not_eq_true', decide_eq_false_iff_not] at hp
  cases n <;> cases o <;> simp [stN, run, procExit, hp]

theorem wordChar_cases {sq : Bool} {c : Char} (h : wordChar sq c = true) : c = '\\' ∨ plain sq c = true := by
  by_cases hbs : c = '\\'
  · exact Or.inl hbs
  · exact Or.inr (by simpa [wordChar, hbs] using h)

/-- whitespace between tokens is skipped -/
theorem run_ws_skip (sq : Bool) {c : Char} (cs : Str) (hc : isWs c = true) :
    run sq (.at (.plain .ws)) {} (c :: cs) = run sq (.at (.plain .ws)) {} cs := by
  simp [run, procExit, hc]

/-- the end of an argument (end of line or a whitespace character) in a plain state with a token in
progress: the pending backslashes are literal -/
theorem end_read (sq : Bool) (rest : Str) (hb : Boundary rest) (x : Ctx) (o : Outer) (n : Nat)
    (h : o = .word ∨ x.touched = true ∨ 0 < n) :
    run sq (stN (.plain o) n) x rest
      = emitQ x.quoted (x.chars ++ rep n) (run sq (.at (.plain .ws)) {} rest) := by
  rcases hb with rfl | ⟨c, more, rfl, hc⟩
  · cases n <;> simp [stN, run, finish, emit_eq, emitQ]
  · rw [run_ws_skip sq more hc]
    cases n with
    | zero =>
      rcases h with rfl | h | h
      · simp [stN, run, procExit, hc, emit_eq]
      · cases o <;> simp [stN, run, procExit, hc, h, emit_eq]
      · exact absurd h (Nat.lt_irrefl 0)
    | succ n => cases o <;> simp [stN, run, procExit, hc, ws_ne_bs hc, ws_not_allowed hc, emit_eq]

/-- a word (ordinary characters and backslashes) that ends where the argument ends is emitted whole,
trailing backslashes included -/
theorem word_read (sq : Bool) (rest : Str) (hb : Boundary rest) (w : Str) :
    ∀ x o n, (o = Outer.word ∨ w ≠ [] ∨ 0 < n) → w.all (wordChar sq) = true →
      run sq (stN (.plain o) n) x (w ++ rest)
        = emitQ x.quoted (x.chars ++ rep n ++ w) (run sq (.at (.plain .ws)) {} rest) := by
  induction w with
  | nil =>
    intro x o n ho _
    rw [List.nil_append, List.append_nil]
    exact end_read sq rest hb x o n
      (ho.imp_right fun h => Or.inr (h.resolve_left fun h => h rfl))
  | cons c cs ih =>
    intro x o n _ hw
    simp only [List.all_cons, Bool.and_eq_true] at hw
    rw [List.cons_append]
    rcases wordChar_cases hw.1 with rfl | hp
    · rw [run_stN_bs, ih x o (n + 1) (Or.inr (Or.inr (Nat.succ_pos n))) hw.2, rep_succ]
      simp
    · rw [run_stN_char sq o n x _ hp, ih _ _ _ (Or.inl rfl) hw.2]
      simp

/-- an unquoted segment that does not end in a backslash is read completely, whatever follows, and leaves
the machine in `_Word` -/
theorem word_pass (sq : Bool) (rest : Str) (w : Str) :
    w ≠ [] → w.all (wordChar sq) = true → w.getLast? ≠ some '\\' →
    ∀ x o n, run sq (stN (.plain o) n) x (w ++ rest)
        = run sq (.at (.plain .word)) (x.app (rep n ++ w)) rest := by
  induction w with
  | nil => intro h; exact absurd rfl h
  | cons c cs ih =>
    intro _ hw hl x o n
    simp only [List.all_cons, Bool.and_eq_true] at hw
    cases cs with
    | nil =>
      exact run_stN_char sq o n x _
        ((wordChar_cases hw.1).resolve_left fun e => hl (by rw [e]; rfl))
    | cons d ds =>
      rw [List.getLast?_cons_cons] at hl
      have ih := ih (List.cons_ne_nil _ _) hw.2 hl
      rw [List.cons_append]
      rcases wordChar_cases hw.1 with rfl | hp
      · rw [run_stN_bs, ih, rep_succ]
        simp
      · rw [run_stN_char sq o n x _ hp, ih]
        simp

/-- leading whitespace is skipped -/
theorem tokens_ws (sq : Bool) (sep s : Str) (h : sep.all isWs = true) :
    tokens sq (sep ++ s) = tokens sq s := by
  induction sep with
  | nil => rfl
  | cons c cs ih =>
    simp only [List.all_cons, Bool.and_eq_true] at h
    simp only [List.cons_append, tokens] at ih ⊢
    rw [run_cons]
    simp only [step1, procExit, h.1, if_true, cont]
    exact ih h.2

/-- separator/word pairs laid out one after the other -/
def wsJoin : List (Str × Str) → Str
  | [] => []
  | (sep, w) :: r => sep ++ (w ++ wsJoin r)

/-- `context.quoted = True` happens only when the quote is met in `_Whitespace` -/
def markQ : Outer → Ctx → Ctx
  | .ws, x => { x with quoted := true }
  | .word, x => x

def isWsState : Outer → Bool
  | .ws => true
  | .word => false

theorem quote_read (sq : Bool) (o : Outer) (x : Ctx) (a rest : Str) :
    run sq (.at (.plain o)) x (quote sq a ++ rest)
      = run sq (.at (.plain o)) ((markQ o x).app a) rest := by
  have h : ∀ x, _ := fun x => esc_read sq o rest a x 0 (fun _ => rfl)
  simp only [Nat.zero_div, ite_self, rep_zero, List.nil_append] at h
  have e : quote sq a ++ rest = '"' :: (esc sq a ++ '"' :: rest) := by simp [quote]
  rw [e, run_cons]
  cases o <;>
    simp only [step1, procExit, isWs_dq, allowed_dq, Bool.false_eq_true, if_false, if_true, cont] <;>
    exact h _

@[simp] theorem itemText_nil (sq : Bool) : itemText sq [] = [] := rfl
@[simp] theorem itemText_cons (sq : Bool) (s : Seg) (r : List Seg) :
    itemText sq (s :: r) = s.text sq ++ itemText sq r := by simp [itemText]
@[simp] theorem itemVal_nil : itemVal [] = [] := rfl
@[simp] theorem itemVal_cons (s : Seg) (r : List Seg) : itemVal (s :: r) = s.val ++ itemVal r := by
  simp [itemVal]

theorem item_read (sq : Bool) (rest : Str) (hb : Boundary rest) :
    ∀ (it : List Seg) (x : Ctx) (o : Outer), itemOk sq it = true →
      (it ≠ [] ∨ o = .word ∨ x.touched = true) →
      run sq (.at (.plain o)) x (itemText sq it ++ rest)
        = emitQ (x.quoted || (isWsState o && itemQuoted it)) (x.chars ++ itemVal it)
            (run sq (.at (.plain .ws)) {} rest) := by
  intro it
  induction it with
  | nil =>
    intro x o _ h
    simp only [itemText_nil, List.nil_append, itemVal_nil, List.append_nil]
    refine (end_read sq rest hb x o 0 ((h.resolve_left fun h => h rfl).imp_right .inl)).trans ?_
    simp [itemQuoted]
  | cons s r ih =>
    intro x o hok _
    cases s with
    | q a =>
      have hok' : itemOk sq r = true := by simpa [itemOk] using hok
      simp only [itemText_cons, Seg.text, List.append_assoc, itemVal_cons, Seg.val]
      rw [quote_read, ih _ o hok' (Or.inr (Or.inr rfl))]
      cases o <;> simp [markQ, isWsState, itemQuoted]
    | w s =>
      simp only [itemOk, Bool.and_eq_true, Bool.not_eq_true', List.isEmpty_eq_false_iff,
        Bool.or_eq_true, List.isEmpty_iff, bne_iff_ne, ne_eq] at hok
      obtain ⟨⟨⟨hne, hw⟩, hlast⟩, hok'⟩ := hok
      simp only [itemText_cons, Seg.text, List.append_assoc, itemVal_cons, Seg.val]
      cases r with
      | nil =>
        simp only [itemText_nil, List.nil_append, itemVal_nil, List.append_nil]
        refine (word_read sq rest hb s x o 0 (Or.inr (Or.inl hne)) hw).trans ?_
        simp [itemQuoted]
      | cons s2 r' =>
        have hl : s.getLast? ≠ some '\\' := hlast.resolve_left (by simp)
        refine (word_pass sq _ s hne hw hl x o 0).trans ?_
        rw [ih _ .word hok' (Or.inl (by simp))]
        simp [isWsState, itemQuoted]

/-- a well-formed non-empty argument is never dropped: it is quoted or has text -/
theorem item_nonvoid (sq : Bool) (it : List Seg) (hne : it ≠ []) (hok : itemOk sq it = true) :
    itemQuoted it = true ∨ itemVal it ≠ [] := by
  cases it with
  | nil => exact absurd rfl hne
  | cons s r =>
    cases s with
    | q a => left; rfl
    | w s =>
      right
      simp only [itemOk, Bool.and_eq_true, Bool.not_eq_true', List.isEmpty_eq_false_iff] at hok
      have : s ≠ [] := hok.1.1.1
      simp [Seg.val, this]

/-- one argument at the start of a token -/
theorem tokens_item (sq : Bool) (it : List Seg) (rest : Str) (hb : Boundary rest) (hne : it ≠ [])
    (hok : itemOk sq it = true) :
    tokens sq (itemText sq it ++ rest) = (itemQuoted it, itemVal it) :: tokens sq rest := by
  have := item_read sq rest hb it {} .ws hok (Or.inl hne)
  simp only [tokens]
  rw [this]
  rcases item_nonvoid sq it hne hok with h | h
  · simp [emitQ, isWsState, h]
  · simp [emitQ, isWsState, h]

/-- general form of `tokens_mixed_line` -/
theorem tokens_layout (sq : Bool) (trail : Str) (ht : trail.all isWs = true) :
    ∀ items : List (Str × List Seg),
      (∀ p ∈ items, p.1.all isWs = true ∧ p.2 ≠ [] ∧ itemOk sq p.2 = true) →
      (∀ p ∈ items.tail, p.1 ≠ []) →
      tokens sq (layout sq items ++ trail) = items.map (fun p => (itemQuoted p.2, itemVal p.2)) := by
  intro items
  induction items with
  | nil =>
    intro _ _
    have := tokens_ws sq trail [] ht
    simp only [List.append_nil] at this
    simp only [layout, List.nil_append, List.map_nil]
    rw [this]
    simp [tokens, run, finish, emit, result]
  | cons p r ih =>
    intro h1 h2
    obtain ⟨sep, it⟩ := p
    obtain ⟨hs, hne, hok⟩ := h1 (sep, it) (by simp)
    simp only [layout, List.append_assoc, List.map_cons]
    rw [tokens_ws sq sep _ hs]
    have hb : Boundary (layout sq r ++ trail) := by
      cases r with
      | nil =>
        cases trail with
        | nil => left; rfl
        | cons c t =>
          right; simp only [List.all_cons, Bool.and_eq_true] at ht
          exact ⟨c, t, rfl, ht.1⟩
      | cons q r' =>
        obtain ⟨sep', it'⟩ := q
        have hq := h1 (sep', it') (by simp)
        have hne' : sep' ≠ [] := h2 (sep', it') (by simp)
        cases sep' with
        | nil => exact absurd rfl hne'
        | cons c t =>
          right
          have := hq.1
          simp only [List.all_cons, Bool.and_eq_true] at this
          exact ⟨c, t ++ (itemText sq it' ++ layout sq r') ++ trail, by simp [layout], this.1⟩
    rw [tokens_item sq it _ hb hne hok]
    rw [ih (fun p hp => h1 p (by simp [hp])) (fun p hp => h2 p (by
      simp only [List.tail_cons]; exact List.mem_of_mem_tail hp))]

/-- `tokens_layout` for arguments given through a function, with the hypotheses on the originals -/
theorem tokens_layout_map {α : Type} (sq : Bool) (trail : Str) (ht : trail.all isWs = true)
    (g : α → Str × List Seg) (items : List α)
    (h1 : ∀ a ∈ items, (g a).1.all isWs = true ∧ (g a).2 ≠ [] ∧ itemOk sq (g a).2 = true)
    (h2 : ∀ a ∈ items.tail, (g a).1 ≠ []) :
    tokens sq (layout sq (items.map g) ++ trail)
      = items.map fun a => (itemQuoted (g a).2, itemVal (g a).2) := by
  rw [tokens_layout sq trail ht, List.map_map]
  · rfl
  · exact List.forall_mem_map.mpr h1
  · rw [← List.map_tail]
    exact List.forall_mem_map.mpr h2

/-- `" ".join(quote(a) for a in args)` as a layout: no whitespace before the
first argument, one space before each of the others -/
def spItems : List Str → List (Str × List Seg)
  | [] => []
  | a :: r => ([], [.q a]) :: r.map (fun b => ([' '], [.q b]))

theorem joinSp_cons_layout (sq : Bool) (r : List Str) : ∀ a : Str,
    joinSp ((a :: r).map (quote sq))
      = quote sq a ++ layout sq (r.map (fun b => ([' '], [Seg.q b]))) := by
  induction r with
  | nil => intro a; simp [joinSp, layout]
  | cons b r' ih =>
    intro a
    have := ih b
    simp only [List.map_cons] at this ⊢
    simp only [joinSp, layout, this, itemText_cons, itemText_nil, Seg.text]
    simp

theorem joinSp_layout (sq : Bool) (args : List Str) :
    joinSp (args.map (quote sq)) = layout sq (spItems args) := by
  cases args with
  | nil => rfl
  | cons a r =>
    rw [joinSp_cons_layout]
    simp [spItems, layout, Seg.text]

theorem wsJoin_layout (sq : Bool) (items : List (Str × Str)) :
    wsJoin items = layout sq (items.map (fun p => (p.1, [Seg.w p.2]))) := by
  induction items with
  | nil => rfl
  | cons p r ih =>
    obtain ⟨sep, w⟩ := p
    simp [wsJoin, layout, ih, Seg.text]

end BreezyVerif.C50
