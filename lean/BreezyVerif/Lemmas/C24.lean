import BreezyVerif.Model.C24
import BreezyVerif.Lemmas.Lib.AList
/-! C24 — association-list dictionaries, loops over their items, and the tag-merging loop of which
`_reconcile_tags` and the git → git merge are instances. -/
namespace BreezyVerif.C24
open Lib

section dict
variable {κ ν : Type} [DecidableEq κ]

@[simp] theorem dget_nil (n : κ) : dget ([] : Dict κ ν) n = none := rfl

theorem dget_cons (k : κ) (v : ν) (r : Dict κ ν) (n : κ) :
    dget ((k, v) :: r) n = if k = n then some v else dget r n := rfl

theorem dget_eq_lookup (d : Dict κ ν) (n : κ) : dget d n = d.lookup n :=
  lookup_of_eqns dget_nil dget_cons d n

theorem dset_eq_set (d : Dict κ ν) (k : κ) (v : ν) : dset d k v = AList.set d k v := by
  induction d with
  | nil => rfl
  | cons e r ih => unfold dset AList.set; split <;> simp_all

theorem dget_dset_self (d : Dict κ ν) (k : κ) (v : ν) : dget (dset d k v) k = some v := by
  simp [dget_eq_lookup, dset_eq_set, AList.lookup_set]

theorem dget_dset_ne (d : Dict κ ν) (k n : κ) (v : ν) (h : k ≠ n) :
    dget (dset d k v) n = dget d n := by
  simp [dget_eq_lookup, dset_eq_set, AList.lookup_set, Ne.symm h]

theorem dkeys_cons (k : κ) (v : ν) (r : Dict κ ν) : dkeys ((k, v) :: r) = k :: dkeys r := rfl

theorem dkeys_nodup_cons {k : κ} {v : ν} {r : Dict κ ν} :
    (dkeys ((k, v) :: r)).Nodup ↔ k ∉ dkeys r ∧ (dkeys r).Nodup := List.nodup_cons

theorem dget_eq_none_iff (d : Dict κ ν) (n : κ) : dget d n = none ↔ n ∉ dkeys d :=
  dget_eq_lookup d n ▸ lookup_eq_none_iff_keys

theorem dget_isSome_iff (d : Dict κ ν) (n : κ) : (dget d n).isSome ↔ n ∈ dkeys d :=
  dget_eq_lookup d n ▸ lookup_isSome_iff_keys

theorem dget_some_mem (d : Dict κ ν) (n : κ) (v : ν) (h : dget d n = some v) : (n, v) ∈ d :=
  mem_of_lookup (dget_eq_lookup d n ▸ h)

theorem dget_forall {P : ν → Prop} {d : Dict κ ν} (h : ∀ e ∈ d, P e.2) (n : κ) (v : ν)
    (hg : dget d n = some v) : P v :=
  h (n, v) (dget_some_mem d n v hg)

theorem dget_of_mem (d : Dict κ ν) (hn : (dkeys d).Nodup) (n : κ) (v : ν) (h : (n, v) ∈ d) :
    dget d n = some v :=
  dget_eq_lookup d n ▸ lookup_of_mem hn h

theorem dkeys_dset (d : Dict κ ν) (k : κ) (v : ν) :
    dkeys (dset d k v) = if k ∈ dkeys d then dkeys d else dkeys d ++ [k] :=
  dset_eq_set d k v ▸ AList.keys_set d k v

theorem mem_dkeys_dset (d : Dict κ ν) (k n : κ) (v : ν) :
    n ∈ dkeys (dset d k v) ↔ n = k ∨ n ∈ dkeys d := by
  rw [dkeys_dset]
  split <;> simp_all [or_comm]

theorem dset_nodup (d : Dict κ ν) (k : κ) (v : ν) (h : (dkeys d).Nodup) : (dkeys (dset d k v)).Nodup :=
  dset_eq_set d k v ▸ AList.nodup_keys_set h k v
/-- `d[k] = x` if there is an `x` -/
def dsetOpt (d : Dict κ ν) (k : κ) : Option ν → Dict κ ν
  | none => d
  | some x => dset d k x

theorem dget_dsetOpt_self (d : Dict κ ν) (k : κ) (u : Option ν) :
    dget (dsetOpt d k u) k = u.or (dget d k) := by
  cases u <;> simp [dsetOpt, dget_dset_self]

theorem dget_dsetOpt_ne (d : Dict κ ν) (k n : κ) (u : Option ν) (h : k ≠ n) :
    dget (dsetOpt d k u) n = dget d n := by
  cases u
  · rfl
  · exact dget_dset_ne d k n _ h

theorem dsetOpt_nodup (d : Dict κ ν) (k : κ) (u : Option ν) (h : (dkeys d).Nodup) :
    (dkeys (dsetOpt d k u)).Nodup := by
  cases u
  · exact h
  · exact dset_nodup d k _ h

/-- rounds that act on one key each: with unique keys, what is observed of `n` is changed by the round for
`n` alone, and at most once -/
theorem foldl_local {σ α : Type} (f : σ → κ × ν → σ) (n : κ) (obs : σ → α) (g : ν → α → α)
    (hself : ∀ st v, obs (f st (n, v)) = g v (obs st))
    (hne : ∀ st k v, k ≠ n → obs (f st (k, v)) = obs st)
    (src : Dict κ ν) (hn : (dkeys src).Nodup) (st : σ) :
    obs (src.foldl f st) = match dget src n with
      | some v => g v (obs st)
      | none => obs st := by
  induction src generalizing st with
  | nil => rfl
  | cons e r ih =>
    obtain ⟨k, v⟩ := e
    obtain ⟨hk, hr⟩ := dkeys_nodup_cons.mp hn
    rw [List.foldl_cons, ih hr, dget_cons]
    by_cases h : k = n
    · subst h
      rw [(dget_eq_none_iff r k).mpr hk, if_pos rfl, hself]
    · rw [if_neg h]
      cases dget r n <;> simp only [hne _ _ _ h]

theorem dget_dupdate (a b : Dict κ ν) (hb : (dkeys b).Nodup) (n : κ) :
    dget (dupdate a b) n = (dget b n).or (dget a n) := by
  have h := foldl_local (fun acc (e : κ × ν) => dset acc e.1 e.2) n (fun d => dget d n)
    (fun v _ => some v) (fun d v => dget_dset_self d n v) (fun d k v hk => dget_dset_ne d k n v hk) b hb a
  unfold dupdate
  rw [h]
  cases dget b n <;> rfl

/-- the source's definition of `n`, if the selector lets it through -/
def srcSel (sel : Option (κ → Bool)) (src : Dict κ ν) (n : κ) : Option ν :=
  if selected sel n then dget src n else none

theorem srcSel_forall {P : ν → Prop} {sel : Option (κ → Bool)} {src : Dict κ ν}
    (h : ∀ e ∈ src, selected sel e.1 = true → P e.2) (n : κ) (v : ν)
    (hg : srcSel sel src n = some v) : P v := by
  unfold srcSel at hg
  split at hg
  · exact h (n, v) (dget_some_mem src n v hg) ‹_›
  · cases hg

/-- the conflict reported for tag `k` defined as `s` by the (selected) source and as `d` at present -/
def conflictOf (cf : ν → ν → Bool) (k : κ) : Option ν → Option ν → List (κ × ν × ν)
  | some v, some w => if cf v w then [(k, v, w)] else []
  | _, _ => []

theorem mem_conflictOf (cf : ν → ν → Bool) (k : κ) (s d : Option ν) (c : κ × ν × ν) :
    c ∈ conflictOf cf k s d ↔ c.1 = k ∧ s = some c.2.1 ∧ d = some c.2.2 ∧ cf c.2.1 c.2.2 = true := by
  obtain ⟨cn, cv, cw⟩ := c
  cases s with
  | none => simp [conflictOf]
  | some v =>
    cases d with
    | none => simp [conflictOf]
    | some w =>
      simp only [conflictOf, Option.some.injEq]
      constructor
      · intro h
        split at h
        · cases List.mem_singleton.mp h
          exact ⟨rfl, rfl, rfl, ‹_›⟩
        · cases h
      · rintro ⟨rfl, rfl, rfl, h⟩
        simp [h]

/-- One round of a tag-merging loop (`_reconcile_tags`, the git → git loop) with the policy left open: `upd s d`
is what is written for a tag, if anything, given the source's definition `s` (`none` when the selector rejects
the tag) and the present one `d`; `cf v w` says whether differing definitions are reported as a conflict. -/
def mergeStep (upd : Option ν → Option ν → Option ν) (cf : ν → ν → Bool) (sel : Option (κ → Bool))
    (st : Rec κ ν) (e : κ × ν) : Rec κ ν :=
  let s := if selected sel e.1 then some e.2 else none
  let d := dget st.result e.1
  ⟨dsetOpt st.result e.1 (upd s d), dsetOpt st.updates e.1 (upd s d),
    st.conflicts ++ conflictOf cf e.1 s d⟩

section mergeLoop
variable (upd : Option ν → Option ν → Option ν) (cf : ν → ν → Bool) (sel : Option (κ → Bool))

theorem mergeLoop_get (hnone : ∀ d, upd none d = none) (src : Dict κ ν) (hn : (dkeys src).Nodup)
    (st : Rec κ ν) (n : κ) :
    dget (src.foldl (mergeStep upd cf sel) st).result n
        = (upd (srcSel sel src n) (dget st.result n)).or (dget st.result n)
      ∧ dget (src.foldl (mergeStep upd cf sel) st).updates n
        = (upd (srcSel sel src n) (dget st.result n)).or (dget st.updates n) := by
  have h := foldl_local (mergeStep upd cf sel) n (fun st => (dget st.result n, dget st.updates n))
    (fun v o => ((upd (if selected sel n then some v else none) o.1).or o.1,
      (upd (if selected sel n then some v else none) o.1).or o.2))
    (fun st v => by simp only [mergeStep, dget_dsetOpt_self])
    (fun st k v hk => by simp only [mergeStep, dget_dsetOpt_ne _ _ _ _ hk]) src hn st
  unfold srcSel
  cases hs : dget src n with
  | none => simpa [hs, hnone] using h
  | some v => simpa [hs] using h

theorem mergeLoop_conflicts (src : Dict κ ν) (hn : (dkeys src).Nodup) (st : Rec κ ν) (c : κ × ν × ν) :
    c ∈ (src.foldl (mergeStep upd cf sel) st).conflicts ↔
      c ∈ st.conflicts ∨ (srcSel sel src c.1 = some c.2.1 ∧ dget st.result c.1 = some c.2.2
        ∧ cf c.2.1 c.2.2 = true) := by
  induction src generalizing st with
  | nil => simp [srcSel]
  | cons e r ih =>
    obtain ⟨k, v⟩ := e
    obtain ⟨hk, hr⟩ := dkeys_nodup_cons.mp hn
    have hc : (mergeStep upd cf sel st (k, v)).conflicts = st.conflicts
        ++ conflictOf cf k (if selected sel k then some v else none) (dget st.result k) := rfl
    rw [List.foldl_cons, ih hr, hc, List.mem_append, mem_conflictOf]
    unfold srcSel
    -- keys are unique: the item for `c.1` is met at most once, and until then the dictionary
    -- still holds the initial definition of `c.1`
    by_cases h : k = c.1
    · subst h
      simp [(dget_eq_none_iff r _).mpr hk, dget_cons]
    · have h' : ¬ c.1 = k := fun e => h e.symm
      have : dget (mergeStep upd cf sel st (k, v)).result c.1 = dget st.result c.1 :=
        dget_dsetOpt_ne _ _ _ _ h
      simp [this, dget_cons, h, h']

theorem mergeLoop_nodup (src : Dict κ ν) (st : Rec κ ν) :
    ((dkeys st.result).Nodup → (dkeys (src.foldl (mergeStep upd cf sel) st).result).Nodup)
      ∧ ((dkeys st.updates).Nodup → (dkeys (src.foldl (mergeStep upd cf sel) st).updates).Nodup) :=
  ⟨fun h => List.foldlRecOn (motive := fun st : Rec κ ν => (dkeys st.result).Nodup) src _ h
      fun _ hb _ _ => dsetOpt_nodup _ _ _ hb,
   fun h => List.foldlRecOn (motive := fun st : Rec κ ν => (dkeys st.updates).Nodup) src _ h
      fun _ hb _ _ => dsetOpt_nodup _ _ _ hb⟩

end mergeLoop

end dict

section reconcile
variable {κ ν : Type} [DecidableEq κ] [DecidableEq ν]

/-- what the statement says the value of one tag must be: `s` = source
definition if the tag is in the source and selected, `d` = destination definition -/
def specVal (s d : Option ν) (ow : Bool) : Option ν :=
  match s, d with
  | none, d => d
  | some v, none => some v
  | some v, some w => if v = w then some w else if ow then some v else some w

/-- the update reported for one tag -/
def specUpd (s d : Option ν) (ow : Bool) : Option ν :=
  match s, d with
  | none, _ => none
  | some v, none => some v
  | some v, some w => if v ≠ w ∧ ow = true then some v else none

theorem specVal_none (d : Option ν) (ow : Bool) : specVal none d ow = d := by
  unfold specVal; rfl

theorem specUpd_none (d : Option ν) (ow : Bool) : specUpd none d ow = none := by
  unfold specUpd; rfl

theorem specVal_mem {s d : Option ν} {ow : Bool} {v : ν} (h : specVal s d ow = some v) :
    s = some v ∨ d = some v := by
  unfold specVal at h
  split at h
  · exact Or.inr h
  · exact Or.inl h
  · split at h
    · exact Or.inr h
    · split at h
      · exact Or.inl h
      · exact Or.inr h

theorem specVal_eq_or (s d : Option ν) (ow : Bool) : specVal s d ow = (specUpd s d ow).or d := by
  unfold specVal specUpd
  cases s with
  | none => rfl
  | some v =>
    cases d with
    | none => rfl
    | some w => by_cases h : v = w <;> cases ow <;> simp [h]

theorem step_eq_mergeStep (ow : Bool) (sel : Option (κ → Bool)) (st : Rec κ ν) (e : κ × ν) :
    step ow sel st e = mergeStep (specUpd · · ow) (fun v w => !ow && v != w) sel st e := by
  obtain ⟨k, v⟩ := e
  unfold step stepKind mergeStep
  cases hs : selected sel k with
  | false =>
    have : sel.isSome = true := by cases sel <;> simp_all [selected]
    simp [this, specUpd, dsetOpt, conflictOf]
  | true =>
    cases hc : dget st.result k with
    | none => simp [specUpd, dsetOpt, conflictOf]
    | some w =>
      by_cases hw : w = v
      · simp [hw, specUpd, dsetOpt, conflictOf]
      · have hw' : ¬ v = w := fun e => hw e.symm
        cases ow <;> simp [hw, hw', specUpd, dsetOpt, conflictOf]

theorem reconcile_eq (src dst : Dict κ ν) (ow : Bool) (sel : Option (κ → Bool)) :
    reconcile src dst ow sel
      = src.foldl (mergeStep (specUpd · · ow) (fun v w => !ow && v != w) sel) ⟨dst, [], []⟩ := by
  unfold reconcile
  congr
  funext st e
  exact step_eq_mergeStep ow sel st e

theorem dictNe_false (a b : Dict κ ν) (ha : (dkeys a).Nodup) (h : dictNe a b = false) (n : κ) :
    dget a n = dget b n := by
  simp only [dictNe, Bool.not_eq_false', Bool.and_eq_true, beq_iff_eq, List.all_eq_true] at h
  obtain ⟨hlen, hall⟩ := h
  cases hg : dget a n with
  | some v => exact (hall _ (dget_some_mem a n v hg)).symm
  | none =>
    cases hb : dget b n with
    | none => rfl
    | some w =>
      exfalso
      have hna : n ∉ dkeys a := (dget_eq_none_iff a n).mp hg
      have hnb : n ∈ dkeys b := (dget_isSome_iff b n).mp (by simp [hb])
      have hsub : (n :: dkeys a) ⊆ dkeys b := by
        intro k hk
        rcases List.mem_cons.mp hk with rfl | hk
        · exact hnb
        · simp only [dkeys, List.mem_map] at hk
          obtain ⟨e, he, rfl⟩ := hk
          exact (dget_isSome_iff b e.1).mp (by simp [hall e he])
      have := List.Nodup.length_le_of_subset (List.nodup_cons.mpr ⟨hna, ha⟩) hsub
      simp [dkeys] at this
      omega

/-- `merge` when it has something to do: two branches, a source that supports tags and has some -/
theorem merge_active (src tgt : Dict κ ν) (m : Option (Dict κ ν)) (ow ign : Bool)
    (sel : Option (κ → Bool)) (hne : src ≠ []) :
    merge false true src tgt m ow ign sel =
      match (if ign then none else m) with
      | none => ⟨(mergeTo tgt src ow sel).1, m, (mergeTo tgt src ow sel).2.1,
          (mergeTo tgt src ow sel).2.2.eraseDups⟩
      | some md => ⟨(mergeTo tgt src ow sel).1, some (mergeTo md src ow sel).1,
          dupdate (mergeTo tgt src ow sel).2.1 (mergeTo md src ow sel).2.1,
          ((mergeTo tgt src ow sel).2.2 ++ (mergeTo md src ow sel).2.2).eraseDups⟩ := by
  have he : src.isEmpty = false := by cases src <;> simp_all
  unfold merge
  simp only [he, Bool.not_true, Bool.or_self, Bool.false_eq_true, if_false]
  generalize (if ign = true then none else m) = x
  cases x <;> rfl

end reconcile
end BreezyVerif.C24
