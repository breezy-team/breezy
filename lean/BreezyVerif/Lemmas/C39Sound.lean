import BreezyVerif.Model.C39
/-! C39 helper lemmas: when the applier succeeds, and which conflict it reports otherwise. -/
namespace BreezyVerif.C39

/-- the lines a hunk expects in the old text -/
def oldSide : List HLine → List Line
  | [] => []
  | .ctx l :: r => l :: oldSide r
  | .rem l :: r => l :: oldSide r
  | .ins _ :: r => oldSide r

/-- the lines a hunk produces -/
def newSide : List HLine → List Line
  | [] => []
  | .ctx l :: r => l :: newSide r
  | .ins l :: r => l :: newSide r
  | .rem _ :: r => newSide r

/-- length of the longest common prefix -/
def lcp : List Line → List Line → Nat
  | x :: xs, y :: ys => if x = y then lcp xs ys + 1 else 0
  | _, _ => 0

theorem lcp_le (xs ys : List Line) : lcp xs ys ≤ xs.length ∧ lcp xs ys ≤ ys.length := by
  induction xs generalizing ys with
  | nil => simp [lcp]
  | cons x xs ih =>
    cases ys with
    | nil => simp [lcp]
    | cons y ys =>
      simp only [lcp, List.length_cons]
      split
      · have := ih ys; omega
      · omega

theorem lcp_le_left (xs ys : List Line) : lcp xs ys ≤ xs.length :=
  (lcp_le xs ys).1

theorem applyLines_eq (ln : Nat) (rest : List Line) (hl : List HLine) :
    applyLines ln rest hl =
      if oldSide hl <+: rest then .ok (newSide hl, ln + (oldSide hl).length, rest.drop (oldSide hl).length)
      else .error (.conflict (ln + lcp (oldSide hl) rest)) := by
  induction hl generalizing ln rest with
  | nil => simp [applyLines, oldSide, newSide]
  | cons l hl ih =>
    cases l with
    | ins x =>
      simp only [applyLines, oldSide, newSide, ih]
      by_cases hp : oldSide hl <+: rest <;> simp only [hp, if_true, if_false]
    | ctx x | rem x =>
      cases rest with
      | nil => simp [applyLines, oldSide, lcp]
      | cons y ys =>
        simp only [applyLines, oldSide, newSide, lcp, ih, List.cons_prefix_cons, List.length_cons,
          List.drop_succ_cons, eq_comm (a := x)]
        by_cases h : y = x
        · by_cases hp : oldSide hl <+: ys <;>
            simp only [h, hp, if_true, if_false, true_and, Nat.add_assoc, Nat.add_comm 1]
        · simp only [h, if_false, false_and, Nat.add_zero]

theorem applyFrom_cons (ln : Nat) (rest : List Line) (h : Hunk) (hs : List Hunk) :
    applyFrom ln rest (h :: hs) =
      if h.origPos - ln ≤ rest.length then
        if oldSide h.lines <+: rest.drop (h.origPos - ln) then
          match applyFrom (ln + (h.origPos - ln) + (oldSide h.lines).length)
              ((rest.drop (h.origPos - ln)).drop (oldSide h.lines).length) hs with
          | .error e => .error e
          | .ok r => .ok (rest.take (h.origPos - ln) ++ newSide h.lines ++ r)
        else .error (.conflict (ln + (h.origPos - ln) + lcp (oldSide h.lines) (rest.drop (h.origPos - ln))))
      else .error (.conflict (ln + rest.length)) := by
  rw [applyFrom]
  simp only [applyLines_eq]
  by_cases hp : oldSide h.lines <+: rest.drop (h.origPos - ln)
  · simp only [hp, if_true]
    rfl
  · simp only [hp, if_false]

/-- exact characterisation of a successful application: the output is `ok` iff the
old text is `pre ++ (hunk's old side) ++ rest'` at the hunk's position, and then the
output is `pre ++ (hunk's new side) ++ …` — never anything else -/
theorem apply_ok_iff (ln : Nat) (rest : List Line) (h : Hunk) (hs : List Hunk) (out : List Line) :
    applyFrom ln rest (h :: hs) = .ok out ↔
      ∃ pre rest' out', pre.length = h.origPos - ln ∧ rest = pre ++ oldSide h.lines ++ rest' ∧
        applyFrom (ln + pre.length + (oldSide h.lines).length) rest' hs = .ok out' ∧
        out = pre ++ newSide h.lines ++ out' := by
  rw [applyFrom_cons]
  constructor
  · intro hh
    split at hh
    · rename_i hk
      split at hh
      · rename_i hp
        cases hr : applyFrom (ln + (h.origPos - ln) + (oldSide h.lines).length)
            ((rest.drop (h.origPos - ln)).drop (oldSide h.lines).length) hs with
        | error err => simp only [hr, reduceCtorEq] at hh
        | ok out' =>
          simp only [hr, Except.ok.injEq] at hh
          have hl : (rest.take (h.origPos - ln)).length = h.origPos - ln := by simp [List.length_take]; omega
          refine ⟨_, _, out', hl, ?_, by rw [hl]; exact hr, hh.symm⟩
          rw [List.append_assoc, List.prefix_iff_eq_append.mp hp, List.take_append_drop]
      · simp at hh
    · simp at hh
  · rintro ⟨pre, rest', out', h1, rfl, h3, rfl⟩
    have hd : (pre ++ oldSide h.lines ++ rest').drop (h.origPos - ln) = oldSide h.lines ++ rest' := by
      rw [← h1, List.append_assoc, List.drop_left]
    rw [if_pos (by simp; omega), hd, if_pos (List.prefix_append ..), List.drop_left, ← h1, h3, List.append_assoc pre,
      List.take_left]

/-- every reported line number lies in `[line_no, line_no + remaining lines]`: it
names an existing old line or the line just after the end of the text -/
theorem applyFrom_conflict_range (ln : Nat) (rest : List Line) (hs : List Hunk) (k : Nat)
    (h : applyFrom ln rest hs = .error (.conflict k)) : ln ≤ k ∧ k ≤ ln + rest.length := by
  induction hs generalizing ln rest with
  | nil => simp [applyFrom] at h
  | cons hk hs ih =>
    rw [applyFrom_cons] at h
    split at h
    · split at h
      · rename_i hle hp
        have hlen := List.IsPrefix.length_le hp
        cases hr : applyFrom (ln + (hk.origPos - ln) + (oldSide hk.lines).length)
            ((rest.drop (hk.origPos - ln)).drop (oldSide hk.lines).length) hs with
        | ok out => simp only [hr, reduceCtorEq] at h
        | error err =>
          simp only [hr, Except.error.injEq] at h
          subst h
          have := ih _ _ hr
          simp only [List.length_drop] at this hlen
          omega
      · simp only [Except.error.injEq, ApplyErr.conflict.injEq] at h
        have := (lcp_le (oldSide hk.lines) (rest.drop (hk.origPos - ln))).2
        simp only [List.length_drop] at this
        omega
    · simp only [Except.error.injEq, ApplyErr.conflict.injEq] at h
      omega

end BreezyVerif.C39
