import BreezyVerif.Lemmas.C49Q
/-! C49 — store round trip, one file: writing one
section of reloadable strings and loading the result -/
namespace BreezyVerif.C49

theorem splitLinesAux_line : ∀ (body cur rest : Str), (∀ c ∈ body, isLineBreak c = false) →
    splitLinesAux cur false (body ++ '\n' :: rest) = (cur.reverse ++ body) :: splitLinesAux [] false rest
  | [], cur, rest, _ => by
    simp [splitLinesAux]
  | c :: b, cur, rest, h => by
    have hc : isLineBreak c = false := h c (by simp)
    have hcr : c ≠ '\r' := fun e => by subst e; exact absurd hc (by decide)
    have hnl : c ≠ '\n' := fun e => by subst e; exact absurd hc (by decide)
    have ih := splitLinesAux_line b (c :: cur) rest (fun d hd => h d (List.mem_cons_of_mem _ hd))
    simp only [List.cons_append, splitLinesAux, Bool.false_and, Bool.false_eq_true, if_false, beq_iff_eq, hcr, hnl, hc, ih]
    simp

theorem kwScan_key (q2 : Str) : ∀ (r acc : Str), (∀ d ∈ r, keyChar d = true) →
    kwScan acc (r ++ ' ' :: '=' :: ' ' :: q2) = .kv (acc.reverse ++ r) (q2.dropWhile isSpace)
  | [], acc, _ => by
    have h1 : isSpace ' ' = true := by decide
    have h2 : isSpace '=' = false := by decide
    have hs : startsEq (' ' :: '=' :: ' ' :: q2) = true := by simp [startsEq, h1, h2]
    have ha : afterEq (' ' :: '=' :: ' ' :: q2) = q2.dropWhile isSpace := by simp [afterEq, h1, h2]
    simp only [List.nil_append, kwScan, hs, if_true, ha, List.append_nil]
  | d :: r, acc, h => by
    have hd := h d (by simp)
    have ih := kwScan_key q2 r (d :: acc) (fun e he => h e (List.mem_cons_of_mem _ he))
    have hs : startsEq (d :: (r ++ ' ' :: '=' :: ' ' :: q2)) = false := by
      simp [startsEq, (keyChar_not_blank hd).1, keyChar_ne hd (d := '=') (by decide)]
    simp only [List.cons_append, kwScan, hs, Bool.false_eq_true, if_false, ih]
    simp

theorem plainKey_cons {k : Str} (h : plainKey k = true) :
    ∃ c r, k = c :: r ∧ keyStart c = true ∧ ∀ d ∈ r, keyChar d = true := by
  cases k with
  | nil => simp [plainKey] at h
  | cons c r =>
    simp only [plainKey, Bool.and_eq_true, List.all_eq_true] at h
    exact ⟨c, r, rfl, h.1, h.2⟩

theorem plainKey_lineBreak {k : Str} (h : plainKey k = true) : ∀ c ∈ k, isLineBreak c = false := by
  obtain ⟨c, r, rfl, hc, hr⟩ := plainKey_cons h
  intro d hd
  rcases List.mem_cons.mp hd with e | e
  · subst e; exact (keyChar_not_blank (keyStart_keyChar hc)).2
  · exact (keyChar_not_blank (hr d e)).2

/-- the line `key = q2` is a keyword line with that key and the value `q2` (minus leading blanks) -/
theorem classify_key_line {k : Str} (h : plainKey k = true) (q2 : Str) :
    tailOk (k ++ eqSep ++ q2 ++ []) = false ∧
    classifyLine (k ++ eqSep ++ q2 ++ []) = .kv k (q2.dropWhile isSpace) := by
  obtain ⟨c, r, rfl, hc, hr⟩ := plainKey_cons h
  have hsp := (keyChar_not_blank (keyStart_keyChar hc)).1
  have hne : ∀ d, keyChar d = false → (c == d) = false :=
    fun d hd => beq_false_of_ne (keyChar_ne (keyStart_keyChar hc) hd)
  have e : (c :: r) ++ eqSep ++ q2 ++ [] = c :: (r ++ ' ' :: '=' :: ' ' :: q2) := by simp [eqSep]
  rw [e]
  constructor
  · rw [tailOk_cons_nonspace hsp]; exact hne '#' (by decide)
  · have hd : (c :: (r ++ ' ' :: '=' :: ' ' :: q2)).dropWhile isSpace = c :: (r ++ ' ' :: '=' :: ' ' :: q2) := by
      simp [hsp]
    simp only [classifyLine, hd, hne '[' (by decide), hne '\'' (by decide), hne '"' (by decide),
      hne '#' (by decide), hne '=' (by decide), Bool.false_eq_true, if_false, Bool.or_self]
    rw [kwScan_key q2 r [c] hr]; simp

theorem plainSec_facts {n : Str} (h : plainSec n = true) : n ≠ [] ∧ ∀ c ∈ n, secNameChar c = true := by
  simp only [plainSec, Bool.and_eq_true, Bool.not_eq_true', List.all_eq_true] at h
  constructor
  · intro e; subst e; simp at h
  · exact h.2

/-- the line `[name]` is a section marker -/
theorem classify_header_line {n : Str} (h : plainSec n = true) :
    tailOk ('[' :: n ++ [']']) = false ∧ classifyLine ('[' :: n ++ [']']) = .header n ∧
    ∀ c ∈ '[' :: n ++ [']'], isLineBreak c = false := by
  obtain ⟨hne, hall⟩ := plainSec_facts h
  have hsp : isSpace '[' = false := by decide
  refine ⟨?_, ?_, ?_⟩
  · have : '[' :: n ++ [']'] = '[' :: (n ++ [']']) := rfl
    rw [this, tailOk_cons_nonspace hsp]; decide
  · have hd : ('[' :: n ++ [']']).dropWhile isSpace = '[' :: (n ++ [']']) := by simp [hsp]
    have hrev : (n ++ [']']).reverse = ']' :: n.reverse := by simp
    have hall' : n.reverse.all secNameChar = true := by
      rw [List.all_reverse, List.all_eq_true]; exact hall
    have hne' : n.reverse.isEmpty = false := by
      cases n with
      | nil => exact absurd rfl hne
      | cons a b => simp
    simp only [classifyLine, hd, beq_self_eq_true, if_true, headerLine, hrev, hne', hall', Bool.not_false, Bool.and_self,
      List.reverse_reverse]
  · intro c hc
    simp only [List.cons_append, List.mem_cons, List.mem_append, List.not_mem_nil, or_false] at hc
    rcases hc with rfl | hc | rfl
    · decide
    · exact (secNameChar_not_blank (hall c hc)).2
    · decide

/-- one stored option per line (no inline comments): written by `writeOptLines`, split into lines and
parsed again it yields exactly the stored strings, in order, after what was there -/
theorem write_parse_opts (sec : Option Str) (seen : List Str) :
    ∀ (stored : List (Str × Str)) (acc : List Entry),
      (∀ s ∈ stored, plainKey s.1 = true ∧ Reloadable s.2) →
      (stored.map (·.1)).Nodup →
      (∀ s ∈ stored, ∀ e ∈ acc, ¬ (e.sec = sec ∧ e.key = s.1)) →
      ∃ body, writeOptLines (stored.map fun s => (s.1, s.2, [])) = some body ∧
        parseLines 0 sec seen acc (splitLinesAux [] false body) =
          .opts (acc.reverse ++ stored.map fun s => ⟨sec, s.1, s.2, []⟩)
  | [], acc, _, _, _ => ⟨[], rfl, by simp [splitLinesAux, parseLines]⟩
  | (k, raw) :: r, acc, hall, hnd, hacc => by
    obtain ⟨hk, q2, hq2, hq2lb, hparse⟩ := hall (k, raw) (by simp)
    simp only at hk hq2 hparse
    obtain ⟨hknot, hnd'⟩ := List.nodup_cons.mp hnd
    let e : Entry := ⟨sec, k, raw, []⟩
    have hacc' : ∀ s ∈ r, ∀ e' ∈ e :: acc, ¬ (e'.sec = sec ∧ e'.key = s.1) := by
      intro s hs e' he'
      rcases List.mem_cons.mp he' with h | h
      · subst h
        exact fun hh => hknot (List.mem_map.mpr ⟨s, hs, hh.2.symm⟩)
      · exact hacc s (List.mem_cons_of_mem _ hs) e' h
    obtain ⟨body, hbody, hpl⟩ := write_parse_opts sec seen r (e :: acc)
      (fun s hs => hall s (List.mem_cons_of_mem _ hs)) hnd' hacc'
    refine ⟨k ++ eqSep ++ q2 ++ [] ++ '\n' :: body, ?_, ?_⟩
    · simp only [List.map_cons, writeOptLines, hk, if_true, hq2, hbody]
    · have hline : ∀ c ∈ k ++ eqSep ++ q2 ++ [], isLineBreak c = false := by
        intro c hc
        simp only [List.append_nil, List.mem_append] at hc
        rcases hc with (hc | hc) | hc
        · exact plainKey_lineBreak hk c hc
        · revert c; decide
        · exact hq2lb c hc
      rw [splitLinesAux_line _ [] body hline]
      obtain ⟨ht, hcl⟩ := classify_key_line hk q2
      have hdup : acc.any (fun t => t.sec == sec && t.key == k) = false := by
        rw [List.any_eq_false]
        intro t ht'
        simpa using hacc (k, raw) (by simp) t ht'
      simp only [List.reverse_nil, List.nil_append]
      simp only [parseLines, ht, Bool.false_eq_true, if_false, hcl, hparse, hdup]
      simp only [List.dropWhile_nil]
      rw [hpl]
      simp [e]

/-- a section of stored options (the no-name section or a plainly named one), written and loaded again -/
theorem load_section (sec : Option Str) (hsec : sec.all plainSec = true) (stored : List (Str × Str))
    (hall : ∀ s ∈ stored, plainKey s.1 = true ∧ Reloadable s.2) (hnd : (stored.map (·.1)).Nodup) :
    ∃ content, writeSection sec (stored.map fun s => (s.1, s.2, [])) = some content ∧
      loadContent content = .opts (stored.map fun s => ⟨sec, s.1, s.2, []⟩) := by
  cases sec with
  | none =>
    obtain ⟨body, hbody, hparse⟩ := write_parse_opts none [] stored [] hall hnd (by simp)
    exact ⟨body, hbody, hparse⟩
  | some n =>
    have hn : plainSec n = true := by simpa using hsec
    obtain ⟨body, hbody, hparse⟩ := write_parse_opts (some n) [n] stored [] hall hnd (by simp)
    obtain ⟨ht, hcl, hlb⟩ := classify_header_line hn
    refine ⟨'[' :: n ++ ']' :: '\n' :: body, by simp [writeSection, hn, hbody], ?_⟩
    unfold loadContent splitLines
    have e : '[' :: n ++ ']' :: '\n' :: body = ('[' :: n ++ [']']) ++ '\n' :: body := by simp
    rw [e, splitLinesAux_line _ [] body hlb]
    simp only [List.reverse_nil, List.nil_append]
    simp only [parseLines, ht, Bool.false_eq_true, if_false, hcl]
    simp only [List.contains_nil, List.any_nil, Bool.or_self, Bool.false_eq_true, if_false]
    exact hparse

theorem quoteAll_ok (fix : Bool) : ∀ (opts : List (Str × Str)), (∀ o ∈ opts, okFor fix o.2 = true) →
    ∃ stored : List (Str × Str), quoteAll fix opts = some (stored.map fun s => (s.1, s.2, [])) ∧
      stored.map (fun s => (s.1, unquote s.2)) = opts ∧ ∀ s ∈ stored, Reloadable s.2
  | [], _ => ⟨[], rfl, rfl, by simp⟩
  | (k, v) :: r, h => by
    obtain ⟨q1, hq, hu, hr⟩ := storeQuote_reloadable fix v (h (k, v) (by simp))
    obtain ⟨st, hst, hopts, hrel⟩ := quoteAll_ok fix r (fun o ho => h o (List.mem_cons_of_mem _ ho))
    refine ⟨(k, q1) :: st, by simp [quoteAll, hq, hst], by simp [hu, hopts], ?_⟩
    intro s hs
    rcases List.mem_cons.mp hs with e | e
    · subst e; exact hr
    · exact hrel s e

end BreezyVerif.C49
