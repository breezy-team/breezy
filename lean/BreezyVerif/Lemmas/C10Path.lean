import BreezyVerif.Lemmas.C10
/-!
C10 — paths in well-formed id-space trees: fuel monotonicity of `pathFuel`,
injectivity of `pathOf` (from `wf`), `idAt` finds the id that has the path, and
"an id whose path is at or below a filter path is selected"
(`selectIds_complete_tgt/src`): the bounded iterate of `selectIds` is anchored to
the path prefix relation the property speaks about.
-/
namespace BreezyVerif.C10

/-- one step of `pathFuel`, as an equation -/
theorem pathFuel_cases {t : Tree} {n : Nat} {i : Id} {p : Path} (h : pathFuel t (n + 1) i = some p) :
    ∃ e, get t i = some e ∧
      ((e.parent = none ∧ p = []) ∨ ∃ q pp, e.parent = some q ∧ pathFuel t n q = some pp ∧ p = pp ++ [e.name]) := by
  unfold pathFuel at h
  cases hg : get t i with
  | none => simp [hg] at h
  | some e =>
    refine ⟨e, rfl, ?_⟩
    simp only [hg] at h
    cases hp : e.parent with
    | none => left; simp [hp] at h; exact ⟨rfl, h⟩
    | some q =>
      right
      simp only [hp] at h
      cases hq : pathFuel t n q with
      | none => simp [hq] at h
      | some pp =>
        simp [hq] at h
        exact ⟨q, pp, rfl, hq, h.symm⟩

theorem pathFuel_root {t : Tree} {n : Nat} {i : Id} {e : Entry} (hg : get t i = some e) (hp : e.parent = none) :
    pathFuel t (n + 1) i = some [] := by
  unfold pathFuel; simp [hg, hp]

theorem pathFuel_child {t : Tree} {n : Nat} {i p : Id} {e : Entry} {pp : Path} (hg : get t i = some e)
    (hp : e.parent = some p) (hpp : pathFuel t n p = some pp) : pathFuel t (n + 1) i = some (pp ++ [e.name]) := by
  unfold pathFuel; simp [hg, hp, hpp]

theorem pathFuel_le {t : Tree} : ∀ {n : Nat} {i : Id} {p : Path}, pathFuel t n i = some p →
    ∀ m, n ≤ m → pathFuel t m i = some p := by
  intro n
  induction n with
  | zero => intro i p h; simp [pathFuel] at h
  | succ n ih =>
    intro i p h m hm
    obtain ⟨m', rfl⟩ : ∃ m', m = m' + 1 := ⟨m - 1, by omega⟩
    obtain ⟨e, ge, c⟩ := pathFuel_cases h
    rcases c with ⟨hp, rfl⟩ | ⟨q, pp, hq, fq, rfl⟩
    · exact pathFuel_root ge hp
    · exact pathFuel_child ge hq (ih fq m' (by omega))

theorem pathFuel_lt {t : Tree} : ∀ {n : Nat} {i : Id} {p : Path}, pathFuel t n i = some p → p.length < n := by
  intro n
  induction n with
  | zero => intro i p h; simp [pathFuel] at h
  | succ n ih =>
    intro i p h
    obtain ⟨e, ge, c⟩ := pathFuel_cases h
    rcases c with ⟨_, rfl⟩ | ⟨q, pp, _, fq, rfl⟩
    · exact Nat.zero_lt_succ n
    · have := ih fq
      rw [List.length_append, List.length_singleton]
      omega

theorem pathOf_len {t : Tree} {i : Id} {p : Path} (h : pathOf t i = some p) : p.length ≤ t.length := by
  have := pathFuel_lt h
  omega

theorem noSlot_eq {src tgt : Tree} (hn : noSlotOccupant src tgt = true) {i j : Id} {ei ej : Entry}
    (hi : (i, ei) ∈ tgt) (hj : (j, ej) ∈ src) (hp : ei.parent = ej.parent) (hnm : ei.name = ej.name) : i = j := by
  unfold noSlotOccupant at hn
  have h2 := List.all_eq_true.mp (List.all_eq_true.mp hn _ hi) _ hj
  simpa [hp, hnm] using h2

theorem wf_parts {t : Tree} (hw : wf t = true) :
    (rootsOf t).length = 1 ∧ (ids t).Nodup ∧
    (∀ x ∈ t, (match x.2.parent with
      | none => x.2.node.kind == .dir
      | some p => match get t p with
        | some pe => pe.node.kind == .dir
        | none => false) = true) ∧
    noSlotOccupant t t = true ∧ (∀ x ∈ t, (pathOf t x.1).isSome = true) := by
  unfold wf at hw
  simp only [Bool.and_eq_true, beq_iff_eq, decide_eq_true_eq] at hw
  obtain ⟨⟨⟨⟨h1, h2⟩, h3⟩, h4⟩, h5⟩ := hw
  exact ⟨h1, h2, List.all_eq_true.mp h3, h4, List.all_eq_true.mp h5⟩

theorem wf_nodup {t : Tree} (hw : wf t = true) : (ids t).Nodup := (wf_parts hw).2.1

theorem wf_roots {t : Tree} (hw : wf t = true) : ∃ r, rootsOf t = [r] :=
  List.length_eq_one_iff.mp (wf_parts hw).1

theorem mem_rootsOf {t : Tree} {i : Id} : i ∈ rootsOf t ↔ ∃ e, (i, e) ∈ t ∧ e.parent = none := by
  unfold rootsOf
  rw [List.mem_map]
  constructor
  · rintro ⟨⟨k, e⟩, hx, hk⟩
    simp only at hk; subst hk
    rw [List.mem_filter] at hx
    exact ⟨e, hx.1, by simpa using hx.2⟩
  · rintro ⟨e, he, hp⟩
    exact ⟨(i, e), List.mem_filter.mpr ⟨he, by simp [hp]⟩, rfl⟩

theorem wf_oneRoot {t : Tree} (hw : wf t = true) {i j : Id} {ei ej : Entry}
    (hi : (i, ei) ∈ t) (hj : (j, ej) ∈ t) (hpi : ei.parent = none) (hpj : ej.parent = none) : i = j := by
  obtain ⟨r, hr⟩ := wf_roots hw
  have mi : i ∈ rootsOf t := mem_rootsOf.mpr ⟨ei, hi, hpi⟩
  have mj : j ∈ rootsOf t := mem_rootsOf.mpr ⟨ej, hj, hpj⟩
  rw [hr, List.mem_singleton] at mi mj
  rw [mi, mj]

theorem wf_sib {t : Tree} (hw : wf t = true) {i j : Id} {ei ej : Entry}
    (hi : (i, ei) ∈ t) (hj : (j, ej) ∈ t) (hp : ei.parent = ej.parent) (hn : ei.name = ej.name) : i = j :=
  noSlot_eq (wf_parts hw).2.2.2.1 hi hj hp hn

theorem wf_root_dir {t : Tree} (hw : wf t = true) {i : Id} {e : Entry} (hg : get t i = some e)
    (hp : e.parent = none) : e.node.kind = .dir := by
  have := (wf_parts hw).2.2.1 _ (get_mem hg)
  simpa [hp] using this

theorem wf_parent {t : Tree} (hw : wf t = true) {i p : Id} {e : Entry} (hg : get t i = some e)
    (hp : e.parent = some p) : ∃ pe, get t p = some pe ∧ pe.node.kind = .dir := by
  have := (wf_parts hw).2.2.1 _ (get_mem hg)
  simp only [hp] at this
  cases hq : get t p with
  | none => simp [hq] at this
  | some pe => exact ⟨pe, rfl, by simpa [hq] using this⟩

theorem wf_hasPath {t : Tree} (hw : wf t = true) {i : Id} {e : Entry} (hg : get t i = some e) :
    ∃ path, pathOf t i = some path :=
  Option.isSome_iff_exists.mp ((wf_parts hw).2.2.2.2 _ (get_mem hg))

theorem pathFuel_injective {t : Tree} (hw : wf t = true) : ∀ (n : Nat) (i j : Id) (p : Path),
    pathFuel t n i = some p → pathFuel t n j = some p → i = j := by
  intro n
  induction n with
  | zero => intro i j p h; simp [pathFuel] at h
  | succ n ih =>
    intro i j p hi hj
    obtain ⟨ei, gi, ci⟩ := pathFuel_cases hi
    obtain ⟨ej, gj, cj⟩ := pathFuel_cases hj
    rcases ci with ⟨pi, hpi⟩ | ⟨qi, ppi, pi, fi, hpi⟩ <;> rcases cj with ⟨pj, hpj⟩ | ⟨qj, ppj, pj, fj, hpj⟩
    · exact wf_oneRoot hw (get_mem gi) (get_mem gj) pi pj
    · rw [hpi] at hpj; simp at hpj
    · rw [hpj] at hpi; simp at hpi
    · rw [hpi] at hpj
      have := List.append_inj' hpj (by simp)
      obtain ⟨h1, h2⟩ := this
      simp at h2
      subst h1
      have hq : qi = qj := ih qi qj ppi fi fj
      exact wf_sib hw (get_mem gi) (get_mem gj) (by rw [pi, pj, hq]) h2

theorem pathOf_injective {t : Tree} (hw : wf t = true) {i j : Id} {p : Path}
    (hi : pathOf t i = some p) (hj : pathOf t j = some p) : i = j :=
  pathFuel_injective hw _ i j p hi hj

/-- `path2id` of a well-formed tree finds the id that has the path -/
theorem idAt_pathOf {t : Tree} (hw : wf t = true) {a : Id} {p : Path} (h : pathOf t a = some p) :
    idAt t p = some a := by
  have hmem : a ∈ ids t := by
    obtain ⟨e, ge, _⟩ := pathFuel_cases h
    exact mem_ids_of_get ge
  unfold idAt
  cases hf : (ids t).find? (fun i => pathOf t i == some p) with
  | none =>
    rw [List.find?_eq_none] at hf
    exact absurd (by simp [h]) (hf a hmem)
  | some a' =>
    have := List.find?_some hf
    simp only [beq_iff_eq] at this
    rw [pathOf_injective hw this h]

/-- `i` is reached from `a` by `k` child steps in `t` -/
def Below (t : Tree) (a : Id) : Nat → Id → Prop
  | 0, i => a = i
  | k + 1, i => ∃ m, Below t a k m ∧ i ∈ childrenOf t m

theorem below_of_prefix {t : Tree} : ∀ {n : Nat} {i : Id} {path p : Path}, pathFuel t n i = some path → p <+: path →
    ∃ a k, pathFuel t n a = some p ∧ Below t a k i ∧ k ≤ path.length := by
  intro n
  induction n with
  | zero => intro i path p h; simp [pathFuel] at h
  | succ n ih =>
    intro i path p h hp
    obtain ⟨e, ge, c⟩ := pathFuel_cases h
    rcases c with ⟨_, hnil⟩ | ⟨q, pp, hq, fq, hpath⟩
    · subst hnil
      rw [List.prefix_nil] at hp
      subst hp
      exact ⟨i, 0, h, rfl, by simp⟩
    · subst hpath
      rcases List.prefix_concat_iff.mp hp with heq | hpre
      · subst heq
        exact ⟨i, 0, h, rfl, by simp⟩
      · obtain ⟨a, k, fa, da, hk⟩ := ih fq hpre
        refine ⟨a, k + 1, pathFuel_le fa _ (by omega), ⟨q, da, ?_⟩, by simp; omega⟩
        unfold childrenOf
        rw [List.mem_map]
        exact ⟨(i, e), List.mem_filter.mpr ⟨get_mem ge, by simp [hq]⟩, rfl⟩

theorem mem_expand {src tgt : Tree} {s : List Id} {j : Id} :
    j ∈ expandChildren src tgt s ↔ j ∈ s ∨ ∃ m ∈ s, j ∈ childrenOf src m ∨ j ∈ childrenOf tgt m := by
  unfold expandChildren
  rw [mem_unionNew, List.mem_flatMap]
  simp only [List.mem_append]

theorem iterate_keeps {src tgt : Tree} {s : List Id} {j : Id} (h : j ∈ s) :
    ∀ n, j ∈ iterate (expandChildren src tgt) n s :=
  fun n => iterate_invariant (P := (j ∈ ·)) (fun _ h => mem_expand.mpr (Or.inl h)) n s h

theorem iterate_later {src tgt : Tree} {s : List Id} {j : Id} {k : Nat}
    (h : j ∈ iterate (expandChildren src tgt) k s) : ∀ n, k ≤ n → j ∈ iterate (expandChildren src tgt) n s := by
  intro n hn
  obtain ⟨d, rfl⟩ := Nat.exists_eq_add_of_le hn
  rw [iterate_add]
  exact iterate_keeps h d

theorem iterate_below {src tgt : Tree} {s : List Id} {a : Id} (ha : a ∈ s) (inTgt : Bool) :
    ∀ (k : Nat) (i : Id), Below (if inTgt then tgt else src) a k i → i ∈ iterate (expandChildren src tgt) k s := by
  intro k
  induction k with
  | zero => intro i h; cases h; exact ha
  | succ k ih =>
    intro i h
    obtain ⟨m, dm, hc⟩ := h
    rw [iterate_succ_apply]
    refine mem_expand.mpr (Or.inr ⟨m, ih m dm, ?_⟩)
    cases inTgt
    · exact Or.inl hc
    · exact Or.inr hc

theorem mem_selectStart {src tgt : Tree} {filt : List Path} {p : Path} {a : Id} (hp : p ∈ filt)
    (h : idAt tgt p = some a ∨ idAt src p = some a) :
    a ∈ unionNew [] (filt.flatMap fun p => (idAt tgt p).toList ++ (idAt src p).toList) := by
  rw [mem_unionNew]
  right
  rw [List.mem_flatMap]
  refine ⟨p, hp, ?_⟩
  rcases h with h | h <;> simp [h]

theorem selectIds_complete_side {src tgt : Tree} (inTgt : Bool) (hw : wf (if inTgt then tgt else src) = true)
    {filt : List Path} {p path : Path} {i : Id} (hp : p ∈ filt)
    (hi : pathOf (if inTgt then tgt else src) i = some path) (hpre : p <+: path) : i ∈ selectIds src tgt filt := by
  obtain ⟨a, k, fa, da, hk⟩ := below_of_prefix hi hpre
  have hid := idAt_pathOf hw fa
  have hl := pathOf_len hi
  have hstart : idAt tgt p = some a ∨ idAt src p = some a := by
    cases inTgt
    · exact Or.inr hid
    · exact Or.inl hid
  have hlen : (if inTgt then tgt else src).length ≤ src.length + tgt.length := by
    cases inTgt
    · exact Nat.le_add_right _ _
    · exact Nat.le_add_left _ _
  exact iterate_later (iterate_below (mem_selectStart hp hstart) inTgt k i da) _ (by omega)

/-- **an id whose working (target) path is at or below a filter path is selected** -/
theorem selectIds_complete_tgt {src tgt : Tree} (hw : wf tgt = true) {filt : List Path} {p path : Path} {i : Id}
    (hp : p ∈ filt) (hi : pathOf tgt i = some path) (hpre : p <+: path) : i ∈ selectIds src tgt filt :=
  selectIds_complete_side true hw hp hi hpre

/-- **an id whose basis (source) path is at or below a filter path is selected** -/
theorem selectIds_complete_src {src tgt : Tree} (hw : wf src = true) {filt : List Path} {p path : Path} {i : Id}
    (hp : p ∈ filt) (hi : pathOf src i = some path) (hpre : p <+: path) : i ∈ selectIds src tgt filt :=
  selectIds_complete_side false hw hp hi hpre

end BreezyVerif.C10
