import BreezyVerif.Lemmas.C29V3
import BreezyVerif.Lemmas.Lib.Split
/-! `bytes.split`, tuples, protocol-1 request decoding, bencoded argument lists, response handler -/
namespace BreezyVerif.C29

theorem splitByte_eq (sep : UInt8) (b : Bytes) : splitByte sep b = b.splitOn sep := by
  induction b with
  | nil => rfl
  | cons c cs ih =>
    obtain ⟨f, fs, h, h'⟩ := Lib.splitOn_cons sep c cs
    simp [splitByte, ih, h, h']

theorem splitByte_of_notMem {sep : UInt8} {a : Bytes} (h : sep ∉ a) : splitByte sep a = [a] := by
  rw [splitByte_eq, Lib.splitOn_of_not_mem h]

theorem splitByte_append {sep : UInt8} {a : Bytes} (r : Bytes) (h : sep ∉ a) :
    splitByte sep (a ++ sep :: r) = a :: splitByte sep r := by
  rw [splitByte_eq, splitByte_eq, Lib.splitOn_append_cons_of_not_mem h]

theorem splitSoh_eq (b : Bytes) : splitSoh b = splitByte 1 b := by
  induction b with
  | nil => rfl
  | cons c cs ih => rw [splitSoh, splitByte, ih]

theorem splitSoh_ne_nil (b : Bytes) : splitSoh b ≠ [] := by
  rw [splitSoh_eq, splitByte_eq]
  exact List.splitOn_ne_nil 1 b

theorem joinSoh_eq : ∀ args : List Bytes, joinSoh args = [1].intercalate args
  | [] => rfl
  | [a] => by simp [joinSoh]
  | a :: b :: rest => by simp [joinSoh, joinSoh_eq (b :: rest)]

/-- arguments that can travel in a protocol 1/2 tuple: at least one, none
containing the separator `\x01` -/
def tupleOk (args : List Bytes) : Bool := !args.isEmpty && args.all (fun a => !a.contains 1)

theorem splitSoh_joinSoh {args : List Bytes} (h : tupleOk args = true) :
    splitSoh (joinSoh args) = args := by
  simp only [tupleOk, Bool.and_eq_true, Bool.not_eq_true', List.isEmpty_eq_false_iff, List.all_eq_true,
    List.contains_eq_mem, decide_eq_false_iff_not] at h
  rw [splitSoh_eq, splitByte_eq, joinSoh_eq, Lib.splitOn_intercalate 1 h.2 h.1]

namespace Req

theorem feed_line (w : List Bytes → Bool) (buf x : Bytes) :
    feed w (.line buf) x = lineStep w (buf ++ x) := rfl
theorem feed_body (w : List Bytes → Bool) (args : List Bytes) (d : LP) (x : Bytes) :
    feed w (.body args d) x = afterBody args (d.feed x) := rfl
theorem feed_done (w : List Bytes → Bool) (a : List Bytes) (b : Option Bytes) (u x : Bytes) :
    feed w (.done a b u) x = .done a b (u ++ x) := rfl

theorem feed_afterBody (w : List Bytes → Bool) (args : List Bytes) (d : LP) (y : Bytes) :
    feed w (afterBody args d) y = afterBody args (d.feed y) := by
  cases d <;> rfl

theorem feed_lineStep (w : List Bytes → Bool) (u y : Bytes) :
    feed w (lineStep w u) y = lineStep w (u ++ y) := by
  unfold lineStep
  cases h : splitLine u with
  | none => simp only [feed_line]; rfl
  | some lr =>
    obtain ⟨l, rest⟩ := lr
    rw [splitLine_append_some y h]
    simp only
    by_cases hw : w (splitSoh l) = true
    · simp only [hw, if_true, feed_afterBody, LP.feed_append]
    · simp only [hw, Bool.false_eq_true, if_false, feed_done]

theorem feed_append (w : List Bytes → Bool) (s : Req) (a b : Bytes) :
    feed w (feed w s a) b = feed w s (a ++ b) := by
  cases s with
  | line buf => rw [feed_line, feed_lineStep, feed_line, List.append_assoc]
  | body args d => rw [feed_body, feed_afterBody, feed_body, LP.feed_append]
  | done a' b' u => rw [feed_done, feed_done, feed_done, List.append_assoc]
  | failed => rfl

/-- request arguments that survive the line framing: a valid tuple with no newline inside -/
def argsOk (args : List Bytes) : Bool := tupleOk args && args.all (fun a => !a.contains 10)

theorem joinSoh_no_nl {args : List Bytes} (h : args.all (fun a => !a.contains 10) = true) :
    (10 : UInt8) ∉ joinSoh args := by
  intro hm
  rcases Lib.mem_intercalate (joinSoh_eq args ▸ hm) with e | ⟨a, ha, hc⟩
  · exact absurd e (by decide)
  · simpa [hc] using List.all_eq_true.1 h a ha

/-- the argument line written by `_encode_tuple` is read back as one line -/
theorem splitLine_encodeTuple {args : List Bytes} (h : args.all (fun a => !a.contains 10) = true)
    (tail : Bytes) : splitLine (encodeTuple args ++ tail) = some (joinSoh args, tail) := by
  rw [encodeTuple, List.append_assoc, List.singleton_append]
  exact splitLine_of_notMem _ (joinSoh_no_nl h)

theorem feed_init_encode (w : List Bytes → Bool) (args : List Bytes) (body : Option Bytes)
    (rest : Bytes) (hok : argsOk args = true) (hw : w args = body.isSome) :
    feed w (.line []) (reqEncode args body ++ rest) = .done args body rest := by
  simp only [argsOk, Bool.and_eq_true] at hok
  rw [feed_line, List.nil_append, lineStep]
  simp only [reqEncode, List.append_assoc, splitLine_encodeTuple hok.2]
  simp only [splitSoh_joinSoh hok.1, hw]
  cases body with
  | none => simp
  | some b =>
    simp only [Option.isSome_some, if_true, LP.feed_init_encode]
    rfl

end Req

theorem splitColon_eq (b : Bytes) : splitColon b = Lib.splitFirst 58 b := by
  induction b with
  | nil => rfl
  | cons c cs ih => rw [splitColon, Lib.splitFirst, ih]; cases Lib.splitFirst 58 cs <;> rfl

theorem splitColon_of_notMem {l : Bytes} (r : Bytes) (h : (58 : UInt8) ∉ l) :
    splitColon (l ++ 58 :: r) = some (l, r) :=
  (splitColon_eq _).trans (Lib.splitFirst_append_cons h r)

theorem bdecodeItems_item (a tail : Bytes) :
    bdecodeItems (natDigits 10 a.length ++ 58 :: (a ++ tail)) = (bdecodeItems tail).map (a :: ·) := by
  rw [bdecodeItems]
  have hne : natDigits 10 a.length ++ 58 :: (a ++ tail) ≠ [101] := by
    intro h
    have := congrArg List.length h
    have h0 := natDigits_ne_nil 10 a.length
    cases hd : natDigits 10 a.length with
    | nil => exact h0 hd
    | cons c cs => rw [hd] at this; simp at this
  simp only [hne, if_false]
  split
  · rename_i h2
    rw [splitColon_of_notMem _ (natDigits_notMem (by omega) (by omega) _ 58 (by simp))] at h2
    cases h2
  · rename_i ds rest h2
    rw [splitColon_of_notMem _ (natDigits_notMem (by omega) (by omega) _ 58 (by simp))] at h2
    cases h2
    simp only [parseNat_natDigits (base := 10) (by omega) (by omega)]
    have : ¬ (a.length + tail.length < a.length) := by omega
    simp [this]

theorem bdecodeItems_encode (args : List Bytes) :
    bdecodeItems (args.flatMap (fun a => natDigits 10 a.length ++ 58 :: a) ++ [101]) = some args := by
  induction args with
  | nil => rw [bdecodeItems]; simp
  | cons a rest ih =>
    simp only [List.flatMap_cons, List.append_assoc, List.cons_append]
    rw [bdecodeItems_item, ih]
    rfl

theorem Resp.run_append (fx : Bool) (r : Resp) (xs ys : List Ev) :
    r.run fx (xs ++ ys) = (match r.run fx xs with | .error e => .error e | .ok r' => r'.run fx ys) := by
  induction xs generalizing r with
  | nil => simp [Resp.run]
  | cons e es ih =>
    simp only [List.cons_append, Resp.run]
    cases r.step fx e with
    | error x => rfl
    | ok r' => exact ih r'

/-- each body part is appended to `_bytes_parts`; the first one starts the body -/
theorem Resp.run_bytes (fx : Bool) (r : Resp) (cs : List Bytes) :
    r.run fx (cs.map Ev.bytes) =
      .ok { r with bodyStarted := r.bodyStarted || !cs.isEmpty, parts := r.parts ++ cs } := by
  induction cs generalizing r with
  | nil => simp [Resp.run]
  | cons c cs ih =>
    simp only [List.map_cons, Resp.run, Resp.step, ih]
    simp

theorem Resp.run_start (fx ok : Bool) (headers args : Bytes) (es : List Ev) :
    Resp.run fx {} (.headers headers ::
        ([Part.byte (if ok then 83 else 69), .struct args].map Part.ev ++ es))
      = Resp.run fx { status := some (if ok then 83 else 69), args := some args } es := by
  cases ok <;> cases fx <;> rfl

theorem map_ev_bytes (cs : List Bytes) : (cs.map Part.bytes).map Part.ev = cs.map Ev.bytes := by
  rw [List.map_map]; rfl

theorem stream_events (first : List Part) (cs : List Bytes) (t : List Part) :
    (first ++ (cs.map Part.bytes ++ t)).map Part.ev ++ [Ev.end_] =
      first.map Part.ev ++ (cs.map Ev.bytes ++ (t.map Part.ev ++ [.end_])) := by
  rw [List.map_append, List.map_append, map_ev_bytes, List.append_assoc, List.append_assoc]

end BreezyVerif.C29
