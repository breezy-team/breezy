import BreezyVerif.Lemmas.C10Apply
/-!
C10 — the filtered result of `iterChangesG` (both loop variants): its shape, what
is in it, and the trees used by the non-termination witnesses.
-/
namespace BreezyVerif.C10

/-- `iter_changes` ran out of fuel: the closure loop did not finish -/
def isFuel : Except Err (List Change) → Bool
  | .error .fuel => true
  | _ => false

/-- a loop that never finishes from the start state makes `iter_changes` run out of fuel -/
theorem isFuel_of_diverges (impl : Impl) (src tgt : Tree) (p : Path) (f : List Path) (reqv : Bool)
    (hv : (reqv && !(notVersioned src tgt (p :: f)).isEmpty) = false)
    (h : ∀ n, preciseLoop src tgt n (startState src tgt (p :: f)) = none) :
    isFuel (iterChanges impl src tgt (some (p :: f)) false reqv) = true := by
  have h' := h (preciseFuel src tgt)
  unfold startState at h'
  unfold iterChanges
  cases impl <;> simp only [hv, Bool.false_eq_true, if_false, h', isFuel]

/-- … and a loop that finishes from every start state `iter_changes` can hand it never does -/
theorem isFuel_false_of_loop (fx : Bool) (impl : Impl) (src tgt : Tree) (filt : Option (List Path)) (incl reqv : Bool)
    (key : ∀ (sel : List Id) (incl : Bool), ∃ out,
      preciseLoopG fx src tgt (gFuel fx src tgt)
        { precise := tgtParents (baseTgt src tgt sel incl),
          changed := (baseTgt src tgt sel incl ++ baseRemoved src tgt sel).map (·.id), out := [] } [] = some out) :
    isFuel (iterChangesG fx impl src tgt filt incl reqv) = false := by
  unfold iterChangesG
  cases filt with
  | none => cases impl <;> rfl
  | some f =>
    cases f with
    | nil => rfl
    | cons p f =>
      simp only
      split
      · rfl
      · cases impl
        · obtain ⟨out, ho⟩ := key (selectIds src tgt (p :: f)) incl
          simp only [ho]; rfl
        · obtain ⟨out, ho⟩ := key (selectIds src tgt (p :: f)) false
          simp only [ho]; rfl

/-- `a` is `k` or one of its ancestors in the target -/
inductive AncestorOrSelf (tgt : Tree) (k : Id) : Id → Prop where
  | self : AncestorOrSelf tgt k k
  | up {a p : Id} : AncestorOrSelf tgt k a → tgtPar tgt a = some p → AncestorOrSelf tgt k p

theorem tgtParents_reachable {src tgt : Tree} {sel : List Id} {incl : Bool} :
    ∀ p ∈ tgtParents (baseTgt src tgt sel incl), p ∈ reachable src tgt := by
  intro p hp
  obtain ⟨c, hc, hcp⟩ := mem_tgtParents_iff.mp hp
  rw [change_tgtPar (baseTgt_mem hc).1] at hcp
  exact tgtPar_mem_reachable hcp

theorem filteredG_shape (fx : Bool) (impl : Impl) (src tgt : Tree) (p : Path) (f : List Path) (reqv : Bool)
    (cs : List Change) (h : iterChangesG fx impl src tgt (some (p :: f)) false reqv = .ok cs) :
    ∃ extra,
      preciseLoopG fx src tgt (gFuel fx src tgt)
        { precise := tgtParents (baseTgt src tgt (selectIds src tgt (p :: f)) false),
          changed := (baseTgt src tgt (selectIds src tgt (p :: f)) false
                      ++ baseRemoved src tgt (selectIds src tgt (p :: f))).map (·.id),
          out := [] } [] = some extra ∧
      cs = baseTgt src tgt (selectIds src tgt (p :: f)) false
            ++ baseRemoved src tgt (selectIds src tgt (p :: f)) ++ extra := by
  unfold iterChangesG at h
  simp only at h
  split at h
  · cases h
  · cases impl
    · simp only at h
      split at h
      · rename_i extra he
        refine ⟨extra, he, ?_⟩
        cases h; rfl
      · cases h
    · simp only at h
      split at h
      · rename_i extra he
        refine ⟨extra, he, ?_⟩
        simp at h; rw [← h, List.append_assoc]
      · cases h

/-- every changed record of a selected id is emitted before the loop -/
theorem base_complete {src tgt : Tree} {sel : List Id} {i : Id} {c : Change} (hi : i ∈ sel)
    (hc : change src tgt i = some c) (hch : c.isChanged = true) :
    c ∈ baseTgt src tgt sel false ++ baseRemoved src tgt sel := by
  rw [List.mem_append]
  cases ht : get tgt i with
  | some e =>
    left
    unfold baseTgt
    rw [List.mem_filterMap]
    refine ⟨i, ?_, by simp [hc, hch]⟩
    rw [List.mem_filter]
    exact ⟨mem_ids_of_get ht, by simpa using hi⟩
  | none =>
    right
    unfold baseRemoved
    rw [List.mem_filterMap]
    refine ⟨i, ?_, hc⟩
    rw [List.mem_filter]
    have hs : i ∈ ids src := by
      cases hsrc : get src i with
      | none => rw [change_none_iff.mpr ⟨hsrc, ht⟩] at hc; cases hc
      | some s => exact mem_ids_of_get hsrc
    refine ⟨hs, ?_⟩
    simp only [Bool.and_eq_true, Option.isNone_iff_eq_none]
    exact ⟨by simpa using hi, ht⟩

theorem filteredG_closed (fx : Bool) (impl : Impl) (src tgt : Tree) (p : Path) (f : List Path) (reqv : Bool)
    (cs : List Change) (h : iterChangesG fx impl src tgt (some (p :: f)) false reqv = .ok cs) :
    ∃ K : List Id,
      (∀ c ∈ cs, c.isChanged = true ∧ change src tgt c.id = some c) ∧
      (∀ c ∈ cs, c.id ∈ K) ∧
      (∀ k ∈ K, (∃ c ∈ cs, c.id = k) ∨ NotChange src tgt k) ∧
      (∀ k ∈ K, ∀ q, tgtPar tgt k = some q → q ∈ K) ∧
      (∀ c ∈ cs, stoppedDir c = true → ∀ ch ∈ childrenOf src c.id, (∃ c' ∈ cs, c'.id = ch) ∨ NotChange src tgt ch) ∧
      (∀ i ∈ selectIds src tgt (p :: f), ∀ c, change src tgt i = some c → c.isChanged = true → c ∈ cs) := by
  obtain ⟨extra, he, hcs⟩ := filteredG_shape fx impl src tgt p f reqv cs h
  obtain ⟨K, hK⟩ := preciseLoopG_closed fx src tgt _ _ _ _ extra (ginv_start src tgt (selectIds src tgt (p :: f)) false) he
  have hcomplete : ∀ i ∈ selectIds src tgt (p :: f), ∀ c, change src tgt i = some c → c.isChanged = true → c ∈ cs := by
    intro i hi c hc hch
    rw [hcs]; exact List.mem_append.mpr (Or.inl (base_complete hi hc hch))
  refine ⟨K, ?_, ?_, ?_, ?_, ?_, hcomplete⟩
  · intro c hc
    rw [hcs] at hc
    rcases List.mem_append.mp hc with hb | hx
    · rcases List.mem_append.mp hb with hb | hb
      · obtain ⟨h1, h2, _, _⟩ := baseTgt_mem hb
        exact ⟨by simpa using h2, h1⟩
      · obtain ⟨h1, h2, _, _⟩ := baseRemoved_mem hb
        exact ⟨h2, h1⟩
    · exact hK.outTrue c hx
  · intro c hc; rw [hcs] at hc; exact hK.recIn c hc
  · intro k hk; rw [hcs]; exact hK.kDone k hk
  · exact hK.kClosed
  · intro c hc hs ch hch
    rw [hcs] at hc
    rcases List.mem_append.mp hc with hb | hx
    · have hsel : c.id ∈ selectIds src tgt (p :: f) := by
        rcases List.mem_append.mp hb with hb | hb
        · exact (baseTgt_mem hb).2.2.1
        · exact (baseRemoved_mem hb).2.2.1
      have hchsel := selectIds_children_closed hsel (Or.inl hch)
      cases hr : change src tgt ch with
      | none => right; intro r hr'; rw [hr] at hr'; cases hr'
      | some r =>
        by_cases hrc : r.isChanged = true
        · left; exact ⟨r, hcomplete ch hchsel r hr hrc, change_id hr⟩
        · right; intro r' hr'; rw [hr] at hr'; cases hr'; simpa using hrc
    · rw [hcs]; exact hK.kDone ch (hK.kids c hx hs ch hch)

def loopASrc : Tree := [("r", ⟨none, "", .dir⟩), ("a", ⟨some "r", "a", .dir⟩), ("x", ⟨some "a", "x", .dir⟩),
  ("b", ⟨some "r", "b", .dir⟩), ("o", ⟨some "b", "x", .dir⟩)]
/-- `b` renamed to `c`, `a` renamed to `b` (so the unchanged `x` now sits at `b/x`, the old path of
`o`), and `o` moved into `x` -/
def loopATgt : Tree := [("r", ⟨none, "", .dir⟩), ("a", ⟨some "r", "b", .dir⟩), ("x", ⟨some "a", "x", .dir⟩),
  ("b", ⟨some "r", "c", .dir⟩), ("o", ⟨some "x", "y", .dir⟩)]

/-- from the third round on `a` and `x` are pending for ever: the unchanged `x` is needed, the
source entry at its target path is `o`, `o` is emitted again and asks for its parent `x` again -/
theorem loopA_diverges (n : Nat) :
    preciseLoop loopASrc loopATgt n (startState loopASrc loopATgt [["b", "x", "y"]]) = none :=
  preciseLoop_none_of_reaches_cycle (P := ["a", "x"]) (C := ["o", "a", "b"]) (by decide +kernel) 3 _
    (by decide +kernel) n

def loopBSrc : Tree := [("r", ⟨none, "", .dir⟩), ("g", ⟨some "r", "g", .dir⟩), ("i", ⟨some "g", "n", .dir⟩),
  ("o", ⟨some "i", "n", .dir⟩)]
/-- a new directory `h` takes the place of `g`, `g` moves into it as `g/n`: the unchanged `i` now
sits at `g/n/n`, the old path of its own unchanged child `o`; a file is added below `i` -/
def loopBTgt : Tree := [("r", ⟨none, "", .dir⟩), ("h", ⟨some "r", "g", .dir⟩), ("g", ⟨some "h", "n", .dir⟩),
  ("i", ⟨some "g", "n", .dir⟩), ("o", ⟨some "i", "n", .dir⟩), ("f", ⟨some "i", "f", .file "x" false⟩)]

/-- from the fourth round on `g` and `i` are pending for ever and nothing is emitted any more -/
theorem loopB_diverges (n : Nat) :
    preciseLoop loopBSrc loopBTgt n (startState loopBSrc loopBTgt [["g", "n", "n", "f"]]) = none :=
  preciseLoop_none_of_reaches_cycle (P := ["g", "i"]) (C := ["f", "g", "h"]) (by decide +kernel) 4 _
    (by decide +kernel) n

theorem mem_notVersioned {src tgt : Tree} {filt : List Path} {p : Path} :
    p ∈ notVersioned src tgt filt ↔ p ∈ filt ∧ idAt tgt p = none ∧ idAt src p = none := by
  unfold notVersioned
  simp [List.mem_filter, Option.isNone_iff_eq_none]

theorem idAt_none_iff {t : Tree} {p : Path} : idAt t p = none ↔ ∀ i, pathOf t i ≠ some p := by
  unfold idAt
  rw [List.find?_eq_none]
  constructor
  · intro h i hp
    have hm : i ∈ ids t := by
      unfold pathOf pathFuel at hp
      cases hg : get t i with
      | none => simp [hg] at hp
      | some e => exact mem_ids_of_get hg
    exact h i hm (by simp [hp])
  · intro h i _ hp
    exact h i (by simpa using hp)

end BreezyVerif.C10
