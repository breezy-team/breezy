import BreezyVerif.Model.C47
/-! C47 helper lemmas: lexicographic order vs prefix order, the scan of
`minimum_path_selection`. -/
namespace BreezyVerif.C47

open Std in
/-- In lexicographic order, a prefix of `r` that lies below `q ≤ r` is a prefix of `q`. -/
theorem prefix_of_le_of_le {α : Type} [LT α] [LE α] [IsLinearOrder α] [LawfulOrderLT α]
    (p q r : List α) (hpq : p ≤ q) (hqr : q ≤ r) (hpr : p <+: r) : p <+: q := by
  induction p generalizing q r with
  | nil => exact List.nil_prefix
  | cons a p ih =>
    match r, hpr with
    | b :: r, hpr =>
      rw [List.cons_prefix_cons] at hpr
      obtain ⟨rfl, hpr⟩ := hpr
      match q with
      | [] => exact absurd hpq (by simp)
      | c :: q =>
        rw [List.cons_le_cons_iff] at hpq hqr
        rcases hpq with h1 | ⟨rfl, hpq⟩
        · rcases hqr with h2 | ⟨rfl, _⟩
          · exact absurd (Std.lt_trans h1 h2) Std.lt_irrefl
          · exact absurd h1 Std.lt_irrefl
        · rcases hqr with h2 | ⟨_, hqr⟩
          · exact absurd h2 Std.lt_irrefl
          · exact List.cons_prefix_cons.mpr ⟨rfl, ih q r hpq hqr hpr⟩

instance : Std.IsLinearOrder Bytes := inferInstanceAs (Std.IsLinearOrder (List UInt8))
instance : Std.LawfulOrderLT Bytes := inferInstanceAs (Std.LawfulOrderLT (List UInt8))
instance : Std.IsLinearOrder Path := inferInstanceAs (Std.IsLinearOrder (List (List UInt8)))

theorem isInside_iff (d f : Path) : isInside d f = true ↔ d <+: f := by
  unfold isInside; exact List.isPrefixOf_iff_prefix

theorem pathLe_iff (a b : Path) : pathLe a b = true ↔ a ≤ b := by
  unfold pathLe; simp

/-- `Antichain R`: no element of `R` lies inside a different element -/
def Antichain (R : List Path) : Prop := ∀ q ∈ R, ∀ q' ∈ R, q <+: q' → q = q'

abbrev Sorted (l : List Path) : Prop := l.Pairwise (· ≤ ·)

theorem antichain_small (l : List Path) (h : l.length < 2) : Antichain l := by
  intro q hq q' hq' _
  match l, h with
  | [a], _ => simp_all

theorem Antichain.cons {k : Path} {R : List Path} (hR : Antichain R)
    (hk : ∀ q ∈ R, ¬ k <+: q ∧ ¬ q <+: k) : Antichain (k :: R) := by
  intro q hq q' hq' hpre
  rcases List.mem_cons.mp hq with rfl | h1 <;> rcases List.mem_cons.mp hq' with rfl | h2
  · rfl
  · exact absurd hpre (hk q' h2).1
  · exact absurd hpre (hk q h1).2
  · exact hR q h1 q' h2 hpre

theorem scan_sublist (k : Path) (l : List Path) : (scan k l).Sublist l := by
  fun_induction scan k l with
  | case1 => exact .slnil
  | case2 last p ps h ih => exact ih.cons _
  | case3 last p ps h ih => exact ih.cons_cons _

theorem scan_not_inside (k : Path) (l : List Path) (hs : Sorted (k :: l)) :
    ∀ q ∈ scan k l, ¬ k <+: q := by
  fun_induction scan k l with
  | case1 => simp
  | case2 k p ps hin ih => exact ih (hs.sublist (by simp))
  | case3 k p ps hin ih =>
    obtain ⟨hk, hp⟩ := List.pairwise_cons.mp hs
    intro q hq h
    -- `k ≤ p ≤ q` and `k` a prefix of `q` would make `k` a prefix of `p`
    have hpq : p ≤ q := by
      rcases List.mem_cons.mp hq with rfl | hq
      · exact Std.le_refl _
      · exact (List.pairwise_cons.mp hp).1 q ((scan_sublist _ _).mem hq)
    exact hin ((isInside_iff _ _).mpr (prefix_of_le_of_le k p q (hk p (by simp)) hpq h))

theorem scan_cover (k : Path) (l : List Path) :
    ∀ x ∈ l, ∃ q ∈ k :: scan k l, q <+: x := by
  fun_induction scan k l with
  | case1 => simp
  | case2 k p ps hin ih =>
    intro x hx
    rcases List.mem_cons.mp hx with rfl | hx
    · exact ⟨k, by simp, (isInside_iff _ _).mp hin⟩
    · exact ih x hx
  | case3 k p ps hin ih =>
    intro x hx
    rcases List.mem_cons.mp hx with rfl | hx
    · exact ⟨x, by simp, List.prefix_refl _⟩
    · obtain ⟨q, hq, hqx⟩ := ih x hx
      exact ⟨q, List.mem_cons_of_mem _ hq, hqx⟩

theorem scan_antichain (k : Path) (l : List Path) (hs : Sorted (k :: l)) :
    Antichain (k :: scan k l) := by
  fun_induction scan k l with
  | case1 => exact antichain_small _ (by simp)
  | case2 k p ps hin ih => exact ih (hs.sublist (by simp))
  | case3 k p ps hin ih =>
    refine Antichain.cons (ih (List.pairwise_cons.mp hs).2) fun q hq => ?_
    -- `k` is not inside anything kept after it, and nothing kept is inside `k`: that would be `k` itself
    have hnot := scan_not_inside k (p :: ps) hs
    have hmem := (scan_sublist k (p :: ps)).subset
    rw [scan, if_neg hin] at hnot hmem
    refine ⟨hnot q hq, fun h => hnot q hq ?_⟩
    rw [Std.le_antisymm h.le ((List.pairwise_cons.mp hs).1 q (hmem hq))]
    exact List.prefix_refl _

theorem sorted_sortPaths (ps : List Path) : Sorted (sortPaths ps) := by
  unfold sortPaths
  have := List.pairwise_mergeSort (le := pathLe)
    (fun a b c h1 h2 => (pathLe_iff a c).mpr (Std.le_trans ((pathLe_iff a b).mp h1) ((pathLe_iff b c).mp h2)))
    (fun a b => by
      rcases Std.le_total (a := a) (b := b) with h | h
      · simp [(pathLe_iff a b).mpr h]
      · simp [(pathLe_iff b a).mpr h])
    ps
  exact this.imp (fun h => (pathLe_iff _ _).mp h)

theorem mem_sortPaths (ps : List Path) (q : Path) : q ∈ sortPaths ps ↔ q ∈ ps :=
  (List.mergeSort_perm ps pathLe).mem_iff

theorem mps_cover' (ps : List Path) : ∀ p ∈ ps, ∃ q ∈ mps ps, q <+: p := by
  intro p hp
  unfold mps
  split
  · exact ⟨p, hp, List.prefix_refl _⟩
  · split
    · rename_i hsort
      rw [← mem_sortPaths, hsort] at hp
      simp at hp
    · rename_i s0 rest hsort
      rw [← mem_sortPaths, hsort] at hp
      rcases List.mem_cons.mp hp with rfl | hp
      · exact ⟨p, by simp, List.prefix_refl _⟩
      · exact scan_cover s0 rest p hp

theorem mps_antichain' (ps : List Path) : Antichain (mps ps) := by
  unfold mps
  split
  · rename_i h; exact antichain_small ps h
  · split
    · intro q hq; simp at hq
    · rename_i s0 rest hsort
      apply scan_antichain
      rw [← hsort]
      exact sorted_sortPaths ps

end BreezyVerif.C47
