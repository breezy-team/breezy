import BreezyVerif.Lemmas.C02Inv
/-
C02: the literal `merged_ids` / `parent_entries` / `changes` bookkeeping of
`record_iter_changes` (`codeRecordOne`, `mkRecB`, `buildB`) computes what the
specification-level `recordOne` / `mkRec` / `build` compute, provided
`iter_changes` reports a file id exactly when its attributes differ from the
basis entry's.
-/
namespace BreezyVerif.C02

theorem filter_filter_of_imp {l : List Nat} {p q : Nat → Bool} (h : ∀ a ∈ l, p a = true → q a = true) :
    (l.filter q).filter p = l.filter p := by
  induction l with
  | nil => rfl
  | cons a l ih =>
    have ih' := ih fun b hb => h b (List.mem_cons_of_mem _ hb)
    simp only [List.filter_cons]
    by_cases hq : q a = true
    · simp only [hq, if_true, List.filter_cons, ih']
    · have hp : ¬ p a = true := fun hp => hq (h a List.mem_cons_self hp)
      simp only [hq, hp]
      exact ih'

theorem dedup_filter (l : List Nat) (p : Nat → Bool) : (dedup l).filter p = dedup (l.filter p) := by
  induction l with
  | nil => rfl
  | cons x xs ih =>
    simp only [dedup, List.filter_cons]
    by_cases hp : p x = true
    · simp only [hp, if_true, dedup, ← ih, List.cons.injEq, true_and]
      rw [List.filter_filter, List.filter_filter]
      apply List.filter_congr
      intro a _
      exact Bool.and_comm _ _
    · have hp' : p x = false := by simpa using hp
      simp only [hp', Bool.false_eq_true, ↓reduceIte]
      rw [← ih]
      apply filter_filter_of_imp
      intro a _ ha
      simp only [bne_iff_ne, ne_eq]
      intro e; exact hp (e ▸ ha)

/-- removing entries that are *identical* to `e0` from the tail does not change
the de-duplicated revision list that starts with `e0.rev` -/
theorem dedup_drop_identical (e0 : Entry) (xs : List Entry) :
    dedup ((e0 :: xs.filter fun e => some e != some e0).map (·.rev))
      = dedup ((e0 :: xs).map (·.rev)) := by
  simp only [List.map_cons, dedup, List.cons.injEq, true_and]
  rw [dedup_filter, dedup_filter]
  congr 1
  induction xs with
  | nil => rfl
  | cons e xs ih =>
    by_cases he : e = e0
    · subst he
      simp [ih]
    · have h1 : (some e != some e0) = true := by simp [he]
      simp only [List.filter_cons, h1, if_true, List.map_cons]
      by_cases hr : (e.rev != e0.rev) = true
      · simp only [hr, if_true, ih]
      · simp only [hr, ih]

theorem candEntries_cons (st : State) (b : Rev) (others : List Rev) (f : FileId) :
    candEntries st (b :: others) f
      = (entryIn st f b).toList ++ others.filterMap (entryIn st f) := by
  simp only [candEntries, List.filterMap_cons]
  cases entryIn st f b <;> rfl

theorem laterDiffs_cons (st : State) (b : Rev) (others : List Rev) (f : FileId) :
    laterDiffs st (b :: others) f
      = (others.filterMap (entryIn st f)).filter fun e => some e != entryIn st f b := by
  rw [List.filter_filterMap]
  show others.filterMap _ = _
  congr 1
  funext q
  cases entryIn st f q with
  | none => rfl
  | some e =>
    rw [Option.filter_some]
    show (if some e = entryIn st f b then none else some e) = _
    by_cases h : some e = entryIn st f b
    · rw [if_pos h, if_neg (by rw [h]; exact fun hh => absurd rfl (bne_iff_ne.mp hh))]
    · rw [if_neg h, if_pos (bne_iff_ne.mpr h)]

/-- `merged_ids.get(f, [basis revision] or [])`, whether or not `f` is in
`merged_ids`: the basis revision followed by the differing later revisions -/
def rawCands (st : State) (ps : List Rev) (f : FileId) : List Rev :=
  ((basisEntry st ps f).toList ++ laterDiffs st ps f).map (·.rev)

/-- de-duplicated, the code's head candidates are the specification's -/
theorem dedup_rawCands (st : State) (ps : List Rev) (f : FileId) :
    dedup (rawCands st ps f) = candidates st ps f := by
  cases ps with
  | nil => rfl
  | cons b others =>
    simp only [rawCands, basisEntry, candidates, candEntries_cons, laterDiffs_cons]
    cases hb : entryIn st f b with
    | none =>
      have : ((others.filterMap (entryIn st f)).filter fun e => some e != (none : Option Entry))
          = others.filterMap (entryIn st f) := by
        apply List.filter_eq_self.mpr
        intro e _; simp
      simp only [Option.toList, List.nil_append, this]
    | some e0 =>
      simp only [Option.toList, List.singleton_append]
      exact dedup_drop_identical e0 _

/-- the specification finds the basis entry under its own revision -/
theorem entryWithRev_basis {st : State} {ps : List Rev} {f : FileId} {e0 : Entry}
    (hb : basisEntry st ps f = some e0) : entryWithRev st ps f e0.rev = some e0 := by
  cases ps with
  | nil => cases hb
  | cons b others =>
    have hb' : entryIn st f b = some e0 := hb
    simp [entryWithRev, candEntries_cons, hb']

/-- `f` is not in `merged_ids`: every parent that holds `f` holds the basis entry -/
theorem candidates_unmerged {st : State} {ps : List Rev} {f : FileId} (hd : laterDiffs st ps f = []) :
    candidates st ps f = (basisEntry st ps f).toList.map (·.rev) := by
  rw [← dedup_rawCands, rawCands, hd, List.append_nil]
  cases basisEntry st ps f <;> rfl

theorem lastWithRev_some {l : List Entry} {h : Rev} {x : Entry} (hx : lastWithRev l h = some x) :
    x ∈ l ∧ x.rev = h := by
  induction l with
  | nil => simp [lastWithRev] at hx
  | cons e es ih =>
    simp only [lastWithRev] at hx
    cases hl : lastWithRev es h with
    | some y =>
      simp only [hl, Option.some.injEq] at hx
      subst hx
      exact ⟨List.mem_cons_of_mem _ (ih hl).1, (ih hl).2⟩
    | none =>
      simp only [hl] at hx
      by_cases he : (e.rev == h) = true
      · simp only [he, if_true, Option.some.injEq] at hx
        subst hx
        exact ⟨List.mem_cons_self, by simpa using he⟩
      · simp [he] at hx

theorem lastWithRev_none {l : List Entry} {h : Rev} (hx : lastWithRev l h = none) :
    ∀ e ∈ l, e.rev ≠ h := by
  induction l with
  | nil => simp
  | cons e es ih =>
    simp only [lastWithRev] at hx
    cases hl : lastWithRev es h with
    | some y => simp [hl] at hx
    | none =>
      simp only [hl] at hx
      intro e' he'
      rcases List.mem_cons.mp he' with h1 | h1
      · subst h1
        intro e1
        simp [e1] at hx
      · exact ih hl e' h1

/-- in a well-formed repository the entry of `f` is determined by its
last-changed revision -/
theorem WF.entry_unique {st : State} (w : WF st) {f : FileId} {p p' : Rev} {e e' : Entry}
    (h : entryIn st f p = some e) (h' : entryIn st f p' = some e') (hr : e.rev = e'.rev) :
    e = e' := by
  obtain ⟨r, hr1, _, hl⟩ := entryIn_mem h
  obtain ⟨r', hr1', _, hl'⟩ := entryIn_mem h'
  have s1 := w.sound r hr1 f e hl
  have s2 := w.sound r' hr1' f e' hl'
  rw [hr, s2] at s1
  exact (Option.some.inj s1).symm

theorem mem_candEntries {st : State} {ps : List Rev} {f : FileId} {e : Entry} :
    e ∈ candEntries st ps f ↔ ∃ p ∈ ps, entryIn st f p = some e := by
  simp [candEntries, List.mem_filterMap]

/-- `parent_entries[f].get(h)` finds what the specification finds, when `f` is
in `merged_ids` -/
theorem lastWithRev_merged {st : State} (w : WF st) (ps : List Rev) (f : FileId) (h : Rev)
    (hne : laterDiffs st ps f ≠ []) :
    lastWithRev ((basisEntry st ps f).toList ++ laterDiffs st ps f) h = entryWithRev st ps f h := by
  cases ps with
  | nil => exact absurd rfl hne
  | cons b others =>
    -- both lists hold the same entries
    have sub : ∀ e, e ∈ (basisEntry st (b :: others) f).toList ++ laterDiffs st (b :: others) f →
        e ∈ candEntries st (b :: others) f := by
      intro e he
      rw [candEntries_cons]
      rcases List.mem_append.mp he with h1 | h1
      · exact List.mem_append_left _ h1
      · rw [laterDiffs_cons] at h1
        exact List.mem_append_right _ (List.mem_filter.mp h1).1
    have sup : ∀ e, e ∈ candEntries st (b :: others) f →
        e ∈ (basisEntry st (b :: others) f).toList ++ laterDiffs st (b :: others) f := by
      intro e he
      rw [candEntries_cons] at he
      rcases List.mem_append.mp he with h1 | h1
      · exact List.mem_append_left _ h1
      · by_cases hb : some e = entryIn st f b
        · apply List.mem_append_left
          simp only [basisEntry, ← hb, Option.toList, List.mem_singleton]
        · apply List.mem_append_right
          rw [laterDiffs_cons]
          exact List.mem_filter.mpr ⟨h1, by simp [hb]⟩
    have uniq : ∀ e e', e ∈ candEntries st (b :: others) f → e' ∈ candEntries st (b :: others) f →
        e.rev = e'.rev → e = e' := by
      intro e e' he he' hr
      obtain ⟨p, _, hp⟩ := mem_candEntries.mp he
      obtain ⟨p', _, hp'⟩ := mem_candEntries.mp he'
      exact w.entry_unique hp hp' hr
    cases hl : lastWithRev ((basisEntry st (b :: others) f).toList ++ laterDiffs st (b :: others) f) h with
    | some x =>
      obtain ⟨hx, hxr⟩ := lastWithRev_some hl
      cases hf : entryWithRev st (b :: others) f h with
      | some y =>
        simp only [entryWithRev] at hf
        have hy := List.mem_of_find?_eq_some hf
        have hyr : y.rev = h := by simpa using List.find?_some hf
        rw [uniq x y (sub x hx) hy (hxr.trans hyr.symm)]
      | none =>
        simp only [entryWithRev, List.find?_eq_none] at hf
        exact absurd (by simpa using hxr) (hf x (sub x hx))
    | none =>
      have hn := lastWithRev_none hl
      cases hf : entryWithRev st (b :: others) f h with
      | some y =>
        simp only [entryWithRev] at hf
        have hy := List.mem_of_find?_eq_some hf
        have hyr : y.rev = h := by simpa using List.find?_some hf
        exact absurd hyr (hn y (sup y hy))
      | none => rfl

/-- the loop body on the code's candidates and parent entries is `recordOne` -/
theorem processChange_eq (st : State) (c : Commit) (f : FileId) (a : Attr) (pes : List Entry)
    (cands : List Rev) (hc : dedup cands = candidates st c.parents f)
    (hp : ∀ h, heads (textsOf st) f (candidates st c.parents f) = [h] →
      lastWithRev pes h = entryWithRev st c.parents f h) :
    processChange st c f a pes cands = recordOne st c f a := by
  simp only [processChange, recordOne, hc]
  split
  · rename_i h hh
    rw [hp h hh]
  · rfl

theorem synthAttr_self (a : Attr) : synthAttr a a = some a := by
  obtain ⟨p, n, k⟩ := a
  cases k <;> rfl

theorem mergedEntries_eq (st : State) (ps : List Rev) (f : FileId) :
    (laterDiffs st ps f = [] ∧ mergedEntries st ps f = []) ∨
    (laterDiffs st ps f ≠ [] ∧
      mergedEntries st ps f = (basisEntry st ps f).toList ++ laterDiffs st ps f ∧
      mergedEntries st ps f ≠ []) := by
  simp only [mergedEntries]
  cases h : laterDiffs st ps f with
  | nil => left; exact ⟨rfl, rfl⟩
  | cons d ds => right; exact ⟨by simp, rfl, by simp⟩

/-- **the literal bookkeeping refines the specification**, per file id -/
theorem codeRecordOne_eq {st : State} (w : WF st) (c : Commit) (f : FileId) (a : Attr) :
    codeRecordOne st c f a (differs st c f a)
      = .entry (recordOne st c f a).1 (recordOne st c f a).2 := by
  have hraw := dedup_rawCands st c.parents f
  rcases mergedEntries_eq st c.parents f with ⟨hd, hm⟩ | ⟨hd, hm, hmne⟩
  · -- `f` is not in `merged_ids`: the candidates are the basis entry's revision, if there is one
    have hcand := candidates_unmerged hd
    cases hb : basisEntry st c.parents f with
    | none =>
      rw [hb] at hcand
      have hdf : differs st c f a = true := by simp [differs, hb]
      simp only [codeRecordOne, hdf, if_true, hm, hb, recordOne_cands_nil a hcand]
      rfl
    | some e0 =>
      rw [hb] at hcand
      have hrec := recordOne_cands_single a hcand (entryWithRev_basis hb)
      by_cases hq : e0.attr = a
      · have hdf : differs st c f a = false := by simp [differs, hb, hq]
        simp only [codeRecordOne, hdf, Bool.false_eq_true, if_false, hm, hb, hrec, if_pos hq]
      · have hdf : differs st c f a = true := by simp [differs, hb, hq]
        simp only [codeRecordOne, hdf, if_true, hm, hb, hrec, if_neg hq]
        simp [processChange, heads_singleton, lastWithRev, dedup]
  · -- `f` is in `merged_ids`
    have hcands : dedup ((mergedEntries st c.parents f).map (·.rev)) = candidates st c.parents f := by
      rw [hm]; exact hraw
    have hpes : ∀ h, lastWithRev (mergedEntries st c.parents f) h = entryWithRev st c.parents f h := by
      intro h; rw [hm]; exact lastWithRev_merged w c.parents f h hd
    have key : ∀ a', processChange st c f a' (mergedEntries st c.parents f)
        ((mergedEntries st c.parents f).map (·.rev)) = recordOne st c f a' := fun a' =>
      processChange_eq st c f a' _ _ hcands fun h _ => hpes h
    obtain ⟨m, ms, hmm⟩ : ∃ m ms, mergedEntries st c.parents f = m :: ms := by
      cases hx : mergedEntries st c.parents f with
      | nil => exact absurd hx hmne
      | cons m ms => exact ⟨m, ms, rfl⟩
    by_cases hdf : differs st c f a = true
    · have := key a
      rw [hmm] at this
      simp only [codeRecordOne, hdf, if_true, hmm, this]
    · have hdfb : differs st c f a = false := by simpa using hdf
      have hdf' := hdfb
      simp only [differs, bne_eq_false_iff_eq] at hdf'
      cases hb : basisEntry st c.parents f with
      | none => simp [hb] at hdf'
      | some e0 =>
        simp only [hb, Option.map_some, Option.some.injEq] at hdf'
        have hs : synthAttr e0.attr a = some a := by rw [hdf']; exact synthAttr_self a
        have := key a
        rw [hmm] at this
        simp only [codeRecordOne, hdfb, Bool.false_eq_true, if_false, hmm, hb, hs, this]

theorem texts_filterMap_eq (l : Tree) (R : FileId → Attr → Entry × Option (List Rev)) :
    ((l.map fun t => (t.1, Outcome.entry (R t.1 t.2).1 (R t.1 t.2).2)).filterMap fun o =>
        o.2.textItem o.1)
      = l.filterMap fun t => (R t.1 t.2).2.map fun ps => (t.1, ps) := by
  induction l with
  | nil => rfl
  | cons t l ih =>
    simp only [List.map_cons, List.filterMap_cons, ih]
    cases (R t.1 t.2).2 <;> simp [Outcome.textItem]

theorem inv_filterMap_eq (l : Tree) (R : FileId → Attr → Entry × Option (List Rev)) :
    ((l.map fun t => (t.1, Outcome.entry (R t.1 t.2).1 (R t.1 t.2).2)).filterMap fun o =>
        o.2.invItem o.1)
      = l.map fun t => (t.1, (R t.1 t.2).1) := by
  induction l with
  | nil => rfl
  | cons t l ih =>
    simp only [List.map_cons, List.filterMap_cons, ih]
    rfl

theorem any_undefined_false (l : Tree) (R : FileId → Attr → Entry × Option (List Rev)) :
    ((l.map fun t => (t.1, Outcome.entry (R t.1 t.2).1 (R t.1 t.2).2)).any
      fun o => o.2 == Outcome.undefined) = false := by
  induction l with
  | nil => rfl
  | cons t l ih =>
    simp only [List.map_cons, List.any_cons, ih, Bool.or_false]
    rfl

/-- one commit: the literal bookkeeping records the same revision -/
theorem mkRecB_eq {st : State} (w : WF st) (c : Commit) (rep : List FileId)
    (hrep : ∀ t ∈ c.tree, rep.contains t.1 = differs st c t.1 t.2) :
    mkRecB st c rep = some (mkRec st c) := by
  have houts : (c.tree.map fun t => (t.1, codeRecordOne st c t.1 t.2 (rep.contains t.1)))
      = c.tree.map fun t => (t.1, Outcome.entry (recordOne st c t.1 t.2).1 (recordOne st c t.1 t.2).2) := by
    apply List.map_congr_left
    intro t ht
    rw [hrep t ht, codeRecordOne_eq w]
  simp only [mkRecB, houts, any_undefined_false c.tree (recordOne st c), Bool.false_eq_true,
    if_false, mkRec]
  rw [inv_filterMap_eq c.tree (recordOne st c), texts_filterMap_eq c.tree (recordOne st c)]

theorem buildB_eq : ∀ (hs : List (Commit × List FileId)), hist (hs.map (·.1)) → repsOk hs = true →
    buildB hs = some (build (hs.map (·.1)))
  | [], _, _ => rfl
  | (c, rep) :: older, hh, hr => by
    simp only [repsOk, Bool.and_eq_true, List.all_eq_true, beq_iff_eq] at hr
    have ih := buildB_eq older hh.1 hr.1
    have w := build_WF (older.map (·.1)) hh.1
    simp only [buildB, ih, List.map_cons, build, record, mkRecB_eq w c rep hr.2, Option.map_some]

end BreezyVerif.C02
