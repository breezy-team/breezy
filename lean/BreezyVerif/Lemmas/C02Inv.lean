import BreezyVerif.Lemmas.C02
/-
C02: what one `record` step produces, and the repository invariant `WF`
preserved by every well-formed commit.
-/
namespace BreezyVerif.C02

theorem mkRec_inv_lookup (st : State) (c : Commit) (f : FileId) :
    (mkRec st c).inv.lookup f = (c.tree.lookup f).map fun a => (recordOne st c f a).1 := by
  simp only [mkRec]
  exact Lib.lookup_map_snd c.tree (fun f a => (recordOne st c f a).1) f

/-- the two outcomes of `recordOne`: carry-over of the unique head's entry, or a
new version whose parents are the heads -/
theorem recordOne_cases (st : State) (c : Commit) (f : FileId) (a : Attr) :
    (∃ x pe, heads (textsOf st) f (candidates st c.parents f) = [x] ∧
        entryWithRev st c.parents f x = some pe ∧ carryTest pe.attr a = true ∧
        recordOne st c f a = (pe, none)) ∨
    (recordOne st c f a = (⟨a, c.id⟩, some (heads (textsOf st) f (candidates st c.parents f))) ∧
      ¬ ∃ x pe, heads (textsOf st) f (candidates st c.parents f) = [x] ∧
        entryWithRev st c.parents f x = some pe ∧ carryTest pe.attr a = true) := by
  simp only [recordOne]
  split
  · rename_i x hx
    split
    · rename_i pe hw
      split
      · rename_i ht
        left; exact ⟨x, pe, hx, hw, ht, by first | rfl | rw [hx]⟩
      · rename_i ht
        right
        refine ⟨by first | rfl | rw [hx], ?_⟩
        rintro ⟨x', pe', h1, h2, h3⟩
        rw [hx] at h1
        simp only [List.cons.injEq, and_true] at h1
        subst h1
        rw [hw] at h2
        simp only [Option.some.injEq] at h2
        subst h2
        exact ht h3
    · rename_i hw
      right
      refine ⟨by first | rfl | rw [hx], ?_⟩
      rintro ⟨x', pe', h1, h2, _⟩
      rw [hx] at h1
      simp only [List.cons.injEq, and_true] at h1
      subst h1
      rw [hw] at h2
      simp at h2
  · rename_i hn
    right
    refine ⟨rfl, ?_⟩
    rintro ⟨x', pe', h1, _, _⟩
    exact hn x' h1

theorem recordOne_attr (st : State) (c : Commit) (f : FileId) (a : Attr) :
    (recordOne st c f a).1.attr = a := by
  rcases recordOne_cases st c f a with ⟨x, pe, _, _, ht, hrec⟩ | ⟨hrec, _⟩
  · rw [hrec]; exact (carryTest_iff _ _).mp ht
  · rw [hrec]

/-- no parent holds `f`: a new version without parents -/
theorem recordOne_cands_nil {st : State} {c : Commit} {f : FileId} (a : Attr)
    (h : candidates st c.parents f = []) : recordOne st c f a = (⟨a, c.id⟩, some []) := by
  simp only [recordOne, h, heads_nil]

/-- all parents that hold `f` agree on its last-changed revision `x`: carried over iff the
attributes are those of the entry found under `x` -/
theorem recordOne_cands_single {st : State} {c : Commit} {f : FileId} (a : Attr) {x : Rev} {pe : Entry}
    (h : candidates st c.parents f = [x]) (hw : entryWithRev st c.parents f x = some pe) :
    recordOne st c f a = if pe.attr = a then (pe, none) else (⟨a, c.id⟩, some [x]) := by
  simp only [recordOne, h, heads_singleton, hw]
  by_cases hq : pe.attr = a
  · rw [if_pos ((carryTest_iff _ _).mpr hq), if_pos hq]
  · rw [if_neg fun t => hq ((carryTest_iff _ _).mp t), if_neg hq]

theorem entryWithRev_some {st : State} {ps : List Rev} {f : FileId} {x : Rev} {pe : Entry}
    (h : entryWithRev st ps f x = some pe) :
    pe.rev = x ∧ ∃ p ∈ ps, entryIn st f p = some pe := by
  simp only [entryWithRev] at h
  have h1 := List.find?_some h
  have h2 := List.mem_of_find?_eq_some h
  simp only [candEntries, List.mem_filterMap] at h2
  exact ⟨by simpa using h1, h2⟩

theorem entryWithRev_isSome {st : State} {ps : List Rev} {f : FileId} {x : Rev}
    (h : x ∈ candidates st ps f) : ∃ pe, entryWithRev st ps f x = some pe := by
  simp only [candidates, mem_dedup, List.mem_map] at h
  obtain ⟨e, he, hx⟩ := h
  cases hw : entryWithRev st ps f x with
  | some pe => exact ⟨pe, rfl⟩
  | none =>
    simp only [entryWithRev, List.find?_eq_none] at hw
    exact absurd (by simpa using hx) (hw e he)

theorem candidates_entry {st : State} {ps : List Rev} {f : FileId} {x : Rev}
    (h : x ∈ candidates st ps f) : ∃ p ∈ ps, ∃ e, entryIn st f p = some e ∧ e.rev = x := by
  simp only [candidates, mem_dedup, List.mem_map, candEntries, List.mem_filterMap] at h
  obtain ⟨e, ⟨p, hp, he⟩, hx⟩ := h
  exact ⟨p, hp, e, he, hx⟩

theorem mem_candidates_of_entry {st : State} {ps : List Rev} {f : FileId} {q : Rev} {e : Entry}
    (hq : q ∈ ps) (he : entryIn st f q = some e) : e.rev ∈ candidates st ps f := by
  simp only [candidates, mem_dedup, List.mem_map, candEntries, List.mem_filterMap]
  exact ⟨e, ⟨q, hq, he⟩, rfl⟩

structure WF (st : State) : Prop where
  nodup : (ids st).Nodup
  revs : ∀ r ∈ st, ∀ f e, r.inv.lookup f = some e → e.rev ∈ ids st
  sound : ∀ r ∈ st, ∀ f e, r.inv.lookup f = some e → entryIn st f e.rev = some e
  anc : ∀ r ∈ st, ∀ f e, r.inv.lookup f = some e → e.rev = r.id ∨ e.rev ∈ ranc st r.id
  key : ∀ r ∈ st, ∀ f e, r.inv.lookup f = some e → ∃ ps, ((f, e.rev), ps) ∈ textsOf st

theorem id_mem_ids {st : State} {r : Rec} (h : r ∈ st) : r.id ∈ ids st :=
  List.mem_map.mpr ⟨r, h, rfl⟩

theorem entryIn_mem {st : State} {f : FileId} {p : Rev} {e : Entry} (h : entryIn st f p = some e) :
    ∃ r ∈ st, r.id = p ∧ r.inv.lookup f = some e := by
  simp only [entryIn] at h
  cases hi : invOf st p with
  | none => simp [hi] at h
  | some i =>
    simp only [hi] at h
    obtain ⟨r, hr, h1, h2⟩ := invOf_mem hi
    exact ⟨r, hr, h1, by rw [h2]; exact h⟩

theorem WF.cand_mem {st : State} (w : WF st) {ps : List Rev} {f : FileId} {x : Rev}
    (h : x ∈ candidates st ps f) : x ∈ ids st := by
  obtain ⟨p, _, e, he, hx⟩ := candidates_entry h
  obtain ⟨r, hr, _, hl⟩ := entryIn_mem he
  exact hx ▸ w.revs r hr f e hl

theorem entryIn_cons_ne (r : Rec) (st : State) (f : FileId) (p : Rev) (h : p ≠ r.id) :
    entryIn (r :: st) f p = entryIn st f p :=
  entryIn_append [r] st f p (by simpa [ids] using h)

theorem entryIn_cons_self (r : Rec) (st : State) (f : FileId) :
    entryIn (r :: st) f r.id = r.inv.lookup f := by
  simp [entryIn, invOf]

theorem ranc_cons_ne (r : Rec) (st : State) (x : Rev) (h : x ≠ r.id) :
    ranc (r :: st) x = ranc st x := by
  have : ¬ r.id = x := fun e => h e.symm
  simp [ranc, this]

theorem ranc_cons_self (r : Rec) (st : State) :
    ranc (r :: st) r.id = r.parents ++ r.parents.flatMap (fun p => ranc st p) := by
  simp [ranc]

theorem id_mem_mentioned {st : State} {x : Rev} (h : x ∈ ids st) : x ∈ mentioned st :=
  List.mem_append_left _ h

theorem parent_mem_mentioned {st : State} {r : Rec} (hr : r ∈ st) {p : Rev} (hp : p ∈ r.parents) :
    p ∈ mentioned st :=
  List.mem_append_right _ (List.mem_flatMap.mpr ⟨r, hr, hp⟩)

/-- candidates and heads of the older repository are not changed by a newer
revision whose id is none of the parents looked at (present or ghost) -/
theorem heads_stable {st : State} (w : WF st) (r : Rec) (hr : r.id ∉ ids st) (ps : List Rev)
    (hps : ∀ p ∈ ps, p ≠ r.id) (f : FileId) :
    heads (textsOf (r :: st)) f (candidates (r :: st) ps f)
      = heads (textsOf st) f (candidates st ps f) := by
  have hc : candidates (r :: st) ps f = candidates st ps f :=
    candidates_append [r] st ps f fun p hp => by
      simp only [ids, List.map_cons, List.map_nil, List.mem_singleton]
      exact hps p hp
  rw [hc]
  apply heads_congr
  intro x hx
  have := w.cand_mem hx
  exact fanc_textsOf_append [r] st f x (by
    simp only [ids, List.map_cons, List.map_nil, List.mem_singleton]
    intro e; exact hr (e ▸ this))

/-- the entry recorded for `f` is `recordOne`'s, for the attributes the tree holds for `f` -/
theorem mkRec_entry {st : State} {c : Commit} {f : FileId} {e : Entry}
    (h : (mkRec st c).inv.lookup f = some e) :
    ∃ a, c.tree.lookup f = some a ∧ e = (recordOne st c f a).1 := by
  rw [mkRec_inv_lookup] at h
  cases ht : c.tree.lookup f with
  | none => simp [ht] at h
  | some a => exact ⟨a, rfl, by simpa [ht] using h.symm⟩

theorem WF.step {st : State} (w : WF st) {c : Commit} (ok : okCommit st c) :
    WF (record st c) := by
  obtain ⟨hment, _, hnd⟩ := ok
  have hid : c.id ∉ ids st := fun h => hment (id_mem_mentioned h)
  have hne : ∀ x ∈ ids st, x ≠ c.id := fun x hx e => hid (e ▸ hx)
  have sub : ∀ k, k ∈ textsOf st → k ∈ textsOf (mkRec st c :: st) := fun k hk => by
    rw [textsOf_cons]; exact List.mem_append_right _ hk
  -- an entry of the new inventory is carried over from a parent, where the invariant
  -- holds for it, or is fresh and comes with its text key
  have new : ∀ f e, (mkRec st c).inv.lookup f = some e →
      (e.rev ∈ ids st ∧ entryIn st f e.rev = some e ∧
        e.rev ∈ c.parents ++ c.parents.flatMap (fun p => ranc st p) ∧
        ∃ ps, ((f, e.rev), ps) ∈ textsOf st) ∨
      (e.rev = c.id ∧ ∃ ps, ((f, c.id), ps) ∈ textsOf (mkRec st c :: st)) := by
    intro f e hl
    obtain ⟨a, ha, he⟩ := mkRec_entry hl
    rcases recordOne_cases st c f a with ⟨x, pe, _, hw, _, hrec⟩ | ⟨hrec, _⟩
    · left
      obtain rfl : e = pe := by rw [he, hrec]
      obtain ⟨_, p, hp, hep⟩ := entryWithRev_some hw
      obtain ⟨r, hr, hrp, hlr⟩ := entryIn_mem hep
      refine ⟨w.revs r hr f e hlr, w.sound r hr f e hlr, ?_, w.key r hr f e hlr⟩
      rcases w.anc r hr f e hlr with h | h
      · exact List.mem_append_left _ (by rw [h, hrp]; exact hp)
      · exact List.mem_append_right _ (List.mem_flatMap.mpr ⟨p, hp, hrp ▸ h⟩)
    · right
      refine ⟨by rw [he, hrec], heads (textsOf st) f (candidates st c.parents f), ?_⟩
      rw [textsOf_cons]
      refine List.mem_append_left _ (List.mem_map.mpr
        ⟨(f, heads (textsOf st) f (candidates st c.parents f)), ?_, rfl⟩)
      simp only [mkRec, List.mem_filterMap]
      exact ⟨(f, a), Lib.mem_of_lookup ha, by simp [hrec]⟩
  show WF (mkRec st c :: st)
  refine ⟨List.nodup_cons.mpr ⟨hid, w.nodup⟩, ?_, ?_, ?_, ?_⟩
  · intro r hr f e hl
    rcases List.mem_cons.mp hr with rfl | h
    · rcases new f e hl with ⟨h1, _⟩ | ⟨h1, _⟩
      · exact List.mem_cons_of_mem _ h1
      · rw [h1]; exact List.mem_cons_self
    · exact List.mem_cons_of_mem _ (w.revs r h f e hl)
  · intro r hr f e hl
    rcases List.mem_cons.mp hr with rfl | h
    · rcases new f e hl with ⟨h1, h2, _⟩ | ⟨h1, _⟩
      · rw [entryIn_cons_ne (mkRec st c) _ _ _ (hne _ h1)]; exact h2
      · rw [h1]; exact (entryIn_cons_self (mkRec st c) st f).trans hl
    · rw [entryIn_cons_ne (mkRec st c) _ _ _ (hne _ (w.revs r h f e hl))]
      exact w.sound r h f e hl
  · intro r hr f e hl
    rcases List.mem_cons.mp hr with rfl | h
    · rcases new f e hl with ⟨_, _, h3, _⟩ | ⟨h1, _⟩
      · exact Or.inr (by rw [ranc_cons_self]; exact h3)
      · exact Or.inl h1
    · rw [ranc_cons_ne (mkRec st c) _ _ (hne _ (id_mem_ids h))]
      exact w.anc r h f e hl
  · intro r hr f e hl
    rcases List.mem_cons.mp hr with rfl | h
    · rcases new f e hl with ⟨_, _, _, ps, hps⟩ | ⟨h1, ps, hps⟩
      · exact ⟨ps, sub _ hps⟩
      · exact ⟨ps, by rw [h1]; exact hps⟩
    · obtain ⟨ps, hps⟩ := w.key r h f e hl
      exact ⟨ps, sub _ hps⟩

/-- what commit `c` recorded for `f`, read off the repository built so far -/
theorem build_cons_entry {h : List Commit} {c : Commit} {f : FileId} {e : Entry}
    (he : entryIn (build (c :: h)) f c.id = some e) :
    (mkRec (build h) c).inv.lookup f = some e ∧
      ∃ a, c.tree.lookup f = some a ∧ e = (recordOne (build h) c f a).1 :=
  have hl := (entryIn_cons_self (mkRec (build h) c) (build h) f).symm.trans he
  ⟨hl, mkRec_entry hl⟩

theorem WF.nil : WF [] :=
  ⟨List.nodup_nil, fun _ h => (nomatch h), fun _ h => (nomatch h), fun _ h => (nomatch h),
    fun _ h => (nomatch h)⟩

theorem build_WF : ∀ (h : List Commit), hist h → WF (build h)
  | [], _ => WF.nil
  | _ :: older, hh => (build_WF older hh.1).step hh.2

end BreezyVerif.C02
