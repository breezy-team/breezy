import BreezyVerif.Model.C45
/-! C45 — converter-level lemmas; a single filter; the shape of the stacks in the table. -/
namespace BreezyVerif.C45

@[simp] theorem nul_eq_lf : (NUL = LF) = False := by decide
@[simp] theorem nul_eq_cr : (NUL = CR) = False := by decide
@[simp] theorem lf_eq_nul : (LF = NUL) = False := by decide
@[simp] theorem cr_eq_nul : (CR = NUL) = False := by decide
@[simp] theorem cr_eq_lf : (CR = LF) = False := by decide
@[simp] theorem lf_eq_cr : (LF = CR) = False := by decide

theorem hasNul_cons (a : UInt8) (c : Bytes) :
    hasNul (a :: c) = (decide (a = NUL) || hasNul c) := by
  simp [hasNul, eq_comm]

theorem hasNul_replCrlf (c : Bytes) : hasNul (replCrlf c) = hasNul c := by
  fun_induction replCrlf c <;> simp_all [hasNul_cons]

theorem hasNul_subUnixNl (p : Bool) (c : Bytes) : hasNul (subUnixNl p c) = hasNul c := by
  fun_induction subUnixNl p c <;> simp_all [hasNul_cons]

theorem hasNul_replCrlfGuarded (p : Bool) (c : Bytes) : hasNul (replCrlfGuarded p c) = hasNul c := by
  fun_induction replCrlfGuarded p c <;> simp_all [hasNul_cons]

theorem length_replCrlf_le (c : Bytes) : (replCrlf c).length ≤ c.length := by
  fun_induction replCrlf c <;> simp_all <;> omega

/-- `content.replace(b"\r\n", b"\n") == content` exactly when there is no `\r\n` -/
theorem replCrlf_fix_iff (c : Bytes) : replCrlf c = c ↔ noCrLf false c = true := by
  fun_induction replCrlf c with
  | case1 => simp [noCrLf]
  | case2 a => simp [noCrLf]
  | case3 a b rest h ih => simp [noCrLf, h]
  | case4 a b rest h ih =>
    simp only [List.cons.injEq, true_and, ih]
    simpa [noCrLf] using fun _ => Decidable.not_and_iff_not_or_not.mp h

/-- `_UNIX_NL_RE.sub(b"\r\n", content) == content` exactly when every `\n` follows a `\r` -/
theorem subUnixNl_fix_iff (p : Bool) (c : Bytes) : subUnixNl p c = c ↔ allCrLf p c = true := by
  fun_induction subUnixNl p c with
  | case1 => simp [allCrLf]
  | case2 p b rest h ih => simp_all [allCrLf]
  | case3 p b rest h ih => cases p <;> simp_all [allCrLf]

theorem allCrLf_subUnixNl (p : Bool) (d : Bytes) : allCrLf p (subUnixNl p d) = true := by
  fun_induction subUnixNl p d with
  | case1 => rfl
  | case2 p b rest h ih => simp_all [allCrLf]
  | case3 p b rest h ih => cases p <;> simp_all [allCrLf]

theorem allCrLf_cons {p : Bool} {b : UInt8} {rest : Bytes} (h : allCrLf p (b :: rest) = true) :
    ¬ (b = LF ∧ p = false) ∧ allCrLf (b = CR) rest = true := by
  cases p <;> simp_all [allCrLf]

theorem allCrLf_crlf {p : Bool} {rest : Bytes} (h : allCrLf p (CR :: LF :: rest) = true) :
    allCrLf false rest = true := by
  simpa using (allCrLf_cons (allCrLf_cons h).2).2

theorem replCrlf_cons_of_not (a : UInt8) (y : Bytes) (h : ¬ (a = CR ∧ y.head? = some LF)) :
    replCrlf (a :: y) = a :: replCrlf y := by
  cases y <;> simp_all [replCrlf]

theorem head?_subUnixNl_true {rest : Bytes} (h : noCrLf true rest = true) :
    (subUnixNl true rest).head? ≠ some LF := by
  cases rest <;> simp_all [subUnixNl, noCrLf]

/-- LF in the repository, CRLF in the tree: `toLf ∘ toCrlf` on canonical text -/
theorem replCrlf_subUnixNl (p : Bool) (c : Bytes) (h : noCrLf p c = true) :
    replCrlf (subUnixNl p c) = c := by
  fun_induction subUnixNl p c with
  | case1 => rfl
  | case2 p b rest hb ih => simp_all [replCrlf, noCrLf]
  | case3 p b rest hb ih =>
    simp only [noCrLf, Bool.and_eq_true] at h
    rw [replCrlf_cons_of_not, ih h.2]
    rintro ⟨rfl, hh⟩
    exact head?_subUnixNl_true (by simpa using h.2) (by simpa using hh)

/-- CRLF in the repository, LF in the tree: `toCrlf ∘ toLf` on canonical text
gives the text back exactly when it has no `\r\r\n` -/
theorem subUnixNl_replCrlf_iff (p : Bool) (c : Bytes) (h : allCrLf p c = true) :
    subUnixNl p (replCrlf c) = c ↔ noCrCrLf p c = true := by
  fun_induction replCrlf c generalizing p with
  | case1 => simp [subUnixNl, noCrCrLf]
  | case2 a => simp [noCrCrLf, (subUnixNl_fix_iff p [a]).2 h]
  | case3 a b rest hab ih =>
    obtain ⟨rfl, rfl⟩ := hab
    replace ih := ih false (allCrLf_crlf h)
    -- after a `\r` the written `\n` is left alone, and `\r\r\n` is lost
    cases p <;> cases rest <;> simp_all [subUnixNl, noCrCrLf]
  | case4 a b rest hab ih =>
    obtain ⟨hnot, htail⟩ := allCrLf_cons h
    have hab' := Decidable.not_and_iff_not_or_not.mp hab
    replace ih := ih _ htail
    simp only [subUnixNl, if_neg hnot, List.cons.injEq, true_and, noCrCrLf, ih]
    cases p <;> simp_all

theorem subUnixNl_replCrlfGuarded (p : Bool) (c : Bytes) (h : allCrLf p c = true) :
    subUnixNl p (replCrlfGuarded p c) = c := by
  fun_induction replCrlfGuarded p c with
  | case1 => rfl
  | case2 p a => exact (subUnixNl_fix_iff p [a]).2 h
  | case3 p a b rest hab ih =>
    obtain ⟨rfl, rfl, rfl⟩ := hab
    simp [subUnixNl, ih (allCrLf_crlf h)]
  | case4 p a b rest hab ih =>
    obtain ⟨hnot, htail⟩ := allCrLf_cons h
    simp only [subUnixNl, if_neg hnot, List.cons.injEq, true_and]
    exact ih htail

theorem noCrLf_replCrlf (p : Bool) (c : Bytes) (h1 : allCrLf p c = true) (h2 : noCrCrLf p c = true)
    (h3 : ¬ (p = true ∧ c.head? = some LF)) : noCrLf p (replCrlf c) = true := by
  fun_induction replCrlf c generalizing p with
  | case1 => rfl
  | case2 a => cases p <;> simp_all [noCrLf]
  | case3 a b rest hab ih =>
    obtain ⟨rfl, rfl⟩ := hab
    replace ih := ih false (allCrLf_crlf h1)
    cases p <;> cases rest <;> simp_all [noCrLf, noCrCrLf]
  | case4 a b rest hab ih =>
    replace ih := ih _ (allCrLf_cons h1).2
    cases p <;> simp_all [noCrLf, noCrCrLf]

/-! ### a file is empty iff its conversion is empty (`FilteredStat`'s
`st_size or base.st_size` therefore never picks the wrong size) -/

theorem replCrlf_eq_nil (c : Bytes) : replCrlf c = [] ↔ c = [] := by
  fun_induction replCrlf c <;> simp

theorem subUnixNl_eq_nil (p : Bool) (c : Bytes) : subUnixNl p c = [] ↔ c = [] := by
  fun_cases subUnixNl p c <;> simp

theorem toLf_eq_nil (c : Bytes) : toLf c = [] ↔ c = [] := by
  unfold toLf
  split <;> simp [replCrlf_eq_nil]

theorem toCrlf_eq_nil (c : Bytes) : toCrlf c = [] ↔ c = [] := by
  unfold toCrlf
  split <;> simp [subUnixNl_eq_nil]

theorem readIn_nil (d : Bytes) : readIn [] d = d := by
  simp [readIn, inputFile]

/-- the provider hashes exactly the read-converted file (the `if filters:`
short cut is the identity conversion) -/
theorem hashedText_eq (stack : List Filter) (d : Bytes) : hashedText stack d = readIn stack d := by
  unfold hashedText
  split
  · next h => rw [List.isEmpty_iff.mp h, readIn_nil]
  · rfl

/-! ### a converter changes the length of a text exactly when it changes the text (what a "sizes
differ ⇒ contents differ" shortcut in front of the hash comparison relies on) -/

theorem length_replCrlf_eq_iff (c : Bytes) : (replCrlf c).length = c.length ↔ replCrlf c = c := by
  fun_induction replCrlf c with
  | case1 => simp
  | case2 a => simp
  | case3 a b rest h ih =>
    have := length_replCrlf_le rest
    simp [h]
    omega
  | case4 a b rest h ih => simpa using ih

theorem length_le_subUnixNl (p : Bool) (c : Bytes) : c.length ≤ (subUnixNl p c).length := by
  fun_induction subUnixNl p c <;> simp_all <;> omega

theorem length_subUnixNl_eq_iff (p : Bool) (c : Bytes) :
    (subUnixNl p c).length = c.length ↔ subUnixNl p c = c := by
  fun_induction subUnixNl p c with
  | case1 => simp
  | case2 p b rest h ih =>
    have := length_le_subUnixNl false rest
    simp [h]
    omega
  | case3 p b rest h ih => simpa using ih

theorem length_toLf_eq_iff (c : Bytes) : (toLf c).length = c.length ↔ toLf c = c := by
  unfold toLf
  split <;> simp [length_replCrlf_eq_iff]

theorem length_toCrlf_eq_iff (c : Bytes) : (toCrlf c).length = c.length ↔ toCrlf c = c := by
  unfold toCrlf
  split <;> simp [length_subUnixNl_eq_iff]

theorem length_conv_eq_iff (f : Conv) (c : Bytes) : (f.fn c).length = c.length ↔ f.fn c = c := by
  cases f
  · exact length_toLf_eq_iff c
  · exact length_toCrlf_eq_iff c

theorem Conv.fn_of_hasNul (f : Conv) {c : Bytes} (h : hasNul c = true) : f.fn c = c := by
  cases f <;> simp [Conv.fn, C45.toLf, C45.toCrlf, h]

theorem Conv.fn_eq_nil (f : Conv) (c : Bytes) : f.fn c = [] ↔ c = [] := by
  cases f
  · exact toLf_eq_nil c
  · exact toCrlf_eq_nil c

theorem readIn_single (r : Conv) (w : Option Conv) (d : Bytes) : readIn [⟨some r, w⟩] d = r.fn d := by
  simp [readIn, inputFile, Conv.apply]

theorem outputBytes_single (r : Option Conv) (w : Conv) (chunks : List Bytes) :
    outputBytes chunks [⟨r, some w⟩] = [w.fn chunks.flatten] := by
  simp [outputBytes, Conv.apply]

theorem writeOut_single (r : Option Conv) (w : Conv) (c : Bytes) : writeOut [⟨r, some w⟩] c = w.fn c := by
  simp [writeOut, outputBytes_single]

/-- every stack of `_eol_filter_stack_map` is empty (`exact`) or one filter with a reader and a writer -/
theorem eolMap_stack {win : Bool} {name : String} {stack : List Filter} (h : (name, stack) ∈ eolMap win) :
    stack = [] ∨ ∃ r w, stack = [⟨some r, some w⟩] := by
  simp only [eolMap, List.mem_cons, Prod.mk.injEq, List.mem_nil_iff, or_false] at h
  rcases h with h | h | h | h | h | h | h
  · exact Or.inl h.2
  all_goals exact Or.inr ⟨_, _, h.2⟩

end BreezyVerif.C45
