import BreezyVerif.Model.C48
import BreezyVerif.Lemmas.Lib.ListAux
/-! helper lemmas for Props/C48.lean -/
namespace BreezyVerif.C48

/-! ### generic list facts -/

theorem findSome?_ite_eq_find? {α : Type} (c : α → Bool) (l : List α) :
    l.findSome? (fun p => if c p then some p else none) = l.find? c := by
  induction l with
  | nil => rfl
  | cons a l ih =>
    simp only [List.findSome?_cons, List.find?_cons]
    cases h : c a <;> simp [ih]

theorem findSome?_const_ite {α β : Type} (m : α → Bool) (b : β) (l : List α) :
    l.findSome? (fun s => if m s then some b else none) = if l.any m then some b else none := by
  induction l with
  | nil => rfl
  | cons a l ih =>
    simp only [List.findSome?_cons, List.any_cons]
    by_cases h : m a = true
    · simp [h]
    · have h' : m a = false := by simpa using h
      simp [h', ih]

/-! ### chunks -/

theorem chunksF_flatten {α : Type} (g : Nat) (hg : 0 < g) :
    ∀ (n : Nat) (l : List α), l.length ≤ n → (chunksF g n l).flatten = l := by
  intro n
  induction n with
  | zero =>
    intro l h
    have : l = [] := List.eq_nil_of_length_eq_zero (by omega)
    subst this; rfl
  | succ n ih =>
    intro l h
    unfold chunksF
    by_cases he : l.isEmpty
    · simp only [he, if_true]
      have : l = [] := by simpa using he
      subst this; rfl
    · simp only [he]
      have hne : l ≠ [] := by simpa using he
      have hlen : 0 < l.length := List.length_pos_iff.mpr hne
      have : (l.drop g).length ≤ n := by simp only [List.length_drop]; omega
      simp [ih _ this]

theorem chunks_flatten {α : Type} (g : Nat) (hg : 0 < g) (l : List α) : (chunks g l).flatten = l :=
  chunksF_flatten g hg l.length l (Nat.le_refl _)

theorem chunksF_sub {α : Type} (g : Nat) :
    ∀ (n : Nat) (l : List α), ∀ grp ∈ chunksF g n l, ∀ x ∈ grp, x ∈ l := by
  intro n
  induction n with
  | zero => intro l grp h; simp [chunksF] at h
  | succ n ih =>
    intro l grp h x hx
    unfold chunksF at h
    by_cases he : l.isEmpty
    · simp [he] at h
    · simp only [he] at h
      rcases List.mem_cons.mp h with h | h
      · subst h; exact List.mem_of_mem_take hx
      · exact List.mem_of_mem_drop (ih _ grp h x hx)

theorem chunks_sub {α : Type} (g : Nat) (l : List α) : ∀ grp ∈ chunks g l, ∀ x ∈ grp, x ∈ l :=
  chunksF_sub g l.length l

/-! ### matching of one pattern by kind -/

theorem cpMatches_eq (p : CPat) (name : List Char) : cpMatches p name = kindMatches p.kind p name := by
  unfold cpMatches kindMatches; cases p.kind <;> rfl

theorem groupMatch_some {k : Kind} {grp : List CPat} {name : List Char} {p : CPat}
    (h : groupMatch k grp name = some p) : p ∈ grp ∧ kindMatches k p name = true := by
  cases k with
  | full =>
    simp only [groupMatch] at h
    exact ⟨List.mem_of_find?_eq_some h, by simpa [kindMatches] using List.find?_some h⟩
  | base =>
    simp only [groupMatch] at h
    exact ⟨List.mem_of_find?_eq_some h, by simpa [kindMatches] using List.find?_some h⟩
  | ext =>
    simp only [groupMatch] at h
    obtain ⟨s, hs, hf⟩ := List.exists_of_findSome?_eq_some h
    refine ⟨List.mem_of_find?_eq_some hf, ?_⟩
    have := List.find?_some hf
    simp only [kindMatches, List.any_eq_true]
    exact ⟨s, by simpa using hs, this⟩

theorem groupMatch_isSome {k : Kind} {grp : List CPat} {name : List Char} {p : CPat}
    (hp : p ∈ grp) (hm : kindMatches k p name = true) : (groupMatch k grp name).isSome = true := by
  cases k with
  | full =>
    simp only [groupMatch, List.find?_isSome]
    exact ⟨p, hp, by simpa [kindMatches] using hm⟩
  | base =>
    simp only [groupMatch, List.find?_isSome]
    exact ⟨p, hp, by simpa [kindMatches] using hm⟩
  | ext =>
    simp only [kindMatches, List.any_eq_true] at hm
    obtain ⟨s, hs, hms⟩ := hm
    simp only [groupMatch, List.findSome?_isSome_iff, List.find?_isSome]
    exact ⟨s, by simpa using hs, p, hp, hms⟩

theorem find?_singleton {α : Type} (f : α → Bool) (a : α) :
    [a].find? f = if f a then some a else none := by
  cases h : f a <;> simp [h]

theorem groupMatch_single (k : Kind) (p : CPat) (name : List Char) :
    groupMatch k [p] name = if kindMatches k p name then some p else none := by
  cases k with
  | full => simp only [groupMatch, kindMatches, find?_singleton]; rfl
  | base => simp only [groupMatch, kindMatches, find?_singleton]; rfl
  | ext =>
    simp only [groupMatch, kindMatches, find?_singleton]
    rw [findSome?_const_ite, List.any_reverse]
    rfl

theorem mem_ofKind {k : Kind} {cps : List CPat} {p : CPat} : p ∈ ofKind k cps ↔ p ∈ cps ∧ p.kind = k := by
  simp [ofKind]

theorem mem_groups {g : Nat} {cps : List CPat} {k : Kind} {grp : List CPat}
    (h : (k, grp) ∈ groups g cps) : grp ∈ chunks g (ofKind k cps) := by
  simp only [groups, typeOrder, List.mem_flatMap, List.mem_map] at h
  obtain ⟨k', _, grp', hg, he⟩ := h
  cases he
  exact hg

theorem groups_mem {g : Nat} {cps : List CPat} {k : Kind} {grp : List CPat}
    (h : grp ∈ chunks g (ofKind k cps)) : (k, grp) ∈ groups g cps := by
  simp only [groups, typeOrder, List.mem_flatMap, List.mem_map]
  exact ⟨k, by cases k <;> simp, grp, h, rfl⟩

/-! ### the extension group when at most one dot-suffix is matched -/

theorem ext_group_unamb (exts grp : List CPat) (hsub : ∀ p ∈ grp, p ∈ exts) :
    ∀ (L : List (List Char)),
      (L.filter fun s => exts.any fun p => bodyMatch p s).length ≤ 1 →
      L.findSome? (fun s => grp.find? fun p => bodyMatch p s) = grp.find? fun p => L.any (bodyMatch p) := by
  intro L
  induction L with
  | nil =>
    intro _
    simp only [List.findSome?_nil, List.any_nil]
    exact (List.find?_eq_none.mpr (by simp)).symm
  | cons s L ih =>
    intro h
    by_cases hs : (exts.any fun p => bodyMatch p s) = true
    · -- `s` is matched: nothing in `L` is
      simp only [List.filter_cons, hs, if_true, List.length_cons] at h
      have hnil : (L.filter fun s => exts.any fun p => bodyMatch p s) = [] :=
        List.eq_nil_of_length_eq_zero (by omega)
      have hnone : ∀ p ∈ grp, L.any (bodyMatch p) = false := by
        intro p hp
        apply Bool.eq_false_iff.mpr
        intro hany
        obtain ⟨t, ht, hm⟩ := List.any_eq_true.mp hany
        have : t ∈ L.filter fun s => exts.any fun p => bodyMatch p s := by
          simp only [List.mem_filter, List.any_eq_true]
          exact ⟨ht, p, hsub p hp, hm⟩
        rw [hnil] at this
        exact absurd this (by simp)
      have hrhs : (grp.find? fun p => (s :: L).any (bodyMatch p)) = grp.find? fun p => bodyMatch p s := by
        apply Lib.find?_congr_mem
        intro p hp
        simp [hnone p hp]
      rw [hrhs, List.findSome?_cons]
      cases hf : grp.find? (fun p => bodyMatch p s) with
      | some q => rfl
      | none =>
        simp only
        rw [ih (by rw [hnil]; simp)]
        rw [List.find?_eq_none]
        intro p hp
        simp [hnone p hp]
    · -- `s` is matched by nothing
      have hs' : (exts.any fun p => bodyMatch p s) = false := by simpa using hs
      simp only [List.filter_cons, hs', Bool.false_eq_true, if_false] at h
      have hno : ∀ p ∈ grp, bodyMatch p s = false := by
        intro p hp
        apply Bool.eq_false_iff.mpr
        intro hm
        have : (exts.any fun p => bodyMatch p s) = true := List.any_eq_true.mpr ⟨p, hsub p hp, hm⟩
        rw [hs'] at this
        exact absurd this (by simp)
      have hfn : grp.find? (fun p => bodyMatch p s) = none := by
        rw [List.find?_eq_none]; intro p hp; simp [hno p hp]
      rw [List.findSome?_cons, hfn]
      simp only
      rw [ih h]
      apply Lib.find?_congr_mem
      intro p hp
      simp [hno p hp]

/-! ### matcher facts -/

theorem matchToks_lits (full : Bool) (e s : List Char) :
    matchToks full (e.map Tok.lit) s = true ↔ s = e := by
  induction e generalizing s with
  | nil => cases s <;> simp [matchToks]
  | cons c e ih =>
    cases s with
    | nil => simp [matchToks]
    | cons x s =>
      simp only [List.map_cons, matchToks, Bool.and_eq_true, beq_iff_eq, ih, List.cons.injEq]

theorem afterSlash_iff (k : List Char → Bool) (s : List Char) :
    afterSlash k s = true ↔ ∃ d r, s = d ++ '/' :: r ∧ k r = true := by
  induction s with
  | nil => simp [afterSlash]
  | cons x s ih =>
    simp only [afterSlash, Bool.or_eq_true, Bool.and_eq_true, beq_iff_eq, ih]
    constructor
    · rintro (⟨hx, hk⟩ | ⟨d, r, hs, hk⟩)
      · exact ⟨[], s, by simp [hx], hk⟩
      · exact ⟨x :: d, r, by simp [hs], hk⟩
    · rintro ⟨d, r, hs, hk⟩
      cases d with
      | nil =>
        simp only [List.nil_append, List.cons.injEq] at hs
        left; exact ⟨hs.1, hs.2 ▸ hk⟩
      | cons y d =>
        simp only [List.cons_append, List.cons.injEq] at hs
        right; exact ⟨d, r, hs.2, hk⟩

theorem afterSlash_no_slash (k : List Char → Bool) (s : List Char) (h : '/' ∉ s) :
    afterSlash k s = false := by
  apply Bool.eq_false_iff.mpr
  intro ht
  obtain ⟨d, r, hs, _⟩ := (afterSlash_iff k s).mp ht
  exact h (by simp [hs])

theorem starLoop_iff (ok : Char → Bool) (k : List Char → Bool) (s : List Char) :
    starLoop ok k s = true ↔ ∃ u v, s = u ++ v ∧ (∀ c ∈ u, ok c = true) ∧ k v = true := by
  induction s with
  | nil =>
    simp only [starLoop]
    constructor
    · intro h; exact ⟨[], [], rfl, by simp, h⟩
    · rintro ⟨u, v, hs, _, hk⟩
      have := List.append_eq_nil_iff.mp hs.symm
      rw [this.2] at hk; exact hk
  | cons x s ih =>
    simp only [starLoop, Bool.or_eq_true, Bool.and_eq_true, ih]
    constructor
    · rintro (hk | ⟨hx, u, v, hs, hu, hk⟩)
      · exact ⟨[], x :: s, rfl, by simp, hk⟩
      · exact ⟨x :: u, v, by simp [hs], by simpa [hx] using hu, hk⟩
    · rintro ⟨u, v, hs, hu, hk⟩
      cases u with
      | nil => left; simp only [List.nil_append] at hs; rw [hs]; exact hk
      | cons y u =>
        simp only [List.cons_append, List.cons.injEq] at hs
        right
        refine ⟨?_, u, v, hs.2, fun c hc => hu c (by simp [hc]), hk⟩
        rw [hs.1]; exact hu y (by simp)

theorem starLoop_congr (ok1 ok2 : Char → Bool) (k1 k2 : List Char → Bool) (P : Char → Prop)
    (hok : ∀ c, P c → ok1 c = ok2 c) (hk : ∀ s, (∀ c ∈ s, P c) → k1 s = k2 s) :
    ∀ s, (∀ c ∈ s, P c) → starLoop ok1 k1 s = starLoop ok2 k2 s := by
  intro s
  induction s with
  | nil => intro h; simp [starLoop, hk [] h]
  | cons x s ih =>
    intro h
    simp only [starLoop]
    rw [hk (x :: s) h, hok x (h x (by simp)), ih (fun c hc => h c (by simp [hc]))]

/-! ### basename / dotSuffixes -/

theorem contains_slash_iff (s : List Char) : s.contains '/' = true ↔ '/' ∈ s := by
  simp

theorem basename_no_slash (b : List Char) (h : '/' ∉ b) : basename b = b := by
  cases b with
  | nil => rfl
  | cons c s =>
    have hs : '/' ∉ s := fun hm => h (by simp [hm])
    have hc : c ≠ '/' := fun he => h (by simp [he])
    simp [basename, hs, hc]

theorem basename_dir (d b : List Char) (h : '/' ∉ b) : basename (d ++ '/' :: b) = b := by
  induction d with
  | nil =>
    simp [basename, h]
  | cons c d ih =>
    have : (d ++ '/' :: b).contains '/' = true := by simp
    simp only [List.cons_append, basename, this, if_true, ih]

theorem mem_dotSuffixes (b s : List Char) : s ∈ dotSuffixes b ↔ ∃ pre, b = pre ++ '.' :: s := by
  induction b with
  | nil => simp [dotSuffixes]
  | cons c b ih =>
    unfold dotSuffixes
    by_cases hc : c = '.'
    · subst hc
      simp only [beq_self_eq_true, if_true, List.mem_cons, ih]
      constructor
      · rintro (h | ⟨pre, h⟩)
        · exact ⟨[], by simp [h]⟩
        · exact ⟨'.' :: pre, by simp [h]⟩
      · rintro ⟨pre, h⟩
        cases pre with
        | nil => left; simp only [List.nil_append, List.cons.injEq] at h; exact h.2.symm
        | cons y pre =>
          simp only [List.cons_append, List.cons.injEq] at h
          right; exact ⟨pre, h.2⟩
    · have : (c == '.') = false := by simpa using hc
      simp only [this, Bool.false_eq_true, if_false, ih]
      constructor
      · rintro ⟨pre, h⟩; exact ⟨c :: pre, by simp [h]⟩
      · rintro ⟨pre, h⟩
        cases pre with
        | nil => simp only [List.nil_append, List.cons.injEq] at h; exact absurd h.1 hc
        | cons y pre =>
          simp only [List.cons_append, List.cons.injEq] at h
          exact ⟨pre, h.2⟩

end BreezyVerif.C48
