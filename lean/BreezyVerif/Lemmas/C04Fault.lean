import BreezyVerif.Lemmas.C04
/-!
C04 — helper lemmas for the error paths: what an executed (possibly faulty)
`_save_pack_names` looks like, safety of the clean-up operations.
-/
namespace BreezyVerif.C04

theorem cutAt_subset (seg : List Op) (i : Nat) (f : Fault) : cutAt seg i f ⊆ seg :=
  List.take_subset _ _

theorem skipAt_subset (seg : List Op) (i : Nat) (f : Fault) : skipAt seg i f ⊆ seg :=
  List.append_subset.2 ⟨List.take_subset _ _, List.drop_subset _ _⟩

/-- **The shape of an executed `_save_pack_names`**, faulty or not: nothing,
only the lock, lock + unlock (the `put_file` failed), or lock, `put_file`,
then some of the allowed operations. -/
def SaveShape (N : List Nat) (allowed : List Op) (sv : List Op) : Prop :=
  sv = [] ∨ sv = [Op.lock] ∨ sv = [Op.lock, Op.unlock] ∨
  ∃ post, sv = Op.lock :: Op.putNames N :: post ∧ ∀ op ∈ post, op ∈ allowed

theorem saveOpsOrd_shape (chk : Bool) (d : Disk) (v : View) (obs : Option (List Nat)) (ord : List File) :
    SaveShape (saveN d v) (saveAllowed chk d obs ord) (saveOpsOrd chk d v obs ord) :=
  .inr (.inr (.inr ⟨saveAllowed chk d obs ord, by simp [saveOpsOrd, saveAllowed], fun _ h => h⟩))

theorem saveOps_shape (chk : Bool) (d : Disk) (v : View) (obs : Option (List Nat)) :
    SaveShape (saveN d v) (saveAllowed chk d obs []) (saveOps chk d v obs) :=
  .inr (.inr (.inr ⟨_, saveOps_eq chk d v obs, fun _ h => h⟩))

/-- the exception is raised before the `put_file` of `pack-names` completed -/
def Fault.beforePut (f : Fault) : Prop := f.pos = 0 ∨ (f.pos = 1 ∧ f.done 0 = 0)

theorem cutAt_singleton (a : Op) (f : Fault) :
    (f.done 0 = 0 ∧ cutAt [a] 0 f = []) ∨ (f.done 0 ≠ 0 ∧ cutAt [a] 0 f = [a]) := by
  unfold cutAt
  cases f.done 0 with
  | zero => exact .inl ⟨rfl, rfl⟩
  | succ m => exact .inr ⟨nofun, by simp⟩

/-- **The error paths of `_save_pack_names`** never run an operation that the
fault-free method would not run; if the exception is raised before the
`put_file` completed they run nothing but lock / unlock, otherwise `pack-names`
was replaced and only operations of the fault-free tail follow. -/
theorem saveFault_shape' (chk : Bool) (d : Disk) (v : View) (obs : Option (List Nat)) (ord : List File)
    (f : Fault) :
    (f.beforePut ∧ (saveFault chk d v obs ord f = [] ∨ saveFault chk d v obs ord f = [Op.lock] ∨
        saveFault chk d v obs ord f = [Op.lock, Op.unlock])) ∨
    (¬ f.beforePut ∧ ∃ post, saveFault chk d v obs ord f = Op.lock :: Op.putNames (saveN d v) :: post ∧
        ∀ op ∈ post, op ∈ saveAllowed chk d obs ord) := by
  generalize hsv : saveFault chk d v obs ord f = sv
  -- every tail after the `put_file` is (part of) the clear, then (part of) `[unlock]`, then (part of) the
  -- obsoleting moves
  have after : ∀ a b c, ¬ f.beforePut → a ⊆ saveClear d obs ord → b ⊆ [Op.unlock] → c ⊆ saveObsol chk d obs →
      [Op.lock, Op.putNames (saveN d v)] ++ a ++ b ++ c = sv →
      ¬ f.beforePut ∧ ∃ post, sv = Op.lock :: Op.putNames (saveN d v) :: post ∧
        ∀ op ∈ post, op ∈ saveAllowed chk d obs ord := by
    intro a b c hb ha hb' hc e
    refine ⟨hb, a ++ b ++ c, by simp [← e], ?_⟩
    exact List.append_subset.2 ⟨List.append_subset.2
      ⟨fun _ h => List.mem_append_left _ (List.mem_append_left _ (ha h)),
       fun _ h => List.mem_append_left _ (List.mem_append_right _ (hb' h))⟩,
      fun _ h => List.mem_append_right _ (hc h)⟩
  have full := @List.Subset.refl Op
  unfold saveFault at hsv
  by_cases h0 : f.pos = 0
  · -- `lock_names()` raised
    rw [if_pos h0] at hsv
    rcases cutAt_singleton .lock f with ⟨_, h⟩ | ⟨_, h⟩ <;> rw [h] at hsv
    · exact .inl ⟨.inl h0, .inl hsv.symm⟩
    · exact .inl ⟨.inl h0, .inr (.inl hsv.symm)⟩
  rw [if_neg h0] at hsv
  by_cases h1 : f.pos = 1
  · -- `put_file` raised
    rw [if_pos h1] at hsv
    rcases cutAt_singleton (.putNames (saveN d v)) f with ⟨hz, h⟩ | ⟨hz, h⟩ <;> rw [h] at hsv
    · exact .inl ⟨.inr ⟨h1, hz⟩, .inr (.inr hsv.symm)⟩
    · exact .inr (after [] [.unlock] [] (fun hb => hb.elim h0 fun hb => hz hb.2)
        (List.nil_subset _) (full _) (List.nil_subset _) hsv)
  rw [if_neg h1] at hsv
  have hb : ¬ f.beforePut := fun hb => hb.elim h0 fun hb => h1 hb.1
  -- the fault hits the clear, the unlock or the obsoleting moves; caught or not
  -- (the conditions one at a time: `split` on the unfolded `saveFault` is slow to check)
  by_cases h2 : f.pos < 2 + (saveClear d obs ord).length
  · rw [if_pos h2] at hsv
    by_cases hc : f.caught = true
    · rw [if_pos hc] at hsv
      exact .inr (after _ _ _ hb (skipAt_subset _ _ f) (full _) (full _) hsv)
    · rw [if_neg hc] at hsv
      exact .inr (after _ _ [] hb (cutAt_subset _ _ f) (full _) (List.nil_subset _)
        ((List.append_nil _).trans hsv))
  rw [if_neg h2] at hsv
  by_cases h3 : f.pos = 2 + (saveClear d obs ord).length
  · rw [if_pos h3] at hsv
    by_cases ho : f.own = true
    · rw [if_pos ho] at hsv
      exact .inr (after _ _ _ hb (full _) (cutAt_subset _ 0 f) (full _) hsv)
    · rw [if_neg ho] at hsv
      exact .inr (after _ _ [] hb (full _) (full _) (List.nil_subset _) ((List.append_nil _).trans hsv))
  rw [if_neg h3] at hsv
  by_cases hc : f.caught = true
  · rw [if_pos hc] at hsv
    exact .inr (after _ _ _ hb (full _) (full _) (skipAt_subset _ _ f) hsv)
  · rw [if_neg hc] at hsv
    exact .inr (after _ _ _ hb (full _) (full _) (cutAt_subset _ _ f) hsv)

theorem saveFault_shape (chk : Bool) (d : Disk) (v : View) (obs : Option (List Nat)) (ord : List File)
    (f : Fault) :
    SaveShape (saveN d v) (saveAllowed chk d obs ord) (saveFault chk d v obs ord f) := by
  rcases saveFault_shape' chk d v obs ord f with ⟨_, h | h | h⟩ | ⟨_, h⟩
  · exact .inl h
  · exact .inr (.inl h)
  · exact .inr (.inr (.inl h))
  · exact .inr (.inr (.inr h))

/-- the abort of the write group's pack only touches the upload file -/
theorem abortNewPack_safe (ns : List Nat) (d : Disk) (tmp : File) (ht : tmp.dir = .upload) :
    ∀ op ∈ abortNewPack d tmp, safeOp ns op = true := by
  have hup := touches_false_of_dir ns (.inl ht)
  intro op hop
  simp only [abortNewPack, List.mem_append, List.mem_singleton] at hop
  rcases hop with hop | rfl
  · split at hop
    · cases List.mem_singleton.mp hop; rfl
    · cases hop
  · simp [safeOp, hup]

/-- `complete` does not look at the lock -/
theorem complete_unlocked (chk : Bool) (d : Disk) :
    complete chk { d with locked := false } = complete chk d := rfl

end BreezyVerif.C04
