import BreezyVerif.Model.C25
/-!
C25 — the merge stack of `_filter_revisions_touching_path` computes exactly the
stack-free specification `enclosingExpected` on every view whose depths go up
by at most one per step (`stepwise`).
-/
namespace BreezyVerif.C25
open BreezyVerif.C22

/-- the `include_merges or node[2] == 0` test -/
def passes (inc : Bool) (x : V) : Bool := inc || x.depth == 0

/-- one step of the loop: a revision that modified the file lists the stack entries that pass the test
and marks them; the two anonymous functions of the model are `Option.filter`s -/
theorem touchLoop_cons (modified : List Nat) (inc : Bool) (stack : List (Option V)) (v : V) (l : List V) :
    touchLoop modified inc stack (v :: l) =
      if modified.contains v.rev then
        (pushStack stack v).filterMap (Option.filter (passes inc)) ++
          touchLoop modified inc ((pushStack stack v).map (Option.filter fun x => !passes inc x)) l
      else touchLoop modified inc (pushStack stack v) l := by
  have h1 : (fun n : Option V => match n with
      | some x => if inc || x.depth == 0 then some x else none
      | none => none) = Option.filter (passes inc) := by funext n; cases n <;> rfl
  have h2 : (fun n : Option V => match n with
      | some x => if inc || x.depth == 0 then none else some x
      | none => none) = Option.filter fun x => !passes inc x := by
    funext n
    cases n with
    | none => rfl
    | some x => show (if passes inc x then none else some x) = _; cases hp : passes inc x <;> simp [Option.filter, hp]
  rw [← h1, ← h2, touchLoop]
  rfl

theorem pushStack_eq (stack : List (Option V)) (v : V) (h : v.depth ≤ stack.length) :
    pushStack stack v = stack.take v.depth ++ [some v] := by
  unfold pushStack
  by_cases hd : (v.depth == stack.length) = true
  · have hd' : v.depth = stack.length := by simpa using hd
    simp only [hd, if_true]
    rw [hd', List.take_length]
  · have hd' : v.depth < stack.length := by
      have : v.depth ≠ stack.length := by simpa using hd
      omega
    simp only [hd, Bool.false_eq_true, if_false]
    have hdl : (stack.take (v.depth + 1)).dropLast = stack.take v.depth := by
      rw [List.dropLast_eq_take, List.length_take, List.take_take]
      congr 1; omega
    rw [hdl]

/-- the entries of a stack (slot numbers from `k`) that pass the merge test and whose slot satisfies `q` -/
def emitP (inc : Bool) (q : Nat → Bool) : Nat → List (Option V) → List V
  | _, [] => []
  | k, e :: st =>
    (match e with
      | some x => if passes inc x && q k then [x] else []
      | none => []) ++ emitP inc q (k + 1) st

theorem emitP_false (inc : Bool) (q : Nat → Bool) : ∀ (st : List (Option V)) (k : Nat),
    (∀ j, k ≤ j → q j = false) → emitP inc q k st = []
  | [], _, _ => rfl
  | e :: st, k, hq => by
    cases e <;> simp [emitP, hq k (Nat.le_refl k), emitP_false inc q st (k + 1) (fun j hj => hq j (by omega))]

theorem emitP_nopass (inc : Bool) (q : Nat → Bool) : ∀ (st : List (Option V)) (k : Nat),
    (∀ x, some x ∈ st → passes inc x = false) → emitP inc q k st = []
  | [], _, _ => rfl
  | e :: st, k, h => by
    have ih := emitP_nopass inc q st (k + 1) (fun x hx => h x (List.mem_cons_of_mem _ hx))
    cases e with
    | none => simp [emitP, ih]
    | some x => simp [emitP, ih, h x (List.mem_cons_self ..)]

theorem emitP_append (inc : Bool) (q : Nat → Bool) : ∀ (a b : List (Option V)) (k : Nat),
    emitP inc q k (a ++ b) = emitP inc q k a ++ emitP inc q (k + a.length) b
  | [], b, k => by simp [emitP]
  | e :: a, b, k => by
    simp only [List.cons_append, emitP, emitP_append inc q a b (k + 1), List.length_cons, List.append_assoc]
    congr 3; omega

/-- restricting the slot predicate to the slots below `d` = cutting the stack at `d` -/
theorem emitP_lt (inc : Bool) (q : Nat → Bool) (d : Nat) : ∀ (st : List (Option V)) (k : Nat),
    emitP inc (fun j => decide (j < d) && q j) k st = emitP inc q k (st.take (d - k))
  | [], _ => by simp [emitP]
  | e :: st, k => by
    by_cases hk : k < d
    · have h1 : d - k = (d - (k + 1)) + 1 := by omega
      rw [h1, List.take_succ_cons]
      simp only [emitP, emitP_lt inc q d st (k + 1), hk, decide_true, Bool.true_and]
    · have h1 : d - k = 0 := by omega
      rw [h1, List.take_zero]
      rw [emitP_false inc _ (e :: st) k (fun j hj => by simp; omega)]
      rfl

theorem emitP_true (inc : Bool) : ∀ (st : List (Option V)) (k : Nat),
    emitP inc (fun _ => true) k st = st.filterMap (Option.filter (passes inc))
  | [], _ => rfl
  | e :: st, k => by
    cases e with
    | none =>
      rw [List.filterMap_cons_none rfl]
      simp only [emitP, List.nil_append, emitP_true inc st (k + 1)]
    | some x =>
      cases hp : passes inc x <;> simp [emitP, Option.filter, hp, emitP_true inc st (k + 1)]

theorem mark_nopass (inc : Bool) (st : List (Option V)) (x : V)
    (h : some x ∈ st.map (Option.filter fun x => !passes inc x)) : passes inc x = false := by
  obtain ⟨n, _, hn⟩ := List.mem_map.mp h
  simpa using (Option.filter_eq_some_iff.mp hn).2

/-- **core**: the stack algorithm = (what is still listed from the stack) ++ the specification on the rest -/
theorem touchLoop_spec (modified : List Nat) (inc : Bool) : ∀ (l : List V) (st : List (Option V)),
    stepwise st.length l = true →
      touchLoop modified inc st l =
        emitP inc (fun k => groupHasMod modified k l) 0 st ++ enclosingExpected modified inc l
  | [], st, _ => by
    rw [emitP_false inc (fun k => groupHasMod modified k []) st 0 (fun _ _ => rfl)]
    rfl
  | v :: rest, st, h => by
    simp only [stepwise, Bool.and_eq_true, decide_eq_true_eq] at h
    obtain ⟨hv, hs⟩ := h
    have hpush := pushStack_eq st v hv
    have hlen : (pushStack st v).length = v.depth + 1 := by
      rw [hpush, List.length_append, List.length_take, Nat.min_eq_left hv]; rfl
    have htl : (st.take v.depth).length = v.depth := by
      rw [List.length_take, Nat.min_eq_left hv]
    rw [touchLoop_cons]
    by_cases hm : modified.contains v.rev = true
    · simp only [hm, if_true]
      have ih := touchLoop_spec modified inc rest ((pushStack st v).map (Option.filter fun x => !passes inc x))
        (by rw [List.length_map, hlen]; exact hs)
      rw [ih, emitP_nopass inc _ _ 0 (mark_nopass inc _), List.nil_append]
      -- the slots below the depth of `v` are listed now
      have hq : ∀ k, groupHasMod modified k (v :: rest) = (decide (k < v.depth) && (fun _ => true) k) := by
        intro k
        show (decide (k < v.depth) && (modified.contains v.rev || groupHasMod modified k rest)) = _
        rw [hm]; simp
      rw [funext hq, emitP_lt inc (fun _ => true) v.depth st 0, Nat.sub_zero, emitP_true, hpush,
        List.filterMap_append]
      simp only [enclosingExpected, hm, Bool.true_or, Bool.true_and]
      cases hp : (inc || v.depth == 0) <;> simp [Option.filter, passes, hp]
    · have hm' : modified.contains v.rev = false := by simpa using hm
      simp only [hm', Bool.false_eq_true, if_false]
      have ih := touchLoop_spec modified inc rest (pushStack st v) (by rw [hlen]; exact hs)
      rw [ih, hpush, emitP_append, htl, Nat.zero_add]
      have hq : ∀ k, groupHasMod modified k (v :: rest) =
          (decide (k < v.depth) && (fun j => groupHasMod modified j rest) k) := by
        intro k
        show (decide (k < v.depth) && (modified.contains v.rev || groupHasMod modified k rest)) = _
        rw [hm']; simp
      rw [funext hq, emitP_lt inc _ v.depth st 0, Nat.sub_zero, List.append_assoc]
      congr 1
      simp only [emitP, enclosingExpected, hm', Bool.false_or, passes, List.append_nil]
      by_cases hg : groupHasMod modified v.depth rest = true
      · by_cases hp : (inc || v.depth == 0) = true
        · simp [hg, hp]
        · have hp' : (inc || v.depth == 0) = false := by simpa using hp
          simp [hg, hp']
      · have hg' : groupHasMod modified v.depth rest = false := by simpa using hg
        simp [hg']

end BreezyVerif.C25
