import BreezyVerif.Lemmas.C22Main
/-!
C22 — lemmas about the specifier functions `matchOn` / `inHist` / `asRevId`:
the revno an `Info` carries is the revno of its revision.
-/
namespace BreezyVerif.C22

/-- the revno an `Info` carries (when it carries one) is the number of its revision -/
def Coh (b : Branch) (i : Info) : Prop := ∀ n, i.revno = some n → b.getRevId n = .ok i.revId

theorem infoOfId_coh (b : Branch) (id : RevId) : Coh b (b.infoOfId id) := by
  intro n hn
  simp only [Branch.infoOfId, Branch.lazyRevno] at hn
  split at hn
  · rename_i k hk
    cases hn
    cases id with
    | null =>
      simp only [Branch.revisionIdToRevno] at hk
      cases hk
      rfl
    | rev r => exact (getRevId_iff b n r).mpr (revnoOf_pos b hk)
    | other nm => simp [Branch.revisionIdToRevno] at hk
  · cases hn

theorem history_head_tip (b : Branch) (h : b.lastRevno ≠ 0) : ∃ t, b.tip = some t ∧ b.history[0]? = some t := by
  unfold Branch.lastRevno at h
  cases ht : b.tip with
  | none => simp [Branch.history, ht] at h
  | some t =>
    refine ⟨t, rfl, ?_⟩
    have hne : b.history ≠ [] := by
      intro hc; rw [hc] at h; exact h rfl
    cases hh : b.history with
    | nil => exact absurd hh hne
    | cons x rest =>
      have : x = t := by
        have h0 : b.history[0]? = some x := by rw [hh]; rfl
        unfold Branch.history at h0
        rw [ht] at h0
        exact lefthand_head b.g _ t x h0
      rw [this]; rfl

theorem getRevId_last (b : Branch) (h : b.lastRevno ≠ 0) : b.getRevId b.lastRevno = .ok b.lastRevision := by
  obtain ⟨t, ht, h0⟩ := history_head_tip b h
  have := getRevId_pos b b.lastRevno (by omega) (Nat.le_refl _) t (by simpa using h0)
  rw [this]
  simp [Branch.lastRevision, ht]

theorem revnoLookup_coh (b : Branch) (r : List Char) (n : Int) (id : RevId)
    (h : b.revnoLookup r = .ok (some n, id)) : b.getRevId n = .ok id := by
  unfold Branch.revnoLookup at h
  dsimp only at h
  by_cases h1 : (r.takeWhile (· != ':')).isEmpty = true
  · rw [if_pos h1] at h
    split at h <;> cases h
  · rw [if_neg h1] at h
    by_cases h2 : (r.contains ':' && !((r.dropWhile (· != ':')).drop 1).isEmpty) = true
    · rw [if_pos h2] at h; cases h
    · rw [if_neg h2] at h
      cases hp : pyInt (r.takeWhile (· != ':')) with
      | some m =>
        rw [hp] at h
        dsimp only at h
        split at h
        · rename_i id' hg
          cases h
          exact hg
        · cases h
        · cases h
      | none =>
        rw [hp] at h
        dsimp only at h
        split at h
        · cases h
        · split at h <;> cases h
theorem lastLookup_coh (b : Branch) (r : List Char) (n : Int) (id : RevId)
    (h : b.lastLookup r = .ok (n, id)) : b.getRevId n = .ok id := by
  unfold Branch.lastLookup at h
  split at h
  · split at h
    · cases h
    · rename_i hL
      cases h
      exact getRevId_last b (by simpa using hL)
  · split at h
    · cases h
    · split at h
      · cases h
      · dsimp only at h
        split at h
        · rename_i id' hg
          cases h
          exact hg
        · cases h


/-- a revno the `Info` carries is the number of its revision, and an `Info` without a revno names a
revision off the mainline -/
def Coherent (b : Branch) (i : Info) : Prop := Coh b i ∧ (i.revno = none → b.lazyRevno i.revId = none)

theorem infoOfId_coherent (b : Branch) (id : RevId) : Coherent b (b.infoOfId id) :=
  ⟨infoOfId_coh b id, fun h => h⟩

theorem coherent_of_getRevId {b : Branch} {n : Int} {id : RevId} (h : b.getRevId n = .ok id) :
    Coherent b ⟨some n, id⟩ :=
  ⟨fun _ hm => by cases hm; exact h, fun hm => by cases hm⟩

theorem coherent_of_bind {b : Branch} {x : Except Err RevId} {i : Info}
    (h : (x >>= fun id => pure (b.infoOfId id)) = .ok i) : Coherent b i := by
  cases x with
  | error e => cases h
  | ok id => cases h; exact infoOfId_coherent b id

theorem check_ok (b : Branch) (i j : Info) (h : b.check i = .ok j) : j = i := by
  unfold Branch.check at h
  split at h
  · cases h; rfl
  · cases h

/-- **every `Info` the specifier functions return is coherent** -/
theorem matchOn_inHist_coh (b : Branch) : ∀ (f : Nat) (s : List Char) (i : Info),
    (matchOn b f s = .ok i → Coherent b i) ∧ (inHist b f s = .ok i → Coherent b i) := by
  intro f
  induction f with
  | zero =>
    intro s i
    constructor <;> intro h
    · simp [matchOn] at h
    · simp [inHist] at h
  | succ f ih =>
    intro s i
    constructor
    · intro h
      unfold matchOn at h
      split at h
      · -- revno
        simp only [bind, Except.bind, pure, Except.pure] at h
        split at h
        · cases h
        · rename_i v hv
          obtain ⟨revno, id⟩ := v
          cases revno with
          | none => cases h; exact infoOfId_coherent b id
          | some n => cases h; exact coherent_of_getRevId (revnoLookup_coh b _ n id hv)
      · -- revid
        cases h
        exact infoOfId_coherent b _
      · -- last
        simp only [bind, Except.bind, pure, Except.pure] at h
        split at h
        · cases h
        · rename_i v hv
          cases h
          exact coherent_of_getRevId (lastLookup_coh b _ v.1 v.2 hv)
      · -- tag
        exact coherent_of_bind h
      · -- ancestor
        exact coherent_of_bind h
      · -- mainline
        exact coherent_of_bind h
      · -- before
        simp only [bind, Except.bind, pure, Except.pure] at h
        split at h
        · cases h
        · split at h
          · cases h
          · split at h
            · split at h
              · split at h
                · cases h
                · cases h; exact infoOfId_coherent b _
                · cases h; exact infoOfId_coherent b _
              · cases h
              · split at h <;> cases h
            · split at h
              · rename_i id hg
                cases h
                exact coherent_of_getRevId hg
              · cases h
      · cases h
      · -- dwim: every answer is the answer of one of the tried specifiers
        dsimp only at h
        split at h
        · rename_i r hr
          split at hr
          · split at hr
            · cases hr
            · cases hr
              exact (ih _ i).2 h
          · cases hr
        · split at h
          · split at h
            · split at h
              · cases h
              · split at h <;> cases h
            · exact (ih _ i).2 h
          · exact (ih _ i).2 h
    · intro h
      unfold inHist at h
      split at h
      · exact (ih s i).1 h
      · simp only [bind, Except.bind] at h
        split at h
        · cases h
        · rename_i i2 hi2
          cases check_ok b i2 i h
          exact (ih s _).1 hi2

def nonRec : Kind → Bool
  | .revno | .revid | .last | .tag | .ancestor | .unsupportedPrefix => true
  | _ => false

/-- the body of `before:` in `_match_on`, given the inner result -/
def beforeStep (b : Branch) (inner : Info) : Except Err Info :=
  if inner.revno == some 0 then .error .invalidRevisionSpec
  else match inner.revno with
    | none =>
      match inner.revId with
      | .rev n =>
        match b.g[n]? with
        | none => .error .noSuchRevision
        | some [] => pure (b.infoOfId .null)
        | some (p :: _) => pure (b.infoOfId (.rev p))
      | .null => .error .internal
      | .other nm => if nm.isEmpty then .error .unsupported else .error .noSuchRevision
    | some n =>
      match b.getRevId (n - 1) with
      | .ok id => pure ⟨some (n - 1), id⟩
      | .error _ => .error .invalidRevisionSpec

/-- the body of `before:` in `as_revision_id` -/
def beforeId (b : Branch) (base : RevId) : Except Err RevId :=
  match base with
  | .null => .error .invalidRevisionSpec
  | .other _ => .error .invalidRevisionSpec
  | .rev n =>
    match b.g[n]? with
    | none => .error .invalidRevisionSpec
    | some [] => pure .null
    | some (p :: _) => pure (.rev p)

def mainlineId (b : Branch) (id : RevId) : Except Err RevId :=
  match findLefthandMerger b id with
  | some m => pure m
  | none => .error .invalidRevisionSpec

def dwimCombine (s : List Char) (A T V : Except Err Info) : Except Err Info :=
  let tryRevno : Option (Except Err Info) :=
    if revnoRegex s then
      match A with
      | .error .invalidRevisionSpec => none
      | r => some r
    else none
  match tryRevno with
  | some r => r
  | none =>
    match T with
    | .error .noSuchTag =>
      (match V with
        | .error .invalidRevisionSpec =>
          if looksLikeDate s || ["yesterday", "today", "tomorrow"].contains (String.ofList (lower s))
          then .error .unsupported
          else if s.contains ':' then .error .unsupported
          else .error .invalidRevisionSpec
        | r => r)
    | r => r

theorem matchOn_nonrec (b : Branch) (f : Nat) (s r : List Char) (k : Kind) (hcl : classify s = (k, r))
    (hk : nonRec k = true) : matchOn b (f + 1) s = matchOn b 1 s := by
  rw [matchOn, matchOn]
  cases k <;> simp only [hcl] <;> cases hk

theorem asRevId_nonrec (b : Branch) (f : Nat) (s r : List Char) (k : Kind) (hcl : classify s = (k, r))
    (hk : nonRec k = true) : asRevId b (f + 1) s = asRevId b 1 s := by
  rw [asRevId, asRevId]
  cases k <;> simp only [hcl] <;> cases hk

theorem matchOn_mainline (b : Branch) (f : Nat) (s r : List Char) (hcl : classify s = (.mainline, r)) :
    matchOn b (f + 1) s = (asRevId b f s).bind fun id => pure (b.infoOfId id) := by
  rw [matchOn]; simp only [hcl]; rfl

theorem matchOn_before (b : Branch) (f : Nat) (s r : List Char) (hcl : classify s = (.before, r)) :
    matchOn b (f + 1) s = (matchOn b f r).bind (beforeStep b) := by
  rw [matchOn]; simp only [hcl]; rfl

theorem matchOn_dwim (b : Branch) (f : Nat) (s r : List Char) (hcl : classify s = (.dwim, r)) :
    matchOn b (f + 1) s = dwimCombine s (inHist b f (pRevno ++ s)) (inHist b f (pTag ++ s)) (inHist b f (pRevid ++ s)) := by
  rw [matchOn]; simp only [hcl]; rfl

theorem inHist_dwim (b : Branch) (f : Nat) (s r : List Char) (hcl : classify s = (.dwim, r)) :
    inHist b (f + 1) s = matchOn b f s := by
  rw [inHist]; simp only [hcl]

theorem inHist_nondwim (b : Branch) (f : Nat) (s r : List Char) (k : Kind) (hcl : classify s = (k, r))
    (hk : k ≠ .dwim) : inHist b (f + 1) s = (matchOn b f s).bind b.check := by
  rw [inHist]
  cases k <;> simp only [hcl] <;> first | rfl | exact absurd rfl hk

theorem asRevId_before (b : Branch) (f : Nat) (s r : List Char) (hcl : classify s = (.before, r)) :
    asRevId b (f + 1) s = (asRevId b f r).bind (beforeId b) := by
  rw [asRevId]; simp only [hcl]; rfl

theorem asRevId_mainline (b : Branch) (f : Nat) (s r : List Char) (hcl : classify s = (.mainline, r)) :
    asRevId b (f + 1) s = if specGetBranch r then .error .unsupported else (asRevId b f r).bind (mainlineId b) := by
  rw [asRevId]; simp only [hcl]; rfl

theorem asRevId_dwim (b : Branch) (f : Nat) (s r : List Char) (hcl : classify s = (.dwim, r)) :
    asRevId b (f + 1) s = (inHist b f s).bind fun i => pure i.revId := by
  rw [asRevId]; simp only [hcl]; rfl

-- `classify` only inspects the leading characters, so these hold by evaluation with `r` a variable
theorem classify_pRevno (r : List Char) : classify (pRevno ++ r) = (.revno, r) := rfl

theorem classify_pRevid (r : List Char) : classify (pRevid ++ r) = (.revid, r) := rfl

theorem classify_pLast (r : List Char) : classify (pLast ++ r) = (.last, r) := rfl

theorem classify_pBefore (r : List Char) : classify (pBefore ++ r) = (.before, r) := rfl

theorem classify_pTag (r : List Char) : classify (pTag ++ r) = (.tag, r) := rfl

theorem classify_pAncestor (r : List Char) : classify (pAncestor ++ r) = (.ancestor, r) := rfl

theorem classify_pMainline (r : List Char) : classify (pMainline ++ r) = (.mainline, r) := rfl

theorem findSome_prefix (s : List Char) : ∀ (l : List (List Char × Kind)) (k : Kind) (r : List Char),
    (∀ e ∈ l, 4 ≤ e.1.length ∧ e.2 ≠ .dwim) →
    l.findSome? (fun (p, k) => (stripPrefix? p s).map fun r => (k, r)) = some (k, r) →
    k ≠ .dwim ∧ r.length + 4 ≤ s.length
  | [], _, _, _, h => by simp at h
  | (p, k') :: l, k, r, hall, h => by
    rw [List.findSome?_cons] at h
    split at h
    · rename_i v hv
      cases h
      simp only [stripPrefix?] at hv
      split at hv
      · rename_i hp
        simp only [Option.map_some, Option.some.injEq, Prod.mk.injEq] at hv
        obtain ⟨rfl, rfl⟩ := hv
        have := hall (p, k') (List.mem_cons_self ..)
        have h4 : 4 ≤ p.length := this.1
        refine ⟨this.2, ?_⟩
        have hle : p.length ≤ s.length := (List.IsPrefix.length_le (List.isPrefixOf_iff_prefix.mp hp))
        simp only [List.length_drop]
        omega
      · simp at hv
    · exact findSome_prefix s l k r (fun e he => hall e (List.mem_cons_of_mem _ he)) h

theorem classify_shorter (s : List Char) (k : Kind) (r : List Char) (h : classify s = (k, r)) :
    (k = .dwim ∧ r = s) ∨ (k ≠ .dwim ∧ r.length + 4 ≤ s.length) := by
  unfold classify at h
  split at h
  · rename_i v hv
    subst h
    right
    exact findSome_prefix s prefixes k r (by decide +kernel) hv
  · cases h; left; exact ⟨rfl, rfl⟩

theorem inHist_nonrec_stable (b : Branch) (t r : List Char) (k : Kind) (hcl : classify t = (k, r))
    (hk : nonRec k = true) (f : Nat) : inHist b (f + 2) t = inHist b 2 t := by
  have hnd : k ≠ .dwim := by intro h; subst h; cases hk
  rw [inHist_nondwim b (f + 1) t r k hcl hnd, inHist_nondwim b 1 t r k hcl hnd,
    matchOn_nonrec b f t r k hcl hk, matchOn_nonrec b 0 t r k hcl hk]

theorem matchOn_dwim_stable (b : Branch) (s r : List Char) (hcl : classify s = (.dwim, r)) (f : Nat) :
    matchOn b (f + 3) s = matchOn b 3 s := by
  rw [matchOn_dwim b (f + 2) s r hcl, matchOn_dwim b 2 s r hcl,
    inHist_nonrec_stable b _ _ _ (classify_pRevno s) rfl f,
    inHist_nonrec_stable b _ _ _ (classify_pTag s) rfl f,
    inHist_nonrec_stable b _ _ _ (classify_pRevid s) rfl f]

theorem inHist_dwim_stable (b : Branch) (s r : List Char) (hcl : classify s = (.dwim, r)) (f : Nat) :
    inHist b (f + 4) s = inHist b 4 s := by
  rw [inHist_dwim b (f + 3) s r hcl, inHist_dwim b 3 s r hcl, matchOn_dwim_stable b s r hcl f]

theorem asRevId_dwim_stable (b : Branch) (s r : List Char) (hcl : classify s = (.dwim, r)) (f : Nat) :
    asRevId b (f + 5) s = asRevId b 5 s := by
  rw [asRevId_dwim b (f + 4) s r hcl, asRevId_dwim b 4 s r hcl, inHist_dwim_stable b s r hcl f]

/-- **the fuel is adequate**: from `length + 5 / 6 / 7` on, one more unit of fuel changes nothing -/
theorem stable_all (b : Branch) : ∀ (n : Nat) (s : List Char), s.length ≤ n →
    (∀ f, s.length + 5 ≤ f → asRevId b (f + 1) s = asRevId b f s) ∧
    (∀ f, s.length + 6 ≤ f → matchOn b (f + 1) s = matchOn b f s) ∧
    (∀ f, s.length + 7 ≤ f → inHist b (f + 1) s = inHist b f s) := by
  intro n
  induction n using Nat.strongRecOn with
  | _ n ih =>
    intro s hs
    cases hcl : classify s with
    | mk k r =>
    rcases classify_shorter s k r hcl with ⟨hk, hr⟩ | ⟨hk, hr⟩
    · -- a prefix-less specifier only tries non-recursive ones
      subst hk
      refine ⟨?_, ?_, ?_⟩
      · intro f hf
        obtain ⟨k, rfl⟩ : ∃ k, f = k + 5 := ⟨f - 5, by omega⟩
        rw [asRevId_dwim_stable b _ _ hcl (k + 1), asRevId_dwim_stable b _ _ hcl k]
      · intro f hf
        obtain ⟨k, rfl⟩ : ∃ k, f = k + 3 := ⟨f - 3, by omega⟩
        rw [matchOn_dwim_stable b _ _ hcl (k + 1), matchOn_dwim_stable b _ _ hcl k]
      · intro f hf
        obtain ⟨k, rfl⟩ : ∃ k, f = k + 4 := ⟨f - 4, by omega⟩
        rw [inHist_dwim_stable b _ _ hcl (k + 1), inHist_dwim_stable b _ _ hcl k]
    · -- a prefix: the rest is shorter
      obtain ⟨ihA, ihM, _⟩ := ih r.length (by omega) r (Nat.le_refl _)
      have hA : ∀ f, s.length + 5 ≤ f → asRevId b (f + 1) s = asRevId b f s := by
        intro f hf
        obtain ⟨f', rfl⟩ : ∃ k, f = k + 1 := ⟨f - 1, by omega⟩
        by_cases hnr : nonRec k = true
        · rw [asRevId_nonrec b (f' + 1) s r k hcl hnr, asRevId_nonrec b f' s r k hcl hnr]
        · cases k <;> try exact absurd rfl hnr
          · rw [asRevId_before b (f' + 1) s r hcl, asRevId_before b f' s r hcl, ihA f' (by omega)]
          · rw [asRevId_mainline b (f' + 1) s r hcl, asRevId_mainline b f' s r hcl, ihA f' (by omega)]
          · exact absurd rfl hk
      have hM : ∀ f, s.length + 6 ≤ f → matchOn b (f + 1) s = matchOn b f s := by
        intro f hf
        obtain ⟨f', rfl⟩ : ∃ k, f = k + 1 := ⟨f - 1, by omega⟩
        by_cases hnr : nonRec k = true
        · rw [matchOn_nonrec b (f' + 1) s r k hcl hnr, matchOn_nonrec b f' s r k hcl hnr]
        · cases k <;> try exact absurd rfl hnr
          · rw [matchOn_before b (f' + 1) s r hcl, matchOn_before b f' s r hcl, ihM f' (by omega)]
          · rw [matchOn_mainline b (f' + 1) s r hcl, matchOn_mainline b f' s r hcl, hA f' (by omega)]
          · exact absurd rfl hk
      refine ⟨hA, hM, ?_⟩
      intro f hf
      obtain ⟨f', rfl⟩ : ∃ k, f = k + 1 := ⟨f - 1, by omega⟩
      rw [inHist_nondwim b (f' + 1) s r k hcl hk, inHist_nondwim b f' s r k hcl hk, hM f' (by omega)]

theorem lefthand_mem_lt (g : Graph) : ∀ (fuel r x : Nat), x ∈ lefthand g fuel r → x < g.length := by
  intro fuel
  induction fuel with
  | zero => intro r x h; simp [lefthand] at h
  | succ fuel ih =>
    intro r x h
    rw [lefthand_succ] at h
    split at h
    · cases h
    · rename_i ps hps
      rcases List.mem_cons.mp h with rfl | h
      · rcases List.getElem?_eq_some_iff.mp hps with ⟨hlt, _⟩; exact hlt
      · split at h
        · exact ih _ x h
        · cases h

theorem history_mem_lt (b : Branch) (x : Nat) (h : x ∈ b.history) : x < b.g.length := by
  unfold Branch.history at h
  split at h
  · cases h
  · exact lefthand_mem_lt _ _ _ _ h

/-- the first revision of the mainline has no left-hand parent at all (clean mainline) -/
theorem getRevId_one_root (b : Branch) (hw : WF b.g) (htip : ∀ t, b.tip = some t → t < b.g.length)
    (hclean : ChainClean b.g b.history) (r : Nat) (h : b.getRevId 1 = .ok (.rev r)) : b.g[r]? = some [] := by
  obtain ⟨m, hm, hr⟩ := (getRevId_iff b 1 r).mp h
  obtain rfl : m = 0 := by omega
  have hlast : b.history.getLast? = some r := by
    rw [← List.head?_reverse, List.head?_eq_getElem?]; exact hr
  have hmem : r ∈ b.history := List.mem_reverse.mp (List.mem_of_getElem? hr)
  have hlp : lpOf b.g r = none := by
    unfold Branch.history at hlast
    split at hlast
    · simp at hlast
    · rename_i t ht
      exact lefthand_last_root hw (t + 1) t r (by omega) (htip t ht) hlast
  have hps := hclean r hmem hlp
  have hlt := history_mem_lt b r hmem
  unfold parentsD at hps
  rw [List.getElem?_eq_getElem hlt] at hps ⊢
  simp only at hps
  rw [hps]

/-- **the step of `before:`**: the mainline shortcut of `in_history` (revno − 1)
and the graph walk of `as_revision_id` (left-hand parent) give the same revision -/
theorem before_agree (b : Branch) (hw : WF b.g) (htip : ∀ t, b.tip = some t → t < b.g.length)
    (hclean : ChainClean b.g b.history) (inner j : Info) (hcoh : Coh b inner)
    (h : beforeStep b inner = .ok j) : beforeId b inner.revId = .ok j.revId := by
  unfold beforeStep at h
  split at h
  · cases h
  · rename_i h0
    split at h
    · -- no revno: both walk the graph
      unfold beforeId
      split at h
      · rename_i n hid
        rw [hid]
        simp only
        split at h
        · cases h
        · cases h; rfl
        · cases h; rfl
      · cases h
      · split at h <;> cases h
    · rename_i n hn
      have hget := hcoh n hn
      split at h
      · rename_i id hpred
        cases h
        simp only
        have hn0 : n ≠ 0 := by
          intro hc; subst hc; rw [hn] at h0; simp at h0
        obtain ⟨r, hr⟩ := getRevId_rev_of_ne_zero b hget hn0
        rw [hr] at hget ⊢
        obtain ⟨k, hk, _⟩ := (getRevId_iff b n r).mp hget
        obtain ⟨m, rfl⟩ : ∃ m : Nat, n = (m : Int) := ⟨k + 1, by omega⟩
        unfold beforeId
        simp only
        by_cases hm2 : 2 ≤ m
        · obtain ⟨p, hlp, hp⟩ := getRevId_pred b m r hm2 hget
          rw [hp] at hpred
          cases hpred
          unfold lpOf at hlp
          split at hlp
          · rename_i ps hps
            rw [hps]
            unfold leftParent at hlp
            cases ps with
            | nil => cases hlp
            | cons q t =>
              simp only at hlp
              split at hlp
              · cases hlp; rfl
              · cases hlp
          · cases hlp
        · have hm1 : m = 1 := by omega
          subst hm1
          have hroot := getRevId_one_root b hw htip hclean r hget
          rw [hroot]
          have : b.getRevId ((1 : Nat) - 1 : Int) = .ok .null := rfl
          rw [this] at hpred
          cases hpred
          rfl
      · cases h

theorem except_bind_ok {ε α β : Type} {x : Except ε α} {f : α → Except ε β} {v : β}
    (h : x.bind f = .ok v) : ∃ a, x = .ok a ∧ f a = .ok v := by
  cases x with
  | error e => cases h
  | ok a => exact ⟨a, rfl, h⟩

theorem revId_of_bind {b : Branch} {x : Except Err RevId} {i : Info}
    (h : (x >>= fun id => pure (b.infoOfId id)) = .ok i) : x = .ok i.revId := by
  cases x with
  | error e => cases h
  | ok id => cases h; rfl

/-- the non-recursive kinds: both entry points read the same lookup -/
theorem nonrec_agree (b : Branch) (s r : List Char) (k : Kind) (hcl : classify s = (k, r)) (hk : nonRec k = true)
    (i : Info) (h : matchOn b 1 s = .ok i) : asRevId b 1 s = .ok i.revId := by
  rw [matchOn] at h
  rw [asRevId]
  cases k <;> simp [nonRec] at hk <;> simp only [hcl] at h ⊢
  · -- revno
    simp only [bind, Except.bind, pure, Except.pure] at h ⊢
    split at h
    · cases h
    · rename_i v hv
      obtain ⟨revno, id⟩ := v
      cases revno <;> (simp only at h ⊢; cases h; rfl)
  · -- revid
    simp only [pure, Except.pure] at h ⊢
    cases h; rfl
  · -- last
    simp only [bind, Except.bind, pure, Except.pure] at h ⊢
    split at h
    · cases h
    · rename_i v hv
      obtain ⟨revno, id⟩ := v
      simp only at h ⊢; cases h; rfl
  · -- tag
    exact revId_of_bind h
  · -- ancestor
    exact revId_of_bind h
  · cases h

/-- **`in_history` and `as_revision_id` name the same revision** — every specifier string, fuel from `length + 8` on -/
theorem agree_all (b : Branch) (hw : WF b.g) (htip : ∀ t, b.tip = some t → t < b.g.length)
    (hclean : ChainClean b.g b.history) : ∀ (n : Nat) (s : List Char), s.length ≤ n → ∀ (f : Nat), s.length + 8 ≤ f →
    ∀ i, (matchOn b f s = .ok i → asRevId b f s = .ok i.revId) ∧ (inHist b f s = .ok i → asRevId b f s = .ok i.revId) := by
  intro n
  induction n using Nat.strongRecOn with
  | _ n ih =>
    intro s hs f hf i
    obtain ⟨f', rfl⟩ : ∃ k, f = k + 1 := ⟨f - 1, by omega⟩
    obtain ⟨stA, stM, stH⟩ := stable_all b s.length s (Nat.le_refl _)
    cases hcl : classify s with
    | mk k r =>
    rcases classify_shorter s k r hcl with ⟨hk, hr⟩ | ⟨hk, hr⟩
    · -- prefix-less: `as_revision_id` goes through `in_history`, which is `_match_on` with one unit less
      subst hk
      obtain ⟨f2, rfl⟩ : ∃ k, f' = k + 1 := ⟨f' - 1, by omega⟩
      rw [asRevId_dwim b _ s r hcl]
      constructor
      · intro h
        rw [inHist_dwim b f2 s r hcl, ← stM f2 (by omega), ← stM (f2 + 1) (by omega), h]
        rfl
      · intro h
        rw [← stH (f2 + 1) (by omega), h]
        rfl
    · have hMpart : ∀ i, matchOn b (f' + 1) s = .ok i → asRevId b (f' + 1) s = .ok i.revId := by
        intro i h
        by_cases hnr : nonRec k = true
        · rw [matchOn_nonrec b f' s r k hcl hnr] at h
          rw [asRevId_nonrec b f' s r k hcl hnr]
          exact nonrec_agree b s r k hcl hnr i h
        · cases k <;> try exact absurd rfl hnr
          · -- before
            rw [matchOn_before b f' s r hcl] at h
            obtain ⟨inner, hin, hstep⟩ := except_bind_ok h
            have hA := (ih r.length (by omega) r (Nat.le_refl _) f' (by omega) inner).1 hin
            rw [asRevId_before b f' s r hcl, hA]
            exact before_agree b hw htip hclean inner i ((matchOn_inHist_coh b f' r inner).1 hin).1 hstep
          · -- mainline: in_history IS as_revision_id
            rw [matchOn_mainline b f' s r hcl] at h
            obtain ⟨id, hid, hp⟩ := except_bind_ok h
            cases hp
            rw [stA f' (by omega), hid]
            rfl
          · exact absurd rfl hk
      refine ⟨hMpart i, fun h => ?_⟩
      rw [inHist_nondwim b f' s r k hcl hk] at h
      obtain ⟨i', hi', hchk⟩ := except_bind_ok h
      cases check_ok b i' i hchk
      rw [← stM f' (by omega)] at hi'
      exact hMpart _ hi'

end BreezyVerif.C22
