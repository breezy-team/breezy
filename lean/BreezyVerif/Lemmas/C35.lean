import BreezyVerif.Model.C35
import BreezyVerif.Lemmas.Lib.InsertSort
/-
Lemmas behind Props/C35.lean: the incremental export under a correct SHA map,
the import of an exported store, the insertion sort of tree entries, and the
re-export of a canonical tree.  A fact about nodes and the matching fact about
child lists are proved together, as one conjunction, through `Node.induction`.
-/
namespace BreezyVerif.C35

/-- simultaneous structural induction over nodes and child lists -/
theorem Node.induction {P : Node → Prop} {Q : Children → Prop}
    (file : ∀ k c x um, P (.file k c x um)) (link : ∀ k t um, P (.link k t um))
    (dir : ∀ cs, Q cs → P (.dir cs)) (nil : Q .nil)
    (cons : ∀ name n rest, P n → Q rest → Q (.cons name n rest)) : (∀ n, P n) ∧ ∀ cs, Q cs :=
  ⟨fun n => Node.rec (motive_1 := P) (motive_2 := Q) file link dir nil cons n,
    fun cs => Children.rec (motive_1 := P) (motive_2 := Q) file link dir nil cons cs⟩

/-! ### cache and incremental export -/

theorem cacheOK_iff (H : GObj → Sha) (cache : Cache) (ls : List (Key × Bytes)) :
    cacheOK H cache ls = true ↔ ∀ k p s, (k, p) ∈ ls → cache.get k = some s → s = H (.blob p) := by
  simp only [cacheOK, List.all_eq_true, Prod.forall]
  constructor
  · intro h k p s hm hg
    have := h k p hm
    rw [hg] at this
    exact eq_of_beq this
  · intro h k p hm
    cases hg : cache.get k with
    | none => rfl
    | some s => exact beq_iff_eq.2 (h k p s hm hg)

/-- a lookup in a correct SHA map with the fresh blob id as fall-back is the fresh blob id -/
theorem cacheOK_getD {H : GObj → Sha} {cache : Cache} {ls : List (Key × Bytes)}
    (h : cacheOK H cache ls = true) {k : Key} {p : Bytes} (hm : (k, p) ∈ ls) :
    (match cache.get k with
      | some s => s
      | none => H (.blob p)) = H (.blob p) := by
  cases hg : cache.get k with
  | none => rfl
  | some s => exact (cacheOK_iff H cache ls).1 h k p s hm hg

theorem findFid_findFidC_mem (f : Bytes) :
    (∀ n k c x um, findFid f n = some (.file k c x um) → (k, c) ∈ leaves n) ∧
    ∀ cs k c x um, findFidC f cs = some (.file k c x um) → (k, c) ∈ leavesC cs := by
  refine Node.induction ?_ ?_ ?_ ?_ ?_
  · intro k' c' x' um' k c x um h
    rw [findFid] at h
    split at h
    · cases h; exact List.mem_singleton.2 rfl
    · cases h
  · intro k' t' um' k c x um h
    rw [findFid] at h
    split at h <;> cases h
  · exact fun cs ih => ih
  · exact fun k c x um h => nomatch h
  · intro _ n rest ihn ihr k c x um h
    rw [findFidC] at h
    rw [leavesC, List.mem_append]
    cases hn : findFid f n with
    | some r =>
      rw [hn] at h
      cases h
      exact Or.inl (ihn k c x um hn)
    | none =>
      rw [hn] at h
      exact Or.inr (ihr k c x um h)

theorem findFid_mem (f : Bytes) : (n : Node) → ∀ k c x um, findFid f n = some (.file k c x um) → (k, c) ∈ leaves n :=
  (findFid_findFidC_mem f).1

theorem reuseKey_mem (others : List Children) (fid c : Bytes) (pk : Key)
    (h : reuseKey others fid c = some pk) : (pk, c) ∈ others.flatMap leavesC := by
  induction others with
  | nil => exact nomatch h
  | cons o rest ih =>
    rw [List.flatMap_cons, List.mem_append]
    unfold reuseKey at h
    split at h
    · rename_i k c' x um hf
      split at h
      · rename_i hc
        cases h
        subst hc
        exact Or.inl ((findFid_findFidC_mem fid).2 o _ _ x um hf)
      · exact Or.inr (ih h)
    · exact Or.inr (ih h)

theorem incrFile_eq (H : GObj → Sha) (cache : Cache) (base : Option Children) (others : List Children)
    (ls : List (Key × Bytes)) (hc : cacheOK H cache ls = true)
    (ho : ∀ x ∈ others.flatMap leavesC, x ∈ ls)
    (path : Path) (k : Key) (c : Bytes) (n : Node) (hk : (k, c) ∈ ls) :
    incrFile H cache base others path k c n = H (.blob c) := by
  unfold incrFile
  split
  · split
    · rename_i pk hr
      exact cacheOK_getD hc (ho _ (reuseKey_mem others k.fid c pk hr))
    · rfl
  · exact cacheOK_getD hc hk

theorem incrLink_eq (H : GObj → Sha) (cache : Cache) (base : Option Children)
    (ls : List (Key × Bytes)) (hc : cacheOK H cache ls = true)
    (path : Path) (k : Key) (t : Bytes) (n : Node) (hk : (k, t) ∈ ls) :
    incrLink H cache base path k t n = H (.blob t) := by
  unfold incrLink
  split
  · rfl
  · exact cacheOK_getD hc hk

/-- Every node and every child list: with any SHA map that is correct for the
leaves that can be asked for (`cacheOK`: a cached id of a key is the id of the
blob of the text with that key), any base tree, any other parents and at any
path, the incremental conversion yields exactly the from-scratch mode/id. -/
theorem incrNode_eq_expNode (H : GObj → Sha) (cache : Cache) (base : Option Children)
    (others : List Children) (ls : List (Key × Bytes)) (hc : cacheOK H cache ls = true)
    (ho : ∀ x ∈ others.flatMap leavesC, x ∈ ls) :
    (∀ (n : Node) (path : Path), (∀ x ∈ leaves n, x ∈ ls) →
      incrNode H cache base others path n = expNode H n) ∧
    (∀ (cs : Children) (path : Path), (∀ x ∈ leavesC cs, x ∈ ls) →
      incrChildren H cache base others path cs = expChildren H cs) := by
  refine Node.induction ?_ ?_ ?_ ?_ ?_
  · intro k c x um path hl
    rw [incrNode, expNode, incrFile_eq H cache base others ls hc ho path k c _ (hl _ (List.mem_singleton.2 rfl))]
  · intro k t um path hl
    rw [incrNode, expNode, incrLink_eq H cache base ls hc path k t _ (hl _ (List.mem_singleton.2 rfl))]
  · intro cs ih path hl
    rw [incrNode, expNode, ih path hl]
  · exact fun _ _ => rfl
  · intro name n rest ihn ihr path hl
    rw [incrChildren, expChildren, ihn _ fun x hx => hl x (List.mem_append_left _ hx),
      ihr path fun x hx => hl x (List.mem_append_right _ hx)]

theorem sameGit_exp (H : GObj → Sha) :
    (∀ a b, sameGit a b = true → expNode H a = expNode H b) ∧
    ∀ a b, sameGitC a b = true → expChildren H a = expChildren H b := by
  refine sameGit.mutual_induct _ _ ?_ ?_ ?_ ?_ ?_ ?_ ?_
  · intro _ c x um _ c' x' um' h
    simp only [sameGit, Bool.and_eq_true, beq_iff_eq] at h
    obtain ⟨⟨rfl, rfl⟩, rfl⟩ := h
    rfl
  · intro _ t um _ t' um' h
    simp only [sameGit, Bool.and_eq_true, beq_iff_eq] at h
    obtain ⟨rfl, rfl⟩ := h
    rfl
  · intro cs cs' ih h
    rw [expNode, expNode, ih h]
  · -- different constructors: the catch-all equation of `sameGit` applies, its side conditions are `h1 h2 h3`
    intro a b h1 h2 h3 h
    rw [sameGit] at h
    · cases h
    all_goals assumption
  · exact fun _ => rfl
  · intro n x r n' x' r' ihx ihr h
    simp only [sameGitC, Bool.and_eq_true, beq_iff_eq] at h
    obtain ⟨⟨rfl, hx⟩, hr⟩ := h
    rw [expChildren, expChildren, ihx hx, ihr hr]
  · intro a b h1 h2 h
    rw [sameGitC] at h
    · cases h
    all_goals assumption

/-- the incremental root id is the from-scratch one, for a SHA map that is correct for a set `ls`
of leaves containing those of the tree and of the further parents -/
theorem incrRoot_eq (H : GObj → Sha) (cache : Cache) (base : Option (Children × Sha))
    (others : List Children) (t : Children) (ls : List (Key × Bytes)) (hc : cacheOK H cache ls = true)
    (ht : ∀ x ∈ leavesC t, x ∈ ls) (ho : ∀ x ∈ others.flatMap leavesC, x ∈ ls)
    (hb : ∀ b s, base = some (b, s) → s = expRoot H b) :
    incrRoot H cache base others t = expRoot H t := by
  have hch := fun b => (incrNode_eq_expNode H cache b others ls hc ho).2 t [] ht
  unfold incrRoot expRoot rootObj
  split
  · rename_i b s
    split
    · rename_i hs
      rw [hb b s rfl, expRoot, rootObj, (sameGit_exp H).2 b t hs]
    · rw [hch]
  · rw [hch]

/-! ### object stores and import -/

theorem objs_wf (H : GObj → Sha) :
    (∀ n, ∀ p ∈ objsNode H n, p.1 = H p.2) ∧ ∀ cs, ∀ p ∈ objsChildren H cs, p.1 = H p.2 := by
  refine Node.induction ?_ ?_ ?_ ?_ ?_
  · intro _ _ _ _ p h
    cases List.mem_singleton.1 h
    rfl
  · intro _ _ _ p h
    cases List.mem_singleton.1 h
    rfl
  · intro cs ih p h
    rw [objsNode, List.mem_append] at h
    rcases h with h | h
    · split at h
      · cases h
      · cases List.mem_singleton.1 h
        rfl
    · exact ih p h
  · exact fun _ h => nomatch h
  · intro name n rest ihn ihr p h
    rw [objsChildren] at h
    split at h
    · exact ihr p h
    · exact (List.mem_append.1 h).elim (ihn p) (ihr p)

theorem objsNode_wf (H : GObj → Sha) : (n : Node) → ∀ p ∈ objsNode H n, p.1 = H p.2 :=
  (objs_wf H).1

theorem store_get_of_mem {H : GObj → Sha} :
    ∀ (st : Store), (∀ p ∈ st, ∀ q ∈ st, H p.2 = H q.2 → p.2 = q.2) →
      (∀ p ∈ st, p.1 = H p.2) → ∀ o, (H o, o) ∈ st → st.get (H o) = some o
  | [] => fun _ _ _ hm => nomatch hm
  | (k, o') :: rest => fun hinj hwf o hm => by
    rw [Store.get]
    split
    · rename_i hk
      have h1 : k = H o' := hwf _ List.mem_cons_self
      exact congrArg some (hinj _ List.mem_cons_self _ hm (h1.symm.trans hk))
    · rename_i hk
      rcases List.mem_cons.1 hm with h | h
      · cases h
        exact absurd rfl hk
      · exact store_get_of_mem rest (fun p hp q hq => hinj p (List.mem_cons_of_mem _ hp) q (List.mem_cons_of_mem _ hq))
          (fun p hp => hwf p (List.mem_cons_of_mem _ hp)) o h

theorem importClass_tree_iff (m : Nat) : importClass m = .tree ↔ sISDIR m = true := by
  unfold importClass
  cases sISDIR m <;> cases sISGITLINK m <;> cases sISLNK m <;> decide

theorem sISDIR_eq_false {m : Nat} (h : importClass m ≠ .tree) : sISDIR m = false :=
  Bool.eq_false_iff.2 fun hs => h ((importClass_tree_iff m).2 hs)

theorem impEntry_isDir (st : Store) : ∀ (f : Nat) (e : Entry) (p : PNode),
    impEntry st f e = some p → p.isDir = sISDIR e.mode
  | 0 => fun e p h => nomatch h
  | f + 1 => fun e p h => by
    rw [impEntry] at h
    split at h
    · rename_i hc
      rw [(importClass_tree_iff e.mode).1 hc]
      split at h
      · obtain ⟨_, _, rfl⟩ := Option.map_eq_some_iff.1 h
        rfl
      · cases h
    · cases h
    -- symlink and file: the object is a blob, never a directory
    all_goals
      rename_i hc
      rw [sISDIR_eq_false (hc ▸ nofun)]
      split at h
      · cases h
        rfl
      · cases h

theorem impEntry_key (st : Store) (f : Nat) (e : Entry) (p : PNode)
    (h : impEntry st f e = some p) : pkey (e.name, p) = e.key := by
  rw [pkey, Entry.key, impEntry_isDir st f e p h]

theorem impList_cons_some {g : Entry → Option PNode} {e : Entry} {es : List Entry} {ps : List (Bytes × PNode)}
    (h : impList g (e :: es) = some ps) :
    ∃ p qs, g e = some p ∧ impList g es = some qs ∧ ps = (e.name, p) :: qs := by
  rw [impList] at h
  split at h
  · rename_i p qs hp hq
    cases h
    exact ⟨p, qs, hp, hq, rfl⟩
  · cases h

theorem impList_cons_of {g : Entry → Option PNode} {e : Entry} {es : List Entry} {p : PNode}
    {qs : List (Bytes × PNode)} (hp : g e = some p) (hq : impList g es = some qs) :
    impList g (e :: es) = some ((e.name, p) :: qs) := by
  rw [impList, hp, hq]

theorem impList_insert (g : Entry → Option PNode)
    (hkey : ∀ e p, g e = some p → pkey (e.name, p) = e.key)
    (e : Entry) (p : PNode) (he : g e = some p) :
    ∀ (l : List Entry) (ps : List (Bytes × PNode)), impList g l = some ps →
      impList g (insertBy Entry.key e l) = some (insertBy pkey (e.name, p) ps)
  | [] => fun ps h => by
    cases h
    exact impList_cons_of he rfl
  | y :: ys => fun ps h => by
    obtain ⟨q, qs, hq, hqs, rfl⟩ := impList_cons_some h
    rw [insertBy, insertBy, hkey e p he, hkey y q hq]
    split
    · exact impList_cons_of he (impList_cons_of hq hqs)
    · exact impList_cons_of hq (impList_insert g hkey e p he ys qs hqs)

theorem impList_sort (g : Entry → Option PNode)
    (hkey : ∀ e p, g e = some p → pkey (e.name, p) = e.key) :
    ∀ (l : List Entry) (ps : List (Bytes × PNode)), impList g l = some ps →
      impList g (sortBy Entry.key l) = some (sortBy pkey ps)
  | [] => fun ps h => by
    cases h
    rfl
  | y :: ys => fun ps h => by
    obtain ⟨q, qs, hq, hqs, rfl⟩ := impList_cons_some h
    exact impList_insert g hkey y q hq _ _ (impList_sort g hkey ys qs hqs)

theorem canonNode_eq_none (H : GObj → Sha) (n : Node) : canonNode H n = none ↔ expNode H n = none := by
  cases n with
  | file => exact ⟨nofun, nofun⟩
  | link => exact ⟨nofun, nofun⟩
  | dir cs =>
    simp only [canonNode, expNode]
    split <;> simp

theorem depth_pos (n : Node) : 1 ≤ depth n := by
  cases n <;> simp [depth]

theorem imp_exp (H : GObj → Sha) (st : Store)
    (hinj : ∀ p ∈ st, ∀ q ∈ st, H p.2 = H q.2 → p.2 = q.2) (hwf : ∀ p ∈ st, p.1 = H p.2) :
    (∀ n, ∀ (f : Nat) (name : Bytes) (m : Nat) (s : Sha), expNode H n = some (m, s) →
      modesOK n = true → depth n ≤ f → (∀ p ∈ objsNode H n, p ∈ st) →
      ∃ p, canonNode H n = some p ∧ impEntry st f ⟨m, name, s⟩ = some p) ∧
    ∀ cs, ∀ (f : Nat), modesOKC cs = true → depthC cs ≤ f → (∀ p ∈ objsChildren H cs, p ∈ st) →
      impList (impEntry st f) (expChildren H cs) = some (canonChildren H cs) := by
  refine Node.induction ?_ ?_ ?_ ?_ ?_
  · intro k c x um f name m s he hm hd hs
    cases he
    cases f with
    | zero => exact absurd hd (Nat.not_succ_le_zero 0)
    | succ f' =>
      have hm : importClass (exportMode um .file x) = .file := eq_of_beq hm
      have hg := store_get_of_mem st hinj hwf (.blob c) (hs _ (List.mem_singleton.2 rfl))
      refine ⟨_, rfl, ?_⟩
      simp only [impEntry, hm, hg]
  · intro k t um f name m s he hm hd hs
    cases he
    cases f with
    | zero => exact absurd hd (Nat.not_succ_le_zero 0)
    | succ f' =>
      have hm : importClass (exportMode um .symlink false) = .symlink := eq_of_beq hm
      have hg := store_get_of_mem st hinj hwf (.blob t) (hs _ (List.mem_singleton.2 rfl))
      refine ⟨_, rfl, ?_⟩
      simp only [impEntry, hm, hg]
  · intro cs ih f name m s he hm hd hs
    simp only [expNode] at he
    split at he
    · cases he
    · rename_i hne
      cases he
      cases f with
      | zero => exact absurd hd (Nat.not_succ_le_zero _)
      | succ f' =>
        have hg := store_get_of_mem st hinj hwf (.tree (sortEntries (expChildren H cs))) (hs _ (by simp [objsNode, hne]))
        have hch := ih f' hm (Nat.le_of_succ_le_succ hd) (fun p hp => hs p (by simp [objsNode, hp]))
        have hsort := impList_sort (impEntry st f') (impEntry_key st f') _ _ hch
        refine ⟨.dir (sortBy pkey (canonChildren H cs)), by simp [canonNode, hne], ?_⟩
        have hc : importClass S_IFDIR = .tree := by decide
        simp only [impEntry, hc, hg]
        exact congrArg (Option.map PNode.dir) hsort
  · exact fun _ _ _ _ => rfl
  · intro name n rest ihn ihr f hm hd hs
    have hm : (modesOK n && modesOKC rest) = true := hm
    rw [Bool.and_eq_true] at hm
    have hd : max (depth n) (depthC rest) ≤ f := hd
    have hdr := Nat.le_trans (Nat.le_max_right ..) hd
    rw [expChildren, canonChildren]
    by_cases hb : banned name = true
    · rw [if_pos hb, if_pos hb]
      exact ihr f hm.2 hdr fun p hp => hs p (by rw [objsChildren, if_pos hb]; exact hp)
    · rw [if_neg hb, if_neg hb]
      have hs' : ∀ p ∈ objsNode H n ++ objsChildren H rest, p ∈ st := fun p hp =>
        hs p (by rw [objsChildren, if_neg hb]; exact hp)
      have ihr := ihr f hm.2 hdr fun p hp => hs' p (List.mem_append_right _ hp)
      cases he : expNode H n with
      | none =>
        rw [(canonNode_eq_none H n).2 he]
        exact ihr
      | some ms =>
        obtain ⟨m, s⟩ := ms
        obtain ⟨p, hcp, hip⟩ := ihn f name m s he hm.1 (Nat.le_trans (Nat.le_max_left ..) hd) fun p hp =>
          hs' p (List.mem_append_left _ hp)
        rw [hcp]
        exact impList_cons_of hip ihr

theorem impNode_exp (H : GObj → Sha) (st : Store)
    (hinj : ∀ p ∈ st, ∀ q ∈ st, H p.2 = H q.2 → p.2 = q.2) (hwf : ∀ p ∈ st, p.1 = H p.2) :
    (n : Node) → ∀ (f : Nat) (name : Bytes) (m : Nat) (s : Sha), expNode H n = some (m, s) →
      modesOK n = true → depth n ≤ f → (∀ p ∈ objsNode H n, p ∈ st) →
      ∃ p, canonNode H n = some p ∧ impEntry st f ⟨m, name, s⟩ = some p :=
  (imp_exp H st hinj hwf).1

/-! ### sorting -/

theorem bytesLe_total : ∀ (a b : Bytes), bytesLe a b = false → bytesLe b a = true
  | [], _, h => by simp [bytesLe] at h
  | _ :: _, [], _ => by simp [bytesLe]
  | a :: as, b :: bs, h => by
    simp only [bytesLe] at h ⊢
    by_cases h1 : a < b
    · simp [h1] at h
    · by_cases h2 : b < a
      · simp [h2]
      · simp only [h1, h2, if_false] at h ⊢
        exact bytesLe_total as bs h

theorem sortedBy_tail {α : Type} (key : α → Bytes) (x : α) (l : List α)
    (h : sortedBy key (x :: l) = true) : sortedBy key l = true := by
  cases l with
  | nil => rfl
  | cons y r => simp only [sortedBy, Bool.and_eq_true] at h; exact h.2

theorem sortedBy_cons_insert {α : Type} (key : α → Bytes) (x : α) :
    ∀ (l : List α) (y : α), sortedBy key (y :: l) = true → bytesLe (key y) (key x) = true →
      sortedBy key (y :: insertBy key x l) = true
  | [] => fun y _ hyx => by simp [insertBy, sortedBy, hyx]
  | z :: r => fun y hs hyx => by
    simp only [sortedBy, Bool.and_eq_true] at hs
    simp only [insertBy]
    cases hxz : bytesLe (key x) (key z)
    · simp only [Bool.false_eq_true, if_false]
      simp only [sortedBy, Bool.and_eq_true]
      refine ⟨hs.1, ?_⟩
      have hzx : bytesLe (key z) (key x) = true := bytesLe_total _ _ hxz
      exact sortedBy_cons_insert key x r z hs.2 hzx
    · simp [sortedBy, hxz, hyx, hs.2]

theorem insertBy_sorted {α : Type} (key : α → Bytes) (x : α) (l : List α)
    (h : sortedBy key l = true) : sortedBy key (insertBy key x l) = true := by
  cases l with
  | nil => simp [insertBy, sortedBy]
  | cons y r =>
    simp only [insertBy]
    cases hxy : bytesLe (key x) (key y)
    · simp only [Bool.false_eq_true, if_false]
      exact sortedBy_cons_insert key x r y h (bytesLe_total _ _ hxy)
    · simp [sortedBy, hxy, h]

/-- the entries of every tree object the model writes are in key order -/
theorem sortBy_sorted {α : Type} (key : α → Bytes) (l : List α) : sortedBy key (sortBy key l) = true := by
  induction l with
  | nil => rfl
  | cons x xs ih =>
    simp only [sortBy]
    exact insertBy_sorted key x _ ih

/-- sorting does not disturb a list that is already in key order (so a tree
read from git is re-serialised unchanged) -/
theorem sortBy_id_of_sorted {α : Type} (key : α → Bytes) (l : List α) (h : sortedBy key l = true) :
    sortBy key l = l := by
  induction l with
  | nil => rfl
  | cons x xs ih =>
    simp only [sortBy]
    rw [ih (sortedBy_tail key x xs h)]
    cases xs with
    | nil => rfl
    | cons y r =>
      simp only [sortedBy, Bool.and_eq_true] at h
      simp [insertBy, h.1]

theorem sortBy_idem {α : Type} (key : α → Bytes) (l : List α) :
    sortBy key (sortBy key l) = sortBy key l :=
  sortBy_id_of_sorted key _ (sortBy_sorted key l)

theorem insertBy_perm {α : Type} (key : α → Bytes) (x : α) (l : List α) : (insertBy key x l).Perm (x :: l) :=
  Lib.perm_insert (insertBy key) (fun x y => bytesLe (key x) (key y) = true) (fun _ => rfl) (fun _ _ _ => rfl) x l

theorem sortBy_perm {α : Type} (key : α → Bytes) (l : List α) : (sortBy key l).Perm l :=
  Lib.perm_insertSort _ (insertBy_perm key) rfl (fun _ _ => rfl) l

theorem mem_sortBy {α : Type} (key : α → Bytes) (a : α) (l : List α) (h : a ∈ sortBy key l) : a ∈ l :=
  (sortBy_perm key l).mem_iff.1 h

theorem sortBy_isEmpty {α : Type} (key : α → Bytes) (l : List α) : (sortBy key l).isEmpty = l.isEmpty :=
  (sortBy_perm key l).isEmpty_eq

theorem map_insertBy {α β : Type} (ka : α → Bytes) (kb : β → Bytes) (f : α → β) (x : α) :
    ∀ (l : List α), (∀ a ∈ x :: l, kb (f a) = ka a) →
      (insertBy ka x l).map f = insertBy kb (f x) (l.map f)
  | [], _ => by simp [insertBy]
  | y :: ys, h => by
    have hx := h x (by simp)
    have hy := h y (by simp)
    simp only [insertBy, List.map_cons, hx, hy]
    split
    · simp
    · simp only [List.map_cons]
      rw [map_insertBy ka kb f x ys (fun a ha => h a (by
        simp only [List.mem_cons] at ha ⊢
        rcases ha with ha | ha
        · exact Or.inl ha
        · exact Or.inr (Or.inr ha)))]

theorem map_sortBy {α β : Type} (ka : α → Bytes) (kb : β → Bytes) (f : α → β) :
    ∀ (l : List α), (∀ a ∈ l, kb (f a) = ka a) → (sortBy ka l).map f = sortBy kb (l.map f)
  | [], _ => by simp [sortBy]
  | x :: xs, h => by
    simp only [sortBy, List.map_cons]
    rw [map_insertBy ka kb f x (sortBy ka xs) (fun a ha => by
      simp only [List.mem_cons] at ha
      rcases ha with ha | ha
      · exact h a (by simp [ha])
      · exact h a (by simp [mem_sortBy ka a xs ha]))]
    rw [map_sortBy ka kb f xs (fun a ha => h a (by simp [ha]))]

/-! ### re-export of an imported tree -/

/-- the entry `expPL` writes for a child that is represented -/
def entryOf (H : GObj → Sha) (x : Bytes × PNode) : Entry :=
  match expP H x.2 with
  | some (m, s) => ⟨m, x.1, s⟩
  | none => ⟨0, x.1, []⟩

/-- not banned, represented, and its key as a child equals its key as an entry -/
def goodP (H : GObj → Sha) (x : Bytes × PNode) : Prop :=
  banned x.1 = false ∧ (expP H x.2).isSome = true ∧ (entryOf H x).key = pkey x

theorem expPL_map (H : GObj → Sha) : ∀ (l : List (Bytes × PNode)), (∀ x ∈ l, goodP H x) →
    expPL H l = l.map (entryOf H)
  | [], _ => by simp [expPL]
  | (name, p) :: rest, h => by
    obtain ⟨hb, hs, _⟩ := h (name, p) (by simp)
    simp only [expPL, List.map_cons]
    simp only at hb hs
    rw [expPL_map H rest (fun x hx => h x (by simp [hx]))]
    cases he : expP H p with
    | none => simp [he] at hs
    | some ms => obtain ⟨m, s⟩ := ms; simp [hb, entryOf, he]

theorem expPL_sort (H : GObj → Sha) (l : List (Bytes × PNode)) (h : ∀ x ∈ l, goodP H x) :
    expPL H (sortBy pkey l) = sortEntries (expPL H l) := by
  rw [expPL_map H _ (fun x hx => h x (mem_sortBy pkey x l hx)), expPL_map H l h]
  exact map_sortBy pkey Entry.key (entryOf H) l (fun a ha => (h a ha).2.2)


theorem canon_exp (H : GObj → Sha) :
    (∀ n, ∀ (p : PNode), modesOK n = true → canonNode H n = some p →
      expP H p = expNode H n ∧ (∀ m s, expNode H n = some (m, s) → p.isDir = sISDIR m)) ∧
    ∀ cs, modesOKC cs = true →
      expPL H (canonChildren H cs) = expChildren H cs ∧ (∀ x ∈ canonChildren H cs, goodP H x) := by
  refine Node.induction ?_ ?_ ?_ ?_ ?_
  · intro k c x um p hm hc
    cases hc
    refine ⟨rfl, fun m s he => ?_⟩
    cases he
    have hm : importClass (exportMode um .file x) = .file := eq_of_beq hm
    exact (sISDIR_eq_false (hm ▸ nofun)).symm
  · intro k t um p hm hc
    cases hc
    refine ⟨rfl, fun m s he => ?_⟩
    cases he
    have hm : importClass (exportMode um .symlink false) = .symlink := eq_of_beq hm
    exact (sISDIR_eq_false (hm ▸ nofun)).symm
  · intro cs ih p hm hc
    simp only [canonNode] at hc
    split at hc
    · cases hc
    · rename_i hne
      cases hc
      obtain ⟨h1, h2⟩ := ih hm
      have hsort := expPL_sort H (canonChildren H cs) h2
      rw [h1] at hsort
      constructor
      · simp only [expP, expNode, hsort]
        have he : (sortEntries (expChildren H cs)).isEmpty = (expChildren H cs).isEmpty :=
          sortBy_isEmpty Entry.key _
        simp only [he, hne]
        simp [sortEntries, sortBy_idem]
      · intro m s he
        simp only [expNode, hne] at he
        simp only [Bool.false_eq_true, if_false, Option.some.injEq, Prod.mk.injEq] at he
        obtain ⟨rfl, _⟩ := he
        rfl
  · exact fun _ => ⟨rfl, fun _ h => nomatch h⟩
  · intro name n rest ihn ihr hm
    have hm : (modesOK n && modesOKC rest) = true := hm
    rw [Bool.and_eq_true] at hm
    obtain ⟨ih1, ih2⟩ := ihr hm.2
    rw [canonChildren, expChildren]
    by_cases hb : banned name = true
    · rw [if_pos hb, if_pos hb]
      exact ⟨ih1, ih2⟩
    · rw [if_neg hb, if_neg hb]
      cases hc : canonNode H n with
      | none =>
        rw [(canonNode_eq_none H n).1 hc]
        exact ⟨ih1, ih2⟩
      | some p =>
        obtain ⟨hp, hk⟩ := ihn p hm.1 hc
        cases he : expNode H n with
        | none =>
          rw [(canonNode_eq_none H n).2 he] at hc
          cases hc
        | some ms =>
          obtain ⟨m, s⟩ := ms
          have hb' : banned name = false := Bool.eq_false_iff.2 hb
          refine ⟨?_, ?_⟩
          · show expPL H ((name, p) :: canonChildren H rest) = _
            rw [expPL]
            simp [hb', hp, he, ih1]
          · intro x hx
            have hx' : x = (name, p) ∨ x ∈ canonChildren H rest := by simpa using hx
            rcases hx' with hx' | hx'
            · subst hx'
              refine ⟨hb', by simp [hp, he], ?_⟩
              simp only [entryOf, hp, he, Entry.key, pkey, hk m s he]
            · exact ih2 x hx'

theorem canon_expP (H : GObj → Sha) : (n : Node) → ∀ (p : PNode), modesOK n = true →
    canonNode H n = some p →
    expP H p = expNode H n ∧ (∀ m s, expNode H n = some (m, s) → p.isDir = sISDIR m) :=
  (canon_exp H).1

end BreezyVerif.C35
