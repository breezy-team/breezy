import BreezyVerif.Lemmas.C43
/-!
C43 — the transport operations of the remote model read through the listing
`look`: an operation on a path whose parent is a directory changes exactly one
slot.
-/
namespace BreezyVerif.C43

theorem kget_kset (k : Kids) (a : String) (v : Option Node) (b : String) :
    kget (kset k a v) b = if b = a then v else kget k b := by
  cases v with
  | none => exact kget_kdel k a b
  | some n => exact kget_kput k a n b

theorem lookup_nil (n : Node) : lookup n [] = some n := by
  cases n <;> rfl

theorem lookup_dir_cons (ks : Kids) (y : String) (r : Path) :
    lookup (.dir ks) (y :: r) = (kget ks y).bind (lookup · r) := by
  simp only [lookup]
  cases kget ks y <;> rfl

theorem lookup_file_cons (c : String) (x : Bool) (y : String) (r : Path) : lookup (.file c x) (y :: r) = none := rfl

theorem lookup_link_cons (t : String) (y : String) (r : Path) : lookup (.link t) (y :: r) = none := rfl

theorem lookup_append (root : Node) (p s : Path) :
    lookup root (p ++ s) = (lookup root p).bind (lookup · s) := by
  induction p generalizing root with
  | nil => rw [lookup_nil]; rfl
  | cons a p ih =>
    cases root with
    | file c x => rfl
    | link t => rfl
    | dir ks =>
      rw [List.cons_append, lookup_dir_cons, lookup_dir_cons]
      cases kget ks a with
      | none => rfl
      | some k => exact ih k

theorem look_nil_dir (ks : Kids) : look (.dir ks) [] = some .dir := rfl

theorem look_eq_dir {root : Node} {p : Path} (h : look root p = some .dir) : ∃ ks, lookup root p = some (.dir ks) := by
  unfold look at h
  cases hp : lookup root p with
  | none => rw [hp] at h; cases h
  | some m =>
    rw [hp] at h
    cases m with
    | dir ks => exact ⟨ks, rfl⟩
    | file c e => cases h
    | link t => cases h

theorem look_none {root : Node} {p : Path} (h : look root p = none) : lookup root p = none := by
  unfold look at h
  cases hl : lookup root p with
  | none => rfl
  | some n => rw [hl] at h; cases h

/-- a path that exists runs through directories -/
theorem look_parent (root : Node) (par : Path) (x : String) (h : lookup root (par ++ [x]) ≠ none) :
    look root par = some .dir := by
  rw [lookup_append] at h
  unfold look
  cases hp : lookup root par with
  | none => rw [hp] at h; exact absurd rfl h
  | some m =>
    rw [hp] at h
    cases m with
    | dir ks => rfl
    | file c e => exact absurd rfl h
    | link t => exact absurd rfl h

theorem look_cons_dir {root : Node} {a : String} {par : Path} (h : look root (a :: par) = some .dir) :
    ∃ ks k, root = .dir ks ∧ kget ks a = some k ∧ look k par = some .dir := by
  cases root with
  | file c e => cases h
  | link t => cases h
  | dir ks =>
    unfold look at h
    rw [lookup_dir_cons] at h
    cases hk : kget ks a with
    | none => rw [hk] at h; cases h
    | some k => rw [hk] at h; exact ⟨ks, k, rfl, hk, h⟩

theorem modify_single (en : Err) (f : Option Node → Except Err (Option Node)) (ks : Kids) (x : String) :
    modify en f (.dir ks) [x] = (f (kget ks x)).map fun v => .dir (kset ks x v) := by
  simp only [modify]
  cases f (kget ks x) <;> rfl

theorem modify_descend (en : Err) (f : Option Node → Except Err (Option Node)) (ks : Kids) (a : String) (k : Node)
    (p : Path) (hp : p ≠ []) (hk : kget ks a = some k) :
    modify en f (.dir ks) (a :: p) = (modify en f k p).map fun k' => .dir (kput ks a k') := by
  cases p with
  | nil => exact absurd rfl hp
  | cons y r =>
    simp only [modify, hk]
    cases modify en f k (y :: r) <;> rfl

theorem lookup_single (ks : Kids) (x : String) : lookup (.dir ks) [x] = kget ks x := by
  rw [lookup_dir_cons]
  cases kget ks x with
  | none => rfl
  | some k => exact lookup_nil k

/-- the slot at `par ++ [x]` is replaced; nothing else changes in the listing -/
theorem modify_spec (en : Err) (f : Option Node → Except Err (Option Node)) (par : Path) (x : String) (root : Node)
    (v' : Option Node) (hpar : look root par = some .dir) (hf : f (lookup root (par ++ [x])) = .ok v') :
    ∃ r', modify en f root (par ++ [x]) = .ok r' ∧
      ∀ q, look r' q = if (par ++ [x]).isPrefixOf q
        then (v'.bind fun n => lookup n (q.drop (par.length + 1))).map Node.obs else look root q := by
  induction par generalizing root with
  | nil =>
    obtain ⟨ks, hks⟩ := look_eq_dir hpar
    cases (lookup_nil root).symm.trans hks
    rw [List.nil_append, lookup_single] at hf
    refine ⟨.dir (kset ks x v'), by rw [List.nil_append, modify_single, hf]; rfl, ?_⟩
    intro q
    cases q with
    | nil => rfl
    | cons y r =>
      simp only [look, lookup_dir_cons, kget_kset, List.nil_append, List.isPrefixOf, List.length_nil, Nat.zero_add,
        List.drop_succ_cons, List.drop_zero, Bool.and_true, beq_iff_eq]
      by_cases hy : y = x
      · rw [if_pos hy, if_pos hy.symm]
      · rw [if_neg hy, if_neg (Ne.symm hy)]
  | cons a par ih =>
    obtain ⟨ks, k, rfl, hk, hpar'⟩ := look_cons_dir hpar
    rw [List.cons_append, lookup_dir_cons, hk] at hf
    obtain ⟨k', hm, hq⟩ := ih k hpar' hf
    refine ⟨.dir (kput ks a k'), ?_, ?_⟩
    · rw [List.cons_append, modify_descend en f ks a k (par ++ [x]) (by simp) hk, hm]; rfl
    · intro q
      cases q with
      | nil => rfl
      | cons b r =>
        simp only [look, lookup_dir_cons, kget_kput, List.cons_append, List.isPrefixOf, List.length_cons,
          List.drop_succ_cons, Bool.and_eq_true, beq_iff_eq]
        by_cases hb : b = a
        · subst hb
          simp only [if_true, true_and, Option.bind_some, hk]
          exact hq r
        · simp only [if_neg hb, Ne.symm hb, false_and, if_false]

theorem modify_err (en : Err) (f : Option Node → Except Err (Option Node)) (par : Path) (x : String) (root : Node)
    (e : Err) (hpar : look root par = some .dir) (hf : f (lookup root (par ++ [x])) = .error e) :
    modify en f root (par ++ [x]) = .error e := by
  induction par generalizing root with
  | nil =>
    obtain ⟨ks, hks⟩ := look_eq_dir hpar
    cases (lookup_nil root).symm.trans hks
    rw [List.nil_append, lookup_single] at hf
    rw [List.nil_append, modify_single, hf]; rfl
  | cons a par ih =>
    obtain ⟨ks, k, rfl, hk, hpar'⟩ := look_cons_dir hpar
    rw [List.cons_append, lookup_dir_cons, hk] at hf
    rw [List.cons_append, modify_descend en f ks a k (par ++ [x]) (by simp) hk, ih k hpar' hf]; rfl

/-- a slot without anything below it -/
def Leafy (o : Option Node) : Prop := ∀ s : Path, s ≠ [] → (o.bind fun n => lookup n s) = none

theorem leafy_none : Leafy none := fun _ _ => rfl

theorem leafy_file (c : String) (x : Bool) : Leafy (some (.file c x)) := by
  intro s hs; cases s with
  | nil => exact absurd rfl hs
  | cons y r => rfl

theorem leafy_link (t : String) : Leafy (some (.link t)) := by
  intro s hs; cases s with
  | nil => exact absurd rfl hs
  | cons y r => rfl

theorem leafy_emptydir : Leafy (some (.dir [])) := by
  intro s hs; cases s with
  | nil => exact absurd rfl hs
  | cons y r => rfl

theorem leafy_of_not_dir {root : Node} {p : Path} (h : look root p ≠ some .dir) : Leafy (lookup root p) := by
  cases hl : lookup root p with
  | none => exact leafy_none
  | some n =>
    cases n with
    | dir ks => exact absurd (by rw [look, hl]; rfl) h
    | file c e => exact leafy_file c e
    | link t => exact leafy_link t

theorem exists_snoc {p : Path} (hp : p ≠ []) : ∃ par x, p = par ++ [x] :=
  ⟨_, _, (List.dropLast_concat_getLast hp).symm⟩

/-- replacing a slot that has nothing below it by a node that has nothing below
it changes the listing at that one path only -/
theorem modify_leafy (en : Err) (f : Option Node → Except Err (Option Node)) (root : Node) (p : Path) (hp : p ≠ [])
    (v' : Option Node) (hpar : look root p.dropLast = some .dir) (hf : f (lookup root p) = .ok v')
    (hold : Leafy (lookup root p)) (hnew : Leafy v') :
    ∃ r', modify en f root p = .ok r' ∧
      ∀ q, look r' q = if q = p then v'.map Node.obs else look root q := by
  obtain ⟨par, x, rfl⟩ := exists_snoc hp
  rw [List.dropLast_concat] at hpar
  obtain ⟨r', hm, hq⟩ := modify_spec en f par x root v' hpar hf
  refine ⟨r', hm, ?_⟩
  intro q
  rw [hq q]
  by_cases hpre : (par ++ [x]).isPrefixOf q = true
  · obtain ⟨s, rfl⟩ := List.isPrefixOf_iff_prefix.mp hpre
    have hdrop : (par ++ [x] ++ s).drop (par.length + 1) = s := by
      have hlen : (par ++ [x]).length = par.length + 1 := List.length_append
      rw [← hlen]; exact List.drop_left
    rw [if_pos hpre, hdrop]
    by_cases hs : s = []
    · subst hs
      rw [List.append_nil, if_pos rfl]
      cases v' with
      | none => rfl
      | some n => rw [Option.bind_some, lookup_nil]
    · rw [hnew s hs, if_neg (by simpa using hs), look, lookup_append]
      exact congrArg _ (hold s hs).symm
  · rw [if_neg hpre, if_neg (fun he => hpre (by rw [he]; exact List.isPrefixOf_iff_prefix.mpr (List.prefix_refl _)))]

theorem tPut_spec (root : Node) (p : Path) (c : String) (e : Bool) (hp : p ≠ [])
    (hpar : look root p.dropLast = some .dir) (hslot : look root p ≠ some .dir) :
    ∃ r', tPut root p c e = .ok r' ∧
      ∀ q, look r' q = if q = p then some (.file c e) else look root q := by
  unfold tPut
  refine modify_leafy .notADir _ root p hp (some (.file c e)) hpar ?_ (leafy_of_not_dir hslot) (leafy_file c e)
  cases hl : lookup root p with
  | none => rfl
  | some n =>
    cases n with
    | dir ks => exact absurd (by rw [look, hl]; rfl) hslot
    | file c' e' => rfl
    | link t => rfl

theorem tMkdir_spec (root : Node) (p : Path) (hp : p ≠ [])
    (hpar : look root p.dropLast = some .dir) (hslot : look root p = none) :
    ∃ r', tMkdir root p = .ok r' ∧
      ∀ q, look r' q = if q = p then some .dir else look root q := by
  have hl := look_none hslot
  exact modify_leafy .noSuchFile _ root p hp (some (.dir [])) hpar (by rw [hl]) (by rw [hl]; exact leafy_none) leafy_emptydir

theorem tSymlink_spec (root : Node) (p : Path) (t : String) (hp : p ≠ [])
    (hpar : look root p.dropLast = some .dir) (hslot : look root p = none) :
    ∃ r', tSymlink root p t = .ok r' ∧
      ∀ q, look r' q = if q = p then some (.link t) else look root q := by
  have hl := look_none hslot
  exact modify_leafy .noSuchFile _ root p hp (some (.link t)) hpar (by rw [hl]) (by rw [hl]; exact leafy_none) (leafy_link t)

theorem look_parent' (root : Node) (p : Path) (hp : p ≠ []) (h : look root p ≠ none) :
    look root p.dropLast = some .dir := by
  obtain ⟨par, x, rfl⟩ := exists_snoc hp
  rw [List.dropLast_concat]
  exact look_parent root par x fun hl => h (by rw [look, hl]; rfl)

/-- `delete` of a file or symlink -/
theorem tDelete_spec (root : Node) (p : Path) (o : Obs) (hp : p ≠ [])
    (hslot : look root p = some o) (ho : o ≠ .dir) :
    ∃ r', tDelete root p = .ok r' ∧
      ∀ q, look r' q = if q = p then none else look root q := by
  have hpar := look_parent' root p hp (by rw [hslot]; exact Option.some_ne_none _)
  have hnd : look root p ≠ some .dir := by rw [hslot]; exact fun h => ho (Option.some.inj h)
  unfold tDelete
  refine modify_leafy .noSuchFile _ root p hp none hpar ?_ (leafy_of_not_dir hnd) leafy_none
  cases hl : lookup root p with
  | none => rw [look, hl] at hslot; cases hslot
  | some n =>
    cases n with
    | dir ks => exact absurd (by rw [look, hl]; rfl) hnd
    | file c' e' => rfl
    | link t => rfl

/-- `rmdir` of a directory: removed when the listing shows no child, else
DirectoryNotEmpty (and nothing changes) -/
theorem tRmdir_spec (root : Node) (p : Path) (hp : p ≠ []) (hslot : look root p = some .dir) :
    ((∀ y, look root (p ++ [y]) = none) →
      ∃ r', tRmdir root p = .ok r' ∧ ∀ q, look r' q = if q = p then none else look root q) ∧
    ((∃ y, look root (p ++ [y]) ≠ none) → tRmdir root p = .error .dirNotEmpty) := by
  have hpar := look_parent' root p hp (by rw [hslot]; exact Option.some_ne_none _)
  obtain ⟨ks, hl⟩ := look_eq_dir hslot
  -- the listing shows the first child, if there is one
  have hkid : ∀ n v r, ks = (n, v) :: r → look root (p ++ [n]) ≠ none := by
    intro n v r hks h
    rw [look, lookup_append, hl, hks, Option.bind_some, lookup_single] at h
    simp [kget] at h
  constructor
  · intro hno
    cases ks with
    | cons e r => exact absurd (hno e.1) (hkid e.1 e.2 r rfl)
    | nil =>
      exact modify_leafy .noSuchFile _ root p hp none hpar (by rw [hl]) (by rw [hl]; exact leafy_emptydir) leafy_none
  · rintro ⟨y, hy⟩
    obtain ⟨par, x, rfl⟩ := exists_snoc hp
    rw [List.dropLast_concat] at hpar
    apply modify_err _ _ par x root _ hpar
    rw [hl]
    cases ks with
    | nil => exact absurd (by rw [look, lookup_append, hl]; rfl) hy
    | cons e r => rfl

end BreezyVerif.C43
