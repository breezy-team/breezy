import BreezyVerif.Model.C34
import BreezyVerif.Lemmas.Lib.Split
/-!
C34 — what a successful import has computed (`importExtra_spec`, `decodeUsing_ok`,
`importDecode_ok`) and what export needs of the codec it re-encodes with (`Faith`,
its decidable form `CodecFaithful`).
-/
namespace BreezyVerif.C34

/-- an ASCII literal is read off its characters; nothing is evaluated (`rw [bs_ofList]` also
applies to a string literal, which is `String.ofList` of its characters) -/
theorem bs_ofList (l : List Char) : bs (String.ofList l) = l.map fun c => c.toNat.toUInt8 := by
  rw [bs, String.toList_ofList]

theorem hgExtra_ne_renameSource : bs "HG:extra" ≠ bs "HG:rename-source" := by
  rw [bs_ofList, bs_ofList]; decide +kernel

theorem splitNl_eq (b : Bytes) : splitNl b = b.splitOn 10 := by
  induction b with
  | nil => rfl
  | cons x r ih =>
    obtain ⟨f, fs, h, h'⟩ := Lib.splitOn_cons 10 x r
    simp [splitNl, ih, h, h']

theorem extraLinesOf_lines (ls : List Bytes) (h : ∀ l ∈ ls, (10 : UInt8) ∉ l) :
    extraLinesOf (ls.map (· ++ [10])).flatten = ls := by
  have := Lib.splitOn_lines h []
  rw [List.append_nil, List.flatMap_def] at this
  rw [extraLinesOf, splitNl_eq, this]
  exact List.dropLast_concat

theorem split1_nosep (sep : UInt8) : ∀ (k v : Bytes), sep ∉ k → split1 sep (k ++ sep :: v) = [k, v]
  | [], v, _ => by simp [split1]
  | x :: k, v, h => by
    have hx : x ≠ sep := fun e => h (by simp [e])
    have hk : sep ∉ k := fun m => h (by simp [m])
    simp [split1, hx, split1_nosep sep k v hk]

theorem splitKV_line (k v : Bytes) (h : 32 ∉ k) : splitKV (k ++ 32 :: v) = some (k, v) := by
  simp [splitKV, split1_nosep 32 k v h]

/-- the recognised extra headers -/
def knownKey (k : Bytes) : Bool := k = bs "HG:rename-source" ∨ k = bs "HG:extra"

theorem knownKey_clean {k : Bytes} (h : knownKey k = true) : 32 ∉ k ∧ (10 : UInt8) ∉ k := by
  rcases of_decide_eq_true h with rfl | rfl <;> (rw [bs_ofList]; decide +kernel)

/-- all extra headers are recognised and their value has no embedded newline
(no continuation lines) -/
def extraOK (extra : List (Bytes × Bytes)) : Bool :=
  extra.all fun kv => knownKey kv.1 && !kv.2.contains 10

/-- what a successful `importExtra` returns: the `git-extra` lines of the recognised
headers and the names of the others, each in the order of the commit -/
theorem importExtra_spec (strict : Bool) : ∀ (extra : List (Bytes × Bytes)) (ls un : List Bytes),
    importExtra strict extra = .ok (ls, un) →
    ls = (extra.filter fun kv => knownKey kv.1).map (fun kv => kv.1 ++ 32 :: kv.2 ++ [10]) ∧
    un = (extra.filter fun kv => !knownKey kv.1).map Prod.fst
  | [], ls, un, h => by
    simp only [importExtra, Except.ok.injEq, Prod.mk.injEq] at h
    simp [← h.1, ← h.2]
  | (k, v) :: rest, ls, un, h => by
    unfold importExtra at h
    cases hr : importExtra strict rest with
    | error e =>
      -- every branch that does not fail by itself passes the failure on
      simp only [hr, bind, Except.bind] at h
      split at h
      · cases h
      · split at h
        · split at h
          · cases h
          · split at h <;> cases h
        · cases h
    | ok p =>
      obtain ⟨ih1, ih2⟩ := importExtra_spec strict rest p.1 p.2 hr
      simp only [hr, bind, Except.bind, pure, Except.pure] at h
      by_cases h1 : k = bs "HG:rename-source"
      · subst h1
        have hk : knownKey (bs "HG:rename-source") = true := by simp [knownKey]
        simp only [if_true, Except.ok.injEq, Prod.mk.injEq] at h
        simp [hk, ← h.1, ← h.2, ih1, ih2]
      · by_cases h2 : k = bs "HG:extra"
        · subst h2
          have hk : knownKey (bs "HG:extra") = true := by simp [knownKey]
          simp only [hgExtra_ne_renameSource, if_false, if_true] at h
          split at h
          · cases h
          · split at h
            · cases h
            · simp only [Except.ok.injEq, Prod.mk.injEq] at h
              simp [hk, ← h.1, ← h.2, ih1, ih2]
        · have hk : knownKey k = false := by simp [knownKey, h1, h2]
          simp only [h1, h2, if_false, Except.ok.injEq, Prod.mk.injEq] at h
          simp [hk, ← h.1, ← h.2, ih1, ih2]

theorem importExtra_ok (strict : Bool) (extra : List (Bytes × Bytes)) (ls un : List Bytes)
    (hok : extraOK extra = true) (h : importExtra strict extra = .ok (ls, un)) :
    ls = extra.map (fun kv => kv.1 ++ 32 :: kv.2 ++ [10]) ∧ un = [] := by
  obtain ⟨h1, h2⟩ := importExtra_spec strict extra ls un h
  have hk : ∀ kv ∈ extra, knownKey kv.1 = true := fun kv hkv => by
    have := List.all_eq_true.mp hok kv hkv
    simp only [Bool.and_eq_true] at this
    exact this.1
  rw [List.filter_eq_self.mpr hk] at h1
  rw [List.filter_eq_nil_iff.mpr (by simpa using hk)] at h2
  exact ⟨h1, h2⟩

theorem exportExtra_lines : ∀ (extra : List (Bytes × Bytes)), extraOK extra = true →
    exportExtra (extra.map fun kv => kv.1 ++ 32 :: kv.2) = .ok extra
  | [], _ => rfl
  | (k, v) :: rest, hok => by
    simp only [extraOK, List.all_cons, Bool.and_eq_true] at hok
    have hrest : extraOK rest = true := by simp only [extraOK]; exact hok.2
    simp only [List.map_cons, exportExtra, splitKV_line k v ((knownKey_clean hok.1.1).1),
      exportExtra_lines rest hrest]
    rfl

theorem extra_roundtrip (extra : List (Bytes × Bytes)) (hok : extraOK extra = true) :
    exportExtra (extraLinesOf ((extra.map fun kv => kv.1 ++ 32 :: kv.2 ++ [10]).flatten)) = .ok extra := by
  have h1 : (extra.map fun kv => kv.1 ++ 32 :: kv.2 ++ [10]) =
      (extra.map fun kv => kv.1 ++ 32 :: kv.2).map (· ++ [10]) := by
    simp [List.map_map, Function.comp_def]
  rw [h1, extraLinesOf_lines _ (by
    intro l hl
    simp only [List.mem_map] at hl
    obtain ⟨kv, hkv, rfl⟩ := hl
    have := (List.all_eq_true.mp hok) kv hkv
    simp only [Bool.and_eq_true, Bool.not_eq_true', List.contains_eq_mem, decide_eq_false_iff_not] at this
    simp only [List.mem_append, List.mem_cons, not_or]
    exact ⟨(knownKey_clean this.1).2, by decide, this.2⟩)]
  exact exportExtra_lines extra hok

theorem stripPrefix_append (p t : Bytes) : stripPrefix p (p ++ t) = some t := by
  simp [stripPrefix]

theorem exportParents_map : ∀ (ps : List Bytes), (∀ p ∈ ps, p.length = 40) →
    exportParents (ps.map foreignToBzr) = .ok ps
  | [], _ => rfl
  | p :: ps, h => by
    simp only [List.map_cons, exportParents, foreignToBzr, stripPrefix_append]
    simp [h p (by simp), exportParents_map ps (fun q hq => h q (by simp [hq]))]
    rfl

theorem mapM_encode_se : ∀ (l : List Bytes),
    (l.map fun t => (⟨.se, t⟩ : PStr)).mapM (encode .se) = .ok l
  | [] => rfl
  | t :: l => by
    simp only [List.map_cons, List.mapM_cons, encode, if_true, mapM_encode_se l]
    rfl

def isOk {ε α : Type} : Except ε α → Bool
  | .ok _ => true
  | .error _ => false

theorem exists_of_isOk {ε α : Type} {x : Except ε α} (h : isOk x = true) : ∃ a, x = .ok a := by
  cases x <;> simp_all [isOk]

/-- the two encoding names the code itself uses (`"utf-8"`, `"latin1"`) mean
utf-8 and latin-1 in the registry -/
def PyEnv (env : Env) : Prop :=
  env.lookup (bs "utf-8") = .utf8 ∧ env.lookup (bs "latin1") = .latin1

instance (env : Env) : Decidable (PyEnv env) := by unfold PyEnv; infer_instance

def isStd : Lookup → Bool
  | .utf8 | .latin1 | .ascii => true
  | _ => false

/-- `b.decode(name).encode(name) == b` (vacuous when the decode raises) -/
def faithful (env : Env) (name b : Bytes) : Bool := reenc env name b

/-- the same for the author, whose decoded str must also be non-empty and
untouched by the `"," … ">"` hack of `export_commit` -/
def faithfulAuthor (env : Env) (name b : Bytes) : Bool :=
  match decodeName env name b with
  | .ok s => decide (s.bytes ≠ []) && decide (firstAuthor s.bytes = s.bytes) &&
      decide (encodeName env name s = .ok b)
  | .error _ => true

/-- **the codec named in the `encoding` header re-encodes the commit's three
text fields to the bytes they were decoded from** (decidable; trivially true
without a header, with `encoding false`, and — `faith_of_std` — whenever the name
resolves to utf-8 / latin-1 / ascii) -/
def CodecFaithful (env : Env) (c : Commit) : Bool :=
  match c.encoding with
  | some e =>
    if e = bs "false" then true
    else faithful env e c.committer && faithfulAuthor env e c.author &&
      (match c.message with
       | some m => faithful env e m
       | none => true)
  | none => true

theorem decodeName_std {env : Env} {name b : Bytes} {s : PStr} (h : isStd (env.lookup name) = true)
    (hd : decodeName env name b = .ok s) : s.bytes = b ∧ encodeName env name s = .ok b := by
  -- a standard codec decodes and encodes with the same `Codec`, and the bytes are the str
  have key : ∀ k, decode k b = .ok s → s.bytes = b ∧ encode k s = .ok b := by
    intro k hk
    unfold decode at hk
    split at hk
    · cases hk
      simp [encode]
    · cases hk
  unfold decodeName at hd
  unfold encodeName
  cases hl : env.lookup name <;> simp only [hl, isStd, Bool.false_eq_true] at h hd ⊢
  · exact key _ hd
  · exact key _ hd
  · exact key _ hd

/-- what `export_commit` needs to know about the codec it re-encodes with -/
structure Faith (env : Env) (name : Bytes) (c : Commit) : Prop where
  committer : ∀ s, decodeName env name c.committer = .ok s → encodeName env name s = .ok c.committer
  author : ∀ s, decodeName env name c.author = .ok s →
    s.bytes ≠ [] ∧ firstAuthor s.bytes = s.bytes ∧ encodeName env name s = .ok c.author
  message : ∀ m s, c.message = some m → decodeName env name m = .ok s → encodeName env name s = .ok m

theorem faith_of_std {env : Env} {name : Bytes} {c : Commit} (h : isStd (env.lookup name) = true)
    (hne : c.author ≠ []) (hfirst : firstAuthor c.author = c.author) : Faith env name c where
  committer := fun _ hd => (decodeName_std h hd).2
  author := fun s hd => by
    obtain ⟨h1, h2⟩ := decodeName_std h hd
    rw [h1]; exact ⟨hne, hfirst, h2⟩
  message := fun _ _ _ hd => (decodeName_std h hd).2

theorem reenc_iff {env : Env} {name b : Bytes} : reenc env name b = true ↔
    ∀ s, decodeName env name b = .ok s → encodeName env name s = .ok b := by
  unfold reenc
  cases decodeName env name b <;> simp

theorem faithfulAuthor_iff {env : Env} {name b : Bytes} : faithfulAuthor env name b = true ↔
    ∀ s, decodeName env name b = .ok s →
      s.bytes ≠ [] ∧ firstAuthor s.bytes = s.bytes ∧ encodeName env name s = .ok b := by
  unfold faithfulAuthor
  cases decodeName env name b <;> simp [and_assoc]

theorem codecFaithful_iff {env : Env} {c : Commit} : CodecFaithful env c = true ↔
    ∀ e, c.encoding = some e → e ≠ bs "false" → Faith env e c := by
  unfold CodecFaithful
  cases c.encoding with
  | none => simp
  | some e =>
    by_cases hf : e = bs "false"
    · simp [hf]
    · simp only [hf, if_false, Bool.and_eq_true, faithful, reenc_iff, faithfulAuthor_iff, Option.some.injEq,
        ne_eq, forall_eq']
      constructor
      · rintro ⟨⟨h1, h2⟩, h3⟩ -
        exact ⟨h1, h2, fun m s hm => by rw [hm] at h3; exact reenc_iff.mp h3 s⟩
      · intro h
        obtain ⟨h1, h2, h3⟩ := h not_false
        refine ⟨⟨h1, h2⟩, ?_⟩
        cases hm : c.message with
        | none => rfl
        | some m => exact reenc_iff.mpr (h3 m · hm)
theorem decodeUsing_ok {env : Env} {name : Bytes} {c : Commit} {cm : PStr} {au msg : Option PStr}
    (h : decodeUsing env name c = .ok (cm, au, msg)) :
    decodeName env name c.committer = .ok cm ∧
    ((au = none ∧ c.committer = c.author) ∨
      ∃ s, au = some s ∧ c.committer ≠ c.author ∧ decodeName env name c.author = .ok s) ∧
    ((msg = none ∧ c.message = none) ∨
      ∃ m s, c.message = some m ∧ msg = some s ∧ decodeName env name m = .ok s) := by
  unfold decodeUsing at h
  split at h
  · cases h
  · next cm' hc =>
    split at h
    · cases h
    · next au' ha =>
      have hau : (au' = none ∧ c.committer = c.author) ∨
          ∃ s, au' = some s ∧ c.committer ≠ c.author ∧ decodeName env name c.author = .ok s := by
        split at ha
        · next hne =>
          cases hd : decodeName env name c.author with
          | error y => rw [hd] at ha; cases ha
          | ok s => rw [hd] at ha; cases ha; exact Or.inr ⟨s, rfl, hne, rfl⟩
        · next heq => cases ha; exact Or.inl ⟨rfl, Decidable.not_not.mp heq⟩
      split at h
      · next hm => cases h; exact ⟨hc, hau, Or.inl ⟨rfl, hm⟩⟩
      · next m hm =>
        split at h
        · cases h
        · next s hd => cases h; exact ⟨hc, hau, Or.inr ⟨m, s, hm, rfl, hd⟩⟩

theorem encName_none (impl : Option Bytes) (h : impl = none ∨ impl = some (bs "latin1")) :
    ∀ e, (e = none ∨ e = some (bs "false")) →
      encName e impl = implOr impl := by
  intro e he
  rcases h with rfl | rfl <;> rcases he with rfl | rfl <;> decide +kernel

theorem decodeFallback_ok {env : Env} {c : Commit} {cm : PStr} {au msg : Option PStr} {impl : Option Bytes}
    (hwf : PyEnv env) (h : decodeFallback env c = .ok ((cm, au, msg), impl)) :
    (impl = none ∨ impl = some (bs "latin1")) ∧ isStd (env.lookup (implOr impl)) = true ∧
      decodeUsing env (implOr impl) c = .ok (cm, au, msg) := by
  unfold decodeFallback at h
  split at h
  · rename_i d hd
    simp only [Except.ok.injEq, Prod.mk.injEq] at h
    obtain ⟨rfl, rfl⟩ := h
    exact ⟨Or.inl rfl, by simp [implOr, hwf.1, isStd], hd⟩
  · cases hl : decodeUsing env (bs "latin1") c with
    | error e => simp [hl, Except.map] at h
    | ok d =>
      simp only [hl, Except.map, Except.ok.injEq, Prod.mk.injEq] at h
      obtain ⟨rfl, rfl⟩ := h
      exact ⟨Or.inr rfl, by simp [implOr, hwf.2, isStd], hl⟩
  · simp at h

/-- without a header codec, or with the header `encoding false`, import decodes by the fallback -/
theorem importDecode_fallback {env : Env} {fx strict : Bool} {c : Commit}
    (h : c.encoding = none ∨ c.encoding = some (bs "false")) :
    importDecode env fx strict c = decodeFallback env c := by
  have : isAscii (bs "false") = true := by rw [bs_ofList]; decide +kernel
  rcases h with h | h <;> simp [importDecode, h, this]

/-- with a header codec, a successful import has checked that its name is ASCII, decoded the three
fields under it and, strict in the variant with the fix, re-encoded them -/
theorem importDecode_header {env : Env} {fx strict : Bool} {c : Commit} {e : Bytes}
    {d : PStr × Option PStr × Option PStr} {impl : Option Bytes}
    (he : c.encoding = some e) (hf : e ≠ bs "false") (h : importDecode env fx strict c = .ok (d, impl)) :
    isAscii e = true ∧ decodeUsing env e c = .ok d ∧ impl = none ∧
      (fx = true → strict = true → reencodes env e c = true) := by
  simp only [importDecode, he, hf, ne_eq, not_false_eq_true, if_true] at h
  split at h
  · cases h
  · next hasc =>
    split at h
    · cases h
    · next d' hd =>
      split at h
      · cases h
      · next hre =>
        cases h
        exact ⟨by simpa using hasc, hd, rfl, fun h1 h2 => by simpa [h1, h2] using hre⟩

/-- what `import_commit` decoded, and that `export_commit` will re-encode under
the same name -/
theorem importDecode_ok {env : Env} {fx strict : Bool} {c : Commit} {cm : PStr} {au msg : Option PStr}
    {impl : Option Bytes}
    (hwf : PyEnv env) (h : importDecode env fx strict c = .ok ((cm, au, msg), impl)) :
    decodeUsing env (encName c.encoding impl) c = .ok (cm, au, msg) ∧
    (isStd (env.lookup (encName c.encoding impl)) = true ∨
      ∃ e, c.encoding = some e ∧ e ≠ bs "false" ∧ encName c.encoding impl = e) := by
  by_cases hfb : c.encoding = none ∨ c.encoding = some (bs "false")
  · rw [importDecode_fallback hfb] at h
    obtain ⟨hi, hstd, hd⟩ := decodeFallback_ok hwf h
    rw [encName_none impl hi _ hfb]
    exact ⟨hd, Or.inl hstd⟩
  · cases he : c.encoding with
    | none => exact absurd (Or.inl he) hfb
    | some e =>
      have hf : e ≠ bs "false" := fun hf => hfb (Or.inr (hf ▸ he))
      obtain ⟨-, hd, rfl, -⟩ := importDecode_header he hf h
      have hn : encName (some e) none = e := by simp [encName, hf]
      rw [hn]
      exact ⟨hd, Or.inr ⟨e, rfl, hf, rfl⟩⟩

/-- what a successful `importCommit` has computed -/
theorem importCommit_ok {env : Env} {fx strict : Bool} {id : Bytes} {c : Commit} {rev : Rev}
    (h : importCommit env fx strict id c = .ok rev) :
    ∃ cm au msg impl ls un, importDecode env fx strict c = .ok ((cm, au, msg), impl) ∧
      importExtra strict c.extra = .ok (ls, un) ∧ ¬ (un ≠ [] ∧ strict = true) ∧
      rev = { revisionId := foreignToBzr id, committer := cm, message := msg.getD ⟨cm.codec, []⟩,
              timestamp := c.commitTime, timezone := c.commitTz, parents := c.parents.map foreignToBzr,
              props := importProps c impl au msg ls } := by
  unfold importCommit at h
  split at h
  · cases h
  · next cm au msg impl hd =>
    split at h
    · cases h
    · next ls un hx =>
      split at h
      · cases h
      · next hun =>
        cases h
        exact ⟨cm, au, msg, impl, ls, un, hd, hx, hun, by cases msg <;> rfl⟩

theorem gpgsig_roundtrip {g : Option Bytes} (h : g ≠ some []) : exportGpgsig (importGpgsig g) = .ok g := by
  cases g with
  | none => rfl
  | some g =>
    have : g ≠ [] := fun e => h (by rw [e])
    simp [this, importGpgsig, exportGpgsig, encode, Except.map]

theorem split1_none (sep : UInt8) : ∀ (t : Bytes), sep ∉ t → split1 sep t = [t]
  | [], _ => rfl
  | x :: t, h => by
    have hx : x ≠ sep := fun e => h (by simp [e])
    simp [split1, hx, split1_none sep t (fun m => h (by simp [m]))]

theorem idx_some_of_mem (x : UInt8) : ∀ (t : Bytes), x ∈ t → ∃ i, idx x t = some i ∧ i < t.length
  | [], h => by simp at h
  | y :: t, h => by
    by_cases e : y = x
    · exact ⟨0, by simp [idx, e], by simp⟩
    · have : x ∈ t := by simpa [Ne.symm e] using h
      obtain ⟨i, hi, hl⟩ := idx_some_of_mem x t this
      exact ⟨i + 1, by simp [idx, e, hi], by simpa using hl⟩

end BreezyVerif.C34
