import BreezyVerif.Model.C32S
import BreezyVerif.Lemmas.C32
/-
C32, lock-scope sessions (Model/C32S.lean), the objects: the wire primitives of the
remote object are the direct transitions; the coherence predicates; the cases of the
logical lock (`acquire_ok`, `release_cases`); `pullCore` on coherent caches is
`specPull`; the operation bodies of the local and of the remote object compute the
specification's result and stored state and keep the caches coherent.
-/
namespace BreezyVerif.C32

open BreezyVerif.C33 (toDec parseDec parseDec_toDec)

theorem rReadTip_eq (src : Graph) (st : St) (ex : List RevId) : rReadTip src st ex = .ok st.tip := by
  simp [rReadTip, serve, parseDec_toDec]

theorem rWriteTip_eq (src : Graph) (st : St) (ex : List RevId) (t n : Nat) (r : RevId) (h : st.lock = some t) :
    rWriteTip src st ex t n r = .ok { st with tip := (n, r) } := by
  simp [rWriteTip, serve, withToken_held h, parseDec_toDec]

theorem rReadTags_eq (src : Graph) (st : St) (ex : List RevId) : rReadTags src st ex = .ok st.tags := by
  simp [rReadTags, serve]

theorem rWriteTags_eq (src : Graph) (st : St) (ex : List RevId) (t : Nat) (d : Tags) (h : st.lock = some t) :
    rWriteTags src st ex t d = .ok { st with tags := d } := by
  simp [rWriteTags, serve, withToken_held h]

theorem rFetch_eq (src : Graph) (ex : List RevId) : rFetch src ex = addRevs src := by
  funext st rs
  simp [rFetch, serve]

theorem rLock_fun_eq (src : Graph) (ex : List RevId) : (fun st tok => rLock src st ex tok) = primLock := by
  funext st tok
  exact rLock_eq src st ex tok

theorem rUnlock_fun_eq (src : Graph) (ex : List RevId) : (fun st t => rUnlock src st ex t) = primRelease := by
  funext st t
  exact rUnlock_eq src st ex t

/-- a cache is empty or holds the stored value -/
def cacheOK {α : Type} (c : Option α) (v : α) : Prop := c = none ∨ c = some v

instance {α : Type} [DecidableEq α] (c : Option α) (v : α) : Decidable (cacheOK c v) := by
  unfold cacheOK; infer_instance

/-- **cache coherence** of an object with the stored state: every cache of the
object and of its VFS branch is empty or equal to what is stored, and a write
lock is held with the token of the physical lock -/
def Coherent (o : Obj) (st : St) : Prop :=
  cacheOK o.tipC st.tip ∧ cacheOK o.tagsC st.tags ∧ cacheOK o.realTipC st.tip ∧ cacheOK o.realTagsC st.tags ∧
  (o.lk.mode = .w → o.lk.token.isSome = true ∧ st.lock = o.lk.token)

instance (o : Obj) (st : St) : Decidable (Coherent o st) := by
  unfold Coherent; infer_instance

/-- caches live only inside a lock scope -/
def Scoped (o : Obj) : Prop :=
  o.lk.mode = .unlocked → o.tipC = none ∧ o.tagsC = none ∧ o.realTipC = none ∧ o.realTagsC = none

instance (o : Obj) : Decidable (Scoped o) := by
  unfold Scoped; infer_instance

/-- a local object has no VFS branch -/
def LocalObj (o : Obj) : Prop := o.real = false ∧ o.realTipC = none ∧ o.realTagsC = none

instance (o : Obj) : Decidable (LocalObj o) := by
  unfold LocalObj; infer_instance

/-- the pulls of the operation bring no source tags -/
def NoSrcTags : SOp → Prop
  | .pull _ _ _ stags => stags = []
  | _ => True

instance (op : SOp) : Decidable (NoSrcTags op) := by
  cases op <;> unfold NoSrcTags <;> infer_instance

/-- the extra invariant of the remote object: either the client keeps both tag caches coherent, or the VFS
branch's tags cache is (still) empty -/
def TagsInv (v : Variant) (o : Obj) : Prop := (v.tagsOwn = true ∧ v.tagsReal = true) ∨ o.realTagsC = none

instance (v : Variant) (o : Obj) : Decidable (TagsInv v o) := by
  unfold TagsInv; infer_instance

theorem cacheOK_none {α : Type} (v : α) : cacheOK (none : Option α) v := Or.inl rfl
theorem cacheOK_some {α : Type} (v : α) : cacheOK (some v) v := Or.inr rfl

theorem cReadTip_coh (c : Caches) (st : St) (h : cacheOK c.tip st.tip) :
    cReadTip c st = (st.tip, { c with tip := some st.tip }) := by
  unfold cReadTip
  rcases h with h | h <;> simp [h]
  cases c; simp_all

theorem cReadTags_coh (c : Caches) (st : St) (h : cacheOK c.tags st.tags) :
    cReadTags c st = (st.tags, { c with tags := some st.tags }) := by
  unfold cReadTags
  rcases h with h | h <;> simp [h]
  cases c; simp_all

theorem cacheOK.getD_eq {α : Type} {c : Option α} {v : α} (h : cacheOK c v) : c.getD v = v := by
  rcases h with rfl | rfl <;> rfl

/-- the RemoteBranch's cached reads never fail: the cached value, else the stored one, which is then cached -/
theorem rTip_eq (src : Graph) (ex : List RevId) (o : Obj) (st : St) :
    rTip src ex o st = .ok (o.tipC.getD st.tip, { o with tipC := some (o.tipC.getD st.tip) }) := by
  obtain ⟨lk, tipC, tagsC, real, realTipC, realTagsC⟩ := o
  cases tipC <;> simp only [rTip, rReadTip_eq, Option.getD]

theorem rTags_eq (src : Graph) (ex : List RevId) (o : Obj) (st : St) :
    rTags src ex o st = .ok (o.tagsC.getD st.tags, { o with tagsC := some (o.tagsC.getD st.tags) }) := by
  obtain ⟨lk, tipC, tagsC, real, realTipC, realTagsC⟩ := o
  cases tagsC <;> simp only [rTags, rReadTags_eq, Option.getD]

theorem addRevs_tip (src : Graph) (st : St) (rs : List RevId) : (addRevs src st rs).tip = st.tip := rfl
theorem addRevs_tags (src : Graph) (st : St) (rs : List RevId) : (addRevs src st rs).tags = st.tags := rfl
theorem addRevs_lock (src : Graph) (st : St) (rs : List RevId) : (addRevs src st rs).lock = st.lock := rfl

/-- a successful `acquire` is the first write lock (through `plock`), the first read lock, or a re-entry -/
theorem acquire_ok {plock : St → Option Nat → Except Err (Nat × St)} {reset wr : Bool} {tok : Option Nat}
    {k : LockSt} {st : St} {k1 : LockSt} {s1 : St} (h : acquire plock reset wr tok k st = .ok (k1, s1)) :
    (k.mode = .unlocked ∧ wr = true ∧ ∃ t, plock st tok = .ok (t, s1) ∧
        k1 = { mode := .w, count := 1, token := some t,
               leave := if tok.isSome then true else if reset then false else k.leave })
      ∨ (k.mode = .unlocked ∧ wr = false ∧ s1 = st ∧ k1 = { k with mode := .r, count := 1, token := none })
      ∨ (k.mode ≠ .unlocked ∧ (wr = true → k.mode = .w) ∧ s1 = st ∧ k1 = { k with count := k.count + 1 }) := by
  unfold acquire at h
  have reentry : ∀ m, (Except.ok ({ k with mode := m, count := k.count + 1 }, st) : Except Err (LockSt × St))
      = .ok (k1, s1) → s1 = st ∧ k1 = { k with mode := m, count := k.count + 1 } := fun m e => by
    simp only [Except.ok.injEq, Prod.mk.injEq] at e
    exact ⟨e.2.symm, e.1.symm⟩
  cases hm : k.mode with
  | unlocked =>
    simp only [hm] at h
    cases wr with
    | true =>
      simp only [if_true] at h
      cases hp : plock st tok with
      | error e => simp [hp] at h
      | ok p =>
        simp only [hp, Except.ok.injEq, Prod.mk.injEq] at h
        exact Or.inl ⟨rfl, rfl, p.1, by rw [← h.2], h.1.symm⟩
    | false =>
      simp only [Bool.false_eq_true, if_false, Except.ok.injEq, Prod.mk.injEq] at h
      exact Or.inr (Or.inl ⟨rfl, rfl, h.2.symm, h.1.symm⟩)
  | r =>
    simp only [hm] at h
    cases wr with
    | true => simp at h
    | false => exact Or.inr (Or.inr ⟨nofun, nofun, reentry _ h⟩)
  | w =>
    simp only [hm] at h
    refine Or.inr (Or.inr ⟨nofun, fun _ => rfl, reentry _ ?_⟩)
    cases wr with
    | false => exact h
    | true =>
      cases tok with
      | none => exact h
      | some t =>
        simp only [if_true] at h
        split at h
        · exact h
        · cases h

/-- what `release` returns: not locked; an inner unlock; or the last unlock, which drops the caches and, for a
write lock with a token and a clear leave flag, releases the physical lock through `prel` -/
theorem release_cases (prel : St → Nat → Except Err St) (k : LockSt) (st : St) :
    let r := release prel k st
    (k.mode = .unlocked ∧ r = (some .lockNotHeld, k, st, false))
      ∨ (k.mode ≠ .unlocked ∧ k.count > 1 ∧ r = (none, { k with count := k.count - 1 }, st, false))
      ∨ (k.mode ≠ .unlocked ∧ ¬ k.count > 1 ∧ ∃ e s1, r = (e, { leave := k.leave }, s1, true) ∧
          ((e = none ∧ s1 = st ∧ ¬ (k.mode = .w ∧ k.leave = false ∧ k.token.isSome = true))
            ∨ ∃ t, k.mode = .w ∧ k.leave = false ∧ k.token = some t ∧
                (e, s1) = (match prel st t with | .ok s1 => (none, s1) | .error e => (some e, st)))) := by
  unfold release
  cases hm : k.mode with
  | unlocked => exact Or.inl ⟨rfl, rfl⟩
  | r =>
    by_cases hc : k.count > 1
    · exact Or.inr (Or.inl ⟨nofun, hc, by simp only [if_pos hc]⟩)
    · exact Or.inr (Or.inr ⟨nofun, hc, none, st, by simp only [if_neg hc], Or.inl ⟨rfl, rfl, nofun⟩⟩)
  | w =>
    by_cases hc : k.count > 1
    · exact Or.inr (Or.inl ⟨nofun, hc, by simp only [if_pos hc]⟩)
    · refine Or.inr (Or.inr ⟨nofun, hc, ?_⟩)
      dsimp only
      rw [if_neg hc]
      cases ht : k.token with
      | none => exact ⟨none, st, rfl, Or.inl ⟨rfl, rfl, fun h => nomatch h.2.2⟩⟩
      | some t =>
        cases hl : k.leave with
        | true => exact ⟨none, st, rfl, Or.inl ⟨rfl, rfl, fun h => nomatch h.2.1⟩⟩
        | false =>
          dsimp only
          rw [if_neg Bool.false_ne_true]
          cases hp : prel st t with
          | ok s1 => exact ⟨none, s1, rfl, Or.inr ⟨t, rfl, rfl, rfl, by rw [hp]⟩⟩
          | error e => exact ⟨some e, st, rfl, Or.inr ⟨t, rfl, rfl, rfl, by rw [hp]⟩⟩

/-- what the second holder's `lock_write()` / `unlock()` does to the stored state: nothing (refused); takes the
free lock; gives back the lock it holds (not lent to the object); or finds its lock gone -/
theorem ownerStep_cases (lock : Bool) (k : LockSt) (st : St) :
    let s' := (ownerStep lock k st).2
    s' = st
      ∨ (st.lock = none ∧ s' = { st with lock := some st.nextTok, nextTok := st.nextTok + 1,
                                         owner := some st.nextTok, known := some st.nextTok })
      ∨ (∃ ht, st.owner = some ht ∧ ¬ (k.mode = .w ∧ k.token = some ht) ∧ st.lock = some ht
            ∧ s' = { st with lock := none, owner := none })
      ∨ (∃ ht, st.owner = some ht ∧ st.lock ≠ some ht ∧ s' = { st with owner := none }) := by
  unfold ownerStep
  cases lock with
  | true =>
    rw [if_pos rfl]
    cases st.owner with
    | some x => exact Or.inl rfl
    | none =>
      unfold primLock
      cases hlk : st.lock with
      | some x => exact Or.inl rfl
      | none => exact Or.inr (Or.inl ⟨rfl, rfl⟩)
  | false =>
    rw [if_neg Bool.false_ne_true]
    cases st.owner with
    | none => exact Or.inl rfl
    | some ht =>
      dsimp only
      by_cases hlent : k.mode = .w ∧ k.token = some ht
      · rw [if_pos hlent]; exact Or.inl rfl
      · rw [if_neg hlent]
        by_cases hlk : st.lock = some ht
        · rw [if_pos hlk]; exact Or.inr (Or.inr (Or.inl ⟨ht, rfl, hlent, hlk, rfl⟩))
        · rw [if_neg hlk]; exact Or.inr (Or.inr (Or.inr ⟨ht, rfl, hlk, rfl⟩))

/-- a property of both branches holds of the conditional; takes the place of `split`, which is slow to check on
nested conditionals over the state record -/
theorem ite_ind {α : Type} {P : α → Prop} (c : Prop) [Decidable c] {a b : α} (ha : P a) (hb : P b) :
    P (if c then a else b) := by
  split <;> assumption

theorem specUpdate_frame (src : Graph) (ow : Bool) (n : Nat) (r : RevId) (st : St) :
    ∃ g t, (specUpdate src ow n r st).2 = { st with revs := g, tip := t } := by
  let P : Option Err × St → Prop := fun x => ∃ g t, x.2 = { st with revs := g, tip := t }
  show P _
  unfold specUpdate
  refine ite_ind (P := P) _ ⟨_, _, rfl⟩ ?_
  cases lookup r src with
  | none => exact ⟨_, _, rfl⟩
  | some ps =>
    exact ite_ind (P := P) _ ⟨_, _, rfl⟩
      (ite_ind (P := P) _ ⟨_, _, rfl⟩ (ite_ind (P := P) _ ⟨_, _, rfl⟩ ⟨_, _, rfl⟩))

theorem specMerge_frame (ow : Bool) (stags : Tags) (old : Nat × RevId) (s1 : St) :
    ∃ d, (specMerge ow stags old s1).2 = { s1 with tags := d } := by
  unfold specMerge
  split
  · exact ⟨_, rfl⟩
  · dsimp only
    split <;> exact ⟨_, rfl⟩

theorem specPull_frame (src : Graph) (ow : Bool) (n : Nat) (r : RevId) (stags : Tags) (st : St) :
    ∃ g t d, (specPull src ow n r stags st).2 = { st with revs := g, tip := t, tags := d } := by
  unfold specPull
  obtain ⟨g, t, hu⟩ := specUpdate_frame src ow n r st
  split
  · next heq => rw [heq] at hu; exact ⟨g, t, _, hu⟩
  · next s1 heq =>
    rw [heq] at hu
    obtain ⟨d, hm⟩ := specMerge_frame ow stags st.tip s1
    rw [hm, show s1 = _ from hu]
    exact ⟨g, t, d, rfl⟩

theorem specPull_lock (src : Graph) (ow : Bool) (n : Nat) (r : RevId) (stags : Tags) (st : St) :
    (specPull src ow n r stags st).2.lock = st.lock := by
  obtain ⟨g, t, d, h⟩ := specPull_frame src ow n r stags st
  rw [h]

theorem specPull_nil_tags (src : Graph) (ow : Bool) (n : Nat) (r : RevId) (st : St) :
    (specPull src ow n r [] st).2.tags = st.tags := by
  unfold specPull
  obtain ⟨g, t, hu⟩ := specUpdate_frame src ow n r st
  split <;> next heq => rw [heq] at hu; exact hu ▸ rfl

theorem updateRevisions_coh (src : Graph) (ow : Bool) (n : Nat) (r : RevId) (c : Caches) (st : St)
    (h1 : cacheOK c.tip st.tip) (h2 : cacheOK c.tags st.tags) :
    let u := updateRevisions src (addRevs src) ow n r c st st.tip.2
    (u.1, u.2.2) = specUpdate src ow n r st ∧ cacheOK u.2.1.tip u.2.2.tip ∧ cacheOK u.2.1.tags u.2.2.tags := by
  unfold updateRevisions specUpdate cSetTip
  by_cases hr : r = nullRev
  · simp only [if_pos hr]
    exact ⟨trivial, h1, h2⟩
  · simp only [if_neg hr]
    cases lookup r src with
    | none => exact ⟨rfl, h1, h2⟩
    | some ps =>
      dsimp only
      -- the stored tip and tags are those of `st` (`addRevs` adds revisions only)
      cases ow with
      | true => exact ⟨rfl, cacheOK_some _, cacheOK_none _⟩
      | false =>
        simp only [Bool.false_eq_true, if_false]
        by_cases ha : isAnc (addRevs src st (fetchRevs src r)).revs r st.tip.2 = true
        · simp only [if_pos ha]
          exact ⟨trivial, h1, h2⟩
        · simp only [if_neg ha]
          by_cases hb : isAnc (addRevs src st (fetchRevs src r)).revs st.tip.2 r = true
          · simp only [if_pos hb]
            exact ⟨trivial, cacheOK_some _, cacheOK_none _⟩
          · simp only [if_neg hb]
            exact ⟨trivial, h1, h2⟩

theorem mergeTags_coh (ow : Bool) (stags : Tags) (old : Nat × RevId) (c : Caches) (st : St)
    (h1 : cacheOK c.tip st.tip) (h2 : cacheOK c.tags st.tags) :
    let m := mergeTags ow stags c st
    specMerge ow stags old st = (.moved old m.2.2.tip m.1, m.2.2)
      ∧ cacheOK m.2.1.tip m.2.2.tip ∧ cacheOK m.2.1.tags m.2.2.tags := by
  cases stags with
  | nil => exact ⟨rfl, h1, h2⟩
  | cons a rest =>
    simp only [mergeTags, specMerge, cReadTags_coh c st h2, cSetTags]
    split
    · exact ⟨rfl, h1, cacheOK_some _⟩
    · exact ⟨rfl, h1, cacheOK_some _⟩

theorem pullCore_spec (src : Graph) (ow : Bool) (n : Nat) (r : RevId) (stags : Tags) (c : Caches) (st : St)
    (h1 : cacheOK c.tip st.tip) (h2 : cacheOK c.tags st.tags) :
    let p := pullCore src (addRevs src) ow n r stags c st
    (p.1, p.2.2) = specPull src ow n r stags st ∧ cacheOK p.2.1.tip p.2.2.tip ∧ cacheOK p.2.1.tags p.2.2.tags := by
  unfold pullCore specPull
  rw [cReadTip_coh c st h1]
  dsimp only
  obtain ⟨u1, u2, u3⟩ := updateRevisions_coh src ow n r { c with tip := some st.tip } st (cacheOK_some _) h2
  rw [← u1]
  generalize updateRevisions src (addRevs src) ow n r { c with tip := some st.tip } st st.tip.2 = u at u2 u3 ⊢
  obtain ⟨e, c2, s2⟩ := u
  cases e with
  | some e => exact ⟨rfl, u2, u3⟩
  | none =>
    dsimp only at u2 u3 ⊢
    obtain ⟨m1, m2, m3⟩ := mergeTags_coh ow stags st.tip c2 s2 u2 u3
    rw [m1]
    generalize mergeTags ow stags c2 s2 = m at m2 m3 ⊢
    obtain ⟨k, c3, s3⟩ := m
    dsimp only at m2 m3 ⊢
    rw [cReadTip_coh c3 s3 m2]
    exact ⟨rfl, cacheOK_some _, m3⟩

theorem updateRevisions_tagsC (src : Graph) (fetch : St → List RevId → St) (ow : Bool) (n : Nat) (r : RevId)
    (c : Caches) (st : St) (last : RevId) (h : c.tags = none) :
    (updateRevisions src fetch ow n r c st last).2.1.tags = none := by
  let P : Option Err × Caches × St → Prop := fun x => x.2.1.tags = none
  show P _
  unfold updateRevisions
  refine ite_ind (P := P) _ h ?_
  cases lookup r src with
  | none => exact h
  | some ps => exact ite_ind (P := P) _ rfl (ite_ind (P := P) _ h (ite_ind (P := P) _ rfl h))

theorem cReadTip_tags (c : Caches) (st : St) : (cReadTip c st).2.tags = c.tags := by
  unfold cReadTip
  split <;> rfl

theorem pullCore_nil_tagsC (src : Graph) (fetch : St → List RevId → St) (ow : Bool) (n : Nat) (r : RevId)
    (c : Caches) (st : St) (h : c.tags = none) :
    (pullCore src fetch ow n r [] c st).2.1.tags = none := by
  unfold pullCore
  dsimp only
  have hu := updateRevisions_tagsC src fetch ow n r (cReadTip c st).2 st (cReadTip c st).1.2
    (by rw [cReadTip_tags]; exact h)
  split
  · next heq => rw [heq] at hu; exact hu
  · next heq =>
    rw [heq] at hu
    simp only [mergeTags, cReadTip_tags]
    exact hu

theorem specFetch_tip (src : Graph) (st : St) (r : RevId) : (specFetch src st r).tip = st.tip := by
  unfold specFetch; split <;> rfl
theorem specFetch_tags (src : Graph) (st : St) (r : RevId) : (specFetch src st r).tags = st.tags := by
  unfold specFetch; split <;> rfl
theorem specFetch_lock (src : Graph) (st : St) (r : RevId) : (specFetch src st r).lock = st.lock := by
  unfold specFetch; split <;> rfl

theorem lsBody_lk (src : Graph) (op : SOp) (o : Obj) (st : St) : (lsBody src op o st).2.1.lk = o.lk := by
  cases op <;> simp only [lsBody, Obj.setOwn] <;> (try rfl)
  · split <;> rfl

theorem afterSetTip_lk (v : Variant) (o : Obj) (n : Nat) (r : RevId) : (afterSetTip v o n r).lk = o.lk := by
  unfold afterSetTip
  split <;> rfl

theorem rsBody_lk (v : Variant) (src : Graph) (ex : List RevId) (op : SOp) (o : Obj) (st : St) :
    (rsBody v src ex op o st).2.1.lk = o.lk := by
  cases op with
  | tip => simp only [rsBody, rTip_eq]
  | tagDict => simp only [rsBody, rTags_eq]
  | tagSet name r =>
    simp only [rsBody, rTags_eq]
    cases o.lk.token with
    | none => rfl
    | some t =>
      dsimp only
      cases rWriteTags src st ex t (dset (o.tagsC.getD st.tags) name r) <;> rfl
  | setTip n r =>
    simp only [rsBody, rTip_eq]
    refine ite_ind (P := fun x : Res × Obj × St => x.2.1.lk = o.lk) _ rfl ?_
    cases o.lk.token with
    | none => rfl
    | some t =>
      dsimp only
      cases rWriteTip src _ ex t n r with
      | error e => rfl
      | ok s2 => exact afterSetTip_lk v _ n r
  | _ => rfl

theorem lsBody_spec (src : Graph) (op : SOp) (o : Obj) (st : St) (hc : Coherent o st) (hl : LocalObj o) :
    let b := lsBody src op o st
    (b.1, b.2.2) = specBody src op st ∧ Coherent b.2.1 b.2.2 ∧ LocalObj b.2.1 := by
  obtain ⟨h1, h2, h3, h4, h5⟩ := hc
  obtain ⟨l1, l2, l3⟩ := hl
  cases op with
  | tip =>
    simp only [lsBody, specBody]
    rw [cReadTip_coh o.own st h1]
    refine ⟨rfl, ⟨cacheOK_some _, h2, h3, h4, h5⟩, ⟨l1, l2, l3⟩⟩
  | tagDict =>
    simp only [lsBody, specBody]
    rw [cReadTags_coh o.own st h2]
    refine ⟨rfl, ⟨h1, cacheOK_some _, h3, h4, h5⟩, ⟨l1, l2, l3⟩⟩
  | tagSet name r =>
    simp only [lsBody, specBody]
    rw [cReadTags_coh o.own st h2]
    exact ⟨rfl, ⟨h1, cacheOK_some _, Or.inl l2, Or.inl l3, h5⟩, ⟨l1, l2, l3⟩⟩
  | setTip n r =>
    simp only [lsBody, specBody]
    by_cases hc : r ≠ nullRev ∧ lookup r src = none
    · rw [if_pos hc, if_pos hc]
      exact ⟨rfl, ⟨h1, h2, h3, h4, h5⟩, ⟨l1, l2, l3⟩⟩
    · rw [if_neg hc, if_neg hc]
      have h1' : cacheOK o.own.tip (specFetch src st r).tip := by rw [specFetch_tip]; exact h1
      rw [cReadTip_coh o.own _ h1']
      exact ⟨rfl, ⟨cacheOK_some _, cacheOK_none _, Or.inl l2, Or.inl l3,
        fun hm => ⟨(h5 hm).1, (specFetch_lock src st r).trans (h5 hm).2⟩⟩, ⟨l1, l2, l3⟩⟩
  | pull ow n r stags =>
    simp only [lsBody, specBody]
    obtain ⟨p1, p2, p3⟩ := pullCore_spec src ow n r stags o.own st h1 h2
    have hk : (pullCore src (addRevs src) ow n r stags o.own st).2.2.lock = st.lock :=
      (congrArg (fun x => x.2.lock) p1).trans (specPull_lock src ow n r stags st)
    exact ⟨p1, ⟨p2, p3, Or.inl l2, Or.inl l3, fun hm => ⟨(h5 hm).1, hk.trans (h5 hm).2⟩⟩, ⟨l1, l2, l3⟩⟩
  | _ => exact ⟨rfl, ⟨h1, h2, h3, h4, h5⟩, ⟨l1, l2, l3⟩⟩

/-- for a client that keeps the tip caches coherent.  The tag caches are kept coherent by the client too, or else
the operation brings no source tags and the VFS branch's tags cache is (and stays) empty. -/
theorem rsBody_spec (v : Variant) (src : Graph) (ex : List RevId) (op : SOp) (o : Obj) (st : St)
    (hc : Coherent o st) (hw : op.needsWrite = true → o.lk.mode = .w) (hv : v.tipCoherent = true)
    (ht : (v.tagsOwn = true ∧ v.tagsReal = true) ∨ NoSrcTags op) (hi : TagsInv v o) :
    let b := rsBody v src ex op o st
    (b.1, b.2.2) = specBody src op st ∧ Coherent b.2.1 b.2.2 ∧ TagsInv v b.2.1 := by
  obtain ⟨h1, h2, h3, h4, h5⟩ := hc
  cases op with
  | tip =>
    simp only [rsBody, specBody]
    rw [rTip_eq, h1.getD_eq]
    exact ⟨rfl, ⟨cacheOK_some _, h2, h3, h4, h5⟩, hi⟩
  | tagDict =>
    simp only [rsBody, specBody]
    rw [rTags_eq, h2.getD_eq]
    exact ⟨rfl, ⟨h1, cacheOK_some _, h3, h4, h5⟩, hi⟩
  | tagSet name r =>
    obtain ⟨hs, hl⟩ := h5 (hw rfl)
    obtain ⟨t, htk⟩ := Option.isSome_iff_exists.mp hs
    simp only [rsBody, specBody]
    rw [rTags_eq, h2.getD_eq]
    simp only [htk]
    rw [rWriteTags_eq src st ex t _ (hl.trans htk)]
    -- the VFS branch's tags cache is dropped by the client, or was empty
    have h4' : (if v.tagsReal = true then none else o.realTagsC) = none := by
      rcases hi with h | h
      · rw [if_pos h.2]
      · rw [h, ite_self]
    refine ⟨rfl, ⟨h1, cacheOK_some _, h3, Or.inl h4', fun _ => ⟨hs, hl⟩⟩, hi.imp_right fun _ => h4'⟩
  | setTip n r =>
    obtain ⟨hs, hl⟩ := h5 (hw rfl)
    obtain ⟨t, htk⟩ := Option.isSome_iff_exists.mp hs
    simp only [rsBody, specBody]
    by_cases hc : r ≠ nullRev ∧ lookup r src = none
    · rw [if_pos hc, if_pos hc]
      exact ⟨rfl, ⟨h1, h2, h3, h4, h5⟩, hi⟩
    · rw [if_neg hc, if_neg hc]
      have hf : (if r = nullRev then st else rFetch src ex st (fetchRevs src r)) = specFetch src st r := by
        unfold specFetch; rw [rFetch_eq]
      rw [hf, rTip_eq, (show cacheOK o.tipC (specFetch src st r).tip from specFetch_tip src st r ▸ h1).getD_eq]
      simp only [htk]
      rw [rWriteTip_eq src _ ex t n r ((specFetch_lock src st r).trans (hl.trans htk))]
      simp only [afterSetTip, hv, if_true]
      refine ⟨trivial, ⟨cacheOK_some _, cacheOK_none _, ?_, cacheOK_none _,
        fun _ => ⟨hs, (specFetch_lock src st r).trans hl⟩⟩, Or.inr rfl⟩
      cases o.real
      · exact cacheOK_none _
      · exact cacheOK_some _
  | pull ow n r stags =>
    simp only [rsBody, specBody]
    rw [rFetch_eq]
    obtain ⟨p1, p2, p3⟩ := pullCore_spec src ow n r stags { tip := o.realTipC, tags := o.realTagsC } st h3 h4
    have hst := congrArg Prod.snd p1
    refine ⟨p1, ⟨cacheOK_none _, ?_, p2, p3,
      fun hm => ⟨(h5 hm).1, (congrArg St.lock hst).trans ((specPull_lock src ow n r stags st).trans (h5 hm).2)⟩⟩, ?_⟩
    · -- the own tags cache: dropped by the client, or the tags file is not rewritten
      rcases ht with h | h
      · rw [if_pos h.1]; exact cacheOK_none _
      · cases (h : stags = [])
        cases v.tagsOwn
        · exact (congrArg St.tags hst).trans (specPull_nil_tags src ow n r st) ▸ h2
        · exact cacheOK_none _
    · rcases ht with h | h
      · exact Or.inl h
      · cases (h : stags = [])
        exact hi.imp_right (pullCore_nil_tagsC src (addRevs src) ow n r _ st)
  | _ => exact ⟨rfl, ⟨h1, h2, h3, h4, h5⟩, hi⟩

end BreezyVerif.C32
