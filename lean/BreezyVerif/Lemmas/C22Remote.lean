import BreezyVerif.Lemmas.C22Main
import BreezyVerif.Model.C22Remote
/-!
C22 — lemmas about stacked repositories served by the smart server
(`Model/C22Remote.lean`): the walk of one repository along a left-hand chain,
the chain of fallbacks, the server-side identifier → number walk.
-/
namespace BreezyVerif.C22

/-- equality of `Except` values is decidable (used by the `decide` examples and witnesses) -/
instance exceptDecEq {ε α : Type} [DecidableEq ε] [DecidableEq α] : DecidableEq (Except ε α) := fun a b =>
  match a, b with
  | .ok x, .ok y => if h : x = y then isTrue (by rw [h]) else isFalse (by intro h'; cases h'; exact h rfl)
  | .error x, .error y => if h : x = y then isTrue (by rw [h]) else isFalse (by intro h'; cases h'; exact h rfl)
  | .ok _, .error _ => isFalse (by intro h; cases h)
  | .error _, .ok _ => isFalse (by intro h; cases h)

theorem lpRaw_of_leftParent {g : Graph} {x : Nat} {ps : List Nat} {l : Nat} (hps : g[x]? = some ps)
    (hl : leftParent g ps = some l) : lpRaw g x = some l := by
  unfold lpRaw
  rw [hps]
  unfold leftParent at hl
  cases ps with
  | nil => cases hl
  | cons p t =>
    simp only at hl
    split at hl
    · cases hl; rfl
    · cases hl

theorem lefthand_isLeftChain (g : Graph) : ∀ (fuel x : Nat), isLeftChain g (lefthand g fuel x) = true := by
  intro fuel
  induction fuel with
  | zero => intro x; rfl
  | succ fuel ih =>
    intro x
    rw [lefthand_succ]
    split
    · rfl
    · rename_i ps hps
      split
      · rename_i l hl
        have hraw := lpRaw_of_leftParent hps hl
        have hih := ih l
        cases hrest : lefthand g fuel l with
        | nil => rfl
        | cons c rest =>
          have hc : c = l := lefthand_head g fuel l c (by rw [hrest]; rfl)
          subst hc
          rw [hrest] at hih
          simp only [isLeftChain, hraw, beq_self_eq_true, Bool.true_and]
          exact hih
      · rfl

theorem history_isLeftChain (b : Branch) : isLeftChain b.g b.history = true := by
  unfold Branch.history
  split
  · rfl
  · exact lefthand_isLeftChain _ _ _

theorem isLeftChain_cons2 {g : Graph} {a c : Nat} {rest : List Nat} (h : isLeftChain g (a :: c :: rest) = true) :
    lpRaw g a = some c ∧ isLeftChain g (c :: rest) = true := by
  simp only [isLeftChain, Bool.and_eq_true, beq_iff_eq] at h
  exact h

theorem isLeftChain_drop {g : Graph} : ∀ (n : Nat) (l : List Nat), isLeftChain g l = true →
    isLeftChain g (l.drop n) = true
  | 0, _, h => h
  | _ + 1, [], _ => rfl
  | n + 1, _ :: rest, h => by
    rw [List.drop_succ_cons]
    refine isLeftChain_drop n rest ?_
    cases rest with
    | nil => rfl
    | cons c rest => exact (isLeftChain_cons2 h).2

theorem dropWhile_eq_drop_takeWhile {α : Type} (p : α → Bool) (l : List α) :
    l.dropWhile p = l.drop (l.takeWhile p).length := by
  have := List.drop_left' (l₁ := l.takeWhile p) (l₂ := l.dropWhile p) rfl
  rw [List.takeWhile_append_dropWhile] at this
  exact this.symm

theorem takeWhile_length_le {α : Type} (p : α → Bool) : ∀ l : List α, (l.takeWhile p).length ≤ l.length :=
  fun _ => (List.takeWhile_prefix p).length_le

/-- the wanted revision lies within the stored part of the history, or is the
first revision that is not stored (named by its child): found -/
theorem walkFor_found (g : Graph) (R : List Nat) : ∀ (d : Nat) (H : List Nat) (x : Nat) (rest : List Nat) (k : Int)
    (r : Nat), isLeftChain g H = true → H = x :: rest → d ≤ (H.takeWhile (stores g R)).length →
    H[d]? = some r → walkFor g R d x k = .found r := by
  intro d
  induction d with
  | zero =>
    intro H x rest k r _ hH _ hr
    subst hH
    simp only [List.getElem?_cons_zero, Option.some.injEq] at hr
    subst hr
    rfl
  | succ d ih =>
    intro H x rest k r hch hH hd hr
    subst hH
    cases rest with
    | nil => simp at hr
    | cons c rest' =>
      obtain ⟨hraw, hch'⟩ := isLeftChain_cons2 hch
      have hx : stores g R x = true := by
        by_cases hx : stores g R x = true
        · exact hx
        · rw [List.takeWhile_cons_of_neg hx] at hd
          simp at hd
      rw [List.takeWhile_cons_of_pos hx, List.length_cons] at hd
      have hd' : d ≤ ((c :: rest').takeWhile (stores g R)).length := by omega
      simp only [List.getElem?_cons_succ] at hr
      unfold walkFor
      simp only [hraw]
      by_cases hc : stores g R c = true
      · simp only [hc, if_true]
        exact ih (c :: rest') c rest' (k - 1) r hch' rfl hd' hr
      · rw [List.takeWhile_cons_of_neg hc] at hd'
        have hd0 : d = 0 := by simpa using hd'
        subst hd0
        simp only [List.getElem?_cons_zero, Option.some.injEq] at hr
        subst hr
        simp [hc]

/-- the stored part of the history ends before the wanted revision:
`history-incomplete` names the first revision that is not stored, WITH ITS OWN
REVNO (the known revno minus the number of stored revisions walked) -/
theorem walkFor_incomplete (g : Graph) (R : List Nat) : ∀ (d : Nat) (H : List Nat) (x : Nat) (rest : List Nat)
    (k : Int) (y : Nat), isLeftChain g H = true → H = x :: rest → stores g R x = true →
    (H.takeWhile (stores g R)).length < d → H[(H.takeWhile (stores g R)).length]? = some y →
    walkFor g R d x k = .incomplete (k - ((H.takeWhile (stores g R)).length : Nat)) y := by
  intro d
  induction d with
  | zero => intro H x rest k y _ _ _ hd _; omega
  | succ d ih =>
    intro H x rest k y hch hH hx hd hy
    subst hH
    rw [List.takeWhile_cons_of_pos hx, List.length_cons] at hd hy ⊢
    cases rest with
    | nil => simp at hy
    | cons c rest' =>
      obtain ⟨hraw, hch'⟩ := isLeftChain_cons2 hch
      simp only [List.getElem?_cons_succ] at hy
      unfold walkFor
      simp only [hraw]
      by_cases hc : stores g R c = true
      · simp only [hc, if_true]
        have := ih (c :: rest') c rest' (k - 1) y hch' rfl hc (by omega) hy
        rw [this]
        congr 1
        push_cast
        omega
      · rw [List.takeWhile_cons_of_neg hc] at hd hy ⊢
        simp only [List.length_nil, List.getElem?_cons_zero, Option.some.injEq] at hd hy
        subst hy
        have hd0 : d ≠ 0 := by omega
        simp only [hc, Bool.false_eq_true, if_false, hd0, List.length_nil]
        congr 1

/-- **Key lemma.**  Along a left-hand chain `H` starting at the known revision
`x` with revno `k`, a chain of repositories that covers `H` finds the revision
`d` steps down (revno `k - d`). -/
theorem chain_found (fx : Bool) (g : Graph) : ∀ (chain : List (List Nat)) (H : List Nat) (x : Nat) (rest : List Nat)
    (k : Int) (d : Nat) (r : Nat), isLeftChain g H = true → H = x :: rest → chainCovers fx g chain H = true →
    H[d]? = some r → chainRevIdForRevno fx g chain (k - (d : Int)) (k, x) = .ok (.found r) := by
  intro chain
  induction chain with
  | nil =>
    intro H x rest k d r _ hH hc _
    subst hH
    simp [chainCovers] at hc
  | cons R fbs ih =>
    intro H x rest k d r hch hH hc hr
    subst hH
    have hdist : ¬ (k - (k - (d : Int)) < 0) := by omega
    have htoNat : (k - (k - (d : Int))).toNat = d := by omega
    unfold chainCovers at hc
    by_cases hx : stores g R x = true
    · simp only [hx, if_true] at hc
      unfold chainRevIdForRevno repoRevIdForRevno
      simp only [hdist, if_false, hx, Bool.not_true, Bool.false_eq_true, htoNat]
      by_cases hd : d ≤ ((x :: rest).takeWhile (stores g R)).length
      · rw [walkFor_found g R d (x :: rest) x rest k r hch rfl hd hr]
      · have hn : ((x :: rest).takeWhile (stores g R)).length < d := by omega
        have hdl : d < (x :: rest).length := by
          rcases List.getElem?_eq_some_iff.mp hr with ⟨h, _⟩; exact h
        have hnl : ((x :: rest).takeWhile (stores g R)).length < (x :: rest).length := by omega
        have hy := List.getElem?_eq_getElem hnl
        rw [walkFor_incomplete g R d (x :: rest) x rest k _ hch rfl hx hn hy]
        simp only []
        rw [dropWhile_eq_drop_takeWhile, List.drop_eq_getElem_cons hnl] at hc
        generalize hnn : ((x :: rest).takeWhile (stores g R)).length = n at *
        have hrev : k - (d : Int) = (k - (n : Int)) - ((d - n : Nat) : Int) := by omega
        rw [hrev]
        apply ih ((x :: rest)[n] :: (x :: rest).drop (n + 1)) _ _ (k - (n : Int)) (d - n) r ?_ rfl hc ?_
        · rw [← List.drop_eq_getElem_cons hnl]
          exact isLeftChain_drop n _ hch
        · rw [← List.drop_eq_getElem_cons hnl, List.getElem?_drop]
          have : n + (d - n) = d := by omega
          rw [this]; exact hr
    · simp only [hx, Bool.false_eq_true, if_false, Bool.and_eq_true, Bool.not_eq_true'] at hc
      obtain ⟨⟨hfx, hne⟩, hc'⟩ := hc
      subst hfx
      unfold chainRevIdForRevno repoRevIdForRevno
      simp only [hdist, if_false, hx, Bool.not_false, if_true, hne, Bool.not_false, Bool.and_self]
      exact ih (x :: rest) x rest k d r hch rfl hc' hr

/-- `RemoteBranch.get_rev_id` on a covering chain is `BzrBranch.get_rev_id` on the whole graph -/
theorem remoteGetRevId_eq (fx : Bool) (b : Branch) (chain : List (List Nat)) (revno : Int)
    (htip : ∀ t, b.tip = some t → t < b.g.length) (hc : chainCovers fx b.g chain b.history = true) :
    remoteGetRevId fx b chain revno = b.getRevId revno := by
  unfold remoteGetRevId Branch.getRevId
  by_cases h0 : revno = 0
  · simp [h0]
  · simp only [h0, if_false]
    by_cases hneg : revno < 0
    · have : revno ≤ 0 ∨ revno > (b.lastRevno : Int) := Or.inl (by omega)
      simp [hneg, this]
    · simp only [hneg, if_false]
      cases htp : b.tip with
      | none =>
        have hL : b.lastRevno = 0 := by simp [Branch.lastRevno, Branch.history, htp]
        have : revno ≤ 0 ∨ revno > (b.lastRevno : Int) := Or.inr (by rw [hL]; omega)
        simp [this]
      | some t =>
        simp only []
        have htl := htip t htp
        obtain ⟨rest, hhist⟩ : ∃ rest, b.history = t :: rest := by
          unfold Branch.history; rw [htp]; exact lefthand_eq_cons b.g (Nat.lt_succ_self t) htl
        by_cases hbig : revno > (b.lastRevno : Int)
        · have : revno ≤ 0 ∨ revno > (b.lastRevno : Int) := Or.inr hbig
          simp only [this, if_true]
          rw [hhist] at hc
          cases chain with
          | nil => simp [chainCovers] at hc
          | cons R fbs =>
          have hd : (b.lastRevno : Int) - revno < 0 := by omega
          simp [chainRevIdForRevno, repoRevIdForRevno, hd]
        · have hno : ¬ (revno ≤ 0 ∨ revno > (b.lastRevno : Int)) := by omega
          simp only [hno, if_false]
          have hL : b.lastRevno = b.history.length := rfl
          have hlt : ((b.lastRevno : Int) - revno).toNat < b.history.length := by omega
          have hget := List.getElem?_eq_getElem hlt
          rw [hget]
          have hrev : revno = (b.lastRevno : Int) - ((((b.lastRevno : Int) - revno).toNat : Nat) : Int) := by omega
          have := chain_found fx b.g chain b.history t rest (b.lastRevno : Int) ((b.lastRevno : Int) - revno).toNat
            _ (history_isLeftChain b) hhist hc hget
          rw [← hrev] at this
          rw [this]

theorem revIdIs_iff (id : RevId) (x : Nat) : revIdIs id x = true ↔ id = .rev x := by
  unfold revIdIs
  exact beq_iff_eq

theorem serverWalk_found (g : Graph) (R : List Nat) (id : RevId) : ∀ (l : List Nat) (i0 i : Nat),
    serverWalk g R id l i0 = .found i → ∃ r, id = .rev r ∧ i0 ≤ i ∧ l.idxOf? r = some (i - i0) := by
  intro l
  induction l with
  | nil => intro i0 i h; simp [serverWalk] at h
  | cons x rest ih =>
    intro i0 i h
    unfold serverWalk at h
    split at h
    · cases h
    · split at h
      · rename_i hid
        cases h
        refine ⟨x, (revIdIs_iff id x).mp hid, Nat.le_refl _, ?_⟩
        simp [List.idxOf?_cons]
      · rename_i hid
        split at h
        · split at h <;> cases h
        · rename_i c rest'
          obtain ⟨r, hr, hle, hidx⟩ := ih (i0 + 1) i h
          refine ⟨r, hr, by omega, ?_⟩
          have hne : (x == r) = false := by
            rw [beq_eq_false_iff_ne]
            intro hxr
            subst hxr
            exact hid ((revIdIs_iff id x).mpr hr)
          rw [List.idxOf?_cons, hne, hidx]
          simp only [Bool.false_eq_true, if_false, Option.map_some, Option.some.injEq]
          omega

theorem serverWalk_ended (g : Graph) (R : List Nat) (id : RevId) : ∀ (l : List Nat) (i0 : Nat),
    serverWalk g R id l i0 = .ended → ∀ r, id = .rev r → r ∉ l := by
  intro l
  induction l with
  | nil => intro i0 _ r _ hm; cases hm
  | cons x rest ih =>
    intro i0 h r hr hm
    unfold serverWalk at h
    split at h
    · cases h
    · split at h
      · cases h
      · rename_i hid
        have hxr : x ≠ r := by
          intro hxr; subst hxr
          exact hid ((revIdIs_iff id x).mpr hr)
        have hmr : r ∈ rest := by
          rcases List.mem_cons.mp hm with h1 | h1
          · exact absurd h1.symm hxr
          · exact h1
        split at h
        · cases hmr
        · exact ih (i0 + 1) h r hr hmr

/-- a mainline revision inside the part of the history that the repository
stores contiguously from the tip is found, at its index -/
theorem serverWalk_own (g : Graph) (R : List Nat) (r : Nat) : ∀ (l : List Nat) (i0 : Nat),
    r ∈ l.takeWhile (stores g R) → ∃ i, l.idxOf? r = some i ∧ serverWalk g R (.rev r) l i0 = .found (i0 + i) := by
  intro l
  induction l with
  | nil => intro i0 h; cases h
  | cons x rest ih =>
    intro i0 h
    have hx : stores g R x = true := by
      by_cases hx : stores g R x = true
      · exact hx
      · rw [List.takeWhile_cons_of_neg hx] at h; cases h
    rw [List.takeWhile_cons_of_pos hx] at h
    unfold serverWalk
    simp only [hx, Bool.not_true, Bool.false_eq_true, if_false]
    by_cases hxr : x = r
    · subst hxr
      refine ⟨0, by simp [List.idxOf?_cons], ?_⟩
      simp [revIdIs]
    · have hmr : r ∈ rest.takeWhile (stores g R) := by
        rcases List.mem_cons.mp h with h1 | h1
        · exact absurd h1.symm hxr
        · exact h1
      have hid : revIdIs (.rev r) x = false := by
        unfold revIdIs
        rw [beq_eq_false_iff_ne]
        intro hc; cases hc; exact hxr rfl
      simp only [hid, Bool.false_eq_true, if_false]
      obtain ⟨i, hi, hw⟩ := ih (i0 + 1) hmr
      cases rest with
      | nil => cases hmr
      | cons c rest' =>
        simp only []
        refine ⟨i + 1, ?_, ?_⟩
        · have hne : (x == r) = false := by rw [beq_eq_false_iff_ne]; exact hxr
          rw [List.idxOf?_cons, hne, hi]; rfl
        · rw [hw]; congr 1; omega

end BreezyVerif.C22
