import BreezyVerif.Model.C39
/-! C39 helper lemmas: the text of a diff parses back (newline markers, hunk bodies). -/
namespace BreezyVerif.C39

/-- a logical line that the marker mechanism can carry: it is not the marker
itself, with or without its newline -/
def carriable (l : Bytes) : Bool := l ≠ noNl ∧ l ++ [nlB] ≠ noNl

theorem endsNl_append_nl (l : Bytes) : endsNl (l ++ [nlB]) = true := by
  simp [endsNl]

theorem handleNlAux_written (ls : List Bytes) (hc : ∀ l ∈ ls, carriable l = true) (last : Option Bytes) :
    handleNlAux last (ls.flatMap writeLine) = .ok (last.toList ++ ls) := by
  induction ls generalizing last with
  | nil => cases last <;> rfl
  | cons l ls ih =>
    have hl := hc l (List.mem_cons_self ..)
    simp only [carriable, Bool.decide_and, Bool.and_eq_true, decide_eq_true_eq] at hl
    have ih' := fun q => ih (fun x hx => hc x (List.mem_cons_of_mem _ hx)) (some q)
    simp only [List.flatMap_cons, writeLine]
    by_cases he : endsNl l = true <;> cases last <;>
      simp [he, handleNlAux, hl.1, hl.2, endsNl_append_nl, ih', Except.map]

/-- the marker mechanism is lossless: writing lines (with the marker after a
line without newline) and reading them with `iter_lines_handle_nl` is the identity -/
theorem no_newline_marker_roundtrip (ls : List Bytes) (hc : ∀ l ∈ ls, carriable l = true) :
    handleNl (ls.flatMap writeLine) = .ok ls :=
  handleNlAux_written ls hc none

theorem parseLine_hlineBytes (l : HLine) : parseLine (hlineBytes l) = .ok l := by
  cases l <;> simp [hlineBytes, parseLine, spB, plusB, minusB]

def origCount (hl : List HLine) : Nat := (hl.map cOrig).sum
def modCount (hl : List HLine) : Nat := (hl.map cMod).sum

theorem cOrig_or_cMod (l : HLine) : 1 ≤ cOrig l + cMod l := by
  cases l <;> simp [cOrig, cMod]

/-- reading back exactly the printed lines of a hunk whose ranges are its line counts -/
theorem readLines_printed (hl : List HLine) (oR mR oS mS : Nat) (rest : List Bytes)
    (ho : oR = oS + origCount hl) (hm : mR = mS + modCount hl) :
    readLines oR mR oS mS (hl.map hlineBytes ++ rest) = .ok (hl, rest) := by
  induction hl generalizing oS mS with
  | nil => cases rest <;> simp [readLines, ho, hm, origCount, modCount]
  | cons l hl ih =>
    have h1 := cOrig_or_cMod l
    simp only [origCount, modCount, List.map_cons, List.sum_cons] at ho hm
    simp only [List.map_cons, List.cons_append, readLines]
    rw [if_pos (by omega), parseLine_hlineBytes]
    simp only [ih (oS + cOrig l) (mS + cMod l) (by rw [ho, origCount, Nat.add_assoc])
      (by rw [hm, modCount, Nat.add_assoc])]

end BreezyVerif.C39
