import BreezyVerif.Model.C51
import BreezyVerif.Props.C33
/-!
C51 — ancestry, one step of the plan loop (where its new parents come from: `Src`), parsing the plan file.
-/
namespace BreezyVerif.C51
open BreezyVerif.C33

/-- `anc` computes ancestry: `a ∈ anc g k` iff `a` is reachable from `k` by parent steps -/
theorem anc_spec (g : PMap) (k a : Key) : a ∈ anc g k ↔ Reach g [] [k] a := by
  unfold anc
  obtain ⟨s, hs, _⟩ := bfs_inv g [k] []
  simp only [hs]
  exact (bfs_spec g [k] [] s hs).2.2.1 a

theorem anc_self (g : PMap) (k : Key) : k ∈ anc g k :=
  (anc_spec g k k).mpr (Reach.base (by simp))

theorem anc_parent {g : PMap} {k j p : Key} {ps : List Key} (hj : j ∈ anc g k)
    (hps : parentsOf g j = some ps) (hp : p ∈ ps) : p ∈ anc g k :=
  (anc_spec g k p).mpr (Reach.step ((anc_spec g k j).mp hj) (by simp) hps hp)

theorem mem_todoSet {g : PMap} {tip onto k : Key} : k ∈ todoSet g tip onto ↔ k ∈ anc g tip ∧ k ∉ anc g onto := by
  simp only [todoSet, List.mem_filter, decide_eq_true_eq]

/-- the three dictionaries are first-match lookups -/
theorem lookupEntry_eq (rm : Plan) (k : Key) : lookupEntry rm k = rm.find? (·.old == k) := by
  induction rm with
  | nil => rfl
  | cons e rest ih =>
    rw [lookupEntry, List.find?_cons]
    by_cases h : e.old = k
    · rw [if_pos h, beq_iff_eq.mpr h]
    · rw [if_neg h, beq_eq_false_iff_ne.mpr h, ih]

theorem lookupNew_eq (plan : Plan) (k : Key) : lookupNew plan k = (plan.find? (·.old == k)).map (·.new) := by
  induction plan with
  | nil => rfl
  | cons e rest ih =>
    rw [lookupNew, List.find?_cons]
    by_cases h : e.old = k
    · rw [if_pos h, beq_iff_eq.mpr h]; rfl
    · rw [if_neg h, beq_eq_false_iff_ne.mpr h, ih]

theorem lookupSkipped_eq (sk : Skipped) (k : Key) : lookupSkipped sk k = (sk.find? (·.1 == k)).map (·.2) := by
  induction sk with
  | nil => rfl
  | cons kv rest ih =>
    rw [lookupSkipped, List.find?_cons]
    by_cases h : kv.1 = k
    · rw [if_pos h, beq_iff_eq.mpr h]; rfl
    · rw [if_neg h, beq_eq_false_iff_ne.mpr h, ih]

theorem lookupEntry_some {rm : Plan} {k : Key} {e : Entry} (h : lookupEntry rm k = some e) : e ∈ rm ∧ e.old = k := by
  rw [lookupEntry_eq] at h
  have hk : (e.old == k) = true := List.find?_some (p := fun x : Entry => x.old == k) h
  exact ⟨List.mem_of_find?_eq_some h, beq_iff_eq.mp hk⟩

theorem lookupEntry_none {rm : Plan} {k : Key} (h : lookupEntry rm k = none) : k ∉ rm.map (·.old) := by
  rw [lookupEntry_eq, List.find?_eq_none] at h
  intro hm
  obtain ⟨e, he, rfl⟩ := List.mem_map.mp hm
  exact h e he (beq_self_eq_true _)

theorem standIn_some {plan : Plan} {sk : Skipped} {k n : Key} (h : standIn plan sk k = some n) :
    (∃ e ∈ plan, e.new = n) ∨ (∃ kv ∈ sk, kv.2 = n) := by
  unfold standIn at h
  split at h
  · rename_i m hm
    rw [lookupNew_eq] at hm
    obtain ⟨e, he, hn⟩ := Option.map_eq_some_iff.mp hm
    exact Or.inl ⟨e, List.mem_of_find?_eq_some he, hn.trans (Option.some.inj h)⟩
  · rw [lookupSkipped_eq] at h
    obtain ⟨kv, hkv, hn⟩ := Option.map_eq_some_iff.mp h
    exact Or.inr ⟨kv, List.mem_of_find?_eq_some hkv, hn⟩

theorem standIn_none {plan : Plan} {sk : Skipped} {k : Key} (h : standIn plan sk k = none) :
    k ∉ plan.map (·.old) ∧ k ∉ sk.map (·.1) := by
  unfold standIn at h
  split at h
  · cases h
  · rename_i hn
    rw [lookupNew_eq, Option.map_eq_none_iff, List.find?_eq_none] at hn
    rw [lookupSkipped_eq, Option.map_eq_none_iff, List.find?_eq_none] at h
    constructor
    · intro hm
      obtain ⟨e, he, rfl⟩ := List.mem_map.mp hm
      exact hn e he (beq_self_eq_true _)
    · intro hm
      obtain ⟨kv, hkv, rfl⟩ := List.mem_map.mp hm
      exact h kv hkv (beq_self_eq_true _)

/-- what stands in for a rewritten or skipped parent: the new base, the new id of an entry, or
the alias of a skipped merge; the first new parent is always of this kind -/
def Src1 (onto : Key) (plan : Plan) (sk : Skipped) (x : Key) : Prop :=
  x = onto ∨ (∃ e ∈ plan, e.new = x) ∨ (∃ kv ∈ sk, kv.2 = x)

/-- where a new parent can come from: a stand-in, or an old parent that is neither merged into
`onto` nor rewritten nor skipped -/
def Src (g : PMap) (onto : Key) (plan : Plan) (sk : Skipped) (olds : List Key) (x : Key) : Prop :=
  Src1 onto plan sk x ∨
    (x ∈ olds ∧ mergedInto g x onto = false ∧ x ∉ plan.map (·.old) ∧ x ∉ sk.map (·.1))

theorem src1_of_standIn {onto : Key} {plan : Plan} {sk : Skipped} {k n : Key}
    (h : standIn plan sk k = some n) : Src1 onto plan sk n :=
  Or.inr (standIn_some h)

theorem src_of_kept {g : PMap} {onto : Key} {plan : Plan} {sk : Skipped} {olds : List Key} {p : Key}
    (hp : p ∈ olds) (hm : ¬ mergedInto g p onto = true) (hn : standIn plan sk p = none) :
    Src g onto plan sk olds p :=
  Or.inr ⟨hp, Bool.eq_false_iff.mpr hm, standIn_none hn⟩

theorem src1_resolved {onto : Key} {plan : Plan} {sk : Skipped}
    (hsk : ∀ kv ∈ sk, kv.2 = onto ∨ ∃ e ∈ plan, e.new = kv.2) {x : Key} (hx : Src1 onto plan sk x) :
    x = onto ∨ ∃ e ∈ plan, e.new = x := by
  rcases hx with h | h | ⟨kv, hkv, h⟩
  · exact Or.inl h
  · exact Or.inr h
  · exact h ▸ hsk kv hkv

theorem mem_concat_src {g : PMap} {onto : Key} {plan : Plan} {sk : Skipped} {olds l : List Key} {n : Key}
    (h2 : ∀ x ∈ l, Src g onto plan sk olds x) (hn : Src g onto plan sk olds n) :
    ∀ x ∈ l ++ [n], Src g onto plan sk olds x := by
  intro x hx
  rcases List.mem_append.mp hx with hx | hx
  · exact h2 x hx
  · exact List.mem_singleton.mp hx ▸ hn

theorem leftParents_src (g : PMap) (onto : Key) (plan : Plan) (sk : Skipped) (p0 : Key) (olds : List Key)
    (h0 : p0 ∈ olds) :
    Src1 onto plan sk (leftParents g onto plan sk p0).1 ∧
    ∀ x ∈ (leftParents g onto plan sk p0).2, Src g onto plan sk olds x := by
  unfold leftParents
  by_cases hm : mergedInto g p0 onto = true
  · rw [if_pos hm]
    exact ⟨Or.inl rfl, fun x hx => by cases hx⟩
  · rw [if_neg hm]
    cases hn : standIn plan sk p0 with
    | some n => exact ⟨src1_of_standIn hn, fun x hx => by cases hx⟩
    | none => exact ⟨Or.inl rfl, fun x hx => List.mem_singleton.mp hx ▸ src_of_kept h0 hm hn⟩

theorem addParent_src (g : PMap) (onto : Key) (plan : Plan) (sk : Skipped) (addl olds : List Key)
    (ps : Key × List Key) (op : Key) (hop : op ∈ olds)
    (h1 : Src1 onto plan sk ps.1) (h2 : ∀ x ∈ ps.2, Src g onto plan sk olds x) :
    Src1 onto plan sk (addParent g onto plan sk addl ps op).1 ∧
    ∀ x ∈ (addParent g onto plan sk addl ps op).2, Src g onto plan sk olds x := by
  unfold addParent
  by_cases ha : op ∈ addl
  · rw [if_pos ha]
    by_cases hm : mergedInto g op onto = true
    · rw [if_pos hm]; exact ⟨h1, h2⟩
    · rw [if_neg hm]
      cases hn : standIn plan sk op with
      | none => exact ⟨h1, mem_concat_src h2 (src_of_kept hop hm hn)⟩
      | some n =>
        show Src1 onto plan sk (if n ∈ ps.1 :: ps.2 then ps else if ps.1 = onto then (n, ps.2) else (ps.1, ps.2 ++ [n])).1 ∧
          ∀ x ∈ (if n ∈ ps.1 :: ps.2 then ps else if ps.1 = onto then (n, ps.2) else (ps.1, ps.2 ++ [n])).2,
            Src g onto plan sk olds x
        by_cases hin : n ∈ ps.1 :: ps.2
        · rw [if_pos hin]; exact ⟨h1, h2⟩
        · rw [if_neg hin]
          by_cases ho : ps.1 = onto
          · rw [if_pos ho]; exact ⟨src1_of_standIn hn, h2⟩
          · rw [if_neg ho]; exact ⟨h1, mem_concat_src h2 (Or.inl (src1_of_standIn hn))⟩
  · rw [if_neg ha]; exact ⟨h1, h2⟩

theorem foldl_addParent_src (g : PMap) (onto : Key) (plan : Plan) (sk : Skipped) (addl olds : List Key) :
    ∀ (rest : List Key) (ps : Key × List Key), (∀ op ∈ rest, op ∈ olds) →
      Src1 onto plan sk ps.1 → (∀ x ∈ ps.2, Src g onto plan sk olds x) →
      Src1 onto plan sk (rest.foldl (addParent g onto plan sk addl) ps).1 ∧
      ∀ x ∈ (rest.foldl (addParent g onto plan sk addl) ps).2, Src g onto plan sk olds x := by
  intro rest
  induction rest with
  | nil => intro ps _ h1 h2; exact ⟨h1, h2⟩
  | cons op rest ih =>
    intro ps hin h1 h2
    simp only [List.foldl_cons]
    have := addParent_src g onto plan sk addl olds ps op (hin op (by simp)) h1 h2
    exact ih _ (fun o ho => hin o (List.mem_cons_of_mem _ ho)) this.1 this.2

theorem newParents_src (g : PMap) (onto : Key) (plan : Plan) (sk : Skipped) (p0 : Key) (rest : List Key) :
    Src1 onto plan sk (newParents g onto plan sk p0 rest).1 ∧
    ∀ x ∈ (newParents g onto plan sk p0 rest).2, Src g onto plan sk (p0 :: rest) x := by
  unfold newParents
  have := leftParents_src g onto plan sk p0 (p0 :: rest) (by simp)
  exact foldl_addParent_src g onto plan sk _ (p0 :: rest) rest _
    (fun o ho => List.mem_cons_of_mem _ ho) this.1 this.2

theorem planStep_cases {g : PMap} {gen : Key → Key} {onto : Key} {skip : Bool} {st st' : Plan × Skipped}
    {old : Key} (h : planStep g gen onto skip st old = .ok st') :
    ∃ p0 rest, parentsOf g old = some (p0 :: rest) ∧
      ((st' = (st.1, st.2 ++ [(old, (newParents g onto st.1 st.2 p0 rest).1)]) ∧
          (skip = true ∧ rest ≠ [] ∧ (newParents g onto st.1 st.2 p0 rest).2 = [])) ∨
       (st' = (st.1 ++ [⟨old, gen old, (newParents g onto st.1 st.2 p0 rest).1 ::
          (newParents g onto st.1 st.2 p0 rest).2⟩], st.2) ∧ gen old ≠ old ∧
          ¬(skip = true ∧ rest ≠ [] ∧ (newParents g onto st.1 st.2 p0 rest).2 = []))) := by
  unfold planStep at h
  split at h
  · cases h
  · cases h
  · rename_i p0 rest hp
    refine ⟨p0, rest, hp, ?_⟩
    have hcond : (!rest.isEmpty && (newParents g onto st.1 st.2 p0 rest).2.isEmpty && skip) = true ↔
        (skip = true ∧ rest ≠ [] ∧ (newParents g onto st.1 st.2 p0 rest).2 = []) := by
      simp only [Bool.and_eq_true, Bool.not_eq_true', List.isEmpty_eq_false_iff, List.isEmpty_iff]
      exact ⟨fun h => ⟨h.2, h.1⟩, fun h => ⟨h.2, h.1⟩⟩
    simp only at h
    split at h
    · rename_i hc
      cases h
      exact Or.inl ⟨rfl, hcond.mp hc⟩
    · rename_i hc
      split at h
      · cases h
      · rename_i hg
        cases h
        exact Or.inr ⟨rfl, hg, fun hn => hc (hcond.mpr hn)⟩

theorem planLoop_cons {g : PMap} {gen : Key → Key} {onto : Key} {skip : Bool} {st st' : Plan × Skipped}
    {old : Key} {todo : List Key} :
    planLoop g gen onto skip st (old :: todo) = .ok st' ↔
      ∃ st1, planStep g gen onto skip st old = .ok st1 ∧ planLoop g gen onto skip st1 todo = .ok st' := by
  rw [planLoop]
  cases planStep g gen onto skip st old with
  | error e => exact ⟨fun h => (nomatch h), fun ⟨_, h, _⟩ => (nomatch h)⟩
  | ok st1 => exact ⟨fun h => ⟨st1, rfl, h⟩, fun ⟨_, h1, h2⟩ => Except.ok.inj h1 ▸ h2⟩

theorem split_fields (a : Bytes) (ps : List Bytes) (ha : SP ∉ a) (hps : ∀ p ∈ ps, SP ∉ p) :
    split SP (a ++ ps.flatMap (fun p => SP :: p)) = a :: ps := by
  induction ps generalizing a with
  | nil => simpa using split_no_sep ha
  | cons p ps ih =>
    simp only [List.flatMap_cons, List.cons_append]
    rw [split_append_sep ha]
    rw [ih p (hps p (by simp)) (fun q hq => hps q (List.mem_cons_of_mem _ hq))]

theorem split_entryLine (e : WEntry) (h1 : SP ∉ e.old) (h2 : SP ∉ e.new) (h3 : ∀ p ∈ e.parents, SP ∉ p) :
    split SP (entryLine e) = e.old :: e.new :: e.parents := by
  unfold entryLine
  simp only [List.append_assoc, List.cons_append]
  rw [split_append_sep h1, split_fields e.new e.parents h2 h3]

theorem split1_append_sep {sep : UInt8} {a : Bytes} (h : sep ∉ a) (rest : Bytes) :
    split1 sep (a ++ sep :: rest) = (a, some rest) := by
  induction a with
  | nil => simp [split1]
  | cons c cs ih =>
    have hc : c ≠ sep := fun e => h (by simp [e])
    have hcs : sep ∉ cs := fun e => h (by simp [e])
    simp [split1, hc, ih hcs]

theorem entryLine_ne_nil (e : WEntry) : (entryLine e).isEmpty = false := by
  unfold entryLine
  cases e.old <;> simp

theorem nl_not_mem_entryLine (e : WEntry) (h1 : NL ∉ e.old) (h2 : NL ∉ e.new)
    (h3 : ∀ p ∈ e.parents, NL ∉ p) : NL ∉ entryLine e := by
  unfold entryLine
  intro h
  simp only [List.mem_append, List.mem_cons, List.mem_flatMap] at h
  rcases h with (h | h | h) | ⟨p, hp, h | h⟩
  · exact h1 h
  · simp [NL, SP] at h
  · exact h2 h
  · simp [NL, SP] at h
  · exact h3 p hp h

theorem dictSet_fresh (d : List WEntry) (e : WEntry) (h : e.old ∉ d.map (·.old)) :
    dictSet d e = d ++ [e] := by
  unfold dictSet
  have : d.any (fun x => x.old == e.old) = false := by
    rw [List.any_eq_false]
    intro x hx hxe
    exact h (List.mem_map.mpr ⟨x, hx, by simpa using hxe⟩)
  simp [this]

theorem split_body (es : List WEntry)
    (h : ∀ e ∈ es, NL ∉ entryLine e) :
    split NL (es.flatMap (fun e => entryLine e ++ [NL])) = es.map entryLine ++ [[]] := by
  have := Lib.splitOn_lines (sep := NL) (ls := es.map entryLine) (List.forall_mem_map.2 h) []
  rwa [List.append_nil, List.flatMap_map, ← split_eq] at this

theorem parseLines_entries (es : List WEntry) (acc : List WEntry)
    (hsp : ∀ e ∈ es, SP ∉ e.old ∧ SP ∉ e.new ∧ ∀ p ∈ e.parents, SP ∉ p)
    (hnd : (acc.map (·.old) ++ es.map (·.old)).Nodup) :
    parseLines (es.map entryLine ++ [[]]) acc = .ok (acc ++ es) := by
  induction es generalizing acc with
  | nil => simp [parseLines]
  | cons e es ih =>
    obtain ⟨h1, h2, h3⟩ := hsp e (by simp)
    simp only [List.map_cons, List.cons_append, parseLines, entryLine_ne_nil, Bool.false_eq_true, if_false]
    rw [split_entryLine e h1 h2 h3]
    simp only
    have hfresh : e.old ∉ acc.map (·.old) := by
      intro hm
      have := (List.nodup_append.mp hnd).2.2 e.old hm e.old (by simp)
      exact this rfl
    rw [dictSet_fresh acc ⟨e.old, e.new, e.parents⟩ hfresh]
    rw [ih (acc ++ [e]) (fun e' he' => hsp e' (List.mem_cons_of_mem _ he'))]
    · simp
    · simpa [List.map_append, List.append_assoc] using hnd

end BreezyVerif.C51
