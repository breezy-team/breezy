import BreezyVerif.Lemmas.C10Round
/-!
C10 — tools for showing that a tree given by its lookup function is well
formed: the fuel of `pathOf` is always enough (pigeonhole on the chain of
ancestors), applying records keeps ids unique, `wf` from a specification in
terms of `get`.
-/
namespace BreezyVerif.C10

theorem pathFuel_det {t : Tree} {n m : Nat} {i : Id} {p q : Path} (hp : pathFuel t n i = some p)
    (hq : pathFuel t m i = some q) : p = q := by
  have h1 := pathFuel_le hp (max n m) (by omega)
  have h2 := pathFuel_le hq (max n m) (by omega)
  rw [h1] at h2; cases h2; rfl

/-- the ids visited by `pathFuel` -/
def chain (t : Tree) : Nat → Id → List Id
  | 0, _ => []
  | n + 1, i =>
    match get t i with
    | none => []
    | some e =>
      match e.parent with
      | none => [i]
      | some p => i :: chain t n p

theorem chain_spec {t : Tree} : ∀ {n : Nat} {i : Id} {path : Path}, pathFuel t n i = some path →
    (chain t n i).length = path.length + 1 ∧ (∀ j ∈ chain t n i, j ∈ ids t) ∧
    (∀ j ∈ chain t n i, ∃ m q, pathFuel t m j = some q ∧ q.length ≤ path.length) := by
  intro n
  induction n with
  | zero => intro i path h; simp [pathFuel] at h
  | succ n ih =>
    intro i path h
    obtain ⟨e, ge, c⟩ := pathFuel_cases h
    rcases c with ⟨hnone, hnil⟩ | ⟨q, pp, hq, fq, hpath⟩
    · subst hnil
      have hc : chain t (n + 1) i = [i] := by simp [chain, ge, hnone]
      rw [hc]
      refine ⟨rfl, ?_, ?_⟩
      · intro j hj; simp at hj; subst hj; exact mem_ids_of_get ge
      · intro j hj; simp at hj; subst hj; exact ⟨n + 1, [], h, by simp⟩
    · subst hpath
      have hc : chain t (n + 1) i = i :: chain t n q := by simp [chain, ge, hq]
      rw [hc]
      obtain ⟨i1, i2, i3⟩ := ih fq
      refine ⟨by simp [i1], ?_, ?_⟩
      · intro j hj
        rcases List.mem_cons.mp hj with h' | h'
        · subst h'; exact mem_ids_of_get ge
        · exact i2 j h'
      · intro j hj
        rcases List.mem_cons.mp hj with h' | h'
        · subst h'; exact ⟨n + 1, _, h, by simp⟩
        · obtain ⟨m, q', hm, hl⟩ := i3 j h'
          exact ⟨m, q', hm, by simp; omega⟩

theorem chain_nodup {t : Tree} : ∀ {n : Nat} {i : Id} {path : Path}, pathFuel t n i = some path →
    (chain t n i).Nodup := by
  intro n
  induction n with
  | zero => intro i path h; simp [pathFuel] at h
  | succ n ih =>
    intro i path h
    obtain ⟨e, ge, c⟩ := pathFuel_cases h
    rcases c with ⟨hnone, hnil⟩ | ⟨q, pp, hq, fq, hpath⟩
    · have hc : chain t (n + 1) i = [i] := by simp [chain, ge, hnone]
      rw [hc]; simp
    · have hc : chain t (n + 1) i = i :: chain t n q := by simp [chain, ge, hq]
      rw [hc, List.nodup_cons]
      refine ⟨?_, ih fq⟩
      intro hmem
      obtain ⟨m, q', hm, hl⟩ := (chain_spec fq).2.2 i hmem
      have := pathFuel_det hm h
      rw [this, hpath] at hl
      simp at hl
      omega

theorem pathFuel_short {t : Tree} {n : Nat} {i : Id} {path : Path} (h : pathFuel t n i = some path) :
    path.length + 1 ≤ t.length := by
  obtain ⟨h1, h2, _⟩ := chain_spec h
  have := List.Nodup.length_le_of_subset (chain_nodup h) (fun j hj => h2 j hj)
  rw [h1] at this
  simpa [ids] using this

theorem pathFuel_exact {t : Tree} : ∀ {n : Nat} {i : Id} {path : Path}, pathFuel t n i = some path →
    pathFuel t (path.length + 1) i = some path := by
  intro n
  induction n with
  | zero => intro i path h; simp [pathFuel] at h
  | succ n ih =>
    intro i path h
    obtain ⟨e, ge, c⟩ := pathFuel_cases h
    rcases c with ⟨hnone, rfl⟩ | ⟨q, pp, hq, fq, rfl⟩
    · exact pathFuel_root ge hnone
    · rw [List.length_append, List.length_singleton]
      exact pathFuel_child ge hq (ih fq)

/-- **whatever fuel finds a path, the fuel of `pathOf` finds it** -/
theorem pathOf_of_pathFuel {t : Tree} {n : Nat} {i : Id} {path : Path} (h : pathFuel t n i = some path) :
    pathOf t i = some path := by
  have h1 := pathFuel_exact h
  have h2 := pathFuel_short h
  exact pathFuel_le h1 _ (by omega)

theorem ids_erase (t : Tree) (i : Id) : ids (erase t i) = (ids t).filter (fun j => j != i) := by
  induction t with
  | nil => rfl
  | cons x rest ih =>
    obtain ⟨k, e⟩ := x
    by_cases hk : k = i
    · subst hk
      simp [erase, ids] at ih ⊢
      exact ih
    · simp only [erase, hk, if_false, ids, List.map_cons, List.filter_cons]
      have : (k != i) = true := by simpa using hk
      simp only [this, if_true]
      congr 1

theorem nodup_erase {t : Tree} (h : (ids t).Nodup) (i : Id) : (ids (erase t i)).Nodup := by
  rw [ids_erase]
  exact List.Pairwise.filter _ h

theorem nodup_set {t : Tree} (h : (ids t).Nodup) (i : Id) (e : Entry) : (ids (set t i e)).Nodup := by
  unfold set
  simp only [ids, List.map_cons]
  rw [List.nodup_cons]
  refine ⟨?_, nodup_erase h i⟩
  have := ids_erase t i
  unfold ids at this
  rw [this]
  simp

theorem applyList_nodup {src tgt : Tree} : ∀ (cs : List Change) (t t' : Tree), (ids t).Nodup →
    applyList src tgt t cs = some t' → (ids t').Nodup := by
  intro cs
  induction cs with
  | nil => intro t t' h ha; simp [applyList] at ha; subst ha; exact h
  | cons c rest ih =>
    intro t t' h ha
    unfold applyList at ha
    cases h1 : applyOne src tgt t c with
    | none => simp [h1] at ha
    | some t1 =>
      simp only [h1] at ha
      refine ih t1 t' ?_ ha
      unfold applyOne at h1
      split at h1
      · cases h1; exact nodup_erase h _
      · split at h1
        · split at h1
          · cases h1; exact nodup_set h _ _
          · cases h1
        · split at h1
          · cases h1; exact nodup_set h _ _
          · cases h1

theorem wf_of_spec (t : Tree) (r : Id)
    (hnd : (ids t).Nodup)
    (hroot : ∃ e, get t r = some e ∧ e.parent = none)
    (honly : ∀ i e, get t i = some e → e.parent = none → i = r ∧ e.node.kind = .dir)
    (hpar : ∀ i e p, get t i = some e → e.parent = some p → ∃ pe, get t p = some pe ∧ pe.node.kind = .dir)
    (hsib : ∀ i j ei ej, get t i = some ei → get t j = some ej → ei.parent = ej.parent → ei.name = ej.name → i = j)
    (hreach : ∀ i e, get t i = some e → ∃ n path, pathFuel t n i = some path) :
    wf t = true := by
  unfold wf
  simp only [Bool.and_eq_true, beq_iff_eq, decide_eq_true_eq]
  refine ⟨⟨⟨⟨?_, hnd⟩, ?_⟩, ?_⟩, ?_⟩
  · -- exactly one root
    obtain ⟨er, ger, hper⟩ := hroot
    have hsub : (rootsOf t).Nodup := by
      unfold rootsOf
      exact List.Nodup.sublist (List.Sublist.map _ List.filter_sublist) hnd
    have hall : ∀ j ∈ rootsOf t, j = r := by
      intro j hj
      obtain ⟨e, he, hp⟩ := mem_rootsOf.mp hj
      exact (honly j e (get_of_mem hnd he) hp).1
    have hmem : r ∈ rootsOf t := mem_rootsOf.mpr ⟨er, get_mem ger, hper⟩
    cases hl : rootsOf t with
    | nil => rw [hl] at hmem; cases hmem
    | cons a rest =>
      cases rest with
      | nil => rfl
      | cons b rest' =>
        exfalso
        rw [hl] at hsub hall
        have ha := hall a (by simp)
        have hb := hall b (by simp)
        rw [List.nodup_cons] at hsub
        apply hsub.1
        rw [ha, hb]; simp
  · rw [List.all_eq_true]
    intro x hx
    obtain ⟨i, e⟩ := x
    have ge := get_of_mem hnd hx
    cases hp : e.parent with
    | none => simp only; simpa using (honly i e ge hp).2
    | some p =>
      obtain ⟨pe, gpe, hpd⟩ := hpar i e p ge hp
      simp only [gpe]; simpa using hpd
  · rw [List.all_eq_true]
    intro x hx
    rw [List.all_eq_true]
    intro y hy
    obtain ⟨i, ei⟩ := x
    obtain ⟨j, ej⟩ := y
    simp only [Bool.or_eq_true, beq_iff_eq, Bool.not_eq_true', Bool.and_eq_false_iff]
    by_cases hij : i = j
    · exact Or.inl hij
    · right
      by_cases hp : ei.parent = ej.parent
      · by_cases hn : ei.name = ej.name
        · exact absurd (hsib i j ei ej (get_of_mem hnd hx) (get_of_mem hnd hy) hp hn) hij
        · right; simpa using hn
      · left; simpa using hp
  · rw [List.all_eq_true]
    intro x hx
    obtain ⟨i, e⟩ := x
    obtain ⟨n, path, hpf⟩ := hreach i e (get_of_mem hnd hx)
    simp [pathOf_of_pathFuel hpf]

end BreezyVerif.C10
