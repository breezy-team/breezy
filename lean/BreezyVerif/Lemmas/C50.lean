import BreezyVerif.Model.C50
/-! C50 — the tokenizer one character at a time: the case analyses of `process`, a quoted argument
read back, and the two invariants behind `split_sublist` and `split_keeps_plain`. -/
namespace BreezyVerif.C50

@[simp] theorem isWs_dq : isWs '"' = false := by decide
@[simp] theorem isWs_sq : isWs '\'' = false := by decide
@[simp] theorem isWs_bs : isWs '\\' = false := by decide
@[simp] theorem isWs_sp : isWs ' ' = true := by decide
@[simp] theorem allowed_dq (sq : Bool) : allowed sq '"' = true := by simp [allowed]
@[simp] theorem allowed_bs (sq : Bool) : allowed sq '\\' = false := by
  cases sq <;> decide

theorem allowed_not_ws {sq : Bool} {c : Char} (h : allowed sq c = true) : isWs c = false := by
  unfold allowed at h
  simp only [Bool.or_eq_true, Bool.and_eq_true, decide_eq_true_eq] at h
  rcases h with h | ⟨_, h⟩ <;> subst h <;> decide

theorem allowed_ne_bs {sq : Bool} {c : Char} (h : allowed sq c = true) : c ≠ '\\' := by
  intro e; subst e; simp at h

/-- Case analysis of `process` in the exit states, one case per branch of the Python code: to show
`P` of the result it suffices to show it for each of the ten outcomes. -/
theorem procExit_cases (sq : Bool) {P : Exit → Ctx → Char → Option State × Ctx → Prop}
    (ws_end : ∀ x c, isWs c = true → x.touched = true → P (.plain .ws) x c (none, x))
    (ws_skip : ∀ x c, isWs c = true → x.touched = false → P (.plain .ws) x c (some (.at (.plain .ws)), x))
    (word_end : ∀ x c, isWs c = true → P (.plain .word) x c (none, x))
    (ws_quote : ∀ x c, allowed sq c = true →
      P (.plain .ws) x c (some (.at (.quotes c .ws)), { x with quoted := true }))
    (word_quote : ∀ x c, allowed sq c = true → P (.plain .word) x c (some (.at (.quotes c .word)), x))
    (plain_bs : ∀ o x, P (.plain o) x '\\' (some (.bs (.plain o) 1), x))
    (plain_char : ∀ o x c, plain sq c = true → P (.plain o) x c (some (.at (.plain .word)), x.app [c]))
    (quotes_bs : ∀ q o x, P (.quotes q o) x '\\' (some (.bs (.quotes q o) 1), x))
    (quotes_close : ∀ q o x, P (.quotes q o) x q (some (.at (.plain o)), x.app []))
    (quotes_char : ∀ q o x c, c ≠ '\\' → c ≠ q → P (.quotes q o) x c (some (.at (.quotes q o)), x.app [c]))
    (e : Exit) (x : Ctx) (c : Char) : P e x c (procExit sq e x c) := by
  rcases e with o | ⟨q, o⟩
  · by_cases hw : isWs c = true
    · cases o
      · cases ht : x.touched
        · simpa only [procExit, hw, ht, if_true, if_false, Bool.false_eq_true] using ws_skip x c hw ht
        · simpa only [procExit, hw, ht, if_true] using ws_end x c hw ht
      · simpa only [procExit, hw, if_true] using word_end x c hw
    · by_cases ha : allowed sq c = true
      · cases o
        · simpa only [procExit, hw, ha, if_true, if_false, Bool.false_eq_true] using ws_quote x c ha
        · simpa only [procExit, hw, ha, if_true, if_false, Bool.false_eq_true] using word_quote x c ha
      · by_cases hb : c = '\\'
        · subst hb
          cases o <;> simpa only [procExit, hw, ha, if_true, if_false, Bool.false_eq_true] using plain_bs _ x
        · have hp : plain sq c = true := by simp [plain, hw, ha, hb]
          cases o <;> simpa only [procExit, hw, ha, hb, if_false, Bool.false_eq_true] using plain_char _ x c hp
  · by_cases hb : c = '\\'
    · subst hb
      simpa only [procExit, if_true] using quotes_bs q o x
    · by_cases hq : c = q
      · subst hq
        simpa only [procExit, hb, if_true, if_false] using quotes_close c o x
      · simpa only [procExit, hb, hq, if_false] using quotes_char q o x c hb hq
@[simp] theorem app_app (x : Ctx) (p q : Str) : (x.app p).app q = x.app (p ++ q) := by
  simp [Ctx.app]

@[simp] theorem app_chars (x : Ctx) (p : Str) : (x.app p).chars = x.chars ++ p := rfl
@[simp] theorem app_quoted (x : Ctx) (p : Str) : (x.app p).quoted = x.quoted := rfl
@[simp] theorem app_touched (x : Ctx) (p : Str) : (x.app p).touched = true := rfl

theorem rep_succ (n : Nat) : rep (n + 1) = rep n ++ ['\\'] := by
  simp [rep, List.replicate_succ']

theorem rep_succ' (n : Nat) : rep (n + 1) = '\\' :: rep n := by
  simp [rep, List.replicate_succ]

@[simp] theorem rep_zero : rep 0 = [] := rfl

/-- The exit state `e` with `n` backslashes counted and not yet appended: `_Backslash(e)` with `count = n`,
and for `n = 0` the state `e` itself.  The read-back lemmas are stated over it, so that "from `e`" and "from
`_Backslash(e)`" are one statement; `pend (stN e n) = rep n`. -/
def stN (e : Exit) : Nat → State
  | 0 => .at e
  | n + 1 => .bs e (n + 1)

/-- every state counts a further backslash -/
theorem run_stN_bs (sq : Bool) (e : Exit) (n : Nat) (x : Ctx) (cs : Str) :
    run sq (stN e n) x ('\\' :: cs) = run sq (stN e (n + 1)) x cs := by
  cases n with
  | zero => rcases e with (_ | _) | ⟨q, o⟩ <;> simp [stN, run, procExit]
  | succ n => simp [stN, run]

theorem add_two_half (n : Nat) : (n + 1 + 1) % 2 = n % 2 ∧ (n + 1 + 1) / 2 = n / 2 + 1 :=
  ⟨Nat.add_mod_right n 2, Nat.add_div_right n Nat.two_pos⟩

theorem succ_half_of_even {n : Nat} (h : n % 2 = 0) : (n + 1) % 2 = 1 ∧ (n + 1) / 2 = n / 2 := by
  omega

/-- A character other than a backslash inside `"…"` after `n` pending backslashes: `"` after an even run
closes the section (the run halved); any other allowed quote character, or `"` after an odd run, is literal
after the halved run; any other character is literal after the whole run. -/
theorem run_stN_Q (sq : Bool) (o : Outer) (n : Nat) (x : Ctx) (c : Char) (cs : Str) (hb : c ≠ '\\') :
    run sq (stN (.quotes '"' o) n) x (c :: cs) =
      if c = '"' ∧ n % 2 = 0 then run sq (.at (.plain o)) (x.app (rep (n / 2))) cs
      else run sq (stN (.quotes '"' o) 0) (x.app (rep (if allowed sq c then n / 2 else n) ++ [c])) cs := by
  cases n with
  | zero => by_cases hq : c = '"' <;> simp [stN, run, procExit, hb, hq]
  | succ n =>
    by_cases ha : allowed sq c = true
    · by_cases hodd : (n + 1) % 2 = 1
      · simp [stN, run, hb, ha, hodd]
      · have he := (Nat.mod_two_eq_zero_or_one (n + 1)).resolve_right hodd
        by_cases hq : c = '"' <;> simp [stN, run, procExit, hb, ha, hq, he]
    · have hq : c ≠ '"' := by intro e; subst e; simp at ha
      simp [stN, run, procExit, hb, ha, hq]

theorem esc_bs_dbl (sq : Bool) (cs : Str) (h : dbl sq cs = true) :
    esc sq ('\\' :: cs) = '\\' :: '\\' :: esc sq cs := by simp [esc, h]

theorem esc_bs_nodbl (sq : Bool) (cs : Str) (h : dbl sq cs = false) :
    esc sq ('\\' :: cs) = '\\' :: esc sq cs := by simp [esc, h]

theorem esc_dq (sq : Bool) (cs : Str) : esc sq ('"' :: cs) = '\\' :: '"' :: esc sq cs := by
  simp [esc]

theorem esc_plain (sq : Bool) (c : Char) (cs : Str) (h1 : c ≠ '\\') (h2 : c ≠ '"') :
    esc sq (c :: cs) = c :: esc sq cs := by simp [esc, h1, h2]

/-- Reading `esc sq a ++ "\""` inside `"…"` with `n` backslashes pending.  When the quote-or-end rule applies
to the front of `a` (`dbl`), the pending run belongs to a doubled run, so `n` is even and is halved again;
otherwise the run is literal. -/
theorem esc_read (sq : Bool) (o : Outer) (rest : Str) (a : Str) :
    ∀ x n, (dbl sq a = true → n % 2 = 0) →
      run sq (stN (.quotes '"' o) n) x (esc sq a ++ '"' :: rest)
        = run sq (.at (.plain o)) (x.app (rep (if dbl sq a then n / 2 else n) ++ a)) rest := by
  induction a with
  | nil =>
    intro x n hn
    simp [esc, run_stN_Q, hn rfl, dbl]
  | cons c cs ih =>
    intro x n hn
    by_cases hb : c = '\\'
    · subst hb
      have hd : dbl sq ('\\' :: cs) = dbl sq cs := by simp [dbl]
      rw [hd] at hn ⊢
      by_cases hd : dbl sq cs = true
      · rw [esc_bs_dbl sq cs hd]; simp only [List.cons_append]
        rw [run_stN_bs, run_stN_bs, ih x _ (fun _ => (add_two_half n).1.trans (hn hd))]
        simp only [hd, if_true, (add_two_half n).2, rep_succ]
        simp
      · have hd' : dbl sq cs = false := by simpa using hd
        rw [esc_bs_nodbl sq cs hd']; simp only [List.cons_append]
        rw [run_stN_bs, ih x _ (fun h => absurd h hd)]
        simp [hd', rep_succ]
    · have hd : dbl sq (c :: cs) = allowed sq c := by simp [dbl, hb]
      rw [hd] at hn ⊢
      by_cases hq : c = '"'
      · subst hq
        -- `\"`: the backslash makes the (even) pending run odd, so the quote is literal
        obtain ⟨h1, h2⟩ := succ_half_of_even (hn (allowed_dq sq))
        rw [esc_dq]; simp only [List.cons_append]
        rw [run_stN_bs, run_stN_Q sq o _ x _ _ (by decide), if_neg (by simp [h1]), ih _ 0 (fun _ => rfl)]
        simp [h2]
      · rw [esc_plain sq c cs hb hq]; simp only [List.cons_append]
        rw [run_stN_Q sq o _ x _ _ hb, if_neg (fun h => hq h.1), ih _ 0 (fun _ => rfl)]
        simp

/-- what happens after one `process` call (and the re-processing of a pushed
back character) -/
def cont (sq : Bool) (r : Option State × Ctx) (cs : Str) : List (Bool × Str) :=
  match r with
  | (some st', x') => run sq st' x' cs
  | (none, x') => emit x' (run sq (.at (.plain .ws)) {} cs)

/-- `process` of the current state on `c`, including the hand-over of a pushed
back character to the exit state -/
def step1 (sq : Bool) : State → Ctx → Char → Option State × Ctx
  | .at e, x, c => procExit sq e x c
  | .bs e n, x, c =>
    if c = '\\' then (some (.bs e (n + 1)), x)
    else if allowed sq c then
      if n % 2 = 1 then (some (.at e), (x.app (rep (n / 2))).app [c])
      else procExit sq e (x.app (rep (n / 2))) c
    else procExit sq e (if n > 0 then x.app (rep n) else x) c

/-- Case analysis of `step1`: an exit state, or a `_Backslash` state meeting a further backslash,
a quote character after an odd / even run, or any other character after a non-empty / empty run. -/
theorem step1_cases (sq : Bool) {P : State → Ctx → Char → Option State × Ctx → Prop}
    (exit : ∀ e x c, P (.at e) x c (procExit sq e x c))
    (bs_bs : ∀ e n x, P (.bs e n) x '\\' (some (.bs e (n + 1)), x))
    (bs_odd : ∀ e n x c, allowed sq c = true → n % 2 = 1 →
      P (.bs e n) x c (some (.at e), (x.app (rep (n / 2))).app [c]))
    (bs_even : ∀ e n x c, allowed sq c = true → ¬ n % 2 = 1 →
      P (.bs e n) x c (procExit sq e (x.app (rep (n / 2))) c))
    (bs_lit : ∀ e n x c, c ≠ '\\' → allowed sq c = false → 0 < n →
      P (.bs e n) x c (procExit sq e (x.app (rep n)) c))
    (bs_none : ∀ e x c, c ≠ '\\' → allowed sq c = false → P (.bs e 0) x c (procExit sq e x c))
    (st : State) (x : Ctx) (c : Char) : P st x c (step1 sq st x c) := by
  cases st with
  | «at» e => exact exit e x c
  | bs e n =>
    by_cases hb : c = '\\'
    · subst hb
      simpa only [step1, if_true] using bs_bs e n x
    · cases ha : allowed sq c
      · by_cases hn : n > 0
        · simpa only [step1, hb, ha, hn, if_true, if_false, Bool.false_eq_true] using bs_lit e n x c hb ha hn
        · obtain rfl : n = 0 := Nat.eq_zero_of_not_pos hn
          simpa only [step1, hb, ha, hn, if_false, Bool.false_eq_true] using bs_none e x c hb ha
      · by_cases hn : n % 2 = 1
        · simpa only [step1, hb, ha, hn, if_true, if_false] using bs_odd e n x c ha hn
        · simpa only [step1, hb, ha, hn, if_true, if_false] using bs_even e n x c ha hn

theorem run_cons (sq : Bool) (st : State) (x : Ctx) (c : Char) (cs : Str) :
    run sq st x (c :: cs) = cont sq (step1 sq st x c) cs := by
  have key : ∀ r : Option State × Ctx,
      (match r with
        | (some st', x') => run sq st' x' cs
        | (none, x') => emit x' (run sq (.at (.plain .ws)) {} cs)) = cont sq r cs := by
    rintro ⟨_ | _, _⟩ <;> rfl
  apply step1_cases sq (P := fun st x c r => run sq st x (c :: cs) = cont sq r cs)
  · intro e x c
    simp only [run]
    exact key _
  · intro e n x
    simp only [run, if_true]
    rfl
  · intro e n x c ha hn
    simp only [run, allowed_ne_bs ha, ha, hn, if_true, if_false]
    rfl
  · intro e n x c ha hn
    simp only [run, allowed_ne_bs ha, ha, hn, if_true, if_false]
    exact key _
  · intro e n x c hb ha hn
    simp only [run, hb, ha, hn, if_true, if_false, Bool.false_eq_true]
    exact key _
  · intro e x c hb ha
    simp only [run, hb, ha, if_false, Bool.false_eq_true, Nat.lt_irrefl, gt_iff_lt]
    exact key _

theorem run_nil (sq : Bool) (st : State) (x : Ctx) : run sq st x [] = emit (finish st x) [] := by
  cases st <;> simp [run]

/-- concatenation of the token texts -/
def flat (l : List (Bool × Str)) : Str := (l.map (·.2)).flatten

@[simp] theorem flat_nil : flat [] = [] := rfl
@[simp] theorem flat_cons (t : Bool × Str) (l : List (Bool × Str)) : flat (t :: l) = t.2 ++ flat l := by
  simp [flat]

/-- backslashes counted by a `_Backslash` state but not yet appended -/
def pend : State → Str
  | .at _ => []
  | .bs _ n => rep n

def pendO : Option State → Str
  | none => []
  | some st => pend st

/-- the text of an emitted token: dropped only when nothing was quoted and the text is empty -/
theorem flat_emit (x : Ctx) (rest : List (Bool × Str)) :
    flat (emit x rest) = if !x.quoted && x.chars.isEmpty then [] else x.chars ++ flat rest := by
  unfold emit result
  by_cases h : (!x.quoted && x.chars.isEmpty) = true
  · simp only [h, if_true, flat_nil]
  · simp only [h, if_false, flat_cons, Bool.false_eq_true]

theorem flat_emit_sublist (x : Ctx) (rest : List (Bool × Str)) :
    (flat (emit x rest)).Sublist (x.chars ++ flat rest) := by
  rw [flat_emit]
  split
  · exact List.nil_sublist _
  · exact List.Sublist.refl _

theorem flat_emit_nil (x : Ctx) : flat (emit x []) = x.chars := by
  rw [flat_emit]
  split
  · rename_i h
    rw [Bool.and_eq_true, List.isEmpty_iff] at h
    exact h.2.symm
  · exact List.append_nil _

theorem rep_sublist {k n : Nat} (h : k ≤ n) : (rep k).Sublist (rep n) := by
  unfold rep
  exact (List.replicate_sublist_replicate '\\').2 h

theorem procExit_sublist (sq : Bool) (e : Exit) (x : Ctx) (c : Char) :
    ((procExit sq e x c).2.chars ++ pendO (procExit sq e x c).1).Sublist (x.chars ++ [c]) := by
  apply procExit_cases sq (P := fun _ x c r => (r.2.chars ++ pendO r.1).Sublist (x.chars ++ [c]))
  all_goals
    intros
    simp [pendO, pend, rep]

theorem step1_sublist (sq : Bool) (st : State) (x : Ctx) (c : Char) :
    ((step1 sq st x c).2.chars ++ pendO (step1 sq st x c).1).Sublist (x.chars ++ pend st ++ [c]) := by
  have half : ∀ (x : Ctx) (n : Nat) (c : Char),
      (x.chars ++ rep (n / 2) ++ [c]).Sublist (x.chars ++ rep n ++ [c]) := fun x n c =>
    ((List.Sublist.refl _).append (rep_sublist (Nat.div_le_self n 2))).append (List.Sublist.refl _)
  apply step1_cases sq
    (P := fun st x c r => (r.2.chars ++ pendO r.1).Sublist (x.chars ++ pend st ++ [c]))
  · intro e x c
    rw [pend, List.append_nil]
    exact procExit_sublist sq e x c
  · intro e n x
    simp [pendO, pend, rep_succ]
  · intro e n x c _ _
    exact (List.append_nil _).symm ▸ half x n c
  · intro e n x c _ _
    exact (procExit_sublist sq e _ c).trans (half x n c)
  · intro e n x c _ _ _
    exact procExit_sublist sq e _ c
  · intro e x c _ _
    rw [pend, rep_zero, List.append_nil]
    exact procExit_sublist sq e x c

/-- general form of `split_sublist` -/
theorem run_sublist (sq : Bool) (s : Str) : ∀ (st : State) (x : Ctx),
    (flat (run sq st x s)).Sublist (x.chars ++ pend st ++ s) := by
  induction s with
  | nil =>
    intro st x
    rw [run_nil]
    refine (flat_emit_sublist _ _).trans ?_
    cases st with
    | «at» e => simp [finish, pend]
    | bs e n =>
      simp only [finish, pend, flat_nil, List.append_nil]
      split
      · simp
      · have : n = 0 := by omega
        subst this; simp
  | cons c cs ih =>
    intro st x
    rw [run_cons, show x.chars ++ pend st ++ c :: cs = x.chars ++ pend st ++ [c] ++ cs from
      (List.append_assoc _ [c] cs).symm]
    have hs := step1_sublist sq st x c
    generalize step1 sq st x c = r at hs
    obtain ⟨o, x'⟩ := r
    cases o with
    | some st' => exact (ih st' x').trans (hs.append (List.Sublist.refl cs))
    | none =>
      simp only [pendO, List.append_nil] at hs
      exact (flat_emit_sublist _ _).trans (hs.append (ih (.at (.plain .ws)) {}))

def good (x : Ctx) : Prop := x.quoted = true ∨ x.chars ≠ []

def Inv (sq : Bool) : State → Ctx → Prop
  | .at (.plain .ws), x => x.touched = true → good x
  | .at (.plain .word), x => good x
  | .at (.quotes q _), x => allowed sq q = true ∧ good x
  | .bs (.plain .ws) n, x => 0 < n ∧ (x.touched = true → good x)
  | .bs (.plain .word) _, x => good x
  | .bs (.quotes q _) _, x => allowed sq q = true ∧ good x

def InvO (sq : Bool) : Option State × Ctx → Prop
  | (some st, x) => Inv sq st x
  | (none, x) => good x

theorem good_app {x : Ctx} (p : Str) (h : good x) : good (x.app p) := by
  unfold good at *; rcases h with h | h
  · left; simpa using h
  · right; simp [h]

theorem good_app_ne (x : Ctx) {p : Str} (h : p ≠ []) : good (x.app p) := by
  right; simp [h]

theorem flat_emit_good {x : Ctx} (rest : List (Bool × Str)) (h : good x) :
    flat (emit x rest) = x.chars ++ flat rest := by
  rw [flat_emit, if_neg]
  rcases h with h | h
  · simp [h]
  · simp [h]
theorem plain_bs (sq : Bool) : plain sq '\\' = false := by simp [plain]

theorem filter_rep (sq : Bool) (n : Nat) : (rep n).filter (plain sq) = [] := by
  simp [rep, plain]

theorem not_plain_of_ws {sq : Bool} {c : Char} (h : isWs c = true) : plain sq c = false := by
  simp [plain, h]

theorem not_plain_of_allowed {sq : Bool} {c : Char} (h : allowed sq c = true) : plain sq c = false := by
  simp [plain, h]

theorem plain_of {sq : Bool} {c : Char} (h1 : isWs c = false) (h2 : allowed sq c = false) (h3 : c ≠ '\\') :
    plain sq c = true := by
  simp [plain, h1, h2, h3]

theorem procExit_inv (sq : Bool) (e : Exit) (x : Ctx) (c : Char) (h : Inv sq (.at e) x) :
    InvO sq (procExit sq e x c) := by
  revert h
  apply procExit_cases sq (P := fun e x _ r => Inv sq (.at e) x → InvO sq r)
  · exact fun _ _ _ ht h => h ht
  · exact fun _ _ _ _ h => h
  · exact fun _ _ _ h => h
  · exact fun _ _ ha _ => ⟨ha, Or.inl rfl⟩
  · exact fun _ _ ha h => ⟨ha, h⟩
  · intro o x h
    cases o
    · exact ⟨Nat.one_pos, h⟩
    · exact h
  · exact fun _ _ _ _ _ => good_app_ne _ (List.cons_ne_nil _ _)
  · exact fun _ _ _ h => h
  · intro q o x h
    cases o
    · exact fun _ => good_app _ h.2
    · exact good_app _ h.2
  · exact fun _ _ _ _ _ _ h => ⟨h.1, good_app _ h.2⟩

/-- the quote character of a `_Quotes` state is an allowed quote character -/
def qok (sq : Bool) : Exit → Prop
  | .quotes q _ => allowed sq q = true
  | .plain _ => True

theorem qok_of_inv_at {sq : Bool} {e : Exit} {x : Ctx} (h : Inv sq (.at e) x) : qok sq e := by
  rcases e with (_ | _) | ⟨q, o⟩ <;> simp_all [qok, Inv]

theorem qok_of_inv_bs {sq : Bool} {e : Exit} {n : Nat} {x : Ctx} (h : Inv sq (.bs e n) x) : qok sq e := by
  rcases e with (_ | _) | ⟨q, o⟩ <;> simp_all [qok, Inv]

theorem procExit_plain (sq : Bool) (e : Exit) (x : Ctx) (c : Char) (h : qok sq e) :
    (procExit sq e x c).2.chars.filter (plain sq)
      = x.chars.filter (plain sq) ++ [c].filter (plain sq) := by
  revert h
  apply procExit_cases sq (P := fun e x c r => qok sq e →
    r.2.chars.filter (plain sq) = x.chars.filter (plain sq) ++ [c].filter (plain sq))
  all_goals
    intros
    simp_all [qok, plain_bs, not_plain_of_ws, not_plain_of_allowed]

/-- the invariant of a `_Backslash` state hands over to its exit state once
something non-empty has been appended -/
theorem inv_bs_exit (sq : Bool) (e : Exit) (n : Nat) (x : Ctx) (p : Str)
    (h : Inv sq (.bs e n) x) (hp : p ≠ [] ∨ e ≠ .plain .ws) : Inv sq (.at e) (x.app p) := by
  rcases e with (_ | _) | ⟨q, o⟩
  · intro _
    rcases hp with hp | hp
    · exact good_app_ne _ hp
    · exact absurd rfl hp
  · exact good_app _ h
  · exact ⟨h.1, good_app _ h.2⟩

theorem rep_ne_nil {n : Nat} (h : 0 < n) : rep n ≠ [] := fun e =>
  Nat.ne_of_gt h (by simpa [rep] using congrArg List.length e)

theorem step1_inv (sq : Bool) (st : State) (x : Ctx) (c : Char) (h : Inv sq st x) :
    InvO sq (step1 sq st x c) := by
  revert h
  apply step1_cases sq (P := fun st x _ r => Inv sq st x → InvO sq r)
  · exact fun e x c h => procExit_inv sq e x c h
  · intro e n x h
    rcases e with (_ | _) | ⟨q, o⟩
    · exact ⟨Nat.succ_pos _, h.2⟩
    · exact h
    · exact h
  · intro e n x c _ _ h
    rw [app_app]
    exact inv_bs_exit sq e n x _ h (Or.inl (by simp))
  · intro e n x c _ hn h
    refine procExit_inv sq _ _ c (inv_bs_exit sq _ n x _ h ?_)
    by_cases he : e = .plain .ws
    · -- even and positive: at least one backslash is appended
      subst he
      have : 0 < n := h.1
      exact Or.inl (rep_ne_nil (by omega))
    · exact Or.inr he
  · exact fun e n x c _ _ hn h => procExit_inv sq _ _ c (inv_bs_exit sq _ n x _ h (Or.inl (rep_ne_nil hn)))
  · intro e x c _ _ h
    rcases e with (_ | _) | ⟨q, o⟩
    · exact absurd h.1 (Nat.lt_irrefl 0)
    · exact procExit_inv sq _ _ c h
    · exact procExit_inv sq _ _ c h

theorem step1_plain (sq : Bool) (st : State) (x : Ctx) (c : Char) (h : Inv sq st x) :
    (step1 sq st x c).2.chars.filter (plain sq)
      = x.chars.filter (plain sq) ++ [c].filter (plain sq) := by
  revert h
  apply step1_cases sq (P := fun st x c r => Inv sq st x →
    r.2.chars.filter (plain sq) = x.chars.filter (plain sq) ++ [c].filter (plain sq))
  · exact fun e x c h => procExit_plain sq e x c (qok_of_inv_at h)
  · intro e n x _
    simp [plain_bs]
  · intro e n x c ha _ _
    simp [filter_rep, not_plain_of_allowed ha]
  · intro e n x c _ _ h
    rw [procExit_plain sq e _ c (qok_of_inv_bs h)]
    simp [filter_rep]
  · intro e n x c _ _ _ h
    rw [procExit_plain sq e _ c (qok_of_inv_bs h)]
    simp [filter_rep]
  · exact fun e x c _ _ h => procExit_plain sq e x c (qok_of_inv_bs h)

theorem inv_start (sq : Bool) : Inv sq (.at (.plain .ws)) {} := by
  intro h; simp at h

/-- general form of `split_keeps_plain` -/
theorem run_plain (sq : Bool) (s : Str) : ∀ (st : State) (x : Ctx), Inv sq st x →
    (flat (run sq st x s)).filter (plain sq) = x.chars.filter (plain sq) ++ s.filter (plain sq) := by
  induction s with
  | nil =>
    intro st x _
    rw [run_nil, flat_emit_nil]
    cases st with
    | «at» e => simp [finish]
    | bs e n => simp only [finish]; split <;> simp [filter_rep]
  | cons c cs ih =>
    intro st x h
    rw [run_cons]
    have hp := step1_plain sq st x c h
    have hi := step1_inv sq st x c h
    generalize step1 sq st x c = r at hp hi
    obtain ⟨o, x'⟩ := r
    cases o with
    | some st' =>
      simp only [cont]
      rw [ih st' x' hi, hp]
      simp [List.filter_cons]
      split <;> simp
    | none =>
      simp only [cont]
      rw [flat_emit_good _ hi, List.filter_append, ih _ _ (inv_start sq), hp]
      simp [List.filter_cons]
      split <;> simp

end BreezyVerif.C50
