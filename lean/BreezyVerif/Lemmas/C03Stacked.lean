import BreezyVerif.Model.C03Stacked
import BreezyVerif.Lemmas.C03Seq
/-
C03 — the chain of streams from a stacked repository and its fallback yields
exactly what recreating the search in the union graph yields.
-/
namespace BreezyVerif.C03

open BreezyVerif.C33 (PMap parentsOf parentsL bfs Reach mem_parentsL)

theorem mem_served (r : Repo) (start excl : List Rev) (k : Rev) :
    k ∈ served r start excl ↔ Reach (graph r) excl start k ∧ k ∉ excl ∧ hasRev r k = true := by
  obtain ⟨s, hs, hinv⟩ := C33.bfs_inv (graph r) start excl
  unfold served
  rw [hs]
  simp only [C33.mem_included hinv]
  constructor
  · rintro ⟨h1, h2, ps, hps⟩
    refine ⟨h1, h2, ?_⟩
    rw [parentsOf_graph] at hps
    unfold hasRev
    cases hg : get r.revs k with
    | none => simp [hg] at hps
    | some v => rfl
  · rintro ⟨h1, h2, h3⟩
    obtain ⟨rec, hrec⟩ := (hasRev_iff ..).mp h3
    exact ⟨h1, h2, rec.parents, by rw [parentsOf_graph, hrec]; rfl⟩

theorem parentsOf_union (st fb : Repo) (k : Rev) :
    parentsOf (graph (unionRepo st fb)) k =
      match parentsOf (graph st) k with
      | some ps => some ps
      | none => parentsOf (graph fb) k := by
  simp only [parentsOf_graph]
  unfold unionRepo
  cases h : get st.revs k with
  | some v => simp [get_append_some h]
  | none => simp [get_append_none h]

theorem parentsOf_none_of_absent {r : Repo} {k : Rev} (h : hasRev r k = false) : parentsOf (graph r) k = none :=
  C33.not_present_iff.mp (by rw [present_graph, h]; rfl)

theorem hasRev_of_parentsOf {r : Repo} {k : Rev} {ps : List Rev} (h : parentsOf (graph r) k = some ps) :
    hasRev r k = true :=
  present_graph r k ▸ C33.present_iff.mpr ⟨ps, h⟩

theorem disjoint_absent {st fb : Repo} (hd : disjointRevs st fb = true) {k : Rev} (hs : hasRev st k = true) :
    hasRev fb k = false := by
  obtain ⟨rec, hrec⟩ := (hasRev_iff ..).mp hs
  unfold disjointRevs at hd
  simpa using List.all_eq_true.mp hd (k, rec) (get_mem hrec)

theorem fallbackClosed_parent {st fb : Repo} (hc : fallbackClosed st fb = true) {j k : Rev} {ps : List Rev}
    (hps : parentsOf (graph fb) j = some ps) (hk : k ∈ ps) : hasRev st k = false := by
  obtain ⟨rec, hrec, rfl⟩ := parentsOf_graph_some hps
  unfold fallbackClosed at hc
  have := List.all_eq_true.mp hc (j, rec) (get_mem hrec)
  simpa using List.all_eq_true.mp this k hk

section Chain
variable {st fb : Repo} {start excl : List Rev}

/-- a key reached in the stacked repository's graph that the repository lacks is a start key or
a parent of a streamed revision: the refined search starts from it -/
theorem absent_reached_is_head (hk : Reach (graph st) excl start k) (habs : hasRev st k = false) (hne : k ∉ excl) :
    k ∈ (referencedRevs .allParents st (served st start excl) ++ start).filter
      fun k => !decide (k ∈ served st start excl) && !decide (k ∈ excl) := by
  have hnm : k ∉ served st start excl := by
    intro hm
    rw [((mem_served ..).mp hm).2.2] at habs
    cases habs
  refine List.mem_filter.mpr ⟨?_, by simp [hnm, hne]⟩
  cases hk with
  | base hs => exact List.mem_append_right _ hs
  | @step j _ ps hj hjs hps hkp =>
    apply List.mem_append_left
    unfold referencedRevs
    refine List.mem_flatMap.mpr ⟨j, (mem_served ..).mpr ⟨hj, hjs, hasRev_of_parentsOf hps⟩, ?_⟩
    exact mem_parentsL.mpr ⟨ps, hps, hkp⟩

/-- every start key of the refined search is reached by the original search in the stacked graph -/
theorem head_reached {h : Rev}
    (hh : h ∈ (referencedRevs .allParents st (served st start excl) ++ start).filter
      fun k => !decide (k ∈ served st start excl) && !decide (k ∈ excl)) :
    Reach (graph st) excl start h := by
  obtain ⟨hmem, _⟩ := List.mem_filter.mp hh
  rcases List.mem_append.mp hmem with hr | hs
  · unfold referencedRevs at hr
    obtain ⟨j, hj, hpj⟩ := List.mem_flatMap.mp hr
    obtain ⟨hjr, hjs, _⟩ := (mem_served ..).mp hj
    obtain ⟨ps, hps, hkp⟩ := mem_parentsL.mp hpj
    exact Reach.step hjr hjs hps hkp
  · exact Reach.base hs

/-- a revision of the stacked repository met by the fallback's walk was reached by the stacked repository's walk -/
theorem fb_reached_in_st (hc : fallbackClosed st fb = true) {heads excl2 : List Rev}
    (hheads : ∀ h ∈ heads, Reach (graph st) excl start h) {k : Rev}
    (hk : Reach (graph fb) excl2 heads k) (hs : hasRev st k = true) : Reach (graph st) excl start k := by
  cases hk with
  | base hh => exact hheads _ hh
  | step _ _ hps hkp =>
    rw [fallbackClosed_parent hc hps hkp] at hs
    cases hs

theorem reach_st_to_union (hk : Reach (graph st) excl start k) : Reach (graph (unionRepo st fb)) excl start k := by
  induction hk with
  | base hs => exact Reach.base hs
  | step _ hjs hps hkp ih =>
    refine Reach.step ih hjs ?_ hkp
    rw [parentsOf_union, hps]

end Chain

/-- The chain of streams from a repository stacked on a (disjoint, self-contained) fallback yields
exactly the revisions the search stands for in the union graph. -/
theorem chain_mem_iff (st fb : Repo) (hd : disjointRevs st fb = true) (hc : fallbackClosed st fb = true)
    (start excl : List Rev) (k : Rev) :
    (k ∈ (chainRevs .allParents st fb start excl).1 ∨ k ∈ (chainRevs .allParents st fb start excl).2) ↔
      k ∈ served (unionRepo st fb) start excl := by
  have hm1 : (chainRevs .allParents st fb start excl).1 = served st start excl := rfl
  generalize hheads : ((referencedRevs .allParents st (served st start excl) ++ start).filter
      fun k => !decide (k ∈ served st start excl) && !decide (k ∈ excl)) = heads
  generalize hexcl2 : excl ++ start.filter (· ∈ served st start excl) = excl2
  have hm2 : (chainRevs .allParents st fb start excl).2 = served fb heads excl2 := by
    unfold chainRevs
    simp only [hheads, hexcl2]
  rw [hm1, hm2]
  have hheadR : ∀ h ∈ heads, Reach (graph st) excl start h := by
    intro h hh; rw [← hheads] at hh; exact head_reached hh
  have hexcl_sub : ∀ x, x ∉ excl2 → x ∉ excl := by
    intro x hx hxe; apply hx; rw [← hexcl2]; exact List.mem_append_left _ hxe
  have hexcl2_of : ∀ x, x ∉ excl → hasRev st x = false → x ∉ excl2 := by
    intro x hx hs hx2
    rw [← hexcl2] at hx2
    rcases List.mem_append.mp hx2 with h | h
    · exact hx h
    · have := (List.mem_filter.mp h).2
      simp only [decide_eq_true_eq] at this
      rw [((mem_served ..).mp this).2.2] at hs
      cases hs
  -- a step of the fallback's walk is a step of the union's walk
  have fb_to_union : ∀ {k}, Reach (graph fb) excl2 heads k → Reach (graph (unionRepo st fb)) excl start k := by
    intro k hk
    induction hk with
    | base hh => exact reach_st_to_union (hheadR _ hh)
    | step _ hjs hps hkp ih =>
      refine Reach.step ih (hexcl_sub _ hjs) ?_ hkp
      have hfbj := hasRev_of_parentsOf hps
      rename_i j _ _ _
      have hstj : hasRev st j = false := by
        cases hsj : hasRev st j with
        | false => rfl
        | true => rw [disjoint_absent hd hsj] at hfbj; cases hfbj
      rw [parentsOf_union, parentsOf_none_of_absent hstj]
      exact hps
  constructor
  · rintro (h | h)
    · obtain ⟨h1, h2, h3⟩ := (mem_served ..).mp h
      exact (mem_served ..).mpr ⟨reach_st_to_union h1, h2, by rw [hasRev_union, h3]; rfl⟩
    · obtain ⟨h1, h2, h3⟩ := (mem_served ..).mp h
      exact (mem_served ..).mpr ⟨fb_to_union h1, hexcl_sub _ h2, by rw [hasRev_union, h3]; simp⟩
  · intro h
    obtain ⟨hr, hne, hp⟩ := (mem_served ..).mp h
    -- every key the union's walk reaches is reached by one of the two walks
    have key : ∀ {k}, Reach (graph (unionRepo st fb)) excl start k →
        Reach (graph st) excl start k ∨ Reach (graph fb) excl2 heads k := by
      intro k hk
      induction hk with
      | base hs => exact Or.inl (Reach.base hs)
      | @step j k ps _ hjs hps hkp ih =>
        rw [parentsOf_union] at hps
        cases hst : parentsOf (graph st) j with
        | some ps' =>
          simp only [hst, Option.some.injEq] at hps
          subst hps
          have hsj := hasRev_of_parentsOf hst
          have hjr : Reach (graph st) excl start j := by
            rcases ih with h1 | h1
            · exact h1
            · exact fb_reached_in_st hc hheadR h1 hsj
          exact Or.inl (Reach.step hjr hjs hst hkp)
        | none =>
          simp only [hst] at hps
          have hstj : hasRev st j = false := by
            rw [← present_graph, C33.present, hst]
            rfl
          have hjf : Reach (graph fb) excl2 heads j := by
            rcases ih with h1 | h1
            · refine Reach.base ?_
              rw [← hheads]
              exact absent_reached_is_head h1 hstj hjs
            · exact h1
          exact Or.inr (Reach.step hjf (hexcl2_of _ hjs hstj) hps hkp)
    rw [hasRev_union] at hp
    cases hsk : hasRev st k with
    | true =>
      left
      have hkr : Reach (graph st) excl start k := by
        rcases key hr with h1 | h1
        · exact h1
        · exact fb_reached_in_st hc hheadR h1 hsk
      exact (mem_served ..).mpr ⟨hkr, hne, hsk⟩
    | false =>
      right
      have hfk : hasRev fb k = true := by simpa [hsk] using hp
      have hkf : Reach (graph fb) excl2 heads k := by
        rcases key hr with h1 | h1
        · refine Reach.base ?_
          rw [← hheads]
          exact absent_reached_is_head h1 hsk hne
        · exact h1
      exact (mem_served ..).mpr ⟨hkf, hexcl2_of _ hne hsk, hfk⟩

/-- Copying the keys `m1` from the map `A` and then `m2` from `B` gives the lookups of copying
`m1 ∪ m2` from `A ++ B`, provided `A` has the keys of `m1`, `B` those of `m2`, and what `A` holds
under a key of `m2` is what `B` holds. -/
theorem get_keyed_chain {α β : Type} [DecidableEq α] (A B T : List (α × β)) (m1 m2 m : List α)
    (h1 : ∀ k ∈ m1, (get A k).isSome = true)
    (h2 : ∀ k ∈ m2, (get B k).isSome = true ∧ ∀ a, get A k = some a → get B k = some a)
    (hm : ∀ k, k ∈ m ↔ k ∈ m1 ∨ k ∈ m2) (k : α) :
    get ((T ++ m1.filterMap fun x => (get A x).map fun v => (x, v)) ++
        m2.filterMap fun x => (get B x).map fun v => (x, v)) k =
      get (T ++ m.filterMap fun x => (get (A ++ B) x).map fun v => (x, v)) k := by
  cases ht : get T k with
  | some v => rw [get_append_some (get_append_some ht), get_append_some ht]
  | none =>
    rw [get_append_none ht, get_filterMap_keyed]
    by_cases hk1 : k ∈ m1
    · obtain ⟨a, ha⟩ := Option.isSome_iff_exists.mp (h1 k hk1)
      have : get (T ++ m1.filterMap fun x => (get A x).map fun v => (x, v)) k = some a := by
        rw [get_append_none ht, get_filterMap_keyed, if_pos hk1, ha]
      rw [get_append_some this, if_pos ((hm k).mpr (Or.inl hk1)), get_append_some ha]
    · have : get (T ++ m1.filterMap fun x => (get A x).map fun v => (x, v)) k = none := by
        rw [get_append_none ht, get_filterMap_keyed, if_neg hk1]
      rw [get_append_none this, get_filterMap_keyed]
      by_cases hk2 : k ∈ m2
      · rw [if_pos hk2, if_pos ((hm k).mpr (Or.inr hk2))]
        cases ha : get A k with
        | none => rw [get_append_none ha]
        | some a => rw [get_append_some ha, (h2 k hk2).2 a ha]
      · rw [if_neg hk2, if_neg fun h => ((hm k).mp h).elim hk1 hk2]

/-- … and the records the chain inserts are the records a fetch of those revisions from the union inserts:
same lookups for every revision id, revision records and inventories (both repositories hold the inventories of
their own revisions; where the stacked repository also holds a copy of a fallback revision's inventory - a stored
parent inventory - the two copies agree) -/
theorem chainCopy_eq_union (st fb tgt : Repo) (hd : disjointRevs st fb = true)
    (hai : agreeOn st.invs fb.invs = true)
    (m1 m2 m : List Rev) (hm1 : ∀ k ∈ m1, hasRev st k = true ∧ (get st.invs k).isSome = true)
    (hm2 : ∀ k ∈ m2, hasRev fb k = true ∧ (get fb.invs k).isSome = true)
    (hm : ∀ k, k ∈ m ↔ k ∈ m1 ∨ k ∈ m2) (k : Rev) :
    get (chainCopy st fb tgt m1 m2).revs k = get (copyE (unionRepo st fb) tgt m []).revs k ∧
    get (chainCopy st fb tgt m1 m2).invs k = get (copyE (unionRepo st fb) tgt m []).invs k := by
  refine ⟨get_keyed_chain st.revs fb.revs tgt.revs m1 m2 m (fun k hk => (hm1 k hk).1)
      (fun k hk => ⟨(hm2 k hk).1, fun a ha => ?_⟩) hm k,
    get_keyed_chain st.invs fb.invs tgt.invs m1 m2 m (fun k hk => (hm1 k hk).2)
      (fun k hk => ⟨(hm2 k hk).2, fun a ha => ?_⟩) hm k⟩
  · -- disjoint: the stacked repository has no revision of `m2`
    have := disjoint_absent hd ((hasRev_iff ..).mpr ⟨a, ha⟩)
    rw [(hm2 k hk).1] at this
    cases this
  · obtain ⟨b, hb⟩ := Option.isSome_iff_exists.mp (hm2 k hk).2
    rw [hb, agreeOn_eq hai hb ha]

end BreezyVerif.C03
