import BreezyVerif.Model.C43
import BreezyVerif.Lemmas.Lib.AList
/-!
C43 — moves on a keyed store applied one after the other against their
simultaneous reading, and top-level renames of the remote model as such moves.
-/
namespace BreezyVerif.C43
open Lib

def upd {V : Type} (G : String → Option V) (a : String) (v : Option V) : String → Option V :=
  fun x => if x = a then v else G x

/-- apply moves `(src, dst)` one after the other -/
def moveAll {V : Type} (G : String → Option V) : List (String × String) → String → Option V
  | [] => G
  | (a, b) :: ms => moveAll (upd (upd G a none) b (G a)) ms

/-- the simultaneous reading of a list of moves -/
def movesSpec {V : Type} (G : String → Option V) (ms : List (String × String)) (x : String) : Option V :=
  match ms.find? (fun m => m.2 == x) with
  | some (a, _) => G a
  | none => if ms.any (fun m => m.1 == x) then none else G x

/-- moves with distinct sources, distinct targets and no name on both sides -/
def Independent (ms : List (String × String)) : Prop :=
  (ms.map (·.1)).Nodup ∧ (ms.map (·.2)).Nodup ∧ ∀ a ∈ ms.map (·.1), a ∉ ms.map (·.2)

theorem Independent.tail {m : String × String} {ms : List (String × String)} (h : Independent (m :: ms)) :
    Independent ms := by
  obtain ⟨h1, h2, h3⟩ := h
  simp only [List.map_cons, List.nodup_cons] at h1 h2
  refine ⟨h1.2, h2.2, ?_⟩
  intro a ha hb
  exact h3 a (by simp only [List.map_cons]; exact List.mem_cons_of_mem _ ha)
    (by simp only [List.map_cons]; exact List.mem_cons_of_mem _ hb)

theorem movesSpec_dst {V : Type} (G : String → Option V) (ms : List (String × String)) (h : (ms.map (·.2)).Nodup)
    (a b : String) (hm : (a, b) ∈ ms) : movesSpec G ms b = G a := by
  unfold movesSpec
  cases hf : ms.find? (fun m => m.2 == b) with
  | none => exact absurd (beq_self_eq_true b) (List.find?_eq_none.mp hf (a, b) hm)
  | some m' =>
    have hb := List.find?_some hf
    cases Lib.inj_of_nodup_map (·.2) h (List.mem_of_find?_eq_some hf) hm (beq_iff_eq.mp hb)
    rfl

theorem movesSpec_not_dst {V : Type} (G : String → Option V) (ms : List (String × String)) (x : String)
    (hx : x ∉ ms.map (·.2)) :
    movesSpec G ms x = if x ∈ ms.map (·.1) then none else G x := by
  have hf : ms.find? (fun m => m.2 == x) = none :=
    List.find?_eq_none.mpr fun m hm hc => hx (List.mem_map.mpr ⟨m, hm, beq_iff_eq.mp hc⟩)
  rw [movesSpec, hf]
  simp only [List.any_eq_true, beq_iff_eq, List.mem_map]

/-- **Sequential = simultaneous.**  Any number of moves with distinct
sources, distinct targets and no name on both sides, applied one after the
other to any store, give the simultaneous reading (every target holds what
its source held, every source is gone, everything else is untouched). -/
theorem moves_sequential_eq_simultaneous {V : Type} (ms : List (String × String)) (h : Independent ms)
    (G : String → Option V) (x : String) : moveAll G ms x = movesSpec G ms x := by
  induction ms generalizing G with
  | nil => rfl
  | cons m ms ih =>
    obtain ⟨a, b⟩ := m
    have ht := h.tail
    obtain ⟨h1, h2, h3⟩ := h
    have h2' := h2
    rw [List.map_cons, List.nodup_cons] at h1 h2
    have hb_src : b ∉ ms.map (·.1) := fun m => h3 b (List.mem_cons_of_mem _ m) List.mem_cons_self
    rw [moveAll, ih ht]
    by_cases hx : x ∈ ms.map (·.2)
    · -- a later target receives what its source held; that source is neither `a` nor `b`
      obtain ⟨⟨a', x'⟩, hm, rfl⟩ := List.mem_map.mp hx
      have ha' : a' ≠ a := fun e => h1.1 (List.mem_map.mpr ⟨_, hm, e⟩)
      have hb' : a' ≠ b := fun e => hb_src (List.mem_map.mpr ⟨_, hm, e⟩)
      rw [movesSpec_dst _ _ ht.2.1 a' x' hm, movesSpec_dst G _ h2' a' x' (List.mem_cons_of_mem _ hm),
        upd, if_neg hb', upd, if_neg ha']
    · rw [movesSpec_not_dst _ _ _ hx]
      by_cases hxb : x = b
      · subst hxb
        rw [if_neg hb_src, movesSpec_dst G _ h2' a x List.mem_cons_self, upd, if_pos rfl]
      · rw [movesSpec_not_dst G _ x (fun h => (List.mem_cons.mp h).elim hxb hx), upd, if_neg hxb, upd]
        by_cases hxa : x = a
        · simp only [List.map_cons, List.mem_cons, hxa, true_or, if_true, ite_self]
        · simp only [List.map_cons, List.mem_cons, hxa, false_or, if_false]

theorem kget_eq_lookup (k : Kids) (a : String) : kget k a = k.lookup a :=
  lookup_of_eqns (fun _ => rfl) (fun _ _ _ _ => rfl) k a

theorem kput_eq_set (k : Kids) (a : String) (v : Node) : kput k a v = AList.set k a v := by
  induction k with
  | nil => rfl
  | cons e k ih => simp [kput, AList.set, ih]

theorem kget_kput (k : Kids) (a : String) (v : Node) (b : String) :
    kget (kput k a v) b = if b = a then some v else kget k b := by
  rw [kget_eq_lookup, kget_eq_lookup, kput_eq_set, AList.lookup_set]

theorem kget_kdel (k : Kids) (a b : String) :
    kget (kdel k a) b = if b = a then none else kget k b := by
  rw [kget_eq_lookup, kget_eq_lookup]; exact AList.lookup_erase k a b

/-- a top-level rename whose source exists and whose target is free is a move -/
theorem tRename_toplevel (kids : Kids) (a b : String) (n : Node) (ha : kget kids a = some n)
    (hb : kget kids b = none) :
    ∃ kids', tRename (.dir kids) [a] [b] = .ok (.dir kids') ∧
      ∀ x, kget kids' x = upd (upd (kget kids) a none) b (kget kids a) x := by
  refine ⟨kput (kdel kids a) b n, ?_, ?_⟩
  · unfold tRename
    simp only [lookup, ha]
    have : kget (kdel kids a) b = none := by rw [kget_kdel]; simp [hb]
    simp [modify, kset, bind, Except.bind, pure, Except.pure, this]
  · intro x
    rw [kget_kput, kget_kdel, ha]
    unfold upd
    by_cases h1 : x = b
    · simp [h1]
    · by_cases h2 : x = a
      · simp [h2]
      · simp [h1, h2]

/-- run top-level renames one after the other; stop at the first failure -/
def seqRename (root : Node) : List (String × String) → Node × Option Err
  | [] => (root, none)
  | (a, b) :: ms =>
    match tRename root [a] [b] with
    | .ok r => seqRename r ms
    | .error e => (root, some e)

/-- **Independent top-level renames execute.**  In the remote model, a list of
top-level renames with existing sources and free targets never fails and
produces the simultaneous reading — for directories of any size and content
(whole sub-trees move with their name). -/
theorem rename_exec_independent (ms : List (String × String)) (h : Independent ms) (kids : Kids)
    (hsrc : ∀ m ∈ ms, kget kids m.1 ≠ none) (hdst : ∀ m ∈ ms, kget kids m.2 = none) :
    ∃ kids', seqRename (.dir kids) ms = (.dir kids', none) ∧
      ∀ x, kget kids' x = movesSpec (kget kids) ms x := by
  induction ms generalizing kids with
  | nil => exact ⟨kids, rfl, fun x => rfl⟩
  | cons m ms ih =>
    obtain ⟨a, b⟩ := m
    have ht := h.tail
    have hind := h
    obtain ⟨h1, h2, h3⟩ := h
    rw [List.map_cons, List.nodup_cons] at h1 h2
    obtain ⟨n, hn⟩ := Option.ne_none_iff_exists'.mp (hsrc (a, b) List.mem_cons_self)
    obtain ⟨k1, hr, hk1⟩ := tRename_toplevel kids a b n hn (hdst (a, b) List.mem_cons_self)
    -- the later moves name neither `a` nor `b`: they see what they saw
    have hkeep : ∀ y, y ≠ a → y ≠ b → kget k1 y = kget kids y :=
      fun y ha hb => by rw [hk1, upd, if_neg hb, upd, if_neg ha]
    have hsrc1 : ∀ m ∈ ms, kget k1 m.1 ≠ none := by
      intro m hm
      have hmem : m.1 ∈ ms.map (·.1) := List.mem_map.mpr ⟨m, hm, rfl⟩
      rw [hkeep m.1 (fun e => h1.1 (e ▸ hmem)) (fun e => h3 m.1 (List.mem_cons_of_mem _ hmem) (e ▸ List.mem_cons_self))]
      exact hsrc m (List.mem_cons_of_mem _ hm)
    have hdst1 : ∀ m ∈ ms, kget k1 m.2 = none := by
      intro m hm
      have hmem : m.2 ∈ ms.map (·.2) := List.mem_map.mpr ⟨m, hm, rfl⟩
      rw [hkeep m.2 (fun e => h3 a List.mem_cons_self (e ▸ List.mem_cons_of_mem _ hmem)) (fun e => h2.1 (e ▸ hmem))]
      exact hdst m (List.mem_cons_of_mem _ hm)
    obtain ⟨k2, hr2, hk2⟩ := ih ht k1 hsrc1 hdst1
    refine ⟨k2, by rw [seqRename, hr]; exact hr2, fun x => ?_⟩
    rw [hk2, ← moves_sequential_eq_simultaneous ms ht, ← moves_sequential_eq_simultaneous _ hind, moveAll]
    exact congrArg (fun G => moveAll G ms x) (funext hk1)

end BreezyVerif.C43
