import BreezyVerif.Lemmas.C03
/-
C03 — the batched walk `_walk_to_common_revisions` (`walkLoop`): loop invariant,
termination, and what the result satisfies for every batch size ≥ 1.
-/
namespace BreezyVerif.C03

open BreezyVerif.C33 (PMap parentsOf parentsL bfs Reach present dedup allKeys refsOf mem_dedup present_iff
  not_present_iff mem_parentsL parentsOf_refs unseen_lt)

theorem parentsOf_restrict (g : PMap) (seen : List Rev) (k : Rev) :
    parentsOf (restrict g seen) k =
      if k ∈ seen then (parentsOf g k).map (fun ps => ps.filter (· ∈ seen)) else none := by
  unfold restrict
  induction g with
  | nil => simp [parentsOf]
  | cons kv rest ih =>
    obtain ⟨k', ps⟩ := kv
    by_cases hk' : k' ∈ seen
    · by_cases hkk : k' = k
      · subst hkk
        simp [hk', parentsOf]
      · simp only [List.filter_cons, hk', decide_true, if_true, List.map_cons, parentsOf, hkk, if_false]
        exact ih
    · by_cases hkk : k' = k
      · subst hkk
        simp only [List.filter_cons, hk', decide_false, Bool.false_eq_true, if_false]
        rw [ih]
        simp [hk']
      · simp only [List.filter_cons, hk', decide_false, Bool.false_eq_true, if_false, parentsOf, hkk]
        exact ih

/-- a step of the restricted graph is a step of the graph between seen keys -/
theorem restrict_step {g : PMap} {seen : List Rev} {j k : Rev} :
    (∃ ps', parentsOf (restrict g seen) j = some ps' ∧ k ∈ ps') ↔
      j ∈ seen ∧ k ∈ seen ∧ ∃ ps, parentsOf g j = some ps ∧ k ∈ ps := by
  rw [parentsOf_restrict]
  by_cases hj : j ∈ seen
  · rw [if_pos hj]
    cases parentsOf g j with
    | none => simp
    | some ps => simp [hj, and_comm]
  · simp [hj]

/-- reachability inside `seen` is reachability -/
theorem reach_of_restrict {g : PMap} {seen start : List Rev} {k : Rev}
    (h : Reach (restrict g seen) [] start k) : ∃ s ∈ start, Reach g [] [s] k := by
  induction h with
  | base hk => exact ⟨_, hk, Reach.base (by simp)⟩
  | step _ _ hps hk ih =>
    obtain ⟨s, hs, hr⟩ := ih
    obtain ⟨_, _, ps, hps', hk'⟩ := restrict_step.mp ⟨_, hps, hk⟩
    exact ⟨s, hs, Reach.step hr (by simp) hps' hk'⟩

theorem restrict_reach_mono {g : PMap} {seen seen' start : List Rev} (hsub : ∀ k ∈ seen, k ∈ seen') {k : Rev}
    (h : Reach (restrict g seen) [] start k) : Reach (restrict g seen') [] start k := by
  induction h with
  | base hk => exact Reach.base hk
  | step _ _ hps hk ih =>
    obtain ⟨hj, hk', hstep⟩ := restrict_step.mp ⟨_, hps, hk⟩
    obtain ⟨ps'', h1, h2⟩ := restrict_step.mpr ⟨hsub _ hj, hsub _ hk', hstep⟩
    exact Reach.step ih (by simp) h1 h2

theorem mem_seenAnc (g : PMap) (seen hv : List Rev) (k : Rev) :
    k ∈ seenAnc g seen hv ↔ Reach (restrict g seen) [] (hv.filter (· ∈ seen)) k := by
  unfold seenAnc
  exact mem_reach ..

theorem seenAnc_sound {g : PMap} {seen hv : List Rev} {k : Rev} (hk : k ∈ seenAnc g seen hv) :
    ∃ h ∈ hv, h ∈ seen ∧ Reach g [] [h] k := by
  obtain ⟨s, hs, hr⟩ := reach_of_restrict ((mem_seenAnc ..).mp hk)
  simp only [List.mem_filter, decide_eq_true_eq] at hs
  exact ⟨s, hs.1, hs.2, hr⟩

/-- invariant of `walkLoop`; `acc` are the present revisions collected in the running batch -/
structure WInv (g : PMap) (has : Rev → Bool) (start : Rev) (w : Walk) (acc : List Rev) : Prop where
  sound : ∀ k ∈ w.seen ++ w.next, Reach g [] [start] k
  disj : ∀ k ∈ w.next, k ∉ w.seen
  univ : ∀ k ∈ w.seen ++ w.next, k ∈ allKeys g [start]
  startIn : start ∈ w.seen ∨ (w.next = [start] ∧ acc = [])
  ghost : ∀ k ∈ w.seen, parentsOf g k = none → k ∈ w.stopped
  closed : ∀ j ∈ w.seen, j ∉ w.stopped → ∀ ps, parentsOf g j = some ps → ∀ p ∈ ps,
    p ∈ w.seen ∨ (j ∈ w.cur ∧ p ∈ w.next)
  why : ∀ k ∈ w.stopped, parentsOf g k = none ∨
    ∃ h, has h = true ∧ present g h = true ∧ Reach g [] [start] h ∧ Reach g [] [h] k
  held : ∀ k ∈ w.seen, has k = true → present g k = true → k ∈ w.stopped ∨ k ∈ acc
  accIn : ∀ k ∈ acc, k ∈ w.seen ∧ present g k = true

theorem winv_init (g : PMap) (has : Rev → Bool) (start : Rev) :
    WInv g has start ⟨[], [], [], [start]⟩ [] where
  sound := by intro k hk; simp at hk; subst hk; exact Reach.base (by simp)
  disj := by intro k _; simp
  univ := by intro k hk; simp at hk; subst hk; simp [allKeys]
  startIn := Or.inr ⟨rfl, rfl⟩
  ghost := by intro k hk; cases hk
  closed := by intro j hj; cases hj
  why := by intro k hk; cases hk
  held := by intro k hk; cases hk
  accIn := by intro k hk; cases hk

theorem mem_layer_next {g : PMap} {w : Walk} {p : Rev} :
    p ∈ (w.layer g).next ↔ p ∉ w.seen ++ w.next ∧ ∃ j ∈ w.next, ∃ ps, parentsOf g j = some ps ∧ p ∈ ps :=
  C33.mem_nextLayer

theorem winv_layer {g : PMap} {has : Rev → Bool} {start : Rev} {w : Walk} {acc : List Rev}
    (h : WInv g has start w acc) : WInv g has start (w.layer g) (acc ++ (w.layer g).cur) where
  sound := by
    intro k hk
    rcases List.mem_append.mp hk with hk | hk
    · exact h.sound k hk
    · obtain ⟨_, j, hj, ps, hps, hp⟩ := mem_layer_next.mp hk
      exact Reach.step (h.sound j (List.mem_append_right _ hj)) (by simp) hps hp
  disj := by
    intro k hk
    exact (mem_layer_next.mp hk).1
  univ := by
    intro k hk
    rcases List.mem_append.mp hk with hk | hk
    · exact h.univ k hk
    · obtain ⟨_, j, _, ps, hps, hp⟩ := mem_layer_next.mp hk
      exact List.mem_append_right _ (parentsOf_refs hps hp)
  startIn := by
    rcases h.startIn with hs | ⟨hs, _⟩
    · exact Or.inl (List.mem_append_left _ hs)
    · exact Or.inl (List.mem_append_right _ (by rw [hs]; simp))
  ghost := by
    intro k hk hnone
    show k ∈ w.stopped ++ w.next.filter fun k => !present g k
    rcases List.mem_append.mp hk with hk | hk
    · exact List.mem_append_left _ (h.ghost k hk hnone)
    · exact List.mem_append_right _ (List.mem_filter.mpr ⟨hk, not_present_iff.mpr hnone⟩)
  closed := by
    intro j hj hns ps hps p hp
    have hns' : j ∉ w.stopped := fun hc => hns (List.mem_append_left _ hc)
    by_cases hin : p ∈ w.seen ++ w.next
    · exact Or.inl hin
    · rcases List.mem_append.mp hj with hj | hj
      · rcases h.closed j hj hns' ps hps p hp with h1 | ⟨_, h1⟩
        · exact absurd (List.mem_append_left _ h1) hin
        · exact absurd (List.mem_append_right _ h1) hin
      · refine Or.inr ⟨List.mem_filter.mpr ⟨hj, present_iff.mpr ⟨ps, hps⟩⟩, ?_⟩
        exact mem_layer_next.mpr ⟨hin, j, hj, ps, hps, hp⟩
  why := by
    intro k hk
    rcases List.mem_append.mp hk with hk | hk
    · exact h.why k hk
    · exact Or.inl (not_present_iff.mp (List.mem_filter.mp hk).2)
  held := by
    intro k hk hhas hpres
    rcases List.mem_append.mp hk with hk | hk
    · rcases h.held k hk hhas hpres with h1 | h1
      · exact Or.inl (List.mem_append_left _ h1)
      · exact Or.inr (List.mem_append_left _ h1)
    · exact Or.inr (List.mem_append_right _ (List.mem_filter.mpr ⟨hk, hpres⟩))
  accIn := by
    intro k hk
    rcases List.mem_append.mp hk with hk | hk
    · exact ⟨List.mem_append_left _ (h.accIn k hk).1, (h.accIn k hk).2⟩
    · have := List.mem_filter.mp hk
      exact ⟨List.mem_append_right _ this.1, this.2⟩

theorem winv_batchEnd {g : PMap} {has : Rev → Bool} {start : Rev} {w : Walk} {acc : List Rev}
    (h : WInv g has start w acc) (hpre : acc ≠ [] ∨ w.next = []) : WInv g has start (w.batchEnd g has acc) [] where
  sound := by
    intro k hk
    rcases List.mem_append.mp hk with hk | hk
    · exact h.sound k (List.mem_append_left _ hk)
    · exact h.sound k (List.mem_append_right _ (List.mem_filter.mp hk).1)
  disj := by
    intro k hk
    exact h.disj k (List.mem_filter.mp hk).1
  univ := by
    intro k hk
    rcases List.mem_append.mp hk with hk | hk
    · exact h.univ k (List.mem_append_left _ hk)
    · exact h.univ k (List.mem_append_right _ (List.mem_filter.mp hk).1)
  startIn := by
    rcases h.startIn with hs | ⟨hs, ha⟩
    · exact Or.inl hs
    · rcases hpre with hp | hp
      · exact absurd ha hp
      · rw [hp] at hs; cases hs
  ghost := by
    intro k hk hnone
    exact List.mem_append_left _ (h.ghost k hk hnone)
  closed := by
    intro j hj hns ps hps p hp
    have hns1 : j ∉ w.stopped := fun hc => hns (List.mem_append_left _ hc)
    have hns2 : j ∉ seenAnc g w.seen (acc.filter has) := fun hc => hns (List.mem_append_right _ hc)
    rcases h.closed j hj hns1 ps hps p hp with h1 | ⟨h1, h2⟩
    · exact Or.inl h1
    · refine Or.inr ⟨List.mem_filter.mpr ⟨h1, by simpa using hns2⟩, ?_⟩
      refine List.mem_filter.mpr ⟨h2, ?_⟩
      rw [List.any_eq_true]
      refine ⟨j, List.mem_filter.mpr ⟨h1, by simpa using hns2⟩, ?_⟩
      simp only [decide_eq_true_eq]
      exact mem_parentsL.mpr ⟨ps, hps, hp⟩
  why := by
    intro k hk
    rcases List.mem_append.mp hk with hk | hk
    · exact h.why k hk
    · obtain ⟨x, hx, hxs, hr⟩ := seenAnc_sound hk
      have hx' := List.mem_filter.mp hx
      exact Or.inr ⟨x, hx'.2, (h.accIn x hx'.1).2, h.sound x (List.mem_append_left _ hxs), hr⟩
  held := by
    intro k hk hhas hpres
    rcases h.held k hk hhas hpres with h1 | h1
    · exact Or.inl (List.mem_append_left _ h1)
    · exact Or.inl (List.mem_append_right _ ((mem_seenAnc ..).mpr
        (Reach.base (List.mem_filter.mpr ⟨List.mem_filter.mpr ⟨h1, hhas⟩, decide_eq_true hk⟩))))
  accIn := by intro k hk; cases hk

/-- keys of the universe not yet seen -/
def muW (g : PMap) (start : Rev) (w : Walk) : Nat :=
  ((allKeys g [start]).filter (· ∉ w.seen)).length

theorem muW_layer {g : PMap} {has : Rev → Bool} {start : Rev} {w : Walk} {acc : List Rev}
    (h : WInv g has start w acc) (hq : w.next ≠ []) : muW g start (w.layer g) < muW g start w := by
  obtain ⟨x, xs, hx⟩ := List.exists_cons_of_ne_nil hq
  have hxn : x ∈ w.next := hx ▸ List.mem_cons_self
  exact unseen_lt w.next (h.univ x (List.mem_append_right _ hxn)) (h.disj x hxn) hxn

theorem batchEnd_next_nil {g : PMap} {has : Rev → Bool} {w : Walk} {acc : List Rev} (h : w.next = []) :
    (w.batchEnd g has acc).next = [] := by
  simp [Walk.batchEnd, Walk.stopAny, h]

/-- the three branches of one iteration of `walkLoop` -/
theorem walkLoop_layer {g : PMap} {has : Rev → Bool} {n fuel : Nat} {w : Walk} {acc : List Rev}
    (hlen : acc.length < n) (hne : w.next ≠ []) :
    walkLoop g has n (fuel + 1) w acc = walkLoop g has n fuel (w.layer g) (acc ++ (w.layer g).cur) := by
  have : (decide (acc.length < n) && !w.next.isEmpty) = true := by
    rw [decide_eq_true hlen, List.isEmpty_eq_false_iff.mpr hne]
    rfl
  rw [walkLoop, if_pos this]

theorem walkLoop_exhausted {g : PMap} {has : Rev → Bool} {n fuel : Nat} {w : Walk} {acc : List Rev}
    (hlen : acc.length < n) (hnil : w.next = []) :
    walkLoop g has n (fuel + 1) w acc = some (w.batchEnd g has acc) := by
  have : ¬ (decide (acc.length < n) && !w.next.isEmpty) = true := by
    rw [hnil]
    simp
  rw [walkLoop, if_neg this, if_pos hlen]

theorem walkLoop_batch {g : PMap} {has : Rev → Bool} {n fuel : Nat} {w : Walk} {acc : List Rev}
    (hlen : ¬ acc.length < n) :
    walkLoop g has n (fuel + 1) w acc = walkLoop g has n fuel (w.batchEnd g has acc) [] := by
  have : ¬ (decide (acc.length < n) && !w.next.isEmpty) = true := by
    rw [decide_eq_false hlen]
    simp
  rw [walkLoop, if_neg this, if_neg hlen]

/-- a layer lowers the measure `2 * muW + [acc ≠ []]` -/
theorem fuel_layer {m m' b b' f : Nat} (h1 : m' < m) (h2 : b' ≤ 1) (h3 : 2 * m + b < f + 1) :
    2 * m' + b' < f :=
  have h4 : 2 * m' + b' + 1 ≤ 2 * m :=
    Nat.le_trans (Nat.add_le_add_right (Nat.add_le_add_left h2 _) 1) (Nat.mul_le_mul_left 2 h1)
  Nat.lt_of_succ_lt_succ (Nat.lt_of_le_of_lt (Nat.le_trans h4 (Nat.le_add_right _ _)) h3)

/-- Hoare rule for `walkLoop`: the loop terminates within its fuel, and every
property `Q` preserved by the two kinds of step holds, with the invariant, of
the final state (whose query is empty). -/
theorem walkLoop_run {g : PMap} {has : Rev → Bool} {n : Nat} {start : Rev} (hn : 0 < n)
    (Q : Walk → List Rev → Prop)
    (hQl : ∀ w acc, WInv g has start w acc → Q w acc → acc.length < n → w.next ≠ [] →
      Q (w.layer g) (acc ++ (w.layer g).cur))
    (hQs : ∀ w acc, WInv g has start w acc → Q w acc → (acc ≠ [] ∨ w.next = []) →
      Q (w.batchEnd g has acc) []) :
    ∀ (fuel : Nat) (w : Walk) (acc : List Rev), WInv g has start w acc → Q w acc →
      2 * muW g start w + (if acc = [] then 0 else 1) < fuel →
      ∃ w', walkLoop g has n fuel w acc = some w' ∧ WInv g has start w' [] ∧ Q w' [] ∧ w'.next = [] := by
  -- a layer lowers `muW`; a batch end keeps it and empties `acc`
  have hb : ∀ acc : List Rev, (if acc = [] then 0 else 1) ≤ 1 := fun acc => by split <;> decide
  intro fuel
  induction fuel with
  | zero => intro w acc _ _ hlt; exact absurd hlt (Nat.not_lt_zero _)
  | succ fuel ih =>
    intro w acc hinv hq hlt
    by_cases hlen : acc.length < n
    · by_cases hne : w.next = []
      · rw [walkLoop_exhausted hlen hne]
        exact ⟨_, rfl, winv_batchEnd hinv (Or.inr hne), hQs w acc hinv hq (Or.inr hne), batchEnd_next_nil hne⟩
      · rw [walkLoop_layer hlen hne]
        apply ih _ _ (winv_layer hinv) (hQl w acc hinv hq hlen hne)
        exact fuel_layer (muW_layer hinv hne) (hb _) hlt
    · have hacc : acc ≠ [] := by
        rintro rfl
        exact hlen hn
      rw [walkLoop_batch hlen]
      apply ih _ _ (winv_batchEnd hinv (Or.inl hacc)) (hQs w acc hinv hq (Or.inl hacc))
      rw [if_neg hacc] at hlt
      rw [if_pos rfl]
      exact Nat.lt_of_succ_lt_succ hlt
/-- the walk always terminates within its fuel, in a state satisfying the invariant (and `Q`) -/
theorem walkB_run {g : PMap} {has : Rev → Bool} {n : Nat} {start : Rev} (hn : 0 < n)
    (Q : Walk → List Rev → Prop)
    (hQ0 : Q ⟨[], [], [], [start]⟩ [])
    (hQl : ∀ w acc, WInv g has start w acc → Q w acc → acc.length < n → w.next ≠ [] →
      Q (w.layer g) (acc ++ (w.layer g).cur))
    (hQs : ∀ w acc, WInv g has start w acc → Q w acc → (acc ≠ [] ∨ w.next = []) →
      Q (w.batchEnd g has acc) []) :
    ∃ w', walkB g has n start = some w' ∧ WInv g has start w' [] ∧ Q w' [] ∧ w'.next = [] := by
  unfold walkB
  apply walkLoop_run hn Q hQl hQs _ _ _ (winv_init g has start) hQ0
  rw [if_pos rfl]
  exact Nat.lt_of_le_of_lt (Nat.mul_le_mul_left 2 (List.length_filter_le _ _)) (Nat.lt_add_of_pos_right (by decide))

section Final
variable {g : PMap} {has : Rev → Bool} {start : Rev} {w : Walk}

theorem final_sub (h : WInv g has start w []) {k : Rev} (hk : k ∈ w.seen) (hns : k ∉ w.stopped) :
    Reach g [] [start] k ∧ present g k = true := by
  refine ⟨h.sound k (List.mem_append_left _ hk), ?_⟩
  cases hp : parentsOf g k with
  | none => exact absurd (h.ghost k hk hp) hns
  | some ps => exact present_iff.mpr ⟨ps, hp⟩

theorem final_notin (h : WInv g has start w []) {k : Rev} (hk : k ∈ w.seen) (hns : k ∉ w.stopped) :
    has k = false := by
  cases hh : has k with
  | false => rfl
  | true =>
    rcases h.held k hk hh (final_sub h hk hns).2 with h1 | h1
    · exact absurd h1 hns
    · cases h1

/-- every key reachable from the start is in the result, or a ghost, or behind
a present key that the target holds and that is itself reachable -/
theorem final_cases (h : WInv g has start w []) (hnext : w.next = []) {k : Rev}
    (hr : Reach g [] [start] k) :
    (k ∈ w.seen ∧ k ∉ w.stopped) ∨ parentsOf g k = none ∨
      ∃ x, has x = true ∧ present g x = true ∧ Reach g [] [start] x ∧ Reach g [] [x] k := by
  have hstart : start ∈ w.seen := by
    rcases h.startIn with hs | ⟨hs, _⟩
    · exact hs
    · rw [hnext] at hs; cases hs
  have key : ∀ k, k ∈ w.seen → (k ∈ w.seen ∧ k ∉ w.stopped) ∨ parentsOf g k = none ∨
      ∃ x, has x = true ∧ present g x = true ∧ Reach g [] [start] x ∧ Reach g [] [x] k := by
    intro k hk
    by_cases hs : k ∈ w.stopped
    · exact Or.inr (h.why k hs)
    · exact Or.inl ⟨hk, hs⟩
  induction hr with
  | base hk => simp at hk; subst hk; exact key _ hstart
  | @step j k ps _ _ hps hk ih =>
    rcases ih with ⟨hj, hjs⟩ | hnone | ⟨x, hx1, hx2, hx3, hx4⟩
    · rcases h.closed j hj hjs ps hps k hk with h1 | ⟨_, h1⟩
      · exact key k h1
      · rw [hnext] at h1; cases h1
    · rw [hps] at hnone; cases hnone
    · exact Or.inr (Or.inr ⟨x, hx1, hx2, hx3, Reach.step hx4 (by simp) hps hk⟩)

end Final

/-- nothing stopped yet and everything seen is reachable from the start inside `seen`, or the search is dead -/
def HeldInv (g : PMap) (start : Rev) (w : Walk) (acc : List Rev) : Prop :=
  (w.next = [] ∧ ∀ k ∈ w.seen, k ∈ w.stopped) ∨
  ((∀ k ∈ w.seen, Reach (restrict g w.seen) [] [start] k) ∧
   (∀ p ∈ w.next, (p = start ∧ w.seen = []) ∨ ∃ j ∈ w.cur, p ∈ parentsL g j) ∧
   (∀ j ∈ w.cur, j ∈ w.seen) ∧
   (w.seen = [] → w.next = [start] ∧ acc = []) ∧
   (w.seen ≠ [] → start ∈ acc))

theorem heldInv_layer {g : PMap} {has : Rev → Bool} {start : Rev} (hp : present g start = true) {w : Walk} {acc : List Rev}
    (_hinv : WInv g has start w acc) (h : HeldInv g start w acc) (hne : w.next ≠ []) :
    HeldInv g start (w.layer g) (acc ++ (w.layer g).cur) := by
  rcases h with ⟨h1, _⟩ | ⟨hreach, hnext, hcur, hempty, hacc⟩
  · exact absurd h1 hne
  · refine Or.inr ⟨?_, ?_, ?_, ?_, ?_⟩
    · intro k hk
      show Reach (restrict g (w.seen ++ w.next)) [] [start] k
      rcases List.mem_append.mp hk with hk | hk
      · exact restrict_reach_mono (fun _ hx => List.mem_append_left _ hx) (hreach k hk)
      · rcases hnext k hk with ⟨h1, _⟩ | ⟨j, hj, hpj⟩
        · subst h1; exact Reach.base (by simp)
        · obtain ⟨ps, hps, hkp⟩ := mem_parentsL.mp hpj
          have hjr := restrict_reach_mono (seen' := w.seen ++ w.next) (fun _ hx => List.mem_append_left _ hx)
            (hreach j (hcur j hj))
          obtain ⟨ps', h1, h2⟩ := restrict_step (seen := w.seen ++ w.next).mpr
            ⟨List.mem_append_left _ (hcur j hj), List.mem_append_right _ hk, ps, hps, hkp⟩
          exact Reach.step hjr (by simp) h1 h2
    · intro p hpn
      obtain ⟨_, j, hj, ps, hps, hpp⟩ := mem_layer_next.mp hpn
      exact Or.inr ⟨j, List.mem_filter.mpr ⟨hj, present_iff.mpr ⟨ps, hps⟩⟩, mem_parentsL.mpr ⟨ps, hps, hpp⟩⟩
    · intro j hj
      exact List.mem_append_right _ (List.mem_filter.mp hj).1
    · intro hs
      have : w.next = [] := by
        have hs' : w.seen ++ w.next = [] := hs
        exact (List.append_eq_nil_iff.mp hs').2
      exact absurd this hne
    · intro _
      by_cases hs : w.seen = []
      · obtain ⟨hn, _⟩ := hempty hs
        apply List.mem_append_right
        show start ∈ w.next.filter (present g)
        rw [hn]; simp [hp]
      · exact List.mem_append_left _ (hacc hs)

theorem heldInv_batchEnd {g : PMap} {has : Rev → Bool} {start : Rev} (hh : has start = true) {w : Walk} {acc : List Rev}
    (hinv : WInv g has start w acc) (h : HeldInv g start w acc) (hpre : acc ≠ [] ∨ w.next = []) :
    HeldInv g start (w.batchEnd g has acc) [] := by
  rcases h with ⟨h1, h2⟩ | ⟨hreach, _, hcur, hempty, hacc⟩
  · exact Or.inl ⟨batchEnd_next_nil h1, fun k hk => List.mem_append_left _ (h2 k hk)⟩
  · have hs : w.seen ≠ [] := by
      intro hs
      obtain ⟨hn, ha⟩ := hempty hs
      rcases hpre with hp | hp
      · exact hp ha
      · rw [hp] at hn; cases hn
    have hsa := hacc hs
    have hstartSeen : start ∈ w.seen := (hinv.accIn start hsa).1
    have hall : ∀ k ∈ w.seen, k ∈ seenAnc g w.seen (acc.filter has) := by
      intro k hk
      rw [mem_seenAnc]
      refine reach_mono (fun x hx => ?_) (hreach k hk)
      simp only [List.mem_singleton] at hx
      subst hx
      simp [hsa, hh, hstartSeen]
    have hcurNil : w.cur.filter (· ∉ seenAnc g w.seen (acc.filter has)) = [] := by
      apply List.filter_eq_nil_iff.mpr
      intro j hj
      simp [hall j (hcur j hj)]
    refine Or.inl ⟨?_, fun k hk => List.mem_append_right _ (hall k hk)⟩
    show w.next.filter _ = []
    apply List.filter_eq_nil_iff.mpr
    intro p _
    rw [hcurNil]
    simp

theorem heldInv_init (g : PMap) (start : Rev) : HeldInv g start ⟨[], [], [], [start]⟩ [] := by
  refine Or.inr ⟨?_, ?_, ?_, fun _ => ⟨rfl, rfl⟩, fun h => absurd rfl h⟩
  · intro k hk; cases hk
  · intro p hp
    simp only [List.mem_singleton] at hp
    exact Or.inl ⟨hp, rfl⟩
  · intro j hj; cases hj

/-- the search started at a revision both repositories hold finds nothing -/
theorem walkB_held_nil {g : PMap} {has : Rev → Bool} {n : Nat} {start : Rev} (hn : 0 < n)
    (hp : present g start = true) (hh : has start = true) :
    ∃ w, walkB g has n start = some w ∧ w.seen.filter (· ∉ w.stopped) = [] := by
  obtain ⟨w, hw, _, hq, hnx⟩ := walkB_run (g := g) (has := has) (start := start) hn (HeldInv g start)
    (heldInv_init g start)
    (fun w acc hinv hq _ hne => heldInv_layer hp hinv hq hne)
    (fun w acc hinv hq hpre => heldInv_batchEnd hh hinv hq hpre)
  refine ⟨w, hw, ?_⟩
  rcases hq with ⟨_, h2⟩ | ⟨_, _, _, hempty, _⟩
  · apply List.filter_eq_nil_iff.mpr
    intro k hk
    simp [h2 k hk]
  · by_cases hs : w.seen = []
    · rw [hnx] at hempty; exact absurd (hempty hs).1 (by simp)
    · -- seen ≠ [] requires start ∈ acc = []
      rename_i hacc
      exact absurd (hacc hs) (by simp)

end BreezyVerif.C03
