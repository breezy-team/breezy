import BreezyVerif.Lemmas.C03
/-
C03 — copies.  What a copy produces (`Copied`: `fetchWithE` is one instance, a fetch into a
stacked repository and a bundle install are others), what it needs of the revisions sent
(`Covers`: a revision search into a closed target provides it, and so does a bundle whose
base the target holds) and of the texts sent (`StreamOK`), and the copy theorems —
completeness, faithfulness, consistency — for any such copy.  Nothing here depends on how
the revisions were found.
-/
namespace BreezyVerif.C03

open BreezyVerif.C33 (parentsL)

theorem fetchWithE_ok {ext : Bool} {src tgt t' : Repo} {m : List Rev} {es : List Entry}
    (h : fetchWithE ext src tgt m es = .ok t') :
    streamableE src m es = true ∧
    t'.revs = (copyE src tgt m es).revs ∧
    t'.texts = copyMap src.texts tgt.texts es ∧
    t'.invs = (copyE src tgt m es).invs ++ (if ext then parentInvFill src (copyE src tgt m es) m else []) := by
  unfold fetchWithE at h
  split at h
  · cases h
  · rename_i h2
    simp only [Except.ok.injEq] at h
    subst h
    refine ⟨by simpa using h2, ?_, ?_, ?_⟩ <;> cases ext <;> simp [withParentInvs, copyE, copyMap]

/-- what the copy theorems need of the revisions sent: they are source ancestors of `rev`, and
every source ancestor is sent or already held.  A revision search into a closed target provides
it (`SearchOK.covers`), and so does the revision set of a bundle whose base the target holds. -/
structure Covers (src tgt : Repo) (rev : Rev) (m : List Rev) : Prop where
  sub : ∀ k ∈ m, k ∈ anc src rev
  cover : ∀ k ∈ anc src rev, k ∈ m ∨ hasRev tgt k = true

/-- `t'` is `tgt` after the source's revision records and inventories of `m` and the texts of the
entries `es` were inserted, a key `tgt` holds keeping its value (`StreamSink.insert_stream`,
`RevisionInstaller`); the source has every inventory and text it is asked for.  `fetchWithE`,
a fetch into a stacked repository and the installation of a bundle all produce such a `t'`;
inventories beyond those of `m` (parent inventories) may have been added as well. -/
structure Copied (src tgt t' : Repo) (m : List Rev) (es : List Entry) : Prop where
  revs : ∀ k, get t'.revs k =
    match get tgt.revs k with
    | some v => some v
    | none => if k ∈ m then get src.revs k else none
  invsOld : ∀ {k i}, get tgt.invs k = some i → get t'.invs k = some i
  invsNew : ∀ {k}, k ∈ m → get tgt.invs k = none → get t'.invs k = get src.invs k
  textOld : ∀ {k c}, get tgt.texts k = some c → get t'.texts k = some c
  textNew : ∀ {e}, e ∈ es → get tgt.texts e.key = none → get t'.texts e.key = get src.texts e.key
  srcInv : ∀ k ∈ m, ∃ i, get src.invs k = some i
  srcText : ∀ e ∈ es, ∃ c, get src.texts e.key = some c

section Shape
variable {ext : Bool} {src tgt t' : Repo} {rev : Rev} {m : List Rev} {es : List Entry}

theorem copied_fetchWith (h : fetchWithE ext src tgt m es = .ok t') : Copied src tgt t' m es := by
  obtain ⟨hs, hr, ht, hi⟩ := fetchWithE_ok h
  refine ⟨fun k => by rw [hr]; exact copyE_revs_get .., fun hk => ?_, fun hk hn => ?_, fun hk => ?_,
    fun he hn => ?_, fun _ hk => streamableE_inv hs hk, fun _ he => streamableE_text hs he⟩
  · rw [hi]
    exact get_append_some (by rw [copyE_invs_get, hk])
  · obtain ⟨i, hsi⟩ := streamableE_inv hs hk
    rw [hi, hsi]
    exact get_append_some (by rw [copyE_invs_get, hn, if_pos hk, hsi])
  · rw [ht, copyMap_get, hk]
  · rw [ht, copyMap_get, hn]
    exact if_pos (List.mem_map_of_mem he)

/-- where each record the target holds afterwards comes from: it was there, or it is the source's
record of a sent revision, of a parent of one (its inventory), or of a streamed entry (its text) -/
theorem fetchWith_mem (h : fetchWithE ext src tgt m es = .ok t') :
    (∀ k v, (k, v) ∈ t'.revs → (k, v) ∈ tgt.revs ∨ (k ∈ m ∧ get src.revs k = some v)) ∧
    (∀ k v, (k, v) ∈ t'.invs → (k, v) ∈ tgt.invs ∨ (get src.invs k = some v ∧
      (k ∈ m ∨ ∃ j ∈ m, k ∈ parentsL (graph src) j))) ∧
    (∀ k v, (k, v) ∈ t'.texts → (k, v) ∈ tgt.texts ∨ get src.texts k = some v) := by
  obtain ⟨_, hr, ht, hi⟩ := fetchWithE_ok h
  rw [hr, ht, hi]
  refine ⟨fun k v hm => ?_, fun k v hm => ?_, fun k v hm => ?_⟩
  · exact (List.mem_append.mp hm).imp_right mem_keyed_filterMap
  · rcases List.mem_append.mp hm with hm | hm
    · exact (List.mem_append.mp hm).imp_right fun h1 =>
        ⟨(mem_keyed_filterMap h1).2, Or.inl (mem_keyed_filterMap h1).1⟩
    · cases ext
      · cases hm
      · obtain ⟨hp, hv⟩ := mem_keyed_filterMap hm
        exact Or.inr ⟨hv, Or.inr (List.mem_flatMap.mp (List.mem_filter.mp hp).1)⟩
  · refine (List.mem_append.mp hm).imp_right fun h1 => ?_
    obtain ⟨e, _, he⟩ := List.mem_filterMap.mp h1
    obtain ⟨c, hc, hkv⟩ := Option.map_eq_some_iff.mp he
    cases hkv
    exact hc

namespace Copied
variable (h : Copied src tgt t' m es)
include h

theorem monotone : Extends tgt t' :=
  ⟨fun k v hv => by rw [h.revs, hv], fun _ _ => h.invsOld, fun _ _ => h.textOld⟩

/-- the revisions the target holds afterwards: those it held, and the sent ones the source holds -/
theorem hasRev {k : Rev} :
    hasRev t' k = true ↔ hasRev tgt k = true ∨ (k ∈ m ∧ hasRev src k = true) := by
  unfold C03.hasRev
  rw [h.revs]
  cases get tgt.revs k with
  | some v => simp
  | none => by_cases hm : k ∈ m <;> simp [hm]

/-- the inventory of a revision of `m` is the source's afterwards (ids identify content) -/
theorem inv_of_sent (ha : agreeOn src.invs tgt.invs = true)
    {k : Rev} (hk : k ∈ m) {i : Inv} (hi : get src.invs k = some i) : get t'.invs k = some i := by
  cases hti : get tgt.invs k with
  | some i' => rw [agreeOn_eq ha hti hi]; exact h.invsOld hti
  | none => rw [h.invsNew hk hti, hi]

/-- the text of an entry that is streamed or whose text the target holds is present afterwards
and equal to the source's -/
theorem entry_text (ha : agree src tgt = true)
    {e : Entry} (he : e ∈ es ∨ ∃ c, get tgt.texts e.key = some c) :
    ∃ c, get t'.texts e.key = some c ∧ ∀ c', get src.texts e.key = some c' → c' = c := by
  cases ht : get tgt.texts e.key with
  | some c0 => exact ⟨c0, h.textOld ht, fun c' hc' => agreeOn_eq (agree_texts ha) ht hc'⟩
  | none =>
    rcases he with hse | ⟨c0, hc0⟩
    · obtain ⟨c, hcs⟩ := h.srcText e hse
      exact ⟨c, by rw [h.textNew hse ht, hcs], fun c' hc' => Option.some.inj (hc'.symm.trans hcs)⟩
    · rw [ht] at hc0
      cases hc0

end Copied
end Shape

/-- the text of every entry of every sent inventory is in the stream or already in the target -/
def StreamOK (src tgt : Repo) (m : List Rev) (es : List Entry) : Prop :=
  ∀ k ∈ m, ∀ i, get src.invs k = some i → ∀ e ∈ i, e ∈ es ∨ ∃ c, get tgt.texts e.key = some c

theorem text_of_held {src tgt : Repo} (ha : agree src tgt = true) (hcomp : complete tgt = true)
    {p : Rev} (hpt : hasRev tgt p = true) {ip : Inv} (hip : get src.invs p = some ip) {e : Entry} (he : e ∈ ip) :
    ∃ c, get tgt.texts e.key = some c := by
  obtain ⟨rec, hrec⟩ := (hasRev_iff ..).mp hpt
  obtain ⟨ip', hip', htexts⟩ := complete_inv hcomp hrec
  have : ip = ip' := agreeOn_eq (agree_invs ha) hip' hip
  subst this
  exact htexts e he

section Stream
variable {src tgt : Repo} {rev : Rev} {m : List Rev}

/-- the stream sources' filter is correct when the revisions sent cover the ancestry: an entry
it drops is in the inventory of a source-present boundary parent, which the target holds -/
theorem streamOK_filtered {x : Exclusion} (hcv : Covers src tgt rev m)
    (ha : agree src tgt = true) (hcomp : complete tgt = true)
    (hx : x = .revisionPresent ∨ noOrphanInv src = true) : StreamOK src tgt m (streamEntries x src m) := by
  intro k hk i hi e he
  by_cases hex : e ∈ excluded x src m
  · right
    unfold excluded at hex
    obtain ⟨p, hp, hep⟩ := List.mem_flatMap.mp hex
    obtain ⟨ip, hip, heip⟩ := mem_invOrEmpty hep
    have hpb : p ∈ boundary src m ∧ hasRev src p = true := by
      cases x with
      | asFound =>
        rcases hx with hx | hx
        · cases hx
        · exact ⟨hp, noOrphan_rev hx hip⟩
      | revisionPresent =>
        simp only [excludedParents, List.mem_filter] at hp
        exact hp
    obtain ⟨⟨j, hj, rec, hrec, hpr⟩, hnot⟩ := mem_boundary.mp hpb.1
    exact text_of_held ha hcomp
      ((hcv.cover p (parent_mem_anc (hcv.sub j hj) hrec hpr hpb.2)).resolve_left hnot) hip heip
  · exact Or.inl (mem_streamEntries.mpr ⟨⟨k, hk, by rw [invOrEmpty_of_get hi]; exact he⟩, hex⟩)

/-- the per-revision selection (`InterDifferingSerializer`) is correct when the revisions sent
cover the ancestry and the history is acyclic: an entry shared with a
parent is, by induction towards the roots, sent with an ancestor or already held -/
theorem streamOK_perRevision (hcv : Covers src tgt rev m)
    (ha : agree src tgt = true) (hcomp : complete tgt = true)
    (hno : noOrphanInv src = true) (d : Rev → Nat) (hacyc : acyclicBy d src = true) :
    StreamOK src tgt m (streamEntriesP src m) := by
  have key : ∀ N k, d k < N → k ∈ m → ∀ i, get src.invs k = some i → ∀ e ∈ i,
      e ∈ streamEntriesP src m ∨ ∃ c, get tgt.texts e.key = some c := by
    intro N
    induction N with
    | zero => intro k hk; exact absurd hk (Nat.not_lt_zero _)
    | succ N ih =>
      intro k hdk hk i hi e he
      by_cases hpar : e ∈ (parentsL (graph src) k).flatMap (invOrEmpty src)
      · obtain ⟨p, hp, hep⟩ := List.mem_flatMap.mp hpar
        obtain ⟨ip, hip, heip⟩ := mem_invOrEmpty hep
        obtain ⟨rec, hrec, hpr⟩ := mem_parentsL_graph.mp hp
        have hps : hasRev src p = true := noOrphan_rev hno hip
        have hpa : p ∈ anc src rev := parent_mem_anc (hcv.sub k hk) hrec hpr hps
        have hlt : d p < d k := acyclicBy_lt hacyc hrec hpr
        rcases hcv.cover p hpa with hpm | hpt
        · exact ih p (Nat.lt_of_lt_of_le hlt (Nat.le_of_lt_succ hdk)) hpm ip hip e heip
        · exact Or.inr (text_of_held ha hcomp hpt hip heip)
      · left
        unfold streamEntriesP
        exact List.mem_flatMap.mpr ⟨k, hk, List.mem_filter.mpr
          ⟨by rw [invOrEmpty_of_get hi]; exact he, by simp [hpar]⟩⟩
  intro k hk i hi e he
  exact key (d k + 1) k (Nat.lt_succ_self _) hk i hi e he

theorem streamOK_kind {s : StreamKind} (hcv : Covers src tgt rev m)
    (ha : agree src tgt = true) (hcomp : complete tgt = true)
    (d : Rev → Nat) (hs : kindOK s d src = true) : StreamOK src tgt m (s.entries src m) := by
  cases s with
  | filtered x =>
    refine streamOK_filtered hcv ha hcomp ?_
    simpa [kindOK] using hs
  | perRevision =>
    simp only [kindOK, Bool.and_eq_true] at hs
    exact streamOK_perRevision hcv ha hcomp hs.1 d hs.2

/-- under a correct stream filter the text of every entry of every inventory of the source
ancestry is in the stream or already in the target -/
theorem streamOK_anc {es : List Entry} (hcv : Covers src tgt rev m) (hso : StreamOK src tgt m es)
    (ha : agree src tgt = true) (hcomp : complete tgt = true)
    {k : Rev} (hk : k ∈ anc src rev) {i : Inv} (hi : get src.invs k = some i) {e : Entry} (he : e ∈ i) :
    e ∈ es ∨ ∃ c, get tgt.texts e.key = some c :=
  (hcv.cover k hk).elim (fun hm => hso k hm i hi e he) fun ht => Or.inr (text_of_held ha hcomp ht hi he)

end Stream

/-- The value (content, or per-file parents) stored under the key of an entry that is streamed
or whose text the target holds: present afterwards and equal to the source's.  `sm`/`tm` are
the source's and the target's map, `copyMap sm tm es` the target's map afterwards. -/
theorem entry_valueG {β : Type} [DecidableEq β] {tgt : Repo} {es : List Entry}
    {sm tm : List (TextKey × β)} (hagree : agreeOn sm tm = true)
    (htm : ∀ k c, get tgt.texts k = some c → ∃ v, get tm k = some v)
    (hsm : ∀ e ∈ es, ∃ v, get sm e.key = some v)
    {e : Entry} (he : e ∈ es ∨ ∃ c, get tgt.texts e.key = some c) :
    ∃ c, get (copyMap sm tm es) e.key = some c ∧ ∀ c', get sm e.key = some c' → c' = c := by
  have hget := copyMap_get sm tm es e.key
  rcases he with hse | ⟨c0, hc0⟩
  · obtain ⟨c, hcs⟩ := hsm e hse
    cases ht : get tm e.key with
    | some c0 => exact ⟨c0, by rw [hget, ht], fun c' hc' => agreeOn_eq hagree ht hc'⟩
    | none =>
      refine ⟨c, ?_, fun c' hc' => by rw [hcs] at hc'; exact (Option.some.inj hc').symm⟩
      rw [hget, ht, if_pos (List.mem_map.mpr ⟨e, hse, rfl⟩), hcs]
  · obtain ⟨v, hv⟩ := htm _ _ hc0
    exact ⟨v, by rw [hget, hv], fun c' hc' => agreeOn_eq hagree hv hc'⟩

/-! ### the copy theorems, for any repository that is `Copied` from a source -/

/-- equal revision record and inventory give equal testament data -/
theorem testament_eq {src t' : Repo} {k : Rev}
    (h : get t'.revs k = get src.revs k ∧ ∀ i, get src.invs k = some i → get t'.invs k = some i)
    (hsi : (get src.invs k).isSome = true) : testament t' k = testament src k := by
  obtain ⟨i, hi⟩ := Option.isSome_iff_exists.mp hsi
  unfold testament
  rw [h.1, h.2 i hi, hi]

namespace Copied
variable {src tgt t' : Repo} {rev : Rev} {m : List Rev} {es : List Entry}

theorem holdsAnc (hcv : Covers src tgt rev m) (h : Copied src tgt t' m es) :
    ∀ k ∈ anc src rev, C03.hasRev t' k = true := fun k hk =>
  h.hasRev.mpr ((hcv.cover k hk).symm.imp_right fun hm => ⟨hm, ((mem_anc ..).mp hk).2⟩)

theorem faithful (ha : agree src tgt = true) (hcomp : complete tgt = true)
    (h : Copied src tgt t' m es) (k : Rev) (hk : k ∈ anc src rev) (hkt : C03.hasRev t' k = true) :
    get t'.revs k = get src.revs k ∧ ∀ i, get src.invs k = some i → get t'.invs k = some i := by
  obtain ⟨rec, hrec⟩ := (hasRev_iff ..).mp ((mem_anc ..).mp hk).2
  cases hg : get tgt.revs k with
  | some w =>
    refine ⟨by rw [h.revs, hg, hrec, agreeOn_eq (agree_revs ha) hg hrec], fun i hi => ?_⟩
    obtain ⟨i', hi', _⟩ := complete_inv hcomp hg
    rw [agreeOn_eq (agree_invs ha) hi' hi]
    exact h.invsOld hi'
  | none =>
    have hm : k ∈ m := (h.hasRev.mp hkt).elim
      (fun h1 => by rw [C03.hasRev, hg] at h1; cases h1) And.left
    exact ⟨by rw [h.revs, hg, if_pos hm], fun i hi => h.inv_of_sent (agree_invs ha) hm hi⟩

theorem texts_faithful (hcv : Covers src tgt rev m) (hso : StreamOK src tgt m es)
    (ha : agree src tgt = true) (hcomp : complete tgt = true) (h : Copied src tgt t' m es)
    (k : Rev) (hk : k ∈ anc src rev) (i : Inv) (hi : get src.invs k = some i) (e : Entry) (he : e ∈ i) :
    ∃ c, get t'.texts e.key = some c ∧ ∀ c', get src.texts e.key = some c' → c' = c :=
  h.entry_text ha (streamOK_anc hcv hso ha hcomp hk hi he)

theorem consistent (hso : StreamOK src tgt m es) (ha : agree src tgt = true)
    (hcomp : complete tgt = true) (h : Copied src tgt t' m es) : complete t' = true := by
  refine complete_intro fun k rec hmem => ?_
  rcases h.hasRev.mp (get_isSome_of_mem hmem) with ht | ⟨hm, _⟩
  · obtain ⟨v, hv⟩ := (hasRev_iff ..).mp ht
    obtain ⟨i, hi, htexts⟩ := complete_inv hcomp hv
    exact ⟨i, h.invsOld hi, fun e he => (htexts e he).imp fun c hc0 => h.textOld hc0⟩
  · obtain ⟨i, hi⟩ := h.srcInv k hm
    refine ⟨i, h.inv_of_sent (agree_invs ha) hm hi, fun e he => ?_⟩
    obtain ⟨c, hc0, _⟩ := h.entry_text ha (hso k hm i hi e he)
    exact ⟨c, hc0⟩

end Copied

end BreezyVerif.C03
