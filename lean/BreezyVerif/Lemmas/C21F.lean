import BreezyVerif.Lemmas.C21E
/-! C21 — left-hand chains are transitive; append-only along operation sequences;
bound operations in terms of `_update_revisions`. -/
namespace BreezyVerif.C21

/-- on a DAG the left-hand chain of a member of a left-hand chain is a part of it -/
theorem lhChain_trans (g : Graph) (hwf : wf g = true) (r x y : Rev) (hx : x ∈ lhChain g r)
    (hy : y ∈ lhChain g x) : y ∈ lhChain g r := by
  rw [lhChain_eq] at hx hy ⊢
  obtain ⟨e, he, rfl⟩ := List.mem_map.mp hx
  obtain ⟨pre, rest, hsplit⟩ := List.append_of_mem he
  rw [lhWalk_suffix g hwf r pre e rest hsplit] at hy
  rw [hsplit, List.map_append]
  exact List.mem_append_right _ hy

/-- the walk of `_check_history_violation` finds every member of the left-hand history -/
theorem lhFind_of_mem_lefthand (g : Graph) (r : Rev) (l : List Rev) (o : Rev)
    (h : lefthand g r = some l) (ho : o ∈ l) : lhFind g r o = .found := by
  rw [← lhChain_of_lefthand g r l h, lhChain_eq] at ho
  rw [lhFind_eq, if_pos ho]

/-- `set_last_revision_info` accepts when the branch is not append-only, has no
tip yet, or finds its tip in the left-hand history of the new tip -/
theorem setLast_accepts (g : Graph) (b : Br) (n : Nat) (t : Tip)
    (h : b.appendOnly = true → b.tip = none ∨
      ∃ o r l, b.tip = some o ∧ t = some r ∧ lefthand g r = some l ∧ o ∈ l) :
    setLast g b n t = .ok { b with tip := t, revno := n } := by
  rcases Bool.eq_false_or_eq_true b.appendOnly with hao | hao
  · rcases h hao with h0 | ⟨o, r, l, h1, h2, h3, h4⟩
    · simp [setLast, hao, checkHistoryViolation, h0]
    · simp [setLast, hao, checkHistoryViolation, h1, h2, lhFind_of_mem_lefthand g r l o h3 h4]
  · exact setLast_free g b n t hao

/-- what happens to one branch in one step as far as append-only is concerned:
the setting is kept, and when it is on, the tip stays, or there was no tip, or
the old tip lies on the left-hand chain of the new one -/
def AoStep (g : Graph) (b b' : Br) : Prop :=
  b'.appendOnly = b.appendOnly ∧
  (b.appendOnly = true → b'.tip = b.tip ∨ b.tip = none ∨
    ∃ o r, b.tip = some o ∧ b'.tip = some r ∧ o ∈ lhChain g r)

theorem AoStep.refl (g : Graph) (b : Br) : AoStep g b b := ⟨rfl, fun _ => Or.inl rfl⟩

theorem AoStep.trans (g : Graph) (hwf : wf g = true) {a b c : Br} (h1 : AoStep g a b) (h2 : AoStep g b c) :
    AoStep g a c := by
  refine ⟨h2.1.trans h1.1, ?_⟩
  intro hao
  have hb : b.appendOnly = true := h1.1.trans hao
  rcases h1.2 hao with e1 | e1 | ⟨o, r, ho, hr, hor⟩
  · -- a → b kept the tip
    rcases h2.2 hb with e2 | e2 | ⟨o', r', ho', hr', hor'⟩
    · exact Or.inl (e2.trans e1)
    · exact Or.inr (Or.inl (e1 ▸ e2))
    · exact Or.inr (Or.inr ⟨o', r', e1 ▸ ho', hr', hor'⟩)
  · exact Or.inr (Or.inl e1)
  · rcases h2.2 hb with e2 | e2 | ⟨o', r', ho', hr', hor'⟩
    · exact Or.inr (Or.inr ⟨o, r, ho, e2.trans hr, hor⟩)
    · rw [hr] at e2; cases e2
    · rw [hr] at ho'; cases ho'
      exact Or.inr (Or.inr ⟨o, r', ho, hr', lhChain_trans g hwf r' r o hor' hor⟩)

theorem setLast_aoStep (g : Graph) (b : Br) (n : Nat) (t : Tip) (b' : Br) (h : setLast g b n t = .ok b') :
    AoStep g b b' := by
  have he := setLast_ok g b n t b' h
  refine ⟨by rw [he], ?_⟩
  intro hao
  rcases setLast_append_only g b n t b' hao h with h0 | ⟨o, r, h1, h2, h3⟩
  · exact Or.inr (Or.inl h0)
  · exact Or.inr (Or.inr ⟨o, r, h1, by rw [he]; exact h2, h3⟩)

theorem update_aoStep (g : Graph) (src tgt : Br) (stop : Option Tip) (ow : Bool) (t' : Br)
    (h : updateRevisions g src tgt stop ow = .ok t') : AoStep g tgt t' := by
  rcases update_ok_inv g src tgt stop ow t' h with rfl | ⟨s, _, n, _, _, _, _, hs⟩
  · exact AoStep.refl g t'
  · exact setLast_aoStep g tgt n s t' hs

theorem run_aoStep (g : Graph) (hwf : wf g = true) (ops : List Op) (s : List Br) (i : Nat) (b : Br)
    (hb : s[i]? = some b) : ∃ b', (run g s ops)[i]? = some b' ∧ AoStep g b b' :=
  (run_pointwise (AoStep g) (fun _ => True) (AoStep.refl g) (fun _ _ _ => AoStep.trans g hwf) (fun _ _ _ _ => trivial)
    g ops (fun op _ src stop b b' _ h => update_aoStep g src b stop op.ow b' h) s (fun _ _ => trivial)).2 i b hb

/-- without overwrite and with the requested revision present, `_basic_push`'s
short cut (`old_revid == stop_revision`) agrees with `_update_revisions` -/
theorem basicPush_eq_update (g : Graph) (hwf : wf g = true) (src tgt : Br) (stop : Option Tip)
    (s : Tip) (rn : Option Nat) (hreq : requested src stop = some (s, rn)) (hp : tipPresent g s = true) :
    basicPush g src tgt stop false = updateRevisions g src tgt stop false := by
  unfold basicPush
  split
  · rename_i hst
    subst hst
    obtain ⟨h1, _⟩ := requested_some src tgt.tip s rn hreq
    subst h1
    rw [update_eq_spec g hwf, hreq]
    simp [updateSpec, hp, isAnc_refl]
  · rfl

end BreezyVerif.C21
