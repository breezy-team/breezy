import BreezyVerif.Lemmas.C10Wf
/-!
C10 — the bounded iterate of `selectIds` (`find_ids_across_trees`) reaches its
fixpoint: the selection is closed under children in either tree.
-/
namespace BreezyVerif.C10

theorem insertNew_nodup {l : List Id} (h : l.Nodup) (i : Id) : (insertNew l i).Nodup := by
  unfold insertNew
  split
  · exact h
  · rename_i hc
    have hni : i ∉ l := by simpa using hc
    rw [List.nodup_append]
    refine ⟨h, by simp, ?_⟩
    intro a ha b hb
    simp at hb; subst hb
    intro hab; subst hab; exact hni ha

theorem unionNew_nodup {l : List Id} (h : l.Nodup) (m : List Id) : (unionNew l m).Nodup := by
  unfold unionNew
  induction m generalizing l with
  | nil => exact h
  | cons x rest ih => exact ih (insertNew_nodup h x)

/-- nothing new is added by one more round -/
def Fix (src tgt : Tree) (s : List Id) : Prop := ∀ j ∈ expandChildren src tgt s, j ∈ s

theorem fix_expand {src tgt : Tree} {s : List Id} (h : Fix src tgt s) : Fix src tgt (expandChildren src tgt s) := by
  intro j hj
  rcases mem_expand.mp hj with h1 | ⟨m, hm, hc⟩
  · exact h1
  · exact mem_expand.mpr (Or.inr ⟨m, h m hm, hc⟩)

theorem expand_empty (src tgt : Tree) : expandChildren src tgt [] = [] := by
  simp [expandChildren, unionNew]

theorem iterate_expand_nil (src tgt : Tree) (n : Nat) : iterate (expandChildren src tgt) n [] = [] :=
  iterate_invariant (P := (· = [])) (fun _ h => h ▸ expand_empty src tgt) n [] rfl

/-- all ids of both trees -/
def bothIds (src tgt : Tree) : List Id := ids src ++ ids tgt

theorem expand_sub {src tgt : Tree} {s : List Id} (h : ∀ j ∈ s, j ∈ bothIds src tgt) :
    ∀ j ∈ expandChildren src tgt s, j ∈ bothIds src tgt := by
  intro j hj
  rcases mem_expand.mp hj with h1 | ⟨m, _, hc | hc⟩
  · exact h j h1
  · exact List.mem_append.mpr (Or.inl (childrenOf_sub_ids hc))
  · exact List.mem_append.mpr (Or.inr (childrenOf_sub_ids hc))

/-- either a fixpoint is reached within `n` rounds or every round added an id -/
theorem iterate_progress {src tgt : Tree} : ∀ (n : Nat) (s : List Id), s.Nodup →
    (∃ k, k ≤ n ∧ Fix src tgt (iterate (expandChildren src tgt) k s)) ∨
    s.length + n ≤ (iterate (expandChildren src tgt) n s).length := by
  intro n
  induction n with
  | zero => intro s _; right; simp [iterate]
  | succ n ih =>
    intro s hnd
    by_cases hf : Fix src tgt s
    · left; exact ⟨0, by omega, hf⟩
    · -- some `x` is new: the next list holds the duplicate-free `x :: s`
      have hgrow : s.length + 1 ≤ (expandChildren src tgt s).length := by
        unfold Fix at hf
        simp only [Classical.not_forall] at hf
        obtain ⟨x, hx, hxs⟩ := hf
        apply List.Nodup.length_le_of_subset (List.nodup_cons.mpr ⟨hxs, hnd⟩)
        intro j hj
        rcases List.mem_cons.mp hj with rfl | h
        · exact hx
        · exact mem_expand.mpr (Or.inl h)
      rcases ih (expandChildren src tgt s) (unionNew_nodup hnd _) with ⟨k, hk, hfix⟩ | hlen
      · left; exact ⟨k + 1, by omega, hfix⟩
      · right
        show s.length + (n + 1) ≤ (iterate (expandChildren src tgt) n (expandChildren src tgt s)).length
        omega

/-- after `|src| + |tgt|` rounds nothing can be added any more -/
theorem iterate_fix {src tgt : Tree} {s : List Id} (hnd : s.Nodup) (hsub : ∀ j ∈ s, j ∈ bothIds src tgt) :
    Fix src tgt (iterate (expandChildren src tgt) (src.length + tgt.length) s) := by
  rcases iterate_progress (src := src) (tgt := tgt) (src.length + tgt.length) s hnd with ⟨k, hk, hfix⟩ | hlen
  · obtain ⟨d, hd⟩ : ∃ d, src.length + tgt.length = k + d := ⟨src.length + tgt.length - k, by omega⟩
    rw [hd, iterate_add]
    exact iterate_invariant (P := Fix src tgt) (fun _ => fix_expand) d _ hfix
  · have hle := List.Nodup.length_le_of_subset
      (iterate_invariant (f := expandChildren src tgt) (P := List.Nodup) (fun _ h => unionNew_nodup h _)
        (src.length + tgt.length) s hnd)
      (iterate_invariant (f := expandChildren src tgt) (P := fun s => ∀ j ∈ s, j ∈ bothIds src tgt)
        (fun _ => expand_sub) (src.length + tgt.length) s hsub)
    have hb : (bothIds src tgt).length = src.length + tgt.length := by simp [bothIds, ids]
    have : s = [] := List.length_eq_zero_iff.mp (by omega)
    subst this
    rw [iterate_expand_nil]
    intro j hj
    rw [expand_empty] at hj; exact hj

theorem idAt_mem {t : Tree} {p : Path} {a : Id} (h : idAt t p = some a) : a ∈ ids t := by
  unfold idAt at h
  exact List.mem_of_find?_eq_some h

/-- **`find_ids_across_trees` is closed under children in either tree** -/
theorem selectIds_children_closed {src tgt : Tree} {filt : List Path} {p j : Id}
    (hp : p ∈ selectIds src tgt filt) (hj : j ∈ childrenOf src p ∨ j ∈ childrenOf tgt p) :
    j ∈ selectIds src tgt filt := by
  unfold selectIds at hp ⊢
  simp only at hp ⊢
  apply iterate_fix (unionNew_nodup (by simp) _) _ j (mem_expand.mpr (Or.inr ⟨p, hp, hj⟩))
  intro a ha
  rcases mem_unionNew.mp ha with h | h
  · cases h
  · rw [List.mem_flatMap] at h
    obtain ⟨q, _, hq⟩ := h
    rcases List.mem_append.mp hq with h' | h'
    · exact List.mem_append.mpr (Or.inr (idAt_mem (by simpa using h')))
    · exact List.mem_append.mpr (Or.inl (idAt_mem (by simpa using h')))

end BreezyVerif.C10
