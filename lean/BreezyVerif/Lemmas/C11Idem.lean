import BreezyVerif.Lemmas.C11
/-! C11 — lemmas: running the pass a second time changes nothing. -/
namespace BreezyVerif.C11
open BreezyVerif.C46 Forest

variable {c : Cfg} {pre pre' : Pre} {p : Path} {i : Info} {k k' : Forest} {x : Bool}

@[simp] theorem onPath_setV : onPath c p { i with versioned := x } = onPath c p i := rfl
@[simp] theorem sched_setV : sched c pre.ud p { i with versioned := x } = sched c pre.ud p i := rfl
@[simp] theorem passedOver_setV : passedOver c p { i with versioned := x } = passedOver c p i := rfl
@[simp] theorem opens_setV : opens c p { i with versioned := x } k = opens c p i k := rfl
@[simp] theorem isNestedTree_setV : isNestedTree { i with versioned := x } k = isNestedTree i k := rfl

theorem adds_congr (hc : hasCtl k' = hasCtl k) : adds c p { i with versioned := x } k' = adds c p i k := by
  simp only [adds, isNestedTree, hc]

theorem opens_congr (hc : hasCtl k' = hasCtl k) : opens c p { i with versioned := x } k' = opens c p i k := by
  simp only [opens, hc]; rfl

/-- a visit of the entry with a flag that can only have grown, in a mode that scans at most what
`m1` scans and with at most the conversions of `pre`, is a visit of the entry as it was -/
theorem visited_mono {m1 m2 : Mode} {y : Bool} (hm : m2 = .walk → m1 = .walk)
    (hd : k'.hasDir ".bzr" = k.hasDir ".bzr") (hu : pre'.ud = pre.ud)
    (hv : pre'.conv.contains p = true → pre.conv.contains p = true) (hy : i.versioned = true → y = true)
    (h : visited c pre' p m2 { i with versioned := y } k' x = true) : visited c pre p m1 i k x = true := by
  simp only [visited, Bool.or_eq_true, Bool.and_eq_true, beq_iff_eq] at h ⊢
  rcases h with ⟨a, b⟩ | ⟨a, b⟩
  · exact Or.inl ⟨hm a, b⟩
  · refine Or.inr ⟨hu ▸ a, ?_⟩
    -- a tree reference before is one afterwards
    cases ht : namedTreeRef c pre p i k
    · rfl
    · simp only [namedTreeRef, Bool.and_eq_true, Bool.not_eq_true', beq_iff_eq] at ht b
      obtain ⟨⟨⟨h1, h2⟩, h3⟩, h4⟩ := ht
      have h5 : pre'.conv.contains p = false := Bool.eq_false_iff.mpr fun h => by rw [hv h] at h4; cases h4
      rw [h1, hy h2, hd, h3, h5] at b
      cases b

/-- a second `step` on the result of a first one, in a mode that scans at most what the first
scanned (and with at most the conversions of the first), gives the same flag and scans at most
what the first scanned -/
theorem step_idem {m1 m2 : Mode} (hm : m2 = .walk → m1 = .walk) (hc : hasCtl k' = hasCtl k)
    (hd : k'.hasDir ".bzr" = k.hasDir ".bzr") (hu : pre'.ud = pre.ud)
    (hv : pre'.conv.contains p = true → pre.conv.contains p = true) :
    (step c pre' p m2 { i with versioned := (step c pre p m1 i k).1 } k').1 = (step c pre p m1 i k).1 ∧
      ((step c pre' p m2 { i with versioned := (step c pre p m1 i k).1 } k').2 = .walk →
        (step c pre p m1 i k).2 = .walk) := by
  generalize hF : (step c pre p m1 i k).1 = F
  rw [step_fst] at hF
  have hFo : (F || onPath c p i) = F := by
    rw [← hF]; cases i.versioned <;> cases onPath c p i <;> simp
  -- the second visit happens only if the first did: otherwise the first left the flag as phase 1 set it
  have key : visited c pre' p m2 { i with versioned := F } k' F = true →
      visited c pre p m1 i k (i.versioned || onPath c p i) = true := by
    cases h1 : visited c pre p m1 i k (i.versioned || onPath c p i)
    · rw [h1, Bool.false_and, Bool.or_false] at hF
      rw [← hF]
      exact fun h => h1 ▸ visited_mono hm hd hu hv (fun h => by rw [h]; rfl) h
    · exact fun _ => rfl
  -- and a first visit that adds has set the flag already
  have hFa : visited c pre p m1 i k (i.versioned || onPath c p i) = true → adds c p i k = true → F = true := by
    intro h1 h2; rw [← hF, h1, h2]; simp
  constructor
  · rw [step_fst]
    simp only [onPath_setV, adds_congr hc, hFo]
    cases ha : adds c p i k
    · rw [Bool.and_false, Bool.or_false]
    · cases h2 : visited c pre' p m2 { i with versioned := F } k' F
      · exact Bool.or_false F
      · rw [hFa (key h2) ha]; rfl
  · rw [step_snd_walk_iff, step_snd_walk_iff]
    simp only [onPath_setV, opens_congr hc, hFo]
    exact fun h => ⟨key h.1, h.2⟩

/-- a second pass in a mode that scans at most what the first scanned changes nothing -/
theorem pass_idem (c : Cfg) (pre pre' : Pre) (f : Forest) (here : Path) (m1 m2 : Mode)
    (hm : m2 = .walk → m1 = .walk) (hu : pre'.ud = pre.ud)
    (hv : ∀ p, pre'.conv.contains p = true → pre.conv.contains p = true) :
    pass c pre' here m2 (pass c pre here m1 f) = pass c pre here m1 f := by
  induction f generalizing here m1 m2 with
  | nil => rfl
  | cons i kids rest ih1 ih2 =>
    have hs := step_idem (c := c) (pre := pre) (pre' := pre') (p := here ++ [i.name]) (i := i) (k := kids)
      (k' := pass c pre (here ++ [i.name]) (step c pre (here ++ [i.name]) m1 i kids).2 kids) hm
      (pass_hasCtl _ _ _ _ _) (pass_hasDir _ _ _ _ _ _) hu (hv _)
    simp only [pass]
    rw [hs.1, ih1 _ _ _ hs.2, ih2 _ _ _ hm]

/-- an entry that is unversioned after the pass was unversioned before -/
theorem unversioned_of_pass {here : Path} {m : Mode} {f : Forest} (e : Path)
    (h : (match (pass c pre here m f).get e with | some (i, _) => !i.versioned | none => false) = true) :
    (match f.get e with | some (i, _) => !i.versioned | none => false) = true := by
  cases hg : f.get e with
  | none => rw [pass_get_none hg] at h; exact h
  | some x =>
    obtain ⟨i, k⟩ := x
    obtain ⟨m', _, h2⟩ := pass_get (c := c) (pre := pre) (here := here) (m := m) hg
    rw [h2] at h
    simp only [Bool.not_eq_true'] at h ⊢
    cases hv : i.versioned with
    | false => rfl
    | true => rw [step_of_v1 (by simp [hv])] at h; cases h

theorem unversionedBelow_pass {here : Path} {m : Mode} {f : Forest} (p n : Path)
    (h : unversionedBelow (pass c pre here m f) p n = true) : unversionedBelow f p n = true := by
  simp only [unversionedBelow, List.all_eq_true, Bool.or_eq_true] at h ⊢
  exact fun j hj => (h j hj).imp id (unversioned_of_pass _)

theorem convBefore_pass {here : Path} {m : Mode} {f : Forest} (names : List Path) (p : Path)
    (h : convBefore names (pass c pre here m f) p = true) : convBefore names f p = true := by
  simp only [convBefore, List.any_eq_true, Bool.and_eq_true] at h ⊢
  obtain ⟨n, hn, ⟨h1, h2⟩, h3⟩ := h
  exact ⟨n, hn, ⟨h1, h2⟩, unversionedBelow_pass p n h3⟩

theorem preOf_pass_conv (c' : Cfg) {here : Path} {m : Mode} (f : Forest) (p : Path)
    (h : (preOf c' (pass c pre here m f)).conv.contains p = true) : (preOf c' f).conv.contains p = true := by
  simp only [preOf, List.contains_eq_mem, List.mem_filter, decide_eq_true_eq] at h ⊢
  exact ⟨h.1, convBefore_pass _ _ h.2⟩

end BreezyVerif.C11
