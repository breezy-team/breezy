import BreezyVerif.Lemmas.C21C
/-! C21 — lemmas about revnos, `set_last_revision_info` and bound operations. -/
namespace BreezyVerif.C21

theorem revnoOK_iff (g : Graph) (b : Br) : revnoOK g b = true ↔ revnoOf g b.tip = some b.revno := by
  simp [revnoOK]

theorem requested_none (src : Br) (s : Tip) (rn : Option Nat)
    (h : requested src none = some (s, rn)) : s = src.tip ∧ rn = some src.revno := by
  by_cases h0 : src.tip = none
  · simp [requested, h0] at h
  · simp [requested, h0] at h
    exact ⟨h.1.symm, h.2.symm⟩

theorem requested_some (src : Br) (s' s : Tip) (rn : Option Nat)
    (h : requested src (some s') = some (s, rn)) : s = s' ∧ rn = none := by
  simp [requested] at h
  exact ⟨h.1.symm, h.2.symm⟩

theorem seed_lookup (src tgt : Br) (r' : Rev) (k' : Nat)
    (h : (seed tgt ++ seed src).lookup r' = some k') :
    (tgt.tip = some r' ∧ tgt.revno = k') ∨ (src.tip = some r' ∧ src.revno = k') := by
  have one : ∀ b : Br, (seed b).lookup r' = some k' → b.tip = some r' ∧ b.revno = k' := by
    intro b hb
    unfold seed at hb
    cases ht : b.tip with
    | none => rw [ht] at hb; cases hb
    | some a =>
      rw [ht] at hb
      by_cases hra : r' = a
      · subst hra
        simp [List.lookup] at hb
        exact ⟨rfl, hb⟩
      · simp only [List.lookup, beq_eq_false_iff_ne.2 hra] at hb
        cases hb
  rw [List.lookup_append] at h
  cases h1 : (seed tgt).lookup r' with
  | some k =>
    rw [h1] at h
    cases h
    exact Or.inl (one tgt h1)
  | none =>
    rw [h1] at h
    exact Or.inr (one src h)

/-- the seeds `_update_revisions` hands to `find_distance_to_null` are correct
when both branches record correct revnos -/
theorem seeds_correct (g : Graph) (src tgt : Br) (hs : revnoOK g src = true) (ht : revnoOK g tgt = true) :
    ∀ r' k', (seed tgt ++ seed src).lookup r' = some k' → r' ∈ mentioned g →
      (lefthand g r').map List.length = some k' := by
  intro r' k' h _
  rw [revnoOK_iff] at hs ht
  rcases seed_lookup src tgt r' k' h with ⟨h1, h2⟩ | ⟨h1, h2⟩
  · rw [h1] at ht; rw [← h2]; simpa [revnoOf, lhTip] using ht
  · rw [h1] at hs; rw [← h2]; simpa [revnoOf, lhTip] using hs

theorem distTip_correct (g : Graph) (hwf : wf g = true) (src tgt : Br)
    (hs : revnoOK g src = true) (ht : revnoOK g tgt = true) (s : Tip) (hp : tipPresent g s = true)
    (n : Nat) (h : distTip (seed tgt ++ seed src) g s = some n) : revnoOf g s = some n := by
  cases s with
  | none => simp [distTip] at h; subst h; rfl
  | some r =>
    rw [← h]
    exact (dist_eq _ g hwf (seeds_correct g src tgt hs ht) r (present_mentioned g r hp)).symm

theorem distTip_complete (g : Graph) (hwf : wf g = true) (src tgt : Br)
    (hs : revnoOK g src = true) (ht : revnoOK g tgt = true) (s : Tip)
    (n : Nat) (h : revnoOf g s = some n) : distTip (seed tgt ++ seed src) g s = some n := by
  cases s with
  | none => simp [revnoOf, lhTip] at h; subst h; rfl
  | some r =>
    by_cases hm : r ∈ mentioned g
    · rw [← h]
      exact dist_eq _ g hwf (seeds_correct g src tgt hs ht) r hm
    · simp [revnoOf, lhTip, lefthand_not_mentioned g r hm] at h

theorem setLast_ok (g : Graph) (b : Br) (n : Nat) (t : Tip) (b' : Br) (h : setLast g b n t = .ok b') :
    b' = { b with tip := t, revno := n } := by
  unfold setLast at h
  split at h
  · split at h
    · cases h; rfl
    · cases h
  · cases h; rfl

theorem setLast_free (g : Graph) (b : Br) (n : Nat) (t : Tip) (h : b.appendOnly = false) :
    setLast g b n t = .ok { b with tip := t, revno := n } := by
  simp [setLast, h]

theorem update_ok_inv (g : Graph) (src tgt : Br) (stop : Option Tip) (ow : Bool) (t' : Br)
    (h : updateRevisions g src tgt stop ow = .ok t') :
    t' = tgt ∨ ∃ s rn n, requested src stop = some (s, rn) ∧ tipPresent g s = true ∧
      (ow = false → checkRelation (revisionRelations (heads g [s, tgt.tip]) s tgt.tip) = .ok false) ∧
      (rn = some n ∨ rn = none ∧ distTip (seed tgt ++ seed src) g s = some n) ∧
      setLast g tgt n s = .ok t' := by
  unfold updateRevisions at h
  cases hreq : requested src stop with
  | none => rw [hreq] at h; exact Or.inl (Except.ok.inj h).symm
  | some p =>
    obtain ⟨s, rn⟩ := p
    rw [hreq] at h
    cases hp : tipPresent g s with
    | false => simp [hp] at h
    | true =>
      simp only [hp, Bool.not_true, Bool.false_eq_true, if_false] at h
      have tail : (match rn with
            | some n => setLast g tgt n s
            | none => match distTip (seed tgt ++ seed src) g s with
              | none => .error .ghostRevno
              | some n => setLast g tgt n s) = .ok t' →
          ∃ n, (rn = some n ∨ rn = none ∧ distTip (seed tgt ++ seed src) g s = some n) ∧
            setLast g tgt n s = .ok t' := by
        intro h
        cases rn with
        | some n => exact ⟨n, Or.inl rfl, h⟩
        | none =>
          cases hd : distTip (seed tgt ++ seed src) g s with
          | none => rw [hd] at h; cases h
          | some n => rw [hd] at h; exact ⟨n, Or.inr ⟨rfl, rfl⟩, h⟩
      cases ow with
      | true =>
        obtain ⟨n, h1, h2⟩ := tail h
        exact Or.inr ⟨s, rn, n, rfl, hp, nofun, h1, h2⟩
      | false =>
        simp only [Bool.not_false, if_true] at h
        cases hc : checkRelation (revisionRelations (heads g [s, tgt.tip]) s tgt.tip) with
        | error e => rw [hc] at h; cases h
        | ok b =>
          rw [hc] at h
          cases b with
          | true => exact Or.inl (Except.ok.inj h).symm
          | false =>
            obtain ⟨n, h1, h2⟩ := tail h
            exact Or.inr ⟨s, rn, n, rfl, hp, fun _ => hc, h1, h2⟩

theorem check_false (g : Graph) (hwf : wf g = true) (s l : Tip)
    (h : checkRelation (revisionRelations (heads g [s, l]) s l) = .ok false) : isAnc g l s = true := by
  rw [check_cases g hwf] at h
  cases h1 : isAnc g s l <;> cases h2 : isAnc g l s <;> simp [h1, h2] at h ⊢

theorem update_revno_correct (g : Graph) (hwf : wf g = true) (src tgt : Br) (stop : Option Tip)
    (s : Tip) (rn : Option Nat) (n : Nat) (hreq : requested src stop = some (s, rn))
    (hp : tipPresent g s = true) (hs : revnoOK g src = true) (ht : revnoOK g tgt = true)
    (hn : rn = some n ∨ rn = none ∧ distTip (seed tgt ++ seed src) g s = some n) :
    revnoOf g s = some n := by
  rcases hn with rfl | ⟨rfl, hd⟩
  · cases stop with
    | none =>
      obtain ⟨rfl, h4⟩ := requested_none src s _ hreq
      cases h4
      exact (revnoOK_iff g src).1 hs
    | some s' => cases (requested_some src s' s _ hreq).2
  · exact distTip_correct g hwf src tgt hs ht s hp n hd

/-- an accepted new tip of an append-only branch has the old tip on its left-hand chain -/
theorem setLast_append_only (g : Graph) (b : Br) (n : Nat) (t : Tip) (b' : Br)
    (hao : b.appendOnly = true) (h : setLast g b n t = .ok b') :
    b.tip = none ∨ ∃ o r, b.tip = some o ∧ t = some r ∧ o ∈ lhChain g r := by
  unfold setLast at h
  simp only [hao, if_true] at h
  unfold checkHistoryViolation at h
  cases hb : b.tip with
  | none => exact Or.inl rfl
  | some o =>
    right
    rw [hb] at h
    cases t with
    | none => simp at h
    | some r =>
      simp only at h
      cases hf : lhFind g r o with
      | found => exact ⟨o, r, rfl, rfl, lhFind_found_chain g r o hf⟩
      | exhausted => rw [hf] at h; simp at h
      | ghost => rw [hf] at h; simp at h

theorem update_moves (g : Graph) (hwf : wf g = true) (src tgt : Br) (stop : Option Tip) (s : Tip)
    (rn : Option Nat) (ow : Bool) (hreq : requested src stop = some (s, rn)) (hp : tipPresent g s = true)
    (hrel : ow = false → isAnc g s tgt.tip = false ∧ isAnc g tgt.tip s = true)
    (hs : revnoOK g src = true) (ht : revnoOK g tgt = true) (n : Nat) (hn : revnoOf g s = some n)
    (hset : ∀ k, setLast g tgt k s = .ok { tgt with tip := s, revno := k }) :
    updateRevisions g src tgt stop ow = .ok { tgt with tip := s, revno := n } := by
  have hrel' : (!ow && isAnc g s tgt.tip) = false ∧ (!ow && !isAnc g tgt.tip s) = false := by
    cases ow with
    | true => exact ⟨rfl, rfl⟩
    | false => simp [hrel rfl]
  rw [update_eq_spec g hwf, hreq]
  simp only [updateSpec, hp, hrel'.1, hrel'.2, Bool.not_true, Bool.false_eq_true, if_false]
  cases stop with
  | none =>
    -- the revno is the one recorded by the source
    obtain ⟨rfl, rfl⟩ := requested_none src s rn hreq
    rw [Option.some.inj (((revnoOK_iff g src).1 hs).symm.trans hn)]
    exact hset n
  | some s' =>
    obtain ⟨_, rfl⟩ := requested_some src s' s rn hreq
    simp only [distTip_complete g hwf src tgt hs ht s n hn]
    exact hset n

theorem bound2_err_unchanged (f : Br → Except Err Br) (tgt : Br) (m : Option Br)
    (h : (bound2 f tgt m).err ≠ none) : (bound2 f tgt m).tgt = tgt := by
  cases m with
  | none =>
    cases hf : f tgt <;> simp [bound2, hf] at h ⊢
  | some mb =>
    cases hm : f mb with
    | error e => simp [bound2, hm]
    | ok m' => cases hf : f tgt <;> simp [bound2, hm, hf] at h ⊢

/-- a per-branch invariant of `f` carries over to both branches touched by a bound operation -/
theorem bound2_pres (P : Br → Br → Prop) (hrefl : ∀ b, P b b) (f : Br → Except Err Br)
    (hf : ∀ b b', f b = .ok b' → P b b') (tgt : Br) (m : Option Br) :
    P tgt (bound2 f tgt m).tgt ∧
      ∀ mb, m = some mb → ∃ mb', (bound2 f tgt m).master = some mb' ∧ P mb mb' := by
  cases m with
  | none =>
    cases h : f tgt with
    | ok t => simp only [bound2, h]; exact ⟨hf _ _ h, by simp⟩
    | error e => simp only [bound2, h]; exact ⟨hrefl _, by simp⟩
  | some mb =>
    cases hm : f mb with
    | error e =>
      simp only [bound2, hm]
      exact ⟨hrefl _, by intro mb0 h0; cases h0; exact ⟨mb, rfl, hrefl _⟩⟩
    | ok m' =>
      cases h : f tgt with
      | ok t =>
        simp only [bound2, hm, h]
        exact ⟨hf _ _ h, by intro mb0 h0; cases h0; exact ⟨m', rfl, hf _ _ hm⟩⟩
      | error e =>
        simp only [bound2, hm, h]
        exact ⟨hrefl _, by intro mb0 h0; cases h0; exact ⟨m', rfl, hf _ _ hm⟩⟩

/-- what every accepted `_update_revisions` establishes between the old and the new state of a branch
(and what holds when nothing changes) holds for the target and for the master of any pull or push:
`_basic_push` is `_update_revisions` or leaves the branch alone -/
theorem applyOp_pres (P : Br → Br → Prop) (hrefl : ∀ b, P b b) (g : Graph) (src : Br) (stop : Option Tip) (ow : Bool)
    (hupd : ∀ b b', updateRevisions g src b stop ow = .ok b' → P b b')
    (isPull : Bool) (tgt : Br) (m : Option Br) :
    P tgt (applyOp g isPull src tgt m stop ow).tgt ∧
      ∀ mb, m = some mb → ∃ mb', (applyOp g isPull src tgt m stop ow).master = some mb' ∧ P mb mb' := by
  cases isPull
  · refine bound2_pres P hrefl _ (fun b b' h => ?_) tgt m
    unfold basicPush at h
    split at h
    · cases h; exact hrefl b
    · exact hupd b b' h
  · exact bound2_pres P hrefl _ hupd tgt m

end BreezyVerif.C21
