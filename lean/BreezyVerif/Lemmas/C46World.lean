import BreezyVerif.Model.C46World
import BreezyVerif.Lemmas.C46Clean
/-! C46 — the file-system refinement (`Model/C46World.lean`) agrees with the
abstract layout model on the paths `clean_tree` selects. -/
namespace BreezyVerif.C46
open Forest

theorem primFor_lstat_accepts (k : Kind) : (primFor false k).accepts k = true := by
  cases k <;> decide

theorem dirsAbove_cons_self {i : Info} {kids rest : Forest} :
    dirsAbove (cons i kids rest) [i.name] = true := by
  simp [dirsAbove]

theorem dirsAbove_cons_down {i : Info} {kids rest : Forest} {a : String} {t : Path} :
    dirsAbove (cons i kids rest) (i.name :: a :: t) = (i.kind == .dir && dirsAbove kids (a :: t)) := by
  simp [dirsAbove]

theorem dirsAbove_cons_ne {i : Info} {kids rest : Forest} {n : String} {t : Path} (h : i.name ≠ n) :
    dirsAbove (cons i kids rest) (n :: t) = dirsAbove rest (n :: t) := by
  simp [dirsAbove, h]

/-- on a path whose upper components are real directories, deleting in the
world is removing the entry from the tree's layout; nothing else changes -/
theorem delIn_of_dirsAbove {out : Forest} {tg : List (Path × Path)} {pre : Path} {f : Forest} {p : Path}
    (h : dirsAbove f p = true) :
    delIn false out tg pre f p = (f.remove p).map fun t => (t, out) := by
  induction f, p using Forest.get.induct generalizing pre with
  | case1 | case2 => cases h
  | case3 j kids rest => simp only [delIn, remove_cons_self, primFor_lstat_accepts, if_true, Option.map_some]
  | case4 j kids rest a b ih =>
    rw [dirsAbove_cons_down, Bool.and_eq_true] at h
    simp only [delIn, remove_cons_down, h.1, if_true, ih h.2, Option.map_map]
    rfl
  | case5 j kids rest n q e ih =>
    rw [dirsAbove_cons_ne e] at h
    simp only [delIn, if_neg e, remove_cons_ne e, ih h, Option.map_map]
    rfl

/-- removing an unrelated entry keeps the directories above a path in place -/
theorem dirsAbove_remove {f f' : Forest} {p q : Path} (hr : f.remove p = some f')
    (hq : dirsAbove f q = true) (hn : ¬ p <+: q) : dirsAbove f' q = true := by
  induction f, p using Forest.get.induct generalizing q f' with
  | case1 | case2 => cases hr
  | case3 j kids rest =>
    cases remove_cons_self.symm.trans hr
    cases q with
    | nil => cases hq
    | cons m s =>
      have e : j.name ≠ m := fun e => hn (e ▸ List.cons_prefix_cons.mpr ⟨rfl, List.nil_prefix⟩)
      rwa [dirsAbove_cons_ne e] at hq
  | case4 j kids rest a b ih =>
    obtain ⟨k', hk, rfl⟩ := Option.map_eq_some_iff.mp (remove_cons_down.symm.trans hr)
    cases q with
    | nil => cases hq
    | cons m s =>
      by_cases e : j.name = m
      · subst e
        cases s with
        | nil => exact dirsAbove_cons_self
        | cons c d =>
          rw [dirsAbove_cons_down, Bool.and_eq_true] at hq ⊢
          exact ⟨hq.1, ih hk hq.2 fun hpre => hn (List.cons_prefix_cons.mpr ⟨rfl, hpre⟩)⟩
      · rwa [dirsAbove_cons_ne e] at hq ⊢
  | case5 j kids rest n t e ih =>
    obtain ⟨r', hk, rfl⟩ := Option.map_eq_some_iff.mp ((remove_cons_ne e).symm.trans hr)
    cases q with
    | nil => cases hq
    | cons m s =>
      by_cases e' : j.name = m
      · subst e'
        cases s with
        | nil => exact dirsAbove_cons_self
        | cons c d => rwa [dirsAbove_cons_down] at hq ⊢
      · rw [dirsAbove_cons_ne e'] at hq ⊢
        exact ih hk hq hn

/-- `delete_items` in the world on pairwise unrelated paths whose upper
components are real directories: exactly the abstract `deleteItems` on the
tree's layout; the outside area and the link targets are untouched -/
theorem deleteItemsW_refines (w : World) (ps : List Path)
    (hd : ∀ p ∈ ps, dirsAbove w.tree p = true)
    (hpw : ps.Pairwise (fun a b => ¬ a <+: b)) :
    deleteItemsW false false w ps =
      ({ w with tree := (deleteItems w.tree ps).1 }, (deleteItems w.tree ps).2) := by
  induction ps generalizing w with
  | nil => simp [deleteItemsW, deleteItems]
  | cons p ps ih =>
    rw [List.pairwise_cons] at hpw
    simp only [deleteItemsW, deleteItems, Bool.false_eq_true, if_false]
    rw [delIn_of_dirsAbove (hd p (by simp))]
    cases hr : w.tree.remove p with
    | none => simp
    | some t =>
      simp only [Option.map_some]
      have := ih { w with tree := t, outside := w.outside }
        (fun p' hp' => dirsAbove_remove hr (hd p' (by simp [hp'])) (hpw.1 p' hp')) hpw.2
      simpa using this

/-- `clean_tree` on the world in one line (the dry-run test is inside `delete_items`) -/
theorem cleanTreeW_eq {keep : Item → Bool} {fmt : Fmt} {o : Opts} {w : World} :
    cleanTreeW keep fmt o w =
      if o.prompt = some false then (w, false)
      else deleteItemsW false o.dryRun w ((selectedWith keep fmt o w.tree).map (·.path)) := by
  unfold cleanTreeW
  by_cases he : (selectedWith keep fmt o w.tree).isEmpty = true
  · simp [List.isEmpty_iff.mp he, deleteItemsW]
  · simp [he]

/-! ### `extras()` only descends into real directories -/

theorem IsWalk.dirsAbove {leaf enter : Info → Forest → Prop} {w : Forest → List Item}
    (hw : IsWalk leaf enter w) {f : Forest} {it : Item} (hf : f.wf = true) (h : it ∈ w f) :
    dirsAbove f it.path = true := by
  induction f generalizing it with
  | nil => rw [hw.1] at h; cases h
  | cons i kids rest ih1 ih2 =>
    obtain ⟨hn, _, _, _, _, _, hk, hr⟩ := wf_cons.mp hf
    obtain ⟨H, e, hH⟩ := hw.2 i kids rest
    rw [e, List.mem_append] at h
    rcases h with h | h
    · rcases hH with rfl | ⟨_, rfl⟩ | ⟨hd, _, rfl⟩
      · cases h
      · rw [List.mem_singleton.mp h]; exact dirsAbove_cons_self
      · obtain ⟨t, ht, rfl⟩ := List.mem_map.mp h
        obtain ⟨a, b, e, _⟩ := items_head (hw.trace ht).1
        have := ih1 hk ht
        rw [e] at this
        exact (congrArg _ (congrArg _ e)).trans (dirsAbove_cons_down.trans (by rw [hd, this]; rfl))
    · obtain ⟨a, t, e, ha⟩ := items_head (hw.trace h).1
      rw [e, dirsAbove_cons_ne fun e' => hn (e' ▸ ha), ← e]
      exact ih2 hr h

theorem extras_dirsAbove {fmt : Fmt} {f : Forest} {it : Item} (hw : f.wf = true) (h : it ∈ extras fmt f) :
    dirsAbove f it.path = true := by
  cases fmt with
  | bzr => exact extrasB_isWalk.dirsAbove hw h
  | git => exact filesG_isWalk.dirsAbove hw (List.mem_filter.mp h).1

/-- `dirsAbove` in terms of lookups: every proper non-empty prefix is a real directory -/
theorem dirsAbove_get {f : Forest} {r s : Path} (h : dirsAbove f (r ++ s) = true) (hr : r ≠ [])
    (hs : s ≠ []) : ∃ i k, f.get r = some (i, k) ∧ i.kind = .dir := by
  induction f, r using Forest.get.induct with
  | case1 => cases h
  | case2 => exact absurd rfl hr
  | case3 j kids rest =>
    obtain ⟨a, b, rfl⟩ := List.exists_cons_of_ne_nil hs
    rw [List.cons_append, List.nil_append, dirsAbove_cons_down, Bool.and_eq_true] at h
    exact ⟨j, kids, get_cons_self, eq_of_beq h.1⟩
  | case4 j kids rest a b ih =>
    rw [List.cons_append, List.cons_append, dirsAbove_cons_down, Bool.and_eq_true] at h
    rw [get_cons_down]
    exact ih h.2 (List.cons_ne_nil _ _)
  | case5 j kids rest n q e ih =>
    rw [List.cons_append, dirsAbove_cons_ne e] at h
    rw [get_cons_ne e]
    exact ih h (List.cons_ne_nil _ _)

/-! ### inventory shape -/

theorem allUnv_of_invShaped {k : Forest} (h : invShaped k = true) (ht : topUnversioned k = true) :
    k.allUnversioned = true := by
  induction k with
  | nil => rfl
  | cons i kids rest ih1 ih2 =>
    simp only [invShaped, Bool.and_eq_true, Bool.or_eq_true] at h
    simp only [topUnversioned, Bool.and_eq_true, Bool.not_eq_true'] at ht
    obtain ⟨⟨h1, h2⟩, h3⟩ := h
    have hk : topUnversioned kids = true := by
      rcases h1 with h1 | h1
      · rw [ht.1] at h1; simp at h1
      · exact h1
    simp only [Forest.allUnversioned, Bool.and_eq_true, Bool.not_eq_true']
    exact ⟨⟨ht.1, ih1 h2 hk⟩, ih2 h3 ht.2⟩

theorem unvClosed_of_invShaped {f : Forest} (h : invShaped f = true) : f.unvClosed = true := by
  induction f with
  | nil => rfl
  | cons i kids rest ih1 ih2 =>
    simp only [invShaped, Bool.and_eq_true, Bool.or_eq_true] at h
    obtain ⟨⟨h1, h2⟩, h3⟩ := h
    simp only [Forest.unvClosed, Bool.and_eq_true, Bool.or_eq_true]
    refine ⟨⟨?_, ih1 h2⟩, ih2 h3⟩
    rcases h1 with h1 | h1
    · exact Or.inl h1
    · exact Or.inr (allUnv_of_invShaped h2 h1)

theorem topUnv_of_allUnv {k : Forest} (h : k.allUnversioned = true) : topUnversioned k = true := by
  induction k with
  | nil => rfl
  | cons i kids rest _ ih2 =>
    simp only [Forest.allUnversioned, Bool.and_eq_true, Bool.not_eq_true'] at h
    simp only [topUnversioned, Bool.and_eq_true, Bool.not_eq_true']
    exact ⟨h.1.1, ih2 h.2⟩

theorem invShaped_of_unvClosed {f : Forest} (h : f.unvClosed = true) : invShaped f = true := by
  induction f with
  | nil => rfl
  | cons i kids rest ih1 ih2 =>
    simp only [Forest.unvClosed, Bool.and_eq_true, Bool.or_eq_true] at h
    obtain ⟨⟨h1, h2⟩, h3⟩ := h
    simp only [invShaped, Bool.and_eq_true, Bool.or_eq_true]
    refine ⟨⟨?_, ih1 h2⟩, ih2 h3⟩
    rcases h1 with h1 | h1
    · exact Or.inl h1
    · exact Or.inr (topUnv_of_allUnv h1)

end BreezyVerif.C46
