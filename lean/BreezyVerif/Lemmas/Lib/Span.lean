/-!
The first separator is where it was put.  A block of elements that satisfy `p`, followed by a rest
that does not begin with one, is found again by `takeWhile p` / `dropWhile p` (reading back a printed
field), and therefore a list has at most one such decomposition (two printed records that agree
have the same fields).
-/
namespace BreezyVerif.Lib

theorem span_append {α : Type _} {p : α → Bool} {l₁ l₂ : List α} (h1 : ∀ a ∈ l₁, p a = true)
    (h2 : ∀ x ∈ l₂.head?, p x = false) :
    (l₁ ++ l₂).takeWhile p = l₁ ∧ (l₁ ++ l₂).dropWhile p = l₂ := by
  rw [List.takeWhile_append_of_pos h1, List.dropWhile_append_of_pos h1]
  cases l₂ with
  | nil => simp
  | cons x l => simp [h2 x rfl]

theorem append_inj_of_span {α : Type _} {p : α → Bool} {a a' b b' : List α}
    (ha : ∀ x ∈ a, p x = true) (ha' : ∀ x ∈ a', p x = true)
    (hb : ∀ x ∈ b.head?, p x = false) (hb' : ∀ x ∈ b'.head?, p x = false)
    (h : a ++ b = a' ++ b') : a = a' ∧ b = b' := by
  have s := span_append ha hb
  have s' := span_append ha' hb'
  rw [h] at s
  exact ⟨s.1.symm.trans s'.1, s.2.symm.trans s'.2⟩

end BreezyVerif.Lib
