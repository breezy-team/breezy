import BreezyVerif.Lemmas.Lib.ListAux
/-!
Finite maps as association lists `List (κ × ν)` in which the first binding of a key wins, read with core's
`List.lookup`.  Each model has its own reader and writers.  The readers are all `List.lookup`:
`lookup_of_eqns` for those written by recursion (`C10.get`, `C37.lookup`, `C38.alGet`, `C43.kget`, …),
`lookup_eq_find?` for those written with `find?` (`C13.get`, `C14.alookup`, `C44.lookup`, …).  The writers that
replace a binding in place or else append one (`C37.insert`, `C38.alSet`, `C43.kput`, `C14.aset`, …) are
`AList.set`, those that drop a key (`C10.erase`, `C37.erase`, `C43.kdel`, `C14.aerase`, …) are `AList.erase`.
-/
namespace BreezyVerif.Lib

variable {κ ν : Type} [BEq κ]

theorem lookup_cons_beq (e : κ × ν) (l : List (κ × ν)) (k : κ) :
    (e :: l).lookup k = if k == e.1 then some e.2 else l.lookup k := by
  rw [List.lookup_cons]
  cases k == e.1 <;> rfl

variable [LawfulBEq κ]

theorem lookup_cons_ite [DecidableEq κ] (a : κ) (b : ν) (l : List (κ × ν)) (k : κ) :
    ((a, b) :: l).lookup k = if a = k then some b else l.lookup k := by
  by_cases h : a = k
  · simp [lookup_cons_beq, h]
  · simp [lookup_cons_beq, h, Ne.symm h]

/-- a reader that satisfies the two equations of `List.lookup` is `List.lookup` -/
theorem lookup_of_eqns [DecidableEq κ] {get : List (κ × ν) → κ → Option ν} (nil : ∀ k, get [] k = none)
    (cons : ∀ a b l k, get ((a, b) :: l) k = if a = k then some b else get l k) (l : List (κ × ν)) (k : κ) :
    get l k = l.lookup k := by
  induction l with
  | nil => exact nil k
  | cons e l ih => rw [cons, lookup_cons_ite, ih]

theorem lookup_eq_find? (l : List (κ × ν)) (k : κ) : l.lookup k = (l.find? (·.1 == k)).map (·.2) := by
  induction l with
  | nil => rfl
  | cons e l ih =>
    rw [lookup_cons_beq, List.find?_cons, BEq.comm, ih]
    cases e.1 == k <;> rfl

theorem mem_of_lookup {l : List (κ × ν)} {k : κ} {v : ν} (h : l.lookup k = some v) : (k, v) ∈ l := by
  obtain ⟨l₁, l₂, rfl, -⟩ := List.lookup_eq_some_iff.mp h
  simp

theorem lookup_eq_none_iff_keys {l : List (κ × ν)} {k : κ} : l.lookup k = none ↔ k ∉ l.map (·.1) := by
  induction l with
  | nil => simp
  | cons e l ih => by_cases hk : k = e.1 <;> simp [lookup_cons_beq, hk, ih]

theorem lookup_isSome_iff_keys {l : List (κ × ν)} {k : κ} : (l.lookup k).isSome ↔ k ∈ l.map (·.1) := by
  rw [Option.isSome_iff_ne_none, Ne, lookup_eq_none_iff_keys, Decidable.not_not]

/-- a binding is the one `lookup` finds when every binding of its key has its value -/
theorem lookup_of_mem_of_functional {l : List (κ × ν)} {k : κ} {v : ν} (h : (k, v) ∈ l)
    (hf : ∀ e ∈ l, e.1 = k → e.2 = v) : l.lookup k = some v := by
  induction l with
  | nil => cases h
  | cons e l ih =>
    rw [lookup_cons_beq]
    by_cases hk : k = e.1
    · rw [if_pos (beq_iff_eq.mpr hk), hf e List.mem_cons_self hk.symm]
    · rw [if_neg (mt eq_of_beq hk)]
      refine ih ((List.mem_cons.mp h).resolve_left fun he => hk (he ▸ rfl)) fun e' he' => hf e' (List.mem_cons_of_mem _ he')

/-- in particular when the keys are distinct -/
theorem lookup_of_mem {l : List (κ × ν)} (hn : (l.map (·.1)).Nodup) {k : κ} {v : ν} (h : (k, v) ∈ l) :
    l.lookup k = some v :=
  lookup_of_mem_of_functional h fun _ he hk => congrArg Prod.snd (inj_of_nodup_map (·.1) hn he h hk)

theorem lookup_filter_key (l : List (κ × ν)) (p : κ → Bool) (k : κ) :
    (l.filter fun e => p e.1).lookup k = if p k then l.lookup k else none := by
  induction l with
  | nil => simp
  | cons e l ih =>
    rw [List.filter_cons]
    by_cases hk : k = e.1
    · subst hk
      cases hp : p e.1
      · simpa [hp] using ih
      · simp [lookup_cons_beq]
    · split <;> simp [lookup_cons_beq, hk, ih]

theorem lookup_map_snd {ν' : Type} (l : List (κ × ν)) (g : κ → ν → ν') (k : κ) :
    (l.map fun e => (e.1, g e.1 e.2)).lookup k = (l.lookup k).map (g k) := by
  induction l with
  | nil => rfl
  | cons e l ih =>
    rw [List.map_cons, lookup_cons_beq, lookup_cons_beq, ih]
    by_cases hk : k = e.1
    · subst hk; simp
    · simp [hk]

/-- the map that binds each `x` of `l` on which `f` is defined to `f x` -/
theorem lookup_filterMap_keyed (f : κ → Option ν) (l : List κ) (k : κ) :
    (l.filterMap fun x => (f x).map fun v => (x, v)).lookup k = if k ∈ l then f k else none := by
  induction l with
  | nil => rfl
  | cons x l ih =>
    rw [List.filterMap_cons]
    by_cases hk : k = x
    · subst hk; cases hf : f k <;> simp [ih, hf, lookup_cons_beq]
    · cases hf : f x <;> simp [ih, hk, lookup_cons_beq]

namespace AList

/-- `d[k] := v`: replace the first binding of `k` where it stands, or append one -/
def set : List (κ × ν) → κ → ν → List (κ × ν)
  | [], k, v => [(k, v)]
  | (a, b) :: r, k, v => if a == k then (k, v) :: r else (a, b) :: set r k v

theorem lookup_set [DecidableEq κ] (l : List (κ × ν)) (k j : κ) (v : ν) :
    (set l k v).lookup j = if j = k then some v else l.lookup j := by
  induction l with
  | nil => simp [set, lookup_cons_beq]
  | cons e l ih =>
    unfold set
    by_cases ha : e.1 = k <;> by_cases hj : j = k <;> by_cases hja : j = e.1 <;> simp_all [lookup_cons_beq]

theorem set_of_lookup_some {l : List (κ × ν)} {k : κ} {v : ν} (h : l.lookup k = some v) : set l k v = l := by
  induction l with
  | nil => cases h
  | cons e l ih =>
    rw [lookup_cons_beq] at h
    unfold set
    by_cases ha : e.1 = k
    · subst ha; simp_all; exact h ▸ rfl
    · rw [if_neg (by simpa using Ne.symm ha)] at h; simp [ha, ih h]

theorem set_of_lookup_none {l : List (κ × ν)} {k : κ} (v : ν) (h : l.lookup k = none) :
    set l k v = l ++ [(k, v)] := by
  induction l with
  | nil => rfl
  | cons e l ih =>
    rw [lookup_cons_beq] at h
    unfold set
    by_cases ha : e.1 = k
    · subst ha; simp at h
    · rw [if_neg (by simpa using Ne.symm ha)] at h; simp [ha, ih h]

/-- drop every binding of `k` -/
def erase (l : List (κ × ν)) (k : κ) : List (κ × ν) := l.filter (·.1 != k)

theorem lookup_erase [DecidableEq κ] (l : List (κ × ν)) (k j : κ) :
    (erase l k).lookup j = if j = k then none else l.lookup j := by
  rw [erase, lookup_filter_key l (· != k)]
  by_cases h : j = k <;> simp [h]

/-- the keys stay where they are; a new one goes to the end -/
theorem keys_set (l : List (κ × ν)) (k : κ) (v : ν) :
    (set l k v).map (·.1) = if k ∈ l.map (·.1) then l.map (·.1) else l.map (·.1) ++ [k] := by
  induction l with
  | nil => simp [set]
  | cons e l ih =>
    obtain ⟨a, b⟩ := e
    unfold set
    by_cases ha : a = k
    · simp [ha]
    · simp only [beq_iff_eq, ha, if_false, List.map_cons, ih, List.mem_cons, Ne.symm ha, false_or]
      split <;> rfl

theorem nodup_keys_set {l : List (κ × ν)} (h : (l.map (·.1)).Nodup) (k : κ) (v : ν) :
    ((set l k v).map (·.1)).Nodup := by
  rw [keys_set]
  split
  · exact h
  · next hk => exact nodup_concat h hk

end AList
end BreezyVerif.Lib
