/-!
The models sort by insertion, each with its own copy of the two functions (`C04.insertDesc`/`sortDesc`,
`C24.insertKV`/`sortKV`, `C35.insertBy`/`sortBy`, `C43.insertByNew`/`sortByNew`, `C44.insertBy`/`sortBy`), which
differ in the comparison only.  Whatever the comparison, the result is a permutation of the input; a copy is
recognised by its defining equations, which hold by `rfl`.
-/
namespace BreezyVerif.Lib

variable {α : Type _}

/-- putting `x` before the first `y` with `c x y` permutes `x :: l` -/
theorem perm_insert (ins : α → List α → List α) (c : α → α → Prop) [DecidableRel c] (nil : ∀ x, ins x [] = [x])
    (cons : ∀ x y ys, ins x (y :: ys) = if c x y then x :: y :: ys else y :: ins x ys) (x : α) (l : List α) :
    (ins x l).Perm (x :: l) := by
  induction l with
  | nil => rw [nil]
  | cons y ys ih =>
    rw [cons]
    split
    · exact .refl _
    · exact (ih.cons y).trans (.swap x y ys)

/-- inserting the elements one by one, last first, permutes the list -/
theorem perm_insertSort {ins : α → List α → List α} (sort : List α → List α) (hins : ∀ x l, (ins x l).Perm (x :: l)) (nil : sort [] = [])
    (cons : ∀ x xs, sort (x :: xs) = ins x (sort xs)) (l : List α) : (sort l).Perm l := by
  induction l with
  | nil => rw [nil]
  | cons x xs ih => exact cons x xs ▸ (hins x _).trans (ih.cons x)

end BreezyVerif.Lib
