/-!
Ancestry in a revision graph kept as an association list `(node, parents)`, children first: the
ancestors of a node stand behind its entry, so the walk is a structural recursion.  Parents may be
named in another type `ρ` than the nodes `κ`; `mk : ρ → κ` turns a parent into the node it names
(`id` in a plain graph, `(f, ·)` in a per-file graph keyed by `(file, revision)`).

`sanc` (proper ancestors) is `C02.ranc` and `C02.fanc`; `anc` (the node included) is `C21.anc` and
`C23.anc`.  On a `Fresh` list proper ancestry is a strict partial order, `anc` a partial order.
-/
namespace BreezyVerif.Lib
section
variable {κ ρ : Type}

/-- proper ancestors of `x` -/
def sanc [DecidableEq κ] (mk : ρ → κ) : List (κ × List ρ) → κ → List ρ
  | [], _ => []
  | (k, ps) :: g, x => if k = x then ps ++ ps.flatMap (fun p => sanc mk g (mk p)) else sanc mk g x

/-- the nodes of the graph and the nodes its parent lists name -/
def mentioned (mk : ρ → κ) (g : List (κ × List ρ)) : List κ := g.flatMap fun e => e.1 :: e.2.map mk

/-- no node is its own parent, has a second entry further on, or is named as a parent further on -/
def Fresh (mk : ρ → κ) : List (κ × List ρ) → Prop
  | [] => True
  | (k, ps) :: g => k ∉ ps.map mk ∧ k ∉ mentioned mk g ∧ Fresh mk g

variable {mk : ρ → κ} {g : List (κ × List ρ)} {k x z : κ} {ps : List ρ} {p y : ρ}

theorem mentioned_append (a g : List (κ × List ρ)) :
    mentioned mk (a ++ g) = mentioned mk a ++ mentioned mk g :=
  List.flatMap_append

theorem fresh_append {a : List (κ × List ρ)} (ha : Fresh mk a) (hg : Fresh mk g)
    (h : ∀ e ∈ a, e.1 ∉ mentioned mk g) : Fresh mk (a ++ g) := by
  induction a with
  | nil => exact hg
  | cons e a ih =>
    obtain ⟨h1, h2, ha⟩ := ha
    refine ⟨h1, ?_, ih ha fun e he => h e (List.mem_cons_of_mem _ he)⟩
    change _ ∉ mentioned mk (a ++ g)
    rw [mentioned_append, List.mem_append]
    exact fun hm => hm.elim h2 (h e List.mem_cons_self)

variable [DecidableEq κ]

theorem sanc_cons_self : sanc mk ((k, ps) :: g) k = ps ++ ps.flatMap (fun p => sanc mk g (mk p)) :=
  if_pos rfl

theorem sanc_cons_ne (h : k ≠ x) : sanc mk ((k, ps) :: g) x = sanc mk g x :=
  if_neg h

theorem sanc_append {pre : List (κ × List ρ)} (h : ∀ e ∈ pre, e.1 ≠ x) :
    sanc mk (pre ++ g) x = sanc mk g x := by
  induction pre with
  | nil => rfl
  | cons e pre ih =>
    rw [List.cons_append, sanc_cons_ne (h e List.mem_cons_self)]
    exact ih fun e he => h e (List.mem_cons_of_mem _ he)

/-- a transitive relation that contains every stored edge contains ancestry -/
theorem sanc_induct (A : κ → ρ → Prop) (trans : ∀ x p y, A x p → A (mk p) y → A x y)
    (edge : ∀ e ∈ g, ∀ p ∈ e.2, A e.1 p) (h : y ∈ sanc mk g x) : A x y := by
  induction g generalizing x with
  | nil => cases h
  | cons e g ih =>
    obtain ⟨k, ps⟩ := e
    have ih := fun {x} => ih (x := x) fun e he => edge e (List.mem_cons_of_mem _ he)
    by_cases hk : k = x
    · subst hk
      rw [sanc_cons_self] at h
      rcases List.mem_append.mp h with h | h
      · exact edge _ List.mem_cons_self y h
      · obtain ⟨p, hp, h⟩ := List.mem_flatMap.mp h
        exact trans k p y (edge _ List.mem_cons_self p hp) (ih h)
    · rw [sanc_cons_ne hk] at h
      exact ih h

theorem sanc_mentioned (h : y ∈ sanc mk g x) : mk y ∈ mentioned mk g :=
  sanc_induct (fun _ y => mk y ∈ mentioned mk g) (fun _ _ _ _ h => h)
    (fun e he _ hp => List.mem_flatMap.mpr ⟨e, he, List.mem_cons_of_mem _ (List.mem_map_of_mem hp)⟩) h

/-- a stored parent, and every ancestor of that parent, is an ancestor -/
theorem sanc_of_parent (hf : Fresh mk g) (he : (k, ps) ∈ g) (hp : p ∈ ps) :
    p ∈ sanc mk g k ∧ ∀ y ∈ sanc mk g (mk p), y ∈ sanc mk g k := by
  induction g with
  | nil => cases he
  | cons e g ih =>
    obtain ⟨k', ps'⟩ := e
    obtain ⟨h1, h2, hf⟩ := hf
    rcases List.mem_cons.mp he with h | h
    · cases h
      rw [sanc_cons_self, sanc_cons_ne fun e : k = mk p => h1 (e ▸ List.mem_map_of_mem hp)]
      exact ⟨List.mem_append_left _ hp, fun y hy =>
        List.mem_append_right _ (List.mem_flatMap.mpr ⟨p, hp, hy⟩)⟩
    · have hk : k' ≠ k := fun e => h2 (e ▸ List.mem_flatMap.mpr ⟨_, h, List.mem_cons_self⟩)
      have hp' : k' ≠ mk p := fun e =>
        h2 (e ▸ List.mem_flatMap.mpr ⟨_, h, List.mem_cons_of_mem _ (List.mem_map_of_mem hp)⟩)
      rw [sanc_cons_ne hk, sanc_cons_ne hp']
      exact ih hf h

/-- ancestry contains the stored edges (`sanc_of_parent`) and is the least such transitive relation
(`sanc_induct`), hence is transitive itself -/
theorem sanc_trans (hf : Fresh mk g) {x : ρ} (hx : x ∈ sanc mk g z) (hy : y ∈ sanc mk g (mk x)) :
    y ∈ sanc mk g z :=
  sanc_induct (fun z x => ∀ y ∈ sanc mk g (mk x), y ∈ sanc mk g z) (fun _ _ _ h1 h2 y hy => h1 y (h2 y hy))
    (fun _ he _ hp => (sanc_of_parent hf he hp).2) hx y hy

theorem sanc_irrefl (hf : Fresh mk g) (x : ρ) : x ∉ sanc mk g (mk x) := by
  induction g with
  | nil => exact List.not_mem_nil
  | cons e g ih =>
    obtain ⟨k, ps⟩ := e
    obtain ⟨h1, h2, hf⟩ := hf
    by_cases hk : k = mk x
    · subst hk
      rw [sanc_cons_self]
      intro h
      rcases List.mem_append.mp h with h | h
      · exact h1 (List.mem_map_of_mem h)
      · obtain ⟨p, _, h⟩ := List.mem_flatMap.mp h
        exact h2 (sanc_mentioned h)
    · rw [sanc_cons_ne hk]
      exact ih hf

end

section
variable {α : Type} [DecidableEq α]

/-- ancestors of `r`, `r` included -/
def anc : List (α × List α) → α → List α
  | [], r => [r]
  | (n, ps) :: g, r => if n = r then r :: ps.flatMap (fun p => anc g p) else anc g r

variable {g : List (α × List α)} {a b c : α}

theorem mem_anc : a ∈ anc g b ↔ a = b ∨ a ∈ sanc id g b := by
  induction g generalizing b with
  | nil => simp [anc, sanc]
  | cons e g ih =>
    unfold anc sanc
    split
    · simp only [List.mem_cons, List.mem_append, List.mem_flatMap, ih, id, and_or_left, exists_or, exists_eq_right']
    · exact ih

theorem anc_self (g : List (α × List α)) (a : α) : a ∈ anc g a := mem_anc.mpr (Or.inl rfl)

theorem anc_trans (hf : Fresh id g) (h1 : a ∈ anc g b) (h2 : b ∈ anc g c) : a ∈ anc g c := by
  rw [mem_anc] at h1 h2 ⊢
  rcases h1 with rfl | h1
  · exact h2
  rcases h2 with rfl | h2
  · exact Or.inr h1
  · exact Or.inr (sanc_trans hf h2 h1)

theorem anc_antisymm (hf : Fresh id g) (h1 : a ∈ anc g b) (h2 : b ∈ anc g a) : a = b := by
  rw [mem_anc] at h1 h2
  rcases h1 with h | h1
  · exact h
  rcases h2 with h | h2
  · exact h.symm
  · exact absurd (sanc_trans hf h1 h2) (sanc_irrefl hf b)

end
end BreezyVerif.Lib
