/-!
Numerals: writing a number in a base and reading it back.

`digits dig b n` is the numeral of `n` in base `b`, most significant digit first, with `dig d` for the digit `d`;
`value val b acc s` is Horner's rule over the characters of `s`, with `val c` the digit a character stands for.
Reading what was written gives the number back (`value_digits`) as soon as `val (dig d) = some d` for `d < b`.
The models write the two recursions out again, with their own digit tables: `C29.natDigits`/`parseDigits` (any
base up to 16), `C33.toDec`/`parseDec` (with fuel and an accumulator; used by C32 and C51), `C39.natB`/`digitsV`,
`C24.dec`/`digitsVal` (digits found least significant first, with fuel; a reader that takes any byte); lemma
`<copy>_eq` in the silo shows each to be `digits` resp. `value`.
-/
namespace BreezyVerif.Lib

variable {α : Type}

def digits (dig : Nat → α) (b n : Nat) : List α :=
  if n < b ∨ b < 2 then [dig n] else digits dig b (n / b) ++ [dig (n % b)]
termination_by n
decreasing_by
  rename_i h
  have hb : 2 ≤ b := Nat.le_of_not_lt (not_or.1 h).2
  exact Nat.div_lt_self (Nat.lt_of_lt_of_le (Nat.lt_of_lt_of_le (by decide) hb) (Nat.le_of_not_lt (not_or.1 h).1)) hb

/-- for the copies that recur on fuel `n + 1`: the call on `n / b` stays within it -/
theorem div_lt_fuel {n fuel b : Nat} (h : n < fuel + 1) (hb : 2 ≤ b) (hn : ¬ n < b) : n / b < fuel :=
  Nat.lt_of_lt_of_le
    (Nat.div_lt_self (Nat.lt_of_lt_of_le (Nat.lt_of_lt_of_le (by decide) hb) (Nat.le_of_not_lt hn)) hb)
    (Nat.le_of_lt_succ h)

/-- `none` if `val` takes some character of the string for no digit -/
def value (val : α → Option Nat) (b acc : Nat) : List α → Option Nat
  | [] => some acc
  | c :: cs => (val c).bind fun d => value val b (acc * b + d) cs

theorem value_append (val : α → Option Nat) (b acc : Nat) (xs ys : List α) :
    value val b acc (xs ++ ys) = (value val b acc xs).bind fun a => value val b a ys := by
  induction xs generalizing acc with
  | nil => rfl
  | cons c cs ih => cases h : val c <;> simp [value, h, ih]

theorem digits_ne_nil (dig : Nat → α) (b n : Nat) : digits dig b n ≠ [] := by
  rw [digits]; split <;> simp

theorem mem_digits {dig : Nat → α} {b : Nat} (hb : 2 ≤ b) {n : Nat} {c : α} (h : c ∈ digits dig b n) :
    ∃ d, d < b ∧ c = dig d := by
  fun_induction digits dig b n with
  | case1 n hn => exact ⟨n, by omega, List.mem_singleton.1 h⟩
  | case2 n hn ih =>
    rcases List.mem_append.1 h with h | h
    · exact ih h
    · exact ⟨n % b, Nat.mod_lt _ (by omega), List.mem_singleton.1 h⟩

theorem value_digits {dig : Nat → α} {val : α → Option Nat} {b : Nat} (hb : 2 ≤ b)
    (h : ∀ d, d < b → val (dig d) = some d) (n : Nat) : value val b 0 (digits dig b n) = some n := by
  fun_induction digits dig b n with
  | case1 n hn => simp [value, h n (by omega)]
  | case2 n hn ih =>
    -- `n / b` is read first, then the last digit: `n / b * b + n % b = n`
    rw [value_append, ih]
    simp [value, h _ (Nat.mod_lt n (by omega : 0 < b)), Nat.div_add_mod']

/-- no leading zero, except in the numeral of 0 -/
theorem head_digits (dig : Nat → α) {b : Nat} (hb : 2 ≤ b) (n : Nat) :
    ∃ d t, digits dig b n = dig d :: t ∧ d < b ∧ (d = 0 → n = 0) := by
  fun_induction digits dig b n with
  | case1 n hn => exact ⟨n, [], rfl, by omega, id⟩
  | case2 n hn ih =>
    obtain ⟨d, t, e, hd, h0⟩ := ih
    refine ⟨d, t ++ [dig (n % b)], by rw [e]; rfl, hd, fun h => ?_⟩
    have := Nat.div_eq_zero_iff.1 (h0 h)
    omega

end BreezyVerif.Lib
