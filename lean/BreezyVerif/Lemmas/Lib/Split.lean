/-!
Splitting a list at a separator, and splitting it after a terminator.

Separator.  Python's `s.split(sep)` / `sep.join(l)` for a one-element separator are core's `List.splitOn sep`
and `[sep].intercalate`, and core proves the family `splitOn_ne_nil`, `splitOn_eq_singleton`,
`splitOn_append_cons_self`, `splitOn_append_cons_self_of_not_mem`, `intercalate_splitOn`, `splitOn_intercalate`,
`intercalate_cons_cons_left`, `intercalate_cons_of_ne_nil`.  Each model writes the recursion out again; a copy is
shown to be `List.splitOn` by one induction with `splitOn_cons` (lemma `<copy>_eq` in its silo): `C20.splitNL`,
`C29.splitByte` (and `C29.splitSoh = splitByte 1`), `C31.splitSl`, `C33.split`, `C34.splitSep`, `C34.splitNl`,
`C36.splitOnAll`, `C39.splitOnB`, `C42.splitSlash`, `C47.splitOn`, `C49.splitSlash`; and to be `intercalate`:
`C29.joinSoh`, `C31.joinSl`, `C33.join`, `C34.joinSep`, `C42.pathStr`, `C47.joinSlash`, `C49.joinSlash`.
What the silos need beyond core's family is proved here.  The family itself is restated for `[DecidableEq α]`:
core asks for `LawfulBEq`, and finding `LawfulBEq UInt8` walks the order classes first, at every use.

First separator.  `s.split(sep, 1)` / `s.find(sep)` with the two slices is `splitFirst`, with
`C29.splitLine = splitFirst 10`, `C29.splitColon = splitFirst 58`, `C36.splitOnFirst`, `C47.splitAtChar`
(and, with no lemmas of its own, `C30.splitAtByte`).

Terminator.  `readlines()` on bytes cuts after every `\n` and keeps it: `splitAfter`, with
`C34.readlines = C39.splitNL = C40.splitNL = splitAfter 10`.
-/
namespace BreezyVerif.Lib

variable {α : Type}

/-! ### at a separator -/

theorem mem_intercalate {sep c : α} : ∀ {l : List (List α)}, c ∈ [sep].intercalate l → c = sep ∨ ∃ x ∈ l, c ∈ x
  | [], h => by simp at h
  | [x], h => .inr ⟨x, List.mem_singleton_self x, by simpa using h⟩
  | x :: y :: r, h => by
    rw [List.intercalate_cons_cons, List.append_assoc, List.mem_append] at h
    rcases h with h | h
    · exact .inr ⟨x, List.mem_cons_self, h⟩
    · rcases List.mem_cons.1 h with h | h
      · exact .inl h
      · exact (mem_intercalate h).imp_right fun ⟨z, hz, hc⟩ => ⟨z, List.mem_cons_of_mem _ hz, hc⟩

/-- the join as first field and `sep`-prefixed further fields -/
theorem intercalate_cons (sep : α) (l : List α) (ls : List (List α)) :
    [sep].intercalate (l :: ls) = l ++ ls.flatMap (sep :: ·) := by
  induction ls generalizing l with
  | nil => simp
  | cons x t ih => simp [ih x]

theorem intercalate_append {sep : α} {a b : List (List α)} (ha : a ≠ []) (hb : b ≠ []) :
    [sep].intercalate (a ++ b) = [sep].intercalate a ++ sep :: [sep].intercalate b := by
  induction a with
  | nil => exact absurd rfl ha
  | cons x t ih =>
    cases t with
    | nil => simp [List.intercalate_cons_of_ne_nil hb]
    | cons y t => simpa using ih (List.cons_ne_nil y t)

variable [DecidableEq α]

theorem splitOn_cons (sep c : α) (cs : List α) :
    ∃ f fs, cs.splitOn sep = f :: fs ∧
      (c :: cs).splitOn sep = if c = sep then [] :: f :: fs else (c :: f) :: fs := by
  obtain ⟨f, fs, h⟩ := List.exists_cons_of_ne_nil (List.splitOn_ne_nil sep cs)
  exact ⟨f, fs, h, by simp [List.splitOn_cons_eq_if_modifyHead, h]⟩

theorem splitOn_of_not_mem {sep : α} {s : List α} (h : sep ∉ s) : s.splitOn sep = [s] :=
  List.splitOn_eq_singleton h

theorem splitOn_append_cons (sep : α) (a b : List α) :
    (a ++ sep :: b).splitOn sep = a.splitOn sep ++ b.splitOn sep :=
  List.splitOn_append_cons_self a b

theorem splitOn_append_cons_of_not_mem {sep : α} {a : List α} (h : sep ∉ a) (b : List α) :
    (a ++ sep :: b).splitOn sep = a :: b.splitOn sep :=
  List.splitOn_append_cons_self_of_not_mem h b

theorem intercalate_splitOn (sep : α) (s : List α) : [sep].intercalate (s.splitOn sep) = s :=
  List.intercalate_splitOn sep

theorem splitOn_intercalate (sep : α) {ls : List (List α)} (h : ∀ l ∈ ls, sep ∉ l) (hne : ls ≠ []) :
    ([sep].intercalate ls).splitOn sep = ls :=
  List.splitOn_intercalate sep h hne

theorem not_mem_of_mem_splitOn {sep : α} {s l : List α} (h : l ∈ s.splitOn sep) : sep ∉ l := by
  induction s generalizing l with
  | nil => simp_all
  | cons c cs ih =>
    obtain ⟨f, fs, e, e'⟩ := splitOn_cons sep c cs
    rw [e] at ih
    rw [e'] at h
    split at h
    · rcases List.mem_cons.1 h with rfl | h
      · exact List.not_mem_nil
      · exact ih h
    · rename_i hc
      rcases List.mem_cons.1 h with rfl | h
      · exact fun hm => (List.mem_cons.1 hm).elim (fun e => hc (by simp [e])) (ih List.mem_cons_self)
      · exact ih (List.mem_cons_of_mem _ h)

theorem mem_of_mem_splitOn {sep c : α} {s l : List α} (hl : l ∈ s.splitOn sep) (hc : c ∈ l) : c ∈ s := by
  rw [← intercalate_splitOn sep s]
  generalize s.splitOn sep = ls at hl
  induction ls with
  | nil => cases hl
  | cons x t ih =>
    cases t with
    | nil => simp_all
    | cons y t =>
      rw [List.intercalate_cons_cons, List.append_assoc]
      rcases List.mem_cons.1 hl with rfl | hl
      · exact List.mem_append_left _ hc
      · exact List.mem_append_right _ (List.mem_cons_of_mem _ (ih hl))

/-- reading back lines that were each written with a terminating `sep` -/
theorem splitOn_lines {sep : α} {ls : List (List α)} (h : ∀ l ∈ ls, sep ∉ l) (r : List α) :
    (ls.flatMap (· ++ [sep]) ++ r).splitOn sep = ls ++ r.splitOn sep := by
  induction ls with
  | nil => rfl
  | cons l t ih =>
    rw [List.flatMap_cons, List.append_assoc, List.append_assoc, List.singleton_append,
      splitOn_append_cons_of_not_mem (h l List.mem_cons_self),
      ih fun x hx => h x (List.mem_cons_of_mem _ hx), List.cons_append]

/-! ### at the first separator -/

/-- cut at the first `sep`: what stands before it and what after it; `none` if there is no `sep` -/
def splitFirst (sep : α) : List α → Option (List α × List α)
  | [] => none
  | c :: cs => if c = sep then some ([], cs) else (splitFirst sep cs).map fun p => (c :: p.1, p.2)

theorem splitFirst_append_cons {sep : α} {l : List α} (h : sep ∉ l) (r : List α) :
    splitFirst sep (l ++ sep :: r) = some (l, r) := by
  induction l with
  | nil => simp [splitFirst]
  | cons c l ih =>
    rw [List.mem_cons, not_or] at h
    simp [splitFirst, Ne.symm h.1, ih h.2]

theorem splitFirst_eq_none_iff {sep : α} {s : List α} : splitFirst sep s = none ↔ sep ∉ s := by
  induction s with
  | nil => simp [splitFirst]
  | cons c cs ih =>
    by_cases h : c = sep
    · simp [splitFirst, h]
    · simp [splitFirst, h, ih, Ne.symm h]

theorem of_splitFirst_eq_some {sep : α} {s l r : List α} (h : splitFirst sep s = some (l, r)) :
    s = l ++ sep :: r ∧ sep ∉ l := by
  induction s generalizing l with
  | nil => cases h
  | cons c cs ih =>
    rw [splitFirst] at h
    split at h
    · next hc => cases h; simp [hc]
    · next hc =>
      obtain ⟨⟨a, b⟩, hab, e⟩ := Option.map_eq_some_iff.1 h
      cases e
      obtain ⟨rfl, hn⟩ := ih hab
      exact ⟨rfl, by simp [Ne.symm hc, hn]⟩

/-! ### after a terminator -/

/-- cut after every `t`; the pieces keep their `t`, a last piece without one is kept if non-empty -/
def splitAfter (t : α) : List α → List (List α)
  | [] => []
  | c :: cs =>
    if c = t then [c] :: splitAfter t cs
    else match splitAfter t cs with
      | [] => [[c]]
      | l :: ls => (c :: l) :: ls

theorem flatten_splitAfter (t : α) (s : List α) : (splitAfter t s).flatten = s := by
  induction s with
  | nil => rfl
  | cons c cs ih =>
    rw [splitAfter]
    split
    · rw [List.flatten_cons, ih]; rfl
    · cases h : splitAfter t cs <;> simp_all

theorem splitAfter_ne_nil {t : α} {s : List α} (h : s ≠ []) : splitAfter t s ≠ [] := by
  intro e
  have := flatten_splitAfter t s
  rw [e] at this
  exact h this.symm

theorem splitAfter_cons_of_ne {t c : α} (hc : c ≠ t) {cs l : List α} {ls : List (List α)}
    (h : splitAfter t cs = l :: ls) : splitAfter t (c :: cs) = (c :: l) :: ls := by
  simp [splitAfter, hc, h]

/-- a piece that has no `t` before its end, followed by `t` -/
theorem splitAfter_line {t : α} {p : List α} (hp : t ∉ p) (rest : List α) :
    splitAfter t (p ++ t :: rest) = (p ++ [t]) :: splitAfter t rest := by
  induction p with
  | nil => simp [splitAfter]
  | cons c p ih =>
    rw [List.mem_cons, not_or] at hp
    exact splitAfter_cons_of_ne (Ne.symm hp.1) (ih hp.2)

theorem splitAfter_last {t : α} {p : List α} (hp : t ∉ p) (hne : p ≠ []) : splitAfter t p = [p] := by
  induction p with
  | nil => exact absurd rfl hne
  | cons c p ih =>
    rw [List.mem_cons, not_or] at hp
    cases p with
    | nil => simp [splitAfter, Ne.symm hp.1]
    | cons d p => exact splitAfter_cons_of_ne (Ne.symm hp.1) (ih hp.2 (List.cons_ne_nil d p))

/-- the text is cut where a piece ends, so the pieces of `a ++ b` are those of `a` and those of `b` -/
theorem splitAfter_append {t : α} {a : List α} (ha : a = [] ∨ a.getLast? = some t) (b : List α) :
    splitAfter t (a ++ b) = splitAfter t a ++ splitAfter t b := by
  induction a with
  | nil => rfl
  | cons c r ih =>
    have ha : (c :: r).getLast? = some t := ha.resolve_left (List.cons_ne_nil c r)
    by_cases hr : r = []
    · subst hr
      obtain rfl : c = t := by simpa using ha
      simp [splitAfter]
    · rw [List.getLast?_cons_of_ne_nil hr] at ha
      have ih := ih (.inr ha)
      obtain ⟨l, ls, e⟩ := List.exists_cons_of_ne_nil (splitAfter_ne_nil (t := t) hr)
      rw [List.cons_append, splitAfter, splitAfter, ih, e]
      split <;> rfl

/-- reading back pieces that each end in their only `t` -/
theorem splitAfter_flatten {t : α} {ls : List (List α)} (h : ∀ l ∈ ls, ∃ p, l = p ++ [t] ∧ t ∉ p)
    (rest : List α) : splitAfter t (ls.flatten ++ rest) = ls ++ splitAfter t rest := by
  induction ls with
  | nil => rfl
  | cons l ls ih =>
    obtain ⟨p, rfl, hp⟩ := h _ List.mem_cons_self
    rw [List.flatten_cons, List.append_assoc, List.append_assoc, List.singleton_append, splitAfter_line hp,
      ih fun x hx => h x (List.mem_cons_of_mem _ hx), List.cons_append]

/-- a piece is non-empty and has `t` at most as its last element -/
theorem of_mem_splitAfter {t : α} {s l : List α} (h : l ∈ splitAfter t s) : l ≠ [] ∧ t ∉ l.dropLast := by
  induction s generalizing l with
  | nil => cases h
  | cons c cs ih =>
    rw [splitAfter] at h
    split at h
    · rcases List.mem_cons.1 h with rfl | h
      · simp
      · exact ih h
    · rename_i hc
      cases e : splitAfter t cs with
      | nil => simp_all
      | cons l0 ls =>
        rw [e] at h ih
        rcases List.mem_cons.1 h with rfl | h
        · obtain ⟨hne, hd⟩ := ih List.mem_cons_self
          refine ⟨List.cons_ne_nil _ _, ?_⟩
          rw [List.dropLast_cons_of_ne_nil hne]
          exact fun hm => (List.mem_cons.1 hm).elim (fun e => hc (by simp [e])) hd
        · exact ih (List.mem_cons_of_mem _ h)

end BreezyVerif.Lib
