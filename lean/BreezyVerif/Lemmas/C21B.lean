import BreezyVerif.Lemmas.C21
/-! C21 — lemmas about tips, `heads` of two keys and the relation computed from it. -/
namespace BreezyVerif.C21

theorem isAnc_refl (g : Graph) (t : Tip) : isAnc g t t = true := by
  cases t with
  | none => rfl
  | some r => simp [isAnc, anc_self]

theorem isAnc_antisymm (g : Graph) (hwf : wf g = true) (a b : Tip)
    (h1 : isAnc g a b = true) (h2 : isAnc g b a = true) : a = b := by
  cases a <;> cases b <;> simp [isAnc] at h1 h2 ⊢
  exact anc_antisymm g hwf _ _ h1 h2

theorem isAnc_trans (g : Graph) (hwf : wf g = true) (a b c : Tip)
    (h1 : isAnc g a b = true) (h2 : isAnc g b c = true) : isAnc g a c = true := by
  cases a <;> cases b <;> cases c <;> simp [isAnc] at h1 h2 ⊢
  exact anc_trans g hwf _ _ _ h1 h2

/-- the relation computed by `_revision_relations(a, b)` from `heads([a, b])`, in
terms of ancestry -/
theorem relation_contained (g : Graph) (hwf : wf g = true) (a b : Tip) (h : isAnc g a b = true) :
    revisionRelations (heads g [a, b]) a b = .bDescendsFromA := by
  by_cases hab : a = b
  · subst hab
    simp [revisionRelations, heads, sameSet]
  · have hba : isAnc g b a = false := by
      cases hh : isAnc g b a
      · rfl
      · exact absurd (isAnc_antisymm g hwf a b h hh) hab
    have hab' : ¬ b = a := fun e => hab e.symm
    simp [revisionRelations, heads, sameSet, h, hba, hab']

theorem relation_descends (g : Graph) (a b : Tip) (h1 : isAnc g a b = false)
    (h2 : isAnc g b a = true) :
    revisionRelations (heads g [a, b]) a b = .aDescendsFromB := by
  have hab : ¬ a = b := by
    intro e; subst e; rw [isAnc_refl] at h1; cases h1
  have hab' : ¬ b = a := fun e => hab e.symm
  simp [revisionRelations, heads, sameSet, h1, h2, hab, hab']

theorem relation_diverged (g : Graph) (a b : Tip) (h1 : isAnc g a b = false)
    (h2 : isAnc g b a = false) :
    revisionRelations (heads g [a, b]) a b = .diverged := by
  have hab : ¬ a = b := by
    intro e; subst e; rw [isAnc_refl] at h1; cases h1
  have hab' : ¬ b = a := fun e => hab e.symm
  simp [revisionRelations, heads, sameSet, h1, h2, hab, hab']

/-- `_check_if_descendant_or_diverged(stop, last)` in terms of ancestry -/
theorem check_cases (g : Graph) (hwf : wf g = true) (s l : Tip) :
    checkRelation (revisionRelations (heads g [s, l]) s l) =
      if isAnc g s l then .ok true
      else if isAnc g l s then .ok false
      else .error .diverged := by
  cases h1 : isAnc g s l
  · cases h2 : isAnc g l s
    · simp [relation_diverged g s l h1 h2, checkRelation]
    · simp [relation_descends g s l h1 h2, checkRelation]
  · simp [relation_contained g hwf s l h1, checkRelation]

theorem present_mentioned (g : Graph) (r : Rev) (h : present g r = true) : r ∈ mentioned g := by
  induction g with
  | nil => simp [present, parentsOf] at h
  | cons e g ih =>
    obtain ⟨n, ps⟩ := e
    rw [mentioned_cons]
    by_cases hn : n = r
    · simp [hn]
    · have : present g r = true := by simpa [present, parentsOf, hn] using h
      simp [ih this]

/-- a successful search on the left-hand walk finds a member of the left-hand chain -/
theorem lhFind_found_chain (g : Graph) (r t : Rev) (h : lhFind g r t = .found) : t ∈ lhChain g r := by
  rw [lhFind_eq] at h
  rw [lhChain_eq]
  split at h
  · assumption
  · split at h <;> cases h

theorem lhChain_sub_anc (g : Graph) : ∀ (r x : Rev), x ∈ lhChain g r → x ∈ anc g r := by
  induction g with
  | nil => intro r x h; simp [lhChain] at h
  | cons e g ih =>
    obtain ⟨n, ps⟩ := e
    intro r x hx
    unfold lhChain at hx
    unfold anc
    split at hx
    · rename_i hn
      simp only [hn, if_true]
      cases ps with
      | nil => simpa using hx
      | cons p rest =>
        simp only [List.mem_cons] at hx
        rcases hx with hx | hx
        · simp [hx]
        · simp only [List.flatMap_cons, List.mem_cons, List.mem_append]
          right; left
          exact ih p x hx
    · rename_i hn
      simp only [hn, if_false]
      exact ih r x hx

theorem lhChain_of_lefthand (g : Graph) (r : Rev) (l : List Rev) (h : lefthand g r = some l) : lhChain g r = l := by
  rw [lefthand_eq] at h
  split at h
  · cases h
  · rw [lhChain_eq]
    exact Option.some.inj h

theorem lhFind_found (g : Graph) : ∀ (r t : Rev), lhFind g r t = .found →
    ∀ l, lefthand g r = some l → t ∈ l := by
  intro r t h l hl
  rw [← lhChain_of_lefthand g r l hl]
  exact lhFind_found_chain g r t h

theorem lefthand_sub_anc (g : Graph) : ∀ (r : Rev) (l : List Rev), lefthand g r = some l →
    ∀ x ∈ l, x ∈ anc g r := by
  intro r l hl x hx
  rw [← lhChain_of_lefthand g r l hl] at hx
  exact lhChain_sub_anc g r x hx

end BreezyVerif.C21
