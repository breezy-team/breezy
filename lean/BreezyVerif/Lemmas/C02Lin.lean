import BreezyVerif.Lemmas.C02Inv
/-
C02: the recorded attributes are the tree's; linear histories.
-/
namespace BreezyVerif.C02

theorem mkRec_inv_attr (st : State) (c : Commit) (f : FileId) :
    ((mkRec st c).inv.lookup f).map (·.attr) = c.tree.lookup f := by
  rw [mkRec_inv_lookup]
  cases c.tree.lookup f with
  | none => rfl
  | some a => simp [recordOne_attr]

/-- single parent `p` whose inventory has no `f`: a fresh entry -/
theorem recordOne_single_none {st : State} {c : Commit} {p : Rev} {f : FileId} (a : Attr)
    (hp : c.parents = [p]) (he : entryIn st f p = none) :
    recordOne st c f a = (⟨a, c.id⟩, some []) :=
  recordOne_cands_nil a (by simp [candidates, candEntries, hp, he, dedup])

/-- single parent `p` whose inventory holds `f ↦ ep`: carried over iff the
attributes are equal -/
theorem recordOne_single_some {st : State} {c : Commit} {p : Rev} {f : FileId} (a : Attr)
    {ep : Entry} (hp : c.parents = [p]) (he : entryIn st f p = some ep) :
    (recordOne st c f a).1.rev = if ep.attr = a then ep.rev else c.id := by
  rw [recordOne_cands_single a (x := ep.rev) (pe := ep)
    (by simp [candidates, candEntries, hp, he, dedup]) (by simp [entryWithRev, candEntries, hp, he])]
  split <;> rfl

theorem recordOne_no_parents {st : State} {c : Commit} {f : FileId} (a : Attr)
    (hp : c.parents = []) : recordOne st c f a = (⟨a, c.id⟩, some []) :=
  recordOne_cands_nil a (by simp [candidates, candEntries, hp, dedup])

theorem linLast_cons_cons (c p : Commit) (rest : List Commit) (f : FileId) :
    linLast (c :: p :: rest) f =
      match c.tree.lookup f with
      | none => none
      | some a => if p.tree.lookup f = some a then linLast (p :: rest) f else some c.id := rfl

theorem linear_build : ∀ (rest : List Commit) (c : Commit), linear (c :: rest) = true →
    ∀ f, ((mkRec (build rest) c).inv.lookup f).map (·.rev) = linLast (c :: rest) f
  | [], c, hl, f => by
    have hp : c.parents = [] := by simpa [linear] using hl
    rw [mkRec_inv_lookup]
    simp only [linLast]
    cases c.tree.lookup f with
    | none => rfl
    | some a => simp [recordOne_no_parents a hp]
  | p :: rest, c, hl, f => by
    simp only [linear, Bool.and_eq_true, beq_iff_eq] at hl
    obtain ⟨hp, hl'⟩ := hl
    have ih := linear_build rest p hl' f
    have hattr := mkRec_inv_attr (build rest) p f
    rw [mkRec_inv_lookup, linLast_cons_cons]
    cases ht : c.tree.lookup f with
    | none => rfl
    | some a =>
      simp only [Option.map_some]
      have hent : entryIn (build (p :: rest)) f p.id = (mkRec (build rest) p).inv.lookup f :=
        entryIn_cons_self (mkRec (build rest) p) (build rest) f
      cases he : (mkRec (build rest) p).inv.lookup f with
      | none =>
        rw [he] at hattr hent
        have : ¬ p.tree.lookup f = some a := by rw [← hattr]; simp
        simp only [this, if_false, recordOne_single_none a hp hent]
      | some ep =>
        rw [he] at hattr hent ih
        rw [recordOne_single_some a hp hent]
        simp only [Option.map_some] at hattr ih
        by_cases h : ep.attr = a
        · have : p.tree.lookup f = some a := by rw [← hattr, h]
          simp only [h, this, if_true]; exact ih
        · have : ¬ p.tree.lookup f = some a := by
            rw [← hattr]; simpa using h
          simp only [h, this, if_false]

end BreezyVerif.C02
