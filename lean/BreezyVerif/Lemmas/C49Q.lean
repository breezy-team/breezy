import BreezyVerif.Model.C49
/-! C49 — store round trip, one value: what `_quote` writes (`Stack.set`, then `ConfigObj.write`) is what
the parser's lazy regexes read back. -/
namespace BreezyVerif.C49

/-- blanks and line boundaries lie outside the printable ASCII range -/
theorem not_blank_of_printable {c : Char} (h1 : 33 ≤ c.toNat) (h2 : c.toNat ≤ 132) :
    isSpace c = false ∧ isLineBreak c = false := by
  simp only [isSpace, isLineBreak, Bool.or_eq_false_iff, Bool.and_eq_false_iff,
    decide_eq_false_iff_not, beq_eq_false_iff_ne]
  omega

theorem secNameChar_not_blank {c : Char} (h : secNameChar c = true) :
    isSpace c = false ∧ isLineBreak c = false := by
  simp only [secNameChar, keyChar, Bool.or_eq_true, Bool.and_eq_true, decide_eq_true_eq,
    beq_iff_eq] at h
  exact not_blank_of_printable (by omega) (by omega)

theorem keyChar_not_blank {c : Char} (h : keyChar c = true) :
    isSpace c = false ∧ isLineBreak c = false :=
  secNameChar_not_blank (by simp [secNameChar, h])

/-- a key character differs from every character that is not one: `=`, `#`, `[`, the quotes -/
theorem keyChar_ne {c d : Char} (h : keyChar c = true) (hd : keyChar d = false) : c ≠ d :=
  fun e => by rw [e, hd] at h; cases h

theorem keyStart_keyChar {c : Char} (h : keyStart c = true) : keyChar c = true := by
  simp only [keyStart, Bool.or_eq_true] at h
  simp only [keyChar, Bool.or_eq_true]
  -- upper case, lower case, `_`: the second, third and fourth alternative of `keyChar`
  rcases h with (h | h) | h
  · exact .inl (.inl (.inl (.inl (.inr h))))
  · exact .inl (.inl (.inl (.inr h)))
  · exact .inl (.inl (.inr h))

theorem wspacePlus_of_ascii_blank {c : Char} (h : c = ' ' ∨ c = '\t') : wspacePlus c = true := by
  rcases h with h | h <;> subst h <;> decide

theorem tailOk_nil : tailOk [] = true := rfl

theorem tailOk_cons_space {c : Char} {s : Str} (h : isSpace c = true) : tailOk (c :: s) = tailOk s := by
  simp [tailOk, h]

theorem tailOk_cons_nonspace {c : Char} {s : Str} (h : isSpace c = false) : tailOk (c :: s) = (c == '#') := by
  simp [tailOk, h]

/-- a text without `#` that ends in a non-blank is neither blank nor a comment -/
theorem tailOk_concat_nonblank {l : Char} (hl : isSpace l = false) (hlh : l ≠ '#') :
    ∀ s : Str, '#' ∉ s → tailOk (s ++ [l]) = false
  | [], _ => by rw [List.nil_append, tailOk_cons_nonspace hl]; exact beq_false_of_ne hlh
  | c :: s, hh => by
    rw [List.cons_append]
    cases hc : isSpace c
    · rw [tailOk_cons_nonspace hc]; exact beq_false_of_ne (List.ne_of_not_mem_cons hh).symm
    · rw [tailOk_cons_space hc]; exact tailOk_concat_nonblank hl hlh s (List.not_mem_of_not_mem_cons hh)

theorem lazyPlain_concat_nonblank {l : Char} (hl : isSpace l = false) (hlh : l ≠ '#') :
    ∀ s : Str, '#' ∉ s → lazyPlain (s ++ [l]) = s ++ [l]
  | [], h => by
    have h1 : tailOk [l] = false := tailOk_concat_nonblank hl hlh [] h
    simp [lazyPlain, h1]
  | c :: s, hh => by
    have h1 := tailOk_concat_nonblank hl hlh (c :: s) hh
    rw [List.cons_append] at h1 ⊢
    rw [lazyPlain, h1, lazyPlain_concat_nonblank hl hlh s (List.not_mem_of_not_mem_cons hh)]
    rfl

/-- `".*?"` on a text without the quote: the group is the whole text -/
theorem lazyUntil_single (W : Char) : ∀ (v : Str), W ∉ v → lazyUntil [W] (v ++ [W]) = some v
  | [], _ => by simp [lazyUntil, List.isPrefixOf, tailOk_nil]
  | x :: t, h => by
    have ih := lazyUntil_single W t (List.not_mem_of_not_mem_cons h)
    have hxW : (W == x) = false := beq_false_of_ne (List.ne_of_not_mem_cons h)
    simp only [List.cons_append, lazyUntil, List.isPrefixOf, hxW, Bool.false_and, Bool.false_eq_true, if_false, ih,
      Option.map_some]

/-- three quotes `W` after a text without `W` that is itself followed by one `W`:
the lazy group ends at the LAST possible place, because a fourth quote is neither
blank nor a comment -/
theorem lazyUntil_triple_same (W : Char) (hW1 : isSpace W = false) (hW2 : W ≠ '#') :
    ∀ (v : Str), W ∉ v → lazyUntil [W, W, W] (v ++ [W, W, W, W]) = some (v ++ [W])
  | [], _ => by
    have h1 : tailOk [W] = false := by rw [tailOk_cons_nonspace hW1]; simpa using hW2
    simp [lazyUntil, List.isPrefixOf, h1, tailOk_nil]
  | x :: t, h => by
    have ih := lazyUntil_triple_same W hW1 hW2 t (List.not_mem_of_not_mem_cons h)
    have hxW : (W == x) = false := beq_false_of_ne (List.ne_of_not_mem_cons h)
    simp only [List.cons_append, lazyUntil, List.isPrefixOf, hxW, Bool.false_and, Bool.false_eq_true, if_false, ih,
      Option.map_some]

/-- the whole single-quoted (with `W`) text `W v W` inside triple `W` quotes -/
theorem lazyUntil_wrapped_same (W : Char) (hW1 : isSpace W = false) (hW2 : W ≠ '#') (v : Str) (hne : v ≠ [])
    (h : W ∉ v) : lazyUntil [W, W, W] ((W :: v ++ [W]) ++ [W, W, W]) = some (W :: v ++ [W]) := by
  cases v with
  | nil => exact absurd rfl hne
  | cons x t =>
    have hxW : (W == x) = false := beq_false_of_ne (List.ne_of_not_mem_cons h)
    have ih := lazyUntil_triple_same W hW1 hW2 (x :: t) h
    have e : (W :: (x :: t) ++ [W]) ++ [W, W, W] = W :: ((x :: t) ++ [W, W, W, W]) := by simp
    rw [e]
    have hp : ([W, W, W] : Str).isPrefixOf (W :: ((x :: t) ++ [W, W, W, W])) = false := by
      simp [List.isPrefixOf, hxW]
    rw [lazyUntil, hp, ih]; simp

theorem dq3_prefix_sq (u w : Str) : dq3.isPrefixOf (u ++ '\'' :: w) = dq3.isPrefixOf u := by
  match u with
  | [] => simp [dq3, List.isPrefixOf]
  | [a] => simp [dq3, List.isPrefixOf]
  | [a, b] => simp [dq3, List.isPrefixOf]
  | a :: b :: c :: r => simp [dq3, List.isPrefixOf]

/-- `W v W` with a non-empty `v` without `W` does not contain `WWW` -/
theorem hasSub_triple_tail (W : Char) : ∀ (v : Str), W ∉ v → hasSub [W, W, W] (v ++ [W]) = false
  | [], _ => by simp [hasSub, List.isPrefixOf]
  | x :: t, h => by
    have hxW : (W == x) = false := beq_false_of_ne (List.ne_of_not_mem_cons h)
    simp [hasSub, List.isPrefixOf, hxW, hasSub_triple_tail W t (List.not_mem_of_not_mem_cons h)]

theorem hasSub_triple_wrapped (W : Char) (v : Str) (hne : v ≠ []) (h : W ∉ v) :
    hasSub [W, W, W] (W :: v ++ [W]) = false := by
  cases v with
  | nil => exact absurd rfl hne
  | cons x t =>
    have hxW : (W == x) = false := beq_false_of_ne (List.ne_of_not_mem_cons h)
    have := hasSub_triple_tail W (x :: t) h
    have e : hasSub [W, W, W] (W :: (x :: t) ++ [W]) =
        (([W, W, W] : Str).isPrefixOf (W :: ((x :: t) ++ [W])) || hasSub [W, W, W] ((x :: t) ++ [W])) := rfl
    rw [e, this]
    simp [List.isPrefixOf, hxW]

/-- `'v'` inside `"""`: the lazy group is all of `'v'` when `'v'` has no `"""` -/
theorem lazyUntil_dq3_cross : ∀ (v : Str), hasSub dq3 (v ++ ['\'']) = false →
    lazyUntil dq3 (v ++ '\'' :: dq3) = some (v ++ ['\''])
  | [], _ => by simp [lazyUntil, dq3, List.isPrefixOf, tailOk_nil]
  | x :: t, h => by
    have h' : dq3.isPrefixOf (x :: (t ++ ['\''])) = false ∧ hasSub dq3 (t ++ ['\'']) = false := by
      simpa [hasSub] using h
    have hp : dq3.isPrefixOf (x :: (t ++ '\'' :: dq3)) = false := by
      have e1 := dq3_prefix_sq (x :: t) dq3
      have e2 := dq3_prefix_sq (x :: t) []
      simp only [List.cons_append] at e1 e2
      rw [e1, ← e2]; exact h'.1
    have ih := lazyUntil_dq3_cross t h'.2
    simp only [List.cons_append, lazyUntil, hp, Bool.false_and, Bool.false_eq_true, if_false, ih, Option.map_some]

/-- the values for which the store round trip is proved: no line boundary, not
both quote kinds, and an end character that is a blank is one of the blanks
configobj quotes for (wspace_plus) -/
def okValue (v : Str) : Bool :=
  v.all (fun c => !isLineBreak c) && !(v.contains '\'' && v.contains '"') &&
  (match v.head?, v.getLast? with
   | some h, some l => (!isSpace h || wspacePlus h) && (!isSpace l || wspacePlus l)
   | _, _ => true)

/-- a stored string that a save + load reproduces: `ConfigObj.write` turns it
into `q2` (no line boundary inside), and the parser reads `q2` back as `raw`, on
one line, without inline comment, whatever follows -/
def Reloadable (raw : Str) : Prop :=
  ∃ q2, cquote false raw = some q2 ∧ (∀ c ∈ q2, isLineBreak c = false) ∧
    ∀ rest, parseOptValue (q2.dropWhile isSpace) rest = some (raw, 0, [])

theorem exists_getLast? {x : Char} {t : Str} : ∃ l, (x :: t).getLast? = some l := by
  cases h : (x :: t).getLast? with
  | none => simp at h
  | some l => exact ⟨l, rfl⟩

/-- `write` leaves a stored string on one line alone unless it has `#` and both quote kinds -/
theorem cquote_false (raw : Str) (hne : raw ≠ []) (hnl : '\n' ∉ raw) :
    cquote false raw = if '#' ∈ raw ∧ '\'' ∈ raw ∧ '"' ∈ raw then tripleQuote raw else some raw := by
  cases raw with
  | nil => exact absurd rfl hne
  | cons x t =>
    obtain ⟨l, hl⟩ := @exists_getLast? x t
    simp only [cquote, List.head?_cons, hl]
    by_cases hh : '#' ∈ x :: t
    · by_cases hs : '\'' ∈ x :: t
      · by_cases hd : '"' ∈ x :: t <;> simp [hnl, hh, hs, hd]
      · simp [hnl, hh, hs]
    · simp [hnl, hh]

theorem cquote_true_eval (x : Char) (t : Str) (l : Char) (hl : (x :: t).getLast? = some l) (hnl : '\n' ∉ x :: t)
    (hb : ¬ ('\'' ∈ x :: t ∧ '"' ∈ x :: t)) :
    cquote true (x :: t) =
      if !wspacePlus x && !wspacePlus l && !(x :: t).contains ',' then
        (if (x :: t).contains '#' then singleQuote (x :: t) else some (x :: t))
      else singleQuote (x :: t) := by
  simp only [cquote, List.head?_cons, hl]
  by_cases hs : '\'' ∈ x :: t
  · have hd : '"' ∉ x :: t := fun hd => hb ⟨hs, hd⟩
    simp [hnl, hs, hd]
  · simp [hnl, hs]

/-- … so it is either left alone, and then neither end is a blank or quote for configobj and there is
no `#`, or it gets single quotes -/
theorem cquote_true_cases (x : Char) (t : Str) (l : Char) (hl : (x :: t).getLast? = some l) (hnl : '\n' ∉ x :: t)
    (hb : ¬ ('\'' ∈ x :: t ∧ '"' ∈ x :: t)) :
    cquote true (x :: t) = singleQuote (x :: t) ∨
      (cquote true (x :: t) = some (x :: t) ∧ wspacePlus x = false ∧ wspacePlus l = false ∧ '#' ∉ x :: t) := by
  rw [cquote_true_eval x t l hl hnl hb]
  by_cases hc : (!wspacePlus x && !wspacePlus l && !(x :: t).contains ',') = true
  · rw [if_pos hc]
    by_cases hh : (x :: t).contains '#' = true
    · exact Or.inl (if_pos hh)
    · simp only [Bool.and_eq_true, Bool.not_eq_true'] at hc
      exact Or.inr ⟨if_neg hh, hc.1.1, hc.1.2, by simpa using hh⟩
  · exact Or.inl (if_neg hc)

theorem not_lineBreak_quote : isLineBreak '"' = false ∧ isLineBreak '\'' = false := by decide

theorem not_space_quote : isSpace '"' = false ∧ isSpace '\'' = false := by decide

/-- a value that starts with a quote `W`: the parser takes it as triple-quoted if two more `W` follow,
and otherwise reads up to the first `W` that is followed by nothing but blanks or a comment -/
theorem parseOptValue_quote (W : Char) (hW : W = '"' ∨ W = '\'') (x : Str) (rest : List Str) :
    parseOptValue (W :: x) rest =
      if [W, W].isPrefixOf x then tripleValue [W, W, W] (W :: x) rest
      else (lazyUntil [W] x).map fun g => (W :: g ++ [W], 0, x.drop (g.length + 1)) := by
  rcases hW with rfl | rfl
  · simp only [parseOptValue, dq3, sq3, nolistValue, List.isPrefixOf, beq_self_eq_true, Bool.true_and,
      show ('\'' == '"') = false by decide, Bool.false_and, Bool.false_eq_true, if_false, if_true,
      Option.map_map]
    split
    · rfl
    · congr 1; funext g; simp [Function.comp]
  · simp only [parseOptValue, dq3, sq3, nolistValue, List.isPrefixOf, beq_self_eq_true, Bool.true_and,
      show ('"' == '\'') = false by decide, show ('\'' == '"') = false by decide, Bool.false_and, Bool.false_eq_true, if_false, if_true,
      Option.map_map]
    split
    · rfl
    · congr 1; funext g; simp [Function.comp]

theorem quote_not_blank {W : Char} (hW : W = '"' ∨ W = '\'') : isSpace W = false ∧ W ≠ '#' := by
  rcases hW with rfl | rfl <;> decide

theorem dropWhile_nonblank {c : Char} (x : Str) (h : isSpace c = false) :
    (c :: x).dropWhile isSpace = c :: x := by
  simp [h]

/-- `W v W` (one quote kind `W`, absent from `v`), written as it is -/
theorem parse_wrapped_plain (W : Char) (hW : W = '"' ∨ W = '\'') (v : Str) (h : W ∉ v) (rest : List Str) :
    parseOptValue ((W :: v ++ [W]).dropWhile isSpace) rest = some (W :: v ++ [W], 0, []) := by
  have hp : [W, W].isPrefixOf (v ++ [W]) = false := by
    cases v with
    | nil => simp [List.isPrefixOf]
    | cons x t => simp [List.isPrefixOf, beq_false_of_ne (List.ne_of_not_mem_cons h)]
  rw [List.cons_append, dropWhile_nonblank _ (quote_not_blank hW).1, parseOptValue_quote W hW, hp,
    lazyUntil_single W v h]
  simp

theorem drop_len_append (a b : Str) : (a ++ b).drop (a.length + b.length) = [] := by
  rw [← List.length_append]; exact List.drop_length

/-- `W v W` wrapped in three more `W` on each side (written by `write` when the stored
string has `#` and both quote kinds, and `W` is the kind `_get_triple_quote` picks) -/
theorem parse_wrapped_triple_same (W : Char) (hW : W = '"' ∨ W = '\'') (v : Str) (hne : v ≠ []) (h : W ∉ v)
    (rest : List Str) :
    parseOptValue (([W, W, W] ++ (W :: v ++ [W]) ++ [W, W, W]).dropWhile isSpace) rest = some (W :: v ++ [W], 0, []) := by
  have hb := quote_not_blank hW
  rw [show [W, W, W] ++ (W :: v ++ [W]) ++ [W, W, W] = W :: (W :: W :: ((W :: v ++ [W]) ++ [W, W, W])) from rfl,
    dropWhile_nonblank _ hb.1, parseOptValue_quote W hW, if_pos (by simp [List.isPrefixOf]), tripleValue]
  simp only [List.drop_succ_cons, List.drop_zero, lazyUntil_wrapped_same W hb.1 hb.2 v hne h]
  exact congrArg (fun t => some (W :: v ++ [W], 0, t)) (drop_len_append (W :: v ++ [W]) [W, W, W])

/-- `'v'` (with `"` somewhere in `v`, but not three in a row) wrapped in `"""` -/
theorem parse_wrapped_triple_cross (v : Str) (h : hasSub dq3 ('\'' :: v ++ ['\'']) = false) (rest : List Str) :
    parseOptValue ((dq3 ++ ('\'' :: v ++ ['\'']) ++ dq3).dropWhile isSpace) rest = some ('\'' :: v ++ ['\''], 0, []) := by
  rw [show dq3 ++ ('\'' :: v ++ ['\'']) ++ dq3 = '"' :: ('"' :: '"' :: (('\'' :: v ++ ['\'']) ++ dq3)) from rfl,
    dropWhile_nonblank _ not_space_quote.1, parseOptValue_quote '"' (Or.inl rfl), if_pos (by simp [List.isPrefixOf]),
    tripleValue]
  simp only [List.drop_succ_cons, List.drop_zero]
  have hl : lazyUntil dq3 (('\'' :: v ++ ['\'']) ++ dq3) = some ('\'' :: v ++ ['\'']) := by
    simpa using lazyUntil_dq3_cross ('\'' :: v) h
  rw [show (['"', '"', '"'] : Str) = dq3 from rfl, hl]
  exact congrArg (fun t => some ('\'' :: v ++ ['\''], 0, t)) (drop_len_append ('\'' :: v ++ ['\'']) dq3)

theorem reloadable_wrapped (W : Char) (hW : W = '"' ∨ W = '\'') (v : Str) (h : W ∉ v)
    (hlb : ∀ c ∈ v, isLineBreak c = false) : Reloadable (W :: v ++ [W]) := by
  have hWlb : isLineBreak W = false := hW.elim (· ▸ not_lineBreak_quote.1) (· ▸ not_lineBreak_quote.2)
  have hQlb : ∀ c ∈ W :: v ++ [W], isLineBreak c = false := by
    intro c hc
    simp only [List.cons_append, List.mem_cons, List.mem_append, List.not_mem_nil, or_false] at hc
    rcases hc with rfl | hc | rfl
    · exact hWlb
    · exact hlb c hc
    · exact hWlb
  have hnl : '\n' ∉ W :: v ++ [W] := fun m => absurd (hQlb _ m) (by decide)
  have hcq := cquote_false (W :: v ++ [W]) (by simp) hnl
  by_cases hc : '#' ∈ W :: v ++ [W] ∧ '\'' ∈ W :: v ++ [W] ∧ '"' ∈ W :: v ++ [W]
  case neg => exact ⟨_, hcq.trans (if_neg hc), hQlb, parse_wrapped_plain W hW v h⟩
  case pos =>
    have hq := hcq.trans (if_pos hc)
    have hne : v ≠ [] := by
      rintro rfl
      have hh := hc.1
      simp only [List.cons_append, List.nil_append, List.mem_cons, List.not_mem_nil, or_false, or_self] at hh
      exact (quote_not_blank hW).2 hh.symm
    have hsame : hasSub [W, W, W] (W :: v ++ [W]) = false := hasSub_triple_wrapped W v hne h
    have hq3lb : ∀ (q : Str), (∀ c ∈ q, isLineBreak c = false) → ∀ c ∈ q ++ (W :: v ++ [W]) ++ q, isLineBreak c = false := by
      intro q hq c hc
      rcases List.mem_append.mp hc with hc | hc
      · rcases List.mem_append.mp hc with hc | hc
        · exact hq c hc
        · exact hQlb c hc
      · exact hq c hc
    rcases hW with e | e
    · subst e
      -- `"v"`: no `"""` inside, so it is wrapped in `"""`
      have hs' : hasSub dq3 ('"' :: v ++ ['"']) = false := hsame
      refine ⟨dq3 ++ ('"' :: v ++ ['"']) ++ dq3, ?_, ?_, ?_⟩
      · rw [hq]; simp only [tripleQuote, hs', Bool.false_and, Bool.false_eq_true, if_false]
      · exact hq3lb dq3 (by decide)
      · exact parse_wrapped_triple_same '"' (Or.inl rfl) v hne h
    · subst e
      have hs' : hasSub sq3 ('\'' :: v ++ ['\'']) = false := hsame
      by_cases hd3 : hasSub dq3 ('\'' :: v ++ ['\'']) = true
      · refine ⟨sq3 ++ ('\'' :: v ++ ['\'']) ++ sq3, ?_, ?_, ?_⟩
        · rw [hq]; simp only [tripleQuote, hd3, hs', Bool.and_false, Bool.false_eq_true, if_false, if_true]
        · exact hq3lb sq3 (by decide)
        · exact parse_wrapped_triple_same '\'' (Or.inr rfl) v hne h
      · have hd3' : hasSub dq3 ('\'' :: v ++ ['\'']) = false := by simpa using hd3
        refine ⟨dq3 ++ ('\'' :: v ++ ['\'']) ++ dq3, ?_, ?_, ?_⟩
        · rw [hq]; simp only [tripleQuote, hd3', Bool.false_and, Bool.false_eq_true, if_false]
        · exact hq3lb dq3 (by decide)
        · exact parse_wrapped_triple_cross v hd3'

/-- a string written and read without any quoting: no `#`, ends that are neither blanks nor quotes -/
theorem reloadable_plain (x : Char) (t : Str) (l : Char) (hl : (x :: t).getLast? = some l)
    (hx : isSpace x = false) (hxq : x ≠ '"' ∧ x ≠ '\'') (hls : isSpace l = false) (hh : '#' ∉ x :: t)
    (hlb : ∀ c ∈ x :: t, isLineBreak c = false) : Reloadable (x :: t) := by
  have hnl : '\n' ∉ x :: t := fun m => absurd (hlb _ m) (by decide)
  refine ⟨x :: t, (cquote_false _ (by simp) hnl).trans (if_neg fun h => hh h.1), hlb, ?_⟩
  intro rest
  have hd : (x :: t).dropWhile isSpace = x :: t := by simp [hx]
  rw [hd]
  have hxd : ('"' == x) = false := by simpa using fun e : '"' = x => hxq.1 e.symm
  have hxs : ('\'' == x) = false := by simpa using fun e : '\'' = x => hxq.2 e.symm
  have hp1 : dq3.isPrefixOf (x :: t) = false := by simp [dq3, List.isPrefixOf, hxd]
  have hp2 : sq3.isPrefixOf (x :: t) = false := by simp [sq3, List.isPrefixOf, hxs]
  have hxh : x ≠ '#' := fun e => hh (by simp [e])
  have hlazy : lazyPlain t = t := by
    rcases List.eq_nil_or_concat t with rfl | ⟨s, l', rfl⟩
    · rfl
    · rw [List.concat_eq_append] at hl ⊢
      have : l' = l := by
        rw [← List.cons_append, List.getLast?_concat] at hl
        exact Option.some.inj hl
      subst this
      exact lazyPlain_concat_nonblank hls (fun e => hh (by simp [e])) s (fun m => hh (by simp [m]))
  simp only [parseOptValue, hp1, hp2, Bool.false_eq_true, if_false]
  have : nolistValue (x :: t) = some (x :: t) := by
    simp [nolistValue, hxq.1, hxq.2, hxh, hlazy]
  rw [this]; simp

theorem unquote_wrap (W : Char) (hW : W = '"' ∨ W = '\'') (v : Str) : unquote (W :: v ++ [W]) = v := by
  have hl : (W :: (v ++ [W])).getLast? = some W := List.getLast?_concat (l := W :: v)
  rcases hW with e | e <;> subst e <;> simp [unquote, hl]

theorem unquote_plain (x : Char) (t : Str) (hxq : x ≠ '"' ∧ x ≠ '\'') : unquote (x :: t) = x :: t := by
  simp [unquote, hxq.1, hxq.2]

theorem wrap_ne_self (W : Char) (v : Str) : (W :: v ++ [W] == v) = false := by
  have : W :: v ++ [W] ≠ v := fun e => by
    have := congrArg List.length e
    simp at this
    omega
  simpa using this

/-- `_get_single_quote` of a value without both quote kinds: the stored string differs from the
value, unquotes to it and is reloadable -/
theorem reloadable_singleQuote (v : Str) (hb : ¬ ('\'' ∈ v ∧ '"' ∈ v))
    (hlb : ∀ c ∈ v, isLineBreak c = false) :
    ∃ q1, singleQuote v = some q1 ∧ (q1 == v) = false ∧ unquote q1 = v ∧ Reloadable q1 := by
  by_cases hd : '"' ∈ v
  · have hs : '\'' ∉ v := fun hs => hb ⟨hs, hd⟩
    exact ⟨_, by simp [singleQuote, hd, hs], wrap_ne_self '\'' v, unquote_wrap '\'' (Or.inr rfl) v,
      reloadable_wrapped '\'' (Or.inr rfl) v hs hlb⟩
  · exact ⟨_, by simp [singleQuote, hd], wrap_ne_self '"' v, unquote_wrap '"' (Or.inl rfl) v,
      reloadable_wrapped '"' (Or.inl rfl) v hd hlb⟩

/-- the values for which the round trip is proved when the blank fix is in:
no line boundary, not both quote kinds -/
def okValueFix (v : Str) : Bool :=
  v.all (fun c => !isLineBreak c) && !(v.contains '\'' && v.contains '"')

/-- the hypothesis on a value for each variant of `storeQuote` -/
def okFor (blankfix : Bool) (v : Str) : Bool := if blankfix then okValueFix v else okValue v

/-- without the fix `storeQuote` is `_quote` with list_values on -/
theorem storeQuote_false (v : Str) : storeQuote false v = cquote true v := by
  unfold storeQuote
  cases cquote true v <;> simp

theorem okFor_facts {fix : Bool} {v : Str} (h : okFor fix v = true) :
    (∀ c ∈ v, isLineBreak c = false) ∧ ¬ ('\'' ∈ v ∧ '"' ∈ v) ∧
    (fix = false → ∀ x l, v.head? = some x → v.getLast? = some l →
      (isSpace x = true → wspacePlus x = true) ∧ (isSpace l = true → wspacePlus l = true)) := by
  -- `okValue v` is `okValueFix v && (condition on the ends)`
  have h1 : okValueFix v = true := by
    cases fix
    · exact (Bool.and_eq_true_iff.mp h).1
    · exact h
  simp only [okValueFix, Bool.and_eq_true, List.all_eq_true, Bool.not_eq_true'] at h1
  refine ⟨fun c hc => by simpa using h1.1 c hc, fun hb => by simp [hb.1, hb.2] at h1, ?_⟩
  rintro rfl x l hx hl
  have h3 := (Bool.and_eq_true_iff.mp h).2
  simp only [hx, hl, Bool.and_eq_true, Bool.or_eq_true, Bool.not_eq_true'] at h3
  exact ⟨fun hs => h3.1.resolve_left (by simp [hs]), fun hs => h3.2.resolve_left (by simp [hs])⟩

/-- what `Stack.set` stores, in either variant and under its hypothesis, unquotes to the value and is
reloadable -/
theorem storeQuote_reloadable (fix : Bool) (v : Str) (h : okFor fix v = true) :
    ∃ q1, storeQuote fix v = some q1 ∧ unquote q1 = v ∧ Reloadable q1 := by
  obtain ⟨hlb, hb, hends⟩ := okFor_facts h
  cases v with
  | nil => exact ⟨['"', '"'], by cases fix <;> rfl, by decide, reloadable_wrapped '"' (Or.inl rfl) [] (by simp) (by simp)⟩
  | cons x t =>
    obtain ⟨l, hl⟩ := @exists_getLast? x t
    have hnl : '\n' ∉ x :: t := fun m => absurd (hlb _ m) (by decide)
    obtain ⟨q1, h1, hne, h2, h3⟩ := reloadable_singleQuote (x :: t) hb hlb
    rcases cquote_true_cases x t l hl hnl hb with hq | ⟨hq, hwx, hwl, hh⟩
    · refine ⟨q1, ?_, h2, h3⟩
      unfold storeQuote
      rw [hq, h1]
      simp [hne]
    · by_cases hsp : (isSpace x || isSpace l) = true
      · -- left alone by `_quote`, but a blank at an end: the fix quotes it, and `okValue` excludes it
        cases fix with
        | true =>
          refine ⟨q1, ?_, h2, h3⟩
          unfold storeQuote
          rw [hq]
          simp only [Bool.true_and, beq_self_eq_true, List.head?_cons, hl, Option.any_some, hsp, if_true, h1]
        | false =>
          obtain ⟨hex, hel⟩ := hends rfl x l rfl hl
          rcases Bool.or_eq_true_iff.mp hsp with hs | hs
          · rw [hex hs] at hwx; cases hwx
          · rw [hel hs] at hwl; cases hwl
      · simp only [Bool.or_eq_true, not_or, Bool.not_eq_true] at hsp
        have hxq : x ≠ '"' ∧ x ≠ '\'' := by
          constructor <;> intro e <;> subst e <;> exact absurd hwx (by decide)
        refine ⟨x :: t, ?_, unquote_plain x t hxq, reloadable_plain x t l hl hsp.1 hxq hsp.2 hh hlb⟩
        unfold storeQuote
        rw [hq]
        simp [hl, hsp.1, hsp.2]

end BreezyVerif.C49
