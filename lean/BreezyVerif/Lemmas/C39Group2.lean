import BreezyVerif.Lemmas.C39Group
/-! C39 helper lemmas: difflib's `get_opcodes` on valid matching blocks gives a valid chain,
and the grouping loop of `get_grouped_opcodes` keeps validity. -/
namespace BreezyVerif.C39

/-- the opcode `get_opcodes` emits for the stretch between two matching blocks (none if it is empty) -/
def gapOps (i i' j j' : Nat) : List Op :=
  if i < i' ∧ j < j' then [⟨.replace, i, i', j, j'⟩]
  else if i < i' then [⟨.delete, i, i', j, j'⟩]
  else if j < j' then [⟨.insert, i, i', j, j'⟩]
  else []

theorem opcodesFrom_nil (la lb i j : Nat) : opcodesFrom la lb i j [] = gapOps i la j lb := rfl

theorem opcodesFrom_cons (la lb i j : Nat) (k : Block) (ks : List Block) (hn : 0 < k.n) :
    opcodesFrom la lb i j (k :: ks) =
      gapOps i k.i j k.j ++ ⟨.equal, k.i, k.i + k.n, k.j, k.j + k.n⟩ ::
        opcodesFrom la lb (k.i + k.n) (k.j + k.n) ks := by
  simp [opcodesFrom, gapOps, hn]

theorem validChain_gapOps (a b : List Line) (i i' j j' : Nat) (hi : i ≤ i') (hj : j ≤ j')
    (hia : i' ≤ a.length) (hjb : j' ≤ b.length) (rest : List Op) :
    validChain a b i j (gapOps i i' j j' ++ rest) = validChain a b i' j' rest := by
  unfold gapOps
  split
  · simp [validChain, validOp, hi, hj, hia, hjb]
  · split
    · have : j = j' := by omega
      simp [validChain, validOp, hi, hia, hjb, this]
    · split
      · have : i = i' := by omega
        simp [validChain, validOp, hj, hia, hjb, this]
      · have : i = i' := by omega
        have : j = j' := by omega
        simp [*]

theorem opcodesFrom_chain (a b : List Line) (ks : List Block) (i j : Nat)
    (hv : validBlocksFrom a b i j ks = true) :
    validChain a b i j (opcodesFrom a.length b.length i j ks) = some (a.length, b.length) := by
  induction ks generalizing i j with
  | nil =>
    simp only [validBlocksFrom, Bool.and_eq_true, decide_eq_true_eq] at hv
    rw [opcodesFrom_nil, ← List.append_nil (gapOps ..), validChain_gapOps a b _ _ _ _ hv.1 hv.2 (Nat.le_refl _)
      (Nat.le_refl _)]
    rfl
  | cons k ks ih =>
    simp only [validBlocksFrom, Bool.and_eq_true, decide_eq_true_eq] at hv
    obtain ⟨⟨⟨⟨⟨⟨hi, hj⟩, hn⟩, heq⟩, hia⟩, hjb⟩, hrest⟩ := hv
    rw [opcodesFrom_cons _ _ _ _ _ _ hn, validChain_gapOps a b _ _ _ _ hi hj (Nat.le_trans (Nat.le_add_right ..) hia)
      (Nat.le_trans (Nat.le_add_right ..) hjb)]
    refine (validChain_cons ..).mpr ⟨rfl, rfl, ?_, ih _ _ hrest⟩
    simp [validOp, heq, hia, hjb]

/-- where the last `n` lines of an `equal` opcode of `m` lines start -/
theorem max_add_sub (i m n : Nat) : max i (i + m - n) = i + (m - n) := by omega

/-- state of the grouping loop: `cur` (reversed) is a chain that starts after a gap of
equal content behind the previous group's end `(pi, pj)` and ends at `(i, j)` -/
def CurOK (a b : List Line) (pi pj : Nat) (cur : List Op) (i j : Nat) : Prop :=
  ∃ si sj, Gap a b pi pj si sj ∧ validChain a b si sj cur.reverse = some (i, j)

theorem curOK_push {a b : List Line} {pi pj : Nat} {cur : List Op} {x : Op}
    (h : CurOK a b pi pj cur x.i1 x.j1) (hv : validOp a b x = true) : CurOK a b pi pj (x :: cur) x.i2 x.j2 := by
  obtain ⟨si, sj, g, hc⟩ := h
  refine ⟨si, sj, g, ?_⟩
  rw [List.reverse_cons, validChain_append a b _ [x] _ _ _ _ hc]
  exact (validChain_cons ..).mpr ⟨rfl, rfl, hv, rfl⟩

/-- a non-empty `cur` closes into a valid group -/
theorem curOK_group {a b : List Line} {pi pj : Nat} {cur : List Op} {i j : Nat} {rest : List Group}
    (h : CurOK a b pi pj cur i j) (hne : cur ≠ []) (hrest : validGroupsFrom a b i j rest = true) :
    validGroupsFrom a b pi pj (cur.reverse :: rest) = true := by
  obtain ⟨si, sj, g, hc⟩ := h
  cases hr : cur.reverse with
  | nil => exact absurd (List.reverse_eq_nil_iff.mp hr) hne
  | cons o os =>
    rw [hr] at hc
    obtain ⟨rfl, rfl, -, -⟩ := (validChain_cons ..).mp hc
    exact (validGroupsFrom_cons ..).mpr ⟨o, os, i, j, rfl, g, hc, hrest⟩

theorem groupLoop_valid (a b : List Line) (n : Nat) (os : List Op) :
    ∀ (cur : List Op) (pi pj i j ei ej : Nat), CurOK a b pi pj cur i j →
      validChain a b i j os = some (ei, ej) → a.drop ei = b.drop ej →
      validGroupsFrom a b pi pj (groupLoop n cur os) = true := by
  induction os with
  | nil =>
    intro cur pi pj i j ei ej hc hv ht
    simp only [validChain, Option.some.injEq, Prod.mk.injEq] at hv
    obtain ⟨rfl, rfl⟩ := hv
    unfold groupLoop
    split
    · rename_i hcond
      obtain ⟨si, sj, g, hcur⟩ := hc
      simp only [validGroupsFrom, decide_eq_true_eq]
      rcases hcond with rfl | ⟨hlen, htag⟩
      · simp only [List.reverse_nil, validChain, Option.some.injEq, Prod.mk.injEq] at hcur
        obtain ⟨rfl, rfl⟩ := hcur
        exact gap_drop g ht
      · match cur, hlen with
        | [o], _ =>
          -- a lone `equal` opcode: equal content all the way
          simp only [List.head?_cons, Option.map_some, Option.some.injEq] at htag
          obtain ⟨rfl, rfl, hvo, hend⟩ := (validChain_cons ..).mp hcur
          simp only [validChain, Option.some.injEq, Prod.mk.injEq] at hend
          obtain ⟨rfl, rfl⟩ := hend
          obtain ⟨m, e1, e2, hsub⟩ := validOp_equal_sub a b o htag hvo
          rw [e1, e2] at ht
          exact gap_drop g (gap_drop (gap_of_validOp (hsub 0 m (Nat.zero_le _) (Nat.le_refl _))) ht)
    · rename_i hcond
      exact curOK_group hc (fun h => hcond (Or.inl h)) (by simpa [validGroupsFrom] using ht)
  | cons o os ih =>
    intro cur pi pj i j ei ej hc hv ht
    obtain ⟨rfl, rfl, hvo, hchain⟩ := (validChain_cons ..).mp hv
    unfold groupLoop
    split
    · rename_i hcond
      -- an `equal` opcode of `m > 2n` lines: its first `n` lines close the current group, the
      -- next `m - 2n` are the gap, its last `n` lines start the next group
      obtain ⟨htag, hlong⟩ := hcond
      obtain ⟨m, e1, e2, hsub⟩ := validOp_equal_sub a b o htag hvo
      have hn : n ≤ m - n := by omega
      rw [e1, e2] at hchain
      rw [htag, e1, e2, Nat.add_min_add_left, Nat.add_min_add_left, max_add_sub, max_add_sub,
        Nat.min_eq_right (by omega : n ≤ m)]
      have hc2 : CurOK a b (o.i1 + n) (o.j1 + n) [⟨.equal, o.i1 + (m - n), o.i1 + m, o.j1 + (m - n), o.j1 + m⟩]
          (o.i1 + m) (o.j1 + m) :=
        ⟨_, _, gap_of_validOp (hsub n (m - n) hn (Nat.sub_le ..)),
          (validChain_cons ..).mpr ⟨rfl, rfl, hsub (m - n) m (Nat.sub_le ..) (Nat.le_refl _), rfl⟩⟩
      exact curOK_group (curOK_push (x := ⟨.equal, o.i1, o.i1 + n, o.j1, o.j1 + n⟩) hc
        (hsub 0 n (Nat.zero_le _) (by omega))) (List.cons_ne_nil _ _) (ih _ _ _ _ _ _ _ hc2 hchain ht)
    · exact ih _ _ _ _ _ _ _ (curOK_push hc hvo) hchain ht

theorem trimHead_chain (a b : List Line) (n : Nat) (ops : List Op) (i j : Nat) (e : Nat × Nat)
    (h : validChain a b i j ops = some e) :
    ∃ i' j', Gap a b i j i' j' ∧ validChain a b i' j' (trimHead n ops) = some e := by
  cases ops with
  | nil => exact ⟨i, j, gap_refl a b i j, h⟩
  | cons o os =>
    simp only [trimHead]
    split
    · rename_i htag
      obtain ⟨rfl, rfl, hvo, hchain⟩ := (validChain_cons ..).mp h
      obtain ⟨m, e1, e2, hsub⟩ := validOp_equal_sub a b o htag hvo
      rw [e1, e2] at hchain
      rw [htag, e1, e2, max_add_sub, max_add_sub]
      exact ⟨_, _, gap_of_validOp (hsub 0 (m - n) (Nat.zero_le _) (Nat.sub_le ..)),
        (validChain_cons ..).mpr ⟨rfl, rfl, hsub (m - n) m (Nat.sub_le ..) (Nat.le_refl _), hchain⟩⟩
    · exact ⟨i, j, gap_refl a b i j, h⟩

theorem trimLast_cons_cons (n : Nat) (o o2 : Op) (os : List Op) :
    trimLast n (o :: o2 :: os) = o :: trimLast n (o2 :: os) := by
  simp [trimLast]

theorem trimLast_chain (a b : List Line) (n : Nat) (ops : List Op) (i j ei ej : Nat)
    (h : validChain a b i j ops = some (ei, ej)) (ht : a.drop ei = b.drop ej) :
    ∃ ei' ej', validChain a b i j (trimLast n ops) = some (ei', ej') ∧ a.drop ei' = b.drop ej' := by
  induction ops generalizing i j with
  | nil => exact ⟨ei, ej, h, ht⟩
  | cons o os ih =>
    obtain ⟨h1, h2, hvo, hchain⟩ := (validChain_cons ..).mp h
    cases os with
    | nil =>
      simp only [trimLast]
      split
      · rename_i htag
        simp only [validChain, Option.some.injEq, Prod.mk.injEq] at hchain
        obtain ⟨rfl, rfl⟩ := hchain
        obtain ⟨m, e1, e2, hsub⟩ := validOp_equal_sub a b o htag hvo
        rw [e1, e2] at ht
        rw [htag, e1, e2, Nat.add_min_add_left, Nat.add_min_add_left]
        exact ⟨_, _, (validChain_cons ..).mpr ⟨h1, h2, hsub 0 (min m n) (Nat.zero_le _) (Nat.min_le_left ..), rfl⟩,
          gap_drop (gap_of_validOp (hsub (min m n) m (Nat.min_le_left ..) (Nat.le_refl _))) ht⟩
      · exact ⟨ei, ej, h, ht⟩
    | cons o2 os' =>
      obtain ⟨ei', ej', hc', ht'⟩ := ih _ _ hchain
      rw [trimLast_cons_cons]
      exact ⟨ei', ej', (validChain_cons ..).mpr ⟨h1, h2, hvo, hc'⟩, ht'⟩

/-- the dummy opcode substituted for an empty opcode list yields no group -/
theorem grouped_nil (n : Nat) : grouped n [] = [] := by
  cases n with
  | zero => decide
  | succ m =>
    simp [grouped, trimHead, trimLast, groupLoop]

/-- grouping any opcode list that chains over the whole of both texts (the opcodes of any
matcher, not only of `get_opcodes`) gives valid groups, for every context size -/
theorem grouped_valid_of_chain (a b : List Line) (n : Nat) (ops : List Op)
    (hchain : validChain a b 0 0 ops = some (a.length, b.length)) :
    validGroups a b (grouped n ops) = true := by
  by_cases hnil : ops = []
  · subst hnil
    rw [grouped_nil]
    simp only [validChain, Option.some.injEq, Prod.mk.injEq] at hchain
    have ha : a = [] := List.eq_nil_of_length_eq_zero hchain.1.symm
    have hb : b = [] := List.eq_nil_of_length_eq_zero hchain.2.symm
    subst ha; subst hb
    decide
  · unfold grouped
    simp only [hnil, if_false]
    obtain ⟨i', j', g, hc1⟩ := trimHead_chain a b n _ 0 0 _ hchain
    obtain ⟨ei', ej', hc2, ht⟩ := trimLast_chain a b n _ i' j' _ _ hc1
      (by rw [List.drop_length, List.drop_length])
    exact groupLoop_valid a b n _ [] 0 0 i' j' ei' ej' ⟨i', j', g, rfl⟩ hc2 ht

end BreezyVerif.C39
