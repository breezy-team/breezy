import BreezyVerif.Lemmas.C39Text
import BreezyVerif.Lemmas.C39Header
/-! C39 helper lemmas: whole patches parse back to their hunks. -/
namespace BreezyVerif.C39

theorem carriable_of_head (l : Bytes) (c : UInt8) (t : Bytes) (hl : l = c :: t) (hc : c ≠ 92) :
    carriable l = true := by
  subst hl
  unfold carriable
  rw [decide_eq_true_eq]
  simp only [noNl, List.cons_append]
  constructor <;> (intro h; simp only [List.cons.injEq] at h; exact hc h.1)

theorem carriable_hline (l : HLine) : carriable (hlineBytes l) = true := by
  cases l with
  | ctx x => exact carriable_of_head _ spB x rfl (by decide)
  | ins x => exact carriable_of_head _ plusB x rfl (by decide)
  | rem x => exact carriable_of_head _ minusB x rfl (by decide)

/-- the text after the closing `@@` of a hunk header, if any, has no newline -/
def tailOk : Option Bytes → Bool
  | some t => nlB ∉ t
  | none => true

/-- a hunk whose header numbers are its line counts, fit in an i32, and whose tail has no newline -/
def wfHunk (h : Hunk) : Bool :=
  h.origRange = origCount h.lines ∧ h.modRange = modCount h.lines ∧ small h ∧ tailOk h.tail

/-- the logical lines of a list of hunks under a header printer -/
def rawHunks (H : Hunk → Bytes) (hs : List Hunk) : List Bytes :=
  hs.flatMap (fun h => H h :: h.lines.map hlineBytes)

theorem iterHunks_nil : iterHunks [] = .ok [] := by rw [iterHunks]

theorem iterHunks_blank : iterHunks [[nlB]] = .ok [] := by
  rw [iterHunks]; simp [iterHunks_nil]

theorem iterHunks_printed (H : Hunk → Bytes) (hs : List Hunk) (tl : List Bytes)
    (htl : tl = [] ∨ tl = [[nlB]])
    (hH : ∀ h ∈ hs, hunkFromHeader (H h) = .ok { h with lines := [] } ∧ H h ≠ [nlB])
    (hwf : ∀ h ∈ hs, wfHunk h = true) :
    iterHunks (rawHunks H hs ++ tl) = .ok hs := by
  induction hs with
  | nil =>
    rcases htl with rfl | rfl
    · simp [rawHunks, iterHunks_nil]
    · simp [rawHunks, iterHunks_blank]
  | cons h hs ih =>
    have hh := hH h (by simp)
    have hw := hwf h (by simp)
    simp only [wfHunk, Bool.decide_and, Bool.and_eq_true, decide_eq_true_eq] at hw
    have ih' := ih (fun x hx => hH x (List.mem_cons_of_mem _ hx)) (fun x hx => hwf x (List.mem_cons_of_mem _ hx))
    have hrl := readLines_printed h.lines h.origRange h.modRange 0 0 (rawHunks H hs ++ tl)
      (by rw [hw.1, Nat.zero_add]) (by rw [hw.2.1, Nat.zero_add])
    simp only [rawHunks, List.flatMap_cons, List.cons_append, List.append_assoc]
    rw [iterHunks]
    simp only [hh.2, if_false, hh.1]
    split
    · rename_i e heq
      simp only [rawHunks] at hrl
      rw [hrl] at heq; simp at heq
    · rename_i hls rest' heq
      simp only [rawHunks] at hrl ih'
      rw [hrl] at heq
      simp only [Except.ok.injEq, Prod.mk.injEq] at heq
      rw [← heq.1, ← heq.2, ih']

theorem writeLine_endsNl (l : Bytes) (h : endsNl l = true) : writeLine l = [l] := by
  simp [writeLine, h]

theorem rawHunks_written (H : Hunk → Bytes) (hH : ∀ h, endsNl (H h) = true) (hs : List Hunk) :
    (rawHunks H hs).flatMap writeLine =
      hs.flatMap (fun h => H h :: h.lines.flatMap (fun l => writeLine (hlineBytes l))) := by
  induction hs with
  | nil => simp [rawHunks]
  | cons h hs ih =>
    simp only [rawHunks] at ih
    simp only [rawHunks, List.flatMap_cons, List.flatMap_append, ih, writeLine_endsNl _ (hH h),
      List.flatMap_map, List.cons_append, List.nil_append]

theorem carriable_rawHunks (H : Hunk → Bytes) (hH : ∀ h, carriable (H h) = true) (hs : List Hunk) :
    ∀ l ∈ rawHunks H hs, carriable l = true := by
  intro l hl
  simp only [rawHunks, List.mem_flatMap, List.mem_cons, List.mem_map] at hl
  obtain ⟨h, _, rfl | ⟨x, _, rfl⟩⟩ := hl
  · exact hH h
  · exact carriable_hline x

theorem patchNames_labels (rest : List Bytes) : patchNames (oldLabel :: newLabel :: rest) = .ok rest := by
  have h0 : ([66, 105, 110, 97, 114, 121, 32, 102, 105, 108, 101, 115, 32] : Bytes).isPrefixOf oldLabel = false := by
    decide
  have h1 : nameLine [45, 45, 45, 32] oldLabel .header = .ok () := by decide
  have h2 : nameLine [43, 43, 43, 32] newLabel .header = .ok () := by decide
  simp [patchNames, h0, h1, h2]

/-! ### what both header printers share: the shape `hdr` -/

theorem carriable_hdr (o m : Bytes) (t : Option Bytes) : carriable (hdr o m t) = true :=
  carriable_of_head _ atB _ rfl (by decide)

theorem parsePatch_printed (H : Hunk → Bytes) (hH : ∀ h, ∃ o m t, H h = hdr o m t) (hs : List Hunk)
    (tl : List Bytes) (htl : tl = [] ∨ tl = [[nlB]])
    (hP : ∀ h ∈ hs, hunkFromHeader (H h) = .ok { h with lines := [] }) (hwf : ∀ h ∈ hs, wfHunk h = true) :
    parsePatch ([oldLabel, newLabel] ++
      hs.flatMap (fun h => H h :: h.lines.flatMap (fun l => writeLine (hlineBytes l))) ++ tl) = .ok hs := by
  have hd : [oldLabel, newLabel] ++
      hs.flatMap (fun h => H h :: h.lines.flatMap (fun l => writeLine (hlineBytes l))) ++ tl =
      ([oldLabel, newLabel] ++ rawHunks H hs ++ tl).flatMap writeLine := by
    have e1 : writeLine oldLabel = [oldLabel] := writeLine_endsNl _ (by decide)
    have e2 : writeLine newLabel = [newLabel] := writeLine_endsNl _ (by decide)
    have e3 : tl.flatMap writeLine = tl := by
      rcases htl with rfl | rfl
      · rfl
      · simp [writeLine_endsNl [nlB] (by decide)]
    simp only [List.flatMap_append, rawHunks_written H (fun h => by obtain ⟨o, m, t, e⟩ := hH h; rw [e, endsNl_hdr]),
      List.flatMap_cons, List.flatMap_nil, e1, e2, e3, List.append_nil]
    rfl
  unfold parsePatch
  rw [hd, no_newline_marker_roundtrip]
  · simp only [List.cons_append, List.nil_append, patchNames_labels]
    exact iterHunks_printed H hs tl htl (fun h hh => ⟨hP h hh, by
      obtain ⟨o, m, t, e⟩ := hH h
      rw [e]
      exact hdr_ne_blank o m t⟩) hwf
  · intro l hl
    simp only [List.cons_append, List.nil_append, List.mem_cons, List.mem_append] at hl
    rcases hl with rfl | rfl | hl | hl
    · decide
    · decide
    · exact carriable_rawHunks H (fun h => by obtain ⟨o, m, t, e⟩ := hH h; rw [e, carriable_hdr]) hs l hl
    · rcases htl with rfl | rfl
      · cases hl
      · rw [List.mem_singleton.mp hl]
        decide

theorem parsePatch_diffLines (hs : List Hunk) (hne : hs ≠ [])
    (hwf : ∀ h ∈ hs, wfHunk h = true ∧ h.tail = none) : parsePatch (diffLines hs) = .ok hs := by
  rw [diffLines, if_neg hne]
  refine parsePatch_printed headerFull (fun h => ⟨_, _, _, headerFull_eq h⟩) hs [[nlB]] (Or.inr rfl) ?_
    (fun h hh => (hwf h hh).1)
  intro h hh
  have hw := (hwf h hh).1
  simp only [wfHunk, Bool.decide_and, Bool.and_eq_true, decide_eq_true_eq] at hw
  rw [hunkFromHeader_full h hw.2.2.1, ← (hwf h hh).2]

end BreezyVerif.C39
