import BreezyVerif.Model.C31
/-! the per-thread jail state: what other threads do never reaches this thread's slot -/
namespace BreezyVerif.C31

theorem JailTL.step_other (st : JailTL) (op : JOp) (t : Tid) (h : op.tid ≠ t) :
    (st.step op) t = st t := by
  cases op with
  | setup u _ | teardown u => exact if_neg (Ne.symm h)
  | open_ u url => rfl

theorem JailTL.step_congr (st st' : JailTL) (op : JOp) (t : Tid) (h : st t = st' t) :
    (st.step op) t = (st'.step op) t := by
  cases op with
  | setup u _ | teardown u => simp only [JailTL.step, JailTL.set, h]
  | open_ u url => exact h

theorem JailTL.final_append (st : JailTL) (a b : List JOp) :
    JailTL.final st (a ++ b) = JailTL.final (JailTL.final st a) b := by
  induction a generalizing st with
  | nil => rfl
  | cons op ops ih => exact ih _

/-- ops that leave thread `t`'s slot alone: anything by another thread, and `t`'s own opens -/
theorem JailTL.final_nowrite (st : JailTL) (ops : List JOp) (t : Tid)
    (h : ∀ op ∈ ops, op.tid ≠ t ∨ op.writes = false) : (JailTL.final st ops) t = st t := by
  induction ops generalizing st with
  | nil => rfl
  | cons op ops ih =>
    simp only [JailTL.final]
    rw [ih _ (fun o ho => h o (List.mem_cons_of_mem _ ho))]
    rcases h op List.mem_cons_self with h1 | h1
    · exact JailTL.step_other st op t h1
    · cases op with
      | open_ u url => rfl
      | _ => cases h1

theorem JailTL.final_other (st : JailTL) (ops : List JOp) (t : Tid)
    (h : ∀ op ∈ ops, op.tid ≠ t) : (JailTL.final st ops) t = st t :=
  JailTL.final_nowrite st ops t fun op ho => Or.inl (h op ho)

theorem runTL_append (st : JailTL) (a b : List JOp) :
    runTL st (a ++ b) = runTL st a ++ runTL (JailTL.final st a) b := by
  induction a generalizing st with
  | nil => rfl
  | cons op ops ih =>
    cases op with
    | open_ t url => simp only [List.cons_append, runTL, JailTL.final, JailTL.step, ih, List.cons_append]
    | setup t r => simp only [List.cons_append, runTL, JailTL.final, ih]
    | teardown t => simp only [List.cons_append, runTL, JailTL.final, ih]

/-- what thread `t` observes in an interleaved trace is what it observes running alone -/
theorem runTL_projection (st st' : JailTL) (ops : List JOp) (t : Tid) (h : st t = st' t) :
    (runTL st ops).filter (fun r => r.1 == t) = runTL st' (ops.filter (fun o => o.tid == t)) := by
  induction ops generalizing st st' with
  | nil => rfl
  | cons op ops ih =>
    by_cases ht : op.tid = t
    · have hf : (op :: ops).filter (fun o => o.tid == t) = op :: ops.filter (fun o => o.tid == t) := by
        simp [ht]
      rw [hf]
      cases op with
      | open_ u url =>
        simp only [JOp.tid] at ht
        subst ht
        simp only [runTL, List.filter_cons, beq_self_eq_true, if_true, h]
        rw [ih st st' h]
      | setup u r =>
        simp only [runTL]
        exact ih _ _ (JailTL.step_congr st st' _ t h)
      | teardown u =>
        simp only [runTL]
        exact ih _ _ (JailTL.step_congr st st' _ t h)
    · have hf : (op :: ops).filter (fun o => o.tid == t) = ops.filter (fun o => o.tid == t) := by
        simp [ht]
      rw [hf]
      cases op with
      | open_ u url =>
        simp only [JOp.tid] at ht
        have : ((u, jailAllows (st u) url) :: runTL st ops).filter (fun r => r.1 == t)
            = (runTL st ops).filter (fun r => r.1 == t) := by simp [ht]
        simp only [runTL, this]
        exact ih st st' h
      | setup u r =>
        simp only [runTL]
        exact ih _ _ ((JailTL.step_other st _ t ht).trans h)
      | teardown u =>
        simp only [runTL]
        exact ih _ _ ((JailTL.step_other st _ t ht).trans h)

end BreezyVerif.C31
