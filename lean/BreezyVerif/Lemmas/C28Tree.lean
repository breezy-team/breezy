import BreezyVerif.Lemmas.C28
/-!
C28 — lemmas for the working-tree layer (`Tree` over the guarded `Branch.stepG`)
and for "lock, then unlock again" roll-backs (`took_lock` in `BzrBranch.lock_*`,
`except: self.branch.unlock(); raise` in the working trees).
-/
namespace BreezyVerif.C28

/-- `core` with `_token_from_lock` erased: the attribute is (re)assigned by every first
`lock_write` and never cleared, it is not part of the lock state -/
def LF.lcore (s : LF) : LF := { s.core with tokenFromLock := none }
def Branch.lcore (s : Branch) : Branch := { cf := s.cf.lcore, repo := s.repo.core }
def Tree.lcore (s : Tree) : Tree :=
  { cf := s.cf.lcore, branch := s.branch.lcore, ds := { s.ds with log := [] } }

theorem LF.lcore_of_core {a b : LF} (h : a.core = b.core) : a.lcore = b.lcore := by
  simp only [LF.lcore, h]

theorem Branch.lcore_of_core {a b : Branch} (h : a.core = b.core) : a.lcore = b.lcore := by
  have h1 : a.cf.core = b.cf.core := by
    have := congrArg Branch.cf h
    simpa [Branch.core] using this
  have h2 : a.repo.core = b.repo.core := by
    have := congrArg Branch.repo h
    simpa [Branch.core] using this
  simp only [Branch.lcore, LF.lcore_of_core h1, h2]

theorem LF.lcore_count {a b : LF} (h : a.lcore = b.lcore) : a.count = b.count := by
  have := congrArg LF.count h
  simpa [LF.lcore, LF.core] using this

theorem LF.core_count {a b : LF} (h : a.core = b.core) : a.count = b.count := by
  have := congrArg LF.count h
  simpa [LF.core] using this

theorem Repo.core_depth {a b : Repo} (h : a.core = b.core) : a.depth = b.depth := by
  have h1 : a.wcount = b.wcount := by
    have := congrArg Repo.wcount h
    simpa [Repo.core] using this
  have h2 : a.cf.core = b.cf.core := by
    have := congrArg Repo.cf h
    simpa [Repo.core] using this
  simp only [Repo.depth, h1, LF.core_count h2]

theorem Tree.lcore_parts {a b : Tree} (h : a.lcore = b.lcore) :
    a.cf.count = b.cf.count ∧ a.branch.lcore = b.branch.lcore ∧ a.ds.held = b.ds.held :=
  ⟨LF.lcore_count (by have := congrArg Tree.cf h; simpa [Tree.lcore] using this),
   by have := congrArg Tree.branch h; simpa [Tree.lcore] using this,
   by have := congrArg (fun t => t.ds.held) h; simpa [Tree.lcore] using this⟩

theorem Branch.lcore_counts {a b : Branch} (h : a.lcore = b.lcore) :
    a.cf.count = b.cf.count ∧ a.repo.depth = b.repo.depth :=
  ⟨LF.lcore_count (by have := congrArg Branch.cf h; simpa [Branch.lcore] using this),
   Repo.core_depth (by have := congrArg Branch.repo h; simpa [Branch.lcore] using this)⟩

theorem Branch.stepG_eq (s : Branch) (o : SOp) (hg : ¬ (o = .branch .unlock ∧ s.cf.count = 0)) :
    s.stepG o = s.step o := by
  cases o with
  | branch o =>
    cases o with
    | unlock =>
      have : s.isLocked = true := (LF.isLocked_iff s.cf).mpr (Nat.pos_of_ne_zero fun hc => hg ⟨rfl, hc⟩)
      simp [Branch.stepG, Branch.step, this]
    | _ => rfl
  | _ => rfl

/-- with the guard, over-unlock of a branch is refused with nothing changed,
whoever else holds the repository -/
theorem branchG_over_unlock_refused (s : Branch) (hc : s.cf.count = 0) :
    s.stepG (.branch .unlock) = (s, .error .notHeld) := by
  have : s.isLocked = false := by simp [Branch.isLocked, LF.isLocked, hc]
  simp [Branch.stepG, this]

theorem Branch.stepG_nested {s : Branch} (h : s.Inv) {o : Op} (ho : o ≠ .unlock) (hc : 0 < s.cf.count) :
    s.stepG (.branch o) = ({ s with cf := (s.cf.step o).1 }, (s.cf.step o).2) := by
  rw [Branch.stepG_eq s _ (fun hx => ho (SOp.branch.inj hx.1))]
  rcases Branch.step_lock_cases h ho with ⟨_, e⟩ | ⟨h0, _⟩ | ⟨h0, _⟩ | ⟨h0, _⟩
  · exact e
  · omega
  · omega
  · omega

theorem Branch.inv_stepG {s : Branch} (h : s.Inv) (o : SOp) : (s.stepG o).1.Inv := by
  by_cases hg : o = .branch .unlock ∧ s.cf.count = 0
  · rw [hg.1, branchG_over_unlock_refused s hg.2]; exact h
  · rw [Branch.stepG_eq s o hg]; exact Branch.inv_step h o

/-- taking a write lock on control files and giving it back restores the lock state -/
theorem LF.lockWrite_unlock_lcore {s s' : LF} (h : s.Inv) {tok t : Option Nat}
    (e : s.lockWrite tok = (s', .ok t)) : ∃ s'', s'.unlock = (s'', .ok none) ∧ s''.lcore = s.lcore := by
  unfold LF.lockWrite at e
  split at e
  · next hm =>
    split at e
    · cases e
    · split at e <;> cases e
      exact ⟨s, LF.unlock_nested h (h.mode_count.mp hm), rfl⟩
  · next hm =>
    have hh : s.phys.held = none := by rw [← h.mode_held]; simpa using hm
    have htn : s.txn.isSome = false := by rw [h.txn_mode]; exact Bool.eq_false_iff.mpr hm
    split at e
    · cases e
    · next p t' hp =>
      simp only [htn, Bool.false_eq_true, if_false] at e
      cases e
      obtain ⟨s'', eu, hcore⟩ := LF.unlock_first h
        (Nat.eq_zero_of_not_pos fun hp => hm (h.mode_count.mpr hp)) (Phys.lockWrite_unlock_core hp hh) .w t
      exact ⟨s'', eu, by simp only [LF.lcore, hcore]⟩

/-- `lock_write(None)` on control files that are already locked: granted, or refused
with `ReadOnlyError` -/
theorem LF.lockWrite_none_locked {s : LF} (h : s.Inv) (hc : 0 < s.count) :
    (∃ s' t, s.lockWrite none = (s', .ok t)) ∨ s.lockWrite none = (s, .error .readOnly) := by
  have hm : s.mode.isSome = true := h.mode_count.mpr hc
  unfold LF.lockWrite
  simp only [hm, if_true]
  split
  · right; rfl
  · left; simp [Phys.validate]

theorem LF.lock_unlock_lcore {s : LF} (h : s.Inv) (o : Op) (ho : o ≠ .unlock) {s' : LF} {t : Option Nat}
    (e : s.step o = (s', .ok t)) : ∃ s'', s'.unlock = (s'', .ok none) ∧ s''.lcore = s.lcore := by
  cases o with
  | unlock => exact absurd rfl ho
  | lockRead =>
    obtain ⟨s'', eu, hc⟩ := LF.lockRead_unlock_core h (s' := s') (t := t) e
    exact ⟨s'', eu, LF.lcore_of_core hc⟩
  | lockWrite tok => exact LF.lockWrite_unlock_lcore h e

/-- A granted `lock_read` / `lock_write` of a branch followed by `unlock` restores the
lock state of the whole branch/repository stack. -/
theorem Branch.lock_unlock_lcore {s b : Branch} (h : s.Inv) (o : Op) (ho : o ≠ .unlock)
    {t : Option Nat} (e : s.stepG (.branch o) = (b, .ok t)) :
    ∃ b', b.stepG (.branch .unlock) = (b', .ok none) ∧ b'.lcore = s.lcore := by
  rw [Branch.stepG_eq s _ (fun hx => ho (SOp.branch.inj hx.1))] at e
  have hcnt := fun t => (LF.step_reentrant h.cf o).count (t := t)
  rw [if_neg ho] at hcnt
  have hcf : ∀ t, (s.cf.step o).2 = .ok t → ∃ cf'', (s.cf.step o).1.unlock = (cf'', .ok none) ∧
      cf''.lcore = s.cf.lcore ∧ (s.cf.step o).1.isLocked = true ∧ cf''.count = s.cf.count := fun t ht => by
    obtain ⟨cf'', eu, hcore⟩ := LF.lock_unlock_lcore h.cf o ho (Prod.ext rfl ht)
    exact ⟨cf'', eu, hcore, (LF.isLocked_iff _).mpr (by rw [hcnt t ht]; exact Nat.succ_pos _), LF.lcore_count hcore⟩
  rcases Branch.step_lock_cases h ho with ⟨hc, e'⟩ | ⟨_, _, e'⟩ | ⟨_, _, _, _, _, e'⟩ | ⟨hc, tr, tc, er, ec, e'⟩ <;>
    rw [e'] at e
  · obtain ⟨cf'', eu, hcore, hlb, hc''⟩ := hcf t (Prod.mk.inj e).2
    have hl'' : cf''.isLocked = true := (LF.isLocked_iff cf'').mpr (by omega)
    obtain ⟨rfl, _⟩ := Prod.mk.inj e
    exact ⟨{ s with cf := cf'' },
      by simp only [Branch.stepG, Branch.isLocked, hlb, Bool.not_true, Bool.false_eq_true, if_false,
        Branch.unlock, eu, hl''],
      by simp only [Branch.lcore, hcore]⟩
  · cases e
  · cases e
  · obtain ⟨cf'', eu, hcore, hlb, hc''⟩ := hcf tc ec
    have hl'' : cf''.isLocked = false := Bool.eq_false_iff.mpr fun hx => by
      have := (LF.isLocked_iff cf'').mp hx; omega
    obtain ⟨r', eur, hrcore⟩ := Repo.lock_unlock_core h.repo ho (Prod.ext rfl er)
    cases e
    exact ⟨{ cf := cf'', repo := r' },
      by simp only [Branch.stepG, Branch.isLocked, hlb, Bool.not_true, Bool.false_eq_true, if_false,
        Branch.unlock, eu, hl'', Bool.not_false, if_true, eur],
      by simp only [Branch.lcore, hcore, hrcore]⟩

/-- `unlock` of a locked branch that holds its repository is granted -/
theorem Branch.unlock_ok {s : Branch} (h : s.Inv) (hcons : s.Consistent) (hc : 0 < s.cf.count) :
    ∃ b, s.stepG (.branch .unlock) = (b, .ok none) ∧ b.cf.count + 1 = s.cf.count := by
  have hl : s.isLocked = true := by simp [Branch.isLocked, LF.isLocked]; omega
  simp only [Branch.stepG, hl, Bool.not_true, Bool.false_eq_true, if_false, Branch.unlock]
  rcases LF.unlock_spec h.cf with ⟨hc0, _⟩ | ⟨_, cf', eu, hcc, _⟩
  · omega
  · rw [eu]
    simp only
    by_cases h1 : 1 ≤ cf'.count
    · have : (!cf'.isLocked) = false := by simp [LF.isLocked, h1]
      simp only [this, Bool.false_eq_true, if_false]
      exact ⟨_, rfl, hcc⟩
    · have : (!cf'.isLocked) = true := by simp [LF.isLocked, h1]
      simp only [this, if_true]
      have hdp : 0 < s.repo.depth := hcons hc
      rcases Repo.unlock_spec h.repo with ⟨hd, _⟩ | ⟨_, er⟩ | ⟨_, _, _, _, _, _, er⟩
      · omega
      · rw [er]; exact ⟨_, rfl, hcc⟩
      · rw [er]; exact ⟨_, rfl, hcc⟩

structure Tree.Inv (s : Tree) : Prop where
  cf : s.cf.Inv
  branch : s.branch.Inv
  /-- the dirstate file is locked exactly while the tree is -/
  ds_held : s.ds.held.isSome = true ↔ 0 < s.cf.count
  ds_bal : Balanced s.ds.log s.ds.held.isSome

/-- every tree lock holds a branch lock, and the branch holds its repository (violated
only when a caller unlocks the branch or the repository behind the tree's back) -/
structure Tree.Consistent (s : Tree) : Prop where
  tree : s.cf.count ≤ s.branch.cf.count
  branch : s.branch.Consistent

theorem Tree.inv_init (ext rbT rbB rbR : Bool) (pin : Bool := false) :
    (Tree.init ext rbT rbB rbR pin).Inv :=
  ⟨LF.inv_init ext rbT, Branch.inv_init ext rbB rbR, by simp [Tree.init, LF.init], Balanced.nil⟩

theorem DS.lock_ok {d d' : DS} {m : Mode} (h : d.lock m = .ok d') :
    d'.held = some m ∧ d'.pinned = d.pinned ∧ ∃ e, e ≠ Ev.rel ∧ d'.log = d.log ++ [e] := by
  unfold DS.lock at h
  split at h
  · cases h
  · injection h with h; subst h
    refine ⟨rfl, rfl, _, ?_, rfl⟩
    cases m <;> decide

theorem DS.lock_err {d : DS} {m : Mode} {e : Err} (h : d.lock m = .error e) :
    e = .contention ∧ m = .w ∧ d.pinned = true := by
  unfold DS.lock at h
  split at h
  · next hc =>
    injection h with h
    simp only [Bool.and_eq_true, decide_eq_true_eq] at hc
    exact ⟨h.symm, hc.1, hc.2⟩
  · cases h

theorem Tree.rollbackBranch_inv {s : Tree} (hb : s.branch.Inv) (e : Err) :
    (Tree.rollbackBranch s e).1.branch.Inv ∧ (Tree.rollbackBranch s e).1.cf = s.cf ∧
    (Tree.rollbackBranch s e).1.ds = s.ds := by
  have hu := Branch.inv_stepG hb (.branch .unlock)
  simp only [Tree.rollbackBranch]
  rcases hx : s.branch.stepG (.branch .unlock) with ⟨b, r'⟩
  rw [hx] at hu
  cases r' <;> exact ⟨hu, rfl, rfl⟩

theorem Tree.lockSelf_inv {s : Tree} (h : s.Inv) (m : Mode) (o : Op) (ho : o ≠ .unlock) :
    (s.lockSelf m (s.cf.step o)).1.Inv := by
  rcases hr : s.cf.step o with ⟨cf, res⟩
  have hcf : cf.Inv := by have := LF.inv_step h.cf o; rw [hr] at this; exact this
  cases res with
  | error e =>
    have hsame : cf = s.cf := by
      have := (LF.step_reentrant h.cf o).unchanged (e := e) (by rw [hr])
      rw [hr] at this; exact this
    subst hsame
    obtain ⟨h1, h2, h3⟩ := Tree.rollbackBranch_inv (s := { s with cf := s.cf }) h.branch e
    simp only [Tree.lockSelf]
    exact ⟨by rw [h2]; exact h.cf, h1, by rw [h2, h3]; exact h.ds_held, by rw [h3]; exact h.ds_bal⟩
  | ok t =>
    have hcnt : cf.count = s.cf.count + 1 := by
      have := (LF.step_reentrant h.cf o).count (t := t) (by rw [hr])
      rw [hr] at this
      simpa [ho] using this
    simp only [Tree.lockSelf]
    by_cases hh : s.ds.held.isSome = true
    · simp only [hh, if_true]
      exact ⟨hcf, h.branch, ⟨fun _ => by show 0 < cf.count; omega, fun _ => hh⟩, h.ds_bal⟩
    · simp only [hh, Bool.false_eq_true, if_false]
      have hc0 : s.cf.count = 0 := by
        have : ¬ 0 < s.cf.count := fun hp => hh (h.ds_held.mpr hp)
        omega
      have hhn : s.ds.held.isSome = false := by simpa using hh
      cases hd : s.ds.lock m with
      | ok d =>
        obtain ⟨d1, _, e, he, hl⟩ := DS.lock_ok hd
        simp only
        refine ⟨hcf, h.branch, ⟨fun _ => by show 0 < cf.count; omega, fun _ => by simp [d1]⟩, ?_⟩
        simp only [d1, hl, Option.isSome_some]
        have := h.ds_bal
        rw [hhn] at this
        exact this.acquire e he
      | error e =>
        simp only
        obtain ⟨cf2, eu, hl⟩ := LF.lock_unlock_lcore h.cf o ho hr
        have hcf2 : cf2.Inv := by have : cf.unlock.1.Inv := LF.inv_step hcf .unlock; rwa [eu] at this
        have hc2 : cf2.count = 0 := (LF.lcore_count hl).trans hc0
        rw [eu]
        simp only
        obtain ⟨h1, h2, h3⟩ := Tree.rollbackBranch_inv (s := { s with cf := cf2 }) h.branch e
        exact ⟨by rw [h2]; exact hcf2, h1,
          by rw [h2, h3]; simp only; constructor <;> intro hx <;> simp_all,
          by rw [h3]; exact h.ds_bal⟩

theorem Tree.lockVia_inv {s : Tree} (h : s.Inv) (bo : Op) (m : Mode) (o : Op) (ho : o ≠ .unlock) :
    (s.lockVia bo m (fun cf => cf.step o)).1.Inv := by
  have hb := Branch.inv_stepG h.branch (.branch bo)
  simp only [Tree.lockVia]
  rcases hx : s.branch.stepG (.branch bo) with ⟨b, r⟩
  rw [hx] at hb
  cases r with
  | error e => exact ⟨h.cf, hb, h.ds_held, h.ds_bal⟩
  | ok t =>
    exact Tree.lockSelf_inv (s := { s with branch := b }) ⟨h.cf, hb, h.ds_held, h.ds_bal⟩ m o ho

theorem Tree.unlock_inv {s : Tree} (h : s.Inv) : s.unlock.1.Inv := by
  have hu := Branch.inv_stepG h.branch (.branch .unlock)
  simp only [Tree.unlock]
  rcases hy : s.branch.stepG (.branch .unlock) with ⟨b, r'⟩
  rw [hy] at hu
  rcases LF.unlock_spec h.cf with ⟨h0, eu⟩ | ⟨hp, cf', eu, hcc, hi⟩
  · have hne : (s.cf.count = 1 && s.ds.held.isSome) = false := by simp [h0]
    simp only [hne, Bool.false_eq_true, if_false, eu, hy]
    cases r' <;> exact ⟨h.cf, hu, h.ds_held, h.ds_bal⟩
  · have hheld : s.ds.held.isSome = true := h.ds_held.mpr hp
    by_cases h1 : s.cf.count = 1
    · simp only [h1, hheld, Bool.and_self, decide_true, if_true, eu, hy]
      have hb := h.ds_bal
      rw [hheld] at hb
      cases r' <;>
        exact ⟨hi, hu, by simp only [DS.unlock]; constructor <;> intro hx <;> simp_all <;> omega,
          by simp only [DS.unlock, Option.isSome_none]; exact hb.release⟩
    · have hne : (s.cf.count = 1 && s.ds.held.isSome) = false := by simp [h1]
      simp only [hne, Bool.false_eq_true, if_false, eu, hy]
      cases r' <;> exact ⟨hi, hu, ⟨fun _ => by show 0 < cf'.count; omega, fun _ => hheld⟩, h.ds_bal⟩

theorem Tree.inv_step {s : Tree} (h : s.Inv) (o : TOp) : (s.step o).1.Inv := by
  cases o with
  | tree o =>
    cases o with
    | lockRead => exact Tree.lockVia_inv h _ _ .lockRead (by decide)
    | lockTreeWrite => exact Tree.lockVia_inv h _ _ (.lockWrite none) (by decide)
    | lockWrite => exact Tree.lockVia_inv h _ _ (.lockWrite none) (by decide)
    | unlock => exact Tree.unlock_inv h
  | branch o => exact ⟨h.cf, Branch.inv_stepG h.branch (.branch o), h.ds_held, h.ds_bal⟩
  | repo o => exact ⟨h.cf, Branch.inv_stepG h.branch (.repo o), h.ds_held, h.ds_bal⟩

theorem Tree.stepG_eq (s : Tree) (o : TOp) (hg : ¬ (o = .tree .unlock ∧ s.cf.count = 0)) :
    s.stepG o = s.step o := by
  cases o with
  | tree o =>
    cases o with
    | unlock =>
      have : s.isLocked = true := (LF.isLocked_iff s.cf).mpr (Nat.pos_of_ne_zero fun hc => hg ⟨rfl, hc⟩)
      simp [Tree.stepG, Tree.step, this]
    | _ => rfl
  | _ => rfl

theorem treeG_over_unlock_refused (s : Tree) (hc : s.cf.count = 0) :
    s.stepG (.tree .unlock) = (s, .error .notHeld) := by
  have : s.isLocked = false := by simp [Tree.isLocked, LF.isLocked, hc]
  simp [Tree.stepG, this]

theorem Tree.inv_stepG {s : Tree} (h : s.Inv) (o : TOp) : (s.stepG o).1.Inv := by
  by_cases hg : o = .tree .unlock ∧ s.cf.count = 0
  · rw [hg.1, treeG_over_unlock_refused s hg.2]; exact h
  · rw [Tree.stepG_eq s o hg]; exact Tree.inv_step h o

theorem Tree.inv_run {s : Tree} (h : s.Inv) (ops : List TOp) : (s.run ops).Inv :=
  List.foldlRecOn (motive := Tree.Inv) ops _ h fun _ h o _ => Tree.inv_step h o

theorem Tree.inv_runG {s : Tree} (h : s.Inv) (ops : List TOp) : (s.runG ops).Inv :=
  List.foldlRecOn (motive := Tree.Inv) ops _ h fun _ h o _ => Tree.inv_stepG h o

/-- the call a tree operation makes on its own control files -/
def TreeOp.cfOp : TreeOp → Op
  | .lockRead => .lockRead
  | .lockTreeWrite => .lockWrite none
  | .lockWrite => .lockWrite none
  | .unlock => .unlock

/-- the call a tree operation makes on its branch -/
def TreeOp.branchOp : TreeOp → Op
  | .lockRead => .lockRead
  | .lockTreeWrite => .lockRead
  | .lockWrite => .lockWrite none
  | .unlock => .unlock

/-- the mode a tree lock operation takes the dirstate file in -/
def TreeOp.dsMode : TreeOp → Mode
  | .lockRead => .r
  | _ => .w

theorem Branch.stepG_repo (s : Branch) (o : Op) :
    s.stepG (.repo o) = ({ s with repo := (s.repo.step o).1 }, (s.repo.step o).2) := by
  simp only [Branch.stepG, Branch.step]

theorem Tree.rollbackBranch_ne_ok (s : Tree) (e : Err) {s' : Tree} {t : Option Nat} :
    Tree.rollbackBranch s e ≠ (s', .ok t) := by
  simp only [Tree.rollbackBranch]
  rcases s.branch.stepG (.branch .unlock) with ⟨b, r⟩
  cases r <;> exact fun h => by cases h

/-- a granted tree lock call: the branch call and the call on the own control files were
granted, the dirstate file was already held or has just been locked -/
theorem Tree.lockVia_ok {s s' : Tree} {bo : Op} {m : Mode} {self : LF → LF × Res} {t : Option Nat}
    (e : s.lockVia bo m self = (s', .ok t)) :
    ∃ tb tc, (s.branch.stepG (.branch bo)).2 = .ok tb ∧ (self s.cf).2 = .ok tc ∧
      s'.cf = (self s.cf).1 ∧ s'.branch = (s.branch.stepG (.branch bo)).1 ∧
      ((s.ds.held.isSome = true ∧ s'.ds = s.ds) ∨
       (s.ds.held.isSome = false ∧ s.ds.lock m = .ok s'.ds)) := by
  simp only [Tree.lockVia] at e
  rcases hb : s.branch.stepG (.branch bo) with ⟨b, rb⟩
  rw [hb] at e
  cases rb with
  | error e' => simp at e
  | ok tb =>
    simp only [Tree.lockSelf] at e
    rcases hc : self s.cf with ⟨cf', rc⟩
    rw [hc] at e
    cases rc with
    | error e' =>
      exact absurd e (Tree.rollbackBranch_ne_ok _ _)
    | ok tc =>
      simp only at e
      by_cases hh : s.ds.held.isSome = true
      · simp only [hh, if_true] at e
        have e1 := (Prod.mk.inj e).1
        subst e1
        exact ⟨tb, tc, rfl, rfl, rfl, rfl, Or.inl ⟨hh, rfl⟩⟩
      · have hhn : s.ds.held.isSome = false := by simpa using hh
        simp only [hh, Bool.false_eq_true, if_false] at e
        cases hd : s.ds.lock m with
        | ok d =>
          rw [hd] at e
          simp only at e
          have e1 := (Prod.mk.inj e).1
          subst e1
          exact ⟨tb, tc, rfl, rfl, rfl, rfl, Or.inr ⟨hhn, rfl⟩⟩
        | error e' =>
          rw [hd] at e
          simp only at e
          rcases hu : cf'.unlock with ⟨cf2, r2⟩
          rw [hu] at e
          cases r2 with
          | ok t2 =>
            exact absurd e (Tree.rollbackBranch_ne_ok _ _)
          | error e3 =>
            exact absurd e (Tree.rollbackBranch_ne_ok _ _)

theorem Tree.step_lock_eq (s : Tree) (o : TreeOp) (ho : o ≠ .unlock) :
    s.step (.tree o) = s.lockVia o.branchOp o.dsMode (fun cf => cf.step o.cfOp) := by
  cases o with
  | unlock => exact absurd rfl ho
  | lockRead => rfl
  | lockTreeWrite => rfl
  | lockWrite => rfl

theorem Tree.unlock_state (s : Tree) :
    s.unlock.1.cf = s.cf.unlock.1 ∧ s.unlock.1.branch = (s.branch.stepG (.branch .unlock)).1 ∧
    s.unlock.1.ds = (if s.cf.count = 1 && s.ds.held.isSome then s.ds.unlock else s.ds) := by
  simp only [Tree.unlock]
  by_cases hc : (s.cf.count = 1 && s.ds.held.isSome) = true
  · simp only [hc, if_true]
    rcases s.cf.unlock with ⟨cf, r⟩
    rcases s.branch.stepG (.branch .unlock) with ⟨b, rb⟩
    cases rb <;> exact ⟨rfl, rfl, rfl⟩
  · simp only [hc, Bool.false_eq_true, if_false]
    rcases s.cf.unlock with ⟨cf, r⟩
    rcases s.branch.stepG (.branch .unlock) with ⟨b, rb⟩
    cases rb <;> exact ⟨rfl, rfl, rfl⟩

theorem Tree.unlock_result (s : Tree) :
    s.unlock.2 = (match (s.branch.stepG (.branch .unlock)).2 with
      | .error e' => .error e'
      | .ok _ => s.cf.unlock.2) := by
  simp only [Tree.unlock]
  by_cases hc : (s.cf.count = 1 && s.ds.held.isSome) = true
  · simp only [hc, if_true]
    rcases s.cf.unlock with ⟨cf, r⟩
    rcases s.branch.stepG (.branch .unlock) with ⟨b, rb⟩
    cases rb <;> rfl
  · simp only [hc, Bool.false_eq_true, if_false]
    rcases s.cf.unlock with ⟨cf, r⟩
    rcases s.branch.stepG (.branch .unlock) with ⟨b, rb⟩
    cases rb <;> rfl

theorem Tree.step_ok {s : Tree} (o : TreeOp) {t : Option Nat} (hr : (s.step (.tree o)).2 = .ok t) :
    ∃ tb tc, (s.branch.stepG (.branch o.branchOp)).2 = .ok tb ∧ (s.cf.step o.cfOp).2 = .ok tc ∧
      (s.step (.tree o)).1.cf = (s.cf.step o.cfOp).1 ∧
      (s.step (.tree o)).1.branch = (s.branch.stepG (.branch o.branchOp)).1 := by
  by_cases ho : o = .unlock
  · subst ho
    obtain ⟨h1, h2, _⟩ := Tree.unlock_state s
    have hres := Tree.unlock_result s
    simp only [Tree.step] at hr ⊢
    rw [hres] at hr
    cases hb : (s.branch.stepG (.branch .unlock)).2 with
    | error e' => rw [hb] at hr; cases hr
    | ok tb => rw [hb] at hr; exact ⟨tb, t, hb, hr, h1, h2⟩
  · have e := Tree.step_lock_eq s o ho
    obtain ⟨tb, tc, h1, h2, h3, h4, _⟩ :=
      Tree.lockVia_ok (s := s) (s' := (s.step (.tree o)).1) (t := t) (by rw [← e]; exact Prod.ext rfl hr)
    exact ⟨tb, tc, h1, h2, h3, h4⟩

theorem Tree.rollbackBranch_ok {s1 : Tree} {b' : Branch} (e : Err)
    (eu : s1.branch.stepG (.branch .unlock) = (b', .ok none)) :
    Tree.rollbackBranch s1 e = ({ s1 with branch := b' }, .error e) := by
  simp only [Tree.rollbackBranch, eu]

/-- A refused tree lock call leaves the lock state unchanged, given that the refused
branch call underneath does (`hbr`): a refusal of the tree's own control files gives the
branch lock back; a refusal of the dirstate file gives the control files AND the branch
lock back. -/
theorem Tree.lockVia_refused {s : Tree} (h : s.Inv) (bo : Op) (hbo : bo ≠ .unlock) (m : Mode)
    (o : Op) (ho : o ≠ .unlock)
    (hbr : ∀ e, (s.branch.stepG (.branch bo)).2 = .error e →
      (s.branch.stepG (.branch bo)).1.core = s.branch.core)
    {e : Err} (hr : (s.lockVia bo m (fun cf => cf.step o)).2 = .error e) :
    (s.lockVia bo m (fun cf => cf.step o)).1.lcore = s.lcore := by
  simp only [Tree.lockVia] at hr ⊢
  rcases hb : s.branch.stepG (.branch bo) with ⟨b, rb⟩
  rw [hb] at hr hbr
  cases rb with
  | error e' =>
    simp only [Tree.lcore, Branch.lcore_of_core (hbr e' rfl)]
  | ok tb =>
    obtain ⟨b', eu, hl⟩ := Branch.lock_unlock_lcore h.branch bo hbo hb
    simp only [Tree.lockSelf] at hr ⊢
    rcases hc : s.cf.step o with ⟨cf', rc⟩
    rw [hc] at hr
    cases rc with
    | error e1 =>
      have hcf : cf' = s.cf := by
        have := (LF.step_reentrant h.cf o).unchanged (e := e1) (by rw [hc])
        rw [hc] at this; exact this
      simp only [Tree.rollbackBranch_ok (s1 := { cf := cf', branch := b, ds := s.ds }) e1 eu]
      simp only [Tree.lcore, hl, hcf]
    | ok tc =>
      simp only at hr ⊢
      by_cases hh : s.ds.held.isSome = true
      · simp [hh] at hr
      · simp only [hh, Bool.false_eq_true, if_false] at hr ⊢
        cases hd : s.ds.lock m with
        | ok d => rw [hd] at hr; simp at hr
        | error e2 =>
          obtain ⟨cf2, eu2, hl2⟩ := LF.lock_unlock_lcore h.cf o ho hc
          simp only [eu2]
          simp only [Tree.rollbackBranch_ok (s1 := { cf := cf2, branch := b, ds := s.ds }) e2 eu]
          simp only [Tree.lcore, hl, hl2]

/-- the result of a tree lock call whose own control files refuse with `e1` while the
branch call underneath is granted: `e1`, after the roll-back -/
theorem Tree.lockVia_self_refused {s : Tree} (h : s.Inv) (bo : Op) (hbo : bo ≠ .unlock) (m : Mode)
    (self : LF → LF × Res)
    {b : Branch} {tb : Option Nat} (hb : s.branch.stepG (.branch bo) = (b, .ok tb))
    {e1 : Err} (hc : (self s.cf).2 = .error e1) : (s.lockVia bo m self).2 = .error e1 := by
  simp only [Tree.lockVia, hb, Tree.lockSelf]
  rcases hcc : self s.cf with ⟨cf', rc⟩
  rw [hcc] at hc
  simp only at hc
  subst hc
  obtain ⟨b', eu, _⟩ := Branch.lock_unlock_lcore h.branch bo hbo hb
  simp only [Tree.rollbackBranch_ok (s1 := { cf := cf', branch := b, ds := s.ds }) _ eu]

/-- THE DIRSTATE ROLL-BACK.  First write lock of a tree (`lock_write` / `lock_tree_write`)
whose dirstate file is pinned by another reader, branch call and own control files
granted: the call raises `LockContention`; the control files have been locked AND
unlocked again (their physical log grows by exactly `acquire, release`, the lock is not
held, count 0), the branch lock has been given back, the dirstate lock is untouched. -/
theorem Tree.lockVia_ds_refused {s : Tree} (h : s.Inv) (bo : Op) (hbo : bo ≠ .unlock)
    (hc0 : s.cf.count = 0) (hpin : s.ds.pinned = true)
    {b : Branch} {tb : Option Nat} (hb : s.branch.stepG (.branch bo) = (b, .ok tb))
    {cf' : LF} {tc : Option Nat} (hc : s.cf.lockWrite none = (cf', .ok tc)) :
    (s.lockVia bo .w (fun cf => cf.lockWrite none)).2 = .error .contention ∧
    (s.lockVia bo .w (fun cf => cf.lockWrite none)).1.ds = s.ds ∧
    (s.lockVia bo .w (fun cf => cf.lockWrite none)).1.cf.count = 0 ∧
    (s.lockVia bo .w (fun cf => cf.lockWrite none)).1.cf.phys.held = none ∧
    (∃ ev, ev ≠ Ev.rel ∧
      (s.lockVia bo .w (fun cf => cf.lockWrite none)).1.cf.phys.log = s.cf.phys.log ++ [ev] ++ [.rel]) := by
  have hheld : s.ds.held.isSome = false := by
    cases hx : s.ds.held.isSome with
    | false => rfl
    | true => have := h.ds_held.mp hx; omega
  have hd : s.ds.lock .w = .error .contention := by simp [DS.lock, hpin]
  obtain ⟨b', eu, _⟩ := Branch.lock_unlock_lcore h.branch bo hbo hb
  have hcf' : cf'.Inv := by have : (s.cf.lockWrite none).1.Inv := LF.inv_step h.cf (.lockWrite none); rwa [hc] at this
  -- the edges: the first lock appends one acquire event, the last unlock the release event
  have e1 := LF.step_reentrant h.cf (.lockWrite none)
  simp only [LF.step, hc] at e1
  have hcnt : cf'.count = 1 := by have := e1.count rfl; rwa [if_neg nofun, hc0] at this
  obtain ⟨ev, hev, hl⟩ := e1.edge.1 hc0 (by omega)
  rcases LF.unlock_spec hcf' with ⟨h0, _⟩ | ⟨_, cf2, eu2, hcc, hi2⟩
  · omega
  · have e2 := LF.step_reentrant hcf' .unlock
    simp only [LF.step, eu2] at e2
    have hrel : cf2.phys.log = cf'.phys.log ++ [.rel] := e2.edge.2.1 (by omega) (by omega)
    have hnone : cf2.phys.held = none := by
      cases hx : cf2.phys.held with
      | none => rfl
      | some _ => have := hi2.held_iff.mp (by rw [hx]; rfl); omega
    simp only [Tree.lockVia, hb, Tree.lockSelf, hc, hheld, Bool.false_eq_true, if_false, hd, eu2]
    simp only [Tree.rollbackBranch_ok (s1 := { cf := cf2, branch := b, ds := s.ds }) _ eu]
    refine ⟨trivial, trivial, by omega, hnone, ev, hev, ?_⟩
    rw [hrel, hl]

end BreezyVerif.C28
