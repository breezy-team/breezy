import BreezyVerif.Lemmas.C22Dfs
import BreezyVerif.Lemmas.Lib.AList
/-!
C22 — lemmas about the revno assignment `numberAll` of `mergeSort`: it never
fails on the output of the walk and never gives the same dotted revno twice.
-/
namespace BreezyVerif.C22
open Lib

theorem lookup_eq_lookup {α : Type} (l : List (Nat × α)) (x : Nat) : lookup l x = l.lookup x :=
  (lookup_eq_find? l x).symm

theorem lookup_cons {α : Type} (k : Nat) (v : α) (l : List (Nat × α)) (x : Nat) :
    lookup ((k, v) :: l) x = if k = x then some v else lookup l x := by
  rw [lookup_eq_lookup, lookup_eq_lookup, lookup_cons_ite]

theorem mem_of_lookup {α : Type} (l : List (Nat × α)) (x : Nat) (v : α) (h : lookup l x = some v) : (x, v) ∈ l :=
  Lib.mem_of_lookup (lookup_eq_lookup l x ▸ h)

theorem lookup_of_mem {α : Type} (l : List (Nat × α)) (x : Nat) (v : α) (hn : (l.map (·.1)).Nodup)
    (h : (x, v) ∈ l) : lookup l x = some v :=
  lookup_eq_lookup l x ▸ Lib.lookup_of_mem hn h

theorem lookup_none_of_not_mem {α : Type} : ∀ (l : List (Nat × α)) (x : Nat),
    x ∉ l.map (·.1) → lookup l x = none :=
  fun l x h => lookup_eq_lookup l x ▸ lookup_eq_none_iff_keys.mpr h

def cnt (st : Num) (b : Nat) : Nat := (lookup st.counts b).getD 0

def GoodShape (st : Num) (r : List Nat) : Prop :=
  (∃ k, r = [k] ∧ 1 ≤ k) ∨ (∃ b c k, r = [b, c, k] ∧ 1 ≤ c ∧ c ≤ cnt st b ∧ 1 ≤ k)

/-- `st` is the numbering state after the nodes `pre` (oldest first) have been numbered from the empty state -/
structure NumInv (g : Graph) (pre : List Entry) (st : Num) : Prop where
  keys : st.revnos.map (·.1) = (pre.map (·.1)).reverse
  init : pre = [] → st.counts = []
  empty0 : lookup st.counts 0 = none → st.revnos = []
  shape : ∀ x r, (x, r) ∈ st.revnos → GoodShape st r
  inj : ∀ x1 r x2, (x1, r) ∈ st.revnos → (x2, r) ∈ st.revnos → x1 = x2
  /-- a revno that does not end in 1 was made from the left parent's revno -/
  prov : ∀ x r k, (x, r) ∈ st.revnos → r.getLast? = some k → 2 ≤ k →
    ∃ e ∈ pre, e.1 = x ∧ e.2.2 = true ∧ ∃ P pr j, lpOf g x = some P ∧ (P, pr) ∈ st.revnos ∧
      pr.getLast? = some j ∧ r = pr.dropLast ++ [j + 1]
  /-- a first child has its left parent's revno with the last number increased -/
  fcr : ∀ e ∈ pre, e.2.2 = true → ∀ P, lpOf g e.1 = some P →
    ∃ pr k, (P, pr) ∈ st.revnos ∧ pr.getLast? = some k ∧ (e.1, pr.dropLast ++ [k + 1]) ∈ st.revnos
  /-- the very first node is numbered (1) -/
  root1 : ∀ e, pre.head? = some e → (e.1, [1]) ∈ st.revnos

theorem numInv_empty (g : Graph) : NumInv g [] ⟨[], []⟩ :=
  ⟨rfl, fun _ => rfl, fun _ => rfl, (fun _ _ h => by cases h), (fun _ _ _ h => by cases h),
    (fun _ _ _ h => by cases h), (fun _ h => by cases h), (fun _ h => by cases h)⟩

theorem GoodShape.mono {st st' : Num} (h : ∀ b, cnt st b ≤ cnt st' b) {r : List Nat}
    (hs : GoodShape st r) : GoodShape st' r := by
  rcases hs with hs | ⟨b, c, k, hr, h1, h2, h3⟩
  · exact Or.inl hs
  · exact Or.inr ⟨b, c, k, hr, h1, Nat.le_trans h2 (h b), h3⟩

theorem cnt_cons (st : Num) (base c b : Nat) :
    cnt { st with counts := (base, c) :: st.counts } b = if base = b then c else cnt st b := by
  unfold cnt
  simp only [lookup_cons]
  by_cases h : base = b <;> simp [h]

theorem cnt_le_cons (st : Num) (base c : Nat) (hc : cnt st base ≤ c) (b : Nat) :
    cnt st b ≤ cnt { st with counts := (base, c) :: st.counts } b := by
  rw [cnt_cons]
  split
  · rename_i h; rw [← h]; exact hc
  · exact Nat.le_refl _

/-! what `numberOne` gives a present node, by its left parent -/

theorem numberOne_root {g : Graph} {st : Num} {n : Nat} {fc : Bool} (hn : n < g.length) (hl : lpOf g n = none) :
    numberOne g st n fc = match lookup st.counts 0 with
      | none => some ({ st with counts := (0, 0) :: st.counts }, [1])
      | some rc => some ({ st with counts := (0, rc + 1) :: st.counts }, [0, rc + 1, 1]) := by
  unfold lpOf at hl
  unfold numberOne
  rw [List.getElem?_eq_getElem hn] at hl ⊢
  simp only [hl]
  rfl

theorem numberOne_firstChild {g : Graph} {st : Num} {n l k : Nat} {pr : List Nat} (hn : n < g.length)
    (hl : lpOf g n = some l) (hp : lookup st.revnos l = some pr) (hk : pr.getLast? = some k) :
    numberOne g st n true = some (st, pr.dropLast ++ [k + 1]) := by
  unfold lpOf at hl
  unfold numberOne
  rw [List.getElem?_eq_getElem hn] at hl ⊢
  simp only [hl, hp, hk, if_true]

theorem numberOne_branch {g : Graph} {st : Num} {n l base : Nat} {pr : List Nat} (hn : n < g.length)
    (hl : lpOf g n = some l) (hp : lookup st.revnos l = some pr) (hb : pr.head? = some base) :
    numberOne g st n false =
      some ({ st with counts := (base, cnt st base + 1) :: st.counts }, [base, cnt st base + 1, 1]) := by
  unfold lpOf at hl
  unfold numberOne
  rw [List.getElem?_eq_getElem hn] at hl ⊢
  simp only [hl, hp, hb, Bool.false_eq_true, if_false]
  rfl

/-- what the numbering needs of the order `all` (oldest first) in which the walk completed the nodes -/
structure Sched (g : Graph) (all : List Entry) : Prop where
  nodup : (all.map (·.1)).Nodup
  fcu : ∀ e1 ∈ all, ∀ e2 ∈ all, e1.2.2 = true → e2.2.2 = true →
    ∀ P, lpOf g e1.1 = some P → lpOf g e2.1 = some P → e1.1 = e2.1
  parentFirst : ∀ a e b, all = a ++ e :: b →
    e.1 < g.length ∧ ∀ P, lpOf g e.1 = some P → P ∈ a.map (·.1)

/-- the invariant after the next node `n` got the revno `r`, not given before: `r` ends in 1 unless `n` is a
first child, and a first child continues its left parent's revno -/
theorem numInv_push {g : Graph} {pre : List Entry} {st st' : Num} {n d : Nat} {fc : Bool} {r : List Nat}
    (hinv : NumInv g pre st) (hrev : st'.revnos = st.revnos) (hmono : ∀ b, cnt st b ≤ cnt st' b)
    (h0 : lookup st'.counts 0 ≠ none) (hshape : GoodShape st' r)
    (hfresh : ∀ x r', (x, r') ∈ st.revnos → r' ≠ r)
    (hprov : ∀ k, r.getLast? = some k → 2 ≤ k → fc = true ∧ ∃ P pr j, lpOf g n = some P ∧
      (P, pr) ∈ st.revnos ∧ pr.getLast? = some j ∧ r = pr.dropLast ++ [j + 1])
    (hfcr : fc = true → ∀ P, lpOf g n = some P →
      ∃ pr k, (P, pr) ∈ st.revnos ∧ pr.getLast? = some k ∧ r = pr.dropLast ++ [k + 1])
    (hone : pre = [] → r = [1]) :
    NumInv g (pre ++ [(n, d, fc)]) { st' with revnos := (n, r) :: st'.revnos } := by
  refine ⟨by simp [hrev, hinv.keys], fun h => absurd h (by simp), fun h => absurd h h0, ?_, ?_, ?_, ?_, ?_⟩
  · intro x r' hm
    rcases List.mem_cons.mp hm with hm | hm
    · cases hm; exact hshape
    · rw [hrev] at hm
      exact (hinv.shape x r' hm).mono hmono
  · intro x1 r' x2 h1 h2
    rcases List.mem_cons.mp h1 with h1 | h1 <;> rcases List.mem_cons.mp h2 with h2 | h2
    · cases h1; cases h2; rfl
    · cases h1; rw [hrev] at h2; exact absurd rfl (hfresh x2 _ h2)
    · cases h2; rw [hrev] at h1; exact absurd rfl (hfresh x1 _ h1)
    · rw [hrev] at h1 h2; exact hinv.inj x1 r' x2 h1 h2
  · intro x r' k hm hl hk
    rcases List.mem_cons.mp hm with hm | hm
    · cases hm
      obtain ⟨hf, P, pr, j, hP, hPm, hj, hr⟩ := hprov k hl hk
      exact ⟨(n, d, fc), List.mem_append_right _ (List.mem_singleton.mpr rfl), rfl, hf, P, pr, j, hP,
        List.mem_cons_of_mem _ (by rw [hrev]; exact hPm), hj, hr⟩
    · rw [hrev] at hm
      obtain ⟨e, he, hex, hef, P, pr, j, hP, hPm, hj, hr⟩ := hinv.prov x r' k hm hl hk
      exact ⟨e, List.mem_append_left _ he, hex, hef, P, pr, j, hP,
        List.mem_cons_of_mem _ (by rw [hrev]; exact hPm), hj, hr⟩
  · intro e he hf P hP
    rcases List.mem_append.mp he with he | he
    · obtain ⟨pr, k, h1, h2, h3⟩ := hinv.fcr e he hf P hP
      exact ⟨pr, k, List.mem_cons_of_mem _ (by rw [hrev]; exact h1), h2,
        List.mem_cons_of_mem _ (by rw [hrev]; exact h3)⟩
    · obtain rfl := List.mem_singleton.mp he
      obtain ⟨pr, k, h1, h2, h3⟩ := hfcr hf P hP
      exact ⟨pr, k, List.mem_cons_of_mem _ (by rw [hrev]; exact h1), h2, h3 ▸ List.mem_cons_self ..⟩
  · intro e he
    cases pre with
    | nil =>
      obtain rfl : (n, d, fc) = e := Option.some.inj he
      rw [hone rfl]
      exact List.mem_cons_self ..
    | cons x xs => exact List.mem_cons_of_mem _ (by rw [hrev]; exact hinv.root1 e he)

/-- … for a revno that ends in 1, given to a node that is not a first child with a left parent -/
theorem numInv_push_fresh {g : Graph} {pre : List Entry} {st st' : Num} {n d : Nat} {fc : Bool} {r : List Nat}
    (hinv : NumInv g pre st) (hrev : st'.revnos = st.revnos) (hmono : ∀ b, cnt st b ≤ cnt st' b)
    (h0 : lookup st'.counts 0 ≠ none) (hshape : GoodShape st' r) (hlast : r.getLast? = some 1)
    (hfresh : ∀ x r', (x, r') ∈ st.revnos → r' ≠ r) (hnofc : fc = true → lpOf g n = none)
    (hone : pre = [] → r = [1]) :
    NumInv g (pre ++ [(n, d, fc)]) { st' with revnos := (n, r) :: st'.revnos } :=
  numInv_push hinv hrev hmono h0 hshape hfresh
    (fun k hk h2 => by rw [hlast] at hk; cases hk; omega)
    (fun hf P hP => nomatch (hnofc hf).symm.trans hP) hone

/-- one numbering step keeps the invariant and gives a fresh revno -/
theorem numberOne_step (g : Graph) {all pre rest : List Entry} {n d : Nat} {fc : Bool} {st : Num}
    (hs : Sched g all) (hall : all = pre ++ (n, d, fc) :: rest) (hinv : NumInv g pre st) :
    ∃ st' r, numberOne g st n fc = some (st', r) ∧ st'.revnos = st.revnos ∧
      NumInv g (pre ++ [(n, d, fc)]) { st' with revnos := (n, r) :: st'.revnos } ∧
      (∀ x r', (x, r') ∈ st.revnos → r' ≠ r) := by
  subst hall
  obtain ⟨hpres, hlp⟩ := hs.parentFirst pre (n, d, fc) rest rfl
  have hnodup := hs.nodup
  rw [List.map_append, List.map_cons] at hnodup
  have hn_pre : n ∉ pre.map (·.1) := fun hmem =>
    (List.nodup_append.mp hnodup).2.2 n hmem n (List.mem_cons_self ..) rfl
  have hkeys_nodup : (st.revnos.map (·.1)).Nodup := by
    rw [hinv.keys]; exact (List.reverse_perm _).nodup_iff.mpr (List.nodup_append.mp hnodup).1
  have hkey_mem : ∀ x r, (x, r) ∈ st.revnos → x ∈ pre.map (·.1) := by
    intro x r h
    have : x ∈ st.revnos.map (·.1) := List.mem_map.mpr ⟨(x, r), h, rfl⟩
    rw [hinv.keys] at this
    exact List.mem_reverse.mp this
  cases hlP : lpOf g n with
  | none =>
    have hnofc : fc = true → lpOf g n = none := fun _ => hlP
    rw [numberOne_root hpres hlP]
    cases h0 : lookup st.counts 0 with
    | none =>
      simp only []
      have hempty := hinv.empty0 h0
      have hfresh : ∀ x r', (x, r') ∈ st.revnos → r' ≠ [1] := by
        intro x r' hm; rw [hempty] at hm; cases hm
      refine ⟨_, _, rfl, rfl, ?_, hfresh⟩
      exact numInv_push_fresh hinv (st' := { st with counts := (0, 0) :: st.counts }) rfl
        (cnt_le_cons st 0 0 (by simp [cnt, h0])) (by simp [lookup_cons])
        (Or.inl ⟨1, rfl, Nat.le_refl _⟩) rfl hfresh hnofc (fun _ => rfl)
    | some rc =>
      simp only []
      have hcnt : cnt st 0 = rc := by simp [cnt, h0]
      have hfresh : ∀ x r', (x, r') ∈ st.revnos → r' ≠ [0, rc + 1, 1] := by
        intro x r' hm heq
        rcases hinv.shape x r' hm with ⟨k, hr, _⟩ | ⟨b, c, k, hr, _, hc, _⟩
        · rw [hr] at heq; cases heq
        · rw [hr] at heq
          cases heq
          omega
      refine ⟨_, _, rfl, rfl, ?_, hfresh⟩
      exact numInv_push_fresh hinv (st' := { st with counts := (0, rc + 1) :: st.counts }) rfl
        (cnt_le_cons st 0 (rc + 1) (by omega)) (by simp [lookup_cons])
        (Or.inr ⟨0, rc + 1, 1, rfl, by omega, by simp [cnt_cons], Nat.le_refl _⟩) rfl hfresh hnofc
        (fun hp => by rw [hinv.init hp] at h0; cases h0)
  | some l =>
    have hl_pre := hlp l hlP
    have hl_key : l ∈ st.revnos.map (·.1) := by rw [hinv.keys]; exact List.mem_reverse.mpr hl_pre
    obtain ⟨⟨l', pr⟩, hprm, hl'⟩ := List.mem_map.mp hl_key
    simp only at hl'; subst hl'
    have hpre_ne : pre ≠ [] := by
      intro hp; rw [hp] at hl_pre; cases hl_pre
    have hlook := lookup_of_mem _ _ _ hkeys_nodup hprm
    have hprshape := hinv.shape l' pr hprm
    cases fc with
    | true =>
      -- the parent's revno with its last number increased
      obtain ⟨k, hk, hk1, hrshape⟩ : ∃ k, pr.getLast? = some k ∧ 1 ≤ k ∧
          GoodShape st (pr.dropLast ++ [k + 1]) := by
        rcases hprshape with ⟨k, rfl, hk1⟩ | ⟨b, c, k, rfl, h1, h2, h3⟩
        · exact ⟨k, rfl, hk1, Or.inl ⟨k + 1, rfl, by omega⟩⟩
        · exact ⟨k, rfl, h3, Or.inr ⟨b, c, k + 1, rfl, h1, h2, by omega⟩⟩
      have hfresh : ∀ x r', (x, r') ∈ st.revnos → r' ≠ pr.dropLast ++ [k + 1] := by
        intro x r' hm heq
        subst heq
        obtain ⟨e, he, hex, hef, P, pr', j, hP, hPm, hj, hr'⟩ :=
          hinv.prov x _ (k + 1) hm (by simp) (by omega)
        -- the two parents have the same revno, hence are the same node
        have hpr_eq : pr' = pr := by
          obtain ⟨ys, rfl⟩ := List.getLast?_eq_some_iff.mp hk
          obtain ⟨zs, rfl⟩ := List.getLast?_eq_some_iff.mp hj
          simp only [List.dropLast_concat] at hr'
          obtain ⟨h1, h2⟩ := List.append_inj' hr' rfl
          cases h2
          rw [h1]
        subst hpr_eq
        obtain rfl : P = l' := hinv.inj P pr' l' hPm hprm
        have := hs.fcu e (List.mem_append_left _ he) (n, d, true)
          (List.mem_append_right _ (List.mem_cons_self ..)) hef rfl P (by rw [hex]; exact hP) hlP
        rw [hex] at this
        have hxn : x = n := this
        exact hn_pre (hxn ▸ hkey_mem x _ hm)
      refine ⟨_, _, numberOne_firstChild hpres hlP hlook hk, rfl, ?_, hfresh⟩
      refine numInv_push hinv rfl (fun _ => Nat.le_refl _) ?_ hrshape hfresh
        (fun _ _ _ => ⟨rfl, l', pr, k, hlP, hprm, hk, rfl⟩) ?_ (fun hp => absurd hp hpre_ne)
      · intro h
        rw [hinv.empty0 h] at hprm; cases hprm
      · intro _ P hP
        obtain rfl : l' = P := Option.some.inj (hlP.symm.trans hP)
        exact ⟨pr, k, hprm, hk, rfl⟩
    | false =>
      obtain ⟨base, hbase⟩ : ∃ base, pr.head? = some base := by
        rcases hprshape with ⟨k, rfl, _⟩ | ⟨b, c, k, rfl, _, _, _⟩
        · exact ⟨k, rfl⟩
        · exact ⟨b, rfl⟩
      have hfresh : ∀ x r', (x, r') ∈ st.revnos → r' ≠ [base, cnt st base + 1, 1] := by
        intro x r' hm heq
        rcases hinv.shape x r' hm with ⟨k, hr, _⟩ | ⟨b, c, k, hr, _, hc', _⟩
        · rw [hr] at heq; cases heq
        · rw [hr] at heq
          cases heq
          omega
      refine ⟨_, _, numberOne_branch hpres hlP hlook hbase, rfl, ?_, hfresh⟩
      refine numInv_push_fresh hinv rfl
        (cnt_le_cons st base _ (Nat.le_succ _)) ?_
        (Or.inr ⟨base, cnt st base + 1, 1, rfl, by omega, by simp [cnt_cons], Nat.le_refl _⟩) rfl hfresh
        (fun h => by cases h) (fun hp => absurd hp hpre_ne)
      intro h
      rw [lookup_cons] at h
      split at h
      · cases h
      · rw [hinv.empty0 h] at hprm; cases hprm

/-- numbering the nodes `rest` that follow `pre` in `all`: succeeds, keeps nodes and depths, gives revnos that
are pairwise distinct and distinct from those given before, and ends in a state that satisfies the invariant
for the whole of `all` -/
theorem numberAll_spec (g : Graph) {all : List Entry} (hs : Sched g all) : ∀ (rest pre : List Entry) (st : Num),
    all = pre ++ rest → NumInv g pre st →
    ∃ out stF, numberAll g st rest = some out ∧
      out.map (fun e => (e.1, e.2.1)) = rest.map (fun e => (e.1, e.2.1)) ∧
      (out.map (·.2.2)).Nodup ∧ (∀ e ∈ out, ∀ x r', (x, r') ∈ st.revnos → r' ≠ e.2.2) ∧
      NumInv g all stF ∧ stF.revnos = (out.map fun e => (e.1, e.2.2)).reverse ++ st.revnos := by
  intro rest
  induction rest with
  | nil =>
    intro pre st hall hinv
    rw [List.append_nil] at hall
    subst hall
    exact ⟨[], st, rfl, rfl, List.nodup_nil, (fun e he => by cases he), hinv, rfl⟩
  | cons e rest ih =>
    intro pre st hall hinv
    obtain ⟨n, d, fc⟩ := e
    obtain ⟨st', r, hone, hrev, hinv', hfresh⟩ := numberOne_step g hs hall hinv
    obtain ⟨out, stF, hnum, hmap, hnd, hdist, hF, hFrev⟩ :=
      ih (pre ++ [(n, d, fc)]) { st' with revnos := (n, r) :: st'.revnos }
        (by rw [hall, List.append_assoc]; rfl) hinv'
    refine ⟨(n, d, r) :: out, stF, ?_, ?_, ?_, ?_, hF, ?_⟩
    · simp only [numberAll, hone, hnum]
    · rw [List.map_cons, List.map_cons, hmap]
    · rw [List.map_cons, List.nodup_cons]
      refine ⟨?_, hnd⟩
      intro hmem
      obtain ⟨e, he, her⟩ := List.mem_map.mp hmem
      exact hdist e he n r (List.mem_cons_self ..) her.symm
    · intro e he x r' hm
      rcases List.mem_cons.mp he with rfl | he
      · exact hfresh x r' hm
      · exact hdist e he x r' (List.mem_cons_of_mem _ (by rw [hrev]; exact hm))
    · rw [hFrev, hrev, List.map_cons, List.reverse_cons, List.append_assoc]
      rfl

end BreezyVerif.C22
