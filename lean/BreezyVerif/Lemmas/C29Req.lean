import BreezyVerif.Lemmas.C29CK
import BreezyVerif.Lemmas.C29Misc
/-! readv offsets, ConventionalRequestHandler on decoded events, protocol-2 client
response parsing -/
namespace BreezyVerif.C29

/-- one serialised pair `start,length` -/
def offsetLine (p : Nat × Nat) : Bytes := natDigits 10 p.1 ++ 44 :: natDigits 10 p.2

theorem offsetLine_no_nl (p : Nat × Nat) : (10 : UInt8) ∉ offsetLine p := by
  unfold offsetLine
  intro h
  simp only [List.mem_append, List.mem_cons] at h
  rcases h with h | h | h
  · exact natDigits_notMem (by omega) (by omega) _ 10 (Or.inl rfl) h
  · exact absurd h (by decide)
  · exact natDigits_notMem (by omega) (by omega) _ 10 (Or.inl rfl) h

theorem offsetLine_ne_nil (p : Nat × Nat) : (offsetLine p).isEmpty = false := by
  unfold offsetLine
  cases h : natDigits 10 p.1 with
  | nil => exact absurd h (natDigits_ne_nil _ _)
  | cons c cs => rfl

theorem parseOffsetLine_offsetLine (p : Nat × Nat) : parseOffsetLine (offsetLine p) = some p := by
  unfold parseOffsetLine offsetLine
  have h1 : (44 : UInt8) ∉ natDigits 10 p.1 :=
    natDigits_notMem (by omega) (by omega) _ 44 (Or.inr (Or.inr (Or.inr (Or.inl rfl))))
  have h2 : (44 : UInt8) ∉ natDigits 10 p.2 :=
    natDigits_notMem (by omega) (by omega) _ 44 (Or.inr (Or.inr (Or.inr (Or.inl rfl))))
  rw [splitByte_append _ h1, splitByte_of_notMem h2]
  simp [parseNat_natDigits (base := 10) (by omega) (by omega)]

theorem serialiseOffsets_cons_cons (p q : Nat × Nat) (rest : List (Nat × Nat)) :
    serialiseOffsets (p :: q :: rest) = offsetLine p ++ 10 :: serialiseOffsets (q :: rest) := by
  obtain ⟨s, l⟩ := p
  simp [serialiseOffsets, offsetLine]

theorem serialiseOffsets_single (p : Nat × Nat) : serialiseOffsets [p] = offsetLine p := by
  obtain ⟨s, l⟩ := p
  simp [serialiseOffsets, offsetLine]

theorem Rq.run_append (w : Bool) (r : Rq) (xs ys : List Ev) :
    r.run w (xs ++ ys) = (match r.run w xs with | .error e => .error e | .ok r' => r'.run w ys) := by
  induction xs generalizing r with
  | nil => simp [Rq.run]
  | cons e es ih =>
    simp only [List.cons_append, Rq.run]
    cases r.step w e with
    | error x => rfl
    | ok r' => exact ih r'

/-- body parts while the handler expects the body: each is handed to `accept_body`, in order -/
theorem Rq.run_bytes (w : Bool) (r : Rq) (cs : List Bytes) (h : r.expecting = .body) :
    r.run w (cs.map Ev.bytes) = .ok { r with calls := r.calls ++ cs.map RqCall.body } := by
  induction cs generalizing r with
  | nil => cases r; simp [Rq.run]
  | cons c cs ih =>
    simp only [List.map_cons, Rq.run, Rq.step, h, if_true]
    rw [ih _ rfl]
    simp [h]

theorem response2_eq : response2 = response2Line ++ [10] := by decide +kernel

theorem response2Line_no_nl : (10 : UInt8) ∉ response2Line := by decide +kernel
theorem successLine_no_nl : (10 : UInt8) ∉ successLine := by decide +kernel
theorem failedLine_no_nl : (10 : UInt8) ∉ failedLine := by decide +kernel
theorem success_ne_failed : successLine ≠ failedLine := by decide +kernel

end BreezyVerif.C29
