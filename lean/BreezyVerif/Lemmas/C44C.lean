import BreezyVerif.Model.C44
import BreezyVerif.Lemmas.Lib.AList
import BreezyVerif.Lemmas.Lib.Span
/-
C44 — metadata: the zone field, the tag table, the committer line (split, format, parse, join).
-/
namespace BreezyVerif.C44
open Lib

/-- hours and minutes of a whole number of minutes make up that number -/
theorem zone_nat (a : Nat) (h : a % 60 = 0) : 60 * (60 * (a / 3600) + (a / 60 - a / 3600 * 60)) = a := by omega

theorem tagLookup_setTag (m : List (Bytes × Nat)) (n : Bytes) (p : Nat) (x : Bytes) :
    tagLookup (setTag m n p) x = if x = n then some p else tagLookup m x := by
  simp only [tagLookup, ← lookup_eq_find?]
  rw [show setTag m n p = (n, p) :: AList.erase m n from rfl, lookup_cons_beq, AList.lookup_erase]
  by_cases h : x = n <;> simp [h]

theorem importTags_export (plain : Bool) (n : Nat) (tags : List Tag) (hp : ∀ t ∈ tags, t.pos ≤ n) :
    importTags n (exportTags plain tags) =
      (tags.filter fun t => t.pos != 0 && (!plain || validRef (refsTags ++ t.name))).foldl
        (fun m t => setTag m t.name t.pos) [] := by
  unfold importTags exportTags
  rw [List.foldl_map]
  generalize ([] : List (Bytes × Nat)) = m0
  have hk : ∀ t ∈ tags.filter (fun t => t.pos != 0 && (!plain || validRef (refsTags ++ t.name))), t.pos ≠ 0 ∧ t.pos ≤ n := by
    intro t ht
    obtain ⟨h1, h2⟩ := List.mem_filter.mp ht
    simp only [Bool.and_eq_true, bne_iff_ne, ne_eq] at h2
    exact ⟨h2.1, hp t h1⟩
  generalize tags.filter (fun t => t.pos != 0 && (!plain || validRef (refsTags ++ t.name))) = kept at hk
  induction kept generalizing m0 with
  | nil => rfl
  | cons t kept ih =>
    simp only [List.foldl_cons]
    have h1 := hk t List.mem_cons_self
    have hpre : refsTags.isPrefixOf (refsTags ++ t.name) = true := by
      rw [List.isPrefixOf_iff_prefix]; exact List.prefix_append _ _
    have hdrop : (refsTags ++ t.name).drop refsTags.length = t.name := by simp
    have hne : (t.pos != 0) = true := by simp [h1.1]
    simp only [hpre, hne, h1.2, decide_true, Bool.and_self, if_true, hdrop]
    exact ih _ (fun t' ht' => hk t' (List.mem_cons_of_mem _ ht'))

theorem tagLookup_foldl (kept : List Tag) (hn : (kept.map (·.name)).Nodup) (m : List (Bytes × Nat)) (x : Bytes) :
    tagLookup (kept.foldl (fun m t => setTag m t.name t.pos) m) x =
      match kept.find? (fun t => t.name == x) with
      | some t => some t.pos
      | none => tagLookup m x := by
  induction kept generalizing m with
  | nil => rfl
  | cons t kept ih =>
    simp only [List.map_cons, List.nodup_cons] at hn
    simp only [List.foldl_cons]
    rw [ih hn.2]
    by_cases h : t.name = x
    · subst h
      have : kept.find? (fun t' => t'.name == t.name) = none := by
        rw [List.find?_eq_none]
        intro t' ht' hc
        simp only [beq_iff_eq] at hc
        exact hn.1 (List.mem_map.mpr ⟨t', ht', hc⟩)
      simp [this, List.find?, tagLookup_setTag]
    · have hb : (t.name == x) = false := by simp [h]
      simp only [List.find?, hb]
      cases kept.find? (fun t => t.name == x) with
      | some t' => rfl
      | none => simp [tagLookup_setTag, Ne.symm h]

theorem rstrip_snoc_nonws (s : Str) (c : Char) (h : isWs c = false) : rstrip (s ++ [c]) = s ++ [c] := by
  unfold rstrip
  simp [List.reverse_append, h]

theorem rstrip_snoc_ws (s : Str) (c : Char) (h : isWs c = true) : rstrip (s ++ [c]) = rstrip s := by
  unfold rstrip
  simp [List.reverse_append, h]

theorem rstrip_nil : rstrip [] = [] := rfl

theorem splitLast_none (s : Str) (h : ∀ c ∈ s, c ≠ '>') : splitLastGtSp s = none := by
  induction s with
  | nil => rfl
  | cons c rest ih =>
    have hc := h c List.mem_cons_self
    unfold splitLastGtSp
    rw [ih (fun x hx => h x (List.mem_cons_of_mem _ hx))]
    simp only
    split
    · exact absurd rfl hc
    · rfl

theorem splitLast_some (E : Str) (d : Char) (ds : Str) (hE : ∀ c ∈ E, c ≠ '>') (hd : ∀ c ∈ d :: ds, c ≠ '>') :
    splitLastGtSp (E ++ '>' :: ' ' :: d :: ds) = some (E, d :: ds) := by
  induction E with
  | nil =>
    have hn : splitLastGtSp (' ' :: d :: ds) = none := by
      apply splitLast_none
      intro c hc
      rcases List.mem_cons.mp hc with h | h
      · rw [h]; decide
      · exact hd c h
    simp only [List.nil_append]
    unfold splitLastGtSp
    rw [hn]
    rfl
  | cons a E ih =>
    simp only [List.cons_append]
    unfold splitLastGtSp
    rw [ih (fun c hc => hE c (List.mem_cons_of_mem _ hc))]

/-- the committer `N <E>` is split into `N` and `E` -/
theorem split_name_email (N E : Str) (hN : rstrip N = N) (hE : ∀ c ∈ E, c ≠ '<' ∧ c ≠ '>') :
    splitCommitter (N ++ [' ', '<'] ++ E ++ ['>']) = some (N, E) := by
  unfold splitCommitter
  have hc : (N ++ [' ', '<'] ++ E ++ ['>']).contains '<' = true := by simp
  simp only [hc, Bool.not_true, Bool.false_eq_true, if_false]
  rw [rstrip_snoc_nonws _ '>' (by decide)]
  have hrev : (N ++ [' ', '<'] ++ E ++ ['>']).reverse = '>' :: (E.reverse ++ '<' :: ' ' :: N.reverse) := by simp
  rw [hrev]
  simp only
  have htw : (E.reverse ++ '<' :: ' ' :: N.reverse).takeWhile (fun c => c != '<' && c != '>') = E.reverse := by
    refine (span_append ?_ ?_).1
    · intro c hc
      have := hE c (List.mem_reverse.mp hc)
      simp [this.1, this.2]
    · simp
  rw [htw]
  have hdrop : (E.reverse ++ '<' :: ' ' :: N.reverse).drop E.reverse.length = '<' :: ' ' :: N.reverse := by simp
  rw [hdrop]
  simp only [List.reverse_cons, List.reverse_reverse]
  rw [rstrip_snoc_ws _ ' ' (by decide), hN]

/-- the line written for `(name, email)` is parsed back into `(name, email)` -/
theorem parse_format (name email : Str) (d : Char) (ds : Str) (hn1 : ∀ c ∈ name, c ≠ '<') (hn2 : rstrip name = name)
    (he : ∀ c ∈ email, c ≠ '>') (hd : ∀ c ∈ d :: ds, c ≠ '>') :
    parseWho (formatWho (name, email) (d :: ds)) = some (name, email, d :: ds) := by
  unfold parseWho formatWho
  simp only
  by_cases hne : name = []
  · subst hne
    simp only [List.isEmpty_nil, if_true, List.nil_append, List.append_nil, List.cons_append, List.takeWhile]
    have : (('<' : Char) != '<') = false := by decide
    simp only [this, List.length_nil, List.drop_zero]
    have hsh : email ++ ['>', ' '] ++ d :: ds = email ++ '>' :: ' ' :: d :: ds := by simp
    rw [hsh, splitLast_some email d ds he hd]
    simp [rstrip_nil]
  · have hie : name.isEmpty = false := by rw [List.isEmpty_eq_false_iff]; exact hne
    simp only [hie, Bool.false_eq_true, if_false]
    have hshape : name ++ [' '] ++ ['<'] ++ email ++ ['>', ' '] ++ d :: ds = (name ++ [' ']) ++ '<' :: (email ++ '>' :: ' ' :: d :: ds) := by
      simp
    rw [hshape]
    have htw : ((name ++ [' ']) ++ '<' :: (email ++ '>' :: ' ' :: d :: ds)).takeWhile (· != '<') = name ++ [' '] := by
      refine (span_append ?_ ?_).1
      · intro c hc
        rcases List.mem_append.mp hc with h | h
        · simp [hn1 c h]
        · simp only [List.mem_singleton] at h; subst h; decide
      · simp
    rw [htw]
    have hdrop : ((name ++ [' ']) ++ '<' :: (email ++ '>' :: ' ' :: d :: ds)).drop (name ++ [' ']).length
        = '<' :: (email ++ '>' :: ' ' :: d :: ds) := by simp
    rw [hdrop]
    simp only
    rw [splitLast_some email d ds he hd, rstrip_snoc_ws _ ' ' (by decide), hn2]

/-- a committer without `<` is a name with an empty email -/
theorem splitCommitter_plain {u : Str} (hu : ∀ c ∈ u, c ≠ '<') : splitCommitter u = some (u, []) := by
  unfold splitCommitter
  rw [if_pos]
  simpa using fun h => hu '<' h rfl

/-- whatever `_get_name_email` makes of the committer: a name without `<` and trailing blanks and an email
without `>` come back from the stream, so the round trip returns them joined -/
theorem committerRoundtrip_of_split {bare : Bool} {u name email : Str} (d : Char) (ds : Str)
    (hs : splitCommitter u = some (name, email)) (hn1 : ∀ c ∈ name, c ≠ '<') (hn2 : rstrip name = name)
    (he : ∀ c ∈ email, c ≠ '>') (hd : ∀ c ∈ d :: ds, c ≠ '>') :
    committerRoundtrip bare u (d :: ds) = some (joinWho bare name email) := by
  unfold committerRoundtrip
  rw [hs]
  simp only
  rw [parse_format name email d ds hn1 hn2 he hd]

end BreezyVerif.C44
