import BreezyVerif.Lemmas.C39Apply
import BreezyVerif.Lemmas.C39Parse
/-! C39 helper lemmas: the hunks `internal_diff` builds apply and are well formed; line statistics. -/
namespace BreezyVerif.C39

def insCount (hl : List HLine) : Nat := (hl.filter (fun l => match l with | .ins _ => true | _ => false)).length
def remCount (hl : List HLine) : Nat := (hl.filter (fun l => match l with | .rem _ => true | _ => false)).length

def totalIns (hs : List Hunk) : Nat := (hs.map (fun h => insCount h.lines)).sum
def totalRem (hs : List Hunk) : Nat := (hs.map (fun h => remCount h.lines)).sum

theorem stats_eq (hs : List Hunk) : stats hs = (totalIns hs, totalRem hs, hs.length) := rfl

theorem totals_eq (hs : List Hunk) :
    totalIns hs = ((hs.map (·.lines)).map insCount).sum ∧ totalRem hs = ((hs.map (·.lines)).map remCount).sum := by
  simp [totalIns, totalRem, Function.comp_def]

/-- a context line counts on both sides, an inserted line on the new, a removed line on the old side -/
theorem ins_add_orig (hl : List HLine) : insCount hl + origCount hl = remCount hl + modCount hl := by
  induction hl with
  | nil => rfl
  | cons l hl ih => cases l <;> simp [insCount, remCount, origCount, modCount, cOrig, cMod] at ih ⊢ <;> omega

theorem counts_eq_length (hl : List HLine) :
    origCount hl = (oldSide hl).length ∧ modCount hl = (newSide hl).length := by
  induction hl with
  | nil => exact ⟨rfl, rfl⟩
  | cons l hl ih => cases l <;> simp [origCount, modCount, oldSide, newSide, cOrig, cMod] at ih ⊢ <;> omega

/-- a hunk whose ranges are its line counts and which lies inside the two texts -/
def inTexts (a b : List Line) (h : Hunk) : Prop :=
  h.origRange = origCount h.lines ∧ h.modRange = modCount h.lines ∧ h.tail = none ∧
  h.origPos + h.origRange ≤ a.length + 1 ∧ h.modPos + h.modRange ≤ b.length + 1

/-- positions and ranges inside texts of fewer than 2³¹ - 1 lines fit the header's i32 -/
theorem wfHunk_of_inTexts (a b : List Line) (h : Hunk) (hla : a.length < 2147483647) (hlb : b.length < 2147483647)
    (hi : inTexts a b h) : wfHunk h = true ∧ h.tail = none := by
  obtain ⟨r1, r2, t, i1, i2⟩ := hi
  simp only [wfHunk, small, t, tailOk, Bool.decide_and, Bool.and_eq_true, decide_eq_true_eq, and_true]
  omega

/-- valid groups from `(pi, pj)`: the hunks exist, lie inside the texts with ranges equal to
their line counts, and turn `a[pi:]` into `b[pj:]` -/
theorem groups_spec (a b : List Line) (gs : List Group) (pi pj : Nat)
    (hv : validGroupsFrom a b pi pj gs = true) :
    ∃ hs, gs.mapM (groupHunk a b) = some hs ∧ applyFrom (pi + 1) (a.drop pi) hs = .ok (b.drop pj) ∧
      ∀ h ∈ hs, inTexts a b h := by
  induction gs generalizing pi pj with
  | nil =>
    simp only [validGroupsFrom, decide_eq_true_eq] at hv
    exact ⟨[], by simp, by simp [applyFrom, hv], nofun⟩
  | cons g gs ih =>
    obtain ⟨o, os, ei, ej, rfl, g, hc, hrest⟩ := (validGroupsFrom_cons ..).mp hv
    obtain ⟨hs, hmap, happ, hin⟩ := ih ei ej hrest
    obtain ⟨L, hg, s1, s2, l1, l2, l3, l4⟩ := group_spec a b o os ei ej hc
    have hl0 := length_slice a pi o.i1 (Nat.le_trans l1 l3)
    have hl1 := length_slice a o.i1 ei l3
    have hl2 := length_slice b o.j1 ej l4
    obtain ⟨c1, c2⟩ := counts_eq_length L
    refine ⟨_, (mapM_cons_some ..).mpr ⟨_, hs, hg, hmap, rfl⟩, ?_, ?_⟩
    · -- the applier copies `a[pi:o.i1]`, which is `b[pj:o.j1]`, and finds the hunk's old side `a[o.i1:ei]`
      refine (apply_ok_iff ..).mpr ⟨slice a pi o.i1, a.drop ei, b.drop ej, ?_, ?_, ?_, ?_⟩
      · rw [hl0, Nat.add_sub_add_right]
      · rw [s1, List.append_assoc, ← drop_eq_slice_append a o.i1 ei l1, ← drop_eq_slice_append a pi o.i1 g.hi]
      · rw [s1, hl0, hl1, show pi + 1 + (o.i1 - pi) + (ei - o.i1) = ei + 1 by have := g.hi; omega]
        exact happ
      · rw [s2, g.eq, List.append_assoc, ← drop_eq_slice_append b o.j1 ej l2, ← drop_eq_slice_append b pj o.j1 g.hj]
    · intro h hh
      rcases List.mem_cons.mp hh with rfl | hh
      · exact ⟨by rw [c1, s1, hl1], by rw [c2, s2, hl2], rfl, by dsimp only; omega, by dsimp only; omega⟩
      · exact hin h hh

/-- the applier's length law: whatever hunks apply, the output is longer than the input by
inserted minus removed lines (what `Patch.stats_values` predicts) -/
theorem applyFrom_length (ln : Nat) (rest : List Line) (hs : List Hunk) (out : List Line)
    (h : applyFrom ln rest hs = .ok out) : out.length + totalRem hs = rest.length + totalIns hs := by
  induction hs generalizing ln rest out with
  | nil =>
    simp only [applyFrom, Except.ok.injEq] at h
    rw [h]; rfl
  | cons k hs ih =>
    obtain ⟨pre, rest', out', -, rfl, h3, rfl⟩ := (apply_ok_iff ..).mp h
    have := ih _ _ _ h3
    have c := ins_add_orig k.lines
    rw [(counts_eq_length _).1, (counts_eq_length _).2] at c
    simp only [totalIns, totalRem, List.map_cons, List.sum_cons, List.length_append] at this ⊢
    omega

theorem fixFirst_wf (a b : List Line) (hs : List Hunk) (hw : ∀ h ∈ hs, wfHunk h = true ∧ h.tail = none) :
    ∀ h ∈ fixFirst a b hs, wfHunk h = true ∧ h.tail = none := by
  cases hs with
  | nil => exact hw
  | cons h hs =>
    obtain ⟨o, m, e, p1, -, p2⟩ := fixFirst_cons a b h hs
    rw [e]
    intro x hx
    rcases List.mem_cons.mp hx with rfl | hx
    · have hh := hw h (List.mem_cons_self ..)
      simp only [wfHunk, small, Bool.decide_and, Bool.and_eq_true, decide_eq_true_eq] at hh ⊢
      obtain ⟨⟨h1, h2, ⟨s1, s2, s3, s4⟩, h4⟩, h5⟩ := hh
      exact ⟨⟨h1, h2, ⟨Nat.lt_of_le_of_lt p1 s1, s2, Nat.lt_of_le_of_lt p2 s3, s4⟩, h4⟩, h5⟩
    · exact hw x (List.mem_cons_of_mem _ hx)

theorem mkHunks_wf (a b : List Line) (gs : List Group) (hv : validGroups a b gs = true)
    (hla : a.length < 2147483647) (hlb : b.length < 2147483647) (hs : List Hunk) (hm : mkHunks a b gs = some hs) :
    ∀ h ∈ hs, wfHunk h = true ∧ h.tail = none := by
  obtain ⟨hs0, hm0, -, hw⟩ := groups_spec a b gs 0 0 hv
  simp only [mkHunks, hm0, Option.map_some, Option.some.injEq] at hm
  subst hm
  exact fixFirst_wf a b hs0 (fun h hh => wfHunk_of_inTexts a b h hla hlb (hw h hh))

end BreezyVerif.C39
