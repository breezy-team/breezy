import BreezyVerif.Lemmas.C11
/-! C11 — lemmas: closed form of "the listing that contains `q` is scanned". -/
namespace BreezyVerif.C11
open BreezyVerif.C46 Forest

/-- the shape of the closed form over abstract predicates on the inner prefixes of a path (`P j`,
`S j` speak of the prefix of length `j + 1`): the listing is scanned iff the top listing is and every
prefix passes, or some prefix starts a scan and every longer one passes -/
def WalkCond (P S : Nat → Bool) (len : Nat) (m : Mode) : Prop :=
  (m = .walk ∧ ∀ j, j < len → P j = true) ∨
  (∃ n, n < len ∧ S n = true ∧ ∀ j, n < j → j < len → P j = true)

theorem WalkCond_zero (P S : Nat → Bool) (m : Mode) : WalkCond P S 0 m ↔ m = .walk := by
  constructor
  · rintro (⟨hm, _⟩ | ⟨_, h, _⟩)
    · exact hm
    · exact nomatch h
  · exact fun hm => Or.inl ⟨hm, fun _ h => nomatch h⟩

/-- one level down: the first component is consumed -/
theorem WalkCond_succ (P S : Nat → Bool) (L : Nat) (m m' : Mode)
    (hm' : m' = .walk ↔ (m = .walk ∧ P 0 = true) ∨ S 0 = true) :
    WalkCond P S (L + 1) m ↔ WalkCond (fun j => P (j + 1)) (fun j => S (j + 1)) L m' := by
  constructor
  · rintro (⟨hm, h⟩ | ⟨n, hn, hs, h⟩)
    · exact Or.inl ⟨hm'.mpr (Or.inl ⟨hm, h 0 (Nat.succ_pos L)⟩), fun j hj => h (j + 1) (Nat.succ_lt_succ hj)⟩
    · cases n with
      | zero => exact Or.inl ⟨hm'.mpr (Or.inr hs), fun j hj => h (j + 1) (Nat.succ_pos j) (Nat.succ_lt_succ hj)⟩
      | succ n =>
        exact Or.inr ⟨n, Nat.lt_of_succ_lt_succ hn, hs, fun j a b => h (j + 1) (Nat.succ_lt_succ a) (Nat.succ_lt_succ b)⟩
  · rintro (⟨hm, h⟩ | ⟨n, hn, hs, h⟩)
    · rcases hm'.mp hm with ⟨hw, hp⟩ | hs
      · refine Or.inl ⟨hw, fun j hj => ?_⟩
        cases j with
        | zero => exact hp
        | succ j => exact h j (Nat.lt_of_succ_lt_succ hj)
      · refine Or.inr ⟨0, Nat.succ_pos L, hs, fun j a b => ?_⟩
        cases j with
        | zero => exact nomatch a
        | succ j => exact h j (Nat.lt_of_succ_lt_succ b)
    · refine Or.inr ⟨n + 1, Nat.succ_lt_succ hn, hs, fun j a b => ?_⟩
      cases j with
      | zero => exact nomatch a
      | succ j => exact h j (Nat.lt_of_succ_lt_succ a) (Nat.lt_of_succ_lt_succ b)

/-! the predicates along a path, relative to the directory `here` -/

/-- a scan of the parent goes on into the entry (`passesAt`) -/
def passes (c : Cfg) (p : Path) (i : Info) (k : Forest) : Bool :=
  listed c p i (i.versioned || onPath c p i) && opens c p i k

/-- the entry is a scheduled named directory whose content is scanned (`startsAt`) -/
def starts (c : Cfg) (pre : Pre) (p : Path) (i : Info) (k : Forest) : Bool :=
  sched c pre.ud p i && !namedTreeRef c pre p i k && opens c p i k

/-- `g` at the entry found at `e` below the directory `here` -/
def atRel (g : Path → Info → Forest → Bool) (here : Path) (f : Forest) (e : Path) : Bool :=
  match f.get e with
  | some (i, k) => g (here ++ e) i k
  | none => false

variable {c : Cfg} {pre : Pre} {here : Path} {j : Info} {kids rest : Forest} {n a : String} {e t : Path}
  {g : Path → Info → Forest → Bool}

theorem atRel_cons_ne (h : j.name ≠ n) : atRel g here (cons j kids rest) (n :: e) = atRel g here rest (n :: e) := by
  simp [atRel, get_cons_ne h]

theorem atRel_cons_down :
    atRel g here (cons j kids rest) (j.name :: a :: e) = atRel g (here ++ [j.name]) kids (a :: e) := by
  simp [atRel, get_cons_down, List.append_assoc]

theorem step_snd_walk (p : Path) (m : Mode) (i : Info) (k : Forest) :
    (step c pre p m i k).2 = .walk ↔ (m = .walk ∧ passes c p i k = true) ∨ starts c pre p i k = true := by
  simp only [step_snd_walk_iff, visited, passes, starts, Bool.or_eq_true, Bool.and_eq_true, beq_iff_eq]
  constructor
  · rintro ⟨⟨a, b⟩ | a, o⟩
    · exact Or.inl ⟨a, b, o⟩
    · exact Or.inr ⟨a, o⟩
  · rintro (⟨a, b, o⟩ | ⟨a, o⟩)
    · exact ⟨Or.inl ⟨a, b⟩, o⟩
    · exact ⟨Or.inr a, o⟩

/-- closed form, relative to a directory: the listing containing `q` is scanned iff … -/
theorem modeOf_walk_iff {f : Forest} {q : Path} {x : Info × Forest} (m : Mode) (hg : f.get q = some x) :
    modeOf c pre here m f q = some .walk ↔
      WalkCond (fun l => atRel (passes c) here f (q.take (l + 1))) (fun l => atRel (starts c pre) here f (q.take (l + 1)))
        (q.length - 1) m := by
  induction f, q using Forest.get.induct generalizing here m with
  | case1 | case2 => cases hg
  | case3 j kids rest =>
    simp only [modeOf, if_true, Option.some.injEq]
    exact (WalkCond_zero _ _ m).symm
  | case4 j kids rest a b ih =>
    have hmo : modeOf c pre here m (cons j kids rest) (j.name :: a :: b)
        = modeOf c pre (here ++ [j.name]) (step c pre (here ++ [j.name]) m j kids).2 kids (a :: b) := by
      simp [modeOf]
    rw [hmo, ih _ (get_cons_down.symm.trans hg)]
    refine Iff.trans ?_ (WalkCond_succ _ _ b.length m (step c pre (here ++ [j.name]) m j kids).2
      (by rw [step_snd_walk]; simp [atRel, get_cons_self])).symm
    simp only [List.take_succ_cons, atRel_cons_down]
    exact Iff.rfl
  | case5 j kids rest n t hn ih =>
    have hmo : modeOf c pre here m (cons j kids rest) (n :: t) = modeOf c pre here m rest (n :: t) := by
      simp [modeOf, hn]
    rw [hmo, ih _ ((get_cons_ne hn).symm.trans hg)]
    simp only [List.take_succ_cons, atRel_cons_ne hn]

/-! ### top level -/

theorem passes_nil (f : Forest) (e : Path) : atRel (passes c) [] f e = passesAt c f e := by
  unfold atRel passesAt
  simp only [List.nil_append]
  rcases f.get e with _ | ⟨i, k⟩ <;> rfl

theorem starts_nil (f : Forest) (x : String) (d : Path) :
    atRel (starts c pre) [] f (x :: d) = startsAt c pre f (x :: d) := by
  unfold atRel startsAt
  simp only [List.nil_append]
  rcases f.get (x :: d) with _ | ⟨i, k⟩ <;> rfl

/-- `reached` spelled out: some proper prefix starts a scan and every longer proper prefix passes -/
theorem reached_iff (f : Forest) (q : Path) :
    reached c pre f q = true ↔
      ∃ n, n < q.length ∧ startsAt c pre f (q.take n) = true ∧
        ∀ j, n < j → j < q.length → passesAt c f (q.take j) = true := by
  simp only [reached, List.any_eq_true, List.mem_range, Bool.and_eq_true, List.all_eq_true, Bool.or_eq_true,
    Bool.not_eq_true', decide_eq_false_iff_not]
  constructor
  · rintro ⟨n, hn, hs, h⟩
    exact ⟨n, hn, hs, fun j a b => (h j b).resolve_left (by omega)⟩
  · rintro ⟨n, hn, hs, h⟩
    refine ⟨n, hn, hs, fun j b => ?_⟩
    by_cases hj : n < j
    · exact Or.inr (h j hj b)
    · exact Or.inl hj

/-- the closed form at the top level: the mode handed down to the listing of `q` is `walk` iff `reached`.
The tree root is one more level, entered in mode `idle` and starting a scan iff it was named. -/
theorem modeOf_walk_iff_reached {f : Forest} {q : Path} {x : Info × Forest} (hg : f.get q = some x) :
    modeOf c pre [] (rootMode c) f q = some .walk ↔ reached c pre f q = true := by
  rw [modeOf_walk_iff (rootMode c) hg, reached_iff]
  cases q with
  | nil => cases f <;> simp [Forest.get] at hg
  | cons y t =>
    have h := WalkCond_succ (fun j => passesAt c f ((y :: t).take j)) (fun n => startsAt c pre f ((y :: t).take n))
      t.length .idle (rootMode c) (by simp [startsAt])
    simp only [List.take_succ_cons, passes_nil, starts_nil]
    exact h.symm.trans (or_iff_right fun h => nomatch h.1)

/-! ### the flag in closed form -/

/-- the flag `step` computes, without reference to scheduling: versioned before, or on a named
path, or its listing is scanned and it is eligible -/
theorem step_fst_closed (p : Path) (m : Mode) (i : Info) (k : Forest)
    (hs : c.fmt = .bzr → sched c pre.ud p i = true → onPath c p i = true) :
    (step c pre p m i k).1 = (i.versioned || onPath c p i || ((m == .walk) && eligible c p i k)) := by
  rw [step_fst, eligible_eq]
  cases hV : i.versioned || onPath c p i
  · -- a scheduled entry adds nothing: bzr schedules only entries on a named path, git only directories
    have hsa : (sched c pre.ud p i && adds c p i k) = false := by
      cases hf : c.fmt
      · cases h : sched c pre.ud p i
        · rfl
        · rw [hs hf h, Bool.or_true] at hV; cases hV
      · cases hk : i.kind == .dir <;> simp [sched, adds, hf, hk, bne]
    simp only [visited, Bool.false_or]
    cases h : sched c pre.ud p i
    · simp [Bool.and_assoc]
    · rw [h, Bool.true_and] at hsa; simp [hsa]
  · rfl

end BreezyVerif.C11
