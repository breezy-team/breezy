import BreezyVerif.Model.C42
import BreezyVerif.Lemmas.Lib.Split
/-!
C42 — paths as strings: `"/".join` on lists of good names against string prefixes, `rstrip`,
and the loop body of `_export_iter_entries` against the component-level step.
-/
namespace BreezyVerif.C42

theorem goodName_iff {n : Name} : goodName n = true ↔ n ≠ [] ∧ '/' ∉ n := by
  unfold goodName
  cases n <;> simp

theorem pathStr_cons (a : Name) {r : List Name} (h : r ≠ []) :
    pathStr (a :: r) = a ++ '/' :: pathStr r := by
  cases r with
  | nil => exact absurd rfl h
  | cons b r => rfl

/-- two slash-free heads followed by a slash: the split point is unique -/
theorem noslash_split {a b x y : Str} (ha : '/' ∉ a) (hb : '/' ∉ b)
    (h : a ++ '/' :: x = b ++ '/' :: y) : a = b ∧ x = y := by
  induction a generalizing b with
  | nil =>
    cases b with
    | nil => simpa using h
    | cons c b =>
      simp at h
      exact absurd (h.1 ▸ List.mem_cons_self) hb
  | cons c a ih =>
    cases b with
    | nil =>
      simp at h
      exact absurd (h.1 ▸ List.mem_cons_self) ha
    | cons d b =>
      simp at h
      have ha' : '/' ∉ a := fun m => ha (List.mem_cons_of_mem _ m)
      have hb' : '/' ∉ b := fun m => hb (List.mem_cons_of_mem _ m)
      obtain ⟨h1, h2⟩ := ih ha' hb' h.2
      exact ⟨by rw [h.1, h1], h2⟩

theorem noslash_ne {a b x : Str} (hb : '/' ∉ b) (h : a ++ '/' :: x = b) : False := by
  apply hb
  rw [← h]
  simp

theorem pathStr_eq_nil {p : List Name} (hp : p.all goodName = true) (h : pathStr p = []) : p = [] := by
  cases p with
  | nil => rfl
  | cons a r =>
    simp only [List.all_cons, Bool.and_eq_true] at hp
    have := (goodName_iff.mp hp.1).1
    cases r with
    | nil => exact absurd h this
    | cons b r => simp [pathStr] at h

theorem splitSlash_eq (s : Str) : splitSlash s = s.splitOn '/' := by
  induction s with
  | nil => rfl
  | cons c r ih =>
    obtain ⟨f, fs, h, h'⟩ := Lib.splitOn_cons '/' c r
    simp [splitSlash, ih, h, h']

theorem pathStr_eq : ∀ p : List Name, pathStr p = ['/'].intercalate p
  | [] => rfl
  | [a] => by simp [pathStr]
  | a :: b :: r => by simp [pathStr, pathStr_eq (b :: r)]

/-- `"/".join(p).split("/") == p` for non-empty lists of good names -/
theorem splitSlash_pathStr {p : List Name} (hp : p.all goodName = true) (hne : p ≠ []) :
    splitSlash (pathStr p) = p := by
  rw [splitSlash_eq, pathStr_eq,
    Lib.splitOn_intercalate '/' (fun n hn => (goodName_iff.mp (List.all_eq_true.mp hp n hn)).2) hne]

/-- `"/".join` is injective on lists of good names -/
theorem pathStr_inj {p q : List Name} (hp : p.all goodName = true) (hq : q.all goodName = true)
    (h : pathStr p = pathStr q) : p = q := by
  by_cases hp0 : p = []
  · subst hp0; exact (pathStr_eq_nil hq h.symm).symm
  · have hq0 : q ≠ [] := fun e => hp0 (pathStr_eq_nil hp (by rw [h, e]; rfl))
    rw [← splitSlash_pathStr hp hp0, h, splitSlash_pathStr hq hq0]

theorem pathStr_append {s r : List Name} (hs : s ≠ []) (hr : r ≠ []) :
    pathStr (s ++ r) = pathStr s ++ '/' :: pathStr r := by
  simp only [pathStr_eq, Lib.intercalate_append hs hr]

theorem isPrefixOf_append_self (a b : Str) : (a ++ b).isPrefixOf (a ++ b) = true := by simp

theorem below_iff {s p : List Name} : below s p = true ↔ ∃ r, r ≠ [] ∧ p = s ++ r := by
  unfold below
  rw [Bool.and_eq_true, List.isPrefixOf_iff_prefix, decide_eq_true_eq]
  constructor
  · rintro ⟨⟨r, hr⟩, hl⟩
    refine ⟨r, ?_, hr.symm⟩
    intro e
    subst e
    simp at hr
    subst hr
    omega
  · rintro ⟨r, hr, rfl⟩
    refine ⟨⟨r, rfl⟩, ?_⟩
    have : r.length > 0 := List.length_pos_iff.mpr hr
    simp
    omega

theorem prefix_all_good {p c : List Name} (hc : c.all goodName = true) (h : p <+: c) :
    p.all goodName = true := by
  rw [List.all_eq_true] at hc ⊢
  intro x hx
  exact hc x (List.IsPrefix.mem hx h)

/-- if `s0 + "/"` is a string prefix of the `/`-join of good names, `s0` is
itself the join of a proper component prefix -/
theorem prefix_slash_is_path : ∀ (c : List Name) (s0 : Str), c.all goodName = true →
    (s0 ++ ['/']) <+: pathStr c → ∃ p, p ≠ [] ∧ below p c = true ∧ pathStr p = s0 := by
  intro c
  induction c with
  | nil =>
    intro s0 _ h
    obtain ⟨rest, hrest⟩ := h
    simp [pathStr] at hrest
  | cons a r ih =>
    intro s0 hc h
    simp only [List.all_cons, Bool.and_eq_true] at hc
    have ga := goodName_iff.mp hc.1
    obtain ⟨rest, hrest⟩ := h
    by_cases hr : r = []
    · subst hr
      simp only [pathStr] at hrest
      exact (noslash_ne ga.2 (by simpa using hrest)).elim
    · rw [pathStr_cons a hr] at hrest
      have hrest' : s0 ++ '/' :: rest = a ++ '/' :: pathStr r := by simpa using hrest
      by_cases hs : '/' ∈ s0
      · obtain ⟨x, y, hxy, hx⟩ := List.eq_append_cons_of_mem hs
        rw [hxy] at hrest'
        have e : x ++ '/' :: (y ++ '/' :: rest) = a ++ '/' :: pathStr r := by simpa using hrest'
        obtain ⟨e1, e2⟩ := noslash_split hx ga.2 e
        obtain ⟨p, hp, hb, hps⟩ := ih y hc.2 ⟨rest, by simpa using e2⟩
        obtain ⟨r', hr', her⟩ := below_iff.mp hb
        refine ⟨a :: p, by simp, below_iff.mpr ⟨r', hr', by rw [her]; rfl⟩, ?_⟩
        rw [pathStr_cons a hp, hps, hxy, e1]
      · obtain ⟨e1, _⟩ := noslash_split hs ga.2 hrest'
        exact ⟨[a], by simp, below_iff.mpr ⟨r, hr, rfl⟩, by simp [pathStr, e1]⟩

/-- the string test `path.startswith(subdir + "/")` decides "properly below" on
component paths, and the slice is the re-rooted path -/
theorem prefix_iff_below {s p : List Name} (hs : s.all goodName = true) (hp : p.all goodName = true)
    (hne : s ≠ []) :
    (pathStr s ++ ['/']).isPrefixOf (pathStr p) = below s p ∧
    (below s p = true → (pathStr p).drop ((pathStr s).length + 1) = pathStr (p.drop s.length)) := by
  have split : below s p = true → pathStr p = (pathStr s ++ ['/']) ++ pathStr (p.drop s.length) := by
    intro hb
    obtain ⟨r, hr, rfl⟩ := below_iff.mp hb
    rw [List.drop_left, pathStr_append hne hr, List.append_assoc]
    rfl
  constructor
  · rw [Bool.eq_iff_iff, List.isPrefixOf_iff_prefix]
    constructor
    · -- a string prefix ending in `/` is the join of a component prefix, which is `s` by injectivity
      intro h
      obtain ⟨q, _, hb, hqs⟩ := prefix_slash_is_path p _ hp h
      obtain ⟨r, _, hr⟩ := below_iff.mp hb
      exact pathStr_inj (prefix_all_good hp ⟨r, hr.symm⟩) hs hqs ▸ hb
    · exact fun hb => ⟨_, (split hb).symm⟩
  · intro hb
    rw [split hb]
    exact List.drop_left' (by simp)

theorem dropWhile_replicate_append (p : Char → Bool) (c : Char) (k : Nat) (l : Str) (hc : p c = true) :
    (List.replicate k c ++ l).dropWhile p = l.dropWhile p := by
  induction k with
  | zero => rfl
  | succ k ih => simp [List.replicate_succ, hc, ih]

theorem pathStr_ends_lastName (s : List Name) : ∃ pre, pathStr s = pre ++ lastName s := by
  induction s with
  | nil => exact ⟨[], rfl⟩
  | cons a s ih =>
    cases s with
    | nil => exact ⟨[], rfl⟩
    | cons b r =>
      obtain ⟨pre, h⟩ := ih
      exact ⟨a ++ '/' :: pre, by simp [pathStr, lastName, h]⟩

theorem lastName_good {s : List Name} (hs : s.all goodName = true) (hne : s ≠ []) :
    goodName (lastName s) = true := by
  induction s with
  | nil => exact absurd rfl hne
  | cons a s ih =>
    simp only [List.all_cons, Bool.and_eq_true] at hs
    cases s with
    | nil => exact hs.1
    | cons b r => exact ih hs.2 (by simp)

/-- `(subdir + "/"*k).rstrip("/")` is `subdir` -/
theorem rstrip_pathStr {s : List Name} (hs : s.all goodName = true) (hne : s ≠ []) (k : Nat) :
    rstripSlash (pathStr s ++ List.replicate k '/') = pathStr s := by
  obtain ⟨pre, h⟩ := pathStr_ends_lastName s
  have g := goodName_iff.mp (lastName_good hs hne)
  unfold rstripSlash
  rw [h]
  simp only [List.reverse_append, List.reverse_replicate, List.append_assoc]
  rw [dropWhile_replicate_append _ _ _ _ (by decide)]
  -- the last name is non-empty and slash-free: nothing more is dropped
  have : ∃ c l, (lastName s).reverse = c :: l ∧ c ≠ '/' := by
    cases hr : (lastName s).reverse with
    | nil => exact absurd (List.reverse_eq_nil_iff.mp hr) g.1
    | cons c l =>
      refine ⟨c, l, rfl, ?_⟩
      intro hc
      apply g.2
      have : c ∈ (lastName s).reverse := by rw [hr]; exact List.mem_cons_self
      rw [← hc]
      exact List.mem_reverse.mp this
  obtain ⟨c, l, hr, hc⟩ := this
  rw [hr]
  have : ((c :: l) ++ pre.reverse).dropWhile (· == '/') = (c :: l) ++ pre.reverse := by
    simp [hc]
  rw [this, ← hr]
  simp

theorem rstrip_slashes (k : Nat) : rstripSlash (List.replicate k '/') = [] := by
  unfold rstripSlash
  have := dropWhile_replicate_append (· == '/') '/' k [] (by decide)
  simp only [List.append_nil] at this
  simp [List.reverse_replicate, this]

theorem pathStr_ne_nil {p : List Name} (hp : p.all goodName = true) (h : p ≠ []) : pathStr p ≠ [] :=
  fun e => h (pathStr_eq_nil hp e)

/-- `pathjoin(root, p)` is the root directory prefix followed by `p` -/
theorem pathjoin_eq (root p : Str) (hp : p.head? ≠ some '/') : pathjoin root p = rootDir root ++ p := by
  unfold pathjoin rootDir
  simp only [hp, if_false]
  by_cases h0 : root = []
  · simp [h0]
  · by_cases h1 : root.getLast? = some '/'
    · simp [h0, h1]
    · simp [h0, h1]

theorem pathStr_head_ne_slash {p : List Name} (hp : p.all goodName = true) :
    (pathStr p).head? ≠ some '/' := by
  cases p with
  | nil => simp [pathStr]
  | cons a r =>
    simp only [List.all_cons, Bool.and_eq_true] at hp
    have ga := goodName_iff.mp hp.1
    cases a with
    | nil => exact absurd rfl ga.1
    | cons x a =>
      have hx : x ≠ '/' := fun e => ga.2 (e ▸ List.mem_cons_self)
      cases r with
      | nil => simpa [pathStr] using hx
      | cons b r => simpa [pathStr] using hx

theorem pathStr_getLast_ne_slash {p : List Name} (hp : p.all goodName = true) :
    (pathStr p).getLast? ≠ some '/' := by
  by_cases hne : p = []
  · subst hne; simp [pathStr]
  · obtain ⟨pre, h⟩ := pathStr_ends_lastName p
    have g := goodName_iff.mp (lastName_good hp hne)
    rw [h, List.getLast?_append]
    intro e
    cases hl : (lastName p).getLast? with
    | none => exact g.1 (List.getLast?_eq_none_iff.mp hl)
    | some c =>
      rw [hl] at e
      simp only [Option.some_or, Option.some.injEq] at e
      subst e
      exact g.2 (List.mem_of_getLast? hl)

/-- a component prefix is a string prefix -/
theorem pathStr_prefix {s p : List Name} (h : s <+: p) : pathStr s <+: pathStr p := by
  obtain ⟨r, rfl⟩ := h
  by_cases hs : s = []
  · subst hs
    exact List.nil_prefix
  · by_cases hr : r = []
    · subst hr
      rw [List.append_nil]
      exact List.prefix_refl _
    · rw [pathStr_append hs hr]
      exact List.prefix_append _ _

/-- the loop body of `_export_iter_entries` computes the component-level step
(selection given) -/
theorem step_some_eq (special : Str → Bool) {s : List Name} (c : CEnt)
    (hs : s.all goodName = true) (hne : s ≠ []) (hc : c.cpath.all goodName = true) :
    step special (some (pathStr s)) (render c) = (specStep special (some s) c).map renderItem := by
  unfold step specStep
  by_cases h0 : c.cpath = []
  · simp [h0, render, pathStr]
  · have hp0 : pathStr c.cpath ≠ [] := pathStr_ne_nil hc h0
    simp only [render, hp0, h0, if_false]
    by_cases hsp : special (pathStr c.cpath) = true
    · simp [hsp]
    · simp only [hsp, if_false, Bool.false_eq_true]
      by_cases heq : c.cpath = s
      · simp only [heq, if_true]
        by_cases hk : c.kind = .dir
        · simp [hk]
        · simp [hk, renderItem, render, pathStr, heq]
      · have hne' : ¬ (some (pathStr c.cpath) = some (pathStr s)) := by
          intro e
          exact heq (pathStr_inj hc hs (Option.some.inj e))
        simp only [hne', heq, if_false]
        obtain ⟨p1, p2⟩ := prefix_iff_below hs hc hne
        simp only [p1]
        by_cases hb : below s c.cpath = true
        · simp [hb, renderItem, render, p2 hb]
        · simp [hb]

/-- … and without a selection -/
theorem step_none_eq (special : Str → Bool) (c : CEnt) (hc : c.cpath.all goodName = true) :
    step special none (render c) = (specStep special none c).map renderItem := by
  unfold step specStep
  by_cases h0 : c.cpath = []
  · simp [h0, render, pathStr]
  · have hp0 : pathStr c.cpath ≠ [] := pathStr_ne_nil hc h0
    simp only [render, hp0, h0, if_false]
    by_cases hsp : special (pathStr c.cpath) = true
    · simp [hsp]
    · simp [hsp, renderItem, render]

/-- an entry passes the loop body under the (normalised) selection `s0` only
if `s0` is the join of a non-empty component prefix of the entry's path -/
theorem step_some_is_path {special : Str → Bool} {s0 : Str} {c : CEnt} {it : Item}
    (hc : c.cpath.all goodName = true) (h : step special (some s0) (render c) = some it) :
    ∃ p, p ≠ [] ∧ p <+: c.cpath ∧ pathStr p = s0 := by
  unfold step at h
  by_cases heq : some (render c).path = some s0
  · refine ⟨c.cpath, ?_, List.prefix_refl _, Option.some.inj heq⟩
    intro e
    have : (render c).path = [] := by rw [render, e]; rfl
    simp [this] at h
  · by_cases hp : (s0 ++ ['/']).isPrefixOf (render c).path = true
    · obtain ⟨p, hp0, hb, hps⟩ := prefix_slash_is_path c.cpath s0 hc (List.isPrefixOf_iff_prefix.mp hp)
      obtain ⟨r, _, he⟩ := below_iff.mp hb
      exact ⟨p, hp0, ⟨r, he.symm⟩, hps⟩
    · simp [heq, hp] at h

/-- a selection made of slashes only (`"/"`) is normalised to the empty text,
which no path equals and which no path lies under -/
theorem step_slash_empty (special : Str → Bool) (c : CEnt) (hc : c.cpath.all goodName = true) :
    step special (some []) (render c) = none := by
  cases h : step special (some []) (render c) with
  | none => rfl
  | some it =>
    obtain ⟨p, hp0, hpc, hps⟩ := step_some_is_path hc h
    exact absurd (pathStr_eq_nil (prefix_all_good hc hpc) hps) hp0

theorem basename_noslash {b : Str} (hb : '/' ∉ b) : basename b = b := by
  unfold basename
  have : b.reverse.takeWhile (· != '/') = b.reverse := by
    have e : b.reverse = b.reverse ++ [] := by simp
    rw [e, List.takeWhile_append_of_pos]
    · simp
    · intro x hx
      have : x ≠ '/' := fun e => hb (e ▸ List.mem_reverse.mp hx)
      simpa using this
  rw [this, List.reverse_reverse]

theorem basename_append (d : Str) {b : Str} (hb : '/' ∉ b) : basename (d ++ '/' :: b) = b := by
  unfold basename
  have e : (d ++ '/' :: b).reverse = b.reverse ++ '/' :: d.reverse := by simp
  rw [e, List.takeWhile_append_of_pos, List.takeWhile_cons_of_neg (by simp)]
  · simp
  · intro x hx
    have : x ≠ '/' := fun e => hb (e ▸ List.mem_reverse.mp hx)
    simpa using this

theorem endsWith_iff {s suf : Str} : endsWith s suf = true ↔ suf <:+ s := by
  unfold endsWith
  rw [List.isPrefixOf_iff_prefix, List.reverse_prefix]

/-- no registered extension is a suffix of another one -/
theorem ext_suffix_free : ∀ x ∈ extensions, ∀ y ∈ extensions, endsWith x y = true → x = y := by
  -- string literals become character lists first: `String.toList` of a literal makes the kernel decode UTF-8
  unfold extensions
  simp only [List.map_cons, List.map_nil]
  repeat rw [String.toList_ofList]
  decide +kernel

theorem ext_noslash : ∀ x ∈ extensions, '/' ∉ x ∧ 2 ≤ x.length := by
  unfold extensions
  simp only [List.map_cons, List.map_nil]
  repeat rw [String.toList_ofList]
  decide +kernel

end BreezyVerif.C42
