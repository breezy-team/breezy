import BreezyVerif.Lemmas.C06
/-
C06 — the object's missing-compression-parent bookkeeping tracks the open
group (`StaleOK`), suspend → new object → resume restores the group, and the
closed form of "insert a chunk, suspend, reopen, resume everything" repeated
any number of times.
-/
namespace BreezyVerif.C06

/-! ### the compression parents the records of a pack lack -/

def lacking (own recs : Pack) : List Key :=
  recs.filterMap fun rec => match rec.cparent with
    | some p => if hasKey own ⟨rec.key.kind, p⟩ then none else some ⟨rec.key.kind, p⟩
    | none => none

theorem mem_lacking {own recs : Pack} {x : Key} :
    x ∈ lacking own recs ↔
      ∃ rec ∈ recs, ∃ p, rec.cparent = some p ∧ x = ⟨rec.key.kind, p⟩ ∧ hasKey own x = false := by
  simp only [lacking, List.mem_filterMap]
  constructor
  · rintro ⟨rec, hm, h⟩
    cases hc : rec.cparent with
    | none => simp [hc] at h
    | some p =>
      simp only [hc] at h
      by_cases hk : hasKey own ⟨rec.key.kind, p⟩ = true
      · simp [hk] at h
      · simp only [hk] at h
        simp only [Bool.false_eq_true, if_false, Option.some.injEq] at h
        subst h
        exact ⟨rec, hm, p, hc, rfl, by simpa using hk⟩
  · rintro ⟨rec, hm, p, hc, rfl, hk⟩
    exact ⟨rec, hm, by simp [hc, hk]⟩

theorem mcp_eq_lacking (own recs : Pack) :
    missingCompressionParent own recs = !(lacking own recs).isEmpty := by
  induction recs with
  | nil => rfl
  | cons rec recs ih =>
    simp only [missingCompressionParent, List.any_cons] at ih ⊢
    rw [ih]
    cases hc : rec.cparent with
    | none => simp [lacking, hc]
    | some p =>
      by_cases hk : hasKey own ⟨rec.key.kind, p⟩ = true
      · simp [lacking, hc, hk]
      · simp [lacking, hc, hk]

theorem hasKey_append (a b : Pack) (k : Key) : hasKey (a ++ b) k = (hasKey a k || hasKey b k) := by
  simp [hasKey, List.any_append]

theorem hasKey_single (rec : Rec) (k : Key) : hasKey [rec] k = (rec.key == k) := by
  simp [hasKey]

/-- the object's bookkeeping describes exactly what the records inserted through
this object lack -/
def StaleOK (r : Repo) (g : Group) : Prop :=
  ∀ x, x ∈ r.stale ↔ x ∈ lacking (r.packs.flatten ++ groupRecs g) g.fresh

theorem StaleOK.exact {r : Repo} {g : Group} (h : StaleOK r g) : StaleExact r g := by
  rw [StaleExact, mcp_eq_lacking, Bool.not_not, Bool.eq_iff_iff]
  simp only [List.isEmpty_iff, List.eq_nil_iff_forall_not_mem, h _]

/-- inserting a record keeps the bookkeeping exact -/
theorem staleOK_insert (fmt : Fmt) (r : Repo) (g : Group) (rec : Rec) (h : r.wg = some g) (ok : StaleOK r g) :
    StaleOK (step fmt r (.insert rec)).1 { g with fresh := g.fresh ++ [rec] } := by
  rw [step_insert fmt rec h]
  intro x
  show x ∈ staleAfter r g rec ↔
    x ∈ lacking (r.packs.flatten ++ groupRecs { g with fresh := g.fresh ++ [rec] }) (g.fresh ++ [rec])
  have hown : r.packs.flatten ++ groupRecs { g with fresh := g.fresh ++ [rec] }
      = (r.packs.flatten ++ groupRecs g) ++ [rec] := by
    simp [groupRecs, List.append_assoc]
  rw [hown]
  -- presence after the insertion
  have hk : ∀ y, hasKey ((r.packs.flatten ++ groupRecs g) ++ [rec]) y
      = (hasKey (r.packs.flatten ++ groupRecs g) y || (rec.key == y)) := by
    intro y; rw [hasKey_append, hasKey_single]
  -- right-hand side, split into the old records and the new one
  have rhs : x ∈ lacking ((r.packs.flatten ++ groupRecs g) ++ [rec]) (g.fresh ++ [rec]) ↔
      (x ∈ lacking (r.packs.flatten ++ groupRecs g) g.fresh ∧ x ≠ rec.key) ∨
      (∃ p, rec.cparent = some p ∧ x = ⟨rec.key.kind, p⟩ ∧
        hasKey ((r.packs.flatten ++ groupRecs g) ++ [rec]) x = false) := by
    simp only [mem_lacking, List.mem_append, List.mem_singleton]
    constructor
    · rintro ⟨rc, hm | rfl, p, hc, hx, hkx⟩
      · left
        rw [hk] at hkx
        simp only [Bool.or_eq_false_iff, beq_eq_false_iff_ne, ne_eq] at hkx
        exact ⟨⟨rc, hm, p, hc, hx, hkx.1⟩, fun e => hkx.2 e.symm⟩
      · right; exact ⟨p, hc, hx, hkx⟩
    · rintro (⟨⟨rc, hm, p, hc, hx, hkx⟩, hne⟩ | ⟨p, hc, hx, hkx⟩)
      · refine ⟨rc, Or.inl hm, p, hc, hx, ?_⟩
        rw [hk]
        simp only [Bool.or_eq_false_iff, beq_eq_false_iff_ne, ne_eq]
        exact ⟨hkx, fun e => hne e.symm⟩
      · exact ⟨rec, Or.inr rfl, p, hc, hx, hkx⟩
  rw [rhs]
  -- left-hand side
  have hst : ∀ y, y ∈ r.stale.filter (· != rec.key) ↔ (y ∈ lacking (r.packs.flatten ++ groupRecs g) g.fresh ∧ y ≠ rec.key) := by
    intro y
    simp only [List.mem_filter, bne_iff_ne, ne_eq]
    rw [ok y]
  simp only [staleAfter]
  cases hc : rec.cparent with
  | none =>
    simp only [hst]
    constructor
    · intro hx; exact Or.inl hx
    · rintro (hx | ⟨p, hp, _⟩)
      · exact hx
      · cases hp
  | some p =>
    simp only []
    split
    · rename_i hcond
      simp only [hst]
      constructor
      · intro hx; exact Or.inl hx
      · rintro (hx | ⟨p', hp, hx, hkx⟩)
        · exact hx
        · cases hp
          simp only [Bool.or_eq_true, List.contains_iff_mem] at hcond
          rcases hcond with hpres | hin
          · subst hx; rw [hpres] at hkx; cases hkx
          · subst hx; exact (hst _).mp hin
    · rename_i hcond
      simp only [Bool.or_eq_true, List.contains_iff_mem, not_or, Bool.not_eq_true] at hcond
      simp only [List.mem_append, List.mem_singleton, hst]
      constructor
      · rintro (hx | hx)
        · exact Or.inl hx
        · exact Or.inr ⟨p, rfl, hx, by rw [hx]; exact hcond.1⟩
      · rintro (hx | ⟨p', hp, hx, _⟩)
        · exact Or.inl hx
        · cases hp; exact Or.inr hx

theorem staleOK_inserts (fmt : Fmt) (recs : List Rec) (r : Repo) (g : Group) (h : r.wg = some g) (ok : StaleOK r g) :
    StaleOK (exec fmt r (recs.map Op.insert)) { g with fresh := g.fresh ++ recs } := by
  induction recs generalizing r g with
  | nil => simpa [exec_nil] using ok
  | cons rec recs ih =>
    simp only [List.map_cons, exec_cons]
    have hs : (step fmt r (.insert rec)).1.wg = some { g with fresh := g.fresh ++ [rec] } := by
      rw [step_insert fmt rec h]
    have := ih (step fmt r (.insert rec)).1 { g with fresh := g.fresh ++ [rec] } hs (staleOK_insert fmt r g rec h ok)
    simpa [List.append_assoc] using this

/-- a group opened on a clean object: nothing inserted, nothing remembered -/
theorem staleOK_clean (r : Repo) (resumed : List Pack) (hs : r.stale = []) : StaleOK r ⟨[], resumed⟩ := by
  intro x
  rw [hs]
  simp [lacking]

/-- Suspend, drop the object, resume with the returned tokens on a new one: the group comes
back as the resumed packs `groupPacks g` of a clean object (`up` is `upload/` after the suspend). -/
theorem suspend_reopen_resume (fmt : Fmt) {r : Repo} {g : Group} (h : r.wg = some g)
    (hin : ∀ p ∈ g.resumed, p ∈ r.upload) (hnd : g.resumed.Nodup) (hf : g.fresh ∉ g.resumed) :
    ∃ up, (∀ p ∈ groupPacks g, p ∈ up) ∧
      step fmt r .suspend = ({ r with upload := up, wg := none }, .tokens (groupPacks g)) ∧
      step fmt { r with upload := up, wg := none, stale := [] } (.resume ((groupPacks g).map Tok.pack)) =
        ({ r with upload := up, wg := some ⟨[], groupPacks g⟩, stale := [] }, .ok) := by
  rw [groupPacks_eq_ite]
  by_cases he : g.fresh.isEmpty = true
  · rw [if_pos he]
    refine ⟨r.upload, hin, by simp only [step, h, he, if_true], ?_⟩
    have := resumeToks_ok r.upload g.resumed [] hin hnd
    simp only [step, this, List.nil_append]
  · rw [if_neg he]
    have hup : ∀ p ∈ g.resumed ++ [g.fresh], p ∈ addNew r.upload g.fresh := fun p hp =>
      mem_addNew.mpr ((List.mem_append.mp hp).imp (hin p) List.mem_singleton.mp)
    refine ⟨addNew r.upload g.fresh, hup, by simp only [step, h, he]; rfl, ?_⟩
    have := resumeToks_ok (addNew r.upload g.fresh) (g.resumed ++ [g.fresh]) [] hup
      (Lib.nodup_concat hnd hf)
    simp only [step, this, List.nil_append]

/-- the non-empty chunks: the packs a sequence of suspends leaves in `upload/` -/
def nonempty (cs : List Pack) : List Pack := cs.filter fun c => !c.isEmpty

theorem flatten_nonempty (cs : List Pack) : (nonempty cs).flatten = cs.flatten := by
  induction cs with
  | nil => rfl
  | cons c cs ih =>
    by_cases he : c.isEmpty = true
    · have : c = [] := List.isEmpty_iff.mp he
      simp [nonempty, this] at ih ⊢
      exact ih
    · simp only [nonempty, List.filter_cons, he, Bool.not_false, if_true, List.flatten_cons] at ih ⊢
      simp only [Bool.not_eq_true] at he
      simp [ih]

/-- for every chunk: insert its records, suspend, drop the object, open a new one,
resume with all tokens; then insert the last records (no commit yet) -/
def cyclePrefix (done : List Pack) : List Pack → Pack → List Op
  | [], last => last.map Op.insert
  | c :: rest, last =>
    let done' := if c.isEmpty then done else done ++ [c]
    c.map Op.insert ++ [.suspend, .reopen, .resume (done'.map Tok.pack)] ++ cyclePrefix done' rest last

theorem nonempty_cons (done : List Pack) (c : Pack) (rest : List Pack) :
    done ++ nonempty (c :: rest) = (if c.isEmpty then done else done ++ [c]) ++ nonempty rest := by
  by_cases he : c.isEmpty = true
  · simp [nonempty, he]
  · simp [nonempty, he]

theorem exec_cyclePrefix (fmt : Fmt) (cs : List Pack) (last : Pack) (done : List Pack) (r : Repo)
    (hw : r.wg = some ⟨[], done⟩) (hs : r.stale = []) (hin : ∀ p ∈ done, p ∈ r.upload)
    (hne : ∀ p ∈ done, p.isEmpty = false) (hnd : (done ++ nonempty cs).Nodup) :
    (exec fmt r (cyclePrefix done cs last)).packs = r.packs ∧
    (exec fmt r (cyclePrefix done cs last)).wg = some ⟨last, done ++ nonempty cs⟩ ∧
      StaleOK (exec fmt r (cyclePrefix done cs last)) ⟨last, done ++ nonempty cs⟩ := by
  induction cs generalizing done r with
  | nil =>
    simp only [cyclePrefix, nonempty, List.filter_nil, List.append_nil]
    obtain ⟨h1, _, h3⟩ := exec_inserts fmt last r ⟨[], done⟩ hw
    have ok := staleOK_inserts fmt last r ⟨[], done⟩ hw (staleOK_clean r done hs)
    simp only [List.nil_append] at h3 ok
    exact ⟨h1, h3, ok⟩
  | cons c rest ih =>
    obtain ⟨h1, h2, h3⟩ := exec_inserts fmt c r ⟨[], done⟩ hw
    simp only [List.nil_append] at h3
    have hdone : done.Nodup := (List.nodup_append.mp hnd).1
    have hf : c ∉ done := by
      intro hm
      by_cases he : c.isEmpty = true
      · have := hne c hm
        rw [he] at this; cases this
      · have hc : c ∈ nonempty (c :: rest) := by simp [nonempty, he]
        exact (List.nodup_append.mp hnd).2.2 c hm c hc rfl
    obtain ⟨up, hup, hsus, hres⟩ := suspend_reopen_resume fmt h3
      (fun p hp => by rw [h2]; exact hin p hp) hdone hf
    have hops : cyclePrefix done (c :: rest) last = c.map Op.insert ++
        (Op.suspend :: Op.reopen :: Op.resume ((groupPacks ⟨c, done⟩).map Tok.pack) ::
          cyclePrefix (groupPacks ⟨c, done⟩) rest last) := by
      simp only [cyclePrefix, groupPacks_eq_ite, List.append_assoc, List.cons_append, List.nil_append]
    rw [hops, exec_append, exec_cons, exec_cons, exec_cons, hsus, step_reopen fmt rfl, hres]
    have hl : done ++ nonempty (c :: rest) = groupPacks ⟨c, done⟩ ++ nonempty rest := by
      rw [groupPacks_eq_ite, nonempty_cons]
    have hne' : ∀ p ∈ groupPacks ⟨c, done⟩, p.isEmpty = false := by
      intro p hp
      rcases List.mem_append.mp hp with hp | hp
      · exact hne p hp
      · split at hp
        · cases hp
        · next he => rw [List.mem_singleton.mp hp]; simpa using he
    rw [hl] at hnd ⊢
    exact (ih _ _ rfl rfl hup hne' hnd).imp (·.trans h1) id

end BreezyVerif.C06
