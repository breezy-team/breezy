import BreezyVerif.Model.C16
import BreezyVerif.Lemmas.C21B
import BreezyVerif.Lemmas.Lib.ListAux
/-! C16 — lemmas: adding a fresh revision does not change what older revisions
see; the uncommit walk in terms of left-hand ancestors and removed merges, and these in terms of C21's `lhWalk`. -/
namespace BreezyVerif.C16
open BreezyVerif.C21

theorem anc_cons_ne (n : Rev) (ps : List Rev) (g : Graph) (x : Rev) (h : ¬ n = x) :
    anc ((n, ps) :: g) x = anc g x := by
  simp [anc, h]

theorem isAnc_cons_ne (n : Rev) (ps : List Rev) (g : Graph) (a b : Tip) (h : b ≠ some n) :
    isAnc ((n, ps) :: g) a b = isAnc g a b := by
  cases a with
  | none => rfl
  | some a =>
    cases b with
    | none => rfl
    | some b =>
      have : ¬ n = b := fun e => h (by rw [e])
      simp [isAnc, anc, this]

theorem heads_cons (n : Rev) (ps : List Rev) (g : Graph) (keys : List Tip) (h : some n ∉ keys) :
    heads ((n, ps) :: g) keys = heads g keys := by
  unfold heads
  apply List.filter_congr
  intro k _
  rw [Lib.any_congr_mem (l := keys) (q := fun k' => k' != k && isAnc g k k')]
  intro k' hk'
  have : k' ≠ some n := fun e => h (e ▸ hk')
  rw [isAnc_cons_ne n ps g k k' this]

theorem filterParents_cons (n : Rev) (ps : List Rev) (g : Graph) (l : List Rev) (h : n ∉ l) :
    filterParents ((n, ps) :: g) l = filterParents g l := by
  cases l with
  | nil => rfl
  | cons p rest =>
    simp only [filterParents]
    rw [heads_cons]
    intro hm
    rcases List.mem_map.mp hm with ⟨x, hx, he⟩
    cases he
    exact h hx

theorem present_cons_ne (n : Rev) (ps : List Rev) (g : Graph) (x : Rev) (h : ¬ n = x) :
    present ((n, ps) :: g) x = present g x := by
  simp [present, parentsOf, h]

theorem walk_zero (g : Graph) (p : Rev) (pm : List Rev) (h : present g p = true) :
    walk g p 0 pm = .ok (some p, pm) := by
  induction g with
  | nil => simp [present, parentsOf] at h
  | cons e g ih =>
    obtain ⟨n, ps⟩ := e
    unfold walk
    by_cases hn : n = p
    · simp [hn]
    · simp only [hn, if_false]
      exact ih (by simpa [present, parentsOf, hn] using h)

/-- the walk in closed form: the new tip is the `k`-th left-hand ancestor, and the pending-merge
list grows by the reversed merge lists of the removed revisions -/
theorem walk_eq (g : Graph) : ∀ (r : Rev) (k : Nat) (pm : List Rev),
    walk g r k pm =
      (lhNth g r k).map fun t => (t, pm ++ ((removedMerges g r k).map List.reverse).flatten) := by
  induction g with
  | nil => intro r k pm; rfl
  | cons e g ih =>
    obtain ⟨n, ps⟩ := e
    intro r k pm
    unfold walk lhNth removedMerges
    by_cases hn : n = r
    · rw [if_pos hn, if_pos hn, if_pos hn]
      cases k with
      | zero => simp [Except.map]
      | succ k =>
        cases ps with
        | nil => simp [Except.map]
        | cons p rest =>
          dsimp only
          rw [ih p k]
          simp
    · rw [if_neg hn, if_neg hn, if_neg hn]
      exact ih r k pm

theorem walk_ok (g : Graph) (r : Rev) (k : Nat) (pm : List Rev) (t : Tip) (pm' : List Rev)
    (h : walk g r k pm = .ok (t, pm')) :
    lhNth g r k = .ok t ∧ pm' = pm ++ ((removedMerges g r k).map List.reverse).flatten := by
  rw [walk_eq] at h
  cases hl : lhNth g r k with
  | error e => rw [hl] at h; cases h
  | ok t' => rw [hl] at h; cases h; exact ⟨rfl, rfl⟩

theorem lhNth_eq (g : Graph) (r : Rev) (k : Nat) : lhNth g r k =
    match ((lhWalk g r).1.map (·.1))[k]? with
    | some x => .ok (some x)
    | none => if (lhWalk g r).2 then .error .notPresent else .ok none := by
  fun_induction lhNth g r k with
  | case1 => rfl
  | case2 ps g r =>
    cases ps
    · rw [lhWalk_root]; rfl
    · rw [lhWalk_step]; rfl
  | case3 g r k => rw [lhWalk_root]; rfl
  | case4 g r k p ps ih => rw [lhWalk_step, ih]; rfl
  | case5 n ps g r k hn ih => rw [lhWalk_skip ps g hn, ih]

theorem removedMerges_eq (g : Graph) (r : Rev) (k : Nat) :
    removedMerges g r k = ((lhWalk g r).1.take k).map (·.2.tail) := by
  fun_induction removedMerges g r k with
  | case1 => rw [lhWalk, List.take_nil]; rfl
  | case2 ps g r => rw [List.take_zero]; rfl
  | case3 g r k => rw [lhWalk_root, List.take_succ_cons, List.take_nil]; rfl
  | case4 g r k p ps ih => rw [lhWalk_step, ih, List.take_succ_cons]; rfl
  | case5 n ps g r k hn ih => rw [lhWalk_skip ps g hn, ih]

/-- on a ghost-free left-hand history the `k`-th left-hand ancestor exists (`null:` past the origin) and its
left-hand history is the old one minus its first `k` revisions -/
theorem lhNth_lhTip (g : Graph) (hwf : wf g = true) (r : Rev) (k : Nat) (l : List Rev) (hl : lefthand g r = some l) :
    ∃ t, lhNth g r k = .ok t ∧ lhTip g t = some (l.drop k) := by
  rw [lefthand_eq] at hl
  split at hl
  · cases hl
  rename_i hg
  cases Option.some.inj hl
  rw [lhNth_eq]
  cases hk : ((lhWalk g r).1.map (·.1))[k]? with
  | none =>
    refine ⟨none, by simp [hg], ?_⟩
    rw [List.drop_eq_nil_of_le (List.getElem?_eq_none_iff.mp hk)]
    rfl
  | some x =>
    refine ⟨some x, rfl, ?_⟩
    rw [List.getElem?_map, Option.map_eq_some_iff] at hk
    obtain ⟨e, hk, rfl⟩ := hk
    obtain ⟨hlt, rfl⟩ := List.getElem?_eq_some_iff.mp hk
    -- the walk from the `k`-th entry is the walk from `r` without its first `k` entries
    have hs := lhWalk_suffix g hwf r _ _ _
      ((List.take_append_drop k _).symm.trans (by rw [List.drop_eq_getElem_cons hlt]))
    simp only [lhTip, lefthand_eq, hs, hg, Bool.false_eq_true, if_false, ← List.map_drop, List.drop_eq_getElem_cons hlt]

/-- nothing but the new revision itself is unique to a freshly committed revision -/
theorem fua_fresh (r : Rev) (ps : List Rev) (g : Graph) (hr : r ∉ ps) (x : Rev)
    (h : x ∈ findUniqueAncestors ((r, ps) :: g) r ps) : x = r := by
  unfold findUniqueAncestors at h
  simp only [List.mem_filter] at h
  obtain ⟨h1, h2⟩ := h
  simp only [anc, if_true, List.mem_cons, List.mem_flatMap] at h1
  rcases h1 with h1 | ⟨p, hp, hx⟩
  · exact h1
  · exfalso
    have hne : ¬ r = p := fun e => hr (e ▸ hp)
    have : (ps.any fun c => (anc ((r, ps) :: g) c).contains x) = true := by
      simp only [List.any_eq_true]
      exact ⟨p, hp, by simp [anc, hne, hx]⟩
    rw [this] at h2
    exact absurd h2 (by decide)

theorem mem_fua (g : Graph) (old : Rev) (parents : List Rev) (x : Rev) :
    x ∈ findUniqueAncestors g old parents ↔ x ∈ anc g old ∧ ∀ p ∈ parents, x ∉ anc g p := by
  unfold findUniqueAncestors
  simp [List.mem_filter]

theorem mem_removedTags (g : Graph) (tags : Tags) (old : Rev) (parents : List Rev) (n : Nat) :
    n ∈ removedTags g tags old parents ↔
      ∃ r, (n, r) ∈ tags ∧ r ∈ anc g old ∧ ∀ p ∈ parents, r ∉ anc g p := by
  unfold removedTags
  simp only [List.mem_map, List.mem_filter, List.contains_iff_mem, mem_fua, Prod.exists]
  constructor
  · rintro ⟨a, b, ⟨hm, hf⟩, rfl⟩
    exact ⟨b, hm, hf⟩
  · rintro ⟨r, hm, hf⟩
    exact ⟨n, r, ⟨hm, hf⟩, rfl⟩

theorem mem_keepTagsOutside (g : Graph) (tags : Tags) (old : Rev) (parents : List Rev) (t : Nat × Rev) :
    t ∈ keepTagsOutside g tags old parents ↔
      t ∈ tags ∧ ¬ (t.2 ∈ anc g old ∧ ∀ p ∈ parents, t.2 ∉ anc g p) := by
  unfold keepTagsOutside
  rw [List.mem_filter, ← mem_fua]
  simp

end BreezyVerif.C16
