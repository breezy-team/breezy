import BreezyVerif.Model.C35
import BreezyVerif.Lemmas.C35
import BreezyVerif.Lemmas.Lib.AList
/-
Helper lemmas for the history-level theorem of Props/C35.lean
(`run_history_roots`): the SHA map filled revision by revision stays correct.
-/
namespace BreezyVerif.C35
open Lib

theorem cacheGet_eq_lookup (c : Cache) (k : Key) : c.get k = c.lookup k :=
  lookup_of_eqns (fun _ => rfl) (fun _ _ _ _ => rfl) c k

theorem cacheGet_mem (c : Cache) (k : Key) (s : Sha) (h : c.get k = some s) : (k, s) ∈ c :=
  mem_of_lookup (cacheGet_eq_lookup c k ▸ h)

theorem cacheGet_append (a b : Cache) (k : Key) :
    Cache.get (a ++ b) k = match a.get k with
      | some s => some s
      | none => b.get k := by
  simp only [cacheGet_eq_lookup, List.lookup_append]
  cases a.lookup k <;> rfl

theorem cacheGet_filter (p : Key → Bool) (c : Cache) (k : Key) (s : Sha)
    (h : Cache.get (c.filter fun e => p e.1) k = some s) : c.get k = some s := by
  rw [cacheGet_eq_lookup, lookup_filter_key] at h
  rw [cacheGet_eq_lookup]
  split at h
  · exact h
  · cases h

theorem cacheOK_filter (H : GObj → Sha) (cache : Cache) (ls : List (Key × Bytes)) (p : Key → Bool)
    (h : cacheOK H cache ls = true) : cacheOK H (cache.filter fun e => p e.1) ls = true := by
  rw [cacheOK_iff] at h ⊢
  intro k q s hm hg
  exact h k q s hm (cacheGet_filter p cache k s hg)

theorem keysFunctional_iff (ls : List (Key × Bytes)) :
    keysFunctional ls = true ↔ ∀ k p q, (k, p) ∈ ls → (k, q) ∈ ls → p = q := by
  unfold keysFunctional
  simp only [List.all_eq_true, Bool.or_eq_true, bne_iff_ne, ne_eq, beq_iff_eq]
  constructor
  · intro h k p q hp hq
    rcases h (k, p) hp (k, q) hq with h | h
    · exact absurd rfl h
    · exact h
  · intro h a ha b hb
    by_cases hk : a.1 = b.1
    · right
      obtain ⟨k, p⟩ := a
      obtain ⟨k', q⟩ := b
      simp only at hk
      subst hk
      exact h k p q ha hb
    · left; exact hk

/-- every entry the conversion records is the id of the blob of a leaf of the tree -/
theorem incrEntries_sound (H : GObj → Sha) (cache : Cache) (base : Option Children) (others : List Children)
    (ls : List (Key × Bytes)) (hc : cacheOK H cache ls = true)
    (ho : ∀ x ∈ others.flatMap leavesC, x ∈ ls) :
    (∀ n path, (∀ x ∈ leaves n, x ∈ ls) →
      ∀ k s, (k, s) ∈ incrEntries H cache base others path n → ∃ p, (k, p) ∈ leaves n ∧ s = H (.blob p)) ∧
    ∀ cs path, (∀ x ∈ leavesC cs, x ∈ ls) →
      ∀ k s, (k, s) ∈ incrEntriesC H cache base others path cs → ∃ p, (k, p) ∈ leavesC cs ∧ s = H (.blob p) := by
  refine Node.induction ?_ ?_ ?_ ?_ ?_
  · intro k c x um path hl k' s hm
    cases List.mem_singleton.1 hm
    exact ⟨c, List.mem_singleton.2 rfl,
      incrFile_eq H cache base others ls hc ho path k c _ (hl _ (List.mem_singleton.2 rfl))⟩
  · intro k t um path hl k' s hm
    cases List.mem_singleton.1 hm
    exact ⟨t, List.mem_singleton.2 rfl, incrLink_eq H cache base ls hc path k t _ (hl _ (List.mem_singleton.2 rfl))⟩
  · exact fun cs ih => ih
  · exact fun _ _ _ _ h => nomatch h
  · intro name n rest ihn ihr path hl k s hm
    have h1 := ihn (path ++ [name]) fun x hx => hl x (List.mem_append_left _ hx)
    have h2 := ihr path fun x hx => hl x (List.mem_append_right _ hx)
    rw [incrEntriesC] at hm
    split at hm
    · obtain ⟨p, hp, hs⟩ := h2 k s hm
      exact ⟨p, List.mem_append_right _ hp, hs⟩
    · rcases List.mem_append.1 hm with hm | hm
      · obtain ⟨p, hp, hs⟩ := h1 k s hm
        exact ⟨p, List.mem_append_left _ hp, hs⟩
      · obtain ⟨p, hp, hs⟩ := h2 k s hm
        exact ⟨p, List.mem_append_right _ hp, hs⟩

/-- the invariant of `_update_sha_map`: the root tree id recorded for every
converted revision is its from-scratch id, and the SHA map is correct for every
leaf of the whole history `all` -/
def HInv (H : GObj → Sha) (all : List (Key × Bytes)) (s : HState) : Prop :=
  s.roots = s.trees.map (expRoot H) ∧ cacheOK H s.cache all = true ∧
    (∀ t ∈ s.trees, ∀ x ∈ leavesC t, x ∈ all)

theorem presentParents_sound (H : GObj → Sha) (all : List (Key × Bytes)) (s : HState)
    (hinv : HInv H all s) (ps : List Nat) :
    ∀ q ∈ presentParents s ps, q.2 = expRoot H q.1 ∧ q.1 ∈ s.trees := by
  intro q hq
  unfold presentParents at hq
  simp only [List.mem_filterMap] at hq
  obtain ⟨i, _, hi⟩ := hq
  split at hi
  · rename_i t x ht hx
    simp only [Option.some.injEq] at hi
    subst hi
    have hr := hinv.1
    rw [hr] at hx
    simp only [List.getElem?_map, ht, Option.map_some, Option.some.injEq] at hx
    exact ⟨hx.symm, List.mem_of_getElem? ht⟩
  · simp at hi

theorem stepRev_inv (H : GObj → Sha) (all : List (Key × Bytes)) (hf : keysFunctional all = true)
    (s : HState) (r : Rev) (hinv : HInv H all s) (hr : ∀ x ∈ leavesC r.tree, x ∈ all) :
    HInv H all (stepRev H s r) := by
  obtain ⟨hroots, hcache, htrees⟩ := hinv
  have hpres := presentParents_sound H all s ⟨hroots, hcache, htrees⟩ r.parents
  -- the evicted cache is still correct
  have hc' : cacheOK H (s.cache.filter fun e => !r.evict.contains e.1) all = true :=
    cacheOK_filter H s.cache all (fun k => !r.evict.contains k) hcache
  -- leaves of the other parents belong to the history
  have hothers : ∀ x ∈ ((presentParents s r.parents).tail.map (·.1)).flatMap leavesC, x ∈ all := by
    intro x hx
    simp only [List.mem_flatMap, List.mem_map] at hx
    obtain ⟨t, ⟨q, hq, rfl⟩, hxt⟩ := hx
    exact htrees q.1 (hpres q (List.mem_of_mem_tail hq)).2 x hxt
  have hbase : ∀ b x, (presentParents s r.parents).head? = some (b, x) → x = expRoot H b := by
    intro b x hh
    exact (hpres (b, x) (List.mem_of_mem_head? hh)).1
  have hroot := incrRoot_eq H (s.cache.filter fun e => !r.evict.contains e.1)
    (presentParents s r.parents).head? ((presentParents s r.parents).tail.map (·.1)) r.tree all hc' hr hothers hbase
  refine ⟨?_, ?_, ?_⟩
  · simp only [stepRev, List.map_append, List.map_cons, List.map_nil, hroots, hroot]
  · -- the new SHA map
    simp only [stepRev]
    rw [cacheOK_iff]
    intro k p sh hm hg
    rw [cacheGet_append] at hg
    have hfun := (keysFunctional_iff all).1 hf
    have hnew : ∀ (b : Option Children) (sh : Sha),
        (k, sh) ∈ incrEntriesC H (s.cache.filter fun e => !r.evict.contains e.1) b
          ((presentParents s r.parents).tail.map (·.1)) [] r.tree → sh = H (.blob p) := by
      intro b sh hmem
      obtain ⟨p', hp', hs⟩ := (incrEntries_sound H _ b _ all hc' hothers).2 r.tree [] hr k sh hmem
      rw [hfun k p p' hm (hr _ hp')]
      exact hs
    split at hg
    · rename_i s' hs'
      simp only [Option.some.injEq] at hg
      subst hg
      have hmem := cacheGet_mem _ _ _ hs'
      split at hmem
      · rename_i b x _
        split at hmem
        · simp at hmem
        · exact hnew (some b) s' hmem
      · exact hnew none s' hmem
    · exact (cacheOK_iff H _ all).1 hc' k p sh hm hg
  · intro t ht x hx
    simp only [stepRev, List.mem_append, List.mem_singleton] at ht
    rcases ht with ht | ht
    · exact htrees t ht x hx
    · subst ht; exact hr x hx

theorem runHist_inv (H : GObj → Sha) (all : List (Key × Bytes)) (hf : keysFunctional all = true) :
    ∀ (h : List Rev) (s : HState), HInv H all s → (∀ r ∈ h, ∀ x ∈ leavesC r.tree, x ∈ all) →
      HInv H all (runHist H s h) :=
  fun h _ hinv hall => List.foldlRecOn (motive := HInv H all) h _ hinv fun s hs r hr =>
    stepRev_inv H all hf s r hs (hall r hr)

theorem runHist_trees (H : GObj → Sha) : ∀ (h : List Rev) (s : HState),
    (runHist H s h).trees = s.trees ++ h.map (·.tree)
  | [] => fun _ => (List.append_nil _).symm
  | r :: rest => fun s => (runHist_trees H rest (stepRev H s r)).trans (List.append_assoc _ [r.tree] _)

end BreezyVerif.C35
