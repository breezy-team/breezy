import BreezyVerif.Model.C47
/-! C47 helper lemmas: the f64 layer of `format_highres_date` (IEEE rounding of
the fraction, `{:.9}` rounding, the carry case). -/
namespace BreezyVerif.C47

theorem shiftFor_le (f n : Nat) : shiftFor f n ≤ f := by
  fun_induction shiftFor f n <;> omega

theorem roundF64_small (k n : Nat) (h : n < 2 ^ 53) : roundF64 k n = n := by
  cases k <;> simp [roundF64, shiftFor, h]

/-- rounding a fraction below 1 never exceeds 1 -/
theorem roundF64_le (k n : Nat) (h : n < 2 ^ k) : roundF64 k n ≤ 2 ^ k := by
  unfold roundF64
  simp only []
  have hsh := shiftFor_le k n
  generalize shiftFor k n = sh at *
  split
  · omega
  · have hpow : 2 ^ k = 2 ^ (k - sh) * 2 ^ sh := by
      rw [← Nat.pow_add]; congr 1; omega
    have hq : n / 2 ^ sh < 2 ^ (k - sh) := by
      apply Nat.div_lt_of_lt_mul
      rw [Nat.mul_comm, ← hpow]; exact h
    rw [hpow]
    apply Nat.mul_le_mul_right
    split <;> omega

theorem round9_spec (k n : Nat) : ∃ q r, n * 1000000000 = 2 ^ k * q + r ∧ r < 2 ^ k ∧
    round9 k n = if 2 ^ k < 2 * r ∨ (2 * r = 2 ^ k ∧ q % 2 = 1) then q + 1 else q :=
  ⟨_, _, (Nat.div_add_mod _ _).symm, Nat.mod_lt _ (Nat.two_pow_pos k), rfl⟩

/-- `{:.9}` is within half a unit of the exact value -/
theorem round9_close (k n : Nat) :
    2 * (round9 k n * 2 ^ k) ≤ 2 * (n * 1000000000) + 2 ^ k ∧
    2 * (n * 1000000000) ≤ 2 * (round9 k n * 2 ^ k) + 2 ^ k := by
  obtain ⟨q, r, hs, hr, e⟩ := round9_spec k n
  rw [e, hs]
  generalize 2 ^ k = D at *
  split
  · rw [Nat.add_mul, Nat.one_mul, Nat.mul_comm q D]
    generalize D * q = P
    omega
  · rw [Nat.mul_comm q D]
    generalize D * q = P
    omega

/-- a fraction of at most 1 is printed as at most `1.000000000` -/
theorem round9_le (k n : Nat) (h : n ≤ 2 ^ k) : round9 k n ≤ 1000000000 := by
  have h1 := (round9_close k n).1
  have h2 : n * 1000000000 ≤ 2 ^ k * 1000000000 := Nat.mul_le_mul_right _ h
  have hD := Nat.two_pow_pos k
  apply Nat.le_of_not_lt
  intro hlt
  -- a result above 10⁹ would be a full unit above the exact value
  have h3 := Nat.mul_le_mul_right (2 ^ k) (Nat.add_one_le_iff.2 hlt)
  omega

/-- the fraction is printed as `1.000000000` exactly when it is at least 1 − ½·10⁻⁹ -/
theorem round9_carry_iff (k n : Nat) (h : n ≤ 2 ^ k) :
    round9 k n = 1000000000 ↔ 2 * (1000000000 * 2 ^ k) ≤ 2 * (n * 1000000000) + 2 ^ k := by
  constructor
  · intro e
    have := (round9_close k n).1
    rwa [e] at this
  · intro hc
    have hle := round9_le k n h
    obtain ⟨q, r, hs, hr, e⟩ := round9_spec k n
    rw [e] at hle ⊢
    rw [hs] at hc
    generalize 2 ^ k = D at *
    have hq : 999999999 ≤ q := by
      apply Nat.le_of_not_lt
      intro hlt
      have : D * q ≤ D * 999999998 := Nat.mul_le_mul_left _ (by omega)
      omega
    by_cases hcnd : (D < 2 * r ∨ 2 * r = D ∧ q % 2 = 1)
    · rw [if_pos hcnd] at hle ⊢; omega
    · rw [if_neg hcnd] at hle ⊢
      -- `q = 10⁹ − 1` is odd, so the only way not to round up is to be below the tie
      have hDq : q = 999999999 → D * q = D * 999999999 := fun e => by rw [e]
      omega

end BreezyVerif.C47
