import BreezyVerif.Model.C13
import BreezyVerif.Lemmas.Lib.AList
/-! C13: the list file system seen as a function, `os.rename` onto a free target read both ways,
and the in-place change of the executable bit -/
namespace BreezyVerif.C13
open Lib

theorem pre_append (a r : Path) : a.isPrefixOf (a ++ r) = true := by
  simp [List.isPrefixOf_iff_prefix]

theorem pre_refl (a : Path) : a.isPrefixOf a = true := by simp

theorem pre_split {a q : Path} (h : a.isPrefixOf q = true) : a ++ q.drop a.length = q := by
  rw [List.isPrefixOf_iff_prefix] at h
  exact List.prefix_iff_eq_append.mp h

theorem drop_pre (b r : Path) : (b ++ r).drop b.length = r := by simp

theorem pre_trans {a b c : Path} (h1 : a.isPrefixOf b = true) (h2 : b.isPrefixOf c = true) :
    a.isPrefixOf c = true := by
  rw [List.isPrefixOf_iff_prefix] at *
  exact List.IsPrefix.trans h1 h2

theorem pre_comparable {a b q : Path} (h1 : a.isPrefixOf q = true) (h2 : b.isPrefixOf q = true) :
    a.isPrefixOf b = true ∨ b.isPrefixOf a = true := by
  simp only [List.isPrefixOf_iff_prefix] at *
  rcases Nat.le_total a.length b.length with h | h
  · exact Or.inl (List.prefix_of_prefix_length_le h1 h2 h)
  · exact Or.inr (List.prefix_of_prefix_length_le h2 h1 h)

theorem pre_dropLast {a b : Path} (h : a.isPrefixOf b.dropLast = true) : a.isPrefixOf b = true := by
  rw [List.isPrefixOf_iff_prefix] at *
  exact List.IsPrefix.trans h (List.dropLast_prefix b)

theorem not_pre_dropLast {b : Path} (h : b ≠ []) : b.isPrefixOf b.dropLast = false := by
  cases hh : b.isPrefixOf b.dropLast
  · rfl
  · rw [List.isPrefixOf_iff_prefix] at hh
    have := hh.length_le
    rw [List.length_dropLast] at this
    exact absurd this (Nat.not_le.mpr (Nat.sub_one_lt fun h0 => h (List.eq_nil_of_length_eq_zero h0)))

theorem not_pre_of_dropLast {a b : Path} (h : b.isPrefixOf a = false) : b.isPrefixOf a.dropLast = false :=
  Bool.eq_false_iff.mpr fun hh => Bool.eq_false_iff.mp h (pre_dropLast hh)

/-- function-level move: what a lookup sees after re-keying `a` to `b` -/
def moveF (f : Path → Option Node) (a b : Path) : Path → Option Node := fun q =>
  if b.isPrefixOf q then f (a ++ q.drop b.length)
  else if a.isPrefixOf q then none
  else f q

theorem moveF_inverse (f : Path → Option Node) (a b : Path)
    (hb : ∀ q, b.isPrefixOf q = true → f q = none) :
    moveF (moveF f a b) b a = f := by
  funext q
  unfold moveF
  by_cases ha : a.isPrefixOf q = true
  · simp only [ha, if_true, pre_append, drop_pre, pre_split ha]
  · by_cases hbq : b.isPrefixOf q = true
    · simp [ha, hbq, hb q hbq]
    · simp [ha, hbq]

theorem moveF_outside {f : Path → Option Node} {a b q : Path} (hb : b.isPrefixOf q = false)
    (ha : a.isPrefixOf q = false) : moveF f a b q = f q := by
  simp only [moveF, hb, ha, Bool.false_eq_true, if_false]

theorem get_eq_lookup (fs : FS) (q : Path) : get fs q = fs.lookup q :=
  (lookup_eq_find? fs q).symm

theorem get_cons (e : Path × Node) (fs : FS) (q : Path) :
    get (e :: fs) q = if e.1 = q then some e.2 else get fs q := by
  rw [get_eq_lookup, get_eq_lookup]; exact lookup_cons_ite e.1 e.2 fs q

theorem get_eq_none_of_not_key {fs : FS} {q : Path} (h : ∀ e ∈ fs, e.1 ≠ q) : get fs q = none := by
  rw [get_eq_lookup, lookup_eq_none_iff_keys]
  exact fun hm => by obtain ⟨e, he, rfl⟩ := List.mem_map.mp hm; exact h e he rfl

theorem keysUnder_false {fs : FS} {b : Path} (h : keysUnder fs b = false) :
    ∀ e ∈ fs, b.isPrefixOf e.1 = false :=
  fun e he => Bool.eq_false_iff.mpr (List.any_eq_false.mp h e he)

theorem get_none_of_keysUnder_false {fs : FS} {b : Path} (h : keysUnder fs b = false) :
    ∀ q, b.isPrefixOf q = true → get fs q = none := by
  intro q hq
  apply get_eq_none_of_not_key
  intro e he heq
  have := keysUnder_false h e he
  rw [heq, hq] at this
  exact absurd this (by simp)

theorem get_some_keysUnder {fs : FS} {q b : Path} {n : Node} (h : get fs q = some n)
    (hb : b.isPrefixOf q = true) : keysUnder fs b = true := by
  cases hk : keysUnder fs b
  · rw [get_none_of_keysUnder_false hk q hb] at h; cases h
  · rfl

/-- the bridge: a lookup in the re-keyed list is the function-level move -/
theorem get_moveL (fs : FS) (a b : Path) (hb : keysUnder fs b = false) (q : Path) :
    get (moveL fs a b) q = moveF (get fs) a b q := by
  induction fs with
  | nil => simp [moveL, moveF, get]
  | cons e fs ih =>
    have hbe : b.isPrefixOf e.1 = false := keysUnder_false hb e (by simp)
    have hb' : keysUnder fs b = false := by
      unfold keysUnder at *; simp only [List.any_cons, Bool.or_eq_false_iff] at hb; exact hb.2
    have ih := ih hb'
    have hm : moveL (e :: fs) a b =
        (if a.isPrefixOf e.1 then (b ++ e.1.drop a.length, e.2) else e) :: moveL fs a b := by
      simp [moveL]
    rw [hm, get_cons, ih]
    unfold moveF
    simp only [get_cons]
    by_cases hae : a.isPrefixOf e.1 = true
    · rw [if_pos hae]
      have he1 : a ++ e.1.drop a.length = e.1 := pre_split hae
      by_cases hq : b ++ e.1.drop a.length = q
      · subst hq
        rw [if_pos rfl, if_pos (pre_append _ _), drop_pre, he1, if_pos rfl]
      · rw [if_neg hq]
        by_cases hbq : b.isPrefixOf q = true
        · rw [if_pos hbq, if_pos hbq]
          have : e.1 ≠ a ++ q.drop b.length := by
            intro h
            apply hq
            have h2 : e.1.drop a.length = q.drop b.length := by rw [h]; simp
            rw [h2]; exact pre_split hbq
          rw [if_neg this]
        · rw [if_neg hbq, if_neg hbq]
          by_cases haq : a.isPrefixOf q = true
          · rw [if_pos haq, if_pos haq]
          · have : e.1 ≠ q := by intro h; rw [h] at hae; exact haq hae
            rw [if_neg haq, if_neg haq, if_neg this]
    · rw [if_neg hae]
      by_cases hq : e.1 = q
      · subst hq
        have hbe' : ¬ (b.isPrefixOf e.1 = true) := by simp [hbe]
        rw [if_pos rfl, if_neg hbe', if_neg hae, if_pos rfl]
      · rw [if_neg hq]
        by_cases hbq : b.isPrefixOf q = true
        · have : e.1 ≠ a ++ q.drop b.length := by
            intro h; apply hae; rw [h]; exact pre_append _ _
          rw [if_pos hbq, if_pos hbq, if_neg this]
        · rw [if_neg hbq, if_neg hbq]
          by_cases haq : a.isPrefixOf q = true
          · rw [if_pos haq, if_pos haq]
          · rw [if_neg haq, if_neg haq, if_neg hq]

theorem moveL_inverse (fs : FS) (a b : Path) (hb : keysUnder fs b = false) :
    moveL (moveL fs a b) b a = fs := by
  unfold moveL
  rw [List.map_map]
  conv => rhs; rw [← List.map_id fs]
  apply List.map_congr_left
  intro e he
  have hbe := keysUnder_false hb e he
  simp only [Function.comp]
  by_cases hae : a.isPrefixOf e.1 = true
  · simp only [hae, if_true, pre_append, drop_pre, pre_split hae, id]
  · simp [hae, hbe]

/-- a rename onto a free target, read backwards: it passed every check of
`os.rename` and re-keyed the source -/
theorem rename_ok_inv {fs fs' : FS} {a b : Path} (h : rename fs a b = .ok fs')
    (hk : keysUnder fs b = false) :
    a ≠ b ∧ a ≠ [] ∧ b ≠ [] ∧ get fs a.dropLast = some .dir ∧ get fs b.dropLast = some .dir ∧
      (∃ na, get fs a = some na) ∧ a.isPrefixOf b = false ∧ fs' = moveL fs a b := by
  have hgb : get fs b = none := get_none_of_keysUnder_false hk b (pre_refl b)
  unfold rename at h
  by_cases hroot : a = [] ∨ b = []
  · rw [if_pos hroot] at h; cases h
  rw [if_neg hroot] at h
  by_cases hpa : get fs a.dropLast ≠ some .dir
  · rw [if_pos hpa] at h; cases h
  rw [if_neg hpa] at h
  by_cases hpb : get fs b.dropLast ≠ some .dir
  · rw [if_pos hpb] at h; cases h
  rw [if_neg hpb] at h
  cases hna : get fs a with
  | none => rw [hna] at h; cases h
  | some na =>
    rw [hna] at h
    -- a source that exists is not a free target
    have hab : a ≠ b := fun e => by
      rw [e, hgb] at hna; cases hna
    simp only [if_neg hab] at h
    by_cases h1 : a.isPrefixOf b = true
    · simp only [if_pos h1] at h; cases h
    simp only [if_neg h1] at h
    by_cases h2 : b.isPrefixOf a = true
    · simp only [if_pos h2] at h; cases h
    simp only [if_neg h2, hgb, hk] at h
    cases h
    exact ⟨hab, fun e => hroot (.inl e), fun e => hroot (.inr e), Decidable.not_not.mp hpa,
      Decidable.not_not.mp hpb, ⟨na, rfl⟩, Bool.not_eq_true _ ▸ h1, rfl⟩

/-- …and forwards: when every check passes and the target is free, `os.rename`
re-keys the source -/
theorem rename_eq_moveL {fs : FS} {a b : Path} {na : Node} (ha : a ≠ []) (hb : b ≠ [])
    (hpa : get fs a.dropLast = some .dir) (hpb : get fs b.dropLast = some .dir)
    (hna : get fs a = some na) (hab : a ≠ b) (h1 : a.isPrefixOf b = false)
    (h2 : b.isPrefixOf a = false) (hk : keysUnder fs b = false) :
    rename fs a b = .ok (moveL fs a b) := by
  have hgb : get fs b = none := get_none_of_keysUnder_false hk b (pre_refl b)
  have hroot : ¬ (a = [] ∨ b = []) := fun h => h.elim ha hb
  simp only [rename, hroot, if_false, hpa, hpb, ne_eq, not_true_eq_false, hna, hab, h1, h2,
    Bool.false_eq_true, hgb, hk]

theorem get_filter (fs : FS) (keep : Path → Bool) (q : Path) :
    get (fs.filter fun e => keep e.1) q = if keep q then get fs q else none := by
  rw [get_eq_lookup, get_eq_lookup, lookup_filter_key]

theorem get_deleteAny (fs : FS) (p q : Path) :
    get (deleteAny fs p) q = if p.isPrefixOf q then none else get fs q := by
  rw [deleteAny, get_filter fs (fun k => !p.isPrefixOf k)]
  cases p.isPrefixOf q <;> rfl

theorem get_removeKey (fs : FS) (p q : Path) :
    get (removeKey fs p) q = if p = q then none else get fs q := by
  rw [get_eq_lookup, get_eq_lookup, removeKey, ← AList.erase, AList.lookup_erase]
  simp only [@eq_comm _ q p]

theorem get_deleteOne {fs fs' : FS} {p : Path} (h : deleteOne fs p = .ok fs') (q : Path) :
    get fs' q = if p = q then none else get fs q := by
  have : fs' = removeKey fs p := by
    unfold deleteOne at h
    split at h
    · cases h
    · split at h
      · cases h
      · cases h; rfl
    · cases h; rfl
  rw [this, get_removeKey]


theorem chmod_ok_inv {fs fs' : FS} {p : Path} {x old : Bool} (h : chmod fs p x = .ok (fs', old)) :
    ∃ c, get fs p = some (.file c old) ∧ fs' = setExec fs p x := by
  unfold chmod at h
  split at h
  · rename_i c o hg; cases h; exact ⟨c, hg, rfl⟩
  · cases h
  · cases h

theorem setExec_same {fs : FS} {p : Path} {c : String} {x : Bool}
    (h : get fs p = some (.file c x)) : setExec fs p x = fs := by
  induction fs with
  | nil => rfl
  | cons e fs ih =>
    rw [get_cons] at h
    unfold setExec
    split at h
    · obtain ⟨k, n⟩ := e
      cases h
      rw [if_pos ‹_›]
    · rw [if_neg ‹_›, ih h]

theorem get_setExec_self {fs : FS} {p : Path} {c : String} {old : Bool} (x : Bool)
    (h : get fs p = some (.file c old)) : get (setExec fs p x) p = some (.file c x) := by
  induction fs with
  | nil => cases h
  | cons e fs ih =>
    rw [get_cons] at h
    unfold setExec
    split at h
    · obtain ⟨k, n⟩ := e
      cases h
      rw [if_pos ‹_›, get_cons, if_pos ‹_›]
    · rw [if_neg ‹_›, get_cons, if_neg ‹_›, ih h]

theorem setExec_setExec {fs : FS} {p : Path} {c : String} {old : Bool} (x : Bool)
    (h : get fs p = some (.file c old)) : setExec (setExec fs p x) p old = fs := by
  induction fs with
  | nil => rfl
  | cons e fs ih =>
    rw [get_cons] at h
    split at h
    · obtain ⟨k, n⟩ := e
      cases h
      rw [setExec, if_pos ‹_›, setExec, if_pos ‹_›]
    · rw [setExec, if_neg ‹_›, setExec, if_neg ‹_›, ih h]

end BreezyVerif.C13
