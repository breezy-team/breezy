import BreezyVerif.Model.C28
/-!
C28 — specification vocabulary (balanced physical logs, invariants, log-free
"core" of a state) and the step lemmas behind the theorems of `Props/C28.lean`.
Every layer (CountedLock, LockableFiles, PackRepository over its fallbacks, BzrBranch
over its repository) is an instance of one shape, `Reentrant`; a layer's `step_spec` /
`step_reentrant` places it there, and the count, edge and refusal theorems are read off.  LockableFiles is
placed there by way of CountedLock, which it is but for its transaction slot (`LF.toCL`, `LF.step_toCL`).
-/
namespace BreezyVerif.C28

/-- `alternates held log`: walk a log of physical calls starting from `held`;
`none` as soon as a lock is acquired while held or released while not held,
otherwise whether the lock is held at the end. -/
def alternates : Bool → List Ev → Option Bool
  | b, [] => some b
  | b, e :: l =>
    if e = .rel then (if b then alternates false l else none)
    else (if b then none else alternates true l)

/-- the log is a prefix of `(acquire release)*` and ends with the lock `held` -/
def Balanced (log : List Ev) (held : Bool) : Prop := alternates false log = some held

theorem alternates_append (l₁ l₂ : List Ev) : ∀ b,
    alternates b (l₁ ++ l₂) = (alternates b l₁).bind (fun b' => alternates b' l₂) := by
  induction l₁ with
  | nil => intro b; simp [alternates]
  | cons e l ih =>
    intro b
    simp only [List.cons_append, alternates]
    split <;> split <;> simp [ih]

theorem Balanced.acquire {log : List Ev} (h : Balanced log false) (e : Ev) (he : e ≠ .rel) :
    Balanced (log ++ [e]) true := by
  unfold Balanced at *
  rw [alternates_append, h]
  simp [alternates, he]

theorem Balanced.release {log : List Ev} (h : Balanced log true) :
    Balanced (log ++ [.rel]) false := by
  unfold Balanced at *
  rw [alternates_append, h]
  simp [alternates]

theorem Balanced.nil : Balanced [] false := rfl

/-- a lock taken and given back within one call keeps a free lock balanced -/
theorem Balanced.acquire_release {log : List Ev} (h : Balanced log false) (e : Ev) (he : e ≠ .rel) :
    Balanced (log ++ [e] ++ [.rel]) false := (h.acquire e he).release

/-- What one call does to a reentrant lock: `n` is its nesting count, `res` what is observed of the lock
underneath, `acq` / `rel` how a first lock / a last unlock changes that, `unlock` says that the call is an `unlock`. -/
inductive Reentrant {σ α : Type} (n : σ → Nat) (res : σ → α) (acq rel : α → α → Prop) (unlock : Prop)
    (s s' : σ) : Res → Prop
  | refused (e : Err) : s' = s → (unlock → n s = 0) → Reentrant n res acq rel unlock s s' (.error e)
  | first (t : Option Nat) : ¬ unlock → n s = 0 → n s' = 1 → acq (res s) (res s') →
      Reentrant n res acq rel unlock s s' (.ok t)
  | nested (t : Option Nat) : ¬ unlock → 0 < n s → n s' = n s + 1 → res s' = res s →
      Reentrant n res acq rel unlock s s' (.ok t)
  | last (t : Option Nat) : unlock → n s = 1 → n s' = 0 → rel (res s) (res s') →
      Reentrant n res acq rel unlock s s' (.ok t)
  | inner (t : Option Nat) : unlock → 1 < n s → n s' + 1 = n s → res s' = res s →
      Reentrant n res acq rel unlock s s' (.ok t)

namespace Reentrant
variable {σ α : Type} {n : σ → Nat} {res : σ → α} {acq rel : α → α → Prop} {unlock : Prop} {s s' : σ} {r : Res}

theorem unchanged (h : Reentrant n res acq rel unlock s s' r) {e : Err} (hr : r = .error e) : s' = s := by
  subst hr
  cases h
  assumption

theorem unlock_granted (h : Reentrant n res acq rel unlock s s' r) (hu : unlock) (hn : 0 < n s) :
    ∃ t, r = .ok t := by
  cases h with
  | refused _ _ h0 => exact absurd (h0 hu) (Nat.ne_of_gt hn)
  | first t | nested t | last t | inner t => exact ⟨t, rfl⟩

theorem count [Decidable unlock] (h : Reentrant n res acq rel unlock s s' r) {t : Option Nat} (hr : r = .ok t) :
    if unlock then n s' + 1 = n s else n s' = n s + 1 := by
  subst hr
  cases h with
  | first _ hu h0 h1 _ => rw [if_neg hu, h0, h1]
  | nested _ hu _ h1 _ => rw [if_neg hu, h1]
  | last _ hu h1 h0 _ => rw [if_pos hu, h0, h1]
  | inner _ hu _ h1 _ => rw [if_pos hu, h1]

theorem edge (h : Reentrant n res acq rel unlock s s' r) :
    (n s = 0 → 0 < n s' → acq (res s) (res s')) ∧
    (0 < n s → n s' = 0 → rel (res s) (res s')) ∧
    ((n s = 0 ↔ n s' = 0) → res s' = res s) := by
  cases h with
  | refused _ e _ => subst e; exact ⟨by omega, by omega, fun _ => rfl⟩
  | first _ _ h0 h1 ha => exact ⟨fun _ _ => ha, by omega, by omega⟩
  | nested _ _ h0 h1 hl => exact ⟨by omega, by omega, fun _ => hl⟩
  | last _ _ h1 h0 hl => exact ⟨by omega, fun _ _ => hl, by omega⟩
  | inner _ _ h1 h0 hl => exact ⟨by omega, by omega, fun _ => hl⟩

theorem ok_edge [Decidable unlock] {t : Option Nat} (h : Reentrant n res acq rel unlock s s' (.ok t)) :
    (if unlock then n s' + 1 = n s else n s' = n s + 1) ∧
    (n s = 0 → acq (res s) (res s')) ∧ (n s' = 0 → rel (res s) (res s')) ∧
    (0 < n s → 0 < n s' → res s' = res s) := by
  refine ⟨h.count rfl, ?_⟩
  cases h with
  | first _ _ h0 h1 ha => exact ⟨fun _ => ha, by omega, by omega⟩
  | nested _ _ h0 h1 hl => exact ⟨by omega, by omega, fun _ _ => hl⟩
  | last _ _ h1 h0 hl => exact ⟨by omega, fun _ => hl, by omega⟩
  | inner _ _ h1 h0 hl => exact ⟨by omega, by omega, fun _ _ => hl⟩

/-- a layer seen through a map `f` into a layer that is `Reentrant` is so itself, `f` being injective where
a refusal needs it -/
theorem comap {τ : Type} (f : τ → σ) {t t' : τ} (hinj : f t' = f t → t' = t)
    (h : Reentrant n res acq rel unlock (f t) (f t') r) :
    Reentrant (fun t => n (f t)) (fun t => res (f t)) acq rel unlock t t' r := by
  cases h with
  | refused e h1 h2 => exact .refused e (hinj h1) h2
  | first t a b c d => exact .first t a b c d
  | nested t a b c d => exact .nested t a b c d
  | last t a b c d => exact .last t a b c d
  | inner t a b c d => exact .inner t a b c d

end Reentrant

/-- a log grown by one acquiring call / by the releasing call -/
def Acquired (l l' : List Ev) : Prop := ∃ e, e ≠ Ev.rel ∧ l' = l ++ [e]
def Released (l l' : List Ev) : Prop := l' = l ++ [.rel]

/-- CountedLock: mode, count and the physical lock agree, the log is balanced -/
structure CL.Inv (s : CL) : Prop where
  mode_held : s.mode = s.phys.held
  mode_count : s.mode.isSome = true ↔ 0 < s.count
  bal : Balanced s.phys.log s.phys.held.isSome

/-- LockableFiles: additionally a transaction of the lock's mode is open -/
structure LF.Inv (s : LF) : Prop where
  mode_held : s.mode = s.phys.held
  txn_mode : s.txn = s.mode
  mode_count : s.mode.isSome = true ↔ 0 < s.count
  bal : Balanced s.phys.log s.phys.held.isSome

/-- nesting depth of a PackRepository -/
def Repo.depth (s : Repo) : Nat := s.wcount + s.cf.count

/-- PackRepository: write count and control-files read count exclude each
other, the fallbacks are locked once exactly while the repository is locked -/
structure Repo.Inv (s : Repo) : Prop where
  cf : s.cf.Inv
  excl : s.wcount = 0 ∨ s.cf.count = 0
  fb_pos : 0 < s.depth → s.fb = 1
  fb_zero : s.depth = 0 → s.fb = 0
  fb_bal_pos : 0 < s.depth → Balanced s.fbLog true
  fb_bal_zero : s.depth = 0 → Balanced s.fbLog false

structure Branch.Inv (s : Branch) : Prop where
  cf : s.cf.Inv
  repo : s.repo.Inv

/-- the branch holds its repository while it is locked (violated only when a
caller unlocks the repository behind the branch's back) -/
def Branch.Consistent (s : Branch) : Prop := 0 < s.cf.count → 0 < s.repo.depth

theorem isSome_eq_decide {m : Option Mode} {c : Nat} (h : m.isSome = true ↔ 0 < c) :
    m.isSome = decide (0 < c) := by
  cases hm : m.isSome with
  | true => exact (decide_eq_true (h.mp hm)).symm
  | false => exact (decide_eq_false fun hc => by rw [h.mpr hc] at hm; cases hm).symm

theorem LF.Inv.held_iff {s : LF} (h : s.Inv) : s.phys.held.isSome = true ↔ 0 < s.count :=
  h.mode_held ▸ h.mode_count

theorem Repo.Inv.fallbacks {s : Repo} (h : s.Inv) :
    (0 < s.depth → s.fb = 1 ∧ Balanced s.fbLog true) ∧ (s.depth = 0 → s.fb = 0 ∧ Balanced s.fbLog false) :=
  ⟨fun hd => ⟨h.fb_pos hd, h.fb_bal_pos hd⟩, fun hd => ⟨h.fb_zero hd, h.fb_bal_zero hd⟩⟩

/-- `viaTok` is dead data while the lock is not held (`lock_write` assigns it on every
acquisition, `unlock` is its only reader), so the core normalises it then -/
def Phys.core (p : Phys) : Phys := { p with log := [], viaTok := p.held.isSome && p.viaTok }
def LF.core (s : LF) : LF := { s with phys := s.phys.core }
def Repo.core (s : Repo) : Repo := { s with cf := s.cf.core, fbLog := [] }
def Branch.core (s : Branch) : Branch := { cf := s.cf.core, repo := s.repo.core }

theorem CL.inv_init (ext : Bool) (rb : Bool := false) : (CL.init ext rb).Inv :=
  ⟨rfl, by simp [CL.init], Balanced.nil⟩

theorem Phys.lockWrite_ok {p p' : Phys} {tok t : Option Nat} (h : p.lockWrite tok = .ok (p', t)) :
    p'.held = some .w ∧ ∃ e, e ≠ Ev.rel ∧ p'.log = p.log ++ [e] := by
  unfold Phys.lockWrite at h
  split at h
  · split at h
    · injection h with h; injection h with h1 h2; subst h1
      exact ⟨rfl, .acqT, by decide, rfl⟩
    · cases h
  · split at h
    · cases h
    · injection h with h; injection h with h1 h2; subst h1
      exact ⟨rfl, .acqW, by decide, rfl⟩

theorem Phys.lockRead_ok {p p' : Phys} (h : p.lockRead = .ok p') :
    p' = { p with held := some .r, log := p.log ++ [.acqR] } ∧ p.rblock = false := by
  unfold Phys.lockRead at h
  split at h
  · cases h
  · next hb => injection h with h; exact ⟨h.symm, by simpa using hb⟩

theorem Phys.lockRead_err {p : Phys} {e : Err} (h : p.lockRead = .error e) :
    e = .contention ∧ p.rblock = true := by
  unfold Phys.lockRead at h
  split at h
  · next hb => injection h with h; exact ⟨h.symm, hb⟩
  · cases h

theorem CL.step_spec {s : CL} (h : s.Inv) (o : Op) :
    (s.step o).1.Inv ∧
    Reentrant CL.count (fun s => s.phys.log) Acquired Released (o = .unlock) s (s.step o).1 (s.step o).2 := by
  obtain ⟨h1, h2, h3⟩ := h
  cases o with
  | lockRead =>
    simp only [CL.step, CL.lockRead]
    split
    · next hm =>
      exact ⟨⟨h1, ⟨fun _ => Nat.succ_pos _, fun _ => hm⟩, h3⟩, .nested _ nofun (h2.mp hm) rfl rfl⟩
    · next hm =>
      split
      · exact ⟨⟨h1, h2, h3⟩, .refused _ rfl nofun⟩
      · next p hp =>
        obtain ⟨rfl, _⟩ := Phys.lockRead_ok hp
        have hh : s.phys.held = none := by rw [← h1]; simpa using hm
        rw [hh] at h3
        exact ⟨⟨rfl, ⟨fun _ => Nat.one_pos, fun _ => rfl⟩, h3.acquire _ nofun⟩,
          .first _ nofun (Nat.eq_zero_of_not_pos fun h => hm (h2.mpr h)) rfl ⟨.acqR, nofun, rfl⟩⟩
  | lockWrite tok =>
    simp only [CL.step, CL.lockWrite]
    split
    · next hc =>
      split
      · exact ⟨⟨h1, h2, h3⟩, .refused _ rfl nofun⟩
      · next p t hp =>
        obtain ⟨hw, e, he, hl⟩ := Phys.lockWrite_ok hp
        have hm : s.mode.isSome = false := Bool.eq_false_iff.mpr fun hm => by have := h2.mp hm; omega
        rw [← h1, hm] at h3
        refine ⟨⟨hw.symm, ⟨fun _ => Nat.succ_pos _, fun _ => rfl⟩, ?_⟩, .first _ nofun hc (by rw [hc]) ⟨e, he, hl⟩⟩
        show Balanced p.log p.held.isSome
        rw [hw, hl]
        exact h3.acquire e he
    · next hc =>
      split
      · exact ⟨⟨h1, h2, h3⟩, .refused _ rfl nofun⟩
      · split
        · exact ⟨⟨h1, h2, h3⟩, .refused _ rfl nofun⟩
        · exact ⟨⟨h1, ⟨fun _ => Nat.succ_pos _, fun _ => h2.mpr (Nat.pos_of_ne_zero hc)⟩, h3⟩,
            .nested _ nofun (Nat.pos_of_ne_zero hc) rfl rfl⟩
  | unlock =>
    simp only [CL.step, CL.unlock]
    split
    · next hc => exact ⟨⟨h1, h2, h3⟩, .refused _ rfl fun _ => hc⟩
    · next hc =>
      have hm : s.mode.isSome = true := h2.mpr (Nat.pos_of_ne_zero hc)
      split
      · next hc1 =>
        rw [← h1, hm] at h3
        exact ⟨⟨rfl, ⟨nofun, fun h => absurd h (Nat.lt_irrefl 0)⟩, h3.release⟩, .last _ trivial hc1 rfl rfl⟩
      · next hc1 =>
        exact ⟨⟨h1, ⟨fun _ => by show 0 < s.count - 1; omega, fun _ => hm⟩, h3⟩,
          .inner _ trivial (by omega) (Nat.sub_add_cancel (Nat.pos_of_ne_zero hc)) rfl⟩

theorem CL.inv_step {s : CL} (h : s.Inv) (o : Op) : (s.step o).1.Inv := (CL.step_spec h o).1

theorem CL.step_reentrant {s : CL} (h : s.Inv) (o : Op) :
    Reentrant CL.count (fun s => s.phys.log) Acquired Released (o = .unlock) s (s.step o).1 (s.step o).2 :=
  (CL.step_spec h o).2

theorem CL.inv_run {s : CL} (h : s.Inv) (ops : List Op) : (s.run ops).Inv :=
  List.foldlRecOn (motive := CL.Inv) ops _ h fun _ h o _ => CL.inv_step h o

theorem LF.inv_init (ext : Bool) (rb : Bool := false) : (LF.init ext rb).Inv :=
  ⟨rfl, rfl, by simp [LF.init], Balanced.nil⟩

/-- a `LockableFiles` without its transaction slot is a `CountedLock` -/
def LF.toCL (s : LF) : CL := { mode := s.mode, count := s.count, token := s.tokenFromLock, phys := s.phys }

/-- Under the invariant (a transaction of the lock's mode is open exactly while the lock is held)
`_set_*_transaction` and `_finish_transaction` never raise, and `LockableFiles` steps as `CountedLock` does. -/
theorem LF.step_toCL {s : LF} (h : s.Inv) (o : Op) :
    (s.step o).1.toCL = (s.toCL.step o).1 ∧ (s.step o).2 = (s.toCL.step o).2 ∧
      (s.step o).1.txn = (s.step o).1.mode := by
  obtain ⟨mode, count, txn, tk, phys⟩ := s
  obtain ⟨h1, ht, h2, h3⟩ := h
  simp only at h1 ht h2 h3
  subst ht
  cases txn with
  | none =>
    have hc : count = 0 := by simpa using h2
    subst hc
    cases o with
    | lockRead => simp only [LF.step, CL.step, LF.lockRead, CL.lockRead, LF.toCL]; cases phys.lockRead <;> simp
    | lockWrite tok =>
      simp only [LF.step, CL.step, LF.lockWrite, CL.lockWrite, LF.toCL]; cases phys.lockWrite tok <;> simp
    | unlock => simp [LF.step, CL.step, LF.unlock, CL.unlock, LF.toCL]
  | some m =>
    have hc : 0 < count := by simpa using h2
    have hc0 : count ≠ 0 := by omega
    cases o with
    | lockRead => simp [LF.step, CL.step, LF.lockRead, CL.lockRead, LF.toCL]
    | lockWrite tok =>
      simp only [LF.step, CL.step, LF.lockWrite, CL.lockWrite, LF.toCL, LF.txnWriteable]
      cases m <;> simp [hc0] <;> cases phys.validate tok <;> simp
    | unlock =>
      simp only [LF.step, CL.step, LF.unlock, CL.unlock, LF.toCL]
      by_cases h1 : count = 1
      · subst h1; simp
      · have : 1 < count := by omega
        simp [hc0, h1, this]

theorem LF.step_spec {s : LF} (h : s.Inv) (o : Op) :
    (s.step o).1.Inv ∧
    Reentrant LF.count (fun s => s.phys.log) Acquired Released (o = .unlock) s (s.step o).1 (s.step o).2 := by
  obtain ⟨e1, e2, e3⟩ := LF.step_toCL h o
  obtain ⟨⟨a, b, c⟩, hre⟩ := CL.step_spec (s := s.toCL) ⟨h.mode_held, h.mode_count, h.bal⟩ o
  rw [← e1, ← e2] at hre
  rw [← e1] at a b c
  refine ⟨⟨a, e3, b, c⟩, hre.comap LF.toCL fun he => ?_⟩
  -- `toCL` forgets only the transaction slot, which is the mode on both sides
  have := h.txn_mode
  generalize (s.step o).1 = s' at he e3
  cases s; cases s'
  simp only [LF.toCL, CL.mk.injEq] at he
  simp_all

theorem LF.inv_step {s : LF} (h : s.Inv) (o : Op) : (s.step o).1.Inv := (LF.step_spec h o).1

theorem LF.step_reentrant {s : LF} (h : s.Inv) (o : Op) :
    Reentrant LF.count (fun s => s.phys.log) Acquired Released (o = .unlock) s (s.step o).1 (s.step o).2 :=
  (LF.step_spec h o).2

theorem LF.inv_run {s : LF} (h : s.Inv) (ops : List Op) : (s.run ops).Inv :=
  List.foldlRecOn (motive := LF.Inv) ops _ h fun _ h o _ => LF.inv_step h o

theorem LF.lockRead_nested {s : LF} (h : s.Inv) (hc : 0 < s.count) :
    s.lockRead = ({ s with count := s.count + 1 }, .ok none) := by
  unfold LF.lockRead
  rw [if_pos (h.mode_count.mpr hc)]

theorem LF.lockRead_ok_none {s s' : LF} {t : Option Nat} (e : s.lockRead = (s', .ok t)) : t = none := by
  unfold LF.lockRead at e
  split at e
  · cases e; rfl
  · split at e
    · cases e
    · simp only at e
      split at e <;> cases e
      rfl

theorem LF.unlock_result (s : LF) : s.unlock.2 = .ok none ∨ s.unlock.2 = .error .notHeld := by
  unfold LF.unlock
  split
  · exact .inr rfl
  · split
    · exact .inl rfl
    · split <;> exact .inl rfl

/-- `lock_read`: refused (only on the first lock) with nothing changed, or granted -/
theorem LF.lockRead_spec {s : LF} (h : s.Inv) :
    (s.count = 0 ∧ ∃ e, s.lockRead = (s, .error e)) ∨
    (∃ s', s.lockRead = (s', .ok none) ∧ s'.count = s.count + 1 ∧ s'.Inv) := by
  obtain ⟨hi, hr⟩ := LF.step_spec h .lockRead
  simp only [LF.step] at hi hr
  by_cases hc : 0 < s.count
  · rw [LF.lockRead_nested h hc] at hi ⊢
    exact .inr ⟨_, rfl, rfl, hi⟩
  · have hv := @LF.lockRead_ok_none s
    generalize s.lockRead = x at hi hr hv ⊢
    obtain ⟨s', r⟩ := x
    cases hr with
    | refused e hs => cases hs; exact .inl ⟨by omega, e, rfl⟩
    | first t _ h0 h1 => cases hv rfl; exact .inr ⟨s', rfl, by rw [h1, h0], hi⟩
    | nested _ _ hp => exact absurd hp hc
    | last _ hu => exact absurd hu nofun
    | inner _ hu => exact absurd hu nofun

theorem LF.unlock_spec {s : LF} (h : s.Inv) :
    (s.count = 0 ∧ s.unlock = (s, .error .notHeld)) ∨
    (0 < s.count ∧ ∃ s', s.unlock = (s', .ok none) ∧ s'.count + 1 = s.count ∧ s'.Inv) := by
  obtain ⟨hi, hr⟩ := LF.step_spec h .unlock
  have hv := LF.unlock_result s
  simp only [LF.step] at hi hr
  generalize s.unlock = x at hi hr hv ⊢
  obtain ⟨s', r⟩ := x
  cases hr with
  | refused e hs h0 =>
    rcases hv with hv | hv <;> cases hv
    cases hs
    exact .inl ⟨h0 trivial, rfl⟩
  | first _ hu => exact absurd trivial hu
  | nested _ hu => exact absurd trivial hu
  | last t _ h1 h0 =>
    rcases hv with hv | hv <;> cases hv
    exact .inr ⟨by omega, s', rfl, by rw [h0, h1], hi⟩
  | inner t _ h1 h0 =>
    rcases hv with hv | hv <;> cases hv
    exact .inr ⟨by omega, s', rfl, h0, hi⟩

theorem Repo.isLocked_iff (s : Repo) : s.isLocked = true ↔ 0 < s.depth := by
  simp [Repo.isLocked, Repo.depth, LF.isLocked]; omega

theorem Repo.lockWrite_spec (s : Repo) (tok : Option Nat) :
    (s.wcount = 0 ∧ 0 < s.cf.count ∧ s.lockWrite tok = (s, .error .readOnly)) ∨
    (0 < s.wcount ∧ s.lockWrite tok = ({ s with wcount := s.wcount + 1 }, .ok none)) ∨
    (s.depth = 0 ∧ s.lockWrite tok =
      ({ s with wcount := 1, fb := s.fb + 1, fbLog := s.fbLog ++ [.acqR] }, .ok none)) := by
  have hl := Repo.isLocked_iff s
  unfold Repo.depth at hl ⊢
  unfold Repo.lockWrite Repo.lockFallbacks
  by_cases hw : s.wcount = 0
  · by_cases hc : 0 < s.cf.count
    · left
      have : s.isLocked = true := hl.mpr (by omega)
      exact ⟨hw, hc, by simp [hw, this]⟩
    · right; right
      have : s.isLocked = false := by
        cases hb : s.isLocked with
        | false => rfl
        | true => have := hl.mp hb; omega
      exact ⟨by omega, by simp [hw, this]⟩
  · right; left
    have : s.isLocked = true := hl.mpr (by omega)
    exact ⟨by omega, by simp [hw, this]⟩

theorem Repo.lockRead_spec {s : Repo} (h : s.Inv) :
    (0 < s.wcount ∧ s.lockRead = ({ s with wcount := s.wcount + 1 }, .ok none)) ∨
    (s.depth = 0 ∧ ∃ e, s.lockRead = (s, .error e)) ∨
    (s.wcount = 0 ∧ ∃ cf', s.cf.lockRead = (cf', .ok none) ∧ cf'.count = s.cf.count + 1 ∧ cf'.Inv ∧
      s.lockRead = (if 0 < s.cf.count then { s with cf := cf' }
        else { s with cf := cf', fb := s.fb + 1, fbLog := s.fbLog ++ [.acqR] }, .ok none)) := by
  have hl := Repo.isLocked_iff s
  unfold Repo.depth at hl ⊢
  unfold Repo.lockRead Repo.lockFallbacks
  by_cases hw : s.wcount = 0
  · right
    rcases LF.lockRead_spec h.cf with ⟨hc, e, he⟩ | ⟨cf', h1, h2, h3⟩
    · left
      refine ⟨by omega, e, ?_⟩
      simp only [hw, ne_eq, not_true_eq_false, if_false, he]
      cases s
      simp_all
    · right
      refine ⟨hw, cf', h1, h2, h3, ?_⟩
      by_cases hc : 0 < s.cf.count
      · have : s.isLocked = true := hl.mpr (by omega)
        simp [hw, h1, this, hc]
      · have : s.isLocked = false := by
          cases hb : s.isLocked with
          | false => rfl
          | true => have := hl.mp hb; omega
        simp [hw, h1, this, hc]
  · left
    have : s.isLocked = true := hl.mpr (by omega)
    exact ⟨by omega, by simp [hw, this]⟩

theorem Repo.unlock_spec {s : Repo} (h : s.Inv) :
    (s.depth = 0 ∧ s.unlock = (s, .error .notHeld)) ∨
    (0 < s.wcount ∧ s.unlock =
      (if 1 < s.wcount then { s with wcount := s.wcount - 1 }
       else { s with wcount := 0, fb := s.fb - 1, fbLog := s.fbLog ++ [.rel] }, .ok none)) ∨
    (s.wcount = 0 ∧ 0 < s.cf.count ∧ ∃ cf', s.cf.unlock = (cf', .ok none) ∧
      cf'.count + 1 = s.cf.count ∧ cf'.Inv ∧
      s.unlock = (if 1 < s.cf.count then { s with cf := cf' }
        else { s with cf := cf', fb := s.fb - 1, fbLog := s.fbLog ++ [.rel] }, .ok none)) := by
  unfold Repo.depth
  by_cases hw : s.wcount = 0
  · rcases LF.unlock_spec h.cf with ⟨hc, hu⟩ | ⟨hc, cf', hu, hcc, hi⟩
    · left
      refine ⟨by omega, ?_⟩
      simp only [Repo.unlock, hw, hu]
      cases s
      simp_all
    · right; right
      refine ⟨hw, hc, cf', hu, hcc, hi, ?_⟩
      by_cases h1 : 1 < s.cf.count
      · have : 1 ≤ cf'.count := by omega
        simp [Repo.unlock, hw, hu, Repo.isLocked, LF.isLocked, h1, this]
      · have : ¬ 1 ≤ cf'.count := by omega
        simp [Repo.unlock, hw, hu, Repo.isLocked, LF.isLocked, h1, this]
  · right; left
    refine ⟨by omega, ?_⟩
    have hc : s.cf.count = 0 := by
      rcases h.excl with h | h
      · exact absurd h hw
      · exact h
    by_cases h1 : 1 < s.wcount
    · have : ¬ s.wcount - 1 = 0 := by omega
      simp [Repo.unlock, hw, Repo.isLocked, LF.isLocked, h1, this]
    · have : s.wcount - 1 = 0 := by omega
      simp [Repo.unlock, hw, Repo.isLocked, LF.isLocked, h1, this, hc]

/-- the fallback repositories (lock depth, call log) locked once more / unlocked once -/
def FbLocked (a b : Nat × List Ev) : Prop := b.1 = a.1 + 1 ∧ b.2 = a.2 ++ [.acqR]
def FbUnlocked (a b : Nat × List Ev) : Prop := b.1 = a.1 - 1 ∧ b.2 = a.2 ++ [.rel]

theorem Repo.step_spec {s : Repo} (h : s.Inv) (o : Op) :
    (s.step o).1.cf.Inv ∧ ((s.step o).1.wcount = 0 ∨ (s.step o).1.cf.count = 0) ∧
    Reentrant Repo.depth (fun s => (s.fb, s.fbLog)) FbLocked FbUnlocked (o = .unlock) s (s.step o).1
      (s.step o).2 := by
  have hex := h.excl
  cases o with
  | lockWrite tok =>
    simp only [Repo.step]
    rcases Repo.lockWrite_spec s tok with ⟨_, _, e⟩ | ⟨hw, e⟩ | ⟨hd, e⟩ <;> rw [e]
    · exact ⟨h.cf, hex, .refused _ rfl nofun⟩
    · have hc : s.cf.count = 0 := by omega
      exact ⟨h.cf, .inr hc, .nested _ nofun (Nat.add_pos_left hw _) (Nat.add_right_comm ..) rfl⟩
    · unfold Repo.depth at hd
      have hc : s.cf.count = 0 := by omega
      exact ⟨h.cf, .inr hc, .first _ nofun hd (by simp only [Repo.depth, hc]) ⟨rfl, rfl⟩⟩
  | lockRead =>
    simp only [Repo.step]
    rcases Repo.lockRead_spec h with ⟨hw, e⟩ | ⟨_, _, e⟩ | ⟨hw, cf', _, hcc, hi, e⟩ <;> rw [e]
    · have hc : s.cf.count = 0 := by omega
      exact ⟨h.cf, .inr hc, .nested _ nofun (Nat.add_pos_left hw _) (Nat.add_right_comm ..) rfl⟩
    · exact ⟨h.cf, hex, .refused _ rfl nofun⟩
    · split
      · next hc =>
        exact ⟨hi, .inl hw, .nested _ nofun (Nat.add_pos_right _ hc) (by simp only [Repo.depth, hcc]; rfl) rfl⟩
      · next hc =>
        exact ⟨hi, .inl hw, .first _ nofun (by simp only [Repo.depth]; omega)
          (by simp only [Repo.depth]; omega) ⟨rfl, rfl⟩⟩
  | unlock =>
    simp only [Repo.step]
    rcases Repo.unlock_spec h with ⟨hd, e⟩ | ⟨hw, e⟩ | ⟨hw, hc, cf', _, hcc, hi, e⟩ <;> rw [e]
    · exact ⟨h.cf, hex, .refused _ rfl fun _ => hd⟩
    · have hc : s.cf.count = 0 := by omega
      split
      · next h1 =>
        exact ⟨h.cf, .inr hc, .inner _ trivial (by simp only [Repo.depth]; omega)
          (by simp only [Repo.depth]; omega) rfl⟩
      · next h1 =>
        exact ⟨h.cf, .inl rfl, .last _ trivial (by simp only [Repo.depth]; omega)
          (by simp only [Repo.depth]; omega) ⟨rfl, rfl⟩⟩
    · split
      · next h1 =>
        exact ⟨hi, .inl hw, .inner _ trivial (by simp only [Repo.depth]; omega)
          (by simp only [Repo.depth]; omega) rfl⟩
      · next h1 =>
        exact ⟨hi, .inl hw, .last _ trivial (by simp only [Repo.depth]; omega)
          (by simp only [Repo.depth]; omega) ⟨rfl, rfl⟩⟩

theorem Repo.step_reentrant {s : Repo} (h : s.Inv) (o : Op) :
    Reentrant Repo.depth (fun s => (s.fb, s.fbLog)) FbLocked FbUnlocked (o = .unlock) s (s.step o).1
      (s.step o).2 := (Repo.step_spec h o).2.2

/-- the fallbacks are locked exactly while the repository is: they follow its edges -/
theorem Repo.Inv.of_reentrant {s s' : Repo} {unlock : Prop} {r : Res} (h : s.Inv) (hcf : s'.cf.Inv)
    (hex : s'.wcount = 0 ∨ s'.cf.count = 0)
    (hr : Reentrant Repo.depth (fun s => (s.fb, s.fbLog)) FbLocked FbUnlocked unlock s s' r) : s'.Inv := by
  cases hr with
  | refused _ e _ => exact e ▸ h
  | first _ _ h0 h1 ha =>
    obtain ⟨hfb, hlog⟩ : s'.fb = s.fb + 1 ∧ s'.fbLog = s.fbLog ++ [Ev.acqR] := ha
    exact ⟨hcf, hex, fun _ => by rw [hfb, h.fb_zero h0], by omega,
      fun _ => hlog ▸ (h.fb_bal_zero h0).acquire _ nofun, by omega⟩
  | nested _ _ h0 h1 hl =>
    obtain ⟨hfb, hlog⟩ := Prod.mk.inj hl
    exact ⟨hcf, hex, fun _ => hfb ▸ h.fb_pos h0, by omega, fun _ => hlog ▸ h.fb_bal_pos h0, by omega⟩
  | last _ _ h1 h0 ha =>
    obtain ⟨hfb, hlog⟩ : s'.fb = s.fb - 1 ∧ s'.fbLog = s.fbLog ++ [Ev.rel] := ha
    have hp : 0 < s.depth := by omega
    exact ⟨hcf, hex, by omega, fun _ => by rw [hfb, h.fb_pos hp], by omega,
      fun _ => hlog ▸ (h.fb_bal_pos hp).release⟩
  | inner _ _ h1 h0 hl =>
    obtain ⟨hfb, hlog⟩ := Prod.mk.inj hl
    have hp : 0 < s.depth := by omega
    have hp' : 0 < s'.depth := by omega
    exact ⟨hcf, hex, fun _ => hfb ▸ h.fb_pos hp, by omega, fun _ => hlog ▸ h.fb_bal_pos hp, by omega⟩

theorem Repo.inv_step {s : Repo} (h : s.Inv) (o : Op) : (s.step o).1.Inv :=
  have ⟨hcf, hex, hr⟩ := Repo.step_spec h o
  h.of_reentrant hcf hex hr

theorem Repo.inv_init (ext : Bool) (rb : Bool := false) : (Repo.init ext rb).Inv :=
  ⟨LF.inv_init ext rb, Or.inl rfl, by intro h; simp [Repo.init, Repo.depth, LF.init] at h, fun _ => rfl,
   by intro h; simp [Repo.init, Repo.depth, LF.init] at h, fun _ => Balanced.nil⟩

theorem Repo.inv_run {s : Repo} (h : s.Inv) (ops : List Op) : (s.run ops).Inv :=
  List.foldlRecOn (motive := Repo.Inv) ops _ h fun _ h o _ => Repo.inv_step h o

/-- `lock_write` on unlocked control files: refused by the physical lock with
nothing changed, or granted with count 1 -/
theorem LF.lockWrite_unlocked {s : LF} (h : s.Inv) (hc : s.count = 0) (tok : Option Nat) :
    (∃ e, s.lockWrite tok = (s, .error e)) ∨ (∃ s' t, s.lockWrite tok = (s', .ok t) ∧ s'.count = 1) := by
  obtain ⟨h1, ht, h2, h3⟩ := h
  have hmn : s.mode = none := by
    cases hm : s.mode with
    | none => rfl
    | some m => have := h2.mp (by simp [hm]); omega
  have htn : s.txn = none := by rw [ht]; exact hmn
  unfold LF.lockWrite
  simp only [hmn, Option.isSome_none, Bool.false_eq_true, if_false]
  cases hp : s.phys.lockWrite tok with
  | error e => left; exact ⟨e, rfl⟩
  | ok r =>
    obtain ⟨p, t⟩ := r
    right
    simp only [htn, Option.isSome_none, Bool.false_eq_true, if_false]
    exact ⟨_, t, rfl, rfl⟩

theorem Repo.unlock_nested_write {s : Repo} (h : s.Inv) (hw : 0 < s.wcount) :
    ({ s with wcount := s.wcount + 1 } : Repo).unlock = (s, .ok none) := by
  have hc : s.cf.count = 0 := by have := h.excl; omega
  have hne : s.wcount ≠ 0 := by omega
  simp [Repo.unlock, Repo.isLocked, hne]

/-- taking a repository lock and giving it back restores the lock state -/
theorem Repo.lockWrite_unlock_core {s : Repo} (h : s.Inv) {r : Repo} {t : Option Nat}
    (e : s.lockWrite none = (r, .ok t)) : ∃ r', r.unlock = (r', .ok none) ∧ r'.core = s.core := by
  have hr : r.Inv := by have : (s.lockWrite none).1.Inv := Repo.inv_step h (.lockWrite none); rwa [e] at this
  rcases Repo.lockWrite_spec s none with ⟨_, _, e'⟩ | ⟨hw, e'⟩ | ⟨hd, e'⟩
  · rw [e'] at e; cases e
  · rw [e'] at e; injection e with e1 _; subst e1
    exact ⟨s, Repo.unlock_nested_write h hw, rfl⟩
  · rw [e'] at e; injection e with e1 _; subst e1
    simp only [Repo.depth] at hd
    rcases Repo.unlock_spec hr with ⟨hd', _⟩ | ⟨_, eu⟩ | ⟨hw', _⟩
    · simp only [Repo.depth] at hd'; omega
    · refine ⟨_, eu, ?_⟩
      simp only [Nat.lt_irrefl, if_false]
      simp [Repo.core]; omega
    · simp only at hw'; omega

theorem Phys.lockRead_unlock_core {p p' : Phys} (h : p.lockRead = .ok p') (hh : p.held = none) :
    p'.unlock.core = p.core := by
  obtain ⟨rfl, _⟩ := Phys.lockRead_ok h
  cases p
  simp_all [Phys.unlock, Phys.core]

theorem Phys.lockWrite_unlock_core {p p' : Phys} {tok t : Option Nat} (h : p.lockWrite tok = .ok (p', t))
    (hh : p.held = none) : p'.unlock.core = p.core := by
  unfold Phys.lockWrite at h
  cases tok with
  | some tk =>
    simp only at h
    split at h
    · cases h; cases p; simp_all [Phys.unlock, Phys.core]
    · cases h
  | none =>
    simp only at h
    split at h
    · cases h
    · cases h; cases p; simp_all [Phys.unlock, Phys.core]

theorem LF.unlock_nested {s : LF} (h : s.Inv) (hc : 0 < s.count) :
    ({ s with count := s.count + 1 } : LF).unlock = (s, .ok none) := by
  have hm : s.mode.isNone = false := by rw [← Option.not_isSome, h.mode_count.mpr hc]; rfl
  simp only [LF.unlock, hm, Bool.false_eq_true, if_false, show s.count + 1 > 1 by omega, if_true]
  cases s; simp

theorem LF.unlock_first {s : LF} (h : s.Inv) (hc : s.count = 0) {p : Phys} (hp : p.unlock.core = s.phys.core)
    (m : Mode) (tfl : Option Nat) :
    ∃ s'', ({ s with phys := p, mode := some m, count := 1, txn := some m, tokenFromLock := tfl } : LF).unlock
        = (s'', .ok none) ∧ s''.core = { s.core with tokenFromLock := tfl } := by
  have hmn : s.mode = none := by
    cases hm : s.mode with
    | none => rfl
    | some _ => have := h.mode_count.mp (by rw [hm]; rfl); omega
  have htn : s.txn = none := h.txn_mode.trans hmn
  refine ⟨{ s with txn := none, phys := p.unlock, count := 0, mode := none, tokenFromLock := tfl },
    by simp [LF.unlock], ?_⟩
  simp only [LF.core, hp]
  cases s
  simp_all

/-- taking a read lock on control files and giving it back restores the lock state -/
theorem LF.lockRead_unlock_core {s s' : LF} (h : s.Inv) {t : Option Nat}
    (e : s.lockRead = (s', .ok t)) : ∃ s'', s'.unlock = (s'', .ok none) ∧ s''.core = s.core := by
  by_cases hc : 0 < s.count
  · rw [LF.lockRead_nested h hc] at e
    cases e
    exact ⟨s, LF.unlock_nested h hc, rfl⟩
  · have hm : ¬ s.mode.isSome = true := fun hm => hc (h.mode_count.mp hm)
    have hh : s.phys.held = none := by rw [← h.mode_held]; simpa using hm
    have htn : s.txn.isSome = false := by rw [h.txn_mode]; exact Bool.eq_false_iff.mpr hm
    unfold LF.lockRead at e
    rw [if_neg hm] at e
    split at e
    · cases e
    · next p hp =>
      simp only [htn, Bool.false_eq_true, if_false] at e
      cases e
      obtain ⟨s'', eu, hcore⟩ :=
        LF.unlock_first h (by omega) (Phys.lockRead_unlock_core hp hh) .r s.tokenFromLock
      exact ⟨s'', eu, hcore.trans (by cases s; rfl)⟩

/-- taking a repository read lock and giving it back restores the lock state -/
theorem Repo.lockRead_unlock_core {s : Repo} (h : s.Inv) {r : Repo} {t : Option Nat}
    (e : s.lockRead = (r, .ok t)) : ∃ r', r.unlock = (r', .ok none) ∧ r'.core = s.core := by
  have hr : r.Inv := by have : s.lockRead.1.Inv := Repo.inv_step h .lockRead; rwa [e] at this
  rcases Repo.lockRead_spec h with ⟨hw, e'⟩ | ⟨_, _, e'⟩ | ⟨hw, cf', ecf, hcc, hi, e'⟩
  · rw [e'] at e; injection e with e1 _; subst e1
    exact ⟨s, Repo.unlock_nested_write h hw, rfl⟩
  · rw [e'] at e; cases e
  · rw [e'] at e; injection e with e1 _; subst e1
    obtain ⟨cf'', eu2, hcore⟩ := LF.lockRead_unlock_core h.cf ecf
    by_cases hc : 0 < s.cf.count
    · simp only [hc, if_true] at hr ⊢
      rcases Repo.unlock_spec hr with ⟨hd', _⟩ | ⟨hw', _⟩ | ⟨_, _, cf3, eu3, _, _, eu⟩
      · simp only [Repo.depth] at hd'; omega
      · simp only at hw'; omega
      · simp only at eu3 eu
        rw [eu2] at eu3; injection eu3 with e3 _; subst e3
        refine ⟨_, eu, ?_⟩
        have : 1 < cf'.count := by omega
        simp only [this, if_true]
        simp [Repo.core, hcore]
    · simp only [hc, if_false] at hr ⊢
      rcases Repo.unlock_spec hr with ⟨hd', _⟩ | ⟨hw', _⟩ | ⟨_, _, cf3, eu3, _, _, eu⟩
      · simp only [Repo.depth] at hd'; omega
      · simp only at hw'; omega
      · simp only at eu3 eu
        rw [eu2] at eu3; injection eu3 with e3 _; subst e3
        refine ⟨_, eu, ?_⟩
        have : ¬ 1 < cf'.count := by omega
        simp only [this, if_false]
        simp [Repo.core, hcore]

theorem Repo.lock_unlock_core {s r : Repo} (h : s.Inv) {o : Op} (ho : o ≠ .unlock) {t : Option Nat}
    (e : s.step o = (r, .ok t)) : ∃ r', r.unlock = (r', .ok none) ∧ r'.core = s.core := by
  cases o with
  | unlock => exact absurd rfl ho
  | lockRead => exact Repo.lockRead_unlock_core h e
  | lockWrite tok => exact Repo.lockWrite_unlock_core h e

theorem LF.isLocked_iff (s : LF) : s.isLocked = true ↔ 0 < s.count := by
  simp only [LF.isLocked, decide_eq_true_eq]; exact Iff.rfl

theorem Branch.step_lock (s : Branch) {o : Op} (ho : o ≠ .unlock) :
    s.step (.branch o) =
      if !s.isLocked then
        match s.repo.step o with
        | (repo, .error e) => ({ s with repo := repo }, .error e)
        | (repo, .ok _) => Branch.finishLock { s with repo := repo } true (s.cf.step o)
      else Branch.finishLock s false (s.cf.step o) := by
  cases o with
  | unlock => exact absurd rfl ho
  | lockRead => rfl
  | lockWrite tok => rfl

/-- A branch `lock_read` / `lock_write`: nested; first, refused by the repository; first, refused by the control
files, where the repository, locked a moment ago, is given back (`r'`); first and granted. -/
theorem Branch.step_lock_cases {s : Branch} (h : s.Inv) {o : Op} (ho : o ≠ .unlock) :
    (0 < s.cf.count ∧ s.step (.branch o) = ({ s with cf := (s.cf.step o).1 }, (s.cf.step o).2)) ∨
    (s.cf.count = 0 ∧ ∃ e, s.step (.branch o) = (s, .error e)) ∨
    (s.cf.count = 0 ∧ ∃ e r', r'.Inv ∧ r'.core = s.repo.core ∧
      s.step (.branch o) = ({ s with repo := r' }, .error e)) ∨
    (s.cf.count = 0 ∧ ∃ t tc, (s.repo.step o).2 = .ok t ∧ (s.cf.step o).2 = .ok tc ∧
      s.step (.branch o) = ({ cf := (s.cf.step o).1, repo := (s.repo.step o).1 }, .ok tc)) := by
  rw [Branch.step_lock s ho]
  by_cases hlk : s.isLocked = true
  · rw [hlk, Bool.not_true, if_neg nofun]
    refine .inl ⟨(LF.isLocked_iff s.cf).mp hlk, ?_⟩
    rcases s.cf.step o with ⟨cf', rc⟩
    cases rc <;> rfl
  · have h0 : s.cf.count = 0 := Nat.eq_zero_of_not_pos fun hp => hlk ((LF.isLocked_iff s.cf).mpr hp)
    rw [Bool.eq_false_iff.mpr hlk, Bool.not_false, if_pos rfl]
    have hrp := Repo.step_reentrant h.repo o
    have hri := Repo.inv_step h.repo o
    have hru := fun t => Repo.lock_unlock_core h.repo ho (r := (s.repo.step o).1) (t := t)
    have hcf := LF.step_reentrant h.cf o
    generalize s.repo.step o = y at hrp hri hru ⊢
    generalize s.cf.step o = x at hcf ⊢
    obtain ⟨repo', rr⟩ := y
    obtain ⟨cf', rc⟩ := x
    cases rr with
    | error e => cases hrp.unchanged rfl; exact .inr (.inl ⟨h0, e, rfl⟩)
    | ok t =>
      cases rc with
      | ok tc => exact .inr (.inr (.inr ⟨h0, t, tc, rfl, rfl, rfl⟩))
      | error e =>
        cases hcf.unchanged rfl
        obtain ⟨r', eu, hcore⟩ := hru t rfl
        have hr' : r'.Inv := by have : repo'.unlock.1.Inv := Repo.inv_step hri .unlock; rwa [eu] at this
        exact .inr (.inr (.inl ⟨h0, e, r', hr', hcore, by simp only [Branch.finishLock, if_true, eu]⟩))

theorem Branch.inv_step {s : Branch} (h : s.Inv) (o : SOp) : (s.step o).1.Inv := by
  cases o with
  | repo o => exact ⟨h.cf, Repo.inv_step h.repo o⟩
  | branch o =>
    by_cases ho : o = .unlock
    · subst ho
      have hcf := LF.inv_step h.cf .unlock
      have hrp := Repo.inv_step h.repo .unlock
      simp only [Branch.step, Branch.unlock, LF.step, Repo.step] at hcf hrp ⊢
      generalize s.cf.unlock = x at hcf ⊢
      generalize s.repo.unlock = y at hrp ⊢
      obtain ⟨cf, r⟩ := x
      obtain ⟨repo, r'⟩ := y
      split
      · cases r' <;> exact ⟨hcf, hrp⟩
      · exact ⟨hcf, h.repo⟩
    · rcases Branch.step_lock_cases h ho with ⟨_, e⟩ | ⟨_, _, e⟩ | ⟨_, _, r', hr', _, e⟩ | ⟨_, _, _, _, _, e⟩ <;>
        rw [e]
      · exact ⟨LF.inv_step h.cf o, h.repo⟩
      · exact h
      · exact ⟨h.cf, hr'⟩
      · exact ⟨LF.inv_step h.cf o, Repo.inv_step h.repo o⟩

/-- the repository locked once more / unlocked once -/
def RepoLocked (r r' : Repo) : Prop := r'.depth = r.depth + 1
def RepoUnlocked (r r' : Repo) : Prop := r'.depth + 1 = r.depth

theorem Branch.step_reentrant {s : Branch} (h : s.Inv) (o : Op) {t : Option Nat}
    (hr : (s.step (.branch o)).2 = .ok t) :
    Reentrant (fun s => s.cf.count) Branch.repo RepoLocked RepoUnlocked (o = .unlock) s
      (s.step (.branch o)).1 (.ok t) := by
  have hcf := LF.step_reentrant h.cf o
  have hrepo := Repo.step_reentrant h.repo o
  by_cases ho : o = .unlock
  · subst ho
    simp only [Branch.step, Branch.unlock, LF.step, Repo.step] at hr hcf hrepo ⊢
    generalize s.cf.unlock = x at hr hcf ⊢
    generalize s.repo.unlock = y at hr hrepo ⊢
    obtain ⟨cf', rc⟩ := x
    obtain ⟨repo', rr⟩ := y
    dsimp only at hcf hrepo
    have hl' := LF.isLocked_iff cf'
    cases hcf with
    | refused e _ _ =>
      exfalso
      split at hr
      · cases rr <;> cases hr
      · cases hr
    | first _ hu => exact absurd trivial hu
    | nested _ hu => exact absurd trivial hu
    | last _ _ h1 h0 =>
      have hn : cf'.isLocked = false := Bool.eq_false_iff.mpr fun hx => by have := hl'.mp hx; omega
      simp only [hn, Bool.not_false, if_true] at hr ⊢
      cases rr with
      | error e' => cases hr
      | ok tr => cases hr; exact .last _ trivial h1 h0 (hrepo.count rfl)
    | inner _ _ h1 h0 =>
      have hn : cf'.isLocked = true := hl'.mpr (by omega)
      simp only [hn, Bool.not_true, Bool.false_eq_true, if_false] at hr ⊢
      cases hr
      exact .inner _ trivial h1 h0 rfl
  · rcases Branch.step_lock_cases h ho with ⟨hc, e⟩ | ⟨_, _, e⟩ | ⟨_, _, _, _, _, e⟩ | ⟨hc, tr, tc, er, ec, e⟩ <;>
      rw [e] at hr ⊢
    · have := hcf.count hr
      rw [if_neg ho] at this
      exact .nested _ ho hc this rfl
    · cases hr
    · cases hr
    · cases hr
      have hcc := hcf.count ec
      have hd := hrepo.count er
      rw [if_neg ho] at hcc hd
      exact .first _ ho hc (by rw [hcc, hc]) hd

theorem Branch.inv_init (ext : Bool) (rbB : Bool := false) (rbR : Bool := false) :
    (Branch.init ext rbB rbR).Inv := ⟨LF.inv_init ext rbB, Repo.inv_init ext rbR⟩

theorem Branch.inv_run {s : Branch} (h : s.Inv) (ops : List SOp) : (s.run ops).Inv :=
  List.foldlRecOn (motive := Branch.Inv) ops _ h fun _ h o _ => Branch.inv_step h o

end BreezyVerif.C28
