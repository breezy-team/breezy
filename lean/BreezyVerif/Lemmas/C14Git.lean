import BreezyVerif.Model.C14
import BreezyVerif.Lemmas.C14
/-! Helper lemmas for the git index theorems of C14: an entry nothing touches keeps its tree path. -/
namespace BreezyVerif.C14

theorem final_of_unchanged (tt : TT) (t : Tid) (h : tt.pathChanged t = false) :
    tt.finalParent t = (tt.base[t]?).map (·.parent) ∧ tt.finalName t = (tt.base[t]?).map (·.name) := by
  simp only [TT.pathChanged, Bool.or_eq_false_iff] at h
  simp [TT.finalParent, TT.finalName, alookup_none_of_ahas_false h.1, alookup_none_of_ahas_false h.2]

theorem treeKind_isSome_of_versioned (tt : TT) (h : tt.versionedExist = true) (t : Tid) (ht : t < tt.nbase)
    (hf : (tt.treeFid t).isSome = true) : (tt.treeKind t).isSome = true := by
  simp only [TT.versionedExist, List.all_eq_true, List.mem_range, Bool.or_eq_true, Bool.not_eq_eq_eq_not,
    Bool.not_true] at h
  rcases h t ht with h1 | h1
  · rw [hf] at h1; cases h1
  · exact h1

theorem baseWf_parent (tt : TT) (h : tt.baseWf = true) (t : Tid) (ht : t < tt.nbase) (h0 : t ≠ 0) :
    ∃ (b : Base) (p : Nat), tt.base[t]? = some b ∧ b.parent = some p ∧ p < t := by
  simp only [TT.baseWf, Bool.and_eq_true, List.all_eq_true, List.mem_range, Bool.or_eq_true, beq_iff_eq] at h
  have := h.2 t ht
  rcases this with h1 | h1
  · exact absurd h1 h0
  · cases hb : tt.base[t]? with
    | none => simp [hb] at h1
    | some b =>
      cases hp : b.parent with
      | none => simp [hb, hp] at h1
      | some p => exact ⟨b, p, rfl, hp, by simpa [hb, hp] using h1⟩

theorem baseDirs_parent (tt : TT) (h : tt.baseDirs = true) (t : Tid) (ht : t < tt.nbase) (h0 : t ≠ 0)
    (hk : (tt.treeKind t).isSome = true) (p : Tid) (hp : (tt.base[t]?).bind (·.parent) = some p) :
    tt.treeKind p = some .dir := by
  simp only [TT.baseDirs, List.all_eq_true, List.mem_range, Bool.or_eq_true, beq_iff_eq, Bool.not_eq_eq_eq_not,
    Bool.not_true] at h
  have := h t ht
  rcases this with (h1 | h1) | h1
  · exact absurd h1 h0
  · simp [hk] at h1
  · simpa [hp] using h1

/-- **an untouched entry keeps its tree path**: a tree id that exists, whose own path and whose
base ancestors' paths the transform does not change, has as final path its tree path — for any
fuels that exceed the id (parents are registered before children, hence the induction on the id). -/
theorem finalPath_eq_treePath (tt : TT) (hb : tt.baseWf = true) (hd : tt.baseDirs = true) (t : Nat) :
    ∀ f1 f2 f3 : Nat, t < tt.nbase → t < f1 → t < f2 → t < f3 →
      (t = 0 ∨ ((tt.treeKind t).isSome = true ∧ tt.pathChanged t = false)) →
      tt.belowMovedDir f3 t = false →
      tt.finalPath f1 t = tt.treePath f2 t := by
  induction t using Nat.strongRecOn with
  | _ t ih =>
    intro f1 f2 f3 hnb h1 h2 h3 hok hbm
    obtain ⟨f1, rfl⟩ := Nat.exists_eq_succ_of_ne_zero (Nat.ne_zero_of_lt h1)
    obtain ⟨f2, rfl⟩ := Nat.exists_eq_succ_of_ne_zero (Nat.ne_zero_of_lt h2)
    obtain ⟨f3, rfl⟩ := Nat.exists_eq_succ_of_ne_zero (Nat.ne_zero_of_lt h3)
    by_cases h0 : t = 0
    · subst h0
      simp [TT.finalPath, TT.treePath, TT.root]
    · obtain ⟨b, p, hbt, hbp, hpt⟩ := baseWf_parent tt hb t hnb h0
      obtain ⟨hk, hpc⟩ := hok.resolve_left h0
      obtain ⟨hfp, hfn⟩ := final_of_unchanged tt t hpc
      have hpar : (tt.base[t]?).bind (·.parent) = some p := by simp [hbt, hbp]
      have hpk := baseDirs_parent tt hd t hnb h0 hk p hpar
      unfold TT.belowMovedDir at hbm
      simp only [hpar, Bool.or_eq_false_iff] at hbm
      obtain ⟨hbm1, hbm2⟩ := hbm
      have hpok : p = 0 ∨ ((tt.treeKind p).isSome = true ∧ tt.pathChanged p = false) := by
        by_cases hp0 : p = 0
        · exact Or.inl hp0
        · right
          refine ⟨by simp [hpk], ?_⟩
          have : (p != TT.root) = true := by simpa [TT.root] using hp0
          simpa [this, hpk] using hbm1
      have hlt : ∀ {f}, t < f + 1 → p < f := fun h => Nat.lt_of_lt_of_le hpt (Nat.le_of_lt_succ h)
      have hrec := ih p hpt f1 f2 f3 (Nat.lt_trans hpt hnb) (hlt h1) (hlt h2) (hlt h3) hpok hbm2
      unfold TT.finalPath TT.treePath
      have hr : t ≠ TT.root := by simpa [TT.root] using h0
      simp only [hr, if_false, hfp, hfn, hbt, hbp, Option.map_some, hrec]

/-- the same with the fuels `pathOf` and the index code use -/
theorem pathOf_eq_treePath (tt : TT) (hb : tt.baseWf = true) (hd : tt.baseDirs = true) (hn : tt.nbase ≤ tt.next)
    (t : Nat) (ht : t < tt.nbase) (hk : (tt.treeKind t).isSome = true) (hpc : tt.pathChanged t = false)
    (hbm : tt.belowMovedDir (tt.nbase + 1) t = false) :
    tt.pathOf t = tt.treePath (tt.nbase + 1) t := by
  unfold TT.pathOf
  exact finalPath_eq_treePath tt hb hd t (tt.next + 1) (tt.nbase + 1) (tt.nbase + 1) ht
    (Nat.lt_succ_of_le (Nat.le_trans (Nat.le_of_lt ht) hn)) (Nat.lt_succ_of_lt ht) (Nat.lt_succ_of_lt ht)
    (Or.inr ⟨hk, hpc⟩) hbm

theorem treePath_root (tt : TT) (n : Nat) : tt.treePath (n + 1) TT.root = some [] := by
  simp [TT.treePath]

theorem pathOf_root (tt : TT) : tt.pathOf TT.root = some [] := by
  simp [TT.pathOf, TT.finalPath]

theorem mem_gitRemoved (tt : TT) (t : Tid) :
    t ∈ tt.gitRemoved ↔ t < tt.next ∧
      (tt.removedId.contains t = true ∨ tt.removedContents.contains t = true ∨ ahas tt.newName t = true ∨
        ahas tt.newParent t = true ∨ tt.reindexed.contains t = true) := by
  simp only [TT.gitRemoved, TT.ids, List.mem_filter, List.mem_range, Bool.or_eq_true, or_assoc]

theorem mem_gitChanged (tt : TT) (t : Tid) :
    t ∈ tt.gitChanged ↔ t < tt.next ∧
      (ahas tt.newName t = true ∨ ahas tt.newParent t = true ∨ ahas tt.newExec t = true ∨
        ahas tt.newContents t = true ∨ ahas tt.newId t = true ∨ tt.reindexed.contains t = true) := by
  simp only [TT.gitChanged, TT.ids, List.mem_filter, List.mem_range, Bool.or_eq_true, or_assoc]

theorem finalPath_nil (tt : TT) (fuel : Nat) (t : Tid) (h : tt.finalPath fuel t = some []) : t = TT.root := by
  cases fuel with
  | zero => simp [TT.finalPath] at h
  | succ n =>
    unfold TT.finalPath at h
    by_cases hr : t = TT.root
    · exact hr
    · simp only [hr, if_false] at h
      split at h
      · rename_i pp nn _ _
        cases hq : tt.finalPath n pp with
        | none => simp [hq] at h
        | some q => simp [hq] at h
      · cases h

theorem treePath_some_lt (tt : TT) (fuel : Nat) (t : Tid) (p : List String) (h : tt.treePath fuel t = some p)
    (hr : t ≠ TT.root) : t < tt.nbase := by
  cases fuel with
  | zero => simp [TT.treePath] at h
  | succ n =>
    unfold TT.treePath at h
    simp only [hr, if_false] at h
    cases hb : tt.base[t]? with
    | none => simp [hb] at h
    | some b =>
      have := (List.getElem?_eq_some_iff.mp hb).1
      exact this

/-- the listing `livePaths` and `finalContentPaths` share: the known ids below the root that pass a
test, each with its `FinalPaths` path -/
theorem mem_pathsWhere_iff (tt : TT) (c : Tid → Bool) (t : Tid) (p : List String) :
    (t, p) ∈ (tt.ids.filterMap fun t =>
        if t = TT.root then none else if c t then (tt.pathOf t).map (fun p => (t, p)) else none) ↔
      t < tt.next ∧ t ≠ TT.root ∧ c t = true ∧ tt.pathOf t = some p := by
  simp only [List.mem_filterMap, TT.ids, List.mem_range]
  constructor
  · rintro ⟨t', ht', hx⟩
    split at hx
    · cases hx
    · rename_i hr
      split at hx
      · rename_i hl
        cases hp : tt.pathOf t' with
        | none => simp [hp] at hx
        | some q =>
          simp only [hp, Option.map_some, Option.some.injEq, Prod.mk.injEq] at hx
          obtain ⟨rfl, rfl⟩ := hx
          exact ⟨ht', hr, hl, hp⟩
      · cases hx
  · rintro ⟨ht, hr, hl, hp⟩
    exact ⟨t, ht, by simp [hr, hl, hp]⟩

theorem mem_livePaths_iff (tt : TT) (t : Tid) (p : List String) :
    (t, p) ∈ tt.livePaths ↔ t < tt.next ∧ t ≠ TT.root ∧ tt.live t = true ∧ tt.pathOf t = some p :=
  mem_pathsWhere_iff tt tt.live t p

end BreezyVerif.C14
