import BreezyVerif.Model.C29
import BreezyVerif.Lemmas.Lib.Split
import BreezyVerif.Lemmas.Lib.Decimal
/-! helper lemmas for C29/C30: lines, digits, big-endian lengths -/
namespace BreezyVerif.C29

theorem splitLine_eq (b : Bytes) : splitLine b = Lib.splitFirst 10 b := by
  induction b with
  | nil => rfl
  | cons c cs ih => rw [splitLine, Lib.splitFirst, ih]; cases Lib.splitFirst 10 cs <;> rfl

theorem splitLine_none_of_notMem {l : Bytes} (h : (10 : UInt8) ∉ l) : splitLine l = none :=
  (splitLine_eq l).trans (Lib.splitFirst_eq_none_iff.2 h)

theorem splitLine_of_notMem {l : Bytes} (r : Bytes) (h : (10 : UInt8) ∉ l) :
    splitLine (l ++ 10 :: r) = some (l, r) :=
  (splitLine_eq _).trans (Lib.splitFirst_append_cons h r)

theorem splitLine_some_eq {a l r : Bytes} (h : splitLine a = some (l, r)) :
    a = l ++ 10 :: r ∧ (10 : UInt8) ∉ l :=
  Lib.of_splitFirst_eq_some (splitLine_eq a ▸ h)

theorem splitLine_append_some {a l r : Bytes} (b : Bytes) (h : splitLine a = some (l, r)) :
    splitLine (a ++ b) = some (l, r ++ b) := by
  obtain ⟨rfl, hn⟩ := splitLine_some_eq h
  rw [List.append_assoc, List.cons_append]
  exact splitLine_of_notMem _ hn

theorem splitLine_some_length {b line rest : Bytes} (h : splitLine b = some (line, rest)) :
    b.length = line.length + 1 + rest.length := by
  rw [(splitLine_some_eq h).1, List.length_append, List.length_cons, Nat.add_assoc,
    Nat.add_comm 1]

theorem splitLine_none_notMem {a : Bytes} (h : splitLine a = none) : (10 : UInt8) ∉ a :=
  Lib.splitFirst_eq_none_iff.1 (splitLine_eq a ▸ h)

theorem digitRaw_digitChar : ∀ d, d < 16 → digitRaw (digitChar d) = some d := by decide +kernel

theorem digitChar_ne (c : UInt8) (hc : c = 10 ∨ c = 58 ∨ c = 69 ∨ c = 44 ∨ c = 1) :
    ∀ d, d < 16 → digitChar d ≠ c := by
  rcases hc with rfl | rfl | rfl | rfl | rfl <;> decide +kernel

theorem digitVal_digitChar {base d : Nat} (hb : base ≤ 16) (hd : d < base) :
    digitVal base (digitChar d) = some d := by
  unfold digitVal
  rw [digitRaw_digitChar d (by omega)]
  simp [hd]

theorem natDigits_eq (base n : Nat) : natDigits base n = Lib.digits digitChar base n := by
  fun_induction natDigits base n with
  | case1 n h => rw [Lib.digits, if_pos h]
  | case2 n h ih => rw [Lib.digits, if_neg h, ih]

theorem parseDigits_eq (base acc : Nat) (s : Bytes) :
    parseDigits base acc s = Lib.value (digitVal base) base acc s := by
  induction s generalizing acc with
  | nil => rfl
  | cons c cs ih => rw [parseDigits, Lib.value]; cases digitVal base c <;> simp [ih]

theorem natDigits_ne_nil (base n : Nat) : natDigits base n ≠ [] :=
  natDigits_eq base n ▸ Lib.digits_ne_nil digitChar base n

theorem parseDigits_natDigits {base : Nat} (h2 : 2 ≤ base) (hb : base ≤ 16) (n : Nat) :
    parseDigits base 0 (natDigits base n) = some n := by
  rw [parseDigits_eq, natDigits_eq, Lib.value_digits h2 fun d hd => digitVal_digitChar hb hd]

theorem parseNat_natDigits {base : Nat} (h2 : 2 ≤ base) (hb : base ≤ 16) (n : Nat) :
    parseNat base (natDigits base n) = some n := by
  unfold parseNat
  have hne := natDigits_ne_nil base n
  have he : (natDigits base n).isEmpty = false := by
    cases h : natDigits base n with
    | nil => exact absurd h hne
    | cons c cs => rfl
  simp [he, parseDigits_natDigits h2 hb]

theorem natDigits_mem {base : Nat} (h2 : 2 ≤ base) (n : Nat) :
    ∀ c ∈ natDigits base n, ∃ d, d < base ∧ c = digitChar d :=
  fun _ hc => Lib.mem_digits h2 (natDigits_eq base n ▸ hc)

/-- the digits of a number in base ≤ 16 contain none of the delimiter bytes
`\n`, `:`, `E`, `,`, `\x01` -/
theorem natDigits_notMem {base : Nat} (h2 : 2 ≤ base) (hb : base ≤ 16) (n : Nat) (c : UInt8)
    (hc : c = 10 ∨ c = 58 ∨ c = 69 ∨ c = 44 ∨ c = 1) : c ∉ natDigits base n := by
  intro hm
  obtain ⟨d, hd, rfl⟩ := natDigits_mem h2 n c hm
  exact digitChar_ne _ hc d (by omega) rfl

theorem byte_toNat (m : Nat) : (UInt8.ofNat (m % 256)).toNat = m % 256 := by
  rw [UInt8.toNat_ofNat']
  exact Nat.mod_mod _ _

/-- the four base-256 digits of `n < 2^32` add up to `n` -/
theorem be32_digits {n : Nat} (h : n < 4294967296) :
    n / 16777216 % 256 * 16777216 + n / 65536 % 256 * 65536 + n / 256 % 256 * 256 + n % 256 = n := by
  -- Horner form of `n % 256^4` by `Nat.mod_mul`; the digits are then opaque to `omega`
  have e := Nat.mod_eq_of_lt h
  rw [show 4294967296 = 256 * (256 * (256 * 256)) from rfl, Nat.mod_mul, Nat.mod_mul, Nat.mod_mul,
    Nat.div_div_eq_div_mul, Nat.div_div_eq_div_mul] at e
  generalize n / 16777216 % 256 = a, n / 65536 % 256 = b, n / 256 % 256 = c, n % 256 = d at e ⊢
  omega

theorem unbe32_be32_append {n : Nat} (h : n < 4294967296) (r : Bytes) :
    unbe32 (be32 n ++ r) = n := by
  simp only [be32, unbe32, List.cons_append, byte_toNat]
  exact be32_digits h

theorem be32_length (n : Nat) : (be32 n).length = 4 := rfl

end BreezyVerif.C29
