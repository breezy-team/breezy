import BreezyVerif.Lemmas.C22Top
/-!
C22 — lemmas about breezy's layer: left-hand history, revno conversions,
iteration filters.
-/
namespace BreezyVerif.C22

theorem lefthand_succ (g : Graph) (fuel r : Nat) :
    lefthand g (fuel + 1) r = match g[r]? with
      | none => []
      | some ps => r :: (match leftParent g ps with
          | some l => lefthand g fuel l
          | none => []) := rfl

theorem lefthand_le {g : Graph} (hw : WF g) : ∀ (fuel r x : Nat), x ∈ lefthand g fuel r → x ≤ r := by
  intro fuel
  induction fuel with
  | zero => intro r x h; simp [lefthand] at h
  | succ fuel ih =>
    intro r x h
    rw [lefthand_succ] at h
    split at h
    · cases h
    · rename_i ps hps
      rcases List.mem_cons.mp h with rfl | h
      · exact Nat.le_refl _
      · split at h
        · rename_i l hl
          have hm := leftParent_mem hl
          have := ih l x h
          rcases hw r ps hps l hm.1 with h1 | h1 <;> omega
        · cases h

theorem lefthand_pairwise {g : Graph} (hw : WF g) : ∀ (fuel r : Nat),
    (lefthand g fuel r).Pairwise (fun a b => b < a) := by
  intro fuel
  induction fuel with
  | zero => intro r; simp [lefthand]
  | succ fuel ih =>
    intro r
    rw [lefthand_succ]
    split
    · exact List.Pairwise.nil
    · rename_i ps hps
      split
      · rename_i l hl
        have hm := leftParent_mem hl
        refine List.Pairwise.cons ?_ (ih l)
        intro x hx
        have := lefthand_le hw fuel l x hx
        rcases hw r ps hps l hm.1 with h1 | h1 <;> omega
      · exact List.pairwise_singleton _ _

theorem lefthand_nodup {g : Graph} (hw : WF g) (fuel r : Nat) : (lefthand g fuel r).Nodup := by
  have := lefthand_pairwise hw fuel r
  exact this.imp (fun h => by omega)

theorem history_nodup (b : Branch) (hw : WF b.g) : b.history.Nodup := by
  unfold Branch.history
  split
  · exact List.nodup_nil
  · exact lefthand_nodup hw _ _

theorem lefthand_head (g : Graph) : ∀ (fuel l p : Nat), (lefthand g fuel l)[0]? = some p → p = l
  | 0, _, _, h => by simp [lefthand] at h
  | fuel + 1, l, p, h => by
    rw [lefthand_succ] at h
    split at h
    · simp at h
    · simp only [List.getElem?_cons_zero, Option.some.injEq] at h; exact h.symm

/-- consecutive entries of the left-hand history are child and left-hand parent -/
theorem lefthand_next (g : Graph) : ∀ (fuel x i r p : Nat), (lefthand g fuel x)[i]? = some r →
    (lefthand g fuel x)[i + 1]? = some p → lpOf g r = some p := by
  intro fuel
  induction fuel with
  | zero => intro x i r p h; simp [lefthand] at h
  | succ fuel ih =>
    intro x i r p hi hn
    rw [lefthand_succ] at hi hn
    split at hi
    · simp at hi
    · rename_i ps hps
      simp only [hps] at hn
      cases i with
      | zero =>
        simp only [List.getElem?_cons_zero, Option.some.injEq] at hi
        subst hi
        simp only [List.getElem?_cons_succ] at hn
        unfold lpOf; rw [hps]
        split at hn
        · rename_i l hl
          show leftParent g ps = some p
          rw [hl, lefthand_head g fuel l p hn]
        · simp at hn
      | succ i =>
        simp only [List.getElem?_cons_succ] at hi hn
        split at hi
        · rename_i l hl
          simp only [hl] at hn
          exact ih l i r p hi hn
        · simp at hi

theorem history_next (b : Branch) (i r p : Nat) (h1 : b.history[i]? = some r)
    (h2 : b.history[i + 1]? = some p) : lpOf b.g r = some p := by
  unfold Branch.history at h1 h2
  split at h1
  · simp at h1
  · rename_i t ht
    simp only [ht] at h2
    exact lefthand_next b.g _ _ _ _ _ h1 h2

/-- revno `n + 1` is position `n` of the left-hand history read oldest first -/
theorem getRevId_iff (b : Branch) (k : Int) (r : Nat) :
    b.getRevId k = .ok (.rev r) ↔ ∃ n : Nat, k = n + 1 ∧ b.history.reverse[n]? = some r := by
  have hL : b.lastRevno = b.history.length := rfl
  unfold Branch.getRevId
  constructor
  · intro h
    split at h
    · cases h
    · split at h
      · cases h
      · split at h
        · rename_i r' hr'
          cases h
          have hlt := (List.getElem?_eq_some_iff.mp hr').1
          refine ⟨k.toNat - 1, by omega, ?_⟩
          rw [List.getElem?_reverse (by omega), ← hr']
          congr 1; omega
        · cases h
  · rintro ⟨n, rfl, hn⟩
    have hlt : n < b.history.length := by
      have := (List.getElem?_eq_some_iff.mp hn).1; rwa [List.length_reverse] at this
    rw [List.getElem?_reverse hlt] at hn
    have e1 : ¬ ((n : Int) + 1 = 0) := by omega
    have e2 : ¬ ((n : Int) + 1 ≤ 0 ∨ (n : Int) + 1 > (b.lastRevno : Int)) := by omega
    have e3 : ((b.lastRevno : Int) - ((n : Int) + 1)).toNat = b.history.length - 1 - n := by omega
    simp only [e1, e2, if_false, e3, hn]

/-- only revno 0 names the null revision -/
theorem getRevId_rev_of_ne_zero (b : Branch) {k : Int} {id : RevId} (h : b.getRevId k = .ok id) (hk : k ≠ 0) :
    ∃ r, id = .rev r := by
  unfold Branch.getRevId at h
  rw [if_neg hk] at h
  split at h
  · cases h
  · split at h
    · exact ⟨_, (Except.ok.inj h).symm⟩
    · cases h

/-- the same with the model's own index, newest first -/
theorem getRevId_pos (b : Branch) (n : Nat) (h1 : 1 ≤ n) (h2 : n ≤ b.lastRevno) (r : Nat)
    (hr : b.history[b.lastRevno - n]? = some r) : b.getRevId n = .ok (.rev r) := by
  have hL : b.lastRevno = b.history.length := rfl
  refine (getRevId_iff b n r).mpr ⟨n - 1, by omega, ?_⟩
  rw [List.getElem?_reverse (by omega), ← hr]
  congr 1; omega

/-- `revision_id_to_revno` answers with a position of the revision in the history … -/
theorem revnoOf_pos (b : Branch) {k : Int} {r : Nat} (h : b.revisionIdToRevno (.rev r) = .ok k) :
    ∃ n : Nat, k = n + 1 ∧ b.history.reverse[n]? = some r := by
  have hL : b.lastRevno = b.history.length := rfl
  simp only [Branch.revisionIdToRevno] at h
  split at h
  · rename_i i hi
    cases h
    obtain ⟨hlt, hg, _⟩ := List.idxOf?_eq_some_iff.mp hi
    refine ⟨b.history.length - 1 - i, by omega, ?_⟩
    rw [List.getElem?_reverse (by omega), ← hg, ← List.getElem?_eq_getElem hlt]
    congr 1; omega
  · cases h

/-- … and with each of them, the history of a topologically numbered graph having no repetition: `get_rev_id`
and `revision_id_to_revno` are one relation between numbers and revisions (`getRevId_iff`) -/
theorem revnoOf_iff (b : Branch) (hw : WF b.g) (k : Int) (r : Nat) :
    b.revisionIdToRevno (.rev r) = .ok k ↔ ∃ n : Nat, k = n + 1 ∧ b.history.reverse[n]? = some r := by
  refine ⟨revnoOf_pos b, ?_⟩
  rintro ⟨n, rfl, hn⟩
  have hL : b.lastRevno = b.history.length := rfl
  have hlt : n < b.history.length := by
    have := (List.getElem?_eq_some_iff.mp hn).1; rwa [List.length_reverse] at this
  rw [List.getElem?_reverse hlt] at hn
  obtain ⟨hlt', hg⟩ := List.getElem?_eq_some_iff.mp hn
  have hidx : b.history.idxOf? r = some (b.history.length - 1 - n) := by
    rw [List.idxOf?_eq_some_iff]
    refine ⟨hlt', hg, fun j hj hjr => ?_⟩
    have := (List.getElem_inj (h₀ := (by omega : j < b.history.length)) (h₁ := hlt')
      (history_nodup b hw)).mp (hjr.trans hg.symm)
    omega
  simp only [Branch.revisionIdToRevno, hidx]
  congr 1; omega

theorem takeThrough_sublist {α : Type} (p : α → Bool) : ∀ l : List α, List.Sublist (takeThrough p l) l
  | [] => List.Sublist.slnil
  | a :: l => by
    unfold takeThrough
    split
    · exact (List.nil_sublist l).cons_cons a
    · exact (takeThrough_sublist p l).cons_cons a

theorem takeThrough_eq {α : Type} (p : α → Bool) : ∀ l : List α,
    takeThrough p l = l.takeWhile (fun a => !p a) ++ (l.find? p).toList
  | [] => rfl
  | a :: l => by
    unfold takeThrough
    by_cases h : p a = true
    · simp [h]
    · simp only [h, Bool.false_eq_true, if_false, List.takeWhile_cons, List.find?_cons]
      simp [takeThrough_eq p l]

theorem withMergesLoop_sublist (g : Graph) (stop lp : RevId) : ∀ (l : List MS) (reached : Bool) (wl : List Nat),
    List.Sublist (withMergesLoop g stop lp reached wl l) l
  | [], _, _ => by simp [withMergesLoop]
  | e :: rest, reached, wl => by
    have ih := withMergesLoop_sublist g stop lp rest
    unfold withMergesLoop
    by_cases h1 : revIdIs lp e.rev = true
    · rw [if_pos h1]; exact List.nil_sublist _
    · rw [if_neg h1]
      by_cases h2 : (!reached || wl.contains e.rev) = true
      · rw [if_pos h2]
        by_cases h3 : (reached || revIdIs stop e.rev) = true
        · rw [if_pos h3]
          dsimp only
          by_cases h4 : (parentsD g e.rev).isEmpty = true
          · rw [if_pos h4]; exact (ih _ _).cons_cons e
          · rw [if_neg h4]; exact (ih _ _).cons_cons e
        · rw [if_neg h3]; exact (ih _ _).cons_cons e
      · rw [if_neg h2]; exact (ih _ _).cons e

theorem nonAncLoop_sublist (g : Graph) : ∀ (l : List MS) (clean : Bool) (wl : List Nat),
    List.Sublist (nonAncLoop g clean wl l) l
  | [], _, _ => by simp [nonAncLoop]
  | e :: rest, clean, wl => by
    unfold nonAncLoop
    split
    · exact (nonAncLoop_sublist g rest _ _).cons_cons e
    · split
      · exact (nonAncLoop_sublist g rest _ _).cons_cons e
      · exact (nonAncLoop_sublist g rest _ _).cons e

theorem filterStartNonAncestors_sublist (g : Graph) : ∀ l : List MS, List.Sublist (filterStartNonAncestors g l) l
  | [] => List.Sublist.slnil
  | e :: rest => by
    simp only [filterStartNonAncestors]
    split
    · exact List.Sublist.refl _
    · split
      · exact (List.nil_sublist rest).cons_cons e
      · exact (nonAncLoop_sublist g rest _ _).cons_cons e

theorem applyStop_sublist (b : Branch) (start : Option RevId) (l : List MS) (stop : Option RevId)
    (rule : StopRule) (out : List MS) (h : applyStop b start l stop rule = .ok out) : List.Sublist out l := by
  unfold applyStop at h
  split at h
  · cases h; exact List.Sublist.refl _
  · cases h; exact List.takeWhile_sublist _
  · cases h; exact takeThrough_sublist _ _
  · split at h
    · cases h; exact List.filter_sublist
    · cases h
  · split at h
    · split at h
      · cases h
      · cases h; exact withMergesLoop_sublist _ _ _ _ _ _
    · cases h
    · cases h

end BreezyVerif.C22
