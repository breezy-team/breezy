import BreezyVerif.Lemmas.C23
import BreezyVerif.Lemmas.Lib.Ancestry
/-! C23 — invariants of single steps, each by cases on `Effect`: the tree of a heavyweight checkout is
based on its branch tip; a checkout that is in step with its master stays in step; what a refused
operation can have changed; no working tree lists a parent twice. -/
namespace BreezyVerif.C23

theorem anc_eq (g : Graph) (r : Rev) : anc g r = Lib.anc g r := by
  induction g generalizing r with
  | nil => rfl
  | cons e g ih => simp only [anc, Lib.anc, ih]

theorem anc_self (g : Graph) (r : Rev) : r ∈ anc g r :=
  anc_eq g r ▸ Lib.anc_self g r

theorem isAncestor_refl (g : Graph) (r : Rev) : isAncestor g r r = true := by
  simp [isAncestor, anc_self]

/-- the working tree of each heavyweight checkout is based on the tip of its branch -/
def TreeInv (s : St) : Prop := s.tH.basis = s.loc ∧ s.tH2.basis = s.loc2

theorem treeInv_swap (s : St) : TreeInv (swapH s) ↔ TreeInv s := by
  simp [TreeInv, swapH, and_comm]

theorem updateTree_basis (g : Graph) (t : Tree) (target : Rev) (o : Option Rev) :
    (updateTree g t target o).basis = target := by
  unfold updateTree
  split
  · rfl
  · next h => simpa using h

theorem pulledTree_basis (g : Graph) (t : Tree) (old new : Rev) (h : t.basis = old) :
    (pulledTree g t old new).basis = new := by
  unfold pulledTree
  split
  · rfl
  · next hn => rw [h]; exact (by simpa using hn : new = old).symm

theorem Effect.treeInv {s : St} {op : Op} {x : St × Out} (h : Effect s op x) (ht : TreeInv s) : TreeInv x.1 := by
  induction h with
  | commitBound | commitLocal | pull => exact ⟨rfl, ht.2⟩
  | updateBound | updateUnbound => exact ⟨updateTree_basis .., ht.2⟩
  | pullOtherH => exact ⟨pulledTree_basis _ _ _ _ ht.1, ht.2⟩
  | onH2 s op x _ ih => exact (treeInv_swap x.1).mpr (ih ((treeInv_swap s).mpr ht))
  | _ => exact ht

/-- the first checkout is bound and its branch tip is the master's tip -/
def InStep (s : St) : Prop := s.bound = true ∧ s.loc = s.master

/-- the operations that, made in a heavyweight checkout, write neither the master
nor the other checkout (`Effect.quiet`): local commit, update, pull from the
master, bind, unbind, local pull from the other branch, push -/
def Op.quiet : Op → Bool
  | .commit .H _ true => true
  | .update .H => true
  | .pull => true
  | .bind => true
  | .unbind => true
  | .pullOther .H _ _ true => true
  | .push .H => true
  | _ => false

/-- the operations that cannot take the first checkout out of step: everything
made through it that is not local-only, and everything that does not write the
master or its branch (commits and non-local pulls in the master's trees and in
the second checkout do; `unbind` ends the relation) -/
def Op.keepsStep : Op → Bool
  | .onH2 op => op.quiet
  | .commit .H _ false => true
  | .update _ => true
  | .pull => true
  | .bind => true
  | .commitO _ => true
  | .syncO => true
  | .pullOther .H _ _ false => true
  | .push _ => true
  | .bindM => true
  | .unbindM => true
  | _ => false

/-- `s'` has the second checkout (branch tip, tree, binding) of `s` -/
def Frame2 (s s' : St) : Prop := s'.loc2 = s.loc2 ∧ s'.tH2 = s.tH2 ∧ s'.bound2 = s.bound2

/-- a quiet operation writes neither the master nor the other checkout -/
theorem Effect.quiet {s : St} {op : Op} {x : St × Out} (h : Effect s op x) (hq : op.quiet = true) :
    x.1.master = s.master ∧ Frame2 s x.1 := by
  cases h with
  | refused | pullNothing | commitLocal | updateBound | updateUnbound | pull | bind | unbind | push =>
    exact ⟨rfl, rfl, rfl, rfl⟩
  | pullOtherH s stop ow l m' l' hm =>
    cases l with
    | false => cases hq
    | true =>
      -- a local pull does not go through the master
      rw [Bool.not_true, Bool.and_false, if_neg nofun] at hm
      cases hm
      exact ⟨rfl, rfl, rfl, rfl⟩
  | _ => cases hq

theorem Effect.inStep {s : St} {op : Op} {x : St × Out} (h : Effect s op x) (hop : op.keepsStep = true)
    (hi : InStep s) : InStep x.1 := by
  obtain ⟨hb, hl⟩ := hi
  cases h with
  | commitBound | pull => exact ⟨hb, rfl⟩
  | commitLocal s r l hbl =>
    cases l with
    | true => cases hop
    | false => rw [hb] at hbl; cases hbl
  | updateBound s n o _ hn =>
    refine ⟨hb, ?_⟩
    show n = s.master
    rw [hn, hl]
    split <;> rfl
  | bind => exact ⟨rfl, hl⟩
  | pullOtherDiverged s stop ow m' _ _ h1 h2 => rw [hl, h1] at h2; cases h2
  | pullOtherH s stop ow l m' l' hm hl' =>
    cases l with
    | true => cases hop
    | false =>
      -- master and checkout are pulled from the same tip to the same revision
      rw [hb, Bool.not_false, Bool.and_true, if_pos rfl, ← hl, hl'] at hm
      cases hm
      exact ⟨hb, rfl⟩
  | onH2 s op x h' =>
    obtain ⟨h1, h2, _, h4⟩ := h'.quiet hop
    exact ⟨h4.trans hb, h2.trans (hl.trans h1.symm)⟩
  | commitM | commitL | unbind | pullOtherM | pullOtherL => cases hop
  | _ => exact ⟨hb, hl⟩

theorem step_inStep (s : St) (op : Op) (hop : op.keepsStep = true) (h : InStep s) : InStep (step s op).1 :=
  (step_effect s op).inStep hop h

/-- everything but the master's tip and the log is as before -/
def MasterOnly (s s' : St) : Prop := ∃ (m : Rev) (l : List Entry), s' = { s with master := m, log := l }

theorem masterOnly_swap (s x : St) (h : MasterOnly (swapH s) x) : MasterOnly s (swapH x) := by
  obtain ⟨m, l, rfl⟩ := h
  refine ⟨m, l.map Entry.swap, ?_⟩
  cases s
  simp [swapH]

theorem Effect.refusal {s : St} {op : Op} {x : St × Out} (h : Effect s op x) (hr : x.2 ≠ .ok) :
    x.1 = s ∨ (x.2 = .diverged ∧ MasterOnly s x.1) := by
  induction h with
  | refused => exact .inl rfl
  | pullOtherDiverged s stop ow m' => exact .inr ⟨rfl, m', _, rfl⟩
  | onH2 s op x _ ih =>
    rcases ih hr with h1 | ⟨h1, h2⟩
    · exact .inl (by show swapH x.1 = s; rw [h1, swapH_swapH])
    · exact .inr ⟨h1, masterOnly_swap s _ h2⟩
  | _ => exact absurd rfl hr

/-- every refused operation other than a pull from another branch into a
heavyweight checkout leaves the whole state unchanged -/
theorem refused_noop_strict (s : St) (op : Op) (hop : ∀ st ow l, op ≠ .pullOther .H st ow l)
    (hop2 : ∀ o, op ≠ .onH2 o) (h : (step s op).2 ≠ .ok) : (step s op).1 = s := by
  have he := step_effect s op
  generalize step s op = x at he h ⊢
  cases he with
  | refused => rfl
  | pullOtherDiverged s st ow m' => exact absurd rfl (hop st ow false)
  | onH2 s o => exact absurd rfl (hop2 o)
  | _ => exact absurd rfl h

/-- every working tree of the state has duplicate-free pending merges that do not repeat its basis -/
def AllTreesOK (s : St) : Prop :=
  TreeOK s.tM ∧ TreeOK s.tH ∧ TreeOK s.tL ∧ TreeOK s.tO ∧ TreeOK s.tH2

theorem allTreesOK_swap (s : St) : AllTreesOK (swapH s) ↔ AllTreesOK s := by
  simp only [AllTreesOK, swapH]
  constructor <;> (intro h; obtain ⟨a, b, c, d, e⟩ := h; exact ⟨a, e, c, d, b⟩)

theorem Effect.treesOK {s : St} {op : Op} {x : St × Out} (h : Effect s op x) (ht : AllTreesOK s) :
    AllTreesOK x.1 := by
  induction h with
  | commitBound s r | commitLocal s r => exact ⟨ht.1, treeOK_single r, ht.2.2⟩
  | commitM s r => exact ⟨treeOK_single r, ht.2⟩
  | commitL s r => exact ⟨ht.1, ht.2.1, treeOK_single r, ht.2.2.2⟩
  | updateBound | updateUnbound => exact ⟨ht.1, treeOK_updateTree _ _ _ _ ht.2.1, ht.2.2⟩
  | updateM => exact ⟨treeOK_updateTree _ _ _ _ ht.1, ht.2⟩
  | updateL => exact ⟨ht.1, ht.2.1, treeOK_updateTree _ _ _ _ ht.2.2.1, ht.2.2.2⟩
  | pull => exact ⟨ht.1, treeOK_mkTree _ _ _, ht.2.2⟩
  | commitO s r => exact ⟨ht.1, ht.2.1, ht.2.2.1, treeOK_single r, ht.2.2.2.2⟩
  | syncO => exact ⟨ht.1, ht.2.1, ht.2.2.1, treeOK_pulledTree _ _ _ _ ht.2.2.2.1, ht.2.2.2.2⟩
  | pullOtherH => exact ⟨ht.1, treeOK_pulledTree _ _ _ _ ht.2.1, ht.2.2⟩
  | pullOtherM => exact ⟨treeOK_pulledTree _ _ _ _ ht.1, ht.2⟩
  | pullOtherL => exact ⟨ht.1, ht.2.1, treeOK_pulledTree _ _ _ _ ht.2.2.1, ht.2.2.2⟩
  | onH2 s op x _ ih => exact (allTreesOK_swap x.1).mpr (ih ((allTreesOK_swap s).mpr ht))
  | _ => exact ht

theorem step_treesOK (s : St) (op : Op) (h : AllTreesOK s) : AllTreesOK (step s op).1 :=
  (step_effect s op).treesOK h

theorem revno_addRev_self (g : Graph) (r : Rev) (t : Tree) (hr : r ≠ null) :
    revno (addRev g r t.parents) r = revno g t.basis + 1 := by
  unfold revno addRev Tree.parents
  simp only [hr, if_false]
  by_cases hb : t.basis = null
  · simp [hb, revnoS]
  · have hb' : (t.basis == null) = false := by simpa using hb
    simp [hb, hb', revnoS, Nat.add_comm]

end BreezyVerif.C23
