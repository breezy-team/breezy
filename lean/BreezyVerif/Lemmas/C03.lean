import BreezyVerif.Model.C03Stacked
import BreezyVerif.Lemmas.C33
import BreezyVerif.Lemmas.Lib.AList
/-
C03 — helper lemmas: association lists, the ancestry walk, the revision search.
-/
namespace BreezyVerif.C03
open Lib

open BreezyVerif.C33 (PMap parentsOf parentsL bfs Reach)

section Assoc
variable {α β : Type} [DecidableEq α]

theorem get_eq_lookup (a : List (α × β)) (k : α) : get a k = a.lookup k :=
  lookup_of_eqns (fun _ => rfl) (fun _ _ _ _ => rfl) a k

theorem get_append_some {a b : List (α × β)} {k : α} {v : β} (h : get a k = some v) :
    get (a ++ b) k = some v := by
  rw [get_eq_lookup] at h ⊢
  rw [List.lookup_append, h]; rfl

theorem get_append_none {a b : List (α × β)} {k : α} (h : get a k = none) :
    get (a ++ b) k = get b k := by
  rw [get_eq_lookup] at h ⊢
  rw [List.lookup_append, h, get_eq_lookup]; rfl

theorem get_mem {a : List (α × β)} {k : α} {v : β} (h : get a k = some v) : (k, v) ∈ a :=
  mem_of_lookup (get_eq_lookup a k ▸ h)

theorem get_isSome_of_mem {a : List (α × β)} {k : α} {v : β} (h : (k, v) ∈ a) : (get a k).isSome = true :=
  get_eq_lookup a k ▸ lookup_isSome_iff_keys.mpr (List.mem_map_of_mem (f := (·.1)) h)
theorem get_filterMap_keyed (f : α → Option β) (l : List α) (k : α) :
    get (l.filterMap fun x => (f x).map fun v => (x, v)) k = if k ∈ l then f k else none := by
  rw [get_eq_lookup, lookup_filterMap_keyed]

end Assoc

theorem parentsOf_graph (r : Repo) (k : Rev) :
    parentsOf (graph r) k = (get r.revs k).map (·.parents) := by
  unfold graph
  induction r.revs with
  | nil => rfl
  | cons x xs ih =>
    obtain ⟨k', v⟩ := x
    simp only [List.map_cons, parentsOf, get]
    split <;> simp_all

theorem parentsOf_graph_some {r : Repo} {k : Rev} {ps : List Rev} (h : parentsOf (graph r) k = some ps) :
    ∃ rec, get r.revs k = some rec ∧ rec.parents = ps := by
  rw [parentsOf_graph] at h
  exact Option.map_eq_some_iff.mp h

theorem hasRev_iff (r : Repo) (k : Rev) : hasRev r k = true ↔ ∃ rec, get r.revs k = some rec := by
  unfold hasRev
  cases get r.revs k <;> simp

theorem hasRev_union (st fb : Repo) (k : Rev) : hasRev (unionRepo st fb) k = (hasRev st k || hasRev fb k) := by
  unfold hasRev unionRepo
  cases h : get st.revs k with
  | some v => simp [get_append_some h]
  | none => simp [get_append_none h]

/-- `t'` holds every record `t` holds, unchanged -/
def Extends (t t' : Repo) : Prop :=
  (∀ k v, get t.revs k = some v → get t'.revs k = some v) ∧
  (∀ k v, get t.invs k = some v → get t'.invs k = some v) ∧
  (∀ k v, get t.texts k = some v → get t'.texts k = some v)

namespace Extends

theorem trans {a b c : Repo} (h1 : Extends a b) (h2 : Extends b c) : Extends a c :=
  ⟨fun k v h => h2.1 k v (h1.1 k v h), fun k v h => h2.2.1 k v (h1.2.1 k v h),
    fun k v h => h2.2.2 k v (h1.2.2 k v h)⟩

theorem hasRev {t t' : Repo} (h : Extends t t') {k : Rev} (hk : hasRev t k = true) : hasRev t' k = true := by
  obtain ⟨v, hv⟩ := (hasRev_iff ..).mp hk
  exact (hasRev_iff ..).mpr ⟨v, h.1 k v hv⟩

end Extends

theorem mem_reach (g : PMap) (start : List Rev) (k : Rev) :
    k ∈ reach g start ↔ Reach g [] start k := by
  obtain ⟨s, hs, hinv⟩ := C33.bfs_inv g start []
  unfold reach
  rw [hs]
  exact (C33.inv_final hinv).2 k

theorem reach_mono {g : PMap} {s s' : List Rev} (h : ∀ k ∈ s, k ∈ s') {k : Rev}
    (hr : Reach g [] s k) : Reach g [] s' k := by
  induction hr with
  | base hk => exact Reach.base (h _ hk)
  | step _ hns hps hk ih => exact Reach.step ih hns hps hk

theorem reach_trans {g : PMap} {s : List Rev} {j k : Rev}
    (hj : Reach g [] s j) (hk : Reach g [] [j] k) : Reach g [] s k := by
  induction hk with
  | base hk => simp at hk; subst hk; exact hj
  | step _ hns hps hk ih => exact Reach.step ih hns hps hk

theorem mem_anc (src : Repo) (rev k : Rev) :
    k ∈ anc src rev ↔ Reach (graph src) [] [rev] k ∧ hasRev src k = true := by
  unfold anc
  simp [List.mem_filter, mem_reach]

theorem rev_mem_anc {src : Repo} {rev : Rev} (h : hasRev src rev = true) : rev ∈ anc src rev :=
  (mem_anc src rev rev).mpr ⟨Reach.base (by simp), h⟩

theorem parent_mem_anc {src : Repo} {rev m p : Rev} {rec : RevRec} (hm : m ∈ anc src rev)
    (hrec : get src.revs m = some rec) (hp : p ∈ rec.parents) (hps : hasRev src p = true) :
    p ∈ anc src rev := by
  rw [mem_anc] at hm ⊢
  refine ⟨Reach.step hm.1 (by simp) ?_ hp, hps⟩
  rw [parentsOf_graph, hrec]; rfl

theorem mem_parentsL_graph {src : Repo} {m p : Rev} :
    p ∈ parentsL (graph src) m ↔ ∃ rec, get src.revs m = some rec ∧ p ∈ rec.parents := by
  unfold parentsL
  rw [parentsOf_graph]
  cases get src.revs m <;> simp

theorem mem_missing_true (src tgt : Repo) (rev k : Rev) :
    k ∈ missing true src tgt rev ↔ k ∈ anc src rev ∧ hasRev tgt k = false := by
  simp [missing, List.mem_filter]

theorem mem_missing_false (src tgt : Repo) (rev k : Rev) :
    k ∈ missing false src tgt rev ↔
      k ∈ anc src rev ∧ ¬ Reach (graph src) [] ((anc src rev).filter (hasRev tgt)) k := by
  simp [missing, List.mem_filter, mem_reach]

theorem missing_sub_anc {fg : Bool} {src tgt : Repo} {rev k : Rev} (h : k ∈ missing fg src tgt rev) :
    k ∈ anc src rev := by
  cases fg
  · exact ((mem_missing_false ..).mp h).1
  · exact ((mem_missing_true ..).mp h).1

theorem missing_not_in_target {fg : Bool} {src tgt : Repo} {rev k : Rev} (h : k ∈ missing fg src tgt rev) :
    hasRev tgt k = false := by
  cases fg
  · have h' := (mem_missing_false ..).mp h
    cases ht : hasRev tgt k with
    | false => rfl
    | true =>
      exact absurd (Reach.base (List.mem_filter.mpr ⟨h'.1, ht⟩)) h'.2
  · exact ((mem_missing_true ..).mp h).2

theorem closed_iff {tgt src : Repo} : closed tgt src = true ↔
    ∀ k rec, (k, rec) ∈ src.revs → hasRev tgt k = true →
      ∀ p ∈ rec.parents, hasRev src p = true → hasRev tgt p = true := by
  unfold closed
  rw [List.all_eq_true]
  refine ⟨fun h k rec hm ht p hp hps => ?_, fun h kv hm => ?_⟩
  · have := h (k, rec) hm
    rw [ht, Bool.not_true, Bool.false_or, List.all_eq_true] at this
    simpa [hps] using this p hp
  · cases ht : hasRev tgt kv.1 with
    | false => rfl
    | true =>
      rw [Bool.not_true, Bool.false_or, List.all_eq_true]
      intro p hp
      cases hps : hasRev src p with
      | false => rfl
      | true => rw [h kv.1 kv.2 hm ht p hp hps]; rfl

theorem closed_parent {tgt src : Repo} (hc : closed tgt src = true) {k p : Rev} {rec : RevRec}
    (hrec : get src.revs k = some rec) (ht : hasRev tgt k = true) (hp : p ∈ rec.parents)
    (hps : hasRev src p = true) : hasRev tgt p = true :=
  closed_iff.mp hc k rec (get_mem hrec) ht p hp hps

/-- in a closed target, everything source-present behind revisions the target has is in the target -/
theorem closed_reach {tgt src : Repo} (hc : closed tgt src = true) {start : List Rev}
    (hstart : ∀ k ∈ start, hasRev tgt k = true) {k : Rev}
    (hr : Reach (graph src) [] start k) : hasRev src k = true → hasRev tgt k = true := by
  induction hr with
  | base hk => exact fun _ => hstart _ hk
  | @step j k ps _ _ hps hk ih =>
    intro hsk
    obtain ⟨rec, hrec, rfl⟩ := parentsOf_graph_some hps
    exact closed_parent hc hrec (ih ((hasRev_iff ..).mpr ⟨rec, hrec⟩)) hk hsk

/-- a member of the ancestry is sent or lies behind (or is) a revision the target has -/
theorem anc_cases {fg : Bool} {src tgt : Repo} {rev k : Rev} (hk : k ∈ anc src rev) :
    k ∈ missing fg src tgt rev ∨
      (fg = true ∧ hasRev tgt k = true) ∨
      (fg = false ∧ Reach (graph src) [] ((anc src rev).filter (hasRev tgt)) k) := by
  cases fg
  · by_cases hr : Reach (graph src) [] ((anc src rev).filter (hasRev tgt)) k
    · exact Or.inr (Or.inr ⟨rfl, hr⟩)
    · exact Or.inl ((mem_missing_false ..).mpr ⟨hk, hr⟩)
  · cases ht : hasRev tgt k
    · exact Or.inl ((mem_missing_true ..).mpr ⟨hk, ht⟩)
    · exact Or.inr (Or.inl ⟨rfl, rfl⟩)

/-- under closure (or with find_ghosts) "behind a revision the target has" means "in the target" -/
theorem held_of_behind {fg : Bool} {src tgt : Repo} (hc : fg = true ∨ closed tgt src = true) {rev k : Rev}
    (hk : k ∈ anc src rev)
    (h : (fg = true ∧ hasRev tgt k = true) ∨
      (fg = false ∧ Reach (graph src) [] ((anc src rev).filter (hasRev tgt)) k)) : hasRev tgt k = true := by
  rcases h with ⟨_, h⟩ | ⟨hfg, h⟩
  · exact h
  · rcases hc with hc | hc
    · rw [hfg] at hc
      cases hc
    · exact closed_reach hc (fun k hk => (List.mem_filter.mp hk).2) h ((mem_anc ..).mp hk).2

theorem anc_cases_closed {fg : Bool} {src tgt : Repo} (hc : fg = true ∨ closed tgt src = true)
    {rev k : Rev} (hk : k ∈ anc src rev) :
    k ∈ missing fg src tgt rev ∨ hasRev tgt k = true :=
  (anc_cases hk).imp_right (held_of_behind hc hk)

theorem mem_keyed_filterMap {α β : Type} {f : α → Option β} {l : List α} {k : α} {v : β}
    (h : (k, v) ∈ l.filterMap fun a => (f a).map fun b => (a, b)) : k ∈ l ∧ f k = some v := by
  obtain ⟨a, ha, hv⟩ := List.mem_filterMap.mp h
  cases hf : f a with
  | none => simp [hf] at hv
  | some b =>
    simp only [hf, Option.map_some, Option.some.injEq, Prod.mk.injEq] at hv
    obtain ⟨h1, h2⟩ := hv
    subst h1 h2
    exact ⟨ha, hf⟩

theorem get_filterMap_keyOf {ε κ β : Type} [DecidableEq κ] (key : ε → κ) (f : κ → Option β) (l : List ε) (k : κ) :
    get (l.filterMap fun e => (f (key e)).map fun v => (key e, v)) k =
      if k ∈ l.map key then f k else none := by
  have : (l.filterMap fun e => (f (key e)).map fun v => (key e, v)) =
      (l.map key).filterMap fun x => (f x).map fun v => (x, v) := by
    rw [List.filterMap_map]; rfl
  rw [this, get_filterMap_keyed]

theorem streamable_eq_streamableE (x : Exclusion) (src : Repo) (m : List Rev) :
    streamable x src m = streamableE src m (streamEntries x src m) := rfl

theorem copyE_revs_get (src tgt : Repo) (m : List Rev) (es : List Entry) (k : Rev) :
    get (copyE src tgt m es).revs k =
      match get tgt.revs k with
      | some v => some v
      | none => if k ∈ m then get src.revs k else none := by
  unfold copyE
  cases h : get tgt.revs k with
  | some v => exact get_append_some h
  | none => simp only [get_append_none h, get_filterMap_keyed]

theorem copyE_invs_get (src tgt : Repo) (m : List Rev) (es : List Entry) (k : Rev) :
    get (copyE src tgt m es).invs k =
      match get tgt.invs k with
      | some v => some v
      | none => if k ∈ m then get src.invs k else none := by
  unfold copyE
  cases h : get tgt.invs k with
  | some v => exact get_append_some h
  | none => simp only [get_append_none h, get_filterMap_keyed]

theorem copyMap_get {β : Type} (sm tm : List (TextKey × β)) (es : List Entry) (k : TextKey) :
    get (copyMap sm tm es) k =
      match get tm k with
      | some v => some v
      | none => if k ∈ es.map Entry.key then get sm k else none := by
  unfold copyMap
  cases h : get tm k with
  | some v => exact get_append_some h
  | none =>
    rw [get_append_none h]
    have := get_filterMap_keyOf Entry.key (get sm) es k
    by_cases hk : k ∈ es.map Entry.key
    · rw [if_pos hk] at this ⊢; exact this
    · rw [if_neg hk] at this ⊢; exact this

theorem streamableE_inv {src : Repo} {m : List Rev} {es : List Entry} (h : streamableE src m es = true)
    {k : Rev} (hk : k ∈ m) : ∃ i, get src.invs k = some i := by
  unfold streamableE at h
  simp only [Bool.and_eq_true, List.all_eq_true] at h
  exact Option.isSome_iff_exists.mp (h.1 k hk)

theorem streamableE_text {src : Repo} {m : List Rev} {es : List Entry} (h : streamableE src m es = true)
    {e : Entry} (he : e ∈ es) : ∃ c, get src.texts e.key = some c := by
  unfold streamableE at h
  simp only [Bool.and_eq_true, List.all_eq_true] at h
  exact Option.isSome_iff_exists.mp (h.2 e he)

theorem agreeOn_iff {α β : Type} [DecidableEq α] [DecidableEq β] {a b : List (α × β)} :
    agreeOn a b = true ↔ ∀ k v, (k, v) ∈ b → ∀ v', get a k = some v' → v' = v := by
  unfold agreeOn
  rw [List.all_eq_true]
  refine ⟨fun h k v hm v' ha => ?_, fun h kv hm => ?_⟩
  · simpa only [ha, decide_eq_true_eq] using h (k, v) hm
  · cases hg : get a kv.1 with
    | none => rfl
    | some v' => exact decide_eq_true (h kv.1 kv.2 hm v' hg)

theorem agreeOn_eq {α β : Type} [DecidableEq α] [DecidableEq β] {a b : List (α × β)}
    (h : agreeOn a b = true) {k : α} {v w : β} (hb : get b k = some w) (ha : get a k = some v) : v = w :=
  agreeOn_iff.mp h k w (get_mem hb) v ha

theorem agree_revs {src tgt : Repo} (h : agree src tgt = true) : agreeOn src.revs tgt.revs = true := by
  unfold agree at h; simp only [Bool.and_eq_true] at h; exact h.1.1
theorem agree_invs {src tgt : Repo} (h : agree src tgt = true) : agreeOn src.invs tgt.invs = true := by
  unfold agree at h; simp only [Bool.and_eq_true] at h; exact h.1.2
theorem agree_texts {src tgt : Repo} (h : agree src tgt = true) : agreeOn src.texts tgt.texts = true := by
  unfold agree at h; simp only [Bool.and_eq_true] at h; exact h.2

theorem complete_inv {r : Repo} (h : complete r = true) {k : Rev} {rec : RevRec}
    (hk : get r.revs k = some rec) :
    ∃ inv, get r.invs k = some inv ∧ ∀ e ∈ inv, ∃ c, get r.texts e.key = some c := by
  unfold complete at h
  have := List.all_eq_true.mp h (k, rec) (get_mem hk)
  cases hi : get r.invs k with
  | none => simp [hi] at this
  | some inv =>
    simp only [hi, List.all_eq_true] at this
    refine ⟨inv, rfl, fun e he => ?_⟩
    have := this e he
    cases ht : get r.texts e.key with
    | none => simp [ht] at this
    | some c => exact ⟨c, rfl⟩

theorem complete_intro {r : Repo}
    (h : ∀ k rec, (k, rec) ∈ r.revs →
      ∃ inv, get r.invs k = some inv ∧ ∀ e ∈ inv, ∃ c, get r.texts e.key = some c) :
    complete r = true := by
  unfold complete
  rw [List.all_eq_true]
  intro kv hm
  obtain ⟨inv, hi, htexts⟩ := h kv.1 kv.2 hm
  rw [hi, List.all_eq_true]
  intro e he
  obtain ⟨c, hc⟩ := htexts e he
  rw [hc]
  rfl

theorem acyclicBy_lt {d : Rev → Nat} {r : Repo} (h : acyclicBy d r = true) {k p : Rev} {rec : RevRec}
    (hrec : get r.revs k = some rec) (hp : p ∈ rec.parents) : d p < d k := by
  unfold acyclicBy at h
  exact of_decide_eq_true (List.all_eq_true.mp (List.all_eq_true.mp h (k, rec) (get_mem hrec)) p hp)

theorem noOrphan_rev {r : Repo} (h : noOrphanInv r = true) {k : Rev} {i : Inv}
    (hi : get r.invs k = some i) : hasRev r k = true := by
  unfold noOrphanInv at h
  exact List.all_eq_true.mp h (k, i) (get_mem hi)

theorem mem_invOrEmpty {r : Repo} {p : Rev} {e : Entry} (h : e ∈ invOrEmpty r p) :
    ∃ i, get r.invs p = some i ∧ e ∈ i := by
  unfold invOrEmpty at h
  cases hi : get r.invs p with
  | none => simp [hi] at h
  | some i => simp only [hi] at h; exact ⟨i, rfl, h⟩

theorem invOrEmpty_of_get {r : Repo} {p : Rev} {i : Inv} (h : get r.invs p = some i) : invOrEmpty r p = i := by
  unfold invOrEmpty; rw [h]

theorem mem_boundary {src : Repo} {m : List Rev} {p : Rev} :
    p ∈ boundary src m ↔ (∃ k ∈ m, ∃ rec, get src.revs k = some rec ∧ p ∈ rec.parents) ∧ p ∉ m := by
  simp only [boundary, List.mem_filter, List.mem_flatMap, mem_parentsL_graph, Bool.not_eq_true',
    decide_eq_false_iff_not]

theorem mem_streamEntries {x : Exclusion} {src : Repo} {m : List Rev} {e : Entry} :
    e ∈ streamEntries x src m ↔ (∃ k ∈ m, e ∈ invOrEmpty src k) ∧ e ∉ excluded x src m := by
  simp only [streamEntries, List.mem_filter, List.mem_flatMap, Bool.not_eq_true', decide_eq_false_iff_not]

end BreezyVerif.C03
