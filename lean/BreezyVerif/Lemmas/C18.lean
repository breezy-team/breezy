import BreezyVerif.Model.C18
/-!
C18 — `_three_way` in closed form: which side wins (one iff per verdict), and the value that
`winner_idx` then selects.  The per-attribute decisions of C15, C17 and C19 read their facts here.
-/
namespace BreezyVerif.C18
variable {α : Type} [DecidableEq α]

theorem three_way_eq_this (b o t : α) : threeWay b o t = .this ↔ o = b ∨ t = o := by
  unfold threeWay; grind

theorem three_way_eq_other (b o t : α) : threeWay b o t = .other ↔ o ≠ b ∧ t = b := by
  unfold threeWay; grind

theorem three_way_conflict_iff (b o t : α) : threeWay b o t = .conflict ↔ b ≠ o ∧ t ≠ b ∧ t ≠ o := by
  unfold threeWay; grind

theorem three_way_some (b o t : α) : threeWay (some b) (some o) (some t) = threeWay b o t := by
  simp [threeWay]

/-- `winner_idx = {"this": 2, "other": 1, "conflict": 1}` of `merge.py` applied to `(base, other, this)` -/
def Winner.pick {β : Type} (w : Winner) (other this : β) : β :=
  match w with
  | .this => this
  | .other => other
  | .conflict => other

/-- whatever the verdict, the value taken is THIS's where OTHER kept BASE's and OTHER's otherwise -/
theorem pick_three_way (b o t : α) : (threeWay b o t).pick o t = if o = b then t else o := by
  unfold threeWay Winner.pick; grind

/-- the same for two present values over a BASE that may be absent (`_merge_names` of an added file) -/
theorem pick_three_way_some (b : Option α) (o t : α) :
    (threeWay b (some o) (some t)).pick o t = if b = some o then t else o := by
  unfold threeWay Winner.pick; grind

end BreezyVerif.C18
