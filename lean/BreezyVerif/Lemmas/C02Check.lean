import BreezyVerif.Lemmas.C02Inv
/-
C02: what one commit records for a file id and which texts it stores
(`recorded_cases`, `mkRec_texts_eq`); the stored per-file parents are the heads
recomputed on the final repository; the checker's expected index equals the
stored text graph.
-/
namespace BreezyVerif.C02

/-- a carried-over entry does not name the new revision -/
theorem carried_rev_ne {st : State} (w : WF st) {c : Commit} (hid : c.id ∉ ids st)
    {f : FileId} {x : Rev} {pe : Entry} (hw : entryWithRev st c.parents f x = some pe) :
    pe.rev ≠ c.id := by
  obtain ⟨_, p, _, he⟩ := entryWithRev_some hw
  obtain ⟨r, hr, _, hl⟩ := entryIn_mem he
  intro e
  exact hid (e ▸ w.revs r hr f pe hl)

/-- **What a commit records for a file id.**  Either the entry is the one a parent holds under the
single head (then it names an older revision, under which the repository holds it), or it names
the commit, the heads are stored as its text parents, and no single head holds the committed
attributes. -/
theorem recorded_cases {st : State} (w : WF st) {c : Commit} (hid : c.id ∉ ids st)
    {f : FileId} {e : Entry} (hl : (mkRec st c).inv.lookup f = some e) :
    (e.rev ≠ c.id ∧ heads (textsOf st) f (candidates st c.parents f) = [e.rev] ∧
        entryIn st f e.rev = some e ∧ ∃ q ∈ c.parents, entryIn st f q = some e) ∨
    (e.rev = c.id ∧ c.tree.lookup f = some e.attr ∧
      (recordOne st c f e.attr).2 = some (heads (textsOf st) f (candidates st c.parents f)) ∧
      ¬ ∃ x, heads (textsOf st) f (candidates st c.parents f) = [x] ∧
        (entryIn st f x).map (·.attr) = some e.attr) := by
  obtain ⟨a, ha, he⟩ := mkRec_entry hl
  have hattr : e.attr = a := by rw [he]; exact recordOne_attr _ _ _ _
  -- what `entryWithRev` finds under `x` is what the repository holds for `f` in revision `x`
  have snd : ∀ x pe, entryWithRev st c.parents f x = some pe → entryIn st f x = some pe := by
    intro x pe hw
    obtain ⟨hx, p, _, hep⟩ := entryWithRev_some hw
    obtain ⟨r, hr, _, hlr⟩ := entryIn_mem hep
    exact hx ▸ w.sound r hr f pe hlr
  rcases recordOne_cases st c f a with ⟨x, pe, hx, hw, _, hrec⟩ | ⟨hrec, hno⟩
  · obtain rfl : e = pe := by rw [he, hrec]
    obtain ⟨rfl, q, hq, hqe⟩ := entryWithRev_some hw
    exact .inl ⟨carried_rev_ne w hid hw, hx, snd _ _ hw, q, hq, hqe⟩
  · refine .inr ⟨by rw [he, hrec], hattr ▸ ha, by rw [hattr, hrec], ?_⟩
    rintro ⟨x, hx, hxa⟩
    obtain ⟨pe, hw⟩ := entryWithRev_isSome
      (heads_subset (g := textsOf st) (hx ▸ List.mem_singleton.mpr rfl))
    rw [snd x pe hw] at hxa
    exact hno ⟨x, pe, hx, hw, (carryTest_iff _ _).mpr ((Option.some.inj hxa).trans hattr)⟩

/-- per tree item: no new text and an older last-changed revision, or a new
text `(f, c.id)` whose parents are the heads -/
theorem recordOne_dichotomy {st : State} (w : WF st) {c : Commit} (hid : c.id ∉ ids st)
    (f : FileId) (a : Attr) :
    ((recordOne st c f a).2 = none ∧ (recordOne st c f a).1.rev ≠ c.id) ∨
    ((recordOne st c f a).2 = some (heads (textsOf st) f (candidates st c.parents f)) ∧
      (recordOne st c f a).1.rev = c.id) := by
  rcases recordOne_cases st c f a with ⟨x, pe, _, hw, _, hrec⟩ | ⟨hrec, _⟩
  · left; rw [hrec]; exact ⟨rfl, carried_rev_ne w hid hw⟩
  · right; rw [hrec]; exact ⟨rfl, rfl⟩

theorem filter_map_eq_filterMap (l : Tree) (R : FileId → Attr → Entry × Option (List Rev))
    (H : FileId → List Rev) (cid : Rev)
    (hd : ∀ t ∈ l, ((R t.1 t.2).2 = none ∧ (R t.1 t.2).1.rev ≠ cid) ∨
      ((R t.1 t.2).2 = some (H t.1) ∧ (R t.1 t.2).1.rev = cid)) :
    (l.filterMap fun t => (R t.1 t.2).2.map fun ps => (t.1, ps))
      = ((l.map fun t => (t.1, (R t.1 t.2).1)).filter fun t => t.2.rev == cid).map
        fun t => (t.1, H t.1) := by
  induction l with
  | nil => rfl
  | cons t l ih =>
    have ih' := ih fun u hu => hd u (List.mem_cons_of_mem _ hu)
    rcases hd t List.mem_cons_self with ⟨h1, h2⟩ | ⟨h1, h2⟩
    · have : ((R t.1 t.2).1.rev == cid) = false := by simp [h2]
      simp only [List.map_cons, List.filter_cons, this, List.filterMap_cons, h1, Option.map_none]
      exact ih'
    · have : ((R t.1 t.2).1.rev == cid) = true := by simp [h2]
      simp only [List.map_cons, List.filter_cons, this, List.filterMap_cons, h1, Option.map_some,
        if_true]
      rw [ih']

/-- the texts a commit stores are determined by its inventory: one per entry that names the
commit, with the heads as parents -/
theorem mkRec_texts_eq {st : State} (w : WF st) {c : Commit} (hid : c.id ∉ ids st) :
    (mkRec st c).texts = ((mkRec st c).inv.filter fun t => t.2.rev == c.id).map fun t =>
      (t.1, heads (textsOf st) t.1 (candidates st c.parents t.1)) :=
  filter_map_eq_filterMap c.tree (recordOne st c)
    (fun f => heads (textsOf st) f (candidates st c.parents f)) c.id
    fun t _ => recordOne_dichotomy w hid t.1 t.2

theorem mkRec_texts_mem {st : State} (w : WF st) {c : Commit} (hid : c.id ∉ ids st)
    {t : FileId × List Rev} (h : t ∈ (mkRec st c).texts) :
    t.2 = heads (textsOf st) t.1 (candidates st c.parents t.1) ∧
      ∃ e, (t.1, e) ∈ (mkRec st c).inv ∧ e.rev = c.id := by
  rw [mkRec_texts_eq w hid] at h
  obtain ⟨u, hu, rfl⟩ := List.mem_map.mp h
  obtain ⟨hu1, hu2⟩ := List.mem_filter.mp hu
  exact ⟨rfl, u.2, hu1, by simpa using hu2⟩

/-- one step of `perfile_parents_are_heads` -/
theorem parents_heads_step {st : State} (w : WF st) {c : Commit} (ok : okCommit st c)
    (P : ∀ r ∈ st, ∀ t ∈ r.texts,
      t.2 = heads (textsOf st) t.1 (candidates st r.parents t.1)) :
    ∀ r ∈ record st c, ∀ t ∈ r.texts,
      t.2 = heads (textsOf (record st c)) t.1 (candidates (record st c) r.parents t.1) := by
  intro r hr t ht
  show t.2 = heads (textsOf (mkRec st c :: st)) t.1 (candidates (mkRec st c :: st) r.parents t.1)
  have hid : c.id ∉ ids st := fun h => ok.1 (id_mem_mentioned h)
  rcases List.mem_cons.mp hr with h | h
  · subst h
    show t.2 = heads (textsOf (mkRec st c :: st)) t.1 (candidates (mkRec st c :: st) c.parents t.1)
    rw [heads_stable w (mkRec st c) hid _ fun p hp (e : p = c.id) => ok.2.1 (e ▸ hp)]
    exact (mkRec_texts_mem w hid ht).1
  · rw [heads_stable w (mkRec st c) hid _ fun p hp (e : p = c.id) =>
      ok.1 (e ▸ parent_mem_mentioned h hp)]
    exact P r h t ht

theorem parents_heads_build : ∀ (h : List Commit), hist h →
    ∀ r ∈ build h, ∀ t ∈ r.texts,
      t.2 = heads (textsOf (build h)) t.1 (candidates (build h) r.parents t.1)
  | [], _ => by simp [build]
  | _ :: older, hh =>
    parents_heads_step (build_WF older hh.1) hh.2 (parents_heads_build older hh.1)

theorem nodup_append_right_not_left {l1 l2 : List Nat} (h : (l1 ++ l2).Nodup) {x : Nat}
    (hx : x ∈ l2) : x ∉ l1 := by
  intro h1
  have := (List.nodup_append.mp h).2.2 x h1 x hx
  exact this rfl

theorem ids_append (a b : State) : ids (a ++ b) = ids a ++ ids b := by simp [ids]

theorem mentioned_cons_of_mem {r : Rec} {st : State} {x : Rev} (h : x ∈ mentioned st) :
    x ∈ mentioned (r :: st) := by
  simp only [mentioned, ids, List.map_cons, List.flatMap_cons, List.mem_append, List.mem_cons,
    List.mem_map, List.mem_flatMap] at h ⊢
  rcases h with h | h
  · exact Or.inl (Or.inr h)
  · exact Or.inr (Or.inr h)

/-- `_do_generate_text_key_index` reproduces the stored per-file graph, key by
key and in the same order; ghost parents are skipped on both sides (`invOf` is
`none` for them in `full` as it was at commit time, because no later revision
takes a named id) -/
theorem expIndexAux_build : ∀ (h : List Commit), hist h → ∀ (pre : State),
    (∀ x ∈ ids pre, x ∉ mentioned (build h)) →
    expIndexAux (pre ++ build h) (build h) = textsOf (build h)
  | [], _, _, _ => rfl
  | c :: older, hh, pre, hn => by
    have w := build_WF older hh.1
    obtain ⟨hment, hself, _⟩ := hh.2
    have hid : c.id ∉ ids (build older) := fun h => hment (id_mem_mentioned h)
    show expIndexAux (pre ++ (mkRec (build older) c :: build older))
      (mkRec (build older) c :: build older) = textsOf (mkRec (build older) c :: build older)
    have hfull : pre ++ (mkRec (build older) c :: build older)
        = (pre ++ [mkRec (build older) c]) ++ build older := by simp
    have hn' : ∀ x ∈ ids (pre ++ [mkRec (build older) c]), x ∉ mentioned (build older) := by
      intro x hx hm
      rw [ids_append] at hx
      rcases List.mem_append.mp hx with h1 | h1
      · exact hn x h1 (mentioned_cons_of_mem hm)
      · simp only [ids, List.map_cons, List.map_nil, List.mem_singleton] at h1
        have h1' : x = c.id := h1
        exact hment (h1' ▸ hm)
    have ih := expIndexAux_build older hh.1 (pre ++ [mkRec (build older) c]) hn'
    rw [textsOf_cons]
    simp only [expIndexAux]
    rw [hfull, ih]
    congr 1
    have hc : ∀ f, candidates ((pre ++ [mkRec (build older) c]) ++ build older) c.parents f
        = candidates (build older) c.parents f := fun f =>
      candidates_append _ _ _ _ fun p hp hx => by
        rw [ids_append] at hx
        rcases List.mem_append.mp hx with h1 | h1
        · exact hn p h1 (parent_mem_mentioned (r := mkRec (build older) c) List.mem_cons_self hp)
        · simp only [ids, List.map_cons, List.map_nil, List.mem_singleton] at h1
          have h1' : p = c.id := h1
          exact hself (h1' ▸ hp)
    rw [mkRec_texts_eq w hid, List.map_map]
    exact List.map_congr_left fun t _ => by rw [Function.comp_apply, ← hc]; rfl

theorem expIndex_build (h : List Commit) (hh : hist h) :
    expIndex (build h) = textsOf (build h) := by
  have := expIndexAux_build h hh [] (by simp [ids])
  simpa [expIndex] using this

theorem filterMap_keys_sublist (l : Tree) (R : FileId → Attr → Option (List Rev)) :
    ((l.filterMap fun t => (R t.1 t.2).map fun ps => (t.1, ps)).map (·.1)).Sublist (l.map (·.1)) := by
  induction l with
  | nil => simp
  | cons t l ih =>
    simp only [List.filterMap_cons, List.map_cons]
    cases h : R t.1 t.2 with
    | none => simp only [Option.map_none]; exact List.Sublist.cons _ ih
    | some ps => simp only [Option.map_some, List.map_cons]; exact List.Sublist.cons_cons _ ih

theorem nodup_map_pair {l : List Nat} (cid : Nat) (h : l.Nodup) :
    (l.map fun f => (f, cid)).Nodup := by
  induction l with
  | nil => simp
  | cons a l ih =>
    simp only [List.nodup_cons] at h
    simp only [List.map_cons, List.nodup_cons, List.mem_map, not_exists, not_and]
    refine ⟨fun x hx e => ?_, ih h.2⟩
    simp only [Prod.mk.injEq, and_true] at e
    exact h.1 (e ▸ hx)

theorem textKeys_nodup : ∀ (h : List Commit), hist h → ((textsOf (build h)).map (·.1)).Nodup
  | [], _ => by simp [build, textsOf]
  | c :: older, hh => by
    have ih := textKeys_nodup older hh.1
    obtain ⟨hment, _, hnd⟩ := hh.2
    have hid : c.id ∉ ids (build older) := fun h => hment (id_mem_mentioned h)
    show ((textsOf (mkRec (build older) c :: build older)).map (·.1)).Nodup
    rw [textsOf_cons, List.map_append, List.nodup_append]
    refine ⟨?_, ih, ?_⟩
    · have hs := filterMap_keys_sublist c.tree (fun f a => (recordOne (build older) c f a).2)
      have : (((mkRec (build older) c).texts.map fun t => ((t.1, (mkRec (build older) c).id), t.2)).map (·.1))
          = ((mkRec (build older) c).texts.map (·.1)).map fun f => (f, c.id) := by
        simp [List.map_map, Function.comp_def, mkRec]
      rw [this]
      exact nodup_map_pair c.id (hnd.sublist hs)
    · intro k hk k' hk' e
      subst e
      simp only [List.mem_map] at hk hk'
      obtain ⟨⟨k1, ps1⟩, h1, e1⟩ := hk
      obtain ⟨⟨k2, ps2⟩, h2, e2⟩ := hk'
      obtain ⟨t, _, ht⟩ := h1
      have hk2 := textsOf_key_mem h2
      simp only at e1 e2
      have : k2 = (t.1, c.id) := by
        rw [e2, ← e1]
        have := congrArg Prod.fst ht
        simpa [mkRec] using this.symm
      rw [this] at hk2
      exact hid hk2

theorem inv_keys_nodup : ∀ (h : List Commit), hist h → ∀ r ∈ build h, (r.inv.map (·.1)).Nodup
  | [], _ => by simp [build]
  | c :: older, hh => by
    intro r hr
    rcases List.mem_cons.mp hr with h | h
    · subst h
      have : ((mkRec (build older) c).inv.map (·.1)) = c.tree.map (·.1) := by
        simp [mkRec, List.map_map, Function.comp_def]
      rw [this]; exact hh.2.2.2
    · exact inv_keys_nodup older hh.1 r h

end BreezyVerif.C02
