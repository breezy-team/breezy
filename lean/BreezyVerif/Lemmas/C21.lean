import BreezyVerif.Model.C21
import BreezyVerif.Lemmas.Lib.Ancestry
/-! C21 — graph lemmas (shared with C16): ancestry is a partial order on
well-formed graphs; left-hand walks. -/
namespace BreezyVerif.C21

theorem mentioned_cons (n : Rev) (ps : List Rev) (g : Graph) :
    mentioned ((n, ps) :: g) = n :: ps ++ mentioned g := by
  simp [mentioned]

theorem wf_cons {n : Rev} {ps : List Rev} {g : Graph} (h : wf ((n, ps) :: g) = true) :
    n ∉ ps ∧ n ∉ mentioned g ∧ wf g = true := by
  simp [wf] at h
  exact ⟨h.1.1, h.1.2, h.2⟩

theorem anc_eq (g : Graph) (r : Rev) : anc g r = Lib.anc g r := by
  induction g generalizing r with
  | nil => rfl
  | cons e g ih => simp only [anc, Lib.anc, ih]

theorem fresh_of_wf {g : Graph} (hwf : wf g = true) : Lib.Fresh id g := by
  induction g with
  | nil => trivial
  | cons e g ih =>
    obtain ⟨h1, h2, h3⟩ := wf_cons hwf
    exact ⟨by simpa using h1, by simpa only [Lib.mentioned, mentioned, List.map_id] using h2, ih h3⟩

theorem anc_self (g : Graph) (r : Rev) : r ∈ anc g r :=
  anc_eq g r ▸ Lib.anc_self g r

theorem anc_not_mentioned (g : Graph) (r : Rev) (h : r ∉ mentioned g) : anc g r = [r] := by
  induction g with
  | nil => simp [anc]
  | cons e g ih =>
    obtain ⟨n, ps⟩ := e
    rw [mentioned_cons] at h
    simp only [List.cons_append, List.mem_cons, List.mem_append, not_or] at h
    unfold anc
    have : ¬ n = r := fun e => h.1 e.symm
    simp only [this, if_false]
    exact ih h.2.2

theorem anc_trans (g : Graph) (hwf : wf g = true) (a b c : Rev) (h1 : a ∈ anc g b) (h2 : b ∈ anc g c) :
    a ∈ anc g c := by
  rw [anc_eq] at *
  exact Lib.anc_trans (fresh_of_wf hwf) h1 h2

theorem anc_antisymm (g : Graph) (hwf : wf g = true) (a b : Rev) (h1 : a ∈ anc g b) (h2 : b ∈ anc g a) :
    a = b := by
  rw [anc_eq] at *
  exact Lib.anc_antisymm (fresh_of_wf hwf) h1 h2

/-! ### tips -/

theorem isAnc_some (g : Graph) (a b : Rev) : isAnc g (some a) (some b) = true ↔ a ∈ anc g b := by
  simp [isAnc]

/-! ### left-hand walks -/

/-- What `iter_lefthand_ancestry(r)` visits: the entries met, newest first, and whether the walk stopped at a
ghost (`false` = it reached a revision without parents).  The model's left-hand walks (`lefthand`, `lhChain`,
`lhFind`, C16's `lhNth` and `removedMerges`) each read off a part of it. -/
def lhWalk : Graph → Rev → List (Rev × List Rev) × Bool
  | [], _ => ([], true)
  | (n, ps) :: g, r =>
    if n = r then
      match ps with
      | [] => ([(r, ps)], false)
      | p :: _ => ((r, ps) :: (lhWalk g p).1, (lhWalk g p).2)
    else lhWalk g r

theorem lhWalk_skip {n r : Rev} (ps : List Rev) (g : Graph) (h : ¬ n = r) : lhWalk ((n, ps) :: g) r = lhWalk g r :=
  if_neg h

theorem lhWalk_root (r : Rev) (g : Graph) : lhWalk ((r, []) :: g) r = ([(r, [])], false) :=
  if_pos rfl

theorem lhWalk_step (r p : Rev) (ps : List Rev) (g : Graph) :
    lhWalk ((r, p :: ps) :: g) r = ((r, p :: ps) :: (lhWalk g p).1, (lhWalk g p).2) :=
  if_pos rfl

theorem lhChain_eq (g : Graph) (r : Rev) : lhChain g r = (lhWalk g r).1.map (·.1) := by
  fun_induction lhChain g r with
  | case1 => rfl
  | case2 g r => rw [lhWalk_root]; rfl
  | case3 g r p ps ih => rw [lhWalk_step, ih]; rfl
  | case4 n ps g r hn ih => rw [lhWalk_skip ps g hn, ih]

theorem lefthand_eq (g : Graph) (r : Rev) : lefthand g r =
    if (lhWalk g r).2 then none else some ((lhWalk g r).1.map (·.1)) := by
  fun_induction lefthand g r with
  | case1 => rfl
  | case2 g r => rw [lhWalk_root]; rfl
  | case3 g r p ps ih => rw [lhWalk_step, ih]; cases (lhWalk g p).2 <;> rfl
  | case4 n ps g r hn ih => rw [lhWalk_skip ps g hn, ih]

theorem lhFind_eq (g : Graph) (r t : Rev) : lhFind g r t =
    if t ∈ (lhWalk g r).1.map (·.1) then .found else if (lhWalk g r).2 then .ghost else .exhausted := by
  fun_induction lhFind g r t with
  | case1 => rfl
  | case2 ps g t =>
    rw [if_pos]
    cases ps
    · rw [lhWalk_root]; exact List.mem_cons_self ..
    · rw [lhWalk_step]; exact List.mem_cons_self ..
  | case3 g r t hrt =>
    rw [lhWalk_root, if_neg (by simpa using Ne.symm hrt)]
    rfl
  | case4 g r t hrt p ps ih =>
    rw [lhWalk_step, ih]
    simp only [List.map_cons, List.mem_cons, Ne.symm hrt, false_or]
  | case5 n ps g r t hn ih => rw [lhWalk_skip ps g hn, ih]

/-- the walk visits entries of the graph, in the graph's order -/
theorem lhWalk_sublist (g : Graph) (r : Rev) : (lhWalk g r).1.Sublist g := by
  fun_induction lhWalk g r with
  | case1 => exact .slnil
  | case2 g r => exact (List.nil_sublist g).cons_cons _
  | case3 g r p ps ih => exact ih.cons_cons _
  | case4 n ps g r hn ih => exact ih.cons _

theorem lhWalk_mentioned {g : Graph} {r : Rev} {e : Rev × List Rev} (h : e ∈ (lhWalk g r).1) : e.1 ∈ mentioned g :=
  List.mem_flatMap.mpr ⟨e, (lhWalk_sublist g r).subset h, List.mem_cons_self ..⟩

/-- a revision met on a left-hand walk through the older entries is looked up among them -/
theorem lhWalk_older {n : Rev} {ps : List Rev} {g : Graph} (hwf : wf ((n, ps) :: g) = true) {q : Rev}
    {pre rest : List (Rev × List Rev)} {e : Rev × List Rev} (h : (lhWalk g q).1 = pre ++ e :: rest) :
    lhWalk ((n, ps) :: g) e.1 = lhWalk g e.1 :=
  lhWalk_skip ps g fun hn => (wf_cons hwf).2.1 <| hn ▸ lhWalk_mentioned (r := q) <| by
    rw [h]
    exact List.mem_append_right pre (List.mem_cons_self ..)

/-- **On a DAG the left-hand walk from a revision met on a left-hand walk is the rest of that walk.** -/
theorem lhWalk_suffix (g : Graph) (hwf : wf g = true) (r : Rev) (pre : List (Rev × List Rev)) (e : Rev × List Rev)
    (rest : List (Rev × List Rev)) (h : (lhWalk g r).1 = pre ++ e :: rest) :
    lhWalk g e.1 = (e :: rest, (lhWalk g r).2) := by
  fun_induction lhWalk g r generalizing pre with
  | case1 => cases pre <;> cases h
  | case2 g r =>
    cases pre with
    | nil => cases h; exact lhWalk_root r g
    | cons _ pre => cases pre <;> cases h
  | case3 g r p ps ih =>
    cases pre with
    | nil => cases h; exact lhWalk_step r p ps g
    | cons _ pre =>
      have h : (lhWalk g p).1 = pre ++ e :: rest := (List.cons.inj h).2
      rw [lhWalk_older hwf h]
      exact ih (wf_cons hwf).2.2 pre h
  | case4 n ps g r hn ih =>
    rw [lhWalk_older hwf h]
    exact ih (wf_cons hwf).2.2 pre h

theorem lefthand_not_mentioned (g : Graph) (r : Rev) (h : r ∉ mentioned g) : lefthand g r = none := by
  induction g with
  | nil => simp [lefthand]
  | cons e g ih =>
    obtain ⟨n, ps⟩ := e
    rw [mentioned_cons] at h
    simp only [List.cons_append, List.mem_cons, List.mem_append, not_or] at h
    unfold lefthand
    have : ¬ n = r := fun e => h.1 e.symm
    simp only [this, if_false]
    exact ih h.2.2

theorem dist_not_mentioned (known : List (Rev × Nat)) (g : Graph) (r : Rev) (h : r ∉ mentioned g) :
    dist known g r = known.lookup r := by
  induction g with
  | nil => simp [dist]
  | cons e g ih =>
    obtain ⟨n, ps⟩ := e
    rw [mentioned_cons] at h
    simp only [List.cons_append, List.mem_cons, List.mem_append, not_or] at h
    unfold dist
    have : ¬ n = r := fun e => h.1 e.symm
    simp only [this, if_false]
    exact ih h.2.2

theorem dist_eq (known : List (Rev × Nat)) (g : Graph) (hwf : wf g = true)
    (hseed : ∀ r' k', known.lookup r' = some k' → r' ∈ mentioned g →
      (lefthand g r').map List.length = some k') :
    ∀ r, r ∈ mentioned g → dist known g r = (lefthand g r).map List.length := by
  induction g with
  | nil => intro r hr; cases hr
  | cons e g ih =>
    obtain ⟨n, ps⟩ := e
    obtain ⟨hnp, hnm, hwf'⟩ := wf_cons hwf
    -- seeds stay correct in the tail graph
    have ih := ih hwf' (by
      intro r' k' hl hm
      have hne : ¬ n = r' := fun e => hnm (e ▸ hm)
      have := hseed r' k' hl (by rw [mentioned_cons]; simp [hm])
      simpa [lefthand, hne] using this)
    -- below the head entry: the tail graph decides; a ghost there cannot be a seed
    have tail : ∀ p, p ∈ mentioned ((n, ps) :: g) → ¬ n = p →
        dist known g p = (lefthand g p).map List.length := by
      intro p hpm hne
      by_cases hpg : p ∈ mentioned g
      · exact ih p hpg
      · rw [dist_not_mentioned known g p hpg, lefthand_not_mentioned g p hpg]
        cases hl : known.lookup p with
        | none => rfl
        | some k =>
          have := hseed p k hl hpm
          simp [lefthand, hne, lefthand_not_mentioned g p hpg] at this
    intro r hr
    by_cases hn : n = r
    · subst hn
      cases hl : known.lookup n with
      | some k =>
        rw [hseed n k hl hr]
        unfold dist
        rw [if_pos rfl, hl]
      | none =>
        unfold dist lefthand
        rw [if_pos rfl, if_pos rfl, hl]
        cases ps with
        | nil => rfl
        | cons p rest =>
          dsimp only
          rw [tail p (by rw [mentioned_cons]; simp) (fun e => hnp (e ▸ List.mem_cons_self))]
          cases lefthand g p <;> rfl
    · unfold dist lefthand
      rw [if_neg hn, if_neg hn]
      exact tail r hr hn

end BreezyVerif.C21
