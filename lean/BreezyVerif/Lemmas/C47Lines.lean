import BreezyVerif.Model.C47
/-! C47 helper lemmas: `takeLine`, `splitLines`, the two `chunks_to_lines` state machines. -/
namespace BreezyVerif.C47

theorem takeLine_concat (t : Bytes) : (takeLine t).1 ++ (takeLine t).2.1 = t := by
  induction t with
  | nil => simp [takeLine]
  | cons c cs ih => unfold takeLine; split <;> simp [ih]

theorem found_iff_mem (t : Bytes) : (takeLine t).2.2 = true ↔ nl ∈ t := by
  induction t with
  | nil => simp [takeLine]
  | cons c cs ih =>
    unfold takeLine
    split
    · simp_all
    · next hc => simp_all [Ne.symm hc]

theorem takeLine_not_found (t : Bytes) (h : (takeLine t).2.2 = false) :
    (takeLine t).1 = t ∧ (takeLine t).2.1 = [] ∧ nl ∉ t := by
  induction t with
  | nil => simp [takeLine]
  | cons c cs ih =>
    unfold takeLine at h ⊢
    split
    · simp_all
    · next hc => simp_all [Ne.symm hc]

theorem takeLine_found (t : Bytes) (h : (takeLine t).2.2 = true) :
    ∃ pre, (takeLine t).1 = pre ++ [nl] ∧ nl ∉ pre := by
  induction t with
  | nil => simp [takeLine] at h
  | cons c cs ih =>
    unfold takeLine at h ⊢
    split
    · next hc => exact ⟨[], by simp [hc], by simp⟩
    · next hc =>
      obtain ⟨pre, h1, h2⟩ := ih (by simpa [hc] using h)
      exact ⟨c :: pre, by simp [h1], by simp [h2, Ne.symm hc]⟩

theorem takeLine_append_found (a b : Bytes) (h : (takeLine a).2.2 = true) :
    takeLine (a ++ b) = ((takeLine a).1, (takeLine a).2.1 ++ b, true) := by
  induction a with
  | nil => simp [takeLine] at h
  | cons c cs ih =>
    rw [List.cons_append]
    unfold takeLine at h ⊢
    split <;> simp_all

theorem splitLines_nil : splitLines [] = [] := by
  unfold splitLines; rfl

theorem splitLines_ne_nil (t : Bytes) (h : t ≠ []) :
    splitLines t = (takeLine t).1 :: splitLines (takeLine t).2.1 := by
  match t, h with
  | c :: cs, _ => rw [splitLines]

theorem splitLines_append_found (a b : Bytes) (h : (takeLine a).2.2 = true) :
    splitLines (a ++ b) = (takeLine a).1 :: splitLines ((takeLine a).2.1 ++ b) := by
  cases a with
  | nil => simp [takeLine] at h
  | cons c cs => rw [List.cons_append, splitLines, ← List.cons_append, takeLine_append_found _ b h]

theorem wellFormed_iff (c : Bytes) :
    wellFormed c = true ↔ (takeLine c).2.2 = true ∧ (takeLine c).2.1 = [] := by
  cases c <;> simp [wellFormed, takeLine]

theorem splitLines_append_wf (c b : Bytes) (h1 : (takeLine c).2.2 = true) (h2 : (takeLine c).2.1 = []) :
    splitLines (c ++ b) = c :: splitLines b := by
  have := takeLine_concat c
  rw [h2, List.append_nil] at this
  rw [splitLines_append_found c b h1, h2, this, List.nil_append]

theorem splitLines_no_nl (t : Bytes) (hne : t ≠ []) (h : (takeLine t).2.2 = false) :
    splitLines t = [t] := by
  have := takeLine_not_found t h
  rw [splitLines_ne_nil t hne, this.1, this.2.1, splitLines_nil]

/-- a complete line: exactly one newline, at the end -/
def IsLine (l : Bytes) : Prop := ∃ pre, l = pre ++ [nl] ∧ nl ∉ pre
/-- an unterminated last line: non-empty, no newline -/
def IsTail (l : Bytes) : Prop := l ≠ [] ∧ nl ∉ l

theorem c2lCore_eq (tail : Bytes) (chunks : List Bytes) :
    c2lCore tail chunks = splitLines (tail ++ chunks.flatten) := by
  fun_induction c2lCore tail chunks with
  | case1 tail chunks hf ih => rw [ih, splitLines_append_found tail _ hf]
  | case2 tail hf c cs hwf ih =>
    simp only [Bool.and_eq_true, List.isEmpty_iff, wellFormed_iff] at hwf
    obtain ⟨rfl, h1, h2⟩ := hwf
    simp [ih, splitLines_append_wf c _ h1 h2]
  | case3 tail hf c cs hwf ih => simp [ih]
  | case4 tail hf he => simp_all [splitLines_nil]
  | case5 tail hf he => simp_all [splitLines_no_nl]

def pyTail : Option Bytes → Bytes
  | none => []
  | some t => t

theorem c2lPy_eq (tail : Option Bytes) (chunks : List Bytes) (hne : ∀ t, tail = some t → t ≠ []) :
    c2lPy tail chunks = splitLines (pyTail tail ++ chunks.flatten) := by
  fun_induction c2lPy tail chunks with
  | case1 chunks chunk hf he ih => simp_all [pyTail, splitLines_append_wf]
  | case2 chunks chunk hf he ih => simp_all [pyTail, splitLines_append_found]
  | case3 chunk hf c cs he ih => simp_all
  | case4 chunk hf c cs he ih => simp_all [pyTail]
  | case5 chunk hf => simp_all [pyTail, splitLines_no_nl]
  | case6 c cs hw ih => simp_all [pyTail, splitLines_append_wf]
  | case7 c cs hw he ih => simp_all [pyTail]
  | case8 c cs hw he ih => simp_all [pyTail]
  | case9 => simp [pyTail, splitLines_nil]

end BreezyVerif.C47
