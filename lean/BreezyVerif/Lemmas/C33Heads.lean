import BreezyVerif.Lemmas.C33
/-!
C33 — `_find_possible_heads` computes exactly the breadth-first levels of the
child graph: a declarative characterisation of the start candidates of the
limited recipe (`heads_char`).
-/
namespace BreezyVerif.C33

theorem childSteps_zero_iff {pm : PMap} {r h : Key} : ChildSteps pm 0 r h ↔ r = h := by
  constructor
  · intro hs; cases hs; rfl
  · rintro rfl; exact ChildSteps.zero

theorem childSteps_snoc {pm : PMap} {n : Nat} {t r c : Key} (hs : ChildSteps pm n t r)
    (hc : c ∈ childrenOf pm r) : ChildSteps pm (n + 1) t c := by
  induction hs with
  | zero => exact ChildSteps.succ hc ChildSteps.zero
  | succ hc' _ ih => exact ChildSteps.succ hc' (ih hc)

theorem childSteps_unsnoc {pm : PMap} : ∀ (n : Nat) (t c : Key), ChildSteps pm (n + 1) t c →
    ∃ r, ChildSteps pm n t r ∧ c ∈ childrenOf pm r := by
  intro n
  induction n with
  | zero =>
    intro t c hs
    cases hs with
    | succ hc hs' => cases hs'; exact ⟨t, ChildSteps.zero, hc⟩
  | succ n ih =>
    intro t c hs
    cases hs with
    | succ hc hs' =>
      obtain ⟨r, hr, hcr⟩ := ih _ _ hs'
      exact ⟨r, ChildSteps.succ hc hr, hcr⟩

/-- some tip reaches `k` in exactly `n` child steps of the cache -/
def PathN (pm : PMap) (tips : List Key) (n : Nat) (k : Key) : Prop :=
  ∃ t ∈ tips, ChildSteps pm n t k

/-- `k` lies at child distance exactly `n` from the tips (breadth-first level `n`) -/
def AtDist (pm : PMap) (tips : List Key) (n : Nat) (k : Key) : Prop :=
  PathN pm tips n k ∧ ∀ m, m < n → ¬ PathN pm tips m k

theorem atDist_zero {pm : PMap} {tips : List Key} {k : Key} : AtDist pm tips 0 k ↔ k ∈ tips := by
  unfold AtDist PathN
  constructor
  · rintro ⟨⟨t, ht, hs⟩, _⟩
    rw [childSteps_zero_iff.mp hs] at ht; exact ht
  · intro hk
    exact ⟨⟨k, hk, ChildSteps.zero⟩, fun m hm => absurd hm (Nat.not_lt_zero _)⟩

theorem atDist_pred {pm : PMap} {tips : List Key} {n : Nat} {c : Key} (h : AtDist pm tips (n + 1) c) :
    ∃ r, AtDist pm tips n r ∧ c ∈ childrenOf pm r := by
  obtain ⟨⟨t, ht, hs⟩, hmin⟩ := h
  obtain ⟨r, hr, hcr⟩ := childSteps_unsnoc n t c hs
  refine ⟨r, ⟨⟨t, ht, hr⟩, ?_⟩, hcr⟩
  rintro m hm ⟨t', ht', hs'⟩
  exact hmin (m + 1) (Nat.succ_lt_succ hm) ⟨t', ht', childSteps_snoc hs' hcr⟩

theorem atDist_prefix {pm : PMap} {tips : List Key} : ∀ (j i : Nat) (k : Key), AtDist pm tips (i + j) k →
    ∃ r, AtDist pm tips i r := by
  intro j
  induction j with
  | zero => intro i k h; exact ⟨k, h⟩
  | succ j ih =>
    intro i k h
    obtain ⟨r, hr, _⟩ := atDist_pred (n := i + j) h
    exact ih i r hr

/-- one level of the loop: the unseen children of level `i` are level `i + 1` -/
theorem level_step {pm : PMap} {tips roots walked : List Key} {i : Nat}
    (hroots : ∀ k, k ∈ roots ↔ AtDist pm tips i k)
    (hwalked : ∀ k, k ∈ walked ↔ ∃ m, m ≤ i ∧ PathN pm tips m k) (c : Key) :
    c ∈ dedup ((roots.flatMap (childrenOf pm)).filter (· ∉ walked)) ↔ AtDist pm tips (i + 1) c := by
  rw [mem_dedup]
  simp only [List.mem_filter, List.mem_flatMap, decide_eq_true_eq]
  constructor
  · rintro ⟨⟨r, hr, hc⟩, hnw⟩
    obtain ⟨⟨t, ht, hs⟩, _⟩ := (hroots r).mp hr
    refine ⟨⟨t, ht, childSteps_snoc hs hc⟩, ?_⟩
    intro m hm hp
    exact hnw ((hwalked c).mpr ⟨m, Nat.le_of_lt_succ hm, hp⟩)
  · intro h
    obtain ⟨r, hr, hc⟩ := atDist_pred h
    refine ⟨⟨r, (hroots r).mpr hr, hc⟩, ?_⟩
    intro hw
    obtain ⟨m, hm, hp⟩ := (hwalked c).mp hw
    exact h.2 m (Nat.lt_succ_of_le hm) hp

theorem pathN_le_succ {pm : PMap} {tips : List Key} {i : Nat} {k : Key} :
    (∃ m, m ≤ i + 1 ∧ PathN pm tips m k) ↔ (∃ m, m ≤ i ∧ PathN pm tips m k) ∨ AtDist pm tips (i + 1) k := by
  constructor
  · rintro ⟨m, hm, hp⟩
    rcases Nat.le_succ_iff.mp hm with hm | rfl
    · exact Or.inl ⟨m, hm, hp⟩
    · by_cases hex : ∃ m', m' ≤ i ∧ PathN pm tips m' k
      · exact Or.inl hex
      · exact Or.inr ⟨hp, fun m' hm' hp' => hex ⟨m', Nat.le_of_lt_succ hm', hp'⟩⟩
  · rintro (⟨m, hm, hp⟩ | hk)
    · exact ⟨m, Nat.le_succ_of_le hm, hp⟩
    · exact ⟨i + 1, Nat.le_refl _, hk.1⟩

/-- the loop of `_find_possible_heads`, started at level `i` with `d` steps left -/
theorem headsLoop_char (pm : PMap) (tips : List Key) : ∀ (d i : Nat) (heads roots walked : List Key),
    (∀ k, k ∈ roots ↔ AtDist pm tips i k) →
    (∀ k, k ∈ walked ↔ ∃ m, m ≤ i ∧ PathN pm tips m k) →
    ∀ h, h ∈ headsLoop pm d heads roots walked ↔
      h ∈ heads ∨ AtDist pm tips (i + d) h ∨
        ∃ j, j < d ∧ AtDist pm tips (i + j) h ∧ childrenOf pm h = [] := by
  intro d
  induction d with
  | zero =>
    intro i heads roots walked hroots _ h
    simp only [headsLoop, List.mem_append, hroots, Nat.add_zero, Nat.not_lt_zero, false_and,
      exists_false, or_false]
  | succ d ih =>
    intro i heads roots walked hroots hwalked h
    unfold headsLoop
    by_cases hre : roots.isEmpty = true
    · -- level i is empty: so is every later level
      rw [if_pos hre]
      have hnone : ∀ j k, ¬ AtDist pm tips (i + j) k := by
        intro j k hk
        obtain ⟨r, hr⟩ := atDist_prefix j i k hk
        have := (hroots r).mpr hr
        rw [List.isEmpty_iff.mp hre] at this
        cases this
      constructor
      · exact Or.inl
      · rintro (h1 | h1 | ⟨j, _, h4, _⟩)
        · exact h1
        · exact absurd h1 (hnone _ _)
        · exact absurd h4 (hnone _ _)
    · rw [if_neg hre]
      have hw' : ∀ k, k ∈ walked ++ dedup ((roots.flatMap (childrenOf pm)).filter (· ∉ walked)) ↔
          ∃ m, m ≤ i + 1 ∧ PathN pm tips m k := fun k => by
        rw [List.mem_append, level_step hroots hwalked, hwalked, pathN_le_succ]
      rw [ih (i + 1) _ _ _ (level_step hroots hwalked) hw' h, Nat.add_right_comm i 1 d]
      simp only [List.mem_append, List.mem_filter, hroots, List.isEmpty_iff, Nat.add_right_comm i 1]
      constructor
      · rintro ((h1 | h1) | h1 | ⟨j, h2, h3⟩)
        · exact Or.inl h1
        · exact Or.inr (Or.inr ⟨0, Nat.succ_pos d, h1⟩)
        · exact Or.inr (Or.inl h1)
        · exact Or.inr (Or.inr ⟨j + 1, Nat.succ_lt_succ h2, h3⟩)
      · rintro (h1 | h1 | ⟨j, h2, h3⟩)
        · exact Or.inl (Or.inl h1)
        · exact Or.inr (Or.inl h1)
        · cases j with
          | zero => exact Or.inl (Or.inr h3)
          | succ j => exact Or.inr (Or.inr ⟨j, Nat.lt_of_succ_lt_succ h2, h3⟩)
/-- the start candidates chosen by `_find_possible_heads(parent_map, tips, depth)` -/
def HeadSpec (pm : PMap) (tips : List Key) (depth : Nat) (h : Key) : Prop :=
  AtDist pm tips depth h ∨ ∃ n, n < depth ∧ AtDist pm tips n h ∧ childrenOf pm h = []

theorem findPossibleHeads_char (pm : PMap) (tips : List Key) (depth : Nat) (h : Key) :
    h ∈ findPossibleHeads pm tips depth ↔ HeadSpec pm tips depth h := by
  unfold findPossibleHeads HeadSpec
  rw [mem_dedup, headsLoop_char pm tips depth 0 [] (dedup tips) (dedup tips)
    (fun k => by rw [mem_dedup, atDist_zero])
    (fun k => by
      rw [mem_dedup]
      constructor
      · intro hk; exact ⟨0, Nat.le_refl _, k, hk, ChildSteps.zero⟩
      · rintro ⟨m, hm, t, ht, hs⟩
        have : m = 0 := Nat.eq_zero_of_le_zero hm
        subst this
        rw [← childSteps_zero_iff.mp hs]; exact ht)]
  simp only [List.not_mem_nil, false_or, Nat.zero_add]

end BreezyVerif.C33
