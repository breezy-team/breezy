import BreezyVerif.Lemmas.C10Sel
import BreezyVerif.Lemmas.C10Gen
/-!
C10 — a tree spliced from two well-formed ones along a parent-closed set of ids is
well formed (`wf_splice`); hence applying an ancestor-closed list of true records
to a well-formed source gives a well-formed tree, when no reported id moves onto a
(parent, name) slot held in the source by another id.
-/
namespace BreezyVerif.C10

theorem mem_childrenOf {t : Tree} {p c : Id} {e : Entry} (hg : get t c = some e) (hp : e.parent = some p) :
    c ∈ childrenOf t p := by
  unfold childrenOf
  rw [List.mem_map]
  exact ⟨(c, e), List.mem_filter.mpr ⟨get_mem hg, by simp [hp]⟩, rfl⟩

theorem stoppedDir_of {src tgt : Tree} {p : Id} {c : Change} {sp : Entry} (hc : change src tgt p = some c)
    (hsp : get src p = some sp) (hd : sp.node.kind = .dir)
    (ht : get tgt p = none ∨ ∃ pe, get tgt p = some pe ∧ pe.node.kind ≠ .dir) : stoppedDir c = true := by
  obtain ⟨_, hs, htg, _, _⟩ := change_spec hc
  unfold stoppedDir
  rw [hs, htg, hsp]
  rcases ht with ht | ⟨pe, ht, hk⟩
  · simp [ht, Entry.meta, hd]
  · simp [ht, Entry.meta, hd, hk]

/-- **splicing two well-formed trees**: a tree that looks like `b` on a set `K` of ids closed under
parents in `b`, and like `a` elsewhere, is well formed, provided `a` and `b` share their root, no
id takes in `b` a slot another id holds in `a`, and every entry of `a` outside `K` whose parent is
in `K` still finds a directory there in `b`. -/
theorem wf_splice {a b t : Tree} (K : List Id)
    (ha : wf a = true) (hb : wf b = true) (hr : sameRoot a b = true) (hn : noSlotOccupant a b = true)
    (hnd : (ids t).Nodup)
    (onK : ∀ k ∈ K, get t k = get b k) (offK : ∀ k, k ∉ K → get t k = get a k)
    (up : ∀ k ∈ K, ∀ p, tgtPar b k = some p → p ∈ K)
    (dirs : ∀ j e p, j ∉ K → get a j = some e → e.parent = some p → p ∈ K →
      ∃ pe, get b p = some pe ∧ pe.node.kind = .dir) :
    wf t = true := by
  have upE : ∀ k e p, k ∈ K → get b k = some e → e.parent = some p → p ∈ K :=
    fun k e p hk ge hp => up k hk p (by unfold tgtPar; simp [ge, hp])
  -- inside `K` the way to the root is the one of `b`
  have F2 : ∀ (n : Nat) (k : Id) (path : Path), k ∈ K → pathFuel b n k = some path → pathFuel t n k = some path := by
    intro n
    induction n with
    | zero => intro k path _ h; simp [pathFuel] at h
    | succ n ih =>
      intro k path hk h
      obtain ⟨e, ge, c⟩ := pathFuel_cases h
      have ge' : get t k = some e := by rw [onK k hk]; exact ge
      rcases c with ⟨hnone, rfl⟩ | ⟨q, pp, hq, fq, rfl⟩
      · exact pathFuel_root ge' hnone
      · exact pathFuel_child ge' hq (ih q pp (upE k e q hk ge hq) fq)
  -- outside `K` it is the one of `a` until it enters `K`
  have F4 : ∀ (n : Nat) (j : Id) (path : Path), j ∉ K → pathFuel a n j = some path →
      ∃ m path', pathFuel t m j = some path' := by
    intro n
    induction n with
    | zero => intro j path _ h; simp [pathFuel] at h
    | succ n ih =>
      intro j path hnj h
      obtain ⟨e, ge, c⟩ := pathFuel_cases h
      have ge' : get t j = some e := by rw [offK j hnj]; exact ge
      rcases c with ⟨hnone, _⟩ | ⟨q, pp, hq, fq, _⟩
      · exact ⟨1, [], pathFuel_root ge' hnone⟩
      · by_cases hqK : q ∈ K
        · obtain ⟨pe, gpe, _⟩ := dirs j e q hnj ge hq hqK
          obtain ⟨tp, htp⟩ := wf_hasPath hb gpe
          exact ⟨_, _, pathFuel_child ge' hq (F2 _ q tp hqK htp)⟩
        · obtain ⟨m, pp', hm⟩ := ih q pp hqK fq
          exact ⟨_, _, pathFuel_child ge' hq hm⟩
  obtain ⟨r, hra⟩ := wf_roots ha
  have hrb : rootsOf b = [r] := by
    unfold sameRoot at hr
    rw [← beq_iff_eq.mp hr]; exact hra
  have root : ∀ {s : Tree}, rootsOf s = [r] → ∀ i e, get s i = some e → e.parent = none → i = r := by
    intro s hs i e hg hp
    have : i ∈ rootsOf s := mem_rootsOf.mpr ⟨e, get_mem hg, hp⟩
    rw [hs] at this; simpa using this
  have hasRoot : ∀ {s : Tree}, (ids s).Nodup → rootsOf s = [r] → ∃ e, get s r = some e ∧ e.parent = none := by
    intro s hnds hs
    have : r ∈ rootsOf s := by rw [hs]; simp
    obtain ⟨e, he, hp⟩ := mem_rootsOf.mp this
    exact ⟨e, get_of_mem hnds he, hp⟩
  apply wf_of_spec t r hnd
  · by_cases hrK : r ∈ K
    · rw [onK r hrK]; exact hasRoot (wf_nodup hb) hrb
    · rw [offK r hrK]; exact hasRoot (wf_nodup ha) hra
  · intro i e hg hp
    by_cases hi : i ∈ K
    · rw [onK i hi] at hg
      exact ⟨root hrb i e hg hp, wf_root_dir hb hg hp⟩
    · rw [offK i hi] at hg
      exact ⟨root hra i e hg hp, wf_root_dir ha hg hp⟩
  · intro i e p hg hp
    by_cases hi : i ∈ K
    · rw [onK i hi] at hg
      rw [onK p (upE i e p hi hg hp)]
      exact wf_parent hb hg hp
    · rw [offK i hi] at hg
      by_cases hpK : p ∈ K
      · rw [onK p hpK]
        exact dirs i e p hi hg hp hpK
      · rw [offK p hpK]
        exact wf_parent ha hg hp
  · intro i j ei ej hgi hgj hp hnm
    by_cases hi : i ∈ K <;> by_cases hj : j ∈ K
    · rw [onK i hi] at hgi; rw [onK j hj] at hgj
      exact wf_sib hb (get_mem hgi) (get_mem hgj) hp hnm
    · rw [onK i hi] at hgi; rw [offK j hj] at hgj
      exact noSlot_eq hn (get_mem hgi) (get_mem hgj) hp hnm
    · rw [offK i hi] at hgi; rw [onK j hj] at hgj
      exact (noSlot_eq hn (get_mem hgj) (get_mem hgi) hp.symm hnm.symm).symm
    · rw [offK i hi] at hgi; rw [offK j hj] at hgj
      exact wf_sib ha (get_mem hgi) (get_mem hgj) hp hnm
  · intro i e hg
    by_cases hi : i ∈ K
    · rw [onK i hi] at hg
      obtain ⟨tp, htp⟩ := wf_hasPath hb hg
      exact ⟨_, tp, F2 _ i tp hi htp⟩
    · rw [offK i hi] at hg
      obtain ⟨sp, hsp⟩ := wf_hasPath ha hg
      exact F4 _ i sp hi hsp

theorem wf_apply_of_closed (src tgt : Tree) (cs : List Change) (K : List Id)
    (hs : wf src = true) (ht : wf tgt = true) (hr : sameRoot src tgt = true) (hn : noSlotOccupant src tgt = true)
    (htrue : ∀ c ∈ cs, change src tgt c.id = some c)
    (hK1 : ∀ c ∈ cs, c.id ∈ K)
    (hK2 : ∀ k ∈ K, (∃ c ∈ cs, c.id = k) ∨ NotChange src tgt k)
    (hK3 : ∀ k ∈ K, ∀ p, tgtPar tgt k = some p → p ∈ K)
    (hkids : ∀ c ∈ cs, stoppedDir c = true → ∀ ch ∈ childrenOf src c.id,
      (∃ c' ∈ cs, c'.id = ch) ∨ NotChange src tgt ch) :
    ∃ t', applyChanges src tgt cs = some t' ∧ wf t' = true := by
  obtain ⟨t', happ, getR, getN⟩ := applyList_true (src := src) (tgt := tgt) cs htrue src
  refine ⟨t', happ, wf_splice K hs ht hr hn (applyList_nodup cs src t' (wf_nodup hs) happ) ?_
    (fun k hk => getN k fun ⟨c, hc, hck⟩ => hk (hck ▸ hK1 c hc)) hK3 ?_⟩
  · -- a reported id was rewritten, any other id of `K` is no change
    intro k hk
    by_cases hrk : ∃ c ∈ cs, c.id = k
    · exact getR k hrk
    · rw [getN k hrk]
      exact notChange_iff_get.mp ((hK2 k hk).resolve_left hrk)
  · intro j e p hnj gj hp hpK
    obtain ⟨sp, gsp, hspd⟩ := wf_parent hs gj hp
    rcases hK2 p hpK with ⟨c, hc, hcp⟩ | h
    · -- `p` is reported: were it no directory of the target any more, its child `j` would be in `K`
      by_cases hgood : ∃ pe, get tgt p = some pe ∧ pe.node.kind = .dir
      · exact hgood
      · exfalso
        have hbad : get tgt p = none ∨ ∃ pe, get tgt p = some pe ∧ pe.node.kind ≠ .dir := by
          cases hg : get tgt p with
          | none => exact Or.inl rfl
          | some pe => exact Or.inr ⟨pe, rfl, fun hk => hgood ⟨pe, hg, hk⟩⟩
        rcases hkids c hc (stoppedDir_of (hcp ▸ htrue c hc) gsp hspd hbad) j (hcp ▸ mem_childrenOf gj hp)
          with ⟨c', hc', hcj⟩ | h
        · exact hnj (hcj ▸ hK1 c' hc')
        · exact hgood (wf_parent ht ((notChange_iff_get.mp h).symm ▸ gj) hp)
    · exact ⟨sp, (notChange_iff_get.mp h) ▸ gsp, hspd⟩

end BreezyVerif.C10
