import BreezyVerif.Model.C17
import BreezyVerif.Props.C18
/-!
C17 — the steps of the merge of one file.  The triple-level steps of `mergeChange`
are the entry-level steps of `mergeEntry` when the triples are read off three
entries; and what the entry-level steps (`namesStep`, `contentsStep`, `execStep`,
`assemble`) give when each attribute was changed by at most one side, when
THIS = BASE and when THIS = OTHER.
-/
namespace BreezyVerif.C17
open BreezyVerif.C18 (threeWay Winner)

theorem overrideAbsent_false (w : Winner) : overrideAbsent false w = w := by
  simp [overrideAbsent]

theorem overrideAbsent_true_ne_this (w : Winner) : overrideAbsent true w ≠ .this := by
  cases w <;> simp [overrideAbsent]

theorem namesStepW_ofEntries (nw pw : Winner) (b o t tc : Option Entry) :
    namesStepW nw pw (Change.ofEntries b o t false tc) =
      (if overrideAbsent t.isNone nw = .conflict ∨ overrideAbsent t.isNone pw = .conflict then [.path] else [],
       namesOn (overrideAbsent t.isNone nw) (overrideAbsent t.isNone pw) o t) := by
  -- both sides are tables over the two winners and the presence of THIS and OTHER (the early
  -- return of `namesStepW` is the row `this`, `this`, which the override excludes when THIS is absent)
  cases t <;> cases o <;> cases nw <;> cases pw <;> rfl

theorem namesStepC_ofEntries (b o t : Option Entry) (tc : Option Entry := none) :
    namesStepC (Change.ofEntries b o t false tc) = namesStep b t o := by
  unfold namesStepC namesStep
  rw [namesStepW_ofEntries]
  simp [Change.ofEntries]

theorem contentsOnP_pairOf (w : Winner) (t o : Option Entry) :
    contentsOnP w (pairOf t) (pairOf o) = contentsOn w t o := by
  cases w <;> cases t <;> cases o <;> rfl

theorem contentsStepC_ofEntries (b o t : Option Entry) (tc : Option Entry := none) :
    contentsStepC (Change.ofEntries b o t false tc) = contentsStep b t o := by
  unfold contentsStepC contentsStep
  by_cases h : pairOf o = pairOf b
  · simp [Change.ofEntries, h, contentsOn]
  · simp [Change.ofEntries, h, contentsOnP_pairOf]

theorem execStepW_ofEntries (w0 : Winner) (b o t tc : Option Entry) :
    execStepW w0 (Change.ofEntries b o t false tc) =
      execOn (if w0 = .conflict then (if o.isNone then .this else .other) else w0) b t o := by
  cases w0 <;> cases b <;> cases o <;> cases t <;> rfl

theorem execStepC_ofEntries (b o t : Option Entry) (tc : Option Entry := none) :
    execStepC (Change.ofEntries b o t false tc) = execStep b t o := by
  unfold execStepC execStep
  rw [execStepW_ofEntries]
  simp [Change.ofEntries]

theorem normCopy_ofEntries_false (b o t : Option Entry) (tc : Option Entry := none) :
    normCopy (Change.ofEntries b o t false tc) = Change.ofEntries b o t false tc := by
  simp [normCopy, Change.ofEntries]

/-- the copy normalisation turns the element into the one of an add of OTHER's entry merged
with whatever THIS has at the copy's own path (`tc`), the copy source (`sb`, `st`) forgotten -/
theorem normCopy_ofEntries_copied (sb st tc : Option Entry) (oe : Entry) :
    normCopy (Change.ofEntries sb (some oe) st true tc) = Change.ofEntries none (some oe) tc false := by
  cases tc <;> simp [normCopy, Change.ofEntries, pairOf]

theorem assemble_conflicts (st : Status) (kc : Option (Kind × Nat)) (np : Option (Option Id × Nat)) (ex : Bool)
    (cf : List ConflictKind) : (assemble st kc np ex cf).conflicts = cf := by
  unfold assemble; split <;> rfl

theorem overrideAbsent_conflict_iff (a : Bool) (w : Winner) : overrideAbsent a w = .conflict ↔ w = .conflict := by
  cases a <;> cases w <;> simp [overrideAbsent]

theorem contentsOn_conflicts_nil_iff (w : Winner) (t o : Option Entry) :
    (contentsOn w t o).2.2 = [] ↔ w ≠ .conflict := by
  cases w <;> cases t <;> cases o <;> simp [contentsOn] <;> split <;> simp

theorem contentsOn_no_path (w : Winner) (t o : Option Entry) : ConflictKind.path ∉ (contentsOn w t o).2.2 := by
  cases w <;> cases t <;> cases o <;> simp [contentsOn] <;> split <;> simp

/-- the value an attribute takes when at most one side changed it -/
def sel {α : Type} [DecidableEq α] (b t o : α) : α := if o = b then t else o

theorem pick_eq : @pick = @Winner.pick := rfl

/-- `_three_way` + `winner_idx` always take THIS's value where OTHER kept BASE's, else OTHER's -/
theorem pick_threeWay {α : Type} [DecidableEq α] (b o t : α) : pick (threeWay b o t) o t = sel b t o := by
  rw [pick_eq]; exact C18.pick_three_way b o t

theorem threeWay_one_side {α : Type} [DecidableEq α] (b o t : α) (h : t = b ∨ o = b) :
    threeWay b o t ≠ .conflict ∧ pick (threeWay b o t) o t = sel b t o :=
  ⟨fun hc => have ⟨hob, htb, _⟩ := (C18.three_way_conflict_iff b o t).mp hc; h.elim htb hob.symm,
    pick_threeWay b o t⟩

/-- names of a file present on all three sides -/
theorem namesStep_some (be te oe : Entry) :
    namesStep (some be) (some te) (some oe) =
      (if threeWay be.name oe.name te.name = .conflict ∨ threeWay be.parent oe.parent te.parent = .conflict
        then [.path] else [],
       some (sel be.parent te.parent oe.parent, sel be.name te.name oe.name)) := by
  simp only [namesStep, namesOn, Option.map_some, Option.isNone_some, overrideAbsent_false, C18.three_way_some,
    pick_threeWay]

/-- … name and parent each changed by at most one side -/
theorem namesStep_one_side (be te oe : Entry) (h1 : te.name = be.name ∨ oe.name = be.name)
    (h2 : te.parent = be.parent ∨ oe.parent = be.parent) :
    namesStep (some be) (some te) (some oe) =
      ([], some (sel be.parent te.parent oe.parent, sel be.name te.name oe.name)) := by
  rw [namesStep_some, if_neg (not_or.mpr ⟨(threeWay_one_side _ _ _ h1).1, (threeWay_one_side _ _ _ h2).1⟩)]

theorem contentsStep_one_side (be te oe : Entry)
    (h3 : (te.kind, te.content) = (be.kind, be.content) ∨ (oe.kind, oe.content) = (be.kind, be.content)) :
    ∃ st, st ≠ Status.deleted ∧ contentsStep (some be) (some te) (some oe) =
      (st, some (sel (be.kind, be.content) (te.kind, te.content) (oe.kind, oe.content)), []) := by
  unfold contentsStep sel
  by_cases hp : (oe.kind, oe.content) = (be.kind, be.content)
  · exact ⟨.unmodified, by simp, by simp [pairOf, hp, contentsOn]⟩
  · have hw := C18.three_way_unchanged_never_wins _ _ _ (h3.resolve_right hp) hp
    exact ⟨.modified, by simp, by
      simp only [pairOf, Option.map_some, Option.some.injEq, hp, if_false, C18.three_way_some, hw, contentsOn]⟩

/-- no hypothesis: a conflict is resolved towards OTHER when OTHER has the file, as `winner_idx` does -/
theorem execStep_some (be te oe : Entry) : execStep (some be) (some te) (some oe) = sel be.exec te.exec oe.exec := by
  rw [← pick_threeWay]
  simp only [execStep, Option.map_some, C18.three_way_some]
  cases threeWay be.exec oe.exec te.exec <;> simp [execOn, pick]

theorem execStep_one_side (be te oe : Entry) (_h4 : te.exec = be.exec ∨ oe.exec = be.exec) :
    execStep (some be) (some te) (some oe) = sel be.exec te.exec oe.exec :=
  execStep_some be te oe

/-! ### the steps when THIS = BASE and OTHER has the file -/

theorem sel_self {α : Type} [DecidableEq α] (b o : α) : sel b b o = o := by
  unfold sel
  split
  · next h => exact h.symm
  · rfl

theorem namesStep_this_eq_base (b : Option Entry) (oe : Entry) :
    namesStep b b (some oe) = ([], some (oe.parent, oe.name)) := by
  cases b with
  | none => simp [namesStep, namesOn, threeWay, overrideAbsent]
  | some be => rw [namesStep_one_side be be oe (.inl rfl) (.inl rfl), sel_self, sel_self]

theorem contentsStep_this_eq_base (b : Option Entry) (oe : Entry) :
    ∃ st, st ≠ Status.deleted ∧ contentsStep b b (some oe) = (st, some (oe.kind, oe.content), []) := by
  unfold contentsStep
  by_cases hp : pairOf (some oe) = pairOf b
  · exact ⟨.unmodified, by simp, by rw [if_pos hp]; exact congrArg (Status.unmodified, ·, []) hp.symm⟩
  · exact ⟨.modified, by simp, by rw [if_neg hp, C18.three_way_unchanged_never_wins _ _ _ rfl hp]; rfl⟩

theorem execStep_this_eq_base (b : Option Entry) (oe : Entry) : execStep b b (some oe) = oe.exec := by
  cases b with
  | none => simp [execStep, execOn, threeWay]
  | some be => rw [execStep_some, sel_self]

/-! ### the steps when THIS = OTHER: every attribute decision is the tie `this` -/

theorem namesStep_same (b t : Option Entry) :
    namesStep b t t = ([], t.map fun e => (e.parent, e.name)) := by
  cases t <;> simp [namesStep, C18.three_way_tie, overrideAbsent, namesOn, pick]

theorem contentsStep_same (b t : Option Entry) : contentsStep b t t = (.unmodified, pairOf t, []) := by
  simp [contentsStep, C18.three_way_tie, contentsOn]

theorem execStep_same (b t : Option Entry) : execStep b t t = execOn .this b t t := by
  simp [execStep, C18.three_way_tie]

/-- a file that is kept gets the merged attributes; the executable bit only if it ends up a file -/
theorem assemble_kept (st : Status) (k : Kind) (c : Nat) (p : Option Id) (n : Nat) (x : Bool)
    (cf : List ConflictKind) (hst : st ≠ .deleted) :
    assemble st (some (k, c)) (some (p, n)) x cf = ⟨some ⟨p, n, k, c, if k = .file then x else false⟩, cf⟩ := by
  cases st <;> first | rfl | exact absurd rfl hst

/-- … which for the attributes of an entry `e` in normal form is `e` again -/
theorem assemble_entry (st : Status) (e : Entry) (cf : List ConflictKind) (hst : st ≠ .deleted)
    (hn : e.kind ≠ .file → e.exec = false) :
    assemble st (some (e.kind, e.content)) (some (e.parent, e.name)) e.exec cf = ⟨some e, cf⟩ := by
  rw [assemble_kept _ _ _ _ _ _ _ hst]
  split
  · rfl
  · next h => rw [← hn h]

end BreezyVerif.C17
