import BreezyVerif.Model.C38
import BreezyVerif.Lemmas.Lib.AList
/-
Association lists, the three row-update policies in a common normal form
(`… = if row ∈ l then l else l ++ [row]`), one step of each backend against the
specification, and lookups in the layers of the index store.
-/
namespace BreezyVerif.C38
open Lib

theorem alGet_eq_lookup {κ : Type} [DecidableEq κ] (l : List (κ × B)) (k : κ) : alGet l k = l.lookup k :=
  lookup_of_eqns (fun _ => rfl) (fun _ _ _ _ => rfl) l k

theorem alSet_eq_set {κ : Type} [DecidableEq κ] (k : κ) (v : B) (l : List (κ × B)) :
    alSet k v l = AList.set l k v := by
  induction l with
  | nil => rfl
  | cons e r ih => simp [alSet, AList.set, ih]

theorem alGet_alSet_same {κ : Type} [DecidableEq κ] (k : κ) (v : B) (l : List (κ × B)) :
    alGet (alSet k v l) k = some v := by
  simp [alGet_eq_lookup, alSet_eq_set, AList.lookup_set]

theorem alGet_alSet_other {κ : Type} [DecidableEq κ] (k q : κ) (v : B) (hq : k ≠ q) (l : List (κ × B)) :
    alGet (alSet k v l) q = alGet l q := by
  simp [alGet_eq_lookup, alSet_eq_set, AList.lookup_set, Ne.symm hq]

theorem alSet_of_get_some {κ : Type} [DecidableEq κ] (k : κ) (v : B) (l : List (κ × B))
    (h : alGet l k = some v) : alSet k v l = l :=
  alSet_eq_set k v l ▸ AList.set_of_lookup_some (alGet_eq_lookup l k ▸ h)

theorem alSet_of_get_none {κ : Type} [DecidableEq κ] (k : κ) (v : B) (l : List (κ × B))
    (h : alGet l k = none) : alSet k v l = l ++ [(k, v)] :=
  alSet_eq_set k v l ▸ AList.set_of_lookup_none v (alGet_eq_lookup l k ▸ h)

theorem alGet_none_of_no_key {κ : Type} [DecidableEq κ] (k : κ) (l : List (κ × B)) (h : ∀ e ∈ l, e.1 ≠ k) :
    alGet l k = none := by
  rw [alGet_eq_lookup, lookup_eq_none_iff_keys]
  exact fun hm => by obtain ⟨e, he, rfl⟩ := List.mem_map.mp hm; exact h e he rfl

theorem alGet_some_of_functional {κ : Type} [DecidableEq κ] (k : κ) (v : B) (l : List (κ × B))
    (hm : (k, v) ∈ l) (hf : ∀ e ∈ l, e.1 = k → e.2 = v) : alGet l k = some v :=
  alGet_eq_lookup l k ▸ lookup_of_mem_of_functional hm hf

theorem alGet_mem {κ : Type} [DecidableEq κ] (l : List (κ × B)) {k : κ} {v : B} (h : alGet l k = some v) :
    (k, v) ∈ l :=
  mem_of_lookup (alGet_eq_lookup l k ▸ h)

theorem alGet_none {κ : Type} [DecidableEq κ] (l : List (κ × B)) {k : κ} (h : alGet l k = none) :
    k ∉ l.map (·.1) :=
  lookup_eq_none_iff_keys.mp (alGet_eq_lookup l k ▸ h)

theorem alGet_append {κ : Type} [DecidableEq κ] (a b : List (κ × B)) (k : κ) :
    alGet (a ++ b) k = match alGet a k with | some v => some v | none => alGet b k := by
  simp only [alGet_eq_lookup, List.lookup_append]
  cases a.lookup k <;> rfl

theorem alGet_of_mem_nodup {κ : Type} [DecidableEq κ] {l : List (κ × B)} {k : κ} {v : B}
    (hn : (l.map (·.1)).Nodup) (hm : (k, v) ∈ l) : alGet l k = some v :=
  alGet_eq_lookup l k ▸ lookup_of_mem hn hm

theorem alAddNew_eq_alSet {κ : Type} [DecidableEq κ] (l : List (κ × B)) (k : κ) (v : B)
    (h : alOK l k v = true) : alAddNew k v l = alSet k v l := by
  unfold alOK at h
  unfold alAddNew
  cases hg : alGet l k with
  | none => simp only; rw [alSet_of_get_none k v l hg]
  | some v' =>
    simp only [hg, beq_iff_eq] at h
    subst h
    simp only
    rw [alSet_of_get_some k v' l hg]

/-- without repeated keys the order of the entries does not matter -/
theorem alGet_perm {κ : Type} [DecidableEq κ] (l l' : List (κ × B)) (hp : l.Perm l') (hn : (l.map (·.1)).Nodup)
    (k : κ) : alGet l' k = alGet l k := by
  have hn' : (l'.map (·.1)).Nodup := (hp.map (·.1)).nodup_iff.1 hn
  cases h : alGet l k with
  | some v => exact alGet_of_mem_nodup hn' (hp.mem_iff.1 (alGet_mem l h))
  | none =>
    cases h' : alGet l' k with
    | none => rfl
    | some v => exact absurd (alGet_of_mem_nodup hn (hp.mem_iff.2 (alGet_mem l' h'))) (by simp [h])

theorem sameKey_refl (e : Entry) : sameKey e e = true := by
  cases e <;> simp [sameKey]

theorem upsertRow_eq (row : Row) :
    ∀ (l : List Row), (∀ r ∈ l, r.1 = row.1 → sameKey r.2 row.2 = true → r = row) →
      upsertRow row l = if row ∈ l then l else l ++ [row]
  | [], _ => by simp [upsertRow]
  | r :: rs, h => by
    simp only [upsertRow]
    by_cases hc : r.1 = row.1 ∧ sameKey r.2 row.2 = true
    · have : r = row := h r (by simp) hc.1 hc.2
      subst this
      simp [hc]
    · have hne : r ≠ row := by
        intro he
        subst he
        exact hc ⟨rfl, sameKey_refl _⟩
      simp only [hc, if_false]
      rw [upsertRow_eq row rs (fun r' hr' => h r' (by simp [hr']))]
      by_cases hm : row ∈ rs
      · simp [hm]
      · have : ¬ (row = r) := fun he => hne he.symm
        simp [hm, this]

theorem addIfNoSha_eq (row : Row) (l : List Row) (h : ∀ r ∈ l, r.1 = row.1 → r = row) :
    addIfNoSha row l = if row ∈ l then l else l ++ [row] := by
  unfold addIfNoSha
  by_cases hm : row ∈ l
  · have : l.any (fun r => r.1 == row.1) = true := by
      rw [List.any_eq_true]
      exact ⟨row, hm, by simp⟩
    simp [hm, this]
  · have : l.any (fun r => r.1 == row.1) = false := by
      rw [Bool.eq_false_iff]
      intro ha
      rw [List.any_eq_true] at ha
      obtain ⟨r, hr, heq⟩ := ha
      have := h r hr (by simpa using heq)
      subst this
      exact hm hr
    simp [hm, this]

theorem replaceRow_eq (conflict : Row → Bool) (row : Row) (l : List Row)
    (h : ∀ r ∈ l, conflict r = true → r = row) :
    replaceRow conflict row l = if row ∈ l then l else l ++ [row] := by
  unfold replaceRow
  by_cases hm : row ∈ l
  · simp only [hm, if_true]
    rw [List.filter_eq_self]
    intro r hr
    by_cases hc : conflict r = true
    · simp [h r hr hc]
    · simp [hc]
  · simp only [hm, if_false]
    congr 1
    rw [List.filter_eq_self]
    intro r hr
    by_cases hc : conflict r = true
    · exact absurd (h r hr hc ▸ hr) hm
    · simpa using hc

/-- the rows of the `trees` table after `replace into`: the new row, and the old rows that share neither its key
nor its sha -/
theorem mem_treesReplace {s : B} {k : FKey} {l : List (FKey × B)} {e : FKey × B} :
    e ∈ treesReplace s k l ↔ e = (k, s) ∨ (e ∈ l ∧ e.1 ≠ k ∧ e.2 ≠ s) := by
  unfold treesReplace
  split
  · next hm =>
    simp only [List.mem_filter, decide_eq_true_eq]
    exact ⟨fun h => h.2.imp_right fun h2 => ⟨h.1, h2⟩, fun h => h.elim (fun h1 => ⟨h1 ▸ hm, Or.inl h1⟩)
      fun h2 => ⟨h2.1, Or.inr h2.2⟩⟩
  · simp only [List.mem_append, List.mem_filter, List.mem_singleton, decide_eq_true_eq]
    exact Or.comm

theorem treesOK_iff {l : List (FKey × B)} {k : FKey} {s : B} :
    treesOK l k s = true ↔ ∀ e ∈ l, (e.1 = k ↔ e.2 = s) := by
  simp only [treesOK, List.all_eq_true, Bool.and_eq_true, Bool.or_eq_true, bne_iff_ne, ne_eq,
    beq_iff_eq, ← Decidable.imp_iff_not_or]
  exact ⟨fun h e he => ⟨(h e he).1, (h e he).2⟩, fun h e he => ⟨(h e he).1, (h e he).2⟩⟩

/-- when no other row has this key or this sha, `replace into trees` is a plain `d[k] = sha` -/
theorem treesReplace_eq (s : B) (k : FKey) (l : List (FKey × B)) (h : treesOK l k s = true) :
    treesReplace s k l = alSet k s l := by
  rw [treesOK_iff] at h
  have hf : ∀ e ∈ l, e.1 = k → e = (k, s) := fun e he hk => Prod.ext hk ((h e he).1 hk)
  unfold treesReplace
  by_cases hm : (k, s) ∈ l
  · rw [if_pos hm, alSet_of_get_some k s l (alGet_some_of_functional k s l hm fun e he hk => (h e he).1 hk),
      List.filter_eq_self]
    intro e he
    by_cases hk : e.1 = k
    · simp [hf e he hk]
    · simp [hk, mt (h e he).2 hk]
  · have hnk : ∀ e ∈ l, e.1 ≠ k := fun e he hk => hm (hf e he hk ▸ he)
    rw [if_neg hm, alSet_of_get_none k s l (alGet_none_of_no_key k l hnk)]
    congr 1
    rw [List.filter_eq_self]
    intro e he
    simp [hnk e he, mt (h e he).2 (hnk e he)]

theorem okIndex_rows {st : St} {o : Op} (h : okIndex st o = true) :
    ∀ r ∈ st.git, r.1 = o.row.1 → r = o.row := by
  unfold okIndex at h
  simp only [Bool.and_eq_true, List.all_eq_true] at h
  intro r hr hs
  have := h.1 r hr
  simp only [Bool.or_eq_true, bne_iff_ne, beq_iff_eq] at this
  rcases this with h1 | h1
  · exact absurd hs h1
  · exact h1

theorem step_index_eq_dict (st : St) (o : Op) (h : okIndex st o = true) :
    step .index st o = step .dict st o := by
  have hrows := okIndex_rows h
  have hgit : addIfNoSha o.row st.git = upsertRow o.row st.git := by
    rw [addIfNoSha_eq o.row st.git hrows,
      upsertRow_eq o.row st.git (fun r hr hs _ => hrows r hr hs)]
  have hmap : mapOK st o = true := by
    unfold okIndex at h
    simp only [Bool.and_eq_true] at h
    exact h.2
  cases o with
  | commit r s t tm =>
    simp only [step, hgit]
    rw [alAddNew_eq_alSet st.commits r s (by simpa [mapOK] using hmap)]
  | blob s f r =>
    simp only [step, hgit]
    rw [alAddNew_eq_alSet st.blobs (f, r) s (by simpa [mapOK] using hmap)]
  | tree s f r =>
    simp only [step, hgit]
    rw [alAddNew_eq_alSet st.trees (f, r) s (by simpa [mapOK] using hmap)]

theorem okSqlite_key {st : St} {o : Op} (h : okSqlite st o = true) :
    ∀ r ∈ st.git, sameKey r.2 o.entry = true → r = o.row := by
  unfold okSqlite at h
  simp only [Bool.and_eq_true, List.all_eq_true] at h
  intro r hr hk
  have := (h.1 r hr).1
  simpa [hk] using this

theorem okSqlite_tree {st : St} {s f r : B} (h : okSqlite st (.tree s f r) = true) :
    ∀ x ∈ st.git, isTreeRow x = true → x.1 = s → x = (Op.tree s f r).row := by
  unfold okSqlite at h
  simp only [Bool.and_eq_true, List.all_eq_true] at h
  intro x hx h2 h3
  have := (h.1 x hx).2
  simpa [isTreeOp, h2, h3, Op.sha] using this

/-! the three `replace into` conflict predicates only fire on rows with the key of the new row
(or, for trees, its sha) -/

theorem sameKey_of_isCommitOf {r t : B} {tm : Option B} :
    ∀ x : Row, isCommitOf r x = true → sameKey x.2 (.commit r t tm) = true
  | (_, .commit ..), h => h
  | (_, .blob ..), h => nomatch h
  | (_, .tree ..), h => nomatch h

theorem sameKey_of_isBlobOf {f r : B} : ∀ x : Row, isBlobOf (f, r) x = true → sameKey x.2 (.blob f r) = true
  | (_, .blob ..), h => h
  | (_, .commit ..), h => nomatch h
  | (_, .tree ..), h => nomatch h

theorem of_treeConflict {s f r : B} :
    ∀ x : Row, treeConflict s (f, r) x = true → isTreeRow x = true ∧ (x.1 = s ∨ sameKey x.2 (.tree f r) = true)
  | (_, .tree ..), h => ⟨rfl, by simpa [treeConflict, sameKey] using h⟩
  | (_, .commit ..), h => nomatch h
  | (_, .blob ..), h => nomatch h

theorem step_sqlite_eq_dict (st : St) (o : Op) (h : okSqlite st o = true) :
    step .sqlite st o = step .dict st o := by
  have hkey := okSqlite_key h
  have hup := upsertRow_eq o.row st.git (fun r hr _ hk => hkey r hr hk)
  cases o with
  | commit r s t tm =>
    simp only [step]
    rw [hup, replaceRow_eq _ _ _ fun x hx hc => hkey x hx (sameKey_of_isCommitOf x hc)]
  | blob s f r =>
    simp only [step]
    rw [hup, replaceRow_eq _ _ _ fun x hx hc => hkey x hx (sameKey_of_isBlobOf x hc)]
  | tree s f r =>
    have hconf : ∀ x ∈ st.git, treeConflict s (f, r) x = true → x = (Op.tree s f r).row := fun x hx hc =>
      (of_treeConflict x hc).2.elim (okSqlite_tree h x hx (of_treeConflict x hc).1) (hkey x hx)
    simp only [okSqlite, Bool.and_eq_true] at h
    simp only [step]
    rw [hup, replaceRow_eq _ _ _ hconf, treesReplace_eq s (f, r) st.trees h.2]

theorem run_eq_of_okSeq (b : Backend) (ok : St → Op → Bool)
    (hstep : ∀ st o, ok st o = true → step b st o = step .dict st o) :
    ∀ (ops : List Op) (st : St), okSeq ok st ops = true → run b st ops = run .dict st ops
  | [], _, _ => rfl
  | o :: ops, st, h => by
    simp only [okSeq, Bool.and_eq_true] at h
    simp only [run, List.foldl_cons]
    rw [hstep st o h.1]
    exact run_eq_of_okSeq b ok hstep ops (step .dict st o) h.2

theorem mem_upsertRow (row : Row) : ∀ (l : List Row), row ∈ upsertRow row l
  | [] => by simp [upsertRow]
  | r :: rs => by
    simp only [upsertRow]
    split
    · simp
    · simp [mem_upsertRow row rs]

theorem upsertRow_filter_other (row : Row) (sha : B) (h : row.1 ≠ sha) :
    ∀ (l : List Row), (upsertRow row l).filter (fun r => r.1 == sha) = l.filter (fun r => r.1 == sha)
  | [] => by simp [upsertRow, h]
  | r :: rs => by
    simp only [upsertRow]
    split
    · rename_i hc
      have : r.1 ≠ sha := by rw [hc.1]; exact h
      simp [h, this]
    · simp only [List.filter_cons]
      rw [upsertRow_filter_other row sha h rs]

/-! `_get_entry` on the layered index store looks the key up in the files and the builder laid end to end -/

theorem layerGet_eq_alGet (l : Layer) (k : IKey) : layerGet l k = alGet l k := by
  induction l with
  | nil => rfl
  | cons x xs ih =>
    obtain ⟨k', v'⟩ := x
    simp only [layerGet, alGet, ih]

theorem filesGet_eq (ls : List Layer) (k : IKey) : filesGet ls k = alGet (ls.flatMap id) k := by
  induction ls with
  | nil => rfl
  | cons l rest ih =>
    simp only [filesGet, List.flatMap_cons, id, alGet_append, layerGet_eq_alGet]
    cases alGet l k with
    | some v => rfl
    | none => exact ih

theorem IdxStore.get_eq (s : IdxStore) (k : IKey) :
    s.get k = alGet (s.files.flatMap id ++ s.builder.getD []) k := by
  unfold IdxStore.get
  rw [filesGet_eq, alGet_append]
  cases alGet (s.files.flatMap id) k with
  | some v => rfl
  | none => cases s.builder with
    | some b => exact layerGet_eq_alGet b k
    | none => rfl

theorem IdxStore.allKeys_eq (s : IdxStore) :
    s.allKeys = (s.files.flatMap id ++ s.builder.getD []).map (·.1) := by
  unfold IdxStore.allKeys keysOf
  cases s.builder <;> simp

end BreezyVerif.C38
