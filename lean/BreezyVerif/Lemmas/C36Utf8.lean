import BreezyVerif.Model.C36
/-! C36 — the UTF-8 codec model.  The table of well-formed byte sequences (`Enc`) stands between
`encCp` and `decodeStep`: each is proved equal to the table on its own, so that they are inverse to
each other on single code points; the string-level round trips follow. -/
namespace BreezyVerif.C36

/-- a continuation byte carries one base-64 digit of the code point; the only place where division
is reasoned about -/
theorem div_mod_64 (hi : Nat) {lo : Nat} (h : lo < 64) : (hi * 64 + lo) / 64 = hi ∧ (hi * 64 + lo) % 64 = lo :=
  ⟨by rw [Nat.mul_comm, Nat.mul_add_div (by decide), Nat.div_eq_of_lt h, Nat.add_zero],
   by rw [Nat.mul_comm, Nat.mul_add_mod, Nat.mod_eq_of_lt h]⟩

theorem digits (c : Nat) : ∃ hi lo, lo < 64 ∧ c = hi * 64 + lo :=
  ⟨c / 64, c % 64, Nat.mod_lt _ (by decide), (Nat.div_add_mod' c 64).symm⟩

/-- The Unicode Standard 15, Table 3-7 (well-formed UTF-8 byte sequences): `Enc c p` says that `p`
is the UTF-8 form of the scalar value `c`.  `x0` is the payload of the leading byte (its value above
the marker `C0`, `E0`, `F0`), `x1`, `x2`, `x3` are the payloads of the continuation bytes (above
`80`), and `c` has these as its base-64 digits.  The table's special rows are the conditions on
`x1`: with `x0 = 0` a small `x1` would be an overlong form, `ED` (`x0 = 13`) with `x1 ≥ 32` a
surrogate, `F4` (`x0 = 4`) with `x1 ≥ 16` a value beyond U+10FFFF. -/
inductive Enc : Nat → NBytes → Prop
  | one {c : Nat} : c < 0x80 → Enc c [c]
  | two {x0 x1 : Nat} : 2 ≤ x0 → x0 < 32 → x1 < 64 → Enc (x0 * 64 + x1) [0xC0 + x0, 0x80 + x1]
  | three {x0 x1 x2 : Nat} : x0 < 16 → x1 < 64 → x2 < 64 → (x0 = 0 → 32 ≤ x1) → (x0 = 13 → x1 < 32) →
      Enc (x0 * 4096 + x1 * 64 + x2) [0xE0 + x0, 0x80 + x1, 0x80 + x2]
  | four {x0 x1 x2 x3 : Nat} : x0 < 5 → x1 < 64 → x2 < 64 → x3 < 64 → (x0 = 0 → 16 ≤ x1) →
      (x0 = 4 → x1 < 16) →
      Enc (x0 * 262144 + x1 * 4096 + x2 * 64 + x3) [0xF0 + x0, 0x80 + x1, 0x80 + x2, 0x80 + x3]

theorem encCp_ascii {se : Bool} {c : Nat} (h : c < 0x80) : encCp se c = some [c] := by
  rw [encCp, if_pos h]

/-- the encoder writes the table's form, with either error handler -/
theorem encCp_of_enc {se : Bool} {c : Nat} {p : NBytes} (h : Enc c p) : encCp se c = some p := by
  cases h with
  | one h => exact encCp_ascii h
  | @two x0 x1 h0 h0' h1 =>
    rw [encCp, if_neg (by omega), if_pos (by omega), (div_mod_64 x0 h1).1, (div_mod_64 x0 h1).2]
  | @three x0 x1 x2 h0 h1 h2 hlo hs =>
    -- the row's conditions on the digits say in which range the code point lies
    have r : 0x800 ≤ x0 * 4096 + x1 * 64 + x2 ∧ x0 * 4096 + x1 * 64 + x2 < 0x10000 ∧
      ¬(0xD800 ≤ x0 * 4096 + x1 * 64 + x2 ∧ x0 * 4096 + x1 * 64 + x2 < 0xE000) := by omega
    rw [encCp, if_neg (by omega), if_neg (by omega), if_pos r.2.1, if_neg r.2.2,
      show x0 * 4096 + x1 * 64 + x2 = (x0 * 64 + x1) * 64 + x2 by omega,
      ← Nat.div_div_eq_div_mul _ 64 64, (div_mod_64 _ h2).1, (div_mod_64 _ h2).2, (div_mod_64 _ h1).1,
      (div_mod_64 _ h1).2]
  | @four x0 x1 x2 x3 h0 h1 h2 h3 hlo hhi =>
    have r : 0x10000 ≤ x0 * 262144 + x1 * 4096 + x2 * 64 + x3 ∧ x0 * 262144 + x1 * 4096 + x2 * 64 + x3 < 0x110000 := by
      omega
    rw [encCp, if_neg (by omega), if_neg (by omega), if_neg (by omega), if_pos r.2,
      show x0 * 262144 + x1 * 4096 + x2 * 64 + x3 = ((x0 * 64 + x1) * 64 + x2) * 64 + x3 by omega,
      ← Nat.div_div_eq_div_mul _ 4096 64, ← Nat.div_div_eq_div_mul _ 64 64,
      (div_mod_64 _ h3).1, (div_mod_64 _ h3).2, (div_mod_64 _ h2).1,
      (div_mod_64 _ h2).2, (div_mod_64 _ h1).1, (div_mod_64 _ h1).2]

/-- the lone surrogate the `surrogateescape` decoder produces encodes back to the byte -/
theorem encCp_escape {b : Nat} (h1 : 0x80 ≤ b) (h2 : b < 256) : encCp true (0xDC00 + b) = some [b] := by
  rw [encCp, if_neg (by omega), if_neg (by omega), if_pos (by omega), if_pos (by omega),
    if_pos ⟨rfl, by omega, by omega⟩, Nat.add_sub_cancel_left]

theorem decodeStep_nil : decodeStep [] = none := rfl

theorem decodeStep_ascii {b0 : Nat} (rest : NBytes) (h : b0 < 0x80) : decodeStep (b0 :: rest) = some (b0, rest) := by
  simp only [decodeStep, if_pos h]

theorem decodeStep_none_ge {b0 : Nat} {rest : NBytes} (h : decodeStep (b0 :: rest) = none) : 0x80 ≤ b0 :=
  Nat.le_of_not_lt fun hlt => by rw [decodeStep_ascii rest hlt] at h; cases h

/-- the decoder reads the table's form back, whatever follows -/
theorem decodeStep_of_enc {c : Nat} {p : NBytes} (h : Enc c p) (r : NBytes) : decodeStep (p ++ r) = some (c, r) := by
  cases h with
  | one h => simp only [List.cons_append, List.nil_append, decodeStep, if_pos h]
  | @two x0 x1 h0 h0' h1 =>
    simp only [List.cons_append, List.nil_append, decodeStep]
    rw [if_neg (by omega), if_pos (by omega), if_pos (by omega), Nat.add_sub_cancel_left, Nat.add_sub_cancel_left]
  | @three x0 x1 x2 h0 h1 h2 hlo hs =>
    simp only [List.cons_append, List.nil_append, decodeStep]
    rw [if_neg (by omega), if_neg (by omega), if_pos (by omega),
      if_pos ⟨by split <;> omega, by split <;> omega, by omega, by omega⟩,
      Nat.add_sub_cancel_left, Nat.add_sub_cancel_left, Nat.add_sub_cancel_left]
  | @four x0 x1 x2 x3 h0 h1 h2 h3 hlo hhi =>
    simp only [List.cons_append, List.nil_append, decodeStep]
    rw [if_neg (by omega), if_neg (by omega), if_neg (by omega), if_pos (by omega),
      if_pos ⟨by split <;> omega, by split <;> omega, by omega, by omega, by omega, by omega⟩,
      Nat.add_sub_cancel_left, Nat.add_sub_cancel_left, Nat.add_sub_cancel_left, Nat.add_sub_cancel_left]

/-- whatever the decoder accepts is a form of the table -/
theorem enc_of_decodeStep {l : NBytes} {c : Nat} {r : NBytes} (h : decodeStep l = some (c, r)) :
    ∃ p, Enc c p ∧ l = p ++ r := by
  have : ∀ x ∈ decodeStep l, ∃ p, Enc x.1 p ∧ l = p ++ x.2 := by
    -- `case2`, `case3`, `case6`, `case9` are the branches that return `some`; the others hold vacuously
    fun_cases decodeStep l <;> simp only [Option.mem_def, Option.some.injEq, forall_eq', reduceCtorEq, false_imp_iff,
      implies_true]
    case case2 h0 => exact ⟨_, .one h0, rfl⟩
    case case3 b0 _ h0 b1 r h1 =>
      obtain ⟨x0, rfl⟩ := Nat.exists_eq_add_of_le (Nat.le_trans (by decide : 0xC0 ≤ 0xC2) h0.1)
      obtain ⟨x1, rfl⟩ := Nat.exists_eq_add_of_le h1.1
      rw [Nat.add_sub_cancel_left, Nat.add_sub_cancel_left]
      exact ⟨_, .two (by omega) (by omega) (by omega), rfl⟩
    case case6 b0 _ _ h0 b1 b2 r h1 =>
      obtain ⟨x0, rfl⟩ := Nat.exists_eq_add_of_le h0.1
      obtain ⟨x2, rfl⟩ := Nat.exists_eq_add_of_le h1.2.2.1
      have hb1 : 0x80 ≤ b1 := Nat.le_trans (by split <;> decide) h1.1
      obtain ⟨x1, rfl⟩ := Nat.exists_eq_add_of_le hb1
      rw [Nat.add_sub_cancel_left, Nat.add_sub_cancel_left, Nat.add_sub_cancel_left]
      refine ⟨_, .three (by omega) (by split at h1 <;> split at h1 <;> omega) (by omega) (fun e => ?_) (fun e => ?_), rfl⟩
      · subst e; rw [if_pos rfl] at h1; omega
      · subst e; rw [if_pos rfl] at h1; omega
    case case9 b0 _ _ _ h0 b1 b2 b3 r h1 =>
      obtain ⟨x0, rfl⟩ := Nat.exists_eq_add_of_le h0.1
      obtain ⟨x2, rfl⟩ := Nat.exists_eq_add_of_le h1.2.2.1
      obtain ⟨x3, rfl⟩ := Nat.exists_eq_add_of_le h1.2.2.2.2.1
      have hb1 : 0x80 ≤ b1 := Nat.le_trans (by split <;> decide) h1.1
      obtain ⟨x1, rfl⟩ := Nat.exists_eq_add_of_le hb1
      rw [Nat.add_sub_cancel_left, Nat.add_sub_cancel_left, Nat.add_sub_cancel_left, Nat.add_sub_cancel_left]
      refine ⟨_, .four (by omega) (by split at h1 <;> split at h1 <;> omega) (by omega) (by omega) (fun e => ?_) (fun e => ?_), rfl⟩
      · subst e; rw [if_pos rfl] at h1; omega
      · subst e; rw [if_pos rfl] at h1; omega
  exact this _ h

/-- every scalar value has a UTF-8 form -/
theorem enc_exists {c : Nat} (h : c < 0x110000) (hs : c < 0xD800 ∨ 0xE000 ≤ c) : ∃ p, Enc c p := by
  by_cases h1 : c < 0x80
  · exact ⟨_, .one h1⟩
  obtain ⟨c1, x1, hx1, rfl⟩ := digits c
  by_cases h2 : c1 * 64 + x1 < 0x800
  · exact ⟨_, .two (by omega) (by omega) hx1⟩
  obtain ⟨c2, x2, hx2, rfl⟩ := digits c1
  by_cases h3 : (c2 * 64 + x2) * 64 + x1 < 0x10000
  · have : c2 < 16 ∧ (c2 = 0 → 32 ≤ x2) ∧ (c2 = 13 → x2 < 32) := by omega
    rw [show (c2 * 64 + x2) * 64 + x1 = c2 * 4096 + x2 * 64 + x1 by omega]
    exact ⟨_, .three this.1 hx2 hx1 this.2.1 this.2.2⟩
  obtain ⟨c3, x3, hx3, rfl⟩ := digits c2
  have : c3 < 5 ∧ (c3 = 0 → 16 ≤ x3) ∧ (c3 = 4 → x3 < 16) := by omega
  rw [show ((c3 * 64 + x3) * 64 + x2) * 64 + x1 = c3 * 262144 + x3 * 4096 + x2 * 64 + x1 by omega]
  exact ⟨_, .four this.1 hx3 hx2 hx1 this.2.1 this.2.2⟩

/-- the encoder is the table, plus one row for `surrogateescape`: U+DC80..U+DCFF as the single
byte they stand for -/
theorem encCp_eq_some_iff {se : Bool} {c : Nat} {p : NBytes} :
    encCp se c = some p ↔ Enc c p ∨ (se = true ∧ 0xDC80 ≤ c ∧ c ≤ 0xDCFF ∧ p = [c - 0xDC00]) := by
  constructor
  · intro h
    by_cases hs : 0xD800 ≤ c ∧ c < 0xE000
    · rw [encCp, if_neg (by omega), if_neg (by omega), if_pos (by omega), if_pos hs] at h
      split at h
      · next hse => exact .inr ⟨hse.1, hse.2.1, hse.2.2, (Option.some.inj h).symm⟩
      · cases h
    · by_cases h4 : c < 0x110000
      · obtain ⟨q, hq⟩ := enc_exists h4 (by omega)
        cases (encCp_of_enc hq).symm.trans h
        exact .inl hq
      · rw [encCp, if_neg (by omega), if_neg (by omega), if_neg (by omega), if_neg h4] at h
        cases h
  · rintro (h | ⟨rfl, h1, h2, rfl⟩)
    · exact encCp_of_enc h
    · rw [encCp, if_neg (by omega), if_neg (by omega), if_pos (by omega), if_pos (by omega), if_pos ⟨rfl, h1, h2⟩]

theorem enc_of_encCp_false {c : Nat} {p : NBytes} (h : encCp false c = some p) : Enc c p :=
  (encCp_eq_some_iff.mp h).resolve_right (fun h => nomatch h.1)

theorem decodeStep_eq_some_iff {l : NBytes} {c : Nat} {r : NBytes} :
    decodeStep l = some (c, r) ↔ ∃ p, encCp false c = some p ∧ l = p ++ r :=
  ⟨fun h => (enc_of_decodeStep h).imp fun _ hp => ⟨encCp_of_enc hp.1, hp.2⟩,
   fun ⟨_, hp, hl⟩ => hl ▸ decodeStep_of_enc (enc_of_encCp_false hp) r⟩

theorem encCp_true_of_false {c : Nat} {p : NBytes} (h : encCp false c = some p) : encCp true c = some p :=
  encCp_of_enc (enc_of_encCp_false h)

theorem Enc.ne_nil {c : Nat} {p : NBytes} (h : Enc c p) : p ≠ [] := by
  cases h <;> exact List.cons_ne_nil _ _

theorem Enc.isBytes {c : Nat} {p : NBytes} (h : Enc c p) : isBytes p = true := by
  cases h
  all_goals
    simp only [C36.isBytes, List.all_cons, List.all_nil, Bool.and_true, Bool.and_eq_true, decide_eq_true_eq]
    omega

theorem encCp_ne_nil {se : Bool} {c : Nat} {p : NBytes} (h : encCp se c = some p) : p ≠ [] := by
  rcases encCp_eq_some_iff.mp h with h | ⟨_, _, _, rfl⟩
  · exact h.ne_nil
  · exact List.cons_ne_nil _ _

theorem encCp_isBytes {se : Bool} {c : Nat} {p : NBytes} (h : encCp se c = some p) : isBytes p = true := by
  rcases encCp_eq_some_iff.mp h with h | ⟨_, _, _, rfl⟩
  · exact h.isBytes
  · simp only [isBytes, List.all_cons, List.all_nil, Bool.and_true, decide_eq_true_eq]
    omega

theorem isBytes_cons {b : Nat} {l : List Nat} : isBytes (b :: l) = true ↔ b < 256 ∧ isBytes l = true := by
  simp [isBytes]

theorem isBytes_append {l1 l2 : List Nat} : isBytes (l1 ++ l2) = true ↔ isBytes l1 = true ∧ isBytes l2 = true := by
  simp [isBytes]

theorem encodeUtf8_cons (se : Bool) (c : Nat) (cs : Str) :
    encodeUtf8 se (c :: cs) = (encCp se c).bind (fun p => (encodeUtf8 se cs).map (p ++ ·)) := by
  rw [encodeUtf8]
  cases encCp se c <;> cases encodeUtf8 se cs <;> rfl

theorem encodeUtf8_cons_eq_some {se : Bool} {c : Nat} {cs : Str} {bs : NBytes} :
    encodeUtf8 se (c :: cs) = some bs ↔ ∃ p, encCp se c = some p ∧ ∃ q, encodeUtf8 se cs = some q ∧ p ++ q = bs := by
  simp only [encodeUtf8_cons, Option.bind_eq_some_iff, Option.map_eq_some_iff]

theorem decodeSE_nil : decodeSE [] = [] := by rw [decodeSE]

theorem decodeStrict_nil : decodeStrict [] = some [] := by rw [decodeStrict]

theorem decodeSE_of_step {b0 : Nat} {rest : NBytes} {c : Nat} {r : NBytes}
    (h : decodeStep (b0 :: rest) = some (c, r)) : decodeSE (b0 :: rest) = c :: decodeSE r := by
  rw [decodeSE]
  split <;> simp_all

theorem decodeSE_of_none {b0 : Nat} {rest : NBytes}
    (h : decodeStep (b0 :: rest) = none) : decodeSE (b0 :: rest) = (0xDC00 + b0) :: decodeSE rest := by
  rw [decodeSE]
  split <;> simp_all

theorem decodeStrict_of_step {l : NBytes} {c : Nat} {r : NBytes} (h : decodeStep l = some (c, r)) :
    decodeStrict l = (decodeStrict r).map (c :: ·) := by
  cases l with
  | nil => cases h
  | cons b0 rest =>
    rw [decodeStrict]
    split <;> simp_all

theorem decodeStrict_of_none {l : NBytes} (h : decodeStep l = none) (hl : l ≠ []) : decodeStrict l = none := by
  cases l with
  | nil => exact absurd rfl hl
  | cons b0 rest =>
    rw [decodeStrict]
    split <;> simp_all

/-- `encode_git_path(decode_git_path(b)) == b` for every byte string, well-formed
UTF-8 or not -/
theorem encode_decode_surrogateescape (b : NBytes) (hb : isBytes b = true) :
    encodeUtf8 true (decodeSE b) = some b := by
  induction b using decodeSE.induct with
  | case1 => rw [decodeSE_nil]; rfl
  | case2 b0 rest c r h ih =>
    obtain ⟨p, hp, hl⟩ := decodeStep_eq_some_iff.mp h
    rw [hl] at hb
    rw [decodeSE_of_step h, encodeUtf8_cons, encCp_true_of_false hp, ih (isBytes_append.mp hb).2, hl]
    rfl
  | case3 b0 rest h ih =>
    have hb' := isBytes_cons.mp hb
    rw [decodeSE_of_none h, encodeUtf8_cons, encCp_escape (decodeStep_none_ge h) hb'.1, ih hb'.2]
    rfl

/-- `s.encode("utf-8").decode("utf-8") == s` whenever `s` can be encoded (no surrogates) -/
theorem decode_encode_strict (s : Str) (bs : NBytes) (h : encodeUtf8 false s = some bs) :
    decodeStrict bs = some s := by
  induction s generalizing bs with
  | nil => cases h; exact decodeStrict_nil
  | cons c cs ih =>
    obtain ⟨p, hp, q, hq, rfl⟩ := encodeUtf8_cons_eq_some.mp h
    rw [decodeStrict_of_step (decodeStep_eq_some_iff.mpr ⟨p, hp, rfl⟩), ih q hq]
    rfl

/-- `b.decode("utf-8").encode("utf-8") == b` whenever `b` is well-formed UTF-8 -/
theorem encode_decode_strict (bs : NBytes) (s : Str) (h : decodeStrict bs = some s) :
    encodeUtf8 false s = some bs := by
  induction bs using decodeStrict.induct generalizing s with
  | case1 => cases decodeStrict_nil.symm.trans h; rfl
  | case2 b0 rest c r hstep ih =>
    obtain ⟨p, hp, hl⟩ := decodeStep_eq_some_iff.mp hstep
    rw [decodeStrict_of_step hstep, Option.map_eq_some_iff] at h
    obtain ⟨t, ht, rfl⟩ := h
    rw [encodeUtf8_cons, hp, ih t ht, hl]
    rfl
  | case3 b0 rest hstep =>
    rw [decodeStrict_of_none hstep (List.cons_ne_nil _ _)] at h
    cases h

theorem encodeUtf8_ascii (se : Bool) (s : Str) (h : s.all (· < 128) = true) : encodeUtf8 se s = some s := by
  induction s with
  | nil => rfl
  | cons c cs ih =>
    simp only [List.all_cons, Bool.and_eq_true, decide_eq_true_eq] at h
    rw [encodeUtf8_cons, ih h.2, encCp_ascii h.1]
    rfl

theorem decodeStrict_ascii (s : Str) (h : s.all (· < 128) = true) : decodeStrict s = some s :=
  decode_encode_strict s s (encodeUtf8_ascii false s h)

theorem encodeUtf8_isBytes {se : Bool} {s : Str} {bs : NBytes} (h : encodeUtf8 se s = some bs) :
    isBytes bs = true := by
  induction s generalizing bs with
  | nil => cases h; rfl
  | cons c cs ih =>
    obtain ⟨p, hp, q, hq, rfl⟩ := encodeUtf8_cons_eq_some.mp h
    exact isBytes_append.mpr ⟨encCp_isBytes hp, ih hq⟩

end BreezyVerif.C36
