import BreezyVerif.Lemmas.C30Generic
import BreezyVerif.Lemmas.C30LP
/-! the five laws are preserved by the machine combinators of Model/C30.lean
(cap, guard, sequence, alternative) and hold for `_get_line` -/
namespace BreezyVerif.C30
open BreezyVerif.C29

variable {S : Type} {M : Machine S} {wf : S → Prop}

theorem Laws.cap (L : Laws M wf) (cap : Nat) (hc : 1 ≤ cap) : Laws (capMachine M cap) wf where
  append := L.append
  wf_feed := L.wf_feed
  fin_feed := L.fin_feed
  fin_stop := L.fin_stop
  hint := by
    intro s q hwf hnf hfin
    obtain ⟨h0, h1, h2⟩ := L.hint s q hwf hnf hfin
    refine ⟨h0, ?_, ?_⟩
    · show 1 ≤ min (M.nrs s) (cap : Int); omega
    · show min (M.nrs s) (cap : Int) + _ ≤ _
      have : min (M.nrs s) (cap : Int) ≤ M.nrs s := Int.min_le_left _ _
      have h2' : M.nrs s + ((M.unused (M.feed s q)).length : Int) ≤ q.length := h2
      show min (M.nrs s) (cap : Int) + ((M.unused (M.feed s q)).length : Int) ≤ q.length
      omega

theorem Laws.guard (L : Laws M wf) (ok : S → Bool)
    (hmono : ∀ s x, ok (M.feed s x) = true → ok s = true)
    (hfin : ∀ s x, M.fin s = true → ok (M.feed s x) = ok s) :
    Laws (guardMachine M ok) wf where
  append := L.append
  wf_feed := L.wf_feed
  fin_feed := by
    intro s x h
    simp only [guardMachine, Bool.and_eq_true] at h ⊢
    obtain ⟨h1, h2⟩ := L.fin_feed s x h.1
    exact ⟨⟨h1, by rw [hfin s x h.1]; exact h.2⟩, h2⟩
  fin_stop := by
    intro s h
    simp only [guardMachine, Bool.and_eq_true] at h
    simp [guardMachine, L.fin_stop s h.1]
  hint := by
    intro s q hwf hnf hfinq
    simp only [guardMachine, Bool.and_eq_true] at hfinq
    have hok : ok s = true := hmono s q hfinq.2
    have hnf' : M.fin s = false := by
      simp only [guardMachine, hok, Bool.and_true] at hnf
      exact hnf
    obtain ⟨h0, h1, h2⟩ := L.hint s q hwf hnf' hfinq.1
    refine ⟨by simp [guardMachine, h0, hok], ?_, ?_⟩
    · simp only [guardMachine, hok, if_true]; exact h1
    · simp only [guardMachine, hok, if_true]; exact h2

theorem guard_stops {S : Type} (M : Machine S) (ok : S → Bool) (s : S) (h : ok s = false) :
    (guardMachine M ok).nrs s = 0 ∧ (guardMachine M ok).stop s = true ∧
      (guardMachine M ok).fin s = false := by
  simp [guardMachine, h]

def altWf {S1 S2 : Type} (wf1 : S1 → Prop) (wf2 : S2 → Prop) : S1 ⊕ S2 → Prop
  | .inl a => wf1 a
  | .inr b => wf2 b

theorem Laws.alt {S1 S2 : Type} {M1 : Machine S1} {M2 : Machine S2} {wf1 : S1 → Prop}
    {wf2 : S2 → Prop} (L1 : Laws M1 wf1) (L2 : Laws M2 wf2) :
    Laws (altMachine M1 M2) (altWf wf1 wf2) where
  append := by
    intro s a b
    cases s with
    | inl x => simp only [altMachine]; rw [L1.append]
    | inr x => simp only [altMachine]; rw [L2.append]
  wf_feed := by
    intro s x h
    cases s with
    | inl a => exact L1.wf_feed a x h
    | inr a => exact L2.wf_feed a x h
  fin_feed := by
    intro s x h
    cases s with
    | inl a => exact L1.fin_feed a x h
    | inr a => exact L2.fin_feed a x h
  fin_stop := by
    intro s h
    cases s with
    | inl a => exact L1.fin_stop a h
    | inr a => exact L2.fin_stop a h
  hint := by
    intro s q hwf hnf hfin
    cases s with
    | inl a => exact L1.hint a q hwf hnf hfin
    | inr a => exact L2.hint a q hwf hnf hfin

theorem nilLaws : Laws nilMachine (fun _ => True) where
  append := by intro s a b; simp [nilMachine]
  wf_feed := by intros; trivial
  fin_feed := by intro s x _; simp [nilMachine]
  fin_stop := by intro s _; rfl
  hint := by intro s q _ hnf _; simp [nilMachine] at hnf

def seqWf {S1 S2 : Type} (M1 : Machine S1) (wf1 : S1 → Prop) (wf2 : S2 → Prop) : S1 ⊕ S2 → Prop
  | .inl s1 => wf1 s1 ∧ M1.fin s1 = false
  | .inr s2 => wf2 s2

theorem Laws.seq {S1 S2 : Type} {M1 : Machine S1} {M2 : Machine S2} {wf1 : S1 → Prop}
    {wf2 : S2 → Prop} (L1 : Laws M1 wf1) (L2 : Laws M2 wf2) (k : S1 → S2)
    (hk_stable : ∀ s1 x, M1.fin s1 = true → k (M1.feed s1 x) = k s1)
    (hk_wf : ∀ s1, wf1 s1 → M1.fin s1 = true → wf2 (k s1))
    (hk_unused : ∀ s1, wf1 s1 → M1.fin s1 = true → M2.fin (k s1) = true → M2.unused (k s1) = []) :
    Laws (seqMachine M1 M2 k) (seqWf M1 wf1 wf2) where
  append := by
    intro s a b
    cases s with
    | inr s2 => simp only [seqMachine]; rw [L2.append]
    | inl s1 =>
      simp only [seqMachine]
      cases hf : M1.fin (M1.feed s1 a) with
      | false =>
        simp only [Bool.false_eq_true, if_false, L1.append]
      | true =>
        obtain ⟨f2, u2⟩ := L1.fin_feed (M1.feed s1 a) b hf
        rw [L1.append] at f2 u2
        simp only [if_true, f2, u2, L2.append]
        rw [← L1.append, hk_stable _ _ hf]
  wf_feed := by
    intro s x h
    cases s with
    | inr s2 => exact L2.wf_feed s2 x h
    | inl s1 =>
      simp only [seqMachine]
      have hw := L1.wf_feed s1 x h.1
      cases hf : M1.fin (M1.feed s1 x) with
      | false => simp only [Bool.false_eq_true, if_false]; exact ⟨hw, hf⟩
      | true => simp only [if_true]; exact L2.wf_feed _ _ (hk_wf _ hw hf)
  fin_feed := by
    intro s x h
    cases s with
    | inr s2 => exact L2.fin_feed s2 x h
    | inl s1 => simp [seqMachine] at h
  fin_stop := by
    intro s h
    cases s with
    | inr s2 => exact L2.fin_stop s2 h
    | inl s1 => simp [seqMachine] at h
  hint := by
    intro s q hwf hnf hfin
    cases s with
    | inr s2 => exact L2.hint s2 q hwf hnf hfin
    | inl s1 =>
      simp only [seqMachine] at hfin ⊢
      cases hf : M1.fin (M1.feed s1 q) with
      | false => simp [hf] at hfin
      | true =>
        simp only [hf, if_true] at hfin ⊢
        obtain ⟨_, h1, h2⟩ := L1.hint s1 q hwf.1 hwf.2 hf
        refine ⟨trivial, h1, ?_⟩
        have hw1 := L1.wf_feed s1 q hwf.1
        -- the second decoder leaves unused at most what the first handed over
        have hle : (M2.unused (M2.feed (k (M1.feed s1 q)) (M1.unused (M1.feed s1 q)))).length
            ≤ (M1.unused (M1.feed s1 q)).length := by
          cases hk : M2.fin (k (M1.feed s1 q)) with
          | true =>
            rw [(L2.fin_feed _ _ hk).2, hk_unused _ hw1 hf hk]
            simp
          | false =>
            have := (L2.hint _ _ (hk_wf _ hw1 hf) hk hfin).2
            omega
        exact Int.le_trans (Int.add_le_add_left (Int.ofNat_le.2 hle) _) h2

def lineWf : Line → Prop
  | .reading buf => (10 : UInt8) ∉ buf
  | .done l _ => (10 : UInt8) ∉ l

theorem lineLaws : Laws lineMachine lineWf where
  append := by
    intro s a b
    cases s with
    | done l u => simp [lineMachine, Line.feed]
    | reading buf =>
      simp only [lineMachine, Line.feed]
      cases h : splitLine (buf ++ a) with
      | none => simp only [List.append_assoc]
      | some lr =>
        obtain ⟨l, r⟩ := lr
        have := splitLine_append_some b h
        rw [List.append_assoc] at this
        simp only [this]
  wf_feed := by
    intro s x h
    cases s with
    | done l u => exact h
    | reading buf =>
      simp only [lineMachine, Line.feed]
      cases hs : splitLine (buf ++ x) with
      | none => exact splitLine_none_notMem hs
      | some lr => exact (splitLine_some_eq hs).2
  fin_feed := by
    intro s x h
    cases s with
    | done l u => simp [lineMachine, Line.feed, Line.finished, Line.unused]
    | reading buf => simp [lineMachine, Line.finished] at h
  fin_stop := by intro s h; exact h
  hint := by
    intro s q hwf hnf hfin
    cases s with
    | done l u => simp [lineMachine, Line.finished] at hnf
    | reading buf =>
      simp only [lineMachine, Line.feed] at hfin ⊢
      cases hs : splitLine (buf ++ q) with
      | none => simp [hs, Line.finished] at hfin
      | some lr =>
        obtain ⟨l, r⟩ := lr
        have ⟨h1, h2⟩ := splitLine_append_prefix hs hwf
        refine ⟨rfl, by omega, ?_⟩
        simp only [Line.unused]
        omega

theorem lineWf_init : lineWf (.reading []) := by simp [lineWf]

/-- the medium's cap on every read does not change what a complete message is -/
theorem Complete.cap {s0 : S} {w : Bytes} (C : Complete M wf s0 w) (cap : Nat) (hc : 1 ≤ cap) :
    Complete (capMachine M cap) wf s0 w :=
  ⟨C.laws.cap cap hc, C.wf0, C.fin, C.unused⟩

end BreezyVerif.C30
