import BreezyVerif.Lemmas.C51
/-!
C51 — `generate_transpose_plan`: the worklist loop never leaves a replaced
revision as a parent of a rewritten one (unless its replacement is a parent as
well), provided the replacement / generated ids are fresh.
-/
namespace BreezyVerif.C51
open BreezyVerif.C33

/-- the renamed revisions -/
def rks (renames : List (Key × Key)) : List Key := renames.map (·.1)

/-- the id a revision is replaced by: its rename target, else `generate_revid` -/
def nw (renames : List (Key × Key)) (gen : Key → Key) (k : Key) : Key :=
  match renames.find? (fun rv => rv.1 == k) with
  | some rv => rv.2
  | none => gen k

/-- every revision the ancestry mentions (as a key or as a parent) and every renamed revision -/
def tNodes (ancestry : List (Key × Option (List Key))) (renames : List (Key × Key)) : List Key :=
  ancestry.flatMap (fun a => a.1 :: (match a.2 with | some ps => ps | none => [])) ++ rks renames

theorem nw_not_rk {renames : List (Key × Key)} {gen : Key → Key} {k : Key} (h : k ∉ rks renames) :
    nw renames gen k = gen k := by
  unfold nw
  have : renames.find? (fun rv => rv.1 == k) = none := by
    rw [List.find?_eq_none]
    intro rv hrv hk
    exact h (List.mem_map.mpr ⟨rv, hrv, by simpa using hk⟩)
  rw [this]

theorem nw_rk {renames : List (Key × Key)} {gen : Key → Key} (hnd : (rks renames).Nodup) {rv : Key × Key}
    (hrv : rv ∈ renames) : nw renames gen rv.1 = rv.2 := by
  unfold nw
  induction renames with
  | nil => cases hrv
  | cons x rest ih =>
    simp only [rks, List.map_cons, List.nodup_cons] at hnd
    simp only [List.find?_cons]
    rcases List.mem_cons.mp hrv with h | h
    · subst h; simp
    · have hne : (x.1 == rv.1) = false := by
        have : x.1 ≠ rv.1 := fun e => hnd.1 (e ▸ List.mem_map.mpr ⟨rv, h, rfl⟩)
        simpa using this
      simp only [hne]
      exact ih hnd.2 h

theorem any_rk {renames : List (Key × Key)} {c : Key} : renames.any (fun x => x.1 == c) = true ↔ c ∈ rks renames := by
  simp only [rks, List.any_eq_true, List.mem_map, beq_iff_eq]

/-- `replace_map[e.old] = e`: the entry is there, the entries with another key stay, nothing else -/
theorem mem_planSet {d : Plan} {e x : Entry} : x ∈ planSet d e ↔ x = e ∨ (x ∈ d ∧ x.old ≠ e.old) := by
  unfold planSet
  by_cases hany : (d.any fun y => y.old == e.old) = true
  · rw [if_pos hany, List.mem_map]
    constructor
    · rintro ⟨y, hy, hxy⟩
      by_cases hc : (y.old == e.old) = true
      · rw [if_pos hc] at hxy; exact Or.inl hxy.symm
      · rw [if_neg hc] at hxy; exact Or.inr (hxy ▸ ⟨hy, fun h => hc (beq_iff_eq.mpr h)⟩)
    · rintro (rfl | ⟨hx, hne⟩)
      · obtain ⟨y, hy, hye⟩ := List.any_eq_true.mp hany
        exact ⟨y, hy, if_pos hye⟩
      · exact ⟨x, hx, if_neg fun h => hne (beq_iff_eq.mp h)⟩
  · rw [if_neg hany, List.mem_append, List.mem_singleton]
    constructor
    · rintro (h | h)
      · exact Or.inr ⟨h, fun heq => hany (List.any_eq_true.mpr ⟨x, h, beq_iff_eq.mpr heq⟩)⟩
      · exact Or.inl h
    · rintro (h | h)
      · exact Or.inr h
      · exact Or.inl h.1

theorem forall_planSet {d : Plan} {e : Entry} {Q : Entry → Prop} (he : Q e)
    (hd : ∀ x ∈ d, x.old ≠ e.old → Q x) : ∀ x ∈ planSet d e, Q x := by
  intro x hx
  rcases mem_planSet.mp hx with h | ⟨h1, h2⟩
  · exact h ▸ he
  · exact hd x h1 h2

theorem planSet_olds {d : Plan} {e : Entry} {k : Key} (hk : k ∈ d.map (·.old)) : k ∈ (planSet d e).map (·.old) := by
  obtain ⟨x, hx, hxk⟩ := List.mem_map.mp hk
  by_cases h : x.old = e.old
  · exact List.mem_map.mpr ⟨e, mem_planSet.mpr (Or.inl rfl), by rw [← h, hxk]⟩
  · exact List.mem_map.mpr ⟨x, mem_planSet.mpr (Or.inr ⟨hx, h⟩), hxk⟩

theorem replaceFirst_spec {r n : Key} {l l' : List Key} (h : replaceFirst r n l = some l') :
    n ∈ l' ∧ (∀ x ∈ l', x = n ∨ x ∈ l) ∧ (∀ x ∈ l, x ≠ r → x ∈ l') := by
  induction l generalizing l' with
  | nil => cases h
  | cons y ys ih =>
    simp only [replaceFirst] at h
    split at h
    · rename_i hy
      cases h
      refine ⟨.head _, fun x hx => ?_, fun x hx hne => ?_⟩
      · exact (List.mem_cons.mp hx).imp_right (.tail _)
      · exact (List.mem_cons.mp hx).elim (fun h1 => absurd (h1.trans hy) hne) (.tail _)
    · obtain ⟨t, ht, rfl⟩ := Option.map_eq_some_iff.mp h
      obtain ⟨h1, h2, h3⟩ := ih ht
      refine ⟨.tail _ h1, fun x hx => ?_, fun x hx hne => ?_⟩
      · exact (List.mem_cons.mp hx).elim (fun h4 => Or.inr (h4 ▸ .head _)) fun h4 => (h2 x h4).imp_right (.tail _)
      · exact (List.mem_cons.mp hx).elim (fun h4 => h4 ▸ .head _) fun h4 => .tail _ (h3 x h4 hne)

theorem childrenIn_nodes {ancestry : List (Key × Option (List Key))} {renames : List (Key × Key)} {r : Key}
    {cs : List Key} (h : childrenIn ancestry r = some cs) : ∀ c ∈ cs, c ∈ tNodes ancestry renames := by
  unfold childrenIn at h
  split at h
  · simp only [Option.some.injEq] at h
    subst h
    intro c hc
    obtain ⟨a, ha, hca⟩ := List.mem_flatMap.mp hc
    have : c = a.1 := by
      cases h2 : a.2 with
      | none => simp [h2] at hca
      | some ps =>
        simp only [h2, List.mem_map] at hca
        obtain ⟨_, _, h3⟩ := hca
        exact h3.symm
    unfold tNodes
    exact List.mem_append_left _ (List.mem_flatMap.mpr ⟨a, ha, by simp [this]⟩)
  · cases h

/-- for a revision the ancestry knows, `parent_map` comes from the ancestry and `children` is consistent with it -/
theorem tParents_children {ancestry : List (Key × Option (List Key))} {g : PMap} {targets : List Key} {c r : Key}
    {ps : List Key} (hc : c ∉ targets) (h : tParents ancestry g targets c = some ps) (hr : r ∈ ps) :
    ∃ cs, childrenIn ancestry r = some cs ∧ c ∈ cs := by
  unfold tParents at h
  split at h
  · rename_i k ps' hfind
    simp only [Option.some.injEq] at h
    subst h
    have hmem := List.mem_of_find?_eq_some hfind
    have hprop := List.find?_some hfind
    simp only [Bool.and_eq_true, beq_iff_eq] at hprop
    have hin : (c, some ps') ∈ ancestry := by
      have := List.mem_reverse.mp hmem
      rw [← hprop.1]
      exact this
    unfold childrenIn
    split
    · refine ⟨_, rfl, ?_⟩
      refine List.mem_flatMap.mpr ⟨(c, some ps'), hin, ?_⟩
      simp only [List.mem_map, List.mem_filter, beq_iff_eq]
      exact ⟨r, ⟨hr, rfl⟩, trivial⟩
    · rename_i hn
      exact absurd (List.any_eq_true.mpr ⟨(c, some ps'), hin, by simp [hr]⟩) hn
  · rw [if_neg hc] at h; cases h

/-- `replace_map[c][1] if c in replace_map else parent_map[c]` -/
def srcParents (rm : Plan) (pmap : Key → Option (List Key)) (c : Key) : Option (List Key) :=
  match lookupEntry rm c with
  | some e => some e.parents
  | none => pmap c

/-- `if replace_map[r][0] not in parents: parents[parents.index(r)] = replace_map[r][0]` -/
def substParent (r rnew : Key) (parents : List Key) : Option (List Key) :=
  if rnew ∈ parents then some parents else replaceFirst r rnew parents

theorem substParent_spec {r n : Key} {ps ps' : List Key} (h : substParent r n ps = some ps') :
    n ∈ ps' ∧ (∀ x ∈ ps', x = n ∨ x ∈ ps) ∧ (∀ x ∈ ps, x ≠ r → x ∈ ps') := by
  unfold substParent at h
  split at h
  · rename_i hin
    cases h
    exact ⟨hin, fun x hx => Or.inr hx, fun x hx _ => hx⟩
  · exact replaceFirst_spec h

theorem tChildren_cons (pmap : Key → Option (List Key)) (gen : Key → Key) (renames : List (Key × Key))
    (r rnew : Key) (processed : List Key) (c : Key) (cs : List Key) (rm : Plan) (todo : List Key) :
    tChildren pmap gen renames r rnew processed (c :: cs) rm todo =
      if renames.any (·.1 == c) then tChildren pmap gen renames r rnew processed cs rm todo
      else match srcParents rm pmap c with
        | none => .error .keyError
        | some parents =>
          match substParent r rnew parents with
          | none => .error .valueError
          | some parents' =>
            if gen c = c then
              tChildren pmap gen renames r rnew processed cs ((planSet rm ⟨c, gen c, parents'⟩).filter (·.old != c)) todo
            else if c ∈ processed then
              tChildren pmap gen renames r rnew processed cs (planSet rm ⟨c, gen c, parents'⟩) todo
            else tChildren pmap gen renames r rnew processed cs (planSet rm ⟨c, gen c, parents'⟩) (todo ++ [c]) := by
  first
    | rfl
    | (simp only [tChildren, srcParents, substParent])

theorem tChildren_nil (pmap : Key → Option (List Key)) (gen : Key → Key) (renames : List (Key × Key))
    (r rnew : Key) (processed : List Key) (rm : Plan) (todo : List Key) :
    tChildren pmap gen renames r rnew processed [] rm todo = .ok (rm, todo) := rfl

/-- `Pq`: what counts as processed for the worklist bookkeeping, `P`: the revisions whose children are all done -/
structure TInv (ancestry : List (Key × Option (List Key))) (pmap : Key → Option (List Key)) (gen : Key → Key)
    (renames : List (Key × Key)) (Pq P : List Key) (rm : Plan) (todo : List Key) : Prop where
  new_eq : ∀ e ∈ rm, e.new = nw renames gen e.old
  queued : ∀ e ∈ rm, e.old ∈ Pq ∨ e.old ∈ todo
  closed : ∀ e ∈ rm, e.old ∉ rks renames → ∀ r ∈ P, r ∈ e.parents → nw renames gen r ∈ e.parents
  kids : ∀ r ∈ P, ∀ cs, childrenIn ancestry r = some cs → ∀ c ∈ cs, c ∉ rks renames → c ∈ rm.map (·.old)
  nodesP : ∀ r ∈ P, r ∈ tNodes ancestry renames
  nodesT : ∀ r ∈ todo, r ∈ tNodes ancestry renames
  src : ∀ e ∈ rm, e.old ∉ rks renames → e.old ∈ tNodes ancestry renames ∧
    ∀ p ∈ e.parents, p ∈ tNodes ancestry renames → ∃ ps, pmap e.old = some ps ∧ p ∈ ps
  rk : ∀ k ∈ rks renames, k ∈ rm.map (·.old)

section Children
variable {ancestry : List (Key × Option (List Key))} {pmap : Key → Option (List Key)} {gen : Key → Key}
  {renames : List (Key × Key)} {P : List Key} {r : Key}

/-- the invariant inside the `for c in children[r]` loop, `dn` being the children handled so far: they have
entries, which have the replacement of `r` wherever they have `r` -/
abbrev CInv (ancestry : List (Key × Option (List Key))) (pmap : Key → Option (List Key)) (gen : Key → Key)
    (renames : List (Key × Key)) (P : List Key) (r : Key) (dn : List Key) (rm : Plan) (todo : List Key) : Prop :=
  TInv ancestry pmap gen renames (P ++ [r]) P rm todo ∧
  (∀ e ∈ rm, e.old ∉ rks renames → e.old ∈ dn → r ∈ e.parents → nw renames gen r ∈ e.parents) ∧
  (∀ c ∈ dn, c ∉ rks renames → c ∈ rm.map (·.old))

/-- a renamed child is skipped -/
theorem CInv.skip {dn : List Key} {rm : Plan} {todo : List Key} {c : Key}
    (h : CInv ancestry pmap gen renames P r dn rm todo) (hck : c ∈ rks renames) :
    CInv ancestry pmap gen renames P r (dn ++ [c]) rm todo :=
  ⟨h.1,
    fun e he hne hd => (List.mem_append.mp hd).elim (h.2.1 e he hne) fun hd =>
      absurd (List.mem_singleton.mp hd ▸ hck) hne,
    fun x hx hne => (List.mem_append.mp hx).elim (fun hx => h.2.2 x hx hne) fun hx =>
      absurd (List.mem_singleton.mp hx ▸ hck) hne⟩

/-- a child `c` that is rewritten: its entry is set to its current parents with `r` replaced -/
theorem CInv.step {dn : List Key} {rm : Plan} {todo todo1 : List Key} {c : Key} {parents parents' : List Key}
    (hinv : CInv ancestry pmap gen renames P r dn rm todo)
    (hfresh : ∀ k, nw renames gen k ∉ tNodes ancestry renames)
    (hcons : ∀ c ∈ tNodes ancestry renames, ∀ ps, pmap c = some ps → ∀ q ∈ ps,
      ∃ cs, childrenIn ancestry q = some cs ∧ c ∈ cs)
    (hrn : r ∈ tNodes ancestry renames) (hcn : c ∈ tNodes ancestry renames) (hck : c ∉ rks renames)
    (hsrc : srcParents rm pmap c = some parents) (hrep : substParent r (nw renames gen r) parents = some parents')
    (hq : c ∈ P ++ [r] ∨ c ∈ todo1) (hsub : ∀ x ∈ todo, x ∈ todo1) (hnt : ∀ x ∈ todo1, x ∈ tNodes ancestry renames) :
    CInv ancestry pmap gen renames P r (dn ++ [c]) (planSet rm ⟨c, gen c, parents'⟩) todo1 := by
  have hpar : (∀ r' ∈ P, r' ∈ parents → nw renames gen r' ∈ parents) ∧
      (∀ p ∈ parents, p ∈ tNodes ancestry renames → ∃ ps, pmap c = some ps ∧ p ∈ ps) := by
    unfold srcParents at hsrc
    cases hl : lookupEntry rm c with
    | some e0 =>
      -- `c` has an entry already: the invariant speaks of its parents
      simp only [hl, Option.some.injEq] at hsrc
      obtain ⟨he0, he0c⟩ := lookupEntry_some hl
      subst hsrc
      exact ⟨fun r' hr' hm => hinv.1.closed e0 he0 (he0c ▸ hck) r' hr' hm,
        he0c ▸ (hinv.1.src e0 he0 (he0c ▸ hck)).2⟩
    | none =>
      -- `c` is met for the first time: no processed revision is among its original parents
      simp only [hl] at hsrc
      refine ⟨fun r' hr' hm => ?_, fun p hp _ => ⟨parents, hsrc, hp⟩⟩
      obtain ⟨cs', hcs', hcm⟩ := hcons c hcn parents hsrc r' hm
      exact absurd (hinv.1.kids r' hr' cs' hcs' c hcm hck) (lookupEntry_none hl)
  obtain ⟨hnew, hfrom, hkeep⟩ := substParent_spec hrep
  refine ⟨?_, ?_, ?_⟩
  · exact
      { new_eq := forall_planSet (nw_not_rk hck).symm fun e h1 _ => hinv.1.new_eq e h1
        queued := forall_planSet hq fun e h1 _ => (hinv.1.queued e h1).imp_right (hsub _)
        closed := forall_planSet
          (fun _ r' hr' hm => (hfrom r' hm).elim
            (fun h2 => absurd (h2 ▸ hinv.1.nodesP r' hr') (hfresh r))
            fun h2 => hkeep _ (hpar.1 r' hr' h2) fun e => hfresh r' (e ▸ hrn))
          fun e h1 _ => hinv.1.closed e h1
        kids := fun r' hr' cs' hcs' x hx hne => planSet_olds (hinv.1.kids r' hr' cs' hcs' x hx hne)
        nodesP := hinv.1.nodesP
        nodesT := hnt
        src := forall_planSet
          (fun _ => ⟨hcn, fun p hp hpn => (hfrom p hp).elim
            (fun h2 => absurd (h2 ▸ hpn) (hfresh r)) fun h2 => hpar.2 p h2 hpn⟩)
          fun e h1 _ => hinv.1.src e h1
        rk := fun k hk => planSet_olds (hinv.1.rk k hk) }
  · exact forall_planSet (fun _ _ _ => hnew) fun e h1 h2 hne hd hm =>
      (List.mem_append.mp hd).elim (fun hd => hinv.2.1 e h1 hne hd hm)
        fun hd => absurd (List.mem_singleton.mp hd) h2
  · exact fun x hx hne => (List.mem_append.mp hx).elim (fun hx => planSet_olds (hinv.2.2 x hx hne))
      fun hx => List.mem_singleton.mp hx ▸ List.mem_map.mpr ⟨_, mem_planSet.mpr (Or.inl rfl), rfl⟩

/-- the `for c in children[r]` loop keeps the invariant and finishes `r` -/
theorem tChildren_inv (hfresh : ∀ k, nw renames gen k ∉ tNodes ancestry renames)
    (hcons : ∀ c ∈ tNodes ancestry renames, ∀ ps, pmap c = some ps → ∀ q ∈ ps,
      ∃ cs, childrenIn ancestry q = some cs ∧ c ∈ cs)
    (hrn : r ∈ tNodes ancestry renames) (all : List Key) (hnodes : ∀ c ∈ all, c ∈ tNodes ancestry renames) :
    ∀ (cs dn : List Key) (rm : Plan) (todo : List Key) (rm' : Plan) (todo' : List Key),
      all = dn ++ cs → CInv ancestry pmap gen renames P r dn rm todo →
      tChildren pmap gen renames r (nw renames gen r) (P ++ [r]) cs rm todo = .ok (rm', todo') →
      CInv ancestry pmap gen renames P r all rm' todo' := by
  intro cs
  induction cs with
  | nil =>
    intro dn rm todo rm' todo' hall hinv h
    rw [tChildren_nil] at h
    cases h
    rw [hall, List.append_nil]
    exact hinv
  | cons c cs ih =>
    intro dn rm todo rm' todo' hall hinv h
    have hall' : all = (dn ++ [c]) ++ cs := by rw [hall, List.append_assoc]; rfl
    have hcn : c ∈ tNodes ancestry renames := hnodes c (hall ▸ List.mem_append_right _ (.head _))
    rw [tChildren_cons] at h
    by_cases hrk : renames.any (fun x => x.1 == c) = true
    · simp only [hrk, if_true] at h
      exact ih (dn ++ [c]) rm todo rm' todo' hall' (hinv.skip (any_rk.mp hrk)) h
    · simp only [hrk] at h
      have hck : c ∉ rks renames := fun hm => hrk (any_rk.mpr hm)
      cases hsrc : srcParents rm pmap c with
      | none => simp [hsrc] at h
      | some parents =>
        simp only [hsrc] at h
        cases hrep : substParent r (nw renames gen r) parents with
        | none => simp [hrep] at h
        | some parents' =>
          simp only [hrep] at h
          -- the generated id is fresh, so `c` is not mapped to itself
          have hgen : gen c ≠ c := fun he => hfresh c (by rw [nw_not_rk hck, he]; exact hcn)
          simp only [hgen, if_false] at h
          by_cases hproc : c ∈ P ++ [r]
          · simp only [hproc, if_true] at h
            exact ih (dn ++ [c]) _ todo rm' todo' hall'
              (hinv.step hfresh hcons hrn hcn hck hsrc hrep (Or.inl hproc) (fun _ hx => hx) hinv.1.nodesT) h
          · simp only [hproc, if_false] at h
            exact ih (dn ++ [c]) _ (todo ++ [c]) rm' todo' hall'
              (hinv.step hfresh hcons hrn hcn hck hsrc hrep (Or.inr (List.mem_append_right _ (.head _)))
                (fun _ hx => List.mem_append_left _ hx)
                fun x hx => (List.mem_append.mp hx).elim (hinv.1.nodesT x) fun hx => List.mem_singleton.mp hx ▸ hcn) h

end Children

/-- one turn of the `while len(todo) > 0` loop: it ends on an empty stack, else the top `r` is popped and its
children are processed -/
theorem tLoop_succ {ancestry : List (Key × Option (List Key))} {pmap : Key → Option (List Key)} {gen : Key → Key}
    {renames : List (Key × Key)} {fuel : Nat} {rm out : Plan} {todo P : List Key}
    (h : tLoop ancestry pmap gen renames (fuel + 1) rm todo P = .ok out) :
    (todo = [] ∧ out = rm) ∨
    ∃ r er cs rm' todo', todo = todo.dropLast ++ [r] ∧ lookupEntry rm r = some er ∧
      childrenIn ancestry r = some cs ∧
      tChildren pmap gen renames r er.new (P ++ [r]) cs rm todo.dropLast = .ok (rm', todo') ∧
      tLoop ancestry pmap gen renames fuel rm' todo' (P ++ [r]) = .ok out := by
  simp only [tLoop] at h
  split at h
  · rename_i hlast
    exact Or.inl ⟨List.getLast?_eq_none_iff.mp hlast, (Except.ok.inj h).symm⟩
  · rename_i r hlast
    obtain ⟨ys, hys⟩ := List.getLast?_eq_some_iff.mp hlast
    split at h
    · rename_i er cs hle hch
      split at h
      · cases h
      · rename_i rm' todo' htc
        exact Or.inr ⟨r, er, cs, rm', todo', by rw [hys, List.dropLast_concat], hle, hch, htc, h⟩
    · cases h

/-- the `while len(todo) > 0` loop: when it ends, every entry's key has been processed with all its children -/
theorem tLoop_inv (ancestry : List (Key × Option (List Key))) (pmap : Key → Option (List Key))
    (gen : Key → Key) (renames : List (Key × Key))
    (hfresh : ∀ k, nw renames gen k ∉ tNodes ancestry renames)
    (hcons : ∀ c ∈ tNodes ancestry renames, ∀ ps, pmap c = some ps → ∀ q ∈ ps,
      ∃ cs, childrenIn ancestry q = some cs ∧ c ∈ cs) :
    ∀ (fuel : Nat) (rm : Plan) (todo P : List Key) (out : Plan),
      TInv ancestry pmap gen renames P P rm todo →
      tLoop ancestry pmap gen renames fuel rm todo P = .ok out →
      ∃ Pf, TInv ancestry pmap gen renames Pf Pf out [] := by
  intro fuel
  induction fuel with
  | zero => intro rm todo P out _ h; cases h
  | succ fuel ih =>
    intro rm todo P out hinv h
    rcases tLoop_succ h with ⟨rfl, rfl⟩ | ⟨r, er, cs, rm', todo'', htodo, hle, hch, htc, h⟩
    · exact ⟨P, hinv⟩
    have hrn : r ∈ tNodes ancestry renames := hinv.nodesT r (htodo ▸ List.mem_append_right _ (.head _))
    rw [hinv.new_eq er (lookupEntry_some hle).1, (lookupEntry_some hle).2] at htc
    -- the invariant with `r` popped
    have hinv0 : TInv ancestry pmap gen renames (P ++ [r]) P rm todo.dropLast :=
      { hinv with
        queued := fun e he => (hinv.queued e he).elim (fun h1 => Or.inl (List.mem_append_left _ h1)) fun h1 =>
          (List.mem_append.mp (htodo ▸ h1)).elim Or.inr fun h2 => Or.inl (List.mem_append_right _ h2)
        nodesT := fun x hx => hinv.nodesT x (List.dropLast_subset _ hx) }
    obtain ⟨h1, h2, h3⟩ := tChildren_inv hfresh hcons hrn cs (childrenIn_nodes hch) cs [] rm todo.dropLast rm' todo'' rfl
      ⟨hinv0, fun _ _ _ hd => (nomatch hd), fun _ hd => (nomatch hd)⟩ htc
    -- `r` joins the processed revisions: its children are done
    have hr : ∀ {r'}, r' ∈ P ++ [r] → r' ∈ P ∨ r' = r := fun hr' =>
      (List.mem_append.mp hr').imp_right List.mem_singleton.mp
    refine ih rm' todo'' (P ++ [r]) out { h1 with closed := ?_, kids := ?_, nodesP := ?_ } h
    · intro e he hne r' hr' hm
      rcases hr hr' with hr' | rfl
      · exact h1.closed e he hne r' hr' hm
      · obtain ⟨heo, hsrc⟩ := h1.src e he hne
        obtain ⟨ps, hps, hin⟩ := hsrc r' hm hrn
        obtain ⟨cs', hcs', hcm⟩ := hcons e.old heo ps hps r' hin
        cases hch.symm.trans hcs'
        exact h2 e he hne hcm hm
    · intro r' hr' cs' hcs' c hc hne
      rcases hr hr' with hr' | rfl
      · exact h1.kids r' hr' cs' hcs' c hc hne
      · cases hch.symm.trans hcs'
        exact h3 c hc hne
    · intro r' hr'
      rcases hr hr' with hr' | rfl
      · exact h1.nodesP r' hr'
      · exact hrn

/-- the initial map: the fold succeeds only from a successful start, and adds one entry per rename -/
theorem tInit_spec (pmap : Key → Option (List Key)) :
    ∀ (renames : List (Key × Key)) (acc : Except TErr Plan) (rm0 : Plan),
      renames.foldl (fun acc rv =>
        match acc with
        | .error e => .error e
        | .ok rm => match pmap rv.2 with
          | some ps => .ok (planSet rm ⟨rv.1, rv.2, ps⟩)
          | none => .error .keyError) acc = .ok rm0 →
      ∃ a, acc = .ok a ∧
        (∀ e ∈ rm0, e ∈ a ∨ ∃ rv ∈ renames, e.old = rv.1 ∧ e.new = rv.2) ∧
        (∀ k, (k ∈ a.map (·.old) ∨ k ∈ rks renames) → k ∈ rm0.map (·.old)) := by
  intro renames
  induction renames with
  | nil =>
    intro acc rm0 h
    exact ⟨rm0, h, fun e he => Or.inl he, fun k hk => hk.resolve_right fun h => nomatch h⟩
  | cons rv rest ih =>
    intro acc rm0 h
    obtain ⟨a', ha', h1, h2⟩ := ih _ rm0 h
    cases acc with
    | error e => cases ha'
    | ok a =>
      cases hp : pmap rv.2 with
      | none => simp only [hp] at ha'; cases ha'
      | some ps =>
        simp only [hp, Except.ok.injEq] at ha'
        subst ha'
        refine ⟨a, rfl, fun e he => ?_, fun k hk => h2 k ?_⟩
        · rcases h1 e he with h3 | ⟨rv', hrv', h3⟩
          · rcases mem_planSet.mp h3 with h4 | ⟨h4, _⟩
            · exact Or.inr ⟨rv, .head _, by rw [h4], by rw [h4]⟩
            · exact Or.inl h4
          · exact Or.inr ⟨rv', .tail _ hrv', h3⟩
        · rcases hk with h3 | h3
          · exact Or.inl (planSet_olds h3)
          · rcases List.mem_cons.mp h3 with h4 | h4
            · exact Or.inl (List.mem_map.mpr ⟨⟨rv.1, rv.2, ps⟩, mem_planSet.mpr (Or.inl rfl), h4.symm⟩)
            · exact Or.inr h4

/-- what `generate_transpose_plan` returns: the final map of the worklist loop without the renamed revisions; the
loop invariant holds of that map with an empty stack -/
theorem transposePlan_inv {ancestry : List (Key × Option (List Key))} {renames : List (Key × Key)} {g : PMap}
    {gen : Key → Key} {fuel : Nat} {plan : Plan} (hk : (rks renames).Nodup)
    (hfresh : ∀ k, nw renames gen k ∉ tNodes ancestry renames)
    (h : transposePlan ancestry renames g gen fuel = .ok plan) :
    ∃ rm Pf, TInv ancestry (tParents ancestry g (renames.map (·.2))) gen renames Pf Pf rm [] ∧
      plan = rm.filter (fun e => !(renames.any (·.1 == e.old))) := by
  unfold transposePlan at h
  simp only at h
  split at h
  · cases h
  rename_i rm0 hinit
  split at h
  · cases h
  rename_i rm hloop
  obtain ⟨_, ha, hi1, hi2⟩ := tInit_spec (tParents ancestry g (renames.map (·.2))) renames (.ok []) rm0 hinit
  cases ha
  -- rename targets are fresh, so `parent_map` and `children` are consistent on the revisions of the ancestry
  have hcons : ∀ c ∈ tNodes ancestry renames, ∀ ps, tParents ancestry g (renames.map (·.2)) c = some ps → ∀ q ∈ ps,
      ∃ cs, childrenIn ancestry q = some cs ∧ c ∈ cs := by
    intro c hc ps hps q hq
    refine tParents_children (fun hm => ?_) hps hq
    obtain ⟨rv, hrv, hcv⟩ := List.mem_map.mp hm
    exact hfresh rv.1 (by rw [nw_rk hk hrv, hcv]; exact hc)
  -- the initial map has exactly the renamed revisions, all of them still to be processed
  have hrv : ∀ e ∈ rm0, ∃ rv ∈ renames, e.old = rv.1 ∧ e.new = rv.2 := fun e he =>
    (hi1 e he).resolve_left fun h1 => nomatch h1
  have hold : ∀ e ∈ rm0, e.old ∈ rks renames := fun e he =>
    let ⟨rv, hrv', h1, _⟩ := hrv e he
    List.mem_map.mpr ⟨rv, hrv', h1.symm⟩
  have hinv0 : TInv ancestry (tParents ancestry g (renames.map (·.2))) gen renames [] [] rm0 (renames.map (·.1)) :=
    { new_eq := fun e he => by
        obtain ⟨rv, hrv', h1, h2⟩ := hrv e he
        rw [h1, h2, nw_rk hk hrv']
      queued := fun e he => Or.inr (hold e he)
      closed := fun e he hne => absurd (hold e he) hne
      kids := fun r hr => nomatch hr
      nodesP := fun r hr => nomatch hr
      nodesT := fun r hr => List.mem_append_right _ hr
      src := fun e he hne => absurd (hold e he) hne
      rk := fun k hk' => hi2 k (Or.inr hk') }
  obtain ⟨Pf, hf⟩ := tLoop_inv ancestry _ gen renames hfresh hcons fuel rm0 _ [] rm hinv0 hloop
  exact ⟨rm, Pf, hf, (Except.ok.inj h).symm⟩

end BreezyVerif.C51
