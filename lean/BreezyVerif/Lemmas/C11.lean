import BreezyVerif.Model.C11
import BreezyVerif.Lemmas.C46
/-! C11 — lemmas: the pass changes only `versioned` flags; the flag of every entry is `step` at
the mode handed down along its path. -/
namespace BreezyVerif.C11
open BreezyVerif.C46 Forest

theorem pass_clearV (c : Cfg) (pre : Pre) (here : Path) (m : Mode) (f : Forest) :
    clearV (pass c pre here m f) = clearV f := by
  induction f generalizing here m with
  | nil => rfl
  | cons i kids rest ih1 ih2 => simp [pass, clearV, ih1, ih2]

theorem pass_get_cons_ne {c : Cfg} {pre : Pre} {here : Path} {m : Mode} {i : Info} {kids rest : Forest}
    {n : String} {t : Path} (h : i.name ≠ n) :
    (pass c pre here m (cons i kids rest)).get (n :: t) = (pass c pre here m rest).get (n :: t) := by
  simp [pass, Forest.get, h]

theorem pass_get_cons_down {c : Cfg} {pre : Pre} {here : Path} {m : Mode} {i : Info} {kids rest : Forest}
    {a : String} {t : Path} :
    (pass c pre here m (cons i kids rest)).get (i.name :: a :: t)
      = (pass c pre (here ++ [i.name]) (step c pre (here ++ [i.name]) m i kids).2 kids).get (a :: t) := by
  simp [pass, Forest.get]

/-- the entry found at `q` after the pass: same entry, flag = `step` at the
mode of its listing; its content is the pass continued in the mode `step` hands down -/
theorem pass_get {c : Cfg} {pre : Pre} {here : Path} {m : Mode} {f : Forest} {q : Path} {i : Info} {k : Forest}
    (hg : f.get q = some (i, k)) :
    ∃ m', modeOf c pre here m f q = some m' ∧
      (pass c pre here m f).get q =
        some ({ i with versioned := (step c pre (here ++ q) m' i k).1 },
              pass c pre (here ++ q) (step c pre (here ++ q) m' i k).2 k) := by
  induction f, q using Forest.get.induct generalizing here m with
  | case1 | case2 => cases hg
  | case3 j kids rest =>
    cases get_cons_self.symm.trans hg
    exact ⟨m, by simp [modeOf], by simp [pass, Forest.get]⟩
  | case4 j kids rest a b ih =>
    obtain ⟨m', h1, h2⟩ := ih (here := here ++ [j.name]) (m := (step c pre (here ++ [j.name]) m j kids).2)
      (get_cons_down.symm.trans hg)
    refine ⟨m', by simpa [modeOf] using h1, ?_⟩
    rw [pass_get_cons_down, h2]
    simp [List.append_assoc]
  | case5 j kids rest n t e ih =>
    obtain ⟨m', h1, h2⟩ := ih (here := here) (m := m) ((get_cons_ne e).symm.trans hg)
    exact ⟨m', by simpa [modeOf, e] using h1, (pass_get_cons_ne e).trans h2⟩

/-- nothing appears: a lookup that fails before fails afterwards -/
theorem pass_get_none {c : Cfg} {pre : Pre} {here : Path} {m : Mode} {f : Forest} {q : Path}
    (hg : f.get q = none) : (pass c pre here m f).get q = none := by
  induction f, q using Forest.get.induct generalizing here m with
  | case1 | case2 => simp [pass, Forest.get]
  | case3 => rw [get_cons_self] at hg; cases hg
  | case4 j kids rest a b ih => rw [pass_get_cons_down]; exact ih (get_cons_down.symm.trans hg)
  | case5 j kids rest n q e ih => rw [pass_get_cons_ne e]; exact ih ((get_cons_ne e).symm.trans hg)

/-! ### one entry: `step` as Boolean formulas -/

variable {c : Cfg} {pre : Pre} {p : Path} {m : Mode} {i : Info} {k : Forest} {x : Bool}

/-- what a visit adds to the flag (`visitFlag_eq`); together with `listed` it makes up `eligible` -/
def adds (c : Cfg) (p : Path) (i : Info) (k : Forest) : Bool :=
  match c.fmt with
  | .bzr => !c.skip.contains p && !i.helper && !isNestedTree i k
  | .git => !(c.gitSkips && c.skip.contains p) && !i.helper && i.kind != .dir

theorem visitFlag_eq : visitFlag c p i k x = (x || adds c p i k) := by
  have hg : (Fmt.git == Fmt.bzr) = false := rfl
  cases hf : c.fmt <;> simp only [visitFlag, adds, passedOver, consultsSkip, hf, hg, bne]
  · cases c.skip.contains p <;> cases i.helper <;> simp
  · cases c.gitSkips <;> cases c.skip.contains p <;> cases i.kind == .dir <;> simp

theorem eligible_eq : eligible c p i k = (listed c p i false && adds c p i k) := by
  cases hf : c.fmt <;> simp [eligible, listed, adds, hf, Bool.and_assoc]

theorem step_fst : (step c pre p m i k).1 =
    (i.versioned || onPath c p i || (visited c pre p m i k (i.versioned || onPath c p i) && adds c p i k)) := by
  simp only [step]
  cases visited c pre p m i k (i.versioned || onPath c p i) <;> simp [visitFlag_eq]

theorem step_snd : (step c pre p m i k).2 =
    if visited c pre p m i k (i.versioned || onPath c p i) && opens c p i k then .walk else .idle := by
  simp only [step]
  cases visited c pre p m i k (i.versioned || onPath c p i) <;> rfl

theorem step_snd_walk_iff : (step c pre p m i k).2 = .walk ↔
    visited c pre p m i k (i.versioned || onPath c p i) = true ∧ opens c p i k = true := by
  rw [step_snd]
  cases visited c pre p m i k (i.versioned || onPath c p i) <;> cases opens c p i k <;> simp

/-- whatever the mode: an entry that is versioned or on a named path stays / becomes versioned -/
theorem step_of_v1 (h : (i.versioned || onPath c p i) = true) : (step c pre p m i k).1 = true := by
  rw [step_fst, h]; rfl

/-! ### what the pass does not change: kinds, names, control-directory tests -/

theorem pass_hasCtl (c : Cfg) (pre : Pre) (here : Path) (m : Mode) (f : Forest) :
    hasCtl (pass c pre here m f) = hasCtl f := by
  induction f generalizing here m with
  | nil => rfl
  | cons i kids rest _ ih2 => simp [pass, hasCtl, ih2]

theorem pass_hasDir (c : Cfg) (pre : Pre) (here : Path) (m : Mode) (n : String) (f : Forest) :
    (pass c pre here m f).hasDir n = f.hasDir n := by
  induction f generalizing here m with
  | nil => rfl
  | cons i kids rest _ ih2 => simp [pass, Forest.hasDir, ih2]

/-- look-ups after the pass find an entry iff they did before, of the same kind -/
theorem pass_get_kind {c : Cfg} {pre : Pre} {here : Path} {m : Mode} {f : Forest} (q : Path) :
    ((pass c pre here m f).get q).map (fun x => x.1.kind) = (f.get q).map (fun x => x.1.kind) := by
  cases hg : f.get q with
  | none => rw [pass_get_none hg]
  | some x =>
    obtain ⟨i, k⟩ := x
    obtain ⟨m', _, h2⟩ := pass_get (c := c) (pre := pre) (here := here) (m := m) hg
    rw [h2]; rfl

/-- phase 1 and the validation of the names look only at which paths exist and of what kind -/
theorem userDirs_congr {c : Cfg} {f f' : Forest}
    (h : ∀ q, (f'.get q).map (fun x => x.1.kind) = (f.get q).map (fun x => x.1.kind)) :
    userDirs c f' = userDirs c f := by
  unfold userDirs
  apply List.filter_congr
  intro n _
  have := h n
  cases h1 : f'.get n <;> cases h2 : f.get n <;> simp_all

theorem checkNames_congr {f f' : Forest} (h : ∀ q, (f'.get q).map (fun x => x.1.kind) = (f.get q).map (fun x => x.1.kind))
    (fmt : Fmt) (r : Bool) (ns : List Path) : checkNames fmt r f' ns = checkNames fmt r f ns := by
  induction ns with
  | nil => rfl
  | cons p ps ih =>
    have : (f'.get p).isNone = (f.get p).isNone := by simpa using congrArg Option.isNone (h p)
    simp only [checkNames, this, ih]

theorem userDirs_pass (c : Cfg) (pre : Pre) (here : Path) (m : Mode) (f : Forest) :
    userDirs c (pass c pre here m f) = userDirs c f :=
  userDirs_congr pass_get_kind

theorem userDirs_sub (c : Cfg) (f : Forest) {p : Path} (h : (userDirs c f).contains p = true) :
    c.names.contains p = true := by
  simp only [userDirs, List.contains_eq_mem, List.mem_filter, decide_eq_true_eq] at *
  exact h.1

theorem gathered_sub (c : Cfg) (f : Forest) {p : Path} (h : gathered (preOf c f).ud p = true) :
    c.names.contains p = true := by
  simp only [gathered, preOf, Bool.and_eq_true] at h
  exact userDirs_sub c f h.1

end BreezyVerif.C11
