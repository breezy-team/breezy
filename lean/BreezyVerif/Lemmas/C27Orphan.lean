import BreezyVerif.Lemmas.C27
/-!
C27 — (1) a ghost that records *which attempt* lost its confirming peek to a
transport error: the serial of the locker's nonce at that moment, computed along
the run (the machine of Model/C26.lean is not touched); the invariant that ties
the lock on disk to its owner's state by the nonce's serial.
(2) `held/` without an `info` file can never be changed by anybody.
-/
namespace BreezyVerif.C27
open BreezyVerif.C26

/-- per locker, the serials of the attempts whose confirming `peek` raised -/
abbrev Orphans := Nat → List Nat

/-- a fault that hits a live locker's confirming peek orphans the attempt with the locker's current serial -/
def orphanStep (s : Sys) (o : Orphans) : Ev → Orphans
  | .fault i _ => if s.crashed i = false ∧ (s.lk i).pc = .aConfirm then upd o i ((s.lk i).nonce :: o i) else o
  | _ => o

/-- the run of the machine together with the ghost -/
def runG (s : Sys) (o : Orphans) : List Ev → Sys × Orphans
  | [] => (s, o)
  | e :: es => runG (s.step e) (orphanStep s o e) es

theorem runG_fst (s : Sys) (o : Orphans) (evs : List Ev) : (runG s o evs).1 = s.run evs := by
  induction evs generalizing s o with
  | nil => rfl
  | cons e es ih => simp only [runG, Sys.run, List.foldl_cons]; exact ih (s.step e) (orphanStep s o e)

theorem runG_append (s : Sys) (o : Orphans) (a b : List Ev) :
    runG s o (a ++ b) = runG (runG s o a).1 (runG s o a).2 b := by
  induction a generalizing s o with
  | nil => rfl
  | cons e es ih => simp only [List.cons_append, runG]; exact ih (s.step e) (orphanStep s o e)

/-- the serials orphaned during the events `evs` from state `s` -/
def orphanSerials (s : Sys) (evs : List Ev) : Orphans := (runG s (fun _ => []) evs).2

theorem orphanStep_mono (s : Sys) (o : Orphans) (e : Ev) (i n : Nat) (h : n ∈ o i) : n ∈ orphanStep s o e i := by
  cases e with
  | fault a k =>
    simp only [orphanStep]
    split
    · by_cases hi : i = a
      · subst hi; simp [h]
      · simp [upd, hi, h]
    · exact h
  | _ => exact h

theorem orphanStep_origin (s : Sys) (o : Orphans) (e : Ev) (i n : Nat) (h : n ∈ orphanStep s o e i) :
    n ∈ o i ∨ (∃ k, e = .fault i k ∧ s.crashed i = false ∧ (s.lk i).pc = .aConfirm ∧ (s.lk i).nonce = n) := by
  cases e with
  | fault a k =>
    simp only [orphanStep] at h
    split at h
    · rename_i hc
      by_cases hi : i = a
      · subst hi
        simp only [upd_same, List.mem_cons] at h
        rcases h with h | h
        · exact Or.inr ⟨k, rfl, hc.1, hc.2, h.symm⟩
        · exact Or.inl h
      · simp only [upd, hi, if_false] at h; exact Or.inl h
    · exact Or.inl h
  | _ => exact Or.inl h

/-- the lock on disk carries locker `i`'s nonce with serial `n` only if `i` believes it holds the lock,
is about to confirm exactly this nonce, or the attempt with serial `n` lost its confirming peek;
and the serial is never ahead of the locker's counter -/
structure NInv (i : Nat) (s : Sys) (o : Orphans) : Prop where
  pend : PendOk s
  own : ∀ n, s.held = okDir ⟨i, n⟩ → n ≤ (s.lk i).nonce ∧
    ((s.lk i).held = true ∨ ((s.lk i).pc = .aConfirm ∧ n = (s.lk i).nonce) ∨ n ∈ o i)

theorem NInv.step {i : Nat} {s : Sys} {o : Orphans} (inv : NInv i s o) (e : Ev) :
    NInv i (s.step e) (orphanStep s o e) := by
  refine ⟨inv.pend.step e, fun n ho => ?_⟩
  cases e with
  | crash a => exact inv.own n ho
  | start a op =>
    have hh : (s.step (.start a op)).held = s.held := by simp only [Sys.step]; split <;> (try split) <;> rfl
    obtain ⟨hle, hown⟩ := inv.own n (hh ▸ ho)
    rcases step_lk s (.start a op) i with h | ⟨_, ⟨op', _, hi, h⟩ | ⟨_, h, _⟩ | ⟨h, _⟩⟩
    · rw [h]; exact ⟨hle, hown⟩
    · rw [h, start_held, start_nonce]
      refine ⟨hle, ?_⟩
      rcases hown with h | ⟨h1, _⟩ | h
      · exact .inl h
      · simp [hi] at h1
      · exact .inr (.inr h)
    · cases h
    · cases h
  | fault a k =>
    have hh : (s.step (.fault a k)).held = s.held := by simp only [Sys.step]; split <;> rfl
    obtain ⟨hle, hown⟩ := inv.own n (hh ▸ ho)
    have mono := orphanStep_mono s o (.fault a k) i n
    rcases step_lk s (.fault a k) i with h | ⟨hc, ⟨_, h, _⟩ | ⟨k', h, h'⟩ | ⟨h, _⟩⟩
    · rw [h]; exact ⟨hle, hown.imp_right (.imp_right mono)⟩
    · cases h
    · cases h
      rw [h', lfault_held, lfault_nonce]
      refine ⟨hle, ?_⟩
      rcases hown with h | ⟨h1, h2⟩ | h
      · exact .inl h
      · -- the confirming peek of the attempt with serial `n` fails: `n` is orphaned
        right; right; simp [orphanStep, hc, h1, h2]
      · exact .inr (.inr (mono h))
    · cases h
  | step a =>
    simp only [Sys.step] at ho ⊢
    by_cases hc : s.crashed a = true
    · simp only [hc, if_true] at ho ⊢; exact inv.own n ho
    · simp only [hc, Bool.false_eq_true, if_false] at ho ⊢
      by_cases hj : i = a
      · subst hj
        simp only [upd_same]
        have hs := lstep_sound (r := lstep i s.cfg s.crashed (s.lk i) s.held) rfl
        have hmono : (s.lk i).nonce ≤ (lstep i s.cfg s.crashed (s.lk i) s.held).1.nonce := by
          rcases hs.nonce with h | ⟨_, h⟩ <;> omega
        rcases hs.own (inv.pend i) ho with ⟨h0, hk, hcf⟩ | ⟨h1, h2⟩
        · obtain ⟨hle, hown⟩ := inv.own n h0
          refine ⟨Nat.le_trans hle hmono, ?_⟩
          rcases hown with hh | ⟨hh, hh2⟩ | hh
          · exact .inl (hk hh)
          · exact .inl (hcf hh hh2)
          · exact .inr (.inr hh)
        · exact ⟨Nat.le_of_eq h2, .inr (.inl ⟨h1, h2⟩)⟩
      · simp only [upd_other _ _ hj]
        exact inv.own n ((lstep_sound rfl).foreign (inv.pend a) ho hj)

theorem NInv.runG {i : Nat} {s : Sys} {o : Orphans} (inv : NInv i s o) (evs : List Ev) :
    NInv i (runG s o evs).1 (runG s o evs).2 := by
  induction evs generalizing s o with
  | nil => exact inv
  | cons e es ih => simp only [C27.runG]; exact ih (inv.step e)

theorem NInv.init (cfg : Nat → Cfg) (h0 : Option Dir) (i : Nat) (h : ownerOf h0 ≠ some i) :
    NInv i (Sys.init cfg h0) (fun _ => []) :=
  ⟨PendOk.init cfg h0, fun n ho => absurd (show ownerOf h0 = some i from ownerOf_eq_some.2 ⟨n, ho⟩) h⟩

/-- pcs whose pending call is a rename of `held/` away -/
def renamesHeld : Pc → Bool
  | .uRename | .bRename _ _ | .xRename _ => true
  | _ => false

/-- nobody is about to confirm, or to rename `held/` away -/
def Quiet (s : Sys) : Prop := ∀ j, renamesHeld (s.lk j).pc = false ∧ (s.lk j).pc ≠ .aConfirm

/-- no step moves a `held/` without info, and none leads to a pc that could -/
theorem _root_.BreezyVerif.C26.LStep.noinfo {id : Nat} {cfg : Nat → Cfg} {crashed : Nat → Bool} {me : Locker}
    {p p' : Pc} {fl : Bool} {n : Nat} {q d : Option Dir} {dc : Decision}
    (h : LStep id cfg crashed me (some none) p p' fl n q d dc) (h1 : renamesHeld p = false) (h2 : p ≠ .aConfirm) :
    d = some none ∧ renamesHeld p' = false ∧ p' ≠ .aConfirm ∧ fl = me.held := by
  cases h <;> simp_all [renamesHeld, okDir, peekDir]

theorem lfault_quiet (k : FaultKind) (me : Locker) :
    renamesHeld (lfault k me).pc = false ∧ (lfault k me).pc ≠ .aConfirm := by
  rcases lfault_pc k me with h | ⟨_, h, _⟩ | ⟨e, h⟩ <;> simp [h, renamesHeld]

theorem start_quiet (me : Locker) (op : Op) :
    renamesHeld (startOp me op).pc = false ∧ (startOp me op).pc ≠ .aConfirm := by
  rcases start_pc me op with h | h | ⟨_, h | h⟩ | ⟨_, _, h⟩ <;> simp [h, renamesHeld]

theorem stuck_step {s : Sys} (hh : s.held = some none) (hq : Quiet s) (e : Ev) :
    (s.step e).held = some none ∧ Quiet (s.step e) ∧ ∀ j, ((s.step e).lk j).held = (s.lk j).held := by
  have hs := fun j => (lstep_sound (r := lstep j s.cfg s.crashed (s.lk j) (some none)) rfl).noinfo (hq j).1 (hq j).2
  refine ⟨?_, fun j => ?_, fun j => ?_⟩
  · rcases step_frame s e with ⟨h, _⟩ | ⟨i, r, _, _, rfl, h, _⟩ <;> rw [h, hh]
    exact (hs i).1
  · rcases step_lk s e j with h | ⟨_, ⟨op, _, _, h⟩ | ⟨k, _, h⟩ | ⟨_, h⟩⟩ <;> rw [h]
    · exact hq j
    · exact start_quiet _ op
    · exact lfault_quiet k _
    · rw [hh]; exact ⟨(hs j).2.1, (hs j).2.2.1⟩
  · rcases step_lk s e j with h | ⟨_, ⟨op, _, _, h⟩ | ⟨k, _, h⟩ | ⟨_, h⟩⟩ <;> rw [h]
    · exact start_held _ op
    · exact lfault_held k _
    · rw [hh]; exact (hs j).2.2.2

end BreezyVerif.C27
