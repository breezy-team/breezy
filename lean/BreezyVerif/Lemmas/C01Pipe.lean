import BreezyVerif.Model.C01
/-!
C01 — the commit pipeline over a write group: what a prefix of the program
does to the state (`run_group`, `run_published`, and `lateState` for the
operations after `commit_write_group`), and why aborting inside the `try` block
restores the state (`abort_foldl_group`).
-/
namespace BreezyVerif.C01

/-- operations that only touch the open write group -/
def isGroupOp : Op → Bool
  | .startGroup | .addText _ | .checkPointless | .addInv | .message | .addRev => true
  | _ => false

theorem abort_effect_group (new : Rev) (s : PState) (op : Op) (h : isGroupOp op = true) :
    abortGroup (effect new s op) = abortGroup s := by
  -- a group operation only adds to what `abortGroup` discards; the others are excluded by `h`
  cases op <;> first | rfl | cases h

theorem abort_foldl_group (new : Rev) : ∀ (ops : List Op) (s : PState), (∀ op ∈ ops, isGroupOp op = true) →
    abortGroup (ops.foldl (effect new) s) = abortGroup s := by
  intro ops
  induction ops with
  | nil => intro s _; rfl
  | cons op rest ih =>
    intro s h
    simp only [List.foldl_cons]
    rw [ih _ (fun o ho => h o (List.mem_cons_of_mem _ ho)), abort_effect_group new s op (h op (by simp))]

theorem abort_clean {s : PState} (h : s.clean = true) : abortGroup s = s := by
  cases s
  simp_all [PState.clean, abortGroup]

theorem groupOps_all (texts : List Key) : ∀ op ∈ Op.startGroup :: groupOps texts, isGroupOp op = true := by
  intro op h
  simp only [groupOps, List.mem_cons, List.mem_append, List.mem_map] at h
  rcases h with h | ⟨k, _, h⟩ | h | h | h | h | h
  all_goals (first | (subst h; rfl) | cases h)

theorem program_split (texts : List Key) (bound : Bool) :
    program texts bound = (Op.startGroup :: groupOps texts) ++ (Op.commitGroup :: lateOps bound) := by
  simp [program]

theorem program_length (texts : List Key) (bound : Bool) :
    (program texts bound).length = (groupOps texts).length + 2 + (lateOps bound).length := by
  simp [program]; omega

theorem lateOps_length (bound : Bool) : (lateOps bound).length = if bound then 7 else 5 := by
  cases bound <;> rfl

/-- a prefix that stops before `commit_write_group` only touches the write group -/
theorem take_group (texts : List Key) (bound : Bool) {e : Nat} (he : e ≤ (groupOps texts).length + 1) :
    ∀ op ∈ (program texts bound).take e, isGroupOp op = true := by
  intro op hop
  rw [program_split, List.take_append_of_le_length (by simpa using he)] at hop
  exact groupOps_all texts op (List.mem_of_mem_take hop)

theorem foldl_addText (new : Rev) : ∀ (texts : List Key) (s : PState),
    (texts.map Op.addText).foldl (effect new) s = { s with pTexts := s.pTexts ++ texts } := by
  intro texts
  induction texts with
  | nil => intro s; simp
  | cons k rest ih =>
    intro s
    simp only [List.map_cons, List.foldl_cons, ih, effect]
    simp

theorem run_group (new : Rev) (texts : List Key) (s : PState) :
    (Op.startGroup :: groupOps texts).foldl (effect new) s =
      { s with inGroup := true, pTexts := s.pTexts ++ texts, pInvs := s.pInvs ++ [new], pRevs := s.pRevs ++ [new] } := by
  simp only [groupOps, List.foldl_cons, List.foldl_append, foldl_addText, effect, List.foldl_nil]

/-- the state just after `commit_write_group`, from a clean state -/
def published (new : Rev) (texts : List Key) (s : PState) : PState :=
  { s with revs := s.revs ++ [new], invs := s.invs ++ [new], texts := s.texts ++ texts }

theorem run_published (new : Rev) (texts : List Key) (s : PState) (hc : s.clean = true) :
    ((Op.startGroup :: groupOps texts) ++ [Op.commitGroup]).foldl (effect new) s = published new texts s := by
  rw [List.foldl_append, run_group]
  cases s
  simp_all [PState.clean, effect, published]

/-- the state after the first `j` operations that follow `commit_write_group`:
`masterImport` is the 2nd of them on a bound branch, `setTip` the 3rd (2nd when
unbound), `updateBasis` the 6th (4th) -/
def lateState (new : Rev) (bound : Bool) (j : Nat) (p : PState) : PState :=
  { p with
    mrevs := if bound = true ∧ 2 ≤ j then p.mrevs ++ [new] else p.mrevs
    mtip := if bound = true ∧ 2 ≤ j then some new else p.mtip
    tip := if (if bound then 3 else 2) ≤ j then some new else p.tip
    basis := if (if bound then 6 else 4) ≤ j then some new else p.basis }

theorem foldl_take_lateOps (new : Rev) (bound : Bool) (j : Nat) (p : PState) :
    ((lateOps bound).take j).foldl (effect new) p = lateState new bound j p := by
  -- a finite table: one case per prefix length, the last for every `j` past the end of the list
  cases bound
  · rcases j with _ | _ | _ | _ | _ | j
    case succ.succ.succ.succ.succ => simp [lateOps, effect, lateState]
    all_goals rfl
  · rcases j with _ | _ | _ | _ | _ | _ | _ | j
    case succ.succ.succ.succ.succ.succ.succ => simp [lateOps, effect, lateState]
    all_goals rfl

theorem take_late (new : Rev) (texts : List Key) (bound : Bool) (s : PState) (hc : s.clean = true) (j : Nat) :
    ((program texts bound).take ((groupOps texts).length + 2 + j)).foldl (effect new) s =
      lateState new bound j (published new texts s) := by
  have : program texts bound = ((Op.startGroup :: groupOps texts) ++ [Op.commitGroup]) ++ lateOps bound := by
    simp [program]
  rw [this, List.take_append]
  have hl : ((Op.startGroup :: groupOps texts) ++ [Op.commitGroup]).length = (groupOps texts).length + 2 := by simp
  rw [List.take_of_length_le (by omega), hl, List.foldl_append, run_published new texts s hc,
    Nat.add_sub_cancel_left, foldl_take_lateOps]

theorem inTry_late (texts : List Key) (j : Nat) : inTry texts ((groupOps texts).length + 2 + j) = false := by
  simp only [inTry, Bool.and_eq_false_iff, decide_eq_false_iff_not]
  right; omega

/-- a fault at the `j`-th operation after `commit_write_group` is outside the
`try` block: the commit raises and the state stays as the prefix left it -/
theorem runCommit_late (new : Rev) (texts : List Key) (bound : Bool) (s : PState) (hc : s.clean = true)
    {j : Nat} (hl : j < (lateOps bound).length) (after : Bool) :
    runCommit new texts bound (some ⟨(groupOps texts).length + 2 + j, after⟩) s =
      (lateState new bound (if after then j + 1 else j) (published new texts s), true) := by
  have hlen : (groupOps texts).length + 2 + j < (program texts bound).length := by
    rw [program_length]; omega
  have hex : (Fault.mk ((groupOps texts).length + 2 + j) after).executed =
      (groupOps texts).length + 2 + (if after then j + 1 else j) := by
    cases after <;> rfl
  unfold runCommit
  simp only [hlen, if_true, inTry_late, Bool.false_eq_true, if_false, hex]
  rw [take_late new texts bound s hc]

theorem foldl_program (new : Rev) (texts : List Key) (bound : Bool) (s : PState) (hc : s.clean = true) :
    (program texts bound).foldl (effect new) s =
      lateState new bound (lateOps bound).length (published new texts s) := by
  have := take_late new texts bound s hc (lateOps bound).length
  rwa [List.take_of_length_le (by rw [program_length]; omega)] at this

end BreezyVerif.C01
