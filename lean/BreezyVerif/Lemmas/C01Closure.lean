import BreezyVerif.Lemmas.C01
/-!
C01 — what the delta-consistency closure (`_handle_precise_ids`, `C10.preciseLoop`)
may add to a path-selected change stream: only ids *pulled in* by one of its
three rules (`Pulled`), starting from the working-tree parents of the selected
changed entries.  Also: the closure does not terminate on every well-formed
pair of trees (`preciseLoop_diverges`).
-/
namespace BreezyVerif.C01
open BreezyVerif.C10

/-- the ids `_handle_precise_ids` may examine for a set `sel` of path-selected
ids: the working-tree parent of a selected changed entry, then, transitively,
the working-tree parent of an examined id, the basis entry sitting at the
working-tree path of an examined id (it is displaced), and the basis children
of an examined id that stopped being a directory -/
inductive Pulled (src tgt : Tree) (sel : List Id) : Id → Prop where
  | seed {x p : Id} {r : Change} : x ∈ sel → change src tgt x = some r → r.isChanged = true →
      (get tgt x).bind (·.parent) = some p → Pulled src tgt sel p
  | parent {x p : Id} : Pulled src tgt sel x → (get tgt x).bind (·.parent) = some p → Pulled src tgt sel p
  | displaced {x o : Id} {q : Path} : Pulled src tgt sel x → pathOf tgt x = some q → idAt src q = some o →
      Pulled src tgt sel o
  | child {x c : Id} {r : Change} : Pulled src tgt sel x → change src tgt x = some r → r.isChanged = true →
      stoppedDir r = true → c ∈ childrenOf src x → Pulled src tgt sel c

theorem wanted_pulled {src tgt : Tree} {sel : List Id} {i j : Id} (hi : Pulled src tgt sel i)
    (hj : j ∈ wanted src tgt i) : Pulled src tgt sel j := by
  rcases mem_wanted.mp hj with h | ⟨r, hr, hs, hc⟩
  · exact .parent hi h
  · exact .child hi (emit_eq_some.mp hr).1 (emit_eq_some.mp hr).2 hs hc

/-- **every record the closure emits belongs to a pulled id** (both variants of
the loop: as found, `fx = false`, and with the `examined_file_ids` repair) -/
theorem preciseLoopG_pulled {src tgt : Tree} {sel : List Id} (fx : Bool) (n : Nat) (st : C10.PState) (ex : List Id)
    (out : List Change) (hp : ∀ j ∈ st.precise, Pulled src tgt sel j) (ho : ∀ c ∈ st.out, Pulled src tgt sel c.id)
    (h : preciseLoopG fx src tgt n st ex = some out) : ∀ c ∈ out, Pulled src tgt sel c.id := by
  have key := preciseLoopG_induct
    (I := fun st _ => (∀ j ∈ st.precise, Pulled src tgt sel j) ∧ ∀ c ∈ st.out, Pulled src tgt sel c.id)
    ?_ n st ex out ⟨hp, ho⟩ h
  · obtain ⟨st', _, hI, _, rfl⟩ := key
    exact hI.2
  intro st ex ⟨hp, ho⟩ _
  have hpend : ∀ x ∈ pendingG fx st ex, Pulled src tgt sel x := fun x hx => hp x (List.mem_filter.mp hx).1
  -- the ids the round examines are pulled: pending ids, and what they displace
  have hcur : ∀ i ∈ currentG fx src tgt st ex, Pulled src tgt sel i := by
    intro i hi
    rcases mem_unionNew.mp hi with h' | h'
    · exact hpend i h'
    · obtain ⟨x, hx, hxo⟩ := List.mem_filterMap.mp (List.mem_filter.mp h').1
      cases hq : pathOf tgt x with
      | none => simp [hq] at hxo
      | some q => exact .displaced (hpend x hx) hq (by simpa [hq] using hxo)
  refine ⟨fun j hj => ?_, fun c hc => ?_⟩
  · obtain ⟨i, hi, hji⟩ := mem_afterRound_precise.mp hj
    exact wanted_pulled (hcur i hi) hji
  · rcases List.mem_append.mp hc with h | h
    · exact ho c h
    · obtain ⟨i, hi, he⟩ := List.mem_filterMap.mp h
      exact (emit_true he).1 ▸ hcur i hi

theorem tgtParents_pulled {src tgt : Tree} {sel : List Id} :
    ∀ j ∈ tgtParents (baseTgt src tgt sel false), Pulled src tgt sel j := by
  intro j hj
  unfold tgtParents at hj
  rcases mem_unionNew.mp hj with h | h
  · cases h
  · rw [List.mem_filterMap] at h
    obtain ⟨c, hc, hp⟩ := h
    obtain ⟨h1, h2, h3, _⟩ := baseTgt_mem hc
    rw [change_tgtPar h1] at hp
    exact Pulled.seed h3 h1 (h2.resolve_right (by decide)) hp

/-- **the ids of a path-filtered change stream are selected or pulled** (both loop variants) -/
theorem filtered_ids_justified (fx : Bool) (impl : Impl) (src tgt : Tree) (filt : List Path) (reqv : Bool)
    (cs : List Change) (h : iterChangesG fx impl src tgt (some filt) false reqv = .ok cs) :
    ∀ c ∈ cs, c.id ∈ selectIds src tgt filt ∨ Pulled src tgt (selectIds src tgt filt) c.id := by
  cases filt with
  | nil =>
    simp [iterChangesG] at h
    subst h; simp
  | cons p f =>
    obtain ⟨extra, he, hcs⟩ := filteredG_shape fx impl src tgt p f reqv cs h
    intro c hc
    rw [hcs] at hc
    simp only [List.mem_append] at hc
    rcases hc with (hc | hc) | hc
    · exact Or.inl (baseTgt_mem hc).2.2.1
    · exact Or.inl (baseRemoved_mem hc).2.2.1
    · exact Or.inr (preciseLoopG_pulled fx _ _ _ extra tgtParents_pulled (by simp) he c hc)

/-! ### the closure as found (before /repo e6ca8fc) does not always terminate -/

def loopSrc : Tree :=
  [("r", ⟨none, "", .dir⟩), ("D", ⟨some "r", "d", .dir⟩), ("F", ⟨some "D", "f", .dir⟩),
   ("A", ⟨some "r", "a", .dir⟩), ("G", ⟨some "A", "f", .file "x" false⟩)]

/-- `a` renamed to `z`, `d` renamed to `a`, the file `a/f` moved into the
(unchanged) directory `d/f`, which now sits at `a/f` -/
def loopTgt : Tree :=
  [("r", ⟨none, "", .dir⟩), ("D", ⟨some "r", "a", .dir⟩), ("F", ⟨some "D", "f", .dir⟩),
   ("A", ⟨some "r", "z", .dir⟩), ("G", ⟨some "F", "g", .file "x" false⟩)]

/-- the state `iter_changes(specific_files=["a/f/g"])` hands to the closure -/
def loopStart : C10.PState :=
  { precise := tgtParents (baseTgt loopSrc loopTgt (selectIds loopSrc loopTgt [["a", "f", "g"]]) false),
    changed := (baseTgt loopSrc loopTgt (selectIds loopSrc loopTgt [["a", "f", "g"]]) false
                ++ baseRemoved loopSrc loopTgt (selectIds loopSrc loopTgt [["a", "f", "g"]])).map (·.id),
    out := [] }

/-- **the closure never terminates on this well-formed pair**, whatever the fuel: from the
third round on `D` and `F` are pending for ever — `F` (unchanged) is needed, the basis entry at
its working path `a/f` is `G`; `G` is emitted once more and asks for its parent `F` again, `F`
asks for `D`, which is already emitted -/
theorem preciseLoop_diverges (n : Nat) : preciseLoop loopSrc loopTgt n loopStart = none :=
  preciseLoop_none_of_reaches_cycle (P := ["D", "F"]) (C := ["G", "D", "A"]) (by decide +kernel) 3 _
    (by decide +kernel) n

end BreezyVerif.C01
