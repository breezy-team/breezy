import BreezyVerif.Model.C52
import BreezyVerif.Lemmas.Lib.AList
/-!
C52 — reconfiguration: what a transition keeps, and the stages and outcomes of `applyFlags`.
-/
namespace BreezyVerif.C52
open Lib

/-- every definition of `a` is a definition of `b` -/
def TagsSub (a b : Tags) : Prop := ∀ n v, lookupTag a n = some v → lookupTag b n = some v

/-- no tag name has two different definitions in `a` and `b` -/
def NoConflict (a b : Tags) : Prop := ∀ n v w, lookupTag a n = some v → lookupTag b n = some w → v = w

/-- every definition of `ts` comes from `a` or from `b` -/
def TagsFrom (a b ts : Tags) : Prop :=
  ∀ n v, lookupTag ts n = some v → lookupTag a n = some v ∨ lookupTag b n = some v

theorem lookupTag_eq_lookup (a : Tags) (n : Nat) : lookupTag a n = a.lookup n :=
  lookup_of_eqns (fun _ => rfl) (fun _ _ _ _ => by simp [lookupTag]) a n

theorem lookupTag_append (a b : Tags) (n : Nat) :
    lookupTag (a ++ b) n = match lookupTag a n with | some v => some v | none => lookupTag b n := by
  simp only [lookupTag_eq_lookup, List.lookup_append]
  cases a.lookup n <;> rfl

/-- `_reconcile_tags`: the destination's definition wins, otherwise the source's -/
theorem lookupTag_mergeTo (src dest : Tags) (n : Nat) :
    lookupTag (mergeTo src dest) n = match lookupTag dest n with | some v => some v | none => lookupTag src n := by
  induction src generalizing dest with
  | nil => simp only [mergeTo, lookupTag]; split <;> simp_all
  | cons p src ih =>
    obtain ⟨k, v⟩ := p
    simp only [mergeTo]
    cases hk : lookupTag dest k <;> simp only [ih, lookupTag_append, lookupTag]
    all_goals cases hd : lookupTag dest n <;> by_cases hkn : k = n <;> simp_all

theorem lookupTag_mem (a : Tags) (n v : Nat) (h : lookupTag a n = some v) : (n, v) ∈ a :=
  mem_of_lookup (lookupTag_eq_lookup a n ▸ h)

theorem hasConflict_false_iff (a b : Tags) : hasConflict a b = false ↔ NoConflict a b := by
  unfold hasConflict NoConflict
  rw [List.any_eq_false]
  constructor
  · intro h n v w h1 h2
    have := h (n, v) (lookupTag_mem a n v h1)
    simp only [h1, h2] at this
    simpa using this
  · intro h p hp
    cases h1 : lookupTag a p.1 <;> cases h2 : lookupTag b p.1 <;> simp
    exact h _ _ _ h1 h2

instance (a b : Tags) : Decidable (NoConflict a b) := decidable_of_iff _ (hasConflict_false_iff a b)

theorem tagsSub_refl (a : Tags) : TagsSub a a := fun _ _ h => h
theorem tagsSub_trans {a b c : Tags} (h1 : TagsSub a b) (h2 : TagsSub b c) : TagsSub a c :=
  fun n v h => h2 n v (h1 n v h)
theorem noConflict_self (a : Tags) : NoConflict a a := by
  intro n v w h1 h2; rw [h1] at h2; exact Option.some.inj h2

theorem mergeTo_keeps_source (src dest : Tags) (h : NoConflict src dest) : TagsSub src (mergeTo src dest) := by
  intro n v hv
  rw [lookupTag_mergeTo]
  cases hd : lookupTag dest n with
  | none => simpa using hv
  | some w => have := h n v w hv hd; subst this; rfl

theorem mergeTo_keeps_dest (src dest : Tags) : TagsSub dest (mergeTo src dest) := by
  intro n v hv
  rw [lookupTag_mergeTo, hv]

theorem mergeTo_from (src dest : Tags) : TagsFrom src dest (mergeTo src dest) := by
  intro n v hv
  rw [lookupTag_mergeTo] at hv
  cases hd : lookupTag dest n with
  | none => rw [hd] at hv; exact Or.inl (by simpa using hv)
  | some w => rw [hd] at hv; exact Or.inr hv

/-- what the branch at the bind location looks like never changes its tip / history; its tags only grow;
local and remote tags stay conflict-free and come from the tags at the start -/
def RefKeeps (l l' : Loc) : Prop :=
  l'.refTip = l.refTip ∧ l'.refHist = l.refHist ∧
  TagsSub l.tags l'.tags ∧ TagsSub l.refTags l'.refTags ∧
  TagsFrom l.tags l.refTags l'.tags ∧ TagsFrom l.tags l.refTags l'.refTags ∧
  NoConflict l'.tags l'.refTags

/-- the history behind a revision is a function of the revision; local and remote tags do not conflict -/
def RefInv (l : Loc) : Prop := (l.refTip = l.tip → l.refHist = l.hist) ∧ NoConflict l.tags l.refTags

/-- what a transition may do to the working tree: a tree that is kept is untouched; a tree that goes away had no
pending changes unless forced; a tree that appears is the clean tree of the (new) tip -/
def TreeKeeps (force : Bool) (l l' : Loc) : Prop :=
  (l.tree = true → l'.tree = true → l'.treeCode = l.treeCode ∧ l'.dirty = l.dirty) ∧
  (l.tree = true → l'.tree = false → l.dirty = false ∨ force = true) ∧
  (l.tree = false → l'.tree = true → l'.dirty = false ∧ l'.treeCode = cleanCode l'.tip)

/-- tip and history: unchanged, or — only when the local branch is replaced by a reference — those of the
branch at the bind location -/
def TipKeeps (l l' : Loc) : Prop :=
  (l'.tip = l.tip ∧ l'.hist = l.hist) ∨ (l'.tip = l.refTip ∧ l'.hist = l.refHist)

/-- what every transition (forced or not) guarantees -/
def KeepsF (force : Bool) (l l' : Loc) : Prop :=
  TipKeeps l l' ∧ l'.format = l.format ∧ RefKeeps l l' ∧ TreeKeeps force l l'

/-- what a transition that is not forced guarantees: tip and history stay -/
def Keeps (l l' : Loc) : Prop :=
  l'.tip = l.tip ∧ l'.hist = l.hist ∧ KeepsF false l l'

/-- a clean working tree is the tree of the tip -/
def TreeInv (l : Loc) : Prop := l.tree = true → l.dirty = false → l.treeCode = cleanCode l.tip

theorem refKeeps_refl (l : Loc) (h : NoConflict l.tags l.refTags) : RefKeeps l l :=
  ⟨rfl, rfl, tagsSub_refl _, tagsSub_refl _, fun _ _ h => Or.inl h, fun _ _ h => Or.inr h, h⟩

theorem treeKeeps_refl (force : Bool) (l : Loc) : TreeKeeps force l l := by
  refine ⟨?_, ?_, ?_⟩ <;> intro a b <;> simp_all

theorem keepsF_refl (force : Bool) (l : Loc) (h : NoConflict l.tags l.refTags) : KeepsF force l l :=
  ⟨Or.inl ⟨rfl, rfl⟩, rfl, refKeeps_refl l h, treeKeeps_refl force l⟩

theorem keeps_refl (l : Loc) (h : NoConflict l.tags l.refTags) : Keeps l l := ⟨rfl, rfl, keepsF_refl false l h⟩

/-- the part of a location the stages other than `stBranch` and `stTree` never touch -/
def core (l : Loc) : Nat × Nat × Nat × Tags × Nat × Nat × Tags × Bool × Bool × Nat :=
  (l.tip, l.hist, l.format, l.tags, l.refTip, l.refHist, l.refTags, l.tree, l.dirty, l.treeCode)

@[simp] theorem core_stRepo (f l) : core (stRepo f l) = core l := by unfold stRepo; cases f.createRepository <;> rfl
@[simp] theorem core_stUnbind (f l) : core (stUnbind f l) = core l := by
  unfold stUnbind; cases f.unbind && !f.destroyBranch <;> rfl
@[simp] theorem core_stBind (f l) : core (stBind f l) = core l := by unfold stBind; cases f.bind <;> rfl
@[simp] theorem core_stDropRepo (f a l) : core (stDropRepo f a l) = core l := by
  unfold stDropRepo; cases f.destroyRepository <;> rfl

theorem keepsF_of_core (force : Bool) (l m m' : Loc) (hc : core m' = core m) (h : KeepsF force l m) : KeepsF force l m' := by
  simp only [core, Prod.mk.injEq] at hc
  obtain ⟨c1, c2, c3, c4, c5, c6, c7, c8, c9, c10⟩ := hc
  unfold KeepsF TipKeeps RefKeeps TreeKeeps at *
  rw [c1, c2, c3, c4, c5, c6, c7, c8, c9, c10]
  exact h

theorem stRepo_eq (f : Flags) (l : Loc) :
    stRepo f l = { l with repo := if f.createRepository then .own else l.repo } := by
  unfold stRepo
  cases f.createRepository <;> rfl

/-- used where `split` is slow on the record updates of the stages -/
theorem ite_ind {α : Type} {P : α → Prop} {c : Prop} [Decidable c] {a b : α} (ha : c → P a) (hb : ¬c → P b) :
    P (if c then a else b) := by
  by_cases h : c
  · rw [if_pos h]; exact ha h
  · rw [if_neg h]; exact hb h

/-- `stBranch` and `stTree` are the only stages that change what is observed; neither reads the repository `r`
that `stRepo` has left -/
theorem keepsF_branch_tree (force : Bool) (l : Loc) (r : RK) (f : Flags) (hinv : NoConflict l.tags l.refTags)
    (hcr : f.createTree = true → l.tree = false) (hsafe : f.destroyTree = true → l.dirty = false ∨ force = true) :
    KeepsF force l (stTree f (stBranch f { l with repo := r })) := by
  have ht : (stBranch f { l with repo := r }).tree = l.tree := by
    unfold stBranch
    cases f.createReference <;> cases f.createBranch <;> rfl
  have hb : KeepsF force l (stBranch f { l with repo := r }) := by
    unfold stBranch
    have hsame : ∀ m : Loc, core m = core l → KeepsF force l m :=
      fun m h => keepsF_of_core force l l m h (keepsF_refl force l hinv)
    refine ite_ind (fun _ => ?_) fun _ => ite_ind (fun _ => hsame _ rfl) fun _ => hsame _ rfl
    refine ⟨.inr ⟨rfl, rfl⟩, rfl, ⟨rfl, rfl, mergeTo_keeps_source _ _ hinv, mergeTo_keeps_dest _ _, mergeTo_from _ _,
      mergeTo_from _ _, noConflict_self _⟩, fun _ _ => ⟨rfl, rfl⟩, fun h h' => ?_, fun h h' => ?_⟩ <;>
      exact absurd (h.symm.trans h') (by decide)
  obtain ⟨h1, h2, h3, h4⟩ := hb
  generalize stBranch f { l with repo := r } = b at *
  unfold stTree
  refine ite_ind (fun hdt => ?_) fun _ => ite_ind (fun hct => ?_) fun _ => ⟨h1, h2, h3, h4⟩
  · refine ⟨h1, h2, h3, ?_⟩
    unfold TreeKeeps
    dsimp only
    exact ⟨fun _ h => (nomatch h), fun _ _ => hsafe hdt, fun _ h => (nomatch h)⟩
  · refine ⟨h1, h2, h3, ?_⟩
    unfold TreeKeeps
    dsimp only
    exact ⟨fun h => absurd (h.symm.trans (hcr hct)) (by decide), fun _ h => (nomatch h), fun _ _ => ⟨rfl, rfl⟩⟩

theorem tip_branch_tree (f : Flags) (l : Loc) (r : RK)
    (h : f.createReference = true → l.refTip = l.tip ∧ l.refHist = l.hist) :
    (stTree f (stBranch f { l with repo := r })).tip = l.tip ∧
      (stTree f (stBranch f { l with repo := r })).hist = l.hist := by
  have ht : ∀ b : Loc, (stTree f b).tip = b.tip ∧ (stTree f b).hist = b.hist := fun b => by
    unfold stTree
    cases f.destroyTree <;> cases f.createTree <;> exact ⟨rfl, rfl⟩
  rw [(ht _).1, (ht _).2]
  unfold stBranch
  cases hr : f.createReference
  · cases f.createBranch <;> exact ⟨rfl, rfl⟩
  · exact h hr

/-- what `_check` has established when `apply` gets past it -/
def Checked (v : Variant) (l : Loc) (f : Flags) (force : Bool) : Prop :=
  (f.destroyTree = true → l.dirty = false ∨ force = true) ∧
  (force = false → f.createReference = true → l.branch ≠ .reference →
    l.synced = true ∧ (v.tagCheck = true → hasConflict l.tags l.refTags = false))

/-- `apply` past `_check`: stopped after `create_repository`, stopped before `bind`, or run to its end -/
def Ran (l : Loc) (f : Flags) (r : Loc × Option Err) : Prop :=
  (r.1 = stRepo f l ∧ (r.2 = some .noBindLocation ∨ r.2 = some .noSharedRepository)) ∨
  r = (stUnbind f (stTree f (stBranch f (stRepo f l))), some .noBindLocation) ∨
  r = (stDropRepo f l.sharedAbove (stBind f (stUnbind f (stTree f (stBranch f (stRepo f l))))), none)

/-- the ways `apply` can end: refused by `_check` (nothing done), or past it -/
def Applied (v : Variant) (l : Loc) (f : Flags) (force : Bool) (r : Loc × Option Err) : Prop :=
  (r.1 = l ∧ (r.2 = some .uncommittedChanges ∨ r.2 = some .noBindLocation ∨ r.2 = some .unsyncedBranches)) ∨
  (Checked v l f force ∧ Ran l f r)

theorem applyFlags_applied (v : Variant) (l : Loc) (f : Flags) (force : Bool) :
    Applied v l f force (applyFlags v l f force) := by
  unfold applyFlags
  refine ite_ind (fun _ => .inl ⟨rfl, .inl rfl⟩) fun h1 => ?_
  refine ite_ind (fun _ => .inl ⟨rfl, .inr (.inl rfl)⟩) fun _ => ?_
  refine ite_ind (fun _ => .inl ⟨rfl, .inr (.inr rfl)⟩) fun h3 => ?_
  refine ite_ind (fun _ => .inl ⟨rfl, .inr (.inr rfl)⟩) fun h4 => .inr ⟨⟨fun hd => ?_, fun hf hr hb => ?_⟩, ?_⟩
  · cases force
    · exact .inl (by simpa [hd] using h1)
    · exact .inr rfl
  · subst hf
    exact ⟨by simpa [hr, hb] using h3, fun hv => by simpa [hr, hb, hv] using h4⟩
  refine ite_ind (fun _ => .inl ⟨rfl, .inl rfl⟩) fun _ => ?_
  refine ite_ind (fun _ => .inl ⟨rfl, .inr rfl⟩) fun _ => ?_
  exact ite_ind (fun _ => .inr (.inl rfl)) fun _ => .inr (.inr rfl)

theorem applyFlags_core (v : Variant) (l : Loc) (f : Flags) (force : Bool) :
    core (applyFlags v l f force).1 = core l ∨
    (Checked v l f force ∧ core (applyFlags v l f force).1 = core (stTree f (stBranch f (stRepo f l)))) := by
  rcases applyFlags_applied v l f force with ⟨h, _⟩ | ⟨hc, ⟨h, _⟩ | h | h⟩
  · exact .inl (by rw [h])
  · exact .inl (by rw [h, core_stRepo])
  · exact .inr ⟨hc, by rw [h, core_stUnbind]⟩
  · exact .inr ⟨hc, by rw [h, core_stDropRepo, core_stBind, core_stUnbind]⟩

theorem applyFlags_keepsF (v : Variant) (l : Loc) (f : Flags) (force : Bool) (hinv : NoConflict l.tags l.refTags)
    (hcr : f.createTree = true → l.tree = false) : KeepsF force l (applyFlags v l f force).1 := by
  rcases applyFlags_core v l f force with h | ⟨hc, h⟩
  · exact keepsF_of_core force l l _ h (keepsF_refl force l hinv)
  · exact keepsF_of_core force l _ _ h (stRepo_eq f l ▸ keepsF_branch_tree force l _ f hinv hcr hc.1)

/-- not forced: `_check` lets a reference be created only when the tips agree, so the tip never moves -/
theorem applyFlags_tip (v : Variant) (l : Loc) (f : Flags) (hinv : RefInv l) (hcr : f.createReference = true → l.branch ≠ .reference) :
    (applyFlags v l f false).1.tip = l.tip ∧ (applyFlags v l f false).1.hist = l.hist := by
  have tipOf : ∀ m' m : Loc, core m' = core m → m'.tip = m.tip ∧ m'.hist = m.hist := by
    intro m' m hc
    simp only [core, Prod.mk.injEq] at hc
    exact ⟨hc.1, hc.2.1⟩
  rcases applyFlags_core v l f false with h | ⟨hc, h⟩
  · exact tipOf _ _ h
  · have hbt := stRepo_eq f l ▸ tip_branch_tree f l _ fun hr =>
      have hs : l.refTip = l.tip := by simpa [Loc.synced] using (hc.2 rfl hr (hcr hr)).1
      ⟨hs, hinv.1 hs⟩
    exact ⟨(tipOf _ _ h).1.trans hbt.1, (tipOf _ _ h).2.trans hbt.2⟩

theorem factory_flags (l : Loc) (t : Target) (f : Flags) (h : factory l t = .ok f) :
    (f.createTree = true → l.tree = false) ∧ (f.createReference = true → l.branch ≠ .reference) := by
  cases t <;> simp [factory, plan, planShared] at h <;> subst h <;> simp

theorem applyFlags_ok (v : Variant) (l : Loc) (f : Flags) (force : Bool) (h : (applyFlags v l f force).2 = none) :
    (applyFlags v l f force).1 =
      stDropRepo f l.sharedAbove (stBind f (stUnbind f (stTree f (stBranch f (stRepo f l))))) := by
  rcases applyFlags_applied v l f force with ⟨_, h'⟩ | ⟨_, ⟨_, h'⟩ | h' | h'⟩
  · simp [h] at h'
  · simp [h] at h'
  · rw [h'] at h; cases h
  · rw [h']

theorem applyFlags_err (v : Variant) (l : Loc) (f : Flags) (force : Bool) :
    (applyFlags v l f force).2 ≠ some .already ∧ (applyFlags v l f force).2 ≠ some .notSupported ∧
    (((applyFlags v l f force).2 = some .uncommittedChanges ∨ (applyFlags v l f force).2 = some .unsyncedBranches) →
      (applyFlags v l f force).1 = l) := by
  rcases applyFlags_applied v l f force with ⟨h1, h' | h' | h'⟩ | ⟨h1, ⟨_, h' | h'⟩ | h' | h'⟩ <;>
    rw [h'] <;> simp [h1]

/-- Where `apply` ends when nothing stops it, component by component: tree, branch kind and repository kind
are each decided by their own flags and by the same component at the start. -/
theorem final_parts (f : Flags) (l : Loc) :
    let m := stDropRepo f l.sharedAbove (stBind f (stUnbind f (stTree f (stBranch f (stRepo f l)))))
    m.tree = (if f.destroyTree then false else if f.createTree then true else l.tree) ∧
    m.branch = (if f.bind then .bound else if f.unbind && !f.destroyBranch then .unbound
      else if f.createReference then .reference else if f.createBranch then .unbound else l.branch) ∧
    m.repo = (if f.destroyRepository then (if l.sharedAbove then .shared else .none)
      else if f.createRepository then .own else l.repo) := by
  simp only [stDropRepo, stBind, stUnbind, stTree, stBranch, stRepo, apply_ite Loc.tree, apply_ite Loc.branch,
    apply_ite Loc.repo, ite_self, and_self]

/-- What `_plan_changes` plans is what is wanted (a reference is never wanted bound): run to its end, `apply`
leaves a tree iff one is wanted, the branch kind wanted, a repository here when a branch is wanted and none
here when a reference is. -/
theorem plan_layout (l : Loc) (wt wb wbd wr : Bool) (f : Flags) (h : plan l wt wb wbd wr = .ok f)
    (hc : wr = true → wbd = false) :
    let m := stDropRepo f l.sharedAbove (stBind f (stUnbind f (stTree f (stBranch f (stRepo f l)))))
    m.tree = wt ∧ m.branch = (if wr then .reference else if wbd then .bound else .unbound) ∧
    m.repo = (if wr then (if l.repo = .own then (if l.sharedAbove then .shared else .none) else l.repo)
      else (if l.repo = .none then .own else l.repo)) := by
  obtain ⟨ht, hb, hr⟩ := final_parts f l
  have hw : wb = !wr := by cases wb <;> cases wr <;> simp [plan] at h <;> rfl
  subst hw
  simp [plan] at h
  subst h
  refine ⟨ht.trans ?_, hb.trans ?_, hr.trans ?_⟩
  · cases wt <;> cases l.tree <;> rfl
  · cases wr <;> cases wbd <;> cases l.branch <;> simp at hc ⊢
  · cases wr <;> cases l.repo <;> simp

theorem final_layout (l : Loc) (t : Target) (f : Flags) (h : factory l t = .ok f) :
    layoutIs t (stDropRepo f l.sharedAbove (stBind f (stUnbind f (stTree f (stBranch f (stRepo f l)))))) = true := by
  cases t
  case standalone | useShared =>
    simp only [factory, planShared, Except.ok.injEq] at h
    subst h
    simp only [layoutIs, (final_parts _ l).2.2]
    cases l.repo <;> cases l.sharedAbove <;> rfl
  all_goals
    obtain ⟨ht, hb, hr⟩ := plan_layout l _ _ _ _ f h (by simp)
    simp only [layoutIs, ht, hb, hr]
    cases l.repo <;> cases l.sharedAbove <;> rfl

theorem factory_never_unsupported (l : Loc) (t : Target) : ∃ f, factory l t = .ok f := by
  cases t <;> simp [factory, plan]

theorem factory_any_iff (l : Loc) (t : Target) (f : Flags) (h : factory l t = .ok f) :
    f.any = false ↔ layoutIs t l = true := by
  cases t <;> simp [factory, plan, planShared] at h <;> subst h <;> simp only [Flags.any, layoutIs]
  all_goals
    generalize l.tree = t; generalize l.branch = b; generalize l.repo = r
    cases t <;> cases b <;> cases r <;> decide

theorem applyFlags_tagCheck (l : Loc) (f : Flags) (hr : f.createReference = true) (hb : l.branch ≠ .reference)
    (hc : hasConflict l.tags l.refTags = true) :
    (applyFlags ⟨true⟩ l f false).1 = l ∧ (applyFlags ⟨true⟩ l f false).2 ≠ none := by
  rcases applyFlags_applied ⟨true⟩ l f false with ⟨h1, h'⟩ | ⟨hck, _⟩
  · exact ⟨h1, by rcases h' with h' | h' | h' <;> simp [h']⟩
  · exact absurd ((hck.2 rfl hr hb).2 rfl) (by simp [hc])

theorem reconfigure_eq (v : Variant) (t : Target) (force : Bool) (l : Loc) :
    ∃ f, factory l t = .ok f ∧
      ((f.any = false ∧ reconfigure v t force l = (l, some .already)) ∨
       (f.any = true ∧ reconfigure v t force l = applyFlags v l f force)) := by
  obtain ⟨f, hf⟩ := factory_never_unsupported l t
  refine ⟨f, hf, ?_⟩
  cases ha : f.any <;> simp [reconfigure, hf, ha]

theorem obs_trans {l m r : Loc} (h1 : TipKeeps l m ∧ m.format = l.format ∧ RefKeeps l m)
    (h2 : TipKeeps m r ∧ r.format = m.format ∧ RefKeeps m r) :
    TipKeeps l r ∧ r.format = l.format ∧ RefKeeps l r := by
  obtain ⟨k1, k2, r1, r2, r3, r4, r5, r6, _⟩ := h1
  obtain ⟨a1, a2, s1, s2, s3, s4, s5, s6, s7⟩ := h2
  have hfrom : ∀ ts : Tags, TagsFrom m.tags m.refTags ts → TagsFrom l.tags l.refTags ts :=
    fun ts h n v hv => (h n v hv).elim (r5 n v) (r6 n v)
  refine ⟨?_, a2.trans k2, s1.trans r1, s2.trans r2, tagsSub_trans r3 s3, tagsSub_trans r4 s4, hfrom _ s5,
    hfrom _ s6, s7⟩
  rcases a1 with ⟨a, b⟩ | ⟨a, b⟩
  · exact k1.imp (fun c => ⟨a.trans c.1, b.trans c.2⟩) fun c => ⟨a.trans c.1, b.trans c.2⟩
  · exact .inr ⟨a.trans r1, b.trans r2⟩

/-- why `TreeInv l`: a tree that is destroyed on the way was clean, so the tree created later equals it -/
theorem keeps_trans {l m r : Loc} (hi : TreeInv l) (h1 : Keeps l m) (h2 : Keeps m r) : Keeps l r := by
  obtain ⟨tm, hm, o1, o2, o3, a1, a2, a3⟩ := h1
  obtain ⟨tr, hr, p1, p2, p3, b1, b2, b3⟩ := h2
  obtain ⟨q1, q2, q3⟩ := obs_trans ⟨o1, o2, o3⟩ ⟨p1, p2, p3⟩
  refine ⟨tr.trans tm, hr.trans hm, q1, q2, q3, fun hl hrt => ?_, fun hl hrt => ?_, fun hl hrt => ?_⟩ <;>
    cases hmt : m.tree
  · have hd := (a2 hl hmt).resolve_right (by decide)
    obtain ⟨r1, r2⟩ := b3 hmt hrt
    exact ⟨by rw [r2, tr, tm, hi hl hd], r1.trans hd.symm⟩
  · exact ⟨(b1 hmt hrt).1.trans (a1 hl hmt).1, (b1 hmt hrt).2.trans (a1 hl hmt).2⟩
  · exact a2 hl hmt
  · exact (b2 hmt hrt).imp_left fun h => (a1 hl hmt).2.symm.trans h
  · exact b3 hmt hrt
  · obtain ⟨m1, m2⟩ := a3 hl hmt
    obtain ⟨r1, r2⟩ := b1 hmt hrt
    exact ⟨r2.trans m1, by rw [r1, m2, tr]⟩

theorem keeps_treeInv (l l' : Loc) (h : Keeps l l') (hi : TreeInv l) : TreeInv l' := by
  obtain ⟨h1, _, _, _, _, h5, _, h7⟩ := h
  unfold TreeInv at *
  intro ht hd
  cases hlt : l.tree
  · exact (h7 hlt ht).2
  · have := h5 hlt ht
    rw [this.1, h1]; exact hi hlt (by rw [← this.2]; exact hd)

theorem keeps_refInv (l l' : Loc) (h : Keeps l l') (hi : RefInv l) : RefInv l' := by
  obtain ⟨h1, h2, _, _, hr, _⟩ := h
  obtain ⟨r1, r2, _, _, _, _, r7⟩ := hr
  exact ⟨by rw [r1, r2, h1, h2]; exact hi.1, r7⟩

end BreezyVerif.C52
