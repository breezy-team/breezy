import BreezyVerif.Model.C09
import BreezyVerif.Lemmas.C10
/-!
C09 — helper lemmas: association-list lookups through the passes of `revert`.
-/
namespace BreezyVerif.C09
open BreezyVerif.C10 Lib

theorem get_foldr_set (b d : Tree) (i : Id) :
    get (b.foldr (fun x d => C10.set d x.1 x.2) d) i =
      match get b i with
      | some e => some e
      | none => get d i := by
  induction b with
  | nil => simp [C10.get]
  | cons x rest ih =>
    obtain ⟨k, e⟩ := x
    simp only [List.foldr_cons, get_set, C10.get]
    by_cases hk : k = i
    · simp [hk]
    · simp [hk, ih]

theorem get_map_keep (t : Tree) (f : Id × Entry → Id × Entry) (i : Id)
    (hkey : ∀ x, (f x).1 = x.1) (hfix : ∀ x, x.1 = i → f x = x) : get (t.map f) i = get t i := by
  have hf : f = fun x => (x.1, (f x).2) := funext fun x => Prod.ext (hkey x) rfl
  rw [get_eq_lookup, get_eq_lookup, hf, lookup_map_snd t fun k e => (f (k, e)).2]
  cases t.lookup i with
  | none => rfl
  | some e => exact congrArg (some ·.2) (hfix (i, e) rfl)

theorem get_dropEmpty (c : List Id) (t : Tree) (i : Id) (h : i ∉ c) : get (dropEmpty c t) i = get t i := by
  unfold dropEmpty
  rw [get_filter_key t (fun k => !(c.contains k && (childrenOf t k).isEmpty))]
  simp [h]

theorem get_iterate_dropEmpty (c : List Id) (n : Nat) (t : Tree) (i : Id) (h : i ∉ c) :
    get (iterate (dropEmpty c) n t) i = get t i :=
  iterate_invariant (P := fun t' => get t' i = get t i) (fun t' h' => (get_dropEmpty c t' i h).trans h') n t rfl

/-- on disk, after revert, every id of the basis carries exactly its basis entry
(whatever was set aside, renamed to `.moved` or deleted) -/
theorem revert_disk_get (fl : Flavour) (b : Bool) (s : State) (i : Id) (hi : i ∈ ids s.basis) :
    get (revert fl b s).disk i = get s.basis i := by
  have hsome := get_isSome_of_mem hi
  cases hb : get s.basis i with
  | none => rw [hb] at hsome; cases hsome
  | some e =>
    unfold revert
    simp only
    rw [get_iterate_dropEmpty]
    · rw [get_map_keep]
      · rw [get_foldr_set, hb]
      · intro x; split <;> rfl
      · intro x hx
        split
        · rename_i hc
          rw [hx, hb] at hc; simp at hc
        · rfl
    · intro hmem
      rw [List.mem_filter] at hmem
      have := hmem.2
      rw [hb] at this
      simp at this

theorem revert_ver (fl : Flavour) (b : Bool) (s : State) :
    (revert fl b s).ver = unionNew (ids s.basis) [rootId] := rfl

theorem mem_revert_ver {fl : Flavour} {b : Bool} {s : State} {i : Id} :
    i ∈ (revert fl b s).ver ↔ i ∈ ids s.basis ∨ i = rootId := by
  rw [revert_ver, mem_unionNew]; simp

theorem pruneGit_disk (s : State) : (pruneGit s).disk = s.disk := rfl

theorem finish_bzr (s : State) : finish .bzr s = s := rfl

theorem finish_disk (fl : Flavour) (s : State) : (finish fl s).disk = s.disk := by
  cases fl <;> rfl

theorem finish_ver_subset (fl : Flavour) (s : State) (i : Id) (h : i ∈ (finish fl s).ver) : i ∈ s.ver := by
  cases fl
  · exact h
  · exact (List.mem_filter.mp h).1

/-- the working tree shows exactly the versioned part of the disk -/
theorem get_wtTree (s : State) (i : Id) : get (wtTree s) i = if i ∈ s.ver then get s.disk i else none := by
  unfold wtTree
  rw [get_filter_key s.disk (fun k => s.ver.contains k) i]
  simp only [List.contains_eq_mem, decide_eq_true_eq]

theorem substId_nil (i : Id) : substId [] i = i := rfl

theorem renameIds_nil (t : Tree) : renameIds [] t = t := by
  unfold renameIds
  rw [show substId [] = id from rfl]
  have : (fun x : Id × Entry => (id x.1, { x.2 with parent := x.2.parent.map id })) = id := by
    funext x
    obtain ⟨k, e⟩ := x
    cases e
    simp
  rw [this]; simp

theorem mem_substVer_nil (v : List Id) (k : Id) : k ∈ substVer [] v ↔ k ∈ v := by
  unfold substVer
  rw [mem_unionNew]
  simp [substId_nil]

theorem get_setNode (t : Tree) (i k : Id) (n : Node) :
    get (setNode t i n) k = if k = i then (get t i).map (fun e => { e with node := n }) else get t k := by
  have hf : (fun x : Id × Entry => if x.1 = i then (x.1, { x.2 with node := n }) else x)
      = fun x => (x.1, if x.1 = i then { x.2 with node := n } else x.2) := by
    funext x; split <;> rfl
  rw [setNode, hf, get_eq_lookup, lookup_map_snd t fun j e => if j = i then { e with node := n } else e]
  split
  · next h => rw [← h, get_eq_lookup]
  · rw [Option.map_id', get_eq_lookup]

end BreezyVerif.C09
