import BreezyVerif.Model.C05Fine
import BreezyVerif.Lemmas.C05Files
/-!
C05 — the invariants `InvA`, `InvB` at transport-operation granularity
(`Model/C05Fine.lean`): every queued operation of every process is an unlock, a
delete inside `obsolete_packs/`, or a move of a pack the process is about to
obsolete — each of them is safe for every listed and every finished unlisted
pack, whatever the other processes do in between.
-/
namespace BreezyVerif.C05
open BreezyVerif.C04

theorem invA_forget (s : Sys) (h : InvA s) (i : Nat) :
    InvA { s with procs := upd s.procs i { s.procs i with toObsolete := [] } } := by
  have := invA_files s i h s.disk rfl { s.procs i with toObsolete := [] } rfl rfl
  exact this

/-- the file part of the state may change in any way that keeps the listed and
the finished unlisted packs readable -/
theorem invB_disk (s : Sys) (g : InvB s) (d' : Disk) (hd : d'.names = s.disk.names)
    (hr : ∀ n, ready s.chk s.disk n = true →
      (n ∈ s.disk.names ∨ ∃ p, n ∈ (s.procs p).names ∧ n ∉ (s.procs p).atLoad) → ready s.chk d' n = true) :
    InvB { s with disk := d' } := by
  refine .of (fun n hn => ?_) (fun p => ?_) g.cross
  · have hn' : n ∈ s.disk.names := hd ▸ hn
    exact hr n (g.r1 n hn') (.inl hn')
  · exact (g.proc p).frame (Nat.le_refl _) (fun _ hn => hn) (fun _ _ => rfl)
      (fun n hq hrn => hr n hrn (.inr ⟨p, hq⟩)) (fun _ _ hl => hd ▸ hl) fun _ _ hl _ => hd ▸ hl

theorem invB_forget (s : Sys) (g : InvB s) (i : Nat) :
    InvB { s with procs := upd s.procs i { s.procs i with toObsolete := [] } } := by
  have gi := g.proc i
  exact .of g.r1
    (forall_upd ⟨gi.bc, (fun _ hn => nomatch hn), gi.r2, (fun _ hn => nomatch hn), gi.cn, gi.cb, gi.cd⟩
      fun p _ => g.proc p)
    (cross_upd g.cross (fun _ hn => nomatch hn) fun _ hq => .inl hq)

structure PendOK (f : FSys) : Prop where
  ok : ∀ i, ∀ op ∈ f.pend i, op = Op.unlock ∨ (∃ g, op = Op.delete g ∧ g.dir = .obsolete) ∨
      (f.obsPhase i = true ∧ ∃ n ∈ (f.s.procs i).toObsolete, op ∈ obsoleteOps f.s.chk n)
  idle : ∀ i, f.pend i = [] → f.obsPhase i = false

/-- a queued operation is safe for every listed and every finished unlisted pack -/
theorem pend_safe (f : FSys) (g : InvB f.s) (k : PendOK f) (i : Nat) (op : Op) (hop : op ∈ f.pend i) (n : Nat)
    (hn : n ∈ f.s.disk.names ∨ ∃ p, n ∈ (f.s.procs p).names ∧ n ∉ (f.s.procs p).atLoad) :
    safeOp [n] op = true := by
  rcases k.ok i op hop with rfl | ⟨gf, rfl, hg⟩ | ⟨_, m, hm, hop'⟩
  · rfl
  · exact safeOp_delete_obsolete [n] hg
  · apply obsoleteOps_safe f.s.chk [n] m _ op hop'
    simp only [List.mem_singleton]
    rintro rfl
    rcases hn with hn | ⟨p, hp1, hp2⟩
    · exact (g.obs i m hm).1 hn
    · exact (g.obs i m hm).2 p ⟨hp1, hp2⟩

theorem isPut_of_pend (f : FSys) (k : PendOK f) (i : Nat) (op : Op) (hop : op ∈ f.pend i) : isPut op = false := by
  rcases k.ok i op hop with rfl | ⟨gf, rfl, _⟩ | ⟨_, m, _, hop'⟩
  · rfl
  · rfl
  · obtain ⟨a, b, rfl, _⟩ := mem_obsoleteOps hop'
    rfl

theorem PendOK.step {f f' : FSys} (k : PendOK f) (i : Nat) (hc : f'.s.chk = f.s.chk)
    (hs : ∀ {j}, j ≠ i → f'.s.procs j = f.s.procs j) (hq : ∀ {j}, j ≠ i → f'.pend j = f.pend j)
    (hb : ∀ {j}, j ≠ i → f'.obsPhase j = f.obsPhase j)
    (hok : ∀ op ∈ f'.pend i, op = Op.unlock ∨ (∃ g, op = Op.delete g ∧ g.dir = .obsolete) ∨
      (f'.obsPhase i = true ∧ ∃ n ∈ (f'.s.procs i).toObsolete, op ∈ obsoleteOps f'.s.chk n))
    (hidle : f'.pend i = [] → f'.obsPhase i = false) : PendOK f' := by
  refine ⟨fun j op hop => ?_, fun j hj' => ?_⟩
  · by_cases hj : j = i
    · exact hj ▸ hok op (hj ▸ hop)
    · rw [hc, hs hj, hb hj]
      exact k.ok j op (hq hj ▸ hop)
  · by_cases hj : j = i
    · exact hj ▸ hidle (hj ▸ hj')
    · rw [hb hj]
      exact k.idle j (hq hj ▸ hj')

theorem step_procs_other (s : Sys) (i j : Nat) (a : Act) (h : j ≠ i) : (step s i a).procs j = s.procs j := by
  cases a <;> simp only [step, doReload] <;> (try split) <;> simp [upd_other _ _ h]

theorem step_chk (s : Sys) (i : Nat) (a : Act) : (step s i a).chk = s.chk := by
  cases a <;> simp only [step, doReload] <;> (try split) <;> rfl

structure FInv (f : FSys) : Prop where
  a : InvA f.s
  b : InvB f.s
  k : PendOK f

theorem finv_init (s : Sys) (h : InvA s) (g : InvB s) : FInv (FSys.init s) :=
  ⟨h, g, ⟨fun _ _ hop => (by cases hop), fun _ _ => rfl⟩⟩

theorem finv_op (f : FSys) (i : Nat) (v : FInv f) : FInv (fstep f i .op) := by
  simp only [fstep]
  split
  · exact v
  · rename_i o rest hp
    have ho : o ∈ f.pend i := by rw [hp]; simp
    have hnames : (C04.step f.s.disk o).names = f.s.disk.names :=
      step_names_noPut _ _ (isPut_of_pend f v.k i o ho)
    have hA : InvA { f.s with disk := C04.step f.s.disk o } := invA_disk f.s v.a _ hnames
    have hB : InvB { f.s with disk := C04.step f.s.disk o } := by
      apply invB_disk f.s v.b _ hnames
      intro n hr hn
      exact (step_safe' f.s.chk [n] f.s.disk o (pend_safe f v.b v.k i o ho n hn)).2 n (by simp) hr
    split
    · exact ⟨invA_forget _ hA i, invB_forget _ hB i, v.k.step i rfl (upd_other _ _) (upd_other _ _) (upd_other _ _)
        (fun op hop => by simp only [upd_same] at hop; cases hop) fun _ => upd_same _ _ _⟩
    · rename_i hlast
      refine ⟨hA, hB, v.k.step i rfl (fun _ => rfl) (upd_other _ _) (fun _ => rfl) ?_ ?_⟩
      · intro op hop
        simp only [upd_same] at hop
        exact v.k.ok i op (hp ▸ List.mem_cons_of_mem _ hop)
      · intro hr
        simp only [upd_same] at hr
        simpa [hr] using hlast

theorem finv_begin (f : FSys) (i : Nat) (a : Act) (v : FInv f) : FInv (fstep f i (.begin a)) := by
  simp only [fstep]
  split
  · exact v
  · rename_i hidle
    have hpi : f.pend i = [] := by simpa using hidle
    -- a step that leaves `pend` and `obsPhase` alone and only touches process `i`
    have keepK : ∀ s' : Sys, s'.chk = f.s.chk → (∀ {j}, j ≠ i → s'.procs j = f.s.procs j) →
        PendOK { f with s := s' } := fun s' hc hp =>
      v.k.step i hc hp (fun _ => rfl) (fun _ => rfl) (fun op hop => by rw [hpi] at hop; cases hop)
        fun _ => v.k.idle i hpi
    have atomic : ∀ b : Act, InvB (step f.s i b) → FInv { f with s := step f.s i b } := fun b hb =>
      ⟨invA_step f.s i b v.a, hb, keepK _ (step_chk f.s i b) (step_procs_other f.s i _ b)⟩
    cases a with
    | reload => exact atomic .reload (invB_reload f.s i v.b)
    | finish revs => exact atomic _ (invB_finish f.s i revs v.a v.b)
    | repack sel => exact atomic _ (invB_repack f.s i sel v.a v.b)
    | save clear =>
      refine ⟨?_, ?_, v.k.step i rfl (upd_other _ _) (upd_other _ _) (fun _ => rfl) ?_ ?_⟩
      · exact invA_saveAux f.s i v.a _ _ rfl rfl rfl
      · exact invB_saveAux f.s i v.a v.b _ _ _ _ rfl rfl (fun _ hr => hr) fun n hn =>
            (List.mem_append.mp hn).imp_right fun hn => (List.mem_filter.mp hn).1
      · intro op hop
        simp only [beginSave, upd_same, List.mem_append, List.mem_singleton] at hop
        rcases hop with hop | rfl
        · cases clear
          · cases hop
          · exact .inr (.inl (mem_clearOps hop))
        · exact .inl rfl
      · intro hn
        simp [beginSave] at hn
    | obsolete =>
      simp only
      split
      · exact ⟨invA_forget _ v.a i, invB_forget _ v.b i, keepK _ rfl (upd_other _ _)⟩
      · rename_i hne
        refine ⟨v.a, v.b, v.k.step i rfl (fun _ => rfl) (upd_other _ _) (upd_other _ _) ?_ ?_⟩
        · intro op hop
          simp only [upd_same] at hop
          obtain ⟨n, hn, hop'⟩ := List.mem_flatMap.mp hop
          exact .inr (.inr ⟨upd_same _ _ _, n, hn, hop'⟩)
        · intro hn
          simp only [upd_same] at hn
          simp [hn] at hne
    | clearAll =>
      refine ⟨v.a, v.b, v.k.step i rfl (fun _ => rfl) (upd_other _ _) (fun _ => rfl) ?_ fun _ => v.k.idle i hpi⟩
      intro op hop
      simp only [upd_same] at hop
      exact .inr (.inl (mem_clearOps hop))

theorem finv_step (f : FSys) (i : Nat) (a : FAct) (v : FInv f) : FInv (fstep f i a) := by
  cases a with
  | begin a => exact finv_begin f i a v
  | op => exact finv_op f i v

theorem finv_exec (f : FSys) (sched : FSchedule) (v : FInv f) : FInv (fexec f sched) :=
  List.foldlRecOn (motive := FInv) sched _ v fun f v a _ => finv_step f a.1 a.2 v

theorem fstep_chk (f : FSys) (i : Nat) (a : FAct) : (fstep f i a).s.chk = f.s.chk := by
  cases a with
  | op =>
    simp only [fstep]
    split
    · rfl
    · split <;> rfl
  | begin a =>
    simp only [fstep]
    split
    · rfl
    · cases a with
      | save clear => rfl
      | obsolete => simp only; split <;> rfl
      | clearAll => rfl
      | reload => exact step_chk _ _ _
      | finish revs => exact step_chk _ _ _
      | repack sel => exact step_chk _ _ _

theorem fexec_chk (f : FSys) (sched : FSchedule) : (fexec f sched).s.chk = f.s.chk := by
  induction sched generalizing f with
  | nil => rfl
  | cons a rest ih =>
    show (fexec (fstep f a.1 a.2) rest).s.chk = f.s.chk
    rw [ih, fstep_chk]

theorem upd_upd {α : Type} (g : Nat → α) (i : Nat) (x y : α) : upd (upd g i x) i y = upd g i y := by
  funext j; simp only [upd]; split <;> rfl

theorem upd_of_eq {α : Type} (g : Nat → α) (i : Nat) {x : α} (h : g i = x) : upd g i x = g :=
  h ▸ upd_self g i

theorem fexec_cons (f : FSys) (a : Nat × FAct) (rest : FSchedule) :
    fexec f (a :: rest) = fexec (fstep f a.1 a.2) rest := rfl

/-- the state when process `i` has performed all its queued operations `ops`: they have run on the disk, the
queue is empty, and a phase of `_obsolete_packs` moves is closed (what the last `FAct.op` of `fstep` does) -/
def drained (f : FSys) (i : Nat) (ops : List Op) : FSys :=
  if f.obsPhase i then
    { s := { f.s with disk := run f.s.disk ops, procs := upd f.s.procs i { f.s.procs i with toObsolete := [] } },
      pend := upd f.pend i [], obsPhase := upd f.obsPhase i false }
  else { f with s := { f.s with disk := run f.s.disk ops }, pend := upd f.pend i [] }

/-- performing all queued operations of process `i`, nobody in between (a phase of `_obsolete_packs` moves is
never begun with an empty queue) -/
theorem drain (ops : List Op) (f : FSys) (i : Nat) (hp : f.pend i = ops) (hne : f.obsPhase i = true → ops ≠ []) :
    fexec f (List.replicate ops.length (i, FAct.op)) = drained f i ops := by
  induction ops generalizing f with
  | nil =>
    have ho : ¬ f.obsPhase i = true := fun h => hne h rfl
    rw [drained, if_neg ho, upd_of_eq _ _ hp]
    rfl
  | cons o rest ih =>
    rw [List.length_cons, List.replicate_succ, fexec_cons]
    cases rest with
    | nil =>
      -- the last operation: `fstep` closes the phase
      simp only [fstep, hp, drained, List.isEmpty_nil, Bool.true_and]
      split <;> rfl
    | cons o' rest =>
      have e : fstep f i .op =
          { f with s := { f.s with disk := C04.step f.s.disk o }, pend := upd f.pend i (o' :: rest) } := by
        simp only [fstep, hp, List.isEmpty_cons, Bool.false_and]
        rfl
      rw [e, ih _ (upd_same _ _ _) fun _ => nofun]
      simp only [drained, upd_upd, run_cons]

theorem fexec_append (f : FSys) (a b : FSchedule) : fexec f (a ++ b) = fexec (fexec f a) b := by
  simp [fexec, List.foldl_append]

/-- **Refinement.**  A phase of the phase-granularity model is the run of the
operation-granularity model in which the process begins the phase and performs
all its queued operations with nobody in between. -/
theorem phase_step_is_fine_run (f : FSys) (i : Nat) (a : Act) (hidle : f.pend i = []) (hobs : f.obsPhase i = false) :
    ∃ k, fexec f (phaseAsOps i a k) = { f with s := step f.s i a } := by
  have hb : (!(f.pend i).isEmpty) = false := by simp [hidle]
  have atomic : ∀ a, fstep f i (.begin a) = { f with s := step f.s i a } →
      ∃ k, fexec f (phaseAsOps i a k) = { f with s := step f.s i a } := fun a h => ⟨0, h⟩
  cases a with
  | reload => exact atomic _ (by simp only [fstep, hb, Bool.false_eq_true, if_false])
  | finish revs => exact atomic _ (by simp only [fstep, hb, Bool.false_eq_true, if_false])
  | repack sel => exact atomic _ (by simp only [fstep, hb, Bool.false_eq_true, if_false])
  | save clear =>
    refine ⟨((if clear then clearOps f.s.disk (f.s.procs i).combined else []) ++ [Op.unlock]).length, ?_⟩
    simp only [phaseAsOps, fexec_cons]
    have e : fstep f i (.begin (.save clear)) = beginSave f i clear := by simp [fstep, hidle]
    have ho : (beginSave f i clear).obsPhase i = false := hobs
    rw [e, drain _ (beginSave f i clear) i (by simp [beginSave]) fun h => absurd (ho ▸ h) nofun, drained,
      if_neg (Bool.eq_false_iff.mp ho)]
    simp only [beginSave, upd_upd, upd_of_eq _ _ hidle, step, ← run_append, List.append_assoc]
  | obsolete =>
    by_cases he : ((f.s.procs i).toObsolete.flatMap (obsoleteOps f.s.chk)).isEmpty = true
    · refine ⟨0, ?_⟩
      have hnil : (f.s.procs i).toObsolete.flatMap (obsoleteOps f.s.chk) = [] := by simpa using he
      simp only [phaseAsOps, List.replicate_zero, fexec, List.foldl_cons, List.foldl_nil, fstep, hidle,
        List.isEmpty_nil, Bool.not_true, Bool.false_eq_true, if_false, if_true, step, hnil, run_nil]
    · refine ⟨((f.s.procs i).toObsolete.flatMap (obsoleteOps f.s.chk)).length, ?_⟩
      simp only [phaseAsOps, fexec_cons]
      have e : fstep f i (.begin .obsolete) =
          { f with pend := upd f.pend i ((f.s.procs i).toObsolete.flatMap (obsoleteOps f.s.chk)),
                   obsPhase := upd f.obsPhase i true } := by
        simp [fstep, hidle, he]
      rw [e, drain ((f.s.procs i).toObsolete.flatMap (obsoleteOps f.s.chk)) _ i (upd_same _ _ _)
        fun _ h => he (h ▸ rfl), drained, if_pos (upd_same _ _ _)]
      simp only [upd_upd, upd_of_eq _ _ hidle, upd_of_eq _ _ hobs, step]
  | clearAll =>
    refine ⟨(clearOps f.s.disk []).length, ?_⟩
    simp only [phaseAsOps, fexec_cons]
    have e : fstep f i (.begin .clearAll) = { f with pend := upd f.pend i (clearOps f.s.disk []) } := by
      simp [fstep, hidle]
    rw [e, drain (clearOps f.s.disk []) { f with pend := upd f.pend i (clearOps f.s.disk []) } i
      (upd_same _ _ _) fun h => absurd (hobs ▸ h) nofun, drained, if_neg (Bool.eq_false_iff.mp hobs)]
    simp only [upd_upd, upd_of_eq _ _ hidle, step]

/-- the phase-granularity model (the one compared with the real code after every
phase) is the special case of the operation-granularity model in which a
process' queued operations run without interruption -/
theorem exec_refines_fine (s : Sys) (sched : Schedule) :
    ∃ fs : FSchedule, fexec (FSys.init s) fs = FSys.init (exec s sched) := by
  induction sched generalizing s with
  | nil => exact ⟨[], rfl⟩
  | cons a rest ih =>
    obtain ⟨k, hk⟩ := phase_step_is_fine_run (FSys.init s) a.1 a.2 rfl rfl
    obtain ⟨fs, hfs⟩ := ih (step s a.1 a.2)
    refine ⟨phaseAsOps a.1 a.2 k ++ fs, ?_⟩
    rw [fexec_append, hk]
    exact hfs

theorem inv_exec (s : Sys) (sched : Schedule) (h : InvA s) (g : InvB s) :
    InvA (exec s sched) ∧ InvB (exec s sched) := by
  obtain ⟨fs, hfs⟩ := exec_refines_fine s sched
  have v := finv_exec _ fs (finv_init s h g)
  rw [hfs] at v
  exact ⟨v.a, v.b⟩

theorem exec_chk (s : Sys) (sched : Schedule) : (exec s sched).chk = s.chk := by
  induction sched generalizing s with
  | nil => rfl
  | cons a rest ih => exact (ih _).trans (step_chk s a.1 a.2)

/-- the reader clause from the invariants alone (used at both granularities) -/
theorem reload_finds_of_inv (s : Sys) (h : InvA s) (g : InvB s) (p : Nat) :
    ∀ n ∈ (s.procs p).names, ∀ r ∈ s.content n,
      ∃ m ∈ ((step s p .reload).procs p).names,
        r ∈ (step s p .reload).content m ∧ ready (step s p .reload).chk (step s p .reload).disk m = true := by
  intro n hn r hr
  have hnames : ((step s p .reload).procs p).names = mergeNames s.disk.names (s.procs p).atLoad (s.procs p).names := by
    simp [step, doReload, reloadProc_names]
  show ∃ m ∈ ((step s p .reload).procs p).names, r ∈ s.content m ∧ ready s.chk s.disk m = true
  rw [hnames]
  by_cases ha : n ∈ (s.procs p).atLoad
  · -- loaded, so listed once: its data is in a listed pack, and the merge covers that
    obtain ⟨m, hm, hrm⟩ := h.kept n (h.al p n ha) r hr
    obtain ⟨m', hm', hrm', rfl | hp⟩ := (h.proc p).merge_covers h.ev hm hrm
    · exact ⟨m', hm', hrm', g.r1 m' hm⟩
    · exact ⟨m', hm', hrm', g.r2 p m' hp.1 hp.2⟩
  · exact ⟨n, (h.proc p).private_merged h.ev hn ha, hr, g.r2 p n hn ha⟩

theorem inv_of_init (chk : Bool) (d : Disk) (content : Nat → List Nat) (next : Nat)
    (hb : ∀ n ∈ d.names, n < next) (hc : complete chk d = true) (sched : Schedule) :
    InvA (exec (Sys.init chk d content next) sched) ∧ InvB (exec (Sys.init chk d content next) sched) :=
  inv_exec _ sched (invA_init chk d content next hb) (invB_init chk d content next hc)

theorem committed_readable_of_inv {s : Sys} (h : InvA s) (g : InvB s) :
    ∀ r ∈ s.committed, ∃ m ∈ s.disk.names, r ∈ s.content m ∧ ready s.chk s.disk m = true := by
  intro r hr
  obtain ⟨n, hn, hrn⟩ := h.comm r hr
  obtain ⟨m, hm, hrm⟩ := h.kept n hn r hrn
  exact ⟨m, hm, hrm, g.r1 m hm⟩

end BreezyVerif.C05
