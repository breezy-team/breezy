import BreezyVerif.Lemmas.C29LP
/-! ChunkedBodyDecoder: segmentation independence and round trip -/
namespace BreezyVerif.C29
namespace CK

theorem feed_eH (buf x : Bytes) : feed (.expectingHeader buf) x = headerStep (buf ++ x) := rfl
theorem feed_eL (buf x : Bytes) (acc : CKAcc) :
    feed (.expectingLength buf acc) x = lengthStep (buf ++ x) acc := rfl
theorem feed_rC (l : Nat) (cur x : Bytes) (acc : CKAcc) :
    feed (.readingChunk l cur acc) x =
      if l ≤ x.length then lengthStep (x.drop l) (acc.push (cur ++ x.take l))
      else .readingChunk (l - x.length) (cur ++ x) acc := rfl
theorem feed_done (cs : List Chunk) (u x : Bytes) : feed (.done cs u) x = .done cs (u ++ x) := rfl
theorem feed_failed (e : CKErr) (x : Bytes) : feed (.failed e) x = .failed e := rfl

theorem lengthStep_none {b : Bytes} (acc : CKAcc) (h : splitLine b = none) :
    lengthStep b acc = .expectingLength b acc := by
  rw [lengthStep]
  split
  · rfl
  · rename_i l r h2; rw [h] at h2; cases h2

theorem lengthStep_some {b line rest : Bytes} (acc : CKAcc) (h : splitLine b = some (line, rest)) :
    lengthStep b acc =
      if line = errLine then lengthStep rest acc.startErr
      else if line = endLine then .done acc.finish rest
      else match parseNat 16 line with
        | none => .failed .badLength
        | some n =>
          if n ≤ rest.length then lengthStep (rest.drop n) (acc.push (rest.take n))
          else .readingChunk (n - rest.length) rest acc := by
  rw [lengthStep]
  split
  · rename_i h2; rw [h] at h2; cases h2
  · rename_i l r h2; rw [h] at h2; cases h2; rfl

theorem readingChunk_feed (n : Nat) (cur x y : Bytes) (acc : CKAcc) (h : ¬ n ≤ x.length) :
    feed (.readingChunk (n - x.length) (cur ++ x) acc) y =
      if n ≤ (x ++ y).length then lengthStep ((x ++ y).drop n) (acc.push (cur ++ (x ++ y).take n))
      else .readingChunk (n - (x ++ y).length) (cur ++ (x ++ y)) acc := by
  have hx : x.length ≤ n := Nat.le_of_not_le h
  rw [feed_rC, List.length_append, List.take_append, List.drop_append, List.take_of_length_le hx,
    List.drop_of_length_le hx, List.nil_append]
  simp only [Nat.sub_le_iff_le_add', Nat.sub_sub, List.append_assoc]

theorem feed_lengthStep (u : Bytes) (acc : CKAcc) (y : Bytes) :
    feed (lengthStep u acc) y = lengthStep (u ++ y) acc := by
  fun_induction lengthStep u acc
  case case1 h => rfl
  case case2 rest h ih => rw [lengthStep_some _ (splitLine_append_some y h), if_pos rfl]; exact ih
  case case3 rest h hne => rw [lengthStep_some _ (splitLine_append_some y h), if_neg hne, if_pos rfl]; rfl
  case case4 h h1 h2 hp =>
    rw [lengthStep_some _ (splitLine_append_some y h), if_neg h1, if_neg h2, hp]; rfl
  case case5 h h1 h2 n hp hle ih =>
    rw [lengthStep_some _ (splitLine_append_some y h), if_neg h1, if_neg h2, hp]
    simp only
    rw [if_pos (Nat.le_trans hle (List.prefix_append _ y).length_le),
      List.take_append_of_le_length hle, List.drop_append_of_le_length hle]
    exact ih
  case case6 h h1 h2 n hp hle =>
    rw [lengthStep_some _ (splitLine_append_some y h), if_neg h1, if_neg h2, hp]
    exact readingChunk_feed n [] _ y _ hle

theorem feed_headerStep (u y : Bytes) : feed (headerStep u) y = headerStep (u ++ y) := by
  unfold headerStep
  cases h : splitLine u with
  | none => simp only [feed_eH]; rfl
  | some lr =>
    obtain ⟨line, rest⟩ := lr
    rw [splitLine_append_some y h]
    simp only
    by_cases hc : line = chunkedHeader
    · simp only [hc, if_true, feed_lengthStep]
    · simp only [hc, if_false, feed_failed]

theorem feed_append (s : CK) (a b : Bytes) : feed (feed s a) b = feed s (a ++ b) := by
  cases s with
  | expectingHeader buf => rw [feed_eH, feed_headerStep, feed_eH, List.append_assoc]
  | expectingLength buf acc => rw [feed_eL, feed_lengthStep, feed_eL, List.append_assoc]
  | readingChunk l cur acc =>
    rw [feed_rC, feed_rC]
    by_cases hle : l ≤ a.length
    · rw [if_pos hle, if_pos (Nat.le_trans hle (List.prefix_append a b).length_le), feed_lengthStep,
        List.take_append_of_le_length hle, List.drop_append_of_le_length hle]
    · rw [if_neg hle, readingChunk_feed l cur a b acc hle]
  | done cs u => rw [feed_done, feed_done, feed_done, List.append_assoc]
  | failed e => rfl

/-- a hex length line is not a line containing `E` (`ERR`, `END`) -/
theorem hex_ne {l : Bytes} (h : (69 : UInt8) ∈ l) (n : Nat) : natDigits 16 n ≠ l := fun e =>
  natDigits_notMem (base := 16) (by omega) (by omega) n 69 (by simp) (e ▸ h)

theorem lengthStep_chunk (c tail : Bytes) (acc : CKAcc) :
    lengthStep (natDigits 16 c.length ++ 10 :: (c ++ tail)) acc = lengthStep tail (acc.push c) := by
  rw [lengthStep_some acc
    (splitLine_of_notMem _ (natDigits_notMem (by omega) (by omega) _ 10 (by simp)))]
  simp only [hex_ne (l := errLine) (by decide), hex_ne (l := endLine) (by decide), if_false,
    parseNat_natDigits (base := 16) (by omega) (by omega)]
  simp

theorem lengthStep_chunks (cs : List Bytes) (tail : Bytes) (acc : CKAcc) :
    lengthStep (encodeChunks cs ++ tail) acc = lengthStep tail (cs.foldl CKAcc.push acc) := by
  induction cs generalizing acc with
  | nil => rfl
  | cons c cs ih =>
    simp only [encodeChunks, List.append_assoc, List.cons_append, List.foldl_cons]
    rw [lengthStep_chunk, ih]

theorem lengthStep_end (rest : Bytes) (acc : CKAcc) :
    lengthStep (endLine ++ 10 :: rest) acc = .done acc.finish rest := by
  rw [lengthStep_some acc (splitLine_of_notMem _ (by decide))]
  simp only [show endLine ≠ errLine by decide, if_false, if_true]

theorem lengthStep_err (tail : Bytes) (acc : CKAcc) :
    lengthStep (errLine ++ 10 :: tail) acc = lengthStep tail acc.startErr := by
  rw [lengthStep_some acc (splitLine_of_notMem _ (by decide))]
  simp only [if_true]

theorem foldl_push_ok (cs : List Bytes) (acc : CKAcc) (h : acc.error = false) :
    cs.foldl CKAcc.push acc = { acc with chunks := acc.chunks ++ cs.map .data } := by
  induction cs generalizing acc with
  | nil => simp
  | cons c cs ih =>
    simp only [List.foldl_cons]
    have hp : acc.push c = { acc with chunks := acc.chunks ++ [.data c] } := by
      simp [CKAcc.push, h]
    rw [hp, ih _ (by simpa using h)]
    simp

theorem foldl_push_err (cs : List Bytes) (acc : CKAcc) (h : acc.error = true) :
    cs.foldl CKAcc.push acc = { acc with errParts := acc.errParts ++ cs } := by
  induction cs generalizing acc with
  | nil => simp
  | cons c cs ih =>
    simp only [List.foldl_cons]
    have hp : acc.push c = { acc with errParts := acc.errParts ++ [c] } := by
      simp [CKAcc.push, h]
    rw [hp, ih _ (by simpa using h)]
    simp

theorem feed_init_encode (chunks : List Bytes) (err : Option (List Bytes)) (rest : Bytes) :
    feed init (ckEncode chunks err ++ rest) = .done (ckExpected chunks err) rest := by
  cases err with
  | none =>
    have hw : ckEncode chunks none ++ rest
        = chunkedHeader ++ 10 :: (encodeChunks chunks ++ (endLine ++ 10 :: rest)) := by
      simp [ckEncode]
    rw [hw, init, feed_eH, List.nil_append, headerStep,
      splitLine_of_notMem _ (by decide)]
    simp only [if_true]
    rw [lengthStep_chunks, lengthStep_end, foldl_push_ok _ _ rfl]
    simp [CKAcc.finish, CKAcc.empty, ckExpected]
  | some args =>
    have hw : ckEncode chunks (some args) ++ rest
        = chunkedHeader ++ 10 :: (encodeChunks chunks ++
            (errLine ++ 10 :: (encodeChunks args ++ (endLine ++ 10 :: rest)))) := by
      simp [ckEncode]
    rw [hw, init, feed_eH, List.nil_append, headerStep,
      splitLine_of_notMem _ (by decide)]
    simp only [if_true]
    rw [lengthStep_chunks, lengthStep_err, lengthStep_chunks, lengthStep_end,
      foldl_push_ok chunks CKAcc.empty rfl, foldl_push_err args _ rfl]
    simp [CKAcc.finish, CKAcc.empty, CKAcc.startErr, ckExpected]

end CK
end BreezyVerif.C29
