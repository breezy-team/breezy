import BreezyVerif.Model.C14
import BreezyVerif.Lemmas.C14
import BreezyVerif.Lemmas.C14Git
/-! Helper lemmas for `delta_sound` (C14): `apply_inventory_delta` as membership, the base inventory,
the items of the generated delta. -/
namespace BreezyVerif.C14

def DeltaItem.fid : DeltaItem → String
  | .remove g => g
  | .put g _ => g

/-- one item of `apply_inventory_delta` -/
def deltaStep (inv : Inv) : DeltaItem → Inv
  | .remove f => inv.filter (fun e => e.1 != f)
  | .put f e => inv.filter (fun x => x.1 != f) ++ [(f, e)]

theorem applyDelta_cons (inv : Inv) (x : DeltaItem) (rest : List DeltaItem) :
    applyDelta inv (x :: rest) = applyDelta (deltaStep inv x) rest := by
  cases x <;> rfl

theorem mem_deltaStep_other (inv : Inv) (x : DeltaItem) (g : String) (e : InvEntry) (h : x.fid ≠ g) :
    (g, e) ∈ deltaStep inv x ↔ (g, e) ∈ inv := by
  cases x with
  | remove f =>
    have hf : f ≠ g := h
    simp only [deltaStep, List.mem_filter, bne_iff_ne, ne_eq]
    exact ⟨fun h => h.1, fun h => ⟨h, fun h' => hf h'.symm⟩⟩
  | put f e' =>
    have hf : f ≠ g := h
    simp only [deltaStep, List.mem_append, List.mem_filter, bne_iff_ne, ne_eq, List.mem_singleton, Prod.mk.injEq]
    constructor
    · rintro (h1 | h1)
      · exact h1.1
      · exact absurd h1.1.symm hf
    · intro h1; exact Or.inl ⟨h1, fun h' => hf h'.symm⟩

theorem mem_applyDelta_none (g : String) (e : InvEntry) (d : List DeltaItem) :
    ∀ inv : Inv, (∀ x ∈ d, x.fid ≠ g) → ((g, e) ∈ applyDelta inv d ↔ (g, e) ∈ inv) := by
  induction d with
  | nil => intro inv _; rfl
  | cons x rest ih =>
    intro inv h
    rw [applyDelta_cons, ih _ (fun y hy => h y (by simp [hy]))]
    exact mem_deltaStep_other inv x g e (h x (by simp))

theorem mem_applyDelta_same (g : String) (e : InvEntry) (x0 : DeltaItem) (d : List DeltaItem) :
    ∀ inv : Inv, (∀ x ∈ d, x.fid = g → x = x0) → (∃ x ∈ d, x.fid = g) →
      ((g, e) ∈ applyDelta inv d ↔ (g, e) ∈ deltaStep [] x0) := by
  induction d with
  | nil => intro inv _ ⟨x, hx, _⟩; cases hx
  | cons x rest ih =>
    intro inv hall hex
    rw [applyDelta_cons]
    by_cases hrest : ∃ y ∈ rest, y.fid = g
    · exact ih _ (fun y hy => hall y (List.mem_cons_of_mem _ hy)) hrest
    · have hnone : ∀ y ∈ rest, y.fid ≠ g := fun y hy hg => hrest ⟨y, hy, hg⟩
      rw [mem_applyDelta_none g e rest _ hnone]
      obtain ⟨y, hy, hg⟩ := hex
      have hxg : x.fid = g := by
        rcases List.mem_cons.mp hy with h1 | h1
        · rw [← h1]; exact hg
        · exact absurd hg (hnone y h1)
      have hx0 := hall x List.mem_cons_self hxg
      subst hx0
      -- an item about `g` discards whatever the inventory had for `g`
      cases x <;> cases hxg <;> simp [deltaStep, DeltaItem.fid]

theorem mem_applyDelta_put (g : String) (e e0 : InvEntry) (d : List DeltaItem) (inv : Inv)
    (hall : ∀ x ∈ d, x.fid = g → x = .put g e0) (hex : ∃ x ∈ d, x.fid = g) :
    (g, e) ∈ applyDelta inv d ↔ e = e0 := by
  rw [mem_applyDelta_same g e _ d inv hall hex]
  simp [deltaStep]

theorem not_mem_applyDelta_remove (g : String) (e : InvEntry) (d : List DeltaItem) (inv : Inv)
    (hall : ∀ x ∈ d, x.fid = g → x = .remove g) (hex : ∃ x ∈ d, x.fid = g) :
    (g, e) ∉ applyDelta inv d := by
  rw [mem_applyDelta_same g e _ d inv hall hex]
  simp [deltaStep]


theorem mem_of_alookup {β : Type} {l : List (Tid × β)} {k : Tid} {v : β} (h : alookup l k = some v) : (k, v) ∈ l := by
  unfold alookup at h
  cases hf : l.find? (fun e => e.1 == k) with
  | none => simp [hf] at h
  | some e =>
    have hm := List.mem_of_find?_eq_some hf
    have hk : e.1 = k := by simpa using List.find?_some hf
    simp only [hf, Option.map_some, Option.some.injEq] at h
    have : e = (k, v) := by cases e; simp_all
    rw [← this]; exact hm

theorem treeFid_some (tt : TT) (t : Tid) (f : String) (h : tt.treeFid t = some f) :
    t < tt.nbase ∧ ∃ b, tt.base[t]? = some b ∧ b.fid = some f := by
  unfold TT.treeFid at h
  cases hb : tt.base[t]? with
  | none => simp [hb] at h
  | some b =>
    have hlt := (List.getElem?_eq_some_iff.mp hb).1
    have hfid : b.fid = some f := by simpa [hb] using h
    exact ⟨hlt, b, by first | rfl | exact hb, hfid⟩

/-- the entry the base inventory has for a tree id -/
def TT.baseEntry (tt : TT) (b : Base) : InvEntry := { parentFid := b.parent.bind tt.treeFid, name := b.name, kind := b.kind }

theorem mem_baseInv (tt : TT) (f : String) (e : InvEntry) :
    (f, e) ∈ tt.baseInv ↔ ∃ t b, t < tt.nbase ∧ tt.base[t]? = some b ∧ b.fid = some f ∧ e = tt.baseEntry b := by
  simp only [TT.baseInv, List.mem_filterMap, List.mem_range, TT.baseEntry]
  constructor
  · rintro ⟨t, ht, hx⟩
    cases hb : tt.base[t]? with
    | none => simp [hb] at hx
    | some b =>
      simp only [hb] at hx
      cases hf : b.fid with
      | none => simp [hf] at hx
      | some f' =>
        simp only [hf, Option.map_some, Option.some.injEq, Prod.mk.injEq] at hx
        exact ⟨t, b, ht, hb, by rw [hf, hx.1], hx.2.symm⟩
  · rintro ⟨t, b, ht, hb, hf, he⟩
    exact ⟨t, ht, by simp [hb, hf, he]⟩

theorem baseFids_unique (tt : TT) (h : tt.baseFidsInj = true) (t t' : Tid) (f : String)
    (h1 : tt.treeFid t = some f) (h2 : tt.treeFid t' = some f) : t = t' :=
  unique_of_all tt.nbase tt.treeFid h (treeFid_some tt t f h1).1 (treeFid_some tt t' f h2).1 h1 h2

theorem finalFids_unique (tt : TT) (h : tt.finalFidInj = true) (t t' : Tid) (f : String) (ht : t < tt.next) (ht' : t' < tt.next)
    (h1 : tt.finalFid t = some f) (h2 : tt.finalFid t' = some f) : t = t' :=
  unique_of_all tt.next tt.finalFid h ht ht' h1 h2

theorem tidOfTreeFid_eq (tt : TT) (h : tt.baseFidsInj = true) (t : Tid) (f : String) (h1 : tt.treeFid t = some f) :
    tt.tidOfTreeFid f = some t := by
  unfold TT.tidOfTreeFid
  have ht := (treeFid_some tt t f h1).1
  cases hf : (List.range tt.nbase).find? (fun t => tt.treeFid t == some f) with
  | none =>
    rw [List.find?_eq_none] at hf
    have := hf t (by simpa using ht)
    simp [h1] at this
  | some t' =>
    have := List.find?_some hf
    have h2 : tt.treeFid t' = some f := by simpa using this
    rw [baseFids_unique tt h t t' f h1 h2]


theorem mem_deltaPuts (tt : TT) (ps : List DeltaItem) (h : tt.deltaPuts = .ok ps) (x : DeltaItem) :
    x ∈ ps ↔ ∃ t, t ∈ tt.inventoryAltered ∧ ∃ f e, tt.finalFid t = some f ∧ tt.deltaEntry t f = some e ∧ x = .put f e := by
  unfold TT.deltaPuts at h
  split at h
  · cases h
  · cases h
    simp only [List.mem_filterMap]
    constructor
    · rintro ⟨t, ht, hx⟩
      refine ⟨t, ht, ?_⟩
      cases hf : tt.finalFid t with
      | none => simp [hf] at hx
      | some f =>
        cases he : tt.deltaEntry t f with
        | none => simp [hf, he] at hx
        | some e =>
          simp only [hf, he, Option.map_some, Option.some.injEq] at hx
          exact ⟨f, e, rfl, he, hx.symm⟩
    · rintro ⟨t, ht, f, e, hf, he, hx⟩
      exact ⟨t, ht, by simp [hf, he, hx]⟩

theorem mem_deltaRemovals (fl : Flags) (tt : TT) (hrev : tt.reversioned = []) (x : DeltaItem) :
    x ∈ tt.deltaRemovals fl ↔ ∃ t, t ∈ tt.removedId ∧ ∃ f, tt.treeFid t = some f ∧ tt.newId.any (fun e => e.2 == f) = false ∧ x = .remove f := by
  unfold TT.deltaRemovals
  rw [hrev]
  simp only [List.filterMap_nil, ite_self, List.append_nil, List.mem_filterMap]
  constructor
  · rintro ⟨t, ht, hx⟩
    refine ⟨t, ht, ?_⟩
    cases hf : tt.treeFid t with
    | none => simp [hf] at hx
    | some f =>
      simp only [hf] at hx
      split at hx
      · cases hx
      · rename_i hany
        exact ⟨f, rfl, (Bool.not_eq_true _).mp hany, by simpa using hx.symm⟩
  · rintro ⟨t, ht, f, hf, hany, hx⟩
    exact ⟨t, ht, by simp [hf, hany, hx]⟩

end BreezyVerif.C14
