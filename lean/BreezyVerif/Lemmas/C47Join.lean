import BreezyVerif.Model.C47
import BreezyVerif.Lemmas.Lib.Split
/-! C47 helper lemmas: `splitpath` / `joinpath` over byte strings. -/
namespace BreezyVerif.C47

/-- `"/".join(cs)` -/
def joinSlash : List Bytes → Bytes
  | [] => []
  | c :: rest => c ++ rest.flatMap (fun x => slash :: x)

theorem splitOn_eq (sep : UInt8) (p : Bytes) : splitOn sep p = p.splitOn sep := by
  induction p with
  | nil => rfl
  | cons c cs ih =>
    obtain ⟨f, fs, h, h'⟩ := Lib.splitOn_cons sep c cs
    simp [splitOn, consHead, ih, h, h']

theorem joinSlash_eq : ∀ cs : List Bytes, joinSlash cs = [slash].intercalate cs
  | [] => rfl
  | c :: rest => (Lib.intercalate_cons slash c rest).symm

theorem splitOn_no_sep (sep : UInt8) (p : Bytes) : ∀ f ∈ splitOn sep p, sep ∉ f :=
  fun _ h => Lib.not_mem_of_mem_splitOn (splitOn_eq sep p ▸ h)

theorem splitOn_joinSlash (cs : List Bytes) (hne : cs ≠ []) (h : ∀ c ∈ cs, slash ∉ c) :
    splitOn slash (joinSlash cs) = cs := by
  rw [splitOn_eq, joinSlash_eq, Lib.splitOn_intercalate slash h hne]

theorem joinSlash_splitOn (p : Bytes) : joinSlash (splitOn slash p) = p := by
  rw [splitOn_eq, joinSlash_eq, Lib.intercalate_splitOn]

/-- a component `joinpath` accepts and `splitpath` returns unchanged -/
def validComp (c : Bytes) : Bool := c ≠ [] ∧ slash ∉ c ∧ c ≠ [dot] ∧ c ≠ [dot, dot]

theorem validComp_iff (c : Bytes) :
    validComp c = true ↔ c ≠ [] ∧ slash ∉ c ∧ c ≠ [dot] ∧ c ≠ [dot, dot] :=
  decide_eq_true_iff

theorem splitOn_joinSlash_valid {cs : List Bytes} (h : ∀ c ∈ cs, validComp c = true) (hne : cs ≠ []) :
    splitOn slash (joinSlash cs) = cs :=
  splitOn_joinSlash cs hne fun c hc => ((validComp_iff c).mp (h c hc)).2.1

theorem splitpathAux_valid (l : List Bytes) (h : ∀ c ∈ l, validComp c = true) :
    splitpathAux l = .ok l := by
  induction l with
  | nil => simp [splitpathAux]
  | cons c cs ih =>
    have hc := (validComp_iff c).mp (h c (by simp))
    unfold splitpathAux
    simp [hc.1, hc.2.2.1, hc.2.2.2, ih (fun x hx => h x (List.mem_cons_of_mem _ hx))]

theorem getLast?_append_ne (buf c : Bytes) (hc : c ≠ []) (hs : slash ∉ c) :
    (buf ++ c).getLast? ≠ some slash := by
  rw [List.getLast?_append]
  cases hl : c.getLast? with
  | none => exact absurd (List.getLast?_eq_none_iff.mp hl) hc
  | some x =>
    simp only [Option.some_or]
    intro h
    exact hs (List.mem_of_getLast? (h ▸ hl))

theorem foldl_pushPath (buf : Bytes) (cs : List Bytes) (hb : buf ≠ []) (hl : buf.getLast? ≠ some slash)
    (h : ∀ c ∈ cs, validComp c = true) :
    cs.foldl pushPath buf = buf ++ cs.flatMap (fun x => slash :: x) := by
  induction cs generalizing buf with
  | nil => simp
  | cons c cs ih =>
    have hc := (validComp_iff c).mp (h c (by simp))
    have hhead : c.head? ≠ some slash := fun e => hc.2.1 (List.mem_of_head? e)
    simp only [List.foldl_cons, List.flatMap_cons]
    have : pushPath buf c = buf ++ slash :: c := by
      unfold pushPath; simp [hhead, hb, hl]
    rw [this, ih _ (by simp) _ (fun x hx => h x (List.mem_cons_of_mem _ hx))]
    · simp
    · have := getLast?_append_ne (buf ++ [slash]) c hc.1 hc.2.1
      simpa using this

theorem pathjoin_valid (cs : List Bytes) (h : ∀ c ∈ cs, validComp c = true) :
    pathjoin cs = joinSlash cs := by
  unfold pathjoin
  match cs with
  | [] => simp [joinSlash]
  | c :: rest =>
    have hc := (validComp_iff c).mp (h c (by simp))
    have hhead : c.head? ≠ some slash := fun e => hc.2.1 (List.mem_of_head? e)
    simp only [List.foldl_cons, joinSlash]
    have : pushPath [] c = c := by unfold pushPath; simp [hhead]
    rw [this, foldl_pushPath c rest hc.1 ?_ (fun x hx => h x (List.mem_cons_of_mem _ hx))]
    have := getLast?_append_ne [] c hc.1 hc.2.1
    simpa using this

theorem joinpath_valid (cs : List Bytes) (h : ∀ c ∈ cs, validComp c = true) :
    joinpath cs = .ok (joinSlash cs) := by
  unfold joinpath
  have : cs.any (fun p => decide (p = [] ∨ p = [dot, dot])) = false := by
    rw [List.any_eq_false]
    intro c hc
    have := (validComp_iff c).mp (h c hc)
    simp [this.1, this.2.2.2]
  rw [this]
  simp [pathjoin_valid cs h]

theorem splitpathAux_ok_valid (l r : List Bytes) (hl : ∀ f ∈ l, slash ∉ f)
    (h : splitpathAux l = .ok r) : ∀ c ∈ r, validComp c = true := by
  fun_induction splitpathAux l generalizing r with
  | case1 => simp_all
  | case2 fs => simp at h
  | case3 f fs hdd hd ih => exact ih r (fun g hg => hl g (List.mem_cons_of_mem _ hg)) h
  | case4 f fs hdd hd r' hr' ih =>
    simp only [Except.ok.injEq] at h
    subst h
    simp only [List.mem_cons, forall_eq_or_imp] at hl ⊢
    exact ⟨(validComp_iff f).mpr ⟨fun e => hd (Or.inr e), hl.1, fun e => hd (Or.inl e), hdd⟩,
      ih r' hl.2 hr'⟩
  | case5 f fs hdd hd e he ih => simp at h

end BreezyVerif.C47
