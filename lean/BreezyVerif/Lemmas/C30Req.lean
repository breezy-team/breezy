import BreezyVerif.Lemmas.C30LP
import BreezyVerif.Lemmas.C29Misc
/-! the five laws for the protocol 1/2 server request machine -/
namespace BreezyVerif.C30
open BreezyVerif.C29

def reqWf : Req → Prop
  | .line buf => (10 : UInt8) ∉ buf
  | .body _ d => lpWf d ∧ d.finished = false ∧ d ≠ .failed
  | _ => True

theorem reqWf_afterBody (args : List Bytes) (d : LP) (h : lpWf d) : reqWf (Req.afterBody args d) := by
  cases d with
  | done b u => trivial
  | failed => trivial
  | expectingLength buf => exact ⟨h, rfl, by simp⟩
  | readingBody l bd => exact ⟨h, rfl, by simp⟩
  | readingTrailer bd t => exact ⟨h, rfl, by simp⟩

theorem afterBody_fin {args : List Bytes} {d : LP} (h : (Req.afterBody args d).finished = true) :
    d.finished = true ∧ (Req.afterBody args d).unused = d.unused := by
  cases d <;> simp [Req.afterBody, Req.finished, Req.unused, LP.finished, LP.unused] at h ⊢

theorem reqLaws (w : List Bytes → Bool) : Laws (reqMachine w) reqWf where
  append := Req.feed_append w
  wf_feed := by
    intro s x h
    cases s with
    | line buf =>
      simp only [reqMachine, Req.feed_line]
      unfold Req.lineStep
      split
      · rename_i hs; exact splitLine_none_notMem hs
      · simp only
        split
        · exact reqWf_afterBody _ _ (lpWf_feed _ _ lpWf_init)
        · trivial
    | body args d =>
      simp only [reqMachine, Req.feed_body]
      exact reqWf_afterBody _ _ (lpWf_feed _ _ h.1)
    | done a b u => trivial
    | failed => trivial
  fin_feed := by
    intro s x h
    cases s with
    | done a b u => exact ⟨rfl, rfl⟩
    | _ => cases h
  fin_stop := by
    intro s h
    cases s with
    | done a b u => rfl
    | _ => cases h
  hint := by
    intro s q hwf hnf hfin
    cases s with
    | line buf =>
      simp only [reqMachine, Req.feed_line] at hfin ⊢
      unfold Req.lineStep at hfin ⊢
      cases hs : splitLine (buf ++ q) with
      | none => simp [hs, Req.finished] at hfin
      | some lr =>
        obtain ⟨l, rest⟩ := lr
        obtain ⟨h1, h2⟩ := splitLine_append_prefix hs hwf
        simp only [hs] at hfin ⊢
        refine ⟨by simp [Req.nextReadSize], by simp [Req.nextReadSize], ?_⟩
        by_cases hw : w (splitSoh l) = true
        · simp only [hw, if_true] at hfin ⊢
          obtain ⟨hf, hu⟩ := afterBody_fin hfin
          rw [hu]
          have := (lpLaws.hint LP.init rest lpWf_init rfl hf).2.2
          simp only [lpMachine, LP.nextReadSize, LP.init] at this hu ⊢
          simp only [Req.nextReadSize]
          omega
        · simp only [hw, Bool.false_eq_true, if_false, Req.nextReadSize, Req.unused]
          omega
    | body args d =>
      simp only [reqMachine, Req.feed_body] at hfin ⊢
      obtain ⟨hf, hu⟩ := afterBody_fin hfin
      rw [hu]
      obtain ⟨_, h1, h2⟩ := lpLaws.hint d q hwf.1 hwf.2.1 hf
      simp only [lpMachine] at h1 h2
      refine ⟨?_, h1, h2⟩
      simp only [Req.nextReadSize, beq_eq_false_iff_ne, ne_eq]
      omega
    | done a b u => cases hnf
    | failed => cases hfin

theorem reqWf_init : reqWf (.line []) := by simp [reqWf]

theorem req_feed_encode (w : List Bytes → Bool) (args : List Bytes) (body : Option Bytes)
    (hok : Req.argsOk args = true) (hw : w args = body.isSome) :
    Req.feed w (.line []) (reqEncode args body) = .done args body [] := by
  rw [← List.append_nil (reqEncode args body), Req.feed_init_encode w args body [] hok hw]

end BreezyVerif.C30
