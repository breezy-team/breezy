import BreezyVerif.Model.C44
import BreezyVerif.Lemmas.Lib.AList
import BreezyVerif.Lemmas.Lib.InsertSort
/-
C44 — helper lemmas: the path-space map, the delete and modify phases, the
history fold.
-/
namespace BreezyVerif.C44
open Lib

theorem lookup_eq_lookup (m : Flat) (q : Path) : lookup m q = List.lookup q m :=
  (lookup_eq_find? m q).symm

theorem erase_eq_erase (m : Flat) (p : Path) : erase m p = AList.erase m p :=
  List.filter_congr fun x _ => by by_cases h : x.1 = p <;> simp [h]

theorem lookup_nil (q : Path) : lookup [] q = none := rfl

theorem lookup_cons (p : Path) (v : Val) (m : Flat) (q : Path) :
    lookup ((p, v) :: m) q = if q = p then some v else lookup m q := by
  simp only [lookup_eq_lookup, lookup_cons_beq, beq_iff_eq]

theorem lookup_erase (m : Flat) (p q : Path) :
    lookup (erase m p) q = if q = p then none else lookup m q := by
  rw [lookup_eq_lookup, lookup_eq_lookup, erase_eq_erase, AList.lookup_erase]

/-- two maps with the same lookups -/
def FlatEq (a b : Flat) : Prop := ∀ q, lookup a q = lookup b q

theorem applyCmd_congr {a b : Flat} (h : FlatEq a b) (c : Cmd) : FlatEq (applyCmd a c) (applyCmd b c) := by
  intro q
  cases c with
  | del p => simp only [applyCmd, lookup_erase, h q]
  | ren p r =>
    simp only [applyCmd, h p]
    cases lookup b p with
    | none => exact h q
    | some v => simp only [lookup_cons, lookup_erase, h q]
  | mod p v => simp only [applyCmd, lookup_cons, lookup_erase, h q]

theorem applyCmds_congr {a b : Flat} (h : FlatEq a b) (cs : List Cmd) : FlatEq (applyCmds a cs) (applyCmds b cs) := by
  induction cs generalizing a b with
  | nil => exact h
  | cons c cs ih => exact ih (applyCmd_congr h c)

theorem applyCmds_append (m : Flat) (a b : List Cmd) : applyCmds m (a ++ b) = applyCmds (applyCmds m a) b := by
  simp [applyCmds, List.foldl_append]

/-- the delete phase -/
theorem lookup_dels (ds : List Path) (m : Flat) (q : Path) :
    lookup (applyCmds m (ds.map Cmd.del)) q = if q ∈ ds then none else lookup m q := by
  induction ds generalizing m with
  | nil => simp [applyCmds]
  | cons d ds ih =>
    simp only [List.map_cons, applyCmds, List.foldl_cons] at ih ⊢
    rw [ih, applyCmd, lookup_erase]
    by_cases h1 : q ∈ ds
    · simp [h1]
    · by_cases h2 : q = d <;> simp [h1, h2]

/-- the modify phase: a path that no command names keeps its value … -/
theorem lookup_mods_other (ms : List (Path × Val)) (m : Flat) (q : Path) (hq : q ∉ ms.map (·.1)) :
    lookup (applyCmds m (ms.map fun e => Cmd.mod e.1 e.2)) q = lookup m q := by
  induction ms generalizing m with
  | nil => simp [applyCmds]
  | cons x xs ih =>
    simp only [List.map_cons, List.mem_cons, not_or] at hq
    simp only [List.map_cons, applyCmds, List.foldl_cons] at ih ⊢
    rw [ih _ hq.2, applyCmd, lookup_cons, lookup_erase]
    simp [hq.1]

/-- … and a path named by exactly one command gets that command's value -/
theorem lookup_mods_mem (ms : List (Path × Val)) (hnd : (ms.map (·.1)).Nodup) (m : Flat) (q : Path) (v : Val)
    (hq : (q, v) ∈ ms) :
    lookup (applyCmds m (ms.map fun e => Cmd.mod e.1 e.2)) q = some v := by
  induction ms generalizing m with
  | nil => cases hq
  | cons x xs ih =>
    simp only [List.map_cons, List.nodup_cons] at hnd
    simp only [List.map_cons, applyCmds, List.foldl_cons] at ih ⊢
    rcases List.mem_cons.mp hq with h | h
    · subst h
      have := lookup_mods_other xs (applyCmd m (Cmd.mod q v)) q hnd.1
      simp only [applyCmds] at this
      rw [this, applyCmd, lookup_cons]; simp
    · exact ih hnd.2 _ h

theorem perm_insertBy {α : Type} (le : α → α → Bool) (x : α) (l : List α) : (insertBy le x l).Perm (x :: l) :=
  perm_insert (insertBy le) (le · · = true) (fun _ => rfl) (fun _ _ _ => rfl) x l

theorem perm_sortBy {α : Type} (le : α → α → Bool) (l : List α) : (sortBy le l).Perm l :=
  perm_insertSort _ (perm_insertBy le) rfl (fun _ _ => rfl) l

theorem mem_sortBy {α : Type} (le : α → α → Bool) (l : List α) (y : α) : y ∈ sortBy le l ↔ y ∈ l :=
  (perm_sortBy le l).mem_iff

theorem find_some {t : Tree} {f : Nat} {e : Ent} (h : find t f = some e) : e ∈ t ∧ e.fid = f := by
  unfold find at h
  have h1 := List.mem_of_find?_eq_some h
  have h2 := List.find?_some h
  simp only [beq_iff_eq] at h2
  exact ⟨h1, h2⟩

/-- with distinct file ids, `find` returns the entry that is there -/
theorem find_of_mem {t : Tree} (hnd : (t.map (·.fid)).Nodup) {e : Ent} (he : e ∈ t) : find t e.fid = some e :=
  find?_key_of_mem Ent.fid hnd he

theorem find_none {t : Tree} {f : Nat} (h : find t f = none) : ∀ e ∈ t, e.fid ≠ f := by
  intro e he heq
  unfold find at h
  have := List.find?_eq_none.mp h e he
  simp [heq] at this

/-- with distinct paths, a file is found under its path -/
theorem lookup_flat_mem (t : Tree) (hnd : ((flat t).map (·.1)).Nodup) (e : Ent) (he : e ∈ t) (hd : e.dir = false) :
    lookup (flat t) e.path = some e.val := by
  have hmem : (e.path, e.val) ∈ flat t :=
    List.mem_map.mpr ⟨e, List.mem_filter.mpr ⟨he, by simp [hd]⟩, rfl⟩
  exact lookup_eq_lookup _ _ ▸ lookup_of_mem hnd hmem

/-- … and a file is identified by its path -/
theorem file_path_inj (l : Tree) (hnd : ((flat l).map (·.1)).Nodup) :
    ∀ a ∈ l, ∀ b ∈ l, a.dir = false → b.dir = false → a.path = b.path → a = b := by
  intro a ha b hb had hbd hab
  rw [flat, List.map_map] at hnd
  exact Lib.inj_of_nodup_map Ent.path hnd (List.mem_filter.mpr ⟨ha, by simp [had]⟩)
    (List.mem_filter.mpr ⟨hb, by simp [hbd]⟩) hab

theorem lookup_flat_none (t : Tree) (q : Path) (h : ∀ e ∈ t, e.dir = false → e.path ≠ q) : lookup (flat t) q = none := by
  rw [lookup_eq_lookup, lookup_eq_none_iff_keys, flat, List.map_map]
  intro hm
  obtain ⟨e, he, rfl⟩ := List.mem_map.mp hm
  have := List.mem_filter.mp he
  exact h e this.1 (by simpa using this.2) rfl

theorem foldlM_append_single {α β ε : Type} (f : β → α → Except ε β) (l : List α) (x : α) (b : β) :
    (l ++ [x]).foldlM f b = (l.foldlM f b >>= fun r => f r x) := by
  rw [List.foldlM_append]
  simp

end BreezyVerif.C44
