import BreezyVerif.Model.C31
import BreezyVerif.Lemmas.Lib.Split
/-
Split/join on '/', `joinpath`, `escape` / `pctDecode`, and strings built from plain bytes and
upper-case escapes (`PctClass`): `Canon`, what `urlutils.escape` produces, is the first instance.
-/
namespace BreezyVerif.C31

deriving instance DecidableEq for Except

theorem splitSl_eq (b : Bytes) : splitSl b = b.splitOn SL := by
  induction b with
  | nil => rfl
  | cons c r ih =>
    obtain ⟨f, fs, h, h'⟩ := Lib.splitOn_cons SL c r
    simp [splitSl, ih, h, h']

theorem joinSl_eq : ∀ segs : List Seg, joinSl segs = [SL].intercalate segs
  | [] => rfl
  | [s] => by simp [joinSl]
  | s :: t :: ss => by simp [joinSl, joinSl_eq (t :: ss)]

theorem splitSl_ne_nil (b : Bytes) : splitSl b ≠ [] :=
  splitSl_eq b ▸ List.splitOn_ne_nil SL b

theorem splitSl_cons_sl (r : Bytes) : splitSl (SL :: r) = [] :: splitSl r := by
  simp [splitSl]

theorem splitSl_cons_ne {c : UInt8} (h : c ≠ SL) (r : Bytes) :
    ∃ s ss, splitSl r = s :: ss ∧ splitSl (c :: r) = (c :: s) :: ss := by
  cases hr : splitSl r with
  | nil => exact absurd hr (splitSl_ne_nil r)
  | cons s ss => exact ⟨s, ss, rfl, by simp [splitSl, h, hr]⟩

theorem splitSl_cons_ne' {c : UInt8} (h : c ≠ SL) {r : Bytes} {s : Seg} {ss : List Seg}
    (hr : splitSl r = s :: ss) : splitSl (c :: r) = (c :: s) :: ss := by
  simp [splitSl, h, hr]

theorem splitSl_noSl (b : Bytes) : ∀ s ∈ splitSl b, SL ∉ s :=
  fun _ h => Lib.not_mem_of_mem_splitOn (splitSl_eq b ▸ h)

theorem joinSl_splitSl (b : Bytes) : joinSl (splitSl b) = b := by
  rw [splitSl_eq, joinSl_eq, Lib.intercalate_splitOn]

theorem splitSl_append_sl (a b : Bytes) : splitSl (a ++ SL :: b) = splitSl a ++ splitSl b := by
  simp only [splitSl_eq, Lib.splitOn_append_cons]

theorem splitSl_joinSl (segs : List Seg) (hne : segs ≠ []) (h : ∀ s ∈ segs, SL ∉ s) :
    splitSl (joinSl segs) = segs := by
  rw [splitSl_eq, joinSl_eq, Lib.splitOn_intercalate SL h hne]

theorem joinSl_cons_cons (s t : Seg) (ss : List Seg) :
    joinSl (s :: t :: ss) = s ++ SL :: joinSl (t :: ss) := rfl

theorem joinSl_nil_cons (segs : List Seg) (h : segs ≠ []) : joinSl ([] :: segs) = SL :: joinSl segs := by
  cases segs with
  | nil => exact absurd rfl h
  | cons t ts => simp [joinSl]

/-- a path segment that cannot change the directory level: no '/', not "." and not ".." -/
def Clean (s : Seg) : Prop := SL ∉ s ∧ s ≠ dotSeg ∧ s ≠ dotdot

theorem clean_nil : Clean [] := by
  refine ⟨by simp, ?_, ?_⟩ <;> simp [dotSeg, dotdot]

/-- a successful `joinpath` step: "." keeps the path, ".." drops its last segment,
anything else is appended -/
theorem jpStep_ok {stk : List Seg} {chunk : Seg} {stk' : List Seg}
    (h : jpStep stk chunk = .ok stk') :
    stk' = stk ∨ (stk ≠ [[]] ∧ ∃ x, stk = x :: stk') ∨
      (chunk ≠ dotSeg ∧ chunk ≠ dotdot ∧ stk' = chunk :: stk) := by
  unfold jpStep at h
  split at h
  · cases h; exact Or.inl rfl
  · split at h
    · split at h
      · cases h
      · split at h
        · cases h
        · cases h; exact Or.inr (Or.inl ⟨‹_›, _, rfl⟩)
    · cases h; exact Or.inr (Or.inr ⟨‹_›, ‹_›, rfl⟩)

theorem jpStep_inv {pre : List Seg} {chunk : Seg} {stk' : List Seg}
    (hpre : ∀ s ∈ pre, Clean s) (hc : SL ∉ chunk)
    (h : jpStep (pre ++ [[]]) chunk = .ok stk') :
    ∃ pre', stk' = pre' ++ [[]] ∧ ∀ s ∈ pre', Clean s := by
  obtain rfl | ⟨hne, x, hx⟩ | ⟨h1, h2, rfl⟩ := jpStep_ok h
  · exact ⟨pre, rfl, hpre⟩
  · cases pre with
    | nil => exact absurd rfl hne
    | cons y t =>
      cases hx
      exact ⟨t, rfl, fun s hs => hpre s (List.mem_cons_of_mem _ hs)⟩
  · exact ⟨chunk :: pre, rfl, fun s hs => by
      cases hs with
      | head => exact ⟨hc, h1, h2⟩
      | tail _ h' => exact hpre s h'⟩

/-- what every successful step preserves holds of the result of the fold -/
theorem jpFold_ind {I : List Seg → Prop} : ∀ (cs : List Seg) {stk stk' : List Seg},
    (∀ c ∈ cs, ∀ a b, I a → jpStep a c = .ok b → I b) → I stk → jpFold stk cs = .ok stk' → I stk'
  | [], _, _, _, h0, h => by cases h; exact h0
  | c :: cs, stk, stk', hstep, h0, h => by
    unfold jpFold at h
    split at h
    · cases h
    · rename_i s hs
      exact jpFold_ind cs (fun x hx => hstep x (List.mem_cons_of_mem _ hx))
        (hstep c List.mem_cons_self _ _ h0 hs) h

theorem jpFold_inv (cs pre stk' : List Seg) (hpre : ∀ s ∈ pre, Clean s) (hcs : ∀ c ∈ cs, SL ∉ c)
    (h : jpFold (pre ++ [[]]) cs = .ok stk') : ∃ pre', stk' = pre' ++ [[]] ∧ ∀ s ∈ pre', Clean s :=
  jpFold_ind (I := fun a => ∃ p, a = p ++ [[]] ∧ ∀ s ∈ p, Clean s) cs
    (fun c hc _ _ ⟨_, e, hp⟩ hs => jpStep_inv hp (hcs c hc) (e ▸ hs)) ⟨pre, rfl, hpre⟩ h

/-- a successful `joinpath("/", arg)` is the fold over the chunks of `arg`, joined again -/
theorem joinpathRoot_ok {a r : Bytes} (h : joinpathRoot a = .ok r) :
    ∃ stk, jpFold (if a.head? = some SL then [] else [[]]) (splitSl a) = .ok stk ∧
      r = if stk = [[]] then [SL] else joinSl stk.reverse := by
  unfold joinpathRoot at h
  simp only [] at h
  cases hf : jpFold (if a.head? = some SL then [] else [[]]) (splitSl a) with
  | error e => rw [hf] at h; cases h
  | ok stk =>
    rw [hf] at h
    simp only [] at h
    split at h
    · cases h; exact ⟨stk, rfl, (if_pos ‹_›).symm⟩
    · cases h; exact ⟨stk, rfl, (if_neg ‹_›).symm⟩

/-- `urlutils.joinpath("/", p)` returns "/" followed by segments that contain
no "/" and are neither "." nor ".." -/
theorem joinpath_clean (a r : Bytes) (h : joinpathRoot a = .ok r) :
    ∃ segs, r = SL :: joinSl segs ∧ ∀ s ∈ segs, Clean s := by
  obtain ⟨stk, hf, rfl⟩ := joinpathRoot_ok h
  -- both starting states reach `jpFold [[]] cs` for slash-free chunks `cs`
  have key : ∃ cs : List Seg, (∀ c ∈ cs, SL ∉ c) ∧
      jpFold (if a.head? = some SL then [] else [[]]) (splitSl a) = jpFold ([] ++ [[]]) cs := by
    cases a with
    | nil => exact ⟨splitSl [], splitSl_noSl [], by simp⟩
    | cons c rest =>
      by_cases hc : c = SL
      · subst hc
        refine ⟨splitSl rest, splitSl_noSl rest, ?_⟩
        rw [splitSl_cons_sl]
        simp [jpFold, jpStep, dotSeg, dotdot]
      · refine ⟨splitSl (c :: rest), splitSl_noSl _, ?_⟩
        simp [hc]
  obtain ⟨cs, hcs, hk⟩ := key
  rw [hk] at hf
  obtain ⟨pre, rfl, hpre⟩ := jpFold_inv cs [] stk (by simp) hcs hf
  refine ⟨pre.reverse, ?_, fun s hs => hpre s (by simpa using hs)⟩
  cases pre with
  | nil => rfl
  | cons x t =>
    rw [if_neg (by simp), List.reverse_append, List.reverse_cons, List.reverse_nil,
      List.nil_append, List.singleton_append, joinSl_nil_cons _ (by simp)]

theorem isSafe_SL : isSafe SL = true := by decide
theorem isSafe_DOT : isSafe DOT = true := by decide
theorem isSafe_PCT : isSafe PCT = false := by decide

theorem escape_append (a b : Bytes) : escape (a ++ b) = escape a ++ escape b := by
  induction a with
  | nil => simp [escape]
  | cons c r ih =>
    simp only [List.cons_append, escape]
    split <;> simp [ih]

theorem escape_joinSl : ∀ segs : List Seg, escape (joinSl segs) = joinSl (segs.map escape)
  | [] => by simp [joinSl, escape]
  | [s] => by simp [joinSl]
  | s :: t :: ss => by
    have ih := escape_joinSl (t :: ss)
    simp only [joinSl, List.map] at ih ⊢
    rw [escape_append]
    simp only [escape, isSafe_SL, if_true]
    rw [ih]

theorem hexV_hexU (x : Nat) (h : x < 16) : hexV (hexU x) = some x := by
  have : ∀ x : Fin 16, hexV (hexU x.val) = some x.val := by decide
  exact this ⟨x, h⟩

theorem hexU_ne_SL (x : Nat) (h : x < 16) : hexU x ≠ SL := by
  have : ∀ x : Fin 16, hexU x.val ≠ SL := by decide
  exact this ⟨x, h⟩

theorem hexU_ne_PCT' (x : Nat) (h : x < 16) : hexU x ≠ PCT := by
  have : ∀ x : Fin 16, hexU x.val ≠ PCT := by decide
  exact this ⟨x, h⟩

theorem isSafe_hexU (x : Nat) (h : x < 16) : isSafe (hexU x) = true := by
  have : ∀ x : Fin 16, isSafe (hexU x.val) = true := by decide
  exact this ⟨x, h⟩

theorem byte_split (c : UInt8) : UInt8.ofNat (16 * (c.toNat / 16) + c.toNat % 16) = c := by
  rw [Nat.div_add_mod]
  exact UInt8.ofNat_toNat

theorem pctDecode_cons_ne {c : UInt8} (h : c ≠ PCT) (r : Bytes) :
    pctDecode (c :: r) = c :: pctDecode r := by
  match r with
  | [] => simp [pctDecode]
  | [a] => simp [pctDecode]
  | a :: b :: r' => simp [pctDecode, h]

theorem pctDecode_esc {a b : UInt8} {x y : Nat} (ha : hexV a = some x) (hb : hexV b = some y)
    (r : Bytes) : pctDecode (PCT :: a :: b :: r) = UInt8.ofNat (16 * x + y) :: pctDecode r := by
  simp [pctDecode, ha, hb]

theorem normPct_cons_ne {c : UInt8} (h : c ≠ PCT) (r : Bytes) :
    normPct (c :: r) = c :: normPct r := by
  match r with
  | [] => simp [normPct]
  | [a] => simp [normPct]
  | a :: b :: r' => simp [normPct, h]

theorem normPct_esc {a b : UInt8} {x y : Nat} (ha : hexV a = some x) (hb : hexV b = some y)
    (r : Bytes) : normPct (PCT :: a :: b :: r) =
      if isUnreserved (UInt8.ofNat (16 * x + y)) then UInt8.ofNat (16 * x + y) :: normPct r
      else PCT :: hexU x :: hexU y :: normPct r := by
  simp [normPct, ha, hb]

/-- what `escape` produces: safe bytes and upper-case triples of bytes that are not safe -/
inductive Canon : Bytes → Prop
  | nil : Canon []
  | safe (c : UInt8) (r : Bytes) : isSafe c = true → Canon r → Canon (c :: r)
  | esc (x y : Nat) (r : Bytes) : x < 16 → y < 16 → isSafe (UInt8.ofNat (16 * x + y)) = false →
      Canon r → Canon (PCT :: hexU x :: hexU y :: r)

theorem canon_escape (s : Bytes) : Canon (escape s) := by
  induction s with
  | nil => exact .nil
  | cons c r ih =>
    unfold escape
    split
    · exact .safe c _ (by assumption) ih
    · rename_i h
      refine .esc (c.toNat / 16) (c.toNat % 16) _ ?_ (Nat.mod_lt _ (by decide)) ?_ ih
      · have := c.toNat_lt
        omega
      · rw [byte_split]; simpa using h

theorem ne_PCT_of_isSafe {c : UInt8} (h : isSafe c = true) : c ≠ PCT :=
  fun e => by rw [e, isSafe_PCT] at h; cases h

theorem splitSl_esc {x y : Nat} (hx : x < 16) (hy : y < 16) {r s : Bytes} {ss : List Seg}
    (h : splitSl r = s :: ss) :
    splitSl (PCT :: hexU x :: hexU y :: r) = (PCT :: hexU x :: hexU y :: s) :: ss :=
  splitSl_cons_ne' (by decide) (splitSl_cons_ne' (hexU_ne_SL x hx) (splitSl_cons_ne' (hexU_ne_SL y hy) h))

/-- `P` is a class of strings built like `Canon`: from plain bytes satisfying `Q` (never "%";
the hex digits and "/" are among them) and, if `e` holds, upper-case escapes of bytes that are
not safe.  `Canon` (`Q` = safe), `Mild` (`Q` = not "%") and, with no escapes at all (`e` false),
`NoPct` are the instances; everything the transport stack needs of any of them is proved here
once. -/
structure PctClass (P : Bytes → Prop) (Q : UInt8 → Prop) (e : Prop) : Prop where
  nil : P []
  plain : ∀ c r, Q c → P r → P (c :: r)
  esc : ∀ x y r, e → x < 16 → y < 16 → isSafe (UInt8.ofNat (16 * x + y)) = false → P r →
    P (PCT :: hexU x :: hexU y :: r)
  ind : ∀ {motive : Bytes → Prop}, motive [] →
    (∀ c r, Q c → P r → motive r → motive (c :: r)) →
    (∀ x y r, e → x < 16 → y < 16 → isSafe (UInt8.ofNat (16 * x + y)) = false → P r → motive r →
      motive (PCT :: hexU x :: hexU y :: r)) →
    ∀ p, P p → motive p
  ne_pct : ∀ c, Q c → c ≠ PCT
  hex : ∀ x, x < 16 → Q (hexU x)
  sl : Q SL

theorem canonClass : PctClass Canon (fun c => isSafe c = true) True where
  nil := .nil
  plain := .safe
  esc := fun x y r _ => .esc x y r
  ind := fun h0 h1 h2 p hp => by
    induction hp with
    | nil => exact h0
    | safe c r hc hr ih => exact h1 c r hc hr ih
    | esc x y r hx hy hv hr ih => exact h2 x y r trivial hx hy hv hr ih
  ne_pct := fun _ => ne_PCT_of_isSafe
  hex := isSafe_hexU
  sl := isSafe_SL

namespace PctClass
variable {P : Bytes → Prop} {Q : UInt8 → Prop} {e : Prop} (E : PctClass P Q e)
include E

theorem append {a b : Bytes} (ha : P a) (hb : P b) : P (a ++ b) :=
  E.ind (motive := fun a => P (a ++ b)) hb (fun c _ hc _ ih => E.plain c _ hc ih)
    (fun x y _ he hx hy hv _ ih => E.esc x y _ he hx hy hv ih) a ha

theorem drop {s : Bytes} (h : P s) : ∀ n, P (s.drop n) := by
  refine E.ind (motive := fun s => ∀ n, P (s.drop n)) ?_ ?_ ?_ s h
  · intro n; rw [List.drop_nil]; exact E.nil
  · intro c r hc hr ih n
    cases n with
    | zero => exact E.plain c r hc hr
    | succ n => exact ih n
  · intro x y r he hx hy hv hr ih n
    -- dropping into an escape leaves hex digits, which are plain bytes
    match n with
    | 0 => exact E.esc x y r he hx hy hv hr
    | 1 => exact E.plain _ _ (E.hex x hx) (E.plain _ _ (E.hex y hy) hr)
    | 2 => exact E.plain _ _ (E.hex y hy) hr
    | n + 3 => exact ih n

theorem joinSl : ∀ segs : List Seg, (∀ s ∈ segs, P s) → P (joinSl segs)
  | [], _ => E.nil
  | [s], h => h s (List.mem_singleton.2 rfl)
  | s :: t :: ss, h =>
    E.append (h s List.mem_cons_self)
      (E.plain SL _ E.sl (joinSl (t :: ss) fun x hx => h x (List.mem_cons_of_mem _ hx)))

theorem normPct {s : Bytes} (h : P s) : normPct s = s := by
  refine E.ind (motive := fun s => C31.normPct s = s) rfl ?_ ?_ s h
  · intro c r hc _ ih
    rw [normPct_cons_ne (E.ne_pct c hc), ih]
  · intro x y r _ hx hy hv _ ih
    have : isUnreserved (UInt8.ofNat (16 * x + y)) = false := by
      unfold isSafe at hv
      exact (Bool.or_eq_false_iff.mp hv).1
    rw [normPct_esc (hexV_hexU x hx) (hexV_hexU y hy), ih, this]
    rfl

theorem splitSl {p : Bytes} (h : P p) : ∀ s ∈ splitSl p, P s := by
  refine E.ind (motive := fun p => ∀ s ∈ C31.splitSl p, P s) ?_ ?_ ?_ p h
  · exact List.forall_mem_cons.2 ⟨E.nil, fun _ h => nomatch h⟩
  · intro c r hc _ ih
    by_cases hsl : c = SL
    · subst hsl
      rw [splitSl_cons_sl]
      exact List.forall_mem_cons.2 ⟨E.nil, ih⟩
    · obtain ⟨s, ss, h1, h2⟩ := splitSl_cons_ne hsl r
      rw [h2]
      rw [h1] at ih
      obtain ⟨hs, hss⟩ := List.forall_mem_cons.1 ih
      exact List.forall_mem_cons.2 ⟨E.plain c s hc hs, hss⟩
  · intro x y r he hx hy hv _ ih
    obtain ⟨s, ss, h1⟩ := List.exists_cons_of_ne_nil (splitSl_ne_nil r)
    rw [splitSl_esc hx hy h1]
    rw [h1] at ih
    obtain ⟨hs, hss⟩ := List.forall_mem_cons.1 ih
    exact List.forall_mem_cons.2 ⟨E.esc x y s he hx hy hv hs, hss⟩

/-- decoding commutes with splitting on '/': no escape decodes to "/" -/
theorem split_decode {p : Bytes} (h : P p) :
    C31.splitSl (pctDecode p) = (C31.splitSl p).map pctDecode := by
  refine E.ind (motive := fun p => C31.splitSl (pctDecode p) = (C31.splitSl p).map pctDecode)
    rfl ?_ ?_ p h
  · intro c r hc _ ih
    have hne := E.ne_pct c hc
    rw [pctDecode_cons_ne hne]
    by_cases hsl : c = SL
    · subst hsl
      rw [splitSl_cons_sl, splitSl_cons_sl, ih]
      rfl
    · obtain ⟨s, ss, h1, h2⟩ := splitSl_cons_ne hsl r
      obtain ⟨s', ss', h1', h2'⟩ := splitSl_cons_ne hsl (pctDecode r)
      rw [h2, h2']
      rw [h1, h1'] at ih
      simp only [List.map_cons, List.cons.injEq] at ih ⊢
      exact ⟨by rw [pctDecode_cons_ne hne, ih.1], ih.2⟩
  · intro x y r _ hx hy hv _ ih
    have hvs : UInt8.ofNat (16 * x + y) ≠ SL := fun e => by rw [e, isSafe_SL] at hv; cases hv
    have hd := pctDecode_esc (hexV_hexU x hx) (hexV_hexU y hy)
    obtain ⟨s, ss, h1⟩ := List.exists_cons_of_ne_nil (splitSl_ne_nil r)
    obtain ⟨s', ss', h1', h2'⟩ := splitSl_cons_ne hvs (pctDecode r)
    rw [hd, splitSl_esc hx hy h1, h2']
    rw [h1, h1'] at ih
    simp only [List.map_cons, List.cons.injEq] at ih ⊢
    exact ⟨by rw [hd, ih.1], ih.2⟩

theorem decode_nil {r : Bytes} (h : P r) (hd : pctDecode r = []) : r = [] := by
  refine E.ind (motive := fun r => pctDecode r = [] → r = []) (fun _ => rfl) ?_ ?_ r h hd
  · intro c r hc _ _ hd
    rw [pctDecode_cons_ne (E.ne_pct c hc)] at hd
    cases hd
  · intro x y r _ hx hy _ _ _ hd
    rw [pctDecode_esc (hexV_hexU x hx) (hexV_hexU y hy)] at hd
    cases hd

theorem decode_head {r t : Bytes} {c : UInt8} (h : P r) (hd : pctDecode r = c :: t)
    (hc : isSafe c = true) : ∃ r', r = c :: r' ∧ P r' ∧ pctDecode r' = t := by
  refine E.ind (motive := fun r => pctDecode r = c :: t → ∃ r', r = c :: r' ∧ P r' ∧ pctDecode r' = t)
    (fun hd => nomatch hd) ?_ ?_ r h hd
  · intro c' r' hc' hr' _ hd
    rw [pctDecode_cons_ne (E.ne_pct c' hc')] at hd
    cases hd
    exact ⟨r', rfl, hr', rfl⟩
  · intro x y r' _ hx hy hv _ _ hd
    rw [pctDecode_esc (hexV_hexU x hx) (hexV_hexU y hy)] at hd
    cases hd
    rw [hc] at hv
    cases hv

/-- a segment decodes to ".." only if it is ".." -/
theorem decode_dotdot {s : Bytes} (h : P s) (hd : pctDecode s = dotdot) : s = dotdot := by
  obtain ⟨r1, rfl, h1, d1⟩ := E.decode_head h hd isSafe_DOT
  obtain ⟨r2, rfl, h2, d2⟩ := E.decode_head h1 d1 isSafe_DOT
  rw [E.decode_nil h2 d2]
  rfl

theorem decode_dot {s : Bytes} (h : P s) (hd : pctDecode s = dotSeg) : s = dotSeg := by
  obtain ⟨r1, rfl, h1, d1⟩ := E.decode_head h hd isSafe_DOT
  rw [E.decode_nil h1 d1]
  rfl

end PctClass

theorem pctDecode_escape (s : Bytes) : pctDecode (escape s) = s := by
  induction s with
  | nil => simp [escape, pctDecode]
  | cons c r ih =>
    unfold escape
    split
    · rw [pctDecode_cons_ne (ne_PCT_of_isSafe ‹_›), ih]
    · have h1 : c.toNat / 16 < 16 := by have := c.toNat_lt; omega
      have h2 : c.toNat % 16 < 16 := Nat.mod_lt _ (by decide)
      rw [pctDecode_esc (hexV_hexU _ h1) (hexV_hexU _ h2), ih, byte_split]

end BreezyVerif.C31
