import BreezyVerif.Lemmas.C44
/-
C44 — helper lemmas, part 2: the rename pass of the exporter as a set of
independent moves on path space.
-/
namespace BreezyVerif.C44

theorem mem_ownRenames (old new : Tree) (o n : Ent) :
    (o, n) ∈ ownRenames old new ↔ o ∈ old ∧ find new o.fid = some n ∧ o.own ≠ n.own := by
  unfold ownRenames
  rw [mem_sortBy, List.mem_filterMap]
  constructor
  · rintro ⟨a, ha, h⟩
    cases hf : find new a.fid with
    | none => simp [hf] at h
    | some b =>
      simp only [hf] at h
      by_cases hown : a.own = b.own
      · simp [hown] at h
      · simp only [ne_eq, hown, not_false_eq_true, if_true, Option.some.injEq, Prod.mk.injEq] at h
        obtain ⟨rfl, rfl⟩ := h
        exact ⟨ha, hf, hown⟩
  · rintro ⟨ho, hf, hown⟩
    exact ⟨o, ho, by simp [hf, hown]⟩

theorem mem_removed (old new : Tree) (e : Ent) :
    e ∈ removed old new ↔ e ∈ old ∧ find new e.fid = none := by
  unfold removed
  rw [mem_sortBy, List.mem_filter]
  simp

theorem mem_modPairs (old new : Tree) (q : Path) (v : Val) :
    (q, v) ∈ modPairs old new ↔
      ∃ n ∈ new, n.dir = false ∧ needsMod old n = true ∧ (n.path, n.val) = (q, v) := by
  unfold modPairs
  simp only [List.mem_map, List.mem_filter, Bool.not_eq_true', and_assoc]

/-- distinct file ids: the renamed pairs have pairwise distinct ids -/
theorem ownRenames_fids (old new : Tree) (hnd : (old.map (·.fid)).Nodup) :
    (ownRenames old new).Pairwise fun a b => a.1.fid ≠ b.1.fid := by
  unfold ownRenames
  refine List.Perm.pairwise (perm_sortBy _ _).symm ?_ (fun h => Ne.symm h)
  have hp : old.Pairwise fun a b => a.fid ≠ b.fid := by
    unfold List.Nodup at hnd
    exact List.pairwise_map.mp hnd
  refine List.Pairwise.filterMap _ ?_ hp
  intro a a' hne b hb b' hb'
  cases hf : find new a.fid with
  | none => simp [hf] at hb
  | some x =>
    cases hf' : find new a'.fid with
    | none => simp [hf'] at hb'
    | some x' =>
      simp only [hf] at hb
      simp only [hf'] at hb'
      split at hb
      · split at hb'
        · cases hb; cases hb'; exact hne
        · cases hb'
      · cases hb

/-- distinct sources, distinct targets, no target is a source -/
def Indep (ps : List (Ent × Ent)) : Prop :=
  (ps.Pairwise fun a b => a.1.path ≠ b.1.path ∧ a.2.path ≠ b.2.path) ∧ ∀ a ∈ ps, ∀ b ∈ ps, a.2.path ≠ b.1.path

theorem Indep.tail {p : Ent × Ent} {ps : List (Ent × Ent)} (h : Indep (p :: ps)) : Indep ps :=
  ⟨(List.pairwise_cons.mp h.1).2, fun a ha b hb => h.2 a (List.mem_cons_of_mem _ ha) b (List.mem_cons_of_mem _ hb)⟩

/-- the paths still to be deleted after the rename pass: those no rename landed on -/
theorem renamePass_dels (ps : List (Ent × Ent)) (dels : List Path) (q : Path) :
    q ∈ (renamePass ps dels).2 ↔ q ∈ dels ∧ ∀ pr ∈ ps, pr.2.path ≠ q := by
  induction ps generalizing dels with
  | nil => simp [renamePass]
  | cons p ps ih =>
    obtain ⟨o, n⟩ := p
    simp only [renamePass]
    rw [ih]
    by_cases hit : n.path ∈ dels
    · simp only [hit, decide_true, if_true, List.mem_filter, decide_eq_true_eq, List.mem_cons, forall_eq_or_imp]
      constructor
      · rintro ⟨⟨h1, h2⟩, h3⟩; exact ⟨h1, fun e => h2 e.symm, h3⟩
      · rintro ⟨h1, h2, h3⟩; exact ⟨⟨h1, fun e => h2 e.symm⟩, h3⟩
    · simp only [hit, decide_false, Bool.false_eq_true, if_false, List.mem_cons, forall_eq_or_imp]
      constructor
      · rintro ⟨h1, h3⟩; exact ⟨h1, fun e => hit (e ▸ h1), h3⟩
      · rintro ⟨h1, _, h3⟩; exact ⟨h1, h3⟩

/-- one rename (with or without the preceding delete of its target) moves the value -/
theorem lookup_one_rename (m : Flat) (s t : Path) (v : Val) (pre : Bool) (hs : lookup m s = some v) (hst : s ≠ t) (q : Path) :
    lookup (applyCmds m ((if pre then [Cmd.del t] else []) ++ [Cmd.ren s t])) q =
      if q = t then some v else if q = s then none else lookup m q := by
  cases pre with
  | true =>
    have h1 : lookup (erase m t) s = some v := by rw [lookup_erase]; simp [hst, hs]
    simp only [if_true, List.cons_append, List.nil_append, applyCmds, List.foldl_cons, List.foldl_nil, applyCmd, h1]
    rw [lookup_cons]
    by_cases hq : q = t
    · simp [hq]
    · simp only [hq, if_false]
      rw [lookup_erase, lookup_erase, lookup_erase]
      by_cases hq2 : q = s <;> simp [hq, hq2]
  | false =>
    simp only [Bool.false_eq_true, if_false, List.nil_append, applyCmds, List.foldl_cons, List.foldl_nil, applyCmd, hs]
    rw [lookup_cons]
    by_cases hq : q = t
    · simp [hq]
    · simp only [hq, if_false]
      rw [lookup_erase, lookup_erase]
      by_cases hq2 : q = s <;> simp [hq, hq2]

/-- **the rename pass**: independent renames of files whose sources exist act as the simultaneous move:
a target holds its source's value, any other path is emptied if it is a source and untouched if not -/
theorem renamePass_lookup (ps : List (Ent × Ent)) (dels : List Path) (m : Flat) (hind : Indep ps)
    (hfile : ∀ pr ∈ ps, pr.2.dir = false) (hsrc : ∀ pr ∈ ps, lookup m pr.1.path = some pr.1.val) :
    (∀ pr ∈ ps, lookup (applyCmds m (renamePass ps dels).1) pr.2.path = some pr.1.val) ∧
    ∀ q, (∀ pr ∈ ps, pr.2.path ≠ q) →
      lookup (applyCmds m (renamePass ps dels).1) q = if ∃ pr ∈ ps, pr.1.path = q then none else lookup m q := by
  induction ps generalizing m dels with
  | nil => exact ⟨fun _ h => (nomatch h), fun q _ => by simp [renamePass, applyCmds]⟩
  | cons p ps ih =>
    obtain ⟨o, n⟩ := p
    have hnd : n.dir = false := hfile (o, n) List.mem_cons_self
    have hon : o.path ≠ n.path := fun e => hind.2 (o, n) List.mem_cons_self (o, n) List.mem_cons_self e.symm
    have hpw := List.pairwise_cons.mp hind.1
    simp only [renamePass, hnd, Bool.not_false, Bool.and_true, Bool.false_eq_true, if_false]
    rw [applyCmds_append]
    generalize decide (n.path ∈ dels) = pre
    -- the map after the first rename
    have hm1 := lookup_one_rename m o.path n.path o.val pre (hsrc (o, n) List.mem_cons_self) hon
    have hst : ∀ pr ∈ ps, pr.1.path ≠ n.path := fun pr hpr e =>
      hind.2 (o, n) List.mem_cons_self pr (List.mem_cons_of_mem _ hpr) e.symm
    obtain ⟨ihT, ihN⟩ := ih (if pre = true then dels.filter (· ≠ n.path) else dels) _ hind.tail (fun pr hpr => hfile pr (List.mem_cons_of_mem _ hpr))
      (fun pr hpr => by
        rw [hm1, if_neg (hst pr hpr), if_neg fun e => (hpw.1 pr hpr).1 e.symm]
        exact hsrc pr (List.mem_cons_of_mem _ hpr))
    refine ⟨fun pr hpr => ?_, fun q hq => ?_⟩
    · rcases List.mem_cons.mp hpr with rfl | hpr
      · -- the first target is neither target nor source of a later rename
        rw [ihN n.path fun pr hpr => ((hpw.1 pr hpr).2).symm, if_neg fun ⟨pr, hpr, e⟩ => hst pr hpr e, hm1, if_pos rfl]
      · exact ihT pr hpr
    · have hqn : q ≠ n.path := fun e => hq (o, n) List.mem_cons_self e.symm
      rw [ihN q fun pr hpr => hq pr (List.mem_cons_of_mem _ hpr), hm1, if_neg hqn]
      by_cases hs : ∃ pr ∈ ps, pr.1.path = q
      · obtain ⟨pr, hpr, e⟩ := hs
        rw [if_pos ⟨pr, hpr, e⟩, if_pos ⟨pr, List.mem_cons_of_mem _ hpr, e⟩]
      · rw [if_neg hs]
        by_cases hqo : q = o.path
        · rw [if_pos hqo, if_pos ⟨(o, n), List.mem_cons_self, hqo.symm⟩]
        · rw [if_neg hqo, if_neg]
          rintro ⟨pr, hpr, e⟩
          rcases List.mem_cons.mp hpr with rfl | hpr
          · exact hqo e.symm
          · exact hs ⟨pr, hpr, e⟩

end BreezyVerif.C44
