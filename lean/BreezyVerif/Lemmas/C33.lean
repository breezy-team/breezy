import BreezyVerif.Model.C33
/-!
C33 — helper lemmas: list sets, the reachability specification `Reach`, and the
loop invariant showing that the level-wise searcher computes it.
-/
namespace BreezyVerif.C33

theorem mem_dedup {x : Key} {l : List Key} : x ∈ dedup l ↔ x ∈ l := by
  induction l with
  | nil => simp [dedup]
  | cons y ys ih =>
    unfold dedup
    split
    · rw [ih]; simp; intro h; subst h; assumption
    · simp [ih]

theorem nodup_dedup (l : List Key) : (dedup l).Nodup := by
  induction l with
  | nil => simp [dedup]
  | cons y ys ih =>
    unfold dedup
    split
    · exact ih
    · rename_i h
      rw [List.nodup_cons]
      exact ⟨fun hm => h (mem_dedup.mp hm), ih⟩

/-- seeing a key of the universe `U` for the first time lowers the number of unseen keys of `U` -/
theorem unseen_lt {U seen : List Key} (new : List Key) {x : Key} (hU : x ∈ U) (hx : x ∉ seen)
    (hnew : x ∈ new) :
    (U.filter (· ∉ seen ++ new)).length < (U.filter (· ∉ seen)).length := by
  rw [← List.countP_eq_length_filter, ← List.countP_eq_length_filter]
  induction U with
  | nil => cases hU
  | cons y ys ih =>
    have hle : ys.countP (· ∉ seen ++ new) ≤ ys.countP (· ∉ seen) :=
      List.countP_mono_left fun z _ hz => by
        simp only [decide_eq_true_eq] at hz ⊢
        exact fun h => hz (List.mem_append_left _ h)
    rw [List.countP_cons, List.countP_cons]
    by_cases hy : y = x
    · rw [hy, decide_eq_true hx, decide_eq_false (not_not_intro (List.mem_append_right _ hnew))]
      exact Nat.lt_succ_of_le hle
    · have := ih ((List.mem_cons.mp hU).resolve_left fun h => hy h.symm)
      by_cases h1 : y ∈ seen ++ new
      · rw [decide_eq_false (not_not_intro h1)]
        exact Nat.lt_of_lt_of_le this (Nat.le_add_right _ _)
      · have h2 : ¬ y ∈ seen := fun h => h1 (List.mem_append_left _ h)
        rw [decide_eq_true h1, decide_eq_true h2]
        exact Nat.add_lt_add_right this 1

theorem parentsOf_mem {g : PMap} {k : Key} {ps : List Key} (h : parentsOf g k = some ps) :
    (k, ps) ∈ g := by
  induction g with
  | nil => simp [parentsOf] at h
  | cons kv rest ih =>
    obtain ⟨k', ps'⟩ := kv
    simp only [parentsOf] at h
    split at h
    · rename_i hk; subst hk; simp at h; subst h; simp
    · exact List.mem_cons_of_mem _ (ih h)

theorem parentsOf_refs {g : PMap} {k p : Key} {ps : List Key} (h : parentsOf g k = some ps)
    (hp : p ∈ ps) : p ∈ refsOf g := by
  unfold refsOf
  exact List.mem_flatMap.mpr ⟨(k, ps), parentsOf_mem h, hp⟩

theorem parentsOf_isSome_of_mem_keys {g : PMap} {k : Key} (h : k ∈ keysOf g) :
    ∃ ps, parentsOf g k = some ps := by
  induction g with
  | nil => simp [keysOf] at h
  | cons kv rest ih =>
    obtain ⟨k', ps'⟩ := kv
    simp only [parentsOf]
    by_cases hk : k' = k
    · exact ⟨ps', by simp [hk]⟩
    · simp only [hk, if_false]
      apply ih
      simp only [keysOf, List.map_cons, List.mem_cons] at h
      rcases h with h | h
      · exact absurd h.symm hk
      · exact h

theorem mem_keys_of_parentsOf {g : PMap} {k : Key} {ps : List Key} (h : parentsOf g k = some ps) :
    k ∈ keysOf g := by
  unfold keysOf
  exact List.mem_map.mpr ⟨(k, ps), parentsOf_mem h, rfl⟩

/-- in a dict (distinct keys) lookup finds every entry -/
theorem parentsOf_of_mem {g : PMap} (hnd : (keysOf g).Nodup) {k : Key} {ps : List Key}
    (h : (k, ps) ∈ g) : parentsOf g k = some ps := by
  induction g with
  | nil => cases h
  | cons kv rest ih =>
    obtain ⟨k', ps'⟩ := kv
    simp only [keysOf, List.map_cons, List.nodup_cons] at hnd
    simp only [parentsOf]
    rcases List.mem_cons.mp h with heq | hm
    · simp at heq; simp [heq.1, heq.2]
    · have hk : k' ≠ k := by
        intro e; subst e
        exact hnd.1 (List.mem_map.mpr ⟨(k', ps), hm, rfl⟩)
      simp only [hk, if_false]
      exact ih hnd.2 hm

/-- the keys a dict references are the parents of its keys -/
theorem mem_refsOf {g : PMap} (hnd : (keysOf g).Nodup) {p : Key} :
    p ∈ refsOf g ↔ ∃ j ps, parentsOf g j = some ps ∧ p ∈ ps := by
  unfold refsOf
  rw [List.mem_flatMap]
  constructor
  · rintro ⟨⟨j, ps⟩, hm, hp⟩
    exact ⟨j, ps, parentsOf_of_mem hnd hm, hp⟩
  · rintro ⟨j, ps, hps, hp⟩
    exact ⟨(j, ps), parentsOf_mem hps, hp⟩

theorem present_iff {g : PMap} {k : Key} : present g k = true ↔ ∃ ps, parentsOf g k = some ps := by
  unfold present
  cases parentsOf g k <;> simp

theorem not_present_iff {g : PMap} {k : Key} : (!present g k) = true ↔ parentsOf g k = none := by
  unfold present
  cases parentsOf g k <;> simp

theorem mem_parentsL {g : PMap} {j k : Key} :
    k ∈ parentsL g j ↔ ∃ ps, parentsOf g j = some ps ∧ k ∈ ps := by
  unfold parentsL
  cases parentsOf g j <;> simp

/-- `Reach g stop start k`: `k` is a start key, or a parent of a reached key that
is neither a stop key nor a ghost -/
inductive Reach (g : PMap) (stop start : List Key) : Key → Prop
  | base {k : Key} : k ∈ start → Reach g stop start k
  | step {j k : Key} {ps : List Key} : Reach g stop start j → j ∉ stop →
      parentsOf g j = some ps → k ∈ ps → Reach g stop start k

/-- loop invariant of `bfsLoop` -/
structure Inv (g : PMap) (stop start : List Key) (s : Search) (query : List Key) : Prop where
  nodup : (s.seen ++ query).Nodup
  sound : ∀ k ∈ s.seen ++ query, Reach g stop start k
  startIn : ∀ k ∈ start, k ∈ s.seen ++ query
  closed : ∀ j ∈ s.seen, j ∉ stop → ∀ ps, parentsOf g j = some ps → ∀ k ∈ ps, k ∈ s.seen ++ query
  stoppedC : ∀ k, k ∈ s.stopped ↔ k ∈ s.seen ∧ (k ∈ stop ∨ parentsOf g k = none)
  queriedC : ∀ k, k ∈ s.queried ↔ k ∈ s.seen ∧ k ∉ stop ∧ ∃ ps, parentsOf g k = some ps
  univ : ∀ k ∈ s.seen ++ query, k ∈ allKeys g start

theorem inv_init (g : PMap) (stop start : List Key) :
    Inv g stop start ⟨[], [], []⟩ (dedup start) where
  nodup := by simpa using nodup_dedup start
  sound := by
    intro k hk
    simp only [List.nil_append] at hk
    exact Reach.base (mem_dedup.mp hk)
  startIn := by intro k hk; simpa using mem_dedup.mpr hk
  closed := by intro j hj; cases hj
  stoppedC := by intro k; simp
  queriedC := by intro k; simp
  univ := by
    intro k hk
    simp only [List.nil_append] at hk
    exact List.mem_append_left _ (mem_dedup.mp hk)

/-- the next query of a level-wise walk: the unseen parents of the present keys of the current one -/
theorem mem_nextLayer {g : PMap} {q seen' : List Key} {k : Key} :
    k ∈ dedup ((((q.filter (present g)).flatMap (parentsL g)).filter (· ∉ seen'))) ↔
      k ∉ seen' ∧ ∃ j ∈ q, ∃ ps, parentsOf g j = some ps ∧ k ∈ ps := by
  rw [mem_dedup]
  simp only [List.mem_filter, List.mem_flatMap, decide_eq_true_eq, present_iff, mem_parentsL]
  constructor
  · rintro ⟨⟨j, ⟨hj, _⟩, ps, hps, hk⟩, hseen⟩
    exact ⟨hseen, j, hj, ps, hps, hk⟩
  · rintro ⟨hseen, j, hj, ps, hps, hk⟩
    exact ⟨⟨j, ⟨hj, ps, hps⟩, ps, hps, hk⟩, hseen⟩

theorem mem_next {g : PMap} {stop seen' query : List Key} {k : Key} :
    k ∈ dedup ((((query.filter (· ∉ stop)).filter (present g)).flatMap (parentsL g)).filter (· ∉ seen')) ↔
      k ∉ seen' ∧ ∃ j ∈ query, j ∉ stop ∧ ∃ ps, parentsOf g j = some ps ∧ k ∈ ps := by
  simp only [mem_nextLayer, List.mem_filter, decide_eq_true_eq, and_assoc]

theorem inv_advance {g : PMap} {stop start : List Key} {s : Search} {query : List Key}
    (h : Inv g stop start s query) :
    Inv g stop start (advance g stop s query).1 (advance g stop s query).2 where
  nodup := by
    show ((s.seen ++ query) ++ dedup _).Nodup
    rw [List.nodup_append]
    refine ⟨h.nodup, nodup_dedup _, ?_⟩
    intro a ha b hb hab
    subst hab
    exact (mem_next.mp hb).1 ha
  sound := by
    intro k hk
    rcases List.mem_append.mp hk with hk | hk
    · exact h.sound k hk
    · obtain ⟨_, j, hj, hns, ps, hps, hkps⟩ := mem_next.mp hk
      exact Reach.step (h.sound j (List.mem_append_right _ hj)) hns hps hkps
  startIn := fun k hk => List.mem_append_left _ (h.startIn k hk)
  closed := by
    intro j hj hns ps hps k hk
    show k ∈ (s.seen ++ query) ++ dedup _
    by_cases hin : k ∈ s.seen ++ query
    · exact List.mem_append_left _ hin
    · rcases List.mem_append.mp hj with hj | hj
      · exact absurd (h.closed j hj hns ps hps k hk) hin
      · exact List.mem_append_right _ (mem_next.mpr ⟨hin, j, hj, hns, ps, hps, hk⟩)
  stoppedC := by
    intro k
    show k ∈ s.stopped ++ query.filter (· ∈ stop) ++
        (query.filter (· ∉ stop)).filter (fun k => !present g k) ↔
      k ∈ s.seen ++ query ∧ (k ∈ stop ∨ parentsOf g k = none)
    simp only [List.mem_append, List.mem_filter, decide_eq_true_eq, not_present_iff, h.stoppedC]
    by_cases hs : k ∈ stop <;> simp [hs, or_and_right]
  queriedC := by
    intro k
    show k ∈ s.queried ++ (query.filter (· ∉ stop)).filter (present g) ↔
      k ∈ s.seen ++ query ∧ k ∉ stop ∧ ∃ ps, parentsOf g k = some ps
    simp only [List.mem_append, List.mem_filter, decide_eq_true_eq, present_iff, h.queriedC, and_assoc,
      or_and_right]
  univ := by
    intro k hk
    rcases List.mem_append.mp hk with hk | hk
    · exact h.univ k hk
    · obtain ⟨_, j, _, _, ps, hps, hkps⟩ := mem_next.mp hk
      exact List.mem_append_right _ (parentsOf_refs hps hkps)

/-- termination measure: keys of the universe not yet seen -/
def mu (g : PMap) (start : List Key) (s : Search) : Nat :=
  ((allKeys g start).filter (· ∉ s.seen)).length

theorem mu_advance {g : PMap} {stop start : List Key} {s : Search} {query : List Key}
    (h : Inv g stop start s query) (hq : query ≠ []) :
    mu g start (advance g stop s query).1 < mu g start s := by
  obtain ⟨x, xs, rfl⟩ := List.exists_cons_of_ne_nil hq
  exact unseen_lt (x :: xs) (h.univ x (List.mem_append_right _ List.mem_cons_self))
    (fun hx => (List.nodup_append.mp h.nodup).2.2 x hx x List.mem_cons_self rfl) List.mem_cons_self

theorem bfsLoop_inv (g : PMap) (stop start : List Key) :
    ∀ (fuel : Nat) (s : Search) (query : List Key), Inv g stop start s query →
      mu g start s < fuel → ∃ s', bfsLoop g stop fuel s query = some s' ∧ Inv g stop start s' [] := by
  intro fuel
  induction fuel with
  | zero => intro s query _ hlt; exact absurd hlt (Nat.not_lt_zero _)
  | succ fuel ih =>
    intro s query hinv hlt
    unfold bfsLoop
    by_cases hq : query = []
    · subst hq
      exact ⟨s, by simp, hinv⟩
    · have : query.isEmpty = false := by
        cases query with
        | nil => exact absurd rfl hq
        | cons _ _ => rfl
      simp only [this, Bool.false_eq_true, if_false]
      apply ih _ _ (inv_advance hinv)
      exact Nat.lt_of_lt_of_le (mu_advance hinv hq) (Nat.le_of_lt_succ hlt)

theorem inv_final {g : PMap} {stop start : List Key} {s : Search} (h : Inv g stop start s []) :
    s.seen.Nodup ∧ (∀ k, k ∈ s.seen ↔ Reach g stop start k) := by
  refine ⟨by simpa using h.nodup, fun k => ⟨fun hk => h.sound k (by simpa using hk), ?_⟩⟩
  intro hr
  induction hr with
  | base hk => simpa using h.startIn _ hk
  | step _ hns hps hk ih => simpa using h.closed _ ih hns _ hps _ hk

theorem bfs_inv (g : PMap) (start stop : List Key) :
    ∃ s, bfs g start stop = some s ∧ Inv g stop start s [] := by
  unfold bfs
  apply bfsLoop_inv g stop start _ _ _ (inv_init g stop start)
  unfold mu allKeys
  exact Nat.lt_succ_of_le (List.length_filter_le _ _)

theorem mem_included {g : PMap} {stop start : List Key} {s : Search} (h : Inv g stop start s []) (k : Key) :
    k ∈ s.included ↔ Reach g stop start k ∧ k ∉ stop ∧ ∃ ps, parentsOf g k = some ps := by
  unfold Search.included
  simp only [List.mem_filter, decide_eq_true_eq, h.stoppedC, (inv_final h).2]
  constructor
  · rintro ⟨hr, hn⟩
    refine ⟨hr, fun hs => hn ⟨hr, Or.inl hs⟩, ?_⟩
    cases hp : parentsOf g k with
    | none => exact absurd ⟨hr, Or.inr hp⟩ hn
    | some ps => exact ⟨ps, rfl⟩
  · rintro ⟨hr, hs, ps, hps⟩
    refine ⟨hr, ?_⟩
    rintro ⟨_, h1 | h1⟩
    · exact hs h1
    · rw [hps] at h1; cases h1

theorem nodup_included {g : PMap} {stop start : List Key} {s : Search} (h : Inv g stop start s []) :
    s.included.Nodup := by
  unfold Search.included
  exact List.Nodup.sublist List.filter_sublist (inv_final h).1

theorem length_eq_of_mem_iff {a b : List Key} (ha : a.Nodup) (hb : b.Nodup) (h : ∀ k, k ∈ a ↔ k ∈ b) :
    a.length = b.length :=
  ((List.perm_ext_iff_of_nodup ha hb).mpr h).length_eq

/-- `d` witnesses acyclicity: it strictly grows from every key to its parents -/
def Acyclic (d : Key → Nat) (g : PMap) : Prop := ∀ kv ∈ g, ∀ p ∈ kv.2, d kv.1 < d p

instance (d : Key → Nat) (g : PMap) : Decidable (Acyclic d g) := by unfold Acyclic; infer_instance

/-- the client cache agrees with the repository on every cached key -/
def SubMap (pm g : PMap) : Prop := ∀ kv ∈ pm, parentsOf g kv.1 = some kv.2

instance (pm g : PMap) : Decidable (SubMap pm g) := by unfold SubMap; infer_instance

theorem acyclic_lt {d : Key → Nat} {g : PMap} (h : Acyclic d g) {k p : Key} {ps : List Key}
    (hps : parentsOf g k = some ps) (hp : p ∈ ps) : d k < d p :=
  h (k, ps) (parentsOf_mem hps) p hp

theorem subMap_parents {pm g : PMap} (h : SubMap pm g) {k : Key} {ps : List Key}
    (hps : parentsOf pm k = some ps) : parentsOf g k = some ps :=
  h (k, ps) (parentsOf_mem hps)

/-- `ChildSteps pm n r h`: `h` is reached from `r` by `n` child steps in the cache -/
inductive ChildSteps (pm : PMap) : Nat → Key → Key → Prop
  | zero {r : Key} : ChildSteps pm 0 r r
  | succ {n : Nat} {r c h : Key} : c ∈ childrenOf pm r → ChildSteps pm n c h → ChildSteps pm (n + 1) r h

end BreezyVerif.C33
