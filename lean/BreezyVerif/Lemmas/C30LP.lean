import BreezyVerif.Lemmas.C30Generic
/-! the five laws for LengthPrefixedBodyDecoder -/
namespace BreezyVerif.C30
open BreezyVerif.C29

/-- states the code can rest in -/
def lpWf : LP → Prop
  | .expectingLength buf => (10 : UInt8) ∉ buf
  | .readingBody l _ => 0 < l
  | .readingTrailer _ t => ¬ doneMarker.isPrefixOf t = true
  | _ => True

theorem splitLine_append_prefix {a q l r : Bytes} (h : splitLine (a ++ q) = some (l, r))
    (ha : (10 : UInt8) ∉ a) : a.length ≤ l.length ∧ l.length + 1 + r.length = a.length + q.length := by
  have hlen := splitLine_some_length h
  rw [List.length_append] at hlen
  refine ⟨Nat.le_of_not_lt fun hlt => ?_, hlen.symm⟩
  -- `a` cannot extend beyond the first newline of `a ++ q`
  have : (a ++ q)[l.length]? = some 10 := by rw [(splitLine_some_eq h).1]; simp
  rw [List.getElem?_append_left hlt] at this
  exact ha (List.mem_of_getElem? this)

theorem lpWf_trailerStep (bd t : Bytes) : lpWf (LP.trailerStep bd t) := by
  unfold LP.trailerStep
  split
  · trivial
  · rename_i h; exact h

theorem lpWf_bodyStep (l : Nat) (bd x : Bytes) : lpWf (LP.bodyStep l bd x) := by
  unfold LP.bodyStep
  split
  · exact lpWf_trailerStep _ _
  · show 0 < l - x.length; omega

theorem lpWf_lengthStep (b : Bytes) : lpWf (LP.lengthStep b) := by
  unfold LP.lengthStep
  split
  · rename_i h; exact splitLine_none_notMem h
  · split
    · trivial
    · exact lpWf_bodyStep _ _ _

theorem lpWf_feed (s : LP) (x : Bytes) (_h : lpWf s) : lpWf (s.feed x) := by
  cases s with
  | expectingLength buf => exact lpWf_lengthStep _
  | readingBody l bd => exact lpWf_bodyStep _ _ _
  | readingTrailer bd t => exact lpWf_trailerStep _ _
  | done bd u => trivial
  | failed => trivial

theorem trailerStep_fin {bd t : Bytes} (h : (LP.trailerStep bd t).finished = true) :
    doneMarker.isPrefixOf t = true ∧ 5 ≤ t.length ∧
      (LP.trailerStep bd t).unused.length + 5 = t.length := by
  unfold LP.trailerStep at h ⊢
  by_cases hp : doneMarker.isPrefixOf t = true
  · have hl : 5 ≤ t.length := isPrefixOf_length hp
    simp only [hp, if_true, LP.unused, List.length_drop]
    exact ⟨trivial, hl, by omega⟩
  · simp [hp, LP.finished] at h

theorem bodyStep_fin {l : Nat} {bd x : Bytes} (h : (LP.bodyStep l bd x).finished = true) :
    (LP.bodyStep l bd x).unused.length + 5 + l = x.length := by
  unfold LP.bodyStep at h ⊢
  by_cases hl : l ≤ x.length
  · simp only [hl, if_true] at h ⊢
    have := (trailerStep_fin h).2.2
    simp only [List.length_drop] at this
    omega
  · simp [hl, LP.finished] at h

theorem lengthStep_fin {b : Bytes} (h : (LP.lengthStep b).finished = true) :
    ∃ line rest, splitLine b = some (line, rest) ∧
      (LP.lengthStep b).unused.length + 5 ≤ rest.length := by
  unfold LP.lengthStep at h ⊢
  cases hs : splitLine b with
  | none => simp [hs, LP.finished] at h
  | some lr =>
    obtain ⟨line, rest⟩ := lr
    simp only [hs] at h ⊢
    cases hp : parseNat 10 line with
    | none => simp [hp, LP.finished] at h
    | some n =>
      simp only [hp] at h ⊢
      have := bodyStep_fin h
      exact ⟨line, rest, rfl, by omega⟩

theorem lpLaws : Laws lpMachine lpWf where
  append := LP.feed_append
  wf_feed := lpWf_feed
  fin_feed := by
    intro s x h
    cases s with
    | done bd u => exact ⟨rfl, rfl⟩
    | _ => cases h
  fin_stop := by intro s h; exact h
  hint := by
    intro s q hwf hnf hfin
    cases s with
    | expectingLength buf =>
      simp only [lpMachine, LP.feed_eL] at hfin ⊢
      obtain ⟨line, rest, hs, hlen⟩ := lengthStep_fin hfin
      obtain ⟨h1, h2⟩ := splitLine_append_prefix hs hwf
      refine ⟨rfl, show (1 : Int) ≤ 6 by decide, ?_⟩
      simp only [LP.nextReadSize]
      omega
    | readingBody l bd =>
      simp only [lpMachine, LP.feed_rB] at hfin ⊢
      have := bodyStep_fin hfin
      refine ⟨rfl, ?_⟩
      simp only [LP.nextReadSize]
      omega
    | readingTrailer bd t =>
      simp only [lpMachine, LP.feed_rT] at hfin ⊢
      obtain ⟨hp, h5, hlen⟩ := trailerStep_fin hfin
      have ht : t.length < 5 := by
        apply Classical.byContradiction
        intro hge
        exact hwf (isPrefixOf_of_append hp (by simp [doneMarker]; omega))
      simp only [List.length_append] at hlen h5
      refine ⟨rfl, ?_⟩
      simp only [LP.nextReadSize]
      omega
    | done bd u => cases hnf
    | failed => cases hfin

theorem lpWf_init : lpWf LP.init := by simp [LP.init, lpWf]

theorem lp_feed_encode (body : Bytes) : LP.feed LP.init (lpEncode body) = .done body [] := by
  rw [← List.append_nil (lpEncode body), LP.feed_init_encode]

end BreezyVerif.C30
