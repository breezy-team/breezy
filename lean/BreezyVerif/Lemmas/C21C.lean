import BreezyVerif.Lemmas.C21B
/-! C21 — `_update_revisions` in terms of ancestry (without the detour through `heads` and the relation). -/
namespace BreezyVerif.C21

/-- what `_update_revisions` does once the requested revision is known -/
def updateSpec (g : Graph) (src tgt : Br) (s : Tip) (rn : Option Nat) (ow : Bool) : Except Err Br :=
  if !tipPresent g s then .error .noSuchRevision
  else if !ow && isAnc g s tgt.tip then .ok tgt
  else if !ow && !isAnc g tgt.tip s then .error .diverged
  else match rn with
    | some n => setLast g tgt n s
    | none =>
      match distTip (seed tgt ++ seed src) g s with
      | none => .error .ghostRevno
      | some n => setLast g tgt n s

theorem update_eq_spec (g : Graph) (hwf : wf g = true) (src tgt : Br) (stop : Option Tip) (ow : Bool) :
    updateRevisions g src tgt stop ow =
      match requested src stop with
      | none => .ok tgt
      | some (s, rn) => updateSpec g src tgt s rn ow := by
  unfold updateRevisions
  cases hreq : requested src stop with
  | none => rfl
  | some p =>
    obtain ⟨s, rn⟩ := p
    simp only [updateSpec]
    cases hp : tipPresent g s
    · simp
    · simp only [Bool.not_true, Bool.false_eq_true, if_false]
      cases ow
      · simp only [Bool.not_false, if_true, Bool.true_and, check_cases g hwf s tgt.tip]
        cases h1 : isAnc g s tgt.tip
        · cases h2 : isAnc g tgt.tip s
          · simp
          · simp only [Bool.not_true, Bool.false_eq_true, if_false]
            cases rn
            · cases distTip (seed tgt ++ seed src) g s <;> rfl
            · rfl
        · simp
      · simp only [Bool.not_true, Bool.false_and, Bool.false_eq_true, if_false]
        cases rn
        · cases distTip (seed tgt ++ seed src) g s <;> rfl
        · rfl

end BreezyVerif.C21
