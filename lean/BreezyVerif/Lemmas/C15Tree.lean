import BreezyVerif.Lemmas.C15
import BreezyVerif.Lemmas.Lib.AList
/-!
C15 — tree-level lemmas: well-formedness only looks at the skeleton of a tree
(presence, parent, name, is-a-directory), when `shelve` accepts, what shelving
everything / nothing leaves per id, and shelves keeping their payload.
-/
namespace BreezyVerif.C15

/-- the part of an entry that well-formedness looks at -/
def skel : Option Entry → Option (Option Id × Nat × Bool)
  | some e => some (e.parent, e.name, e.kind == .dir)
  | none => none

theorem skel_isSome (x y : Option Entry) (h : skel x = skel y) : x.isSome = y.isSome := by
  cases x <;> cases y <;> simp_all [skel]

theorem reachesRoot_congr (t t' : Tree) (h : ∀ i, skel (t i) = skel (t' i)) :
    ∀ n i, reachesRoot t n i = reachesRoot t' n i := by
  intro n
  induction n with
  | zero => intro i; rfl
  | succ n ih =>
    intro i
    have hi := h i
    simp only [reachesRoot]
    cases hti : t i <;> cases ht'i : t' i <;> simp [hti, ht'i, skel] at hi ⊢
    obtain ⟨hp, -, -⟩ := hi
    rw [← hp]
    split
    · rfl
    · rename_i p _
      have hp := h p
      rw [ih p]
      cases htp : t p <;> cases ht'p : t' p <;> simp_all [skel]

theorem isRootAt_congr (t t' : Tree) (h : ∀ i, skel (t i) = skel (t' i)) : isRootAt t = isRootAt t' := by
  funext i
  have hi := h i
  unfold isRootAt
  cases hti : t i <;> cases ht'i : t' i <;> simp_all [skel]

theorem clash_congr (t t' : Tree) (h : ∀ i, skel (t i) = skel (t' i)) : clash t = clash t' := by
  funext i j
  have hi := h i
  have hj := h j
  unfold clash
  cases hti : t i <;> cases ht'i : t' i <;> simp [hti, ht'i, skel] at hi ⊢
  cases htj : t j <;> cases ht'j : t' j <;> simp [htj, ht'j, skel] at hj ⊢
  rw [hi.1, hi.2.1, hj.1, hj.2.1]

/-- **well-formedness is a property of the skeleton** -/
theorem wf_congr (ids : List Id) (t t' : Tree) (h : ∀ i, skel (t i) = skel (t' i)) : wf ids t = wf ids t' := by
  simp only [wf, fun i => skel_isSome _ _ (h i), reachesRoot_congr t t' h, isRootAt_congr t t' h, clash_congr t t' h]

/-- in a well-formed tree every present entry's parent is a directory -/
theorem wf_noNonDirParent (ids : List Id) (t : Tree) (h : wf ids t = true) : hasNonDirParent ids t = false := by
  simp only [wf, Bool.and_eq_true, List.all_eq_true, List.mem_filter] at h
  obtain ⟨⟨hr, _⟩, _⟩ := h
  rw [hasNonDirParent, List.any_eq_false]
  intro i hi
  cases hti : t i with
  | none => simp
  | some e =>
    have := hr i ⟨hi, by simp [hti]⟩
    simp only [reachesRoot, hti] at this
    cases hp : e.parent with
    | none => simp [hp]
    | some p =>
      simp only [hp, Bool.and_eq_true] at this
      cases htp : t p with
      | none => simp [hp, htp]
      | some pe => simp_all

theorem shelve_accepts (v : Variant) (ids : List Id) (s : TSel) (b w : Tree)
    (hacc : wf ids (workTree v s b w) = true) (hpc : v.pathCheck = true ∨ reoccupied ids s b w = [])
    (hcl : wf ids (shelfTree v s b w) = true ∨
      (v.closedCheck = false ∧ hasNonDirParent ids (shelfTree v s b w) = false)) :
    shelve v ids s b w = .ok (workTree v s b w, shelfTree v s b w) := by
  rcases hpc with hp | hp <;> rcases hcl with hc | hc <;> simp [shelve, hp, hc, hacc, wf_noNonDirParent]

/-- every shelvable aspect of the id is selected -/
def Sel.isAll (s : Sel) : Bool := s.whole && s.rename && s.content == .whole

/-- `be` with the executable bit the working file has (a chmod alone is not shelvable) -/
def withExecOf (x y : Option Entry) : Option Entry :=
  match x, y with
  | some xe, some ye => some { xe with exec := if xe.kind = .file ∧ ye.kind = .file then ye.exec else xe.exec }
  | x, _ => x

theorem withExecOf_skel (x y : Option Entry) : skel (withExecOf x y) = skel x := by
  cases x <;> cases y <;> simp [withExecOf, skel]

theorem withExecOf_eq_self (x y : Option Entry)
    (h : ∀ xe ye, x = some xe → y = some ye → xe.kind = .file → ye.kind = .file → ye.exec = xe.exec) :
    withExecOf x y = x := by
  cases x with
  | none => rfl
  | some xe =>
    cases y with
    | none => rfl
    | some ye =>
      simp only [withExecOf]
      split
      · rename_i hk; rw [h xe ye rfl rfl hk.1 hk.2]
      · rfl

theorem shelveWork_nothing (v : Variant) (b w : Option Entry) : shelveWork v Sel.nothing b w = w := by
  cases b <;> cases w <;> simp [shelveWork, Sel.nothing]

theorem shelveShelf_nothing (v : Variant) (b w : Option Entry) : shelveShelf v Sel.nothing b w = b := by
  cases b <;> cases w <;> simp [shelveShelf, Sel.nothing]

theorem shelveWork_all (v : Variant) (s : Sel) (b w : Option Entry) (hv : v.keepExec = true)
    (hs : s.isAll = true) (hb : norm b = true) : shelveWork v s b w = withExecOf b w := by
  simp only [Sel.isAll, Bool.and_eq_true, beq_iff_eq] at hs
  obtain ⟨⟨h1, h2⟩, h3⟩ := hs
  cases b with
  | none => cases w <;> simp [shelveWork, withExecOf, h1]
  | some be =>
    have he := recreatedExec_eq v be hb (.inl hv)
    cases w with
    | none => cases hk : s.kept <;> simp [shelveWork, withExecOf, h1, hk, he, norm_exec be hb]
    | some we => simp [shelveWork, withExecOf, h2, h3, he]

theorem shelveShelf_all (v : Variant) (s : Sel) (b w : Option Entry) (hv : v.keepExec = true)
    (hs : s.isAll = true) (hw : norm w = true) : shelveShelf v s b w = withExecOf w b := by
  rw [shelveShelf_eq_shelveWork]
  exact shelveWork_all v _ w b hv hs hw

/-! ### shelves keep their payload -/
namespace Mgr
open Lib

theorem lookup_eq_lookup (sh : Shelves) (k : Nat) : lookup sh k = List.lookup k sh :=
  (lookup_eq_find? sh k).symm

theorem lookup_mem_ids (sh : Shelves) (k p : Nat) (h : lookup sh k = some p) : k ∈ idsOf sh :=
  lookup_isSome_iff_keys.mp (lookup_eq_lookup sh k ▸ h ▸ rfl)

theorem lookup_filter_ne (sh : Shelves) (k k' : Nat) (hne : k' ≠ k) :
    lookup (sh.filter fun e => e.1 != k') k = lookup sh k := by
  rw [lookup_eq_lookup, lookup_eq_lookup]
  exact (AList.lookup_erase sh k' k).trans (if_neg hne.symm)

theorem stepC_keeps (sh : Shelves) (op : OpC) (k p : Nat) (h : lookup sh k = some p) (hop : op ≠ .delete k)
    (sh' : Shelves) (hs : stepC sh op = some sh') : lookup sh' k = some p := by
  cases op with
  | new q =>
    simp only [stepC, Option.some.injEq] at hs
    subst hs
    have hk := lookup_mem_ids sh k p h
    have hlt := (nextId_fresh (idsOf sh)).1 k hk
    have hne : ¬ nextId (idsOf sh) = k := by omega
    simpa [lookup, List.find?_cons, hne] using h
  | delete k' =>
    have hne : k' ≠ k := fun e => hop (by rw [e])
    simp only [stepC] at hs
    split at hs
    · simp only [Option.some.injEq] at hs
      subst hs
      rw [lookup_filter_ne sh k k' hne]; exact h
    · simp at hs

end Mgr

end BreezyVerif.C15
