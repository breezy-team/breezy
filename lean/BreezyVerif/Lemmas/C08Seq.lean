import BreezyVerif.Lemmas.C08
import BreezyVerif.Lemmas.C03Copy
/-
C08 — what a fetch, a commit and a repack do to a stacked repository: the lookups
afterwards, and the side invariants (`topo`, `invsAgree`, `invsHaveRevs`) they keep.
-/
namespace BreezyVerif.C08

open BreezyVerif.C03

theorem invsHaveRevs_iff {s : Stacked} :
    invsHaveRevs s = true ↔ ∀ k i, (k, i) ∈ s.st.invs → presentRev s k = true := by
  simp only [invsHaveRevs, List.all_eq_true, Prod.forall]

theorem good_iff {s : Stacked} : good s = true ↔
    stackable s = true ∧ topo s.st = true ∧ invsAgree s = true ∧ invsHaveRevs s = true := by
  simp only [good, Bool.and_eq_true, and_assoc]

theorem get_parentInvFill (src t : Repo) (m : List Rev) (p : Rev) :
    get (parentInvFill src t m) p =
      if p ∈ (m.flatMap (C33.parentsL (graph src))).filter (fun p => !hasRev t p && (get t.invs p).isNone)
      then get src.invs p else none :=
  get_filterMap_keyed (get src.invs) _ p

theorem exclusionLocal_parent {x : Exclusion} {src : Repo} {m : List Rev}
    (h : exclusionLocal x src m = true) {k : Rev} (hk : k ∈ m) {e : Entry}
    (he : e ∈ invOrEmpty src k) (hex : e ∈ excluded x src m) :
    ∃ p ∈ C33.parentsL (graph src) k, hasRev src p = true ∧ e ∈ invOrEmpty src p := by
  have := List.all_eq_true.mp (List.all_eq_true.mp h k hk) e he
  simpa only [hex, decide_true, Bool.not_true, Bool.false_or, List.any_eq_true, Bool.and_eq_true,
    decide_eq_true_eq] using this

theorem srcSuppliesM_parent {src : Repo} {s : Stacked} {m : List Rev}
    (h : srcSuppliesM src s m = true) {k p : Rev} (hk : k ∈ m) (hp : p ∈ C33.parentsL (graph src) k)
    (hpp : presentRev s p = true) : ∃ ip, get src.invs p = some ip := by
  have := List.all_eq_true.mp (List.all_eq_true.mp h k hk) p hp
  rw [hpp] at this
  exact Option.isSome_iff_exists.mp this

theorem fetchStacked_ok {x : Exclusion} {fg : Bool} {src : Repo} {s s' : Stacked} {rev : Rev}
    (h : fetchStacked x fg src s rev = .ok s') :
    fetchWithE true src s.st (missing fg src (both s) rev)
      (streamEntries x src (missing fg src (both s) rev)) = .ok s'.st ∧ s'.fb = s.fb := by
  unfold fetchStacked at h
  simp only at h
  split at h
  · cases h
  · split at h
    · cases h
    · rename_i h2
      simp only [Except.ok.injEq] at h
      subst h
      rw [streamable_eq_streamableE] at h2
      exact ⟨by rw [fetchWithE, if_neg h2]; rfl, rfl⟩

section Fetch

variable {x : Exclusion} {fg : Bool} {src : Repo} {s s' : Stacked} {rev : Rev}
  (h : fetchStacked x fg src s rev = .ok s')
include h

theorem fetch_copied :
    Copied src s.st s'.st (missing fg src (both s) rev) (streamEntries x src (missing fg src (both s) rev)) :=
  copied_fetchWith (fetchStacked_ok h).1

theorem mem_fetch_revs {k : Rev} {rec : RevRec} (hm : (k, rec) ∈ s'.st.revs) :
    (k, rec) ∈ s.st.revs ∨ (k ∈ missing fg src (both s) rev ∧ get src.revs k = some rec) :=
  (fetchWith_mem (fetchStacked_ok h).1).1 k rec hm

theorem fetch_hasRev {q : Rev} : hasRev s'.st q = true ↔
    hasRev s.st q = true ∨ q ∈ missing fg src (both s) rev := by
  rw [(fetch_copied h).hasRev]
  exact or_congr_right (and_iff_left_of_imp fun hq => ((mem_anc ..).mp (missing_sub_anc hq)).2)

theorem fetch_presentRev {p : Rev} : presentRev s' p = true ↔
    presentRev s p = true ∨ p ∈ missing fg src (both s) rev := by
  rw [presentRev_iff, presentRev_iff, (fetchStacked_ok h).2, fetch_hasRev h, or_right_comm]

theorem fetch_grows : Grows s s' :=
  .of_extends (fetch_copied h).monotone (fetchStacked_ok h).2

theorem fetch_anc_present (hc : fg = true ∨ closed (both s) src = true) {p : Rev}
    (hp : p ∈ anc src rev) : presentRev s' p = true := by
  rw [fetch_presentRev h, ← hasRev_both]
  exact (anc_cases_closed hc hp).symm

theorem fetch_sent_inv (hag : agreeOn src.invs s.st.invs = true) {m : Rev}
    (hm : m ∈ missing fg src (both s) rev) :
    ∃ i, get src.invs m = some i ∧ get s'.st.invs m = some i := by
  have hcp := fetch_copied h
  obtain ⟨i, hi⟩ := hcp.srcInv m hm
  exact ⟨i, hi, hcp.inv_of_sent hag hm hi⟩

/-- the inventory the source holds of a parent of a sent revision is local afterwards: it
was there (a local revision has its inventory), it is sent with its revision, or the
sink asks for it (`get_missing_parent_inventories`) -/
theorem fetch_parent_inv (hst : stackableW s = true) (hag : agreeOn src.invs s.st.invs = true)
    {m p : Rev} (hm : m ∈ missing fg src (both s) rev) (hp : p ∈ C33.parentsL (graph src) m)
    {ip : Inv} (hip : get src.invs p = some ip) : get s'.st.invs p = some ip := by
  cases hl : get s.st.invs p with
  | some il => rw [agreeOn_eq hag hl hip]; exact (fetch_grows h).invs hl
  | none =>
    by_cases hpM : p ∈ missing fg src (both s) rev
    · obtain ⟨i, hi, hil⟩ := fetch_sent_inv h hag hpM
      rw [hip] at hi
      cases hi
      exact hil
    · have hnl : get s.st.revs p = none := by
        cases hh : get s.st.revs p with
        | none => rfl
        | some prec =>
          obtain ⟨i, hi, _⟩ := stackableW_rev hst hh
          rw [hl] at hi
          cases hi
      have hw := (fetchStacked_ok h).1
      have hcopyinv : get (copyE src s.st (missing fg src (both s) rev)
          (streamEntries x src (missing fg src (both s) rev))).invs p = none := by
        rw [copyE_invs_get, hl, if_neg hpM]
      have hcopyrev : hasRev (copyE src s.st (missing fg src (both s) rev)
          (streamEntries x src (missing fg src (both s) rev))) p = false := by
        unfold hasRev
        rw [copyE_revs_get, hnl, if_neg hpM]
        rfl
      rw [(fetchWithE_ok hw).2.2.2, get_append_none hcopyinv, if_pos rfl, get_parentInvFill, if_pos, hip]
      exact List.mem_filter.mpr ⟨List.mem_flatMap.mpr ⟨m, hm, hp⟩, by simp [hcopyrev, hcopyinv]⟩

theorem fetch_stream_text {e : Entry} (he : e ∈ streamEntries x src (missing fg src (both s) rev)) :
    (get s'.st.texts e.key).isSome = true := by
  have hcp := fetch_copied h
  obtain ⟨c, hcs⟩ := hcp.srcText e he
  cases ht : get s.st.texts e.key with
  | some c0 => rw [hcp.textOld ht]; rfl
  | none => rw [hcp.textNew he ht, hcs]; rfl

/-- a sent revision satisfies the weak invariant afterwards: an entry the stream's filter
drops is shared with a parent whose inventory the source holds (`exclusionLocal`), and
that inventory is local afterwards; the text of every other entry is in the stream -/
theorem fetch_sent_stackableRevW (hst : stackableW s = true)
    (hc : fg = true ∨ closed (both s) src = true) (hag : agreeOn src.invs s.st.invs = true)
    (hloc : exclusionLocal x src (missing fg src (both s) rev) = true)
    {m : Rev} {r : RevRec} (hm : m ∈ missing fg src (both s) rev) (hsr : get src.revs m = some r) :
    stackableRevW s' m r = true := by
  obtain ⟨i, hi, hil⟩ := fetch_sent_inv h hag hm
  refine stackableRevW_iff.mpr ⟨i, hil, fun e he => ?_⟩
  have hem : e ∈ invOrEmpty src m := by rw [invOrEmpty_of_get hi]; exact he
  by_cases hex : e ∈ excluded x src (missing fg src (both s) rev)
  · obtain ⟨p, hp, hpsrc, hep⟩ := exclusionLocal_parent hloc hm hem hex
    obtain ⟨ip, hip, heip⟩ := mem_invOrEmpty hep
    obtain ⟨r', hr', hpr⟩ := mem_parentsL_graph.mp hp
    rw [hsr] at hr'
    cases hr'
    have hpa : p ∈ anc src rev := parent_mem_anc (missing_sub_anc hm) hsr hpr hpsrc
    exact Or.inl (mem_parentEntries.mpr
      ⟨p, hpr, fetch_anc_present h hc hpa, ip, fetch_parent_inv h hst hag hm hp hip, heip⟩)
  · exact Or.inr (fetch_stream_text h (mem_streamEntries.mpr ⟨⟨m, hm, hem⟩, hex⟩))

theorem fetch_preserves_topo (ht : topo s.st = true) (hts : topo src = true) : topo s'.st = true := by
  refine topo_iff.mpr fun k rec hm p hp => ?_
  rcases mem_fetch_revs h hm with h1 | ⟨_, h1⟩
  · exact topo_iff.mp ht k rec h1 p hp
  · exact topo_iff.mp hts k rec (get_mem h1) p hp

theorem fetch_preserves_invsAgree (ha : invsAgree s = true)
    (has : agreeOn s.fb.invs src.invs = true) : invsAgree s' = true := by
  unfold invsAgree at ha ⊢
  rw [(fetchStacked_ok h).2]
  refine agreeOn_iff.mpr fun k v hm v' hv' => ?_
  rcases (fetchWith_mem (fetchStacked_ok h).1).2.1 k v hm with h1 | ⟨h1, _⟩
  · exact agreeOn_iff.mp ha k v h1 v' hv'
  · exact agreeOn_iff.mp has k v (get_mem h1) v' hv'

theorem fetch_preserves_invsHaveRevs (hi : invsHaveRevs s = true)
    (hc : fg = true ∨ closed (both s) src = true) (hno : noOrphanInv src = true) :
    invsHaveRevs s' = true := by
  refine invsHaveRevs_iff.mpr fun k i hm => ?_
  rcases (fetchWith_mem (fetchStacked_ok h).1).2.1 k i hm with h1 | ⟨_, h1 | ⟨m, hmM, hpm⟩⟩
  · exact (fetch_grows h).present (invsHaveRevs_iff.mp hi k i h1)
  · exact (fetch_presentRev h).mpr (Or.inr h1)
  · rename_i h1
    obtain ⟨rec, hrec, hpr⟩ := mem_parentsL_graph.mp hpm
    exact fetch_anc_present h hc (parent_mem_anc (missing_sub_anc hmM) hrec hpr (noOrphan_rev hno h1))

end Fetch

theorem fallbackParentInvs_spec (s : Stacked) (ps : List Rev) :
    (fallbackParentInvs s ps = none ∧ ∃ p ∈ ps, get s.st.invs p = none ∧ get s.fb.invs p = none) ∨
    ∃ fill, fallbackParentInvs s ps = some fill ∧
      (∀ p i, (p, i) ∈ fill → get s.fb.invs p = some i) ∧
      ∀ p ∈ ps, get s.st.invs p = none →
        (get s.fb.invs p).isSome = true ∧ get fill p = get s.fb.invs p := by
  unfold fallbackParentInvs
  simp only
  split
  · rename_i hall
    refine Or.inr ⟨_, rfl, fun p i hm => (mem_keyed_filterMap hm).2, fun p hp h1 => ?_⟩
    have hm : p ∈ ps.filter fun p => (get s.st.invs p).isNone :=
      List.mem_filter.mpr ⟨hp, by rw [h1]; rfl⟩
    exact ⟨List.all_eq_true.mp hall p hm, by rw [get_filterMap_keyed, if_pos hm]⟩
  · rename_i hall
    obtain ⟨p, hp, hnot⟩ := List.all_eq_false.mp (Bool.eq_false_iff.mpr hall)
    obtain ⟨hp1, hp2⟩ := List.mem_filter.mp hp
    exact Or.inl ⟨rfl, p, hp1, Option.isNone_iff_eq_none.mp hp2,
      Option.not_isSome_iff_eq_none.mp hnot⟩

theorem commitStacked_ok {s s' : Stacked} {k : Rev} {rec : RevRec} {inv : Inv} {nt : List (TextKey × Nat)}
    (h : commitStacked s k rec inv nt = .ok s') :
    s'.fb = s.fb ∧ s'.st.revs = s.st.revs ++ [(k, rec)] ∧ s'.st.texts = s.st.texts ++ nt ∧
    ∃ fill, s'.st.invs = (s.st.invs ++ [(k, inv)]) ++ fill ∧
      (∀ p i, (p, i) ∈ fill → get s.fb.invs p = some i) ∧
      ∀ p ∈ rec.parents, get (s.st.invs ++ [(k, inv)]) p = none →
        (get s.fb.invs p).isSome = true ∧ get fill p = get s.fb.invs p := by
  unfold commitStacked at h
  rcases fallbackParentInvs_spec
    ⟨⟨s.st.revs ++ [(k, rec)], s.st.invs ++ [(k, inv)], s.st.texts ++ nt⟩, s.fb⟩ rec.parents with
    ⟨hn, _⟩ | ⟨fill, hf, h1, h2⟩
  · simp only [hn] at h
    cases h
  · simp only [hf, Except.ok.injEq] at h
    subst h
    exact ⟨rfl, rfl, rfl, fill, rfl, h1, h2⟩

section Commit

variable {s s' : Stacked} {k : Rev} {rec : RevRec} {inv : Inv} {nt : List (TextKey × Nat)}
  (h : commitStacked s k rec inv nt = .ok s')
include h

theorem commit_presentRev {p : Rev} : presentRev s' p = true ↔ presentRev s p = true ∨ p = k := by
  obtain ⟨hfb, hrevs, _, _⟩ := commitStacked_ok h
  have hl : hasRev s'.st p = true ↔ hasRev s.st p = true ∨ p = k := by
    unfold hasRev
    rw [hrevs]
    cases hl : get s.st.revs p with
    | some v => simp [get_append_some hl]
    | none =>
      rw [get_append_none hl, get_singleton]
      by_cases hkp : k = p
      · simp [hkp]
      · simpa [hkp] using fun e : p = k => hkp e.symm
  rw [presentRev_iff, presentRev_iff, hfb, hl, or_right_comm]

theorem commit_grows : Grows s s' := by
  obtain ⟨hfb, hrevs, htexts, fill, hinvs, _⟩ := commitStacked_ok h
  refine .of_extends ⟨fun _ _ hv => ?_, fun _ _ hv => ?_, fun _ _ hv => ?_⟩ hfb
  · rw [hrevs]
    exact get_append_some hv
  · rw [hinvs]
    exact get_append_some (get_append_some hv)
  · rw [htexts]
    exact get_append_some hv

theorem commit_preserves_topo (ht : topo s.st = true)
    (hlt : rec.parents.all (fun p => decide (p < k)) = true) : topo s'.st = true := by
  refine topo_iff.mpr fun k' rec' hm p hp => ?_
  rw [(commitStacked_ok h).2.1] at hm
  rcases List.mem_append.mp hm with h1 | h1
  · exact topo_iff.mp ht k' rec' h1 p hp
  · cases List.mem_singleton.mp h1
    exact of_decide_eq_true (List.all_eq_true.mp hlt p hp)

theorem commit_preserves_invsAgree (ha : invsAgree s = true) (hfresh : get s.fb.invs k = none) :
    invsAgree s' = true := by
  obtain ⟨hfb, _, _, fill, hinvs, hfill, _⟩ := commitStacked_ok h
  unfold invsAgree at ha ⊢
  rw [hfb]
  refine agreeOn_iff.mpr fun q v hm v' hv' => ?_
  rw [hinvs] at hm
  rcases List.mem_append.mp hm with hm | hm
  · rcases List.mem_append.mp hm with h1 | h1
    · exact agreeOn_iff.mp ha q v h1 v' hv'
    · cases List.mem_singleton.mp h1
      rw [hfresh] at hv'
      cases hv'
  · rw [hfill q v hm] at hv'
    exact (Option.some.inj hv').symm

theorem commit_preserves_invsHaveRevs (hi : invsHaveRevs s = true) (hno : noOrphanInv s.fb = true) :
    invsHaveRevs s' = true := by
  obtain ⟨hfb, _, _, fill, hinvs, hfill, _⟩ := commitStacked_ok h
  refine invsHaveRevs_iff.mpr fun q i hm => ?_
  rw [hinvs] at hm
  rcases List.mem_append.mp hm with hm | hm
  · rcases List.mem_append.mp hm with h1 | h1
    · exact (commit_grows h).present (invsHaveRevs_iff.mp hi q i h1)
    · cases List.mem_singleton.mp h1
      exact (commit_presentRev h).mpr (Or.inr rfl)
  · exact presentRev_iff.mpr (Or.inr (hfb ▸ noOrphan_rev hno (hfill q i hm)))

end Commit

theorem pack_preserves_topo (s : Stacked) (ht : topo s.st = true) : topo (pack s).st = true :=
  topo_iff.mpr fun k rec hm p hp => topo_iff.mp ht k rec (mem_dedupKeys hm) p hp

theorem pack_preserves_invsAgree (s : Stacked) (ha : invsAgree s = true) : invsAgree (pack s) = true :=
  agreeOn_iff.mpr fun k v hm v' hv' => agreeOn_iff.mp ha k v (mem_dedupKeys hm) v' hv'

theorem pack_preserves_invsHaveRevs (s : Stacked) (hi : invsHaveRevs s = true) :
    invsHaveRevs (pack s) = true :=
  invsHaveRevs_iff.mpr fun k i hm =>
    (pack_presentRev s k).trans (invsHaveRevs_iff.mp hi k i (mem_dedupKeys hm))

end BreezyVerif.C08
