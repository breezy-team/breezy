import BreezyVerif.Lemmas.C31C
/-
A transport built from a URL.  For a URL path in
normal form (`normalisedUrl`) the `.base` the jail looks at, the path handed
to the local transport and the location the OS resolves all have the same
"kept" segments (non-empty, not "."), so a jail prefix on `.base` is a prefix
of the location.
-/
namespace BreezyVerif.C31

theorem segsK_nil : segsK [] = [] := by decide

theorem segsK_append_sl (a b : Bytes) : segsK (a ++ SL :: b) = segsK a ++ segsK b := by
  unfold segsK
  rw [splitSl_append_sl, List.filter_append]

theorem segsK_snoc_sl (a : Bytes) : segsK (a ++ [SL]) = segsK a := by
  rw [segsK_append_sl, segsK_nil, List.append_nil]

theorem withSlash_cases (p : Bytes) : withSlash p = p ++ [SL] ∨ (withSlash p = p ∧ ∃ q, p = q ++ [SL]) := by
  unfold withSlash
  split
  · rename_i h
    right
    refine ⟨rfl, ?_⟩
    obtain ⟨q, hq⟩ := List.getLast?_eq_some_iff.mp h
    exact ⟨q, hq⟩
  · exact Or.inl rfl

theorem segsK_withSlash (p : Bytes) : segsK (withSlash p) = segsK p := by
  rcases withSlash_cases p with h | ⟨h, _⟩
  · rw [h, segsK_snoc_sl]
  · rw [h]

theorem segsK_withSlash_append (p rel : Bytes) : segsK (withSlash p ++ rel) = segsK p ++ segsK rel := by
  rcases withSlash_cases p with h | ⟨h, q, hq⟩
  · rw [h, List.append_assoc, List.singleton_append, segsK_append_sl]
  · rw [h, hq, List.append_assoc, List.singleton_append, segsK_append_sl, segsK_snoc_sl]

theorem segsK_rawJoin (p rel : Bytes) : segsK (rawJoin p rel) = segsK p ++ segsK rel := by
  unfold rawJoin
  split
  · rename_i h; subst h; simp [segsK_nil]
  · exact segsK_withSlash_append p rel

theorem mem_splitSl_snoc {q : Bytes} {s : Seg} (h : s ∈ splitSl q) : s ∈ splitSl (q ++ [SL]) := by
  rw [splitSl_append_sl]
  exact List.mem_append_left _ h

theorem mem_splitSl_rawJoin {p rel : Bytes} {s : Seg} (h : s ∈ splitSl (rawJoin p rel)) :
    s ∈ splitSl p ∨ s ∈ splitSl rel := by
  unfold rawJoin at h
  split at h
  · exact Or.inr h
  · rcases withSlash_cases p with hw | ⟨hw, q, hq⟩
    · rw [hw, List.append_assoc, List.singleton_append, splitSl_append_sl] at h
      exact List.mem_append.mp h
    · rw [hw, hq, List.append_assoc, List.singleton_append, splitSl_append_sl] at h
      rcases List.mem_append.mp h with h' | h'
      · left; rw [hq]; exact mem_splitSl_snoc h'
      · exact Or.inr h'

theorem segsK_joinSl (segs : List Seg) (h : ∀ s ∈ segs, SL ∉ s) : segsK (joinSl segs) = segs.filter keep := by
  cases segs with
  | nil => simp [joinSl, segsK_nil]
  | cons x t =>
    unfold segsK
    rw [splitSl_joinSl _ (by simp) h]

theorem cmbStep_eq_osStep : cmbStep = osStep := rfl

theorem keep_noSl_of_mem_segsK {x : Bytes} {s : Seg} (h : s ∈ segsK x) : s ∈ splitSl x ∧ keep s = true := by
  unfold segsK at h
  exact List.mem_filter.mp h

theorem filter_keep_segsK (x : Bytes) : (segsK x).filter keep = segsK x := by
  unfold segsK
  rw [List.filter_filter]
  simp

theorem keep_imp_ne_dot (s : Seg) : (keep s && (s != dotSeg)) = keep s := by
  unfold keep
  by_cases h : s = dotSeg
  · simp [h]
  · simp [h]

section
variable {P : Bytes → Prop} {Q : UInt8 → Prop} {e : Prop} (E : PctClass P Q e)
include E

/-- the chroot combination of a path of the class without ".." keeps exactly the kept segments -/
theorem combine_nil_nodotdot {x : Bytes} (hm : P x) (h : ∀ s ∈ splitSl x, s ≠ dotdot) :
    combine [] x = (segsK x).reverse := by
  unfold combine segsK
  simp only []
  rw [E.normPct hm, cmbStep_eq_osStep]
  have : (if x.head? = some SL then ([] : List Seg) else []) = [] := by split <;> rfl
  rw [this, foldl_osStep_nodotdot _ _ h]
  simp

/-- behind a chroot layer: kept segments, the class and absence of ".." are preserved -/
theorem stkPath_combine_nodotdot {x : Bytes} (hm : P x) (h : ∀ s ∈ splitSl x, s ≠ dotdot) :
    segsK (stkPath (combine [] x)) = segsK x
      ∧ P (stkPath (combine [] x))
      ∧ ∀ s ∈ splitSl (stkPath (combine [] x)), s ≠ dotdot := by
  rw [combine_nil_nodotdot E hm h]
  unfold stkPath
  rw [List.reverse_reverse]
  have hsl : ∀ s ∈ segsK x, SL ∉ s := fun s hs => splitSl_noSl x s (keep_noSl_of_mem_segsK hs).1
  refine ⟨?_, ?_, ?_⟩
  · rw [segsK_joinSl _ hsl, filter_keep_segsK]
  · exact E.joinSl _ (fun s hs => E.splitSl hm s (keep_noSl_of_mem_segsK hs).1)
  · intro s hs
    cases hk : segsK x with
    | nil => rw [hk] at hs; simp [joinSl, splitSl] at hs; subst hs; simp [dotdot]
    | cons a t =>
      rw [splitSl_joinSl _ (by rw [hk]; simp) hsl] at hs
      exact h s (keep_noSl_of_mem_segsK hs).1

theorem foldl_baseStep_normal : ∀ (segs : List Seg) (stk : List Seg),
    (∀ s ∈ segs, P s ∧ s ≠ dotdot) →
    segs.foldl baseStep stk = (segs.filter (fun s => s != dotSeg)).reverse ++ stk
  | [], stk, _ => by simp
  | x :: xs, stk, h => by
    obtain ⟨hm, hx⟩ := h x (by simp)
    have ih := foldl_baseStep_normal xs (baseStep stk x) (fun s hs => h s (List.mem_cons_of_mem _ hs))
    simp only [List.foldl_cons]
    rw [ih]
    unfold baseStep
    rw [E.normPct hm]
    by_cases h2 : x = dotSeg
    · simp [h2]
    · simp [h2, hx]

/-- `.base` of a URL in normal form has the same kept segments as the URL path -/
theorem segsK_urlBase {p : Bytes} (hm : P p) (hnd : ∀ s ∈ splitSl p, s ≠ dotdot) :
    segsK (urlBase p) = segsK p := by
  unfold urlBase
  simp only []
  -- the segment list that is folded: splitSl p, possibly with an extra empty segment
  have key : ∀ segs : List Seg, (segs = splitSl p ∨ segs = splitSl p ++ [[]]) →
      segsK (if joinSl (segs.foldl baseStep []).reverse = [] then []
        else withSlash (joinSl (segs.foldl baseStep []).reverse)) = segsK p := by
    intro segs hs
    have hp : ∀ s ∈ splitSl p, (P s ∧ s ≠ dotdot) ∧ SL ∉ s := fun s h' =>
      ⟨⟨E.splitSl hm s h', hnd s h'⟩, splitSl_noSl p s h'⟩
    have hall : ∀ s ∈ segs, (P s ∧ s ≠ dotdot) ∧ SL ∉ s := by
      rcases hs with rfl | rfl
      · exact hp
      · intro s hm'
        rcases List.mem_append.mp hm' with h' | h'
        · exact hp s h'
        · cases List.mem_singleton.1 h'
          exact ⟨⟨E.nil, by decide⟩, List.not_mem_nil⟩
    have hsl : ∀ s ∈ segs, SL ∉ s := fun s h' => (hall s h').2
    rw [foldl_baseStep_normal E segs [] fun s h' => (hall s h').1]
    simp only [List.append_nil, List.reverse_reverse]
    have hk : segsK (joinSl (segs.filter (fun s => s != dotSeg))) = segsK p := by
      rw [segsK_joinSl _ (fun s h' => hsl s (List.mem_filter.mp h').1), List.filter_filter]
      simp only [keep_imp_ne_dot]
      unfold segsK
      rcases hs with e | e
      · rw [e]
      · have hk0 : List.filter keep [[]] = [] := by decide
        rw [e, List.filter_append, hk0, List.append_nil]
    split
    · rename_i hr
      rw [hr] at hk
      exact hk
    · rw [segsK_withSlash]; exact hk
  split
  · rename_i l hl
    split
    · exact key _ (Or.inr rfl)
    · exact key _ (Or.inl rfl)
  · exact key _ (Or.inl rfl)

end

/-- segments a jail root cloned from the backing transport consists of -/
def JailSeg (s : Seg) : Prop := Canon s ∧ SL ∉ s ∧ keep s = true

theorem jailSeg_of_good {s : Seg} (h : goodJailSeg s = true) : JailSeg s := by
  unfold goodJailSeg at h
  simp only [Bool.and_eq_true, Bool.not_eq_eq_eq_not, Bool.not_true] at h
  obtain ⟨⟨⟨h1, h2⟩, h3⟩, _⟩ := h
  refine ⟨canon_of_isCanon h1, ?_, h3⟩
  intro hm
  have : s.contains SL = true := List.contains_iff_mem.mpr hm
  rw [this] at h2
  cases h2

theorem normalisedUrl_spec {p : Bytes} (h : normalisedUrl p = true) :
    Canon p ∧ ∀ s ∈ splitSl p, s ≠ dotdot := by
  unfold normalisedUrl at h
  simp only [Bool.and_eq_true, List.all_eq_true, bne_iff_ne, ne_eq] at h
  exact ⟨canon_of_isCanon h.1, h.2⟩

/-- the path as written of a normal-form relpath below a normal-form URL path is canonical
and has no ".." segment -/
theorem rawJoin_normal {p rel : Bytes} (hp : normalisedUrl p = true) (hr : normalisedUrl rel = true) :
    Canon (rawJoin p rel) ∧ ∀ s ∈ splitSl (rawJoin p rel), s ≠ dotdot := by
  obtain ⟨hcp, hnp⟩ := normalisedUrl_spec hp
  obtain ⟨hcr, hnr⟩ := normalisedUrl_spec hr
  refine ⟨?_, fun s hs => (mem_splitSl_rawJoin hs).elim (hnp s) (hnr s)⟩
  unfold rawJoin
  split
  · exact hcr
  · exact canonClass.append (canonClass.withSlash hcp) hcr

theorem urlLocate_ok {cfg : Cfg} {p rel : Bytes} {loc : List Seg} (h : urlLocate cfg p rel = .ok loc) :
    ∃ u, osRel (urlBackingRel cfg p rel) = .ok u ∧ loc = osResolve cfg.rootDir u := by
  unfold urlLocate at h
  cases ho : osRel (urlBackingRel cfg p rel) with
  | error e => rw [ho] at h; cases h
  | ok u => rw [ho] at h; cases h; exact ⟨u, rfl, rfl⟩

theorem isChildUrl_cloneBase {pfx ub : Bytes} {J : List Seg}
    (h : isChildUrl (pfx ++ cloneBase J) (pfx ++ ub) = true) : cloneBase J <+: ub ++ [SL] := by
  unfold cloneBase at h ⊢
  split
  · exact List.nil_prefix
  · rename_i hJ
    simp only [hJ, if_false] at h
    unfold isChildUrl at h
    simp only [Bool.or_eq_true, beq_iff_eq] at h
    rcases h with h | h
    · have e : pfx ++ (stkPath J ++ [SL]) = (pfx ++ stkPath J) ++ [SL] := by simp
      rw [e, List.dropLast_concat] at h
      have : ub = stkPath J := List.append_cancel_left h
      rw [this]
      exact List.prefix_refl _
    · have := List.isPrefixOf_iff_prefix.mp h
      have h2 : stkPath J ++ [SL] <+: ub := (List.prefix_append_right_inj pfx).mp this
      exact h2.trans (List.prefix_append _ _)

/-- a jail base that is a string prefix of X is a segment prefix of the kept segments of X -/
theorem jail_prefix_segs {J : List Seg} (hJ : ∀ s ∈ J, JailSeg s) {X : Bytes}
    (h : cloneBase J <+: X) : J.reverse <+: segsK X := by
  unfold cloneBase at h
  split at h
  · rename_i e; subst e; exact List.nil_prefix
  · rename_i hne
    obtain ⟨t, ht⟩ := h
    unfold stkPath at ht
    have hsl : ∀ s ∈ J.reverse, SL ∉ s := fun s hs => (hJ s (List.mem_reverse.mp hs)).2.1
    have hk : J.reverse.filter keep = J.reverse :=
      List.filter_eq_self.mpr (fun s hs => (hJ s (List.mem_reverse.mp hs)).2.2)
    rw [← ht, List.append_assoc, List.singleton_append, segsK_append_sl, segsK_joinSl _ hsl, hk]
    exact List.prefix_append _ _

end BreezyVerif.C31
