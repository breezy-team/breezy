import BreezyVerif.Lemmas.C46Remove
/-! C46 — `cleanTree` as a whole: exact characterisation of what survives; what the walks and
the repaired filter see of nested control directories. -/
namespace BreezyVerif.C46
open Forest

theorem selected_path_mem {keep : Item → Bool} {fmt : Fmt} {o : Opts} {f : Forest} {it : Item}
    (h : it ∈ selectedWith keep fmt o f) : it.path ∈ f.paths :=
  items_path_mem (extras_sub (selected_sub h).1)

/-- `clean_tree` in one line: nothing on a declined prompt or a dry run, else `delete_items` on
the selection -/
theorem cleanTreeWith_eq {keep : Item → Bool} {fmt : Fmt} {o : Opts} {f : Forest} :
    cleanTreeWith keep fmt o f =
      if o.prompt = some false ∨ o.dryRun = true then (f, false)
      else deleteItems f ((selectedWith keep fmt o f).map (·.path)) := by
  unfold cleanTreeWith
  by_cases he : (selectedWith keep fmt o f).isEmpty = true
  · simp [List.isEmpty_iff.mp he, deleteItems]
  · by_cases hp : o.prompt = some false
    · simp [he, hp]
    · by_cases hd : o.dryRun = true <;> simp [he, hp, hd]

/-- what `cleanTree` does when it really deletes -/
theorem cleanTree_spec {keep : Item → Bool} {fmt : Fmt} {o : Opts} {f : Forest} (hw : f.wf = true)
    (hd : o.dryRun = false) (hp : o.prompt ≠ some false) :
    (cleanTreeWith keep fmt o f).2 = false ∧ (cleanTreeWith keep fmt o f).1.wf = true ∧
      ∀ q, q ∈ (cleanTreeWith keep fmt o f).1.paths ↔
        (q ∈ f.paths ∧ ∀ s ∈ selectedWith keep fmt o f, ¬ s.path <+: q) := by
  rw [cleanTreeWith_eq, if_neg (not_or.mpr ⟨hp, fun h => Bool.false_ne_true (hd.symm.trans h)⟩)]
  have h1 : ∀ p ∈ (selectedWith keep fmt o f).map (·.path), p ∈ f.paths := by
    intro p hp'
    obtain ⟨s, hs, rfl⟩ := List.mem_map.mp hp'
    exact selected_path_mem hs
  obtain ⟨f', e, hw', hs⟩ := deleteItems_spec _ hw h1
    (List.pairwise_map.mpr ((selected_antichain hw).imp And.left))
  rw [e]
  refine ⟨rfl, hw', fun q => ?_⟩
  rw [hs q]
  simp only [List.mem_map, forall_exists_index, and_imp, forall_apply_eq_imp_iff₂]

theorem cleanTree_noop {keep : Item → Bool} {fmt : Fmt} {o : Opts} {f : Forest}
    (h : o.dryRun = true ∨ o.prompt = some false) : cleanTreeWith keep fmt o f = (f, false) := by
  rw [cleanTreeWith_eq, if_pos h.symm]

/-- a path no selected candidate is a prefix of survives, whatever the options -/
theorem survives {keep : Item → Bool} {fmt : Fmt} {o : Opts} {f : Forest} {q : Path} (hw : f.wf = true)
    (hq : q ∈ f.paths) (hs : ∀ s ∈ selectedWith keep fmt o f, ¬ s.path <+: q) :
    q ∈ (cleanTreeWith keep fmt o f).1.paths := by
  by_cases hd : o.dryRun = true
  · rw [cleanTree_noop (Or.inl hd)]; exact hq
  · by_cases hp : o.prompt = some false
    · rw [cleanTree_noop (Or.inr hp)]; exact hq
    · exact ((cleanTree_spec (keep := keep) hw (by simpa using hd) hp).2.2 q).mpr ⟨hq, hs⟩

/-- everything at or below a path that is unrelated to every selected candidate survives -/
theorem survives_below {keep : Item → Bool} {fmt : Fmt} {o : Opts} {f : Forest} {d q : Path}
    (hw : f.wf = true) (hs : ∀ s ∈ selectedWith keep fmt o f, Incomp s.path d) (hq : d <+: q)
    (hm : q ∈ f.paths) : q ∈ (cleanTreeWith keep fmt o f).1.paths :=
  survives hw hm fun s h hpre =>
    (List.prefix_or_prefix_of_prefix hpre hq).elim (hs s h).1 (hs s h).2

theorem wf_items_kids {f : Forest} {it : Item} (hw : f.wf = true) (h : it ∈ items f) :
    it.info.kind = .dir ∨ it.kids = nil := by
  induction f generalizing it with
  | nil => cases h
  | cons i kids rest ih1 ih2 =>
    obtain ⟨_, _, _, _, _, h6, hk, hr⟩ := wf_cons.mp hw
    rw [mem_items_cons] at h
    rcases h with (h | ⟨t, ht, rfl⟩) | h
    · subst h; exact h6
    · exact ih1 (it := t) hk ht
    · exact ih2 hr h

/-- git: a walked file and a directory that has a `.git` entry are unrelated -/
theorem filesG_incomp_gitdir {f : Forest} {d : Path} {i : Info} {k : Forest} {it : Item}
    (hw : f.wf = true) (hg : f.get d = some (i, k)) (hd : i.kind = .dir)
    (hc : k.hasName ".git" = true) (h : it ∈ filesG f) : Incomp it.path d := by
  obtain ⟨h1, h2, h3⟩ := filesG_isWalk.trace h
  have hget := get_of_mem_items hw h1
  -- the file is not the directory
  have hne : it.path ≠ d := fun e => by
    cases hget.symm.trans (e ▸ hg)
    exact h2.1 hd
  constructor
  · -- a walked file has nothing below it
    rintro ⟨r, rfl⟩
    have hr : r ≠ [] := fun hr => hne (by rw [hr, List.append_nil])
    rw [get_append hget hr] at hg
    rcases wf_items_kids hw h1 with hk | hk
    · exact h2.1 hk
    · rw [hk] at hg
      cases hg
  · -- the walk would have had to enter the directory
    rintro ⟨r, e⟩
    have hr : r ≠ [] := fun hr => hne (by rw [← e, hr, List.append_nil])
    obtain ⟨a, ha, rfl, _, he⟩ := h3 d r e (fun hd => by rw [hd] at hg; cases f <;> cases hg) hr
    cases (get_of_mem_items hw ha).symm.trans hg
    exact Bool.false_ne_true (he.symm.trans hc)

/-! ### the proposed repair of the filter -/

theorem hasCtl_containsCtlName {k : Forest} (h : hasCtl k = true) : containsCtlName k = true := by
  induction k with
  | nil => cases h
  | cons i kids rest _ ih2 =>
    simp only [hasCtl, Bool.or_eq_true, Bool.and_eq_true] at h
    simp only [containsCtlName, Bool.or_eq_true]
    exact h.imp (fun h => .inl h.1) ih2

/-- a control name occurring in a path of `k` occurs in `k` -/
theorem containsCtlName_of_path {k : Forest} {q : Path} {c : String} (hq : q ∈ k.paths)
    (hc : c ∈ q) (hn : isCtlName c = true) : containsCtlName k = true := by
  induction k generalizing q with
  | nil => cases hq
  | cons i kids rest ih1 ih2 =>
    rw [mem_paths_cons] at hq
    simp only [containsCtlName, Bool.or_eq_true]
    rcases hq with (hq | ⟨t, ht, rfl⟩) | hq
    · subst hq
      simp at hc; subst hc
      exact Or.inl (Or.inl hn)
    · simp only [List.mem_cons] at hc
      rcases hc with rfl | hc
      · exact Or.inl (Or.inl hn)
      · exact Or.inl (Or.inr (ih1 ht hc))
    · exact Or.inr (ih2 hq hc)

theorem hasCtlName_of_single {k : Forest} {c : String} (hq : [c] ∈ k.paths)
    (hn : isCtlName c = true) : hasCtlName k = true := by
  induction k with
  | nil => cases hq
  | cons i kids rest _ ih2 =>
    rw [mem_paths_cons] at hq
    simp only [hasCtlName, Bool.or_eq_true]
    rcases hq with (hq | ⟨t, _, ht⟩) | hq
    · simp at hq; subst hq; exact Or.inl hn
    · simp at ht; exact Or.inl (ht.1 ▸ hn)
    · exact Or.inr (ih2 hq)

/-- in a well-formed layout every listed path can be looked up -/
theorem get_of_mem_paths {f : Forest} {q : Path} (hw : f.wf = true) (h : q ∈ f.paths) :
    ∃ x, f.get q = some x := by
  rw [paths_eq_items] at h
  obtain ⟨it, hit, rfl⟩ := List.mem_map.mp h
  exact ⟨_, get_of_mem_items hw hit⟩

/-- a path below an entry is a path of the entry's content -/
theorem paths_below {f : Forest} {p r : Path} {i : Info} {k : Forest} (hw : f.wf = true)
    (hg : f.get p = some (i, k)) (hr : r ≠ []) (hm : p ++ r ∈ f.paths) : r ∈ k.paths := by
  obtain ⟨x, hx⟩ := get_of_mem_paths hw hm
  rw [get_append hg hr] at hx
  exact mem_paths_of_get hx

theorem mem_of_append_eq_snoc {α : Type} {p r d : List α} {c : α} (h : p ++ r = d ++ [c])
    (hr : r ≠ []) : c ∈ r := by
  have h1 : (p ++ r).getLast? = some c := h ▸ List.getLast?_concat
  rw [List.getLast?_eq_some_getLast (List.append_ne_nil_of_right_ne_nil p hr),
    List.getLast_append_right hr] at h1
  exact Option.some.inj h1 ▸ List.getLast_mem hr

theorem keepFixed_iff {f : Forest} {it : Item} :
    keepFixed f it = true ↔ (∀ c ∈ it.path, isCtlName c = false) ∧ insideNested f it.path = false ∧
      (it.info.kind = .dir → containsCtlName it.kids = false) := by
  simp only [keepFixed, Bool.and_eq_true, Bool.not_eq_true', List.any_eq_false, Bool.and_eq_false_imp,
    beq_iff_eq, and_assoc, Bool.not_eq_true]

/-- `insideNested` sees a control name held by the directory at a proper non-empty prefix -/
theorem insideNested_of_prefix {f : Forest} {d r : Path} {i : Info} {k : Forest} (hd : d ≠ [])
    (hr : r ≠ []) (hg : f.get d = some (i, k)) (hk : hasCtlName k = true) :
    insideNested f (d ++ r) = true := by
  simp only [insideNested, List.any_eq_true, List.mem_range, Bool.and_eq_true, bne_iff_ne, ne_eq]
  refine ⟨d.length, ?_, fun h => hd (List.eq_nil_of_length_eq_zero h), ?_⟩
  · rw [List.length_append]
    exact Nat.lt_add_of_pos_right (List.length_pos_iff.mpr hr)
  · rw [List.take_left, hg]; exact hk

end BreezyVerif.C46
