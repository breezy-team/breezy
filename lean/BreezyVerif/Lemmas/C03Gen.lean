import BreezyVerif.Lemmas.C03Walk
import BreezyVerif.Lemmas.C03Copy
/-
C03 — what a revision search provides (`SearchOK`): the one-batch search `missing`
and the batched search `missingB n` both do, and for a closed target (or with
`find_ghosts`) it is what the copy theorems ask of the revisions sent
(`SearchOK.covers`); `fetch` and `fetchB` are a guard and the copy of the search result.
-/
namespace BreezyVerif.C03

open BreezyVerif.C33 (PMap parentsOf parentsL bfs Reach present allKeys present_iff)

theorem present_graph (r : Repo) (k : Rev) : present (graph r) k = hasRev r k := by
  unfold present hasRev
  rw [parentsOf_graph]
  cases get r.revs k <;> rfl

theorem walkB_some {g : PMap} {has : Rev → Bool} {n : Nat} {start : Rev} (hn : 0 < n) :
    ∃ w, walkB g has n start = some w ∧ WInv g has start w [] ∧ w.next = [] := by
  obtain ⟨w, hw, hinv, _, hnx⟩ := walkB_run (g := g) (has := has) (start := start) hn (fun _ _ => True)
    trivial (fun _ _ _ _ _ _ => trivial) (fun _ _ _ _ _ => trivial)
  exact ⟨w, hw, hinv, hnx⟩

/-- without `find_ghosts` the result of the batched search is read off a final state of the walk
(with `find_ghosts` it is `missing true`, by definition) -/
theorem missingB_false {n : Nat} (hn : 0 < n) (src tgt : Repo) (rev : Rev) :
    ∃ w, WInv (graph src) (hasRev tgt) rev w [] ∧ w.next = [] ∧
      ∀ k, k ∈ missingB n false src tgt rev ↔ k ∈ w.seen ∧ k ∉ w.stopped := by
  obtain ⟨w, hw, hinv, hnx⟩ := walkB_some (g := graph src) (has := hasRev tgt) (start := rev) hn
  refine ⟨w, hinv, hnx, fun k => ?_⟩
  unfold missingB
  simp [hw]

theorem missingB_sub_anc {n : Nat} (hn : 0 < n) {fg : Bool} {src tgt : Repo} {rev k : Rev}
    (h : k ∈ missingB n fg src tgt rev) : k ∈ anc src rev := by
  cases fg
  · obtain ⟨w, hinv, _, hmem⟩ := missingB_false hn src tgt rev
    obtain ⟨hr, hp⟩ := final_sub hinv ((hmem k).mp h).1 ((hmem k).mp h).2
    rw [present_graph] at hp
    exact (mem_anc ..).mpr ⟨hr, hp⟩
  · -- rewritten first: left to the unifier, `missingB n true = missing true` unfolds the whole walk
    rw [missingB, if_pos rfl] at h
    exact ((mem_missing_true ..).mp h).1

theorem missingB_not_in_target {n : Nat} (hn : 0 < n) {fg : Bool} {src tgt : Repo} {rev k : Rev}
    (h : k ∈ missingB n fg src tgt rev) : hasRev tgt k = false := by
  cases fg
  · obtain ⟨w, hinv, _, hmem⟩ := missingB_false hn src tgt rev
    exact final_notin hinv ((hmem k).mp h).1 ((hmem k).mp h).2
  · rw [missingB, if_pos rfl] at h
    exact ((mem_missing_true ..).mp h).2

theorem anc_casesB {n : Nat} (hn : 0 < n) {fg : Bool} {src tgt : Repo} {rev k : Rev} (hk : k ∈ anc src rev) :
    k ∈ missingB n fg src tgt rev ∨
      (fg = true ∧ hasRev tgt k = true) ∨
      (fg = false ∧ Reach (graph src) [] ((anc src rev).filter (hasRev tgt)) k) := by
  cases fg
  · obtain ⟨w, hinv, hnx, hmem⟩ := missingB_false hn src tgt rev
    obtain ⟨hr, hp⟩ := (mem_anc ..).mp hk
    rcases final_cases hinv hnx hr with h1 | h1 | ⟨x, hx1, hx2, hx3, hx4⟩
    · exact Or.inl ((hmem k).mpr h1)
    · rw [← C33.not_present_iff, present_graph, hp] at h1
      cases h1
    · refine Or.inr (Or.inr ⟨rfl, ?_⟩)
      rw [present_graph] at hx2
      exact reach_trans (Reach.base (List.mem_filter.mpr ⟨(mem_anc ..).mpr ⟨hx3, hx2⟩, hx1⟩)) hx4
  · rw [missingB, if_pos rfl]
    exact anc_cases hk

theorem anc_casesB_closed {n : Nat} (hn : 0 < n) {fg : Bool} {src tgt : Repo}
    (hc : fg = true ∨ closed tgt src = true) {rev k : Rev} (hk : k ∈ anc src rev) :
    k ∈ missingB n fg src tgt rev ∨ hasRev tgt k = true :=
  (anc_casesB hn hk).imp_right (held_of_behind hc hk)

/-- nothing is reachable from a revision the source does not have -/
theorem anc_of_absent {src : Repo} {rev : Rev} (h : hasRev src rev = false) : anc src rev = [] := by
  have hnone : parentsOf (graph src) rev = none :=
    C33.not_present_iff.mp (by rw [present_graph, h]; rfl)
  have key : ∀ k, Reach (graph src) [] [rev] k → k = rev := by
    intro k hr
    induction hr with
    | base hk => exact List.mem_singleton.mp hk
    | step _ _ hps _ ih =>
      rw [ih, hnone] at hps
      cases hps
  refine List.eq_nil_iff_forall_not_mem.mpr fun k hk => ?_
  obtain ⟨hr, hp⟩ := (mem_anc ..).mp hk
  rw [key k hr, h] at hp
  cases hp

/-- a search for a revision the target already holds finds nothing, whatever the batch size -/
theorem missingB_nil_of_held {n : Nat} (hn : 0 < n) {src tgt : Repo} {rev : Rev}
    (ht : hasRev tgt rev = true) : missingB n false src tgt rev = [] := by
  cases hs : hasRev src rev
  · apply List.eq_nil_iff_forall_not_mem.mpr
    intro k hk
    have := missingB_sub_anc hn hk
    rw [anc_of_absent hs] at this
    cases this
  · obtain ⟨w, hw, hnil⟩ := walkB_held_nil (g := graph src) (has := hasRev tgt) (start := rev) hn
      (by rw [present_graph]; exact hs) ht
    unfold missingB
    simp only [Bool.false_eq_true, if_false, hw]
    exact hnil

structure SearchOK (fg : Bool) (src tgt : Repo) (rev : Rev) (m : List Rev) : Prop where
  sub : ∀ k ∈ m, k ∈ anc src rev
  notin : ∀ k ∈ m, hasRev tgt k = false
  cover : (fg = true ∨ closed tgt src = true) → ∀ k ∈ anc src rev, k ∈ m ∨ hasRev tgt k = true

theorem searchOK_missing (fg : Bool) (src tgt : Repo) (rev : Rev) :
    SearchOK fg src tgt rev (missing fg src tgt rev) where
  sub := fun _ hk => missing_sub_anc hk
  notin := fun _ hk => missing_not_in_target hk
  cover := fun hc _ hk => anc_cases_closed hc hk

theorem searchOK_missingB {n : Nat} (hn : 0 < n) (fg : Bool) (src tgt : Repo) (rev : Rev) :
    SearchOK fg src tgt rev (missingB n fg src tgt rev) where
  sub := fun _ hk => missingB_sub_anc hn hk
  notin := fun _ hk => missingB_not_in_target hn hk
  cover := fun hc _ hk => anc_casesB_closed hn hc hk

namespace SearchOK

/-- for an ancestry-closed target a search returns exactly the source ancestry the target lacks -/
theorem mem_iff {fg : Bool} {src tgt : Repo} {rev : Rev} {m : List Rev}
    (hok : SearchOK fg src tgt rev m) (hc : closed tgt src = true) (k : Rev) :
    k ∈ m ↔ k ∈ anc src rev ∧ hasRev tgt k = false :=
  ⟨fun h => ⟨hok.sub k h, hok.notin k h⟩, fun ⟨ha, ht⟩ =>
    (hok.cover (Or.inr hc) k ha).resolve_right (by rw [ht]; exact Bool.false_ne_true)⟩

theorem covers {fg : Bool} {src tgt : Repo} {rev : Rev} {m : List Rev}
    (hok : SearchOK fg src tgt rev m) (hc : fg = true ∨ closed tgt src = true) : Covers src tgt rev m :=
  ⟨hok.sub, hok.cover hc⟩

end SearchOK

theorem covers_missing {fg : Bool} {src tgt : Repo} (hc : fg = true ∨ closed tgt src = true) (rev : Rev) :
    Covers src tgt rev (missing fg src tgt rev) :=
  (searchOK_missing fg src tgt rev).covers hc

theorem covers_missingB {n : Nat} (hn : 0 < n) {fg : Bool} {src tgt : Repo}
    (hc : fg = true ∨ closed tgt src = true) (rev : Rev) : Covers src tgt rev (missingB n fg src tgt rev) :=
  (searchOK_missingB hn fg src tgt rev).covers hc

theorem mem_missing_closed {tgt src : Repo} (hc : closed tgt src = true) (fg : Bool) (rev k : Rev) :
    k ∈ missing fg src tgt rev ↔ k ∈ anc src rev ∧ hasRev tgt k = false :=
  (searchOK_missing fg src tgt rev).mem_iff hc k

theorem fetch_eq_fetchWithE (x : Exclusion) (ext fg : Bool) (src tgt : Repo) (rev : Rev) :
    fetch x ext fg src tgt rev =
      if !hasRev src rev && (fg || !hasRev tgt rev) then .error .noSuchRevision
      else fetchWithE ext src tgt (missing fg src tgt rev) (streamEntries x src (missing fg src tgt rev)) := by
  unfold fetch fetchWithE
  rfl

/-- a fetch succeeds exactly when it passes the `NoSuchRevision` guard and its copy succeeds -/
theorem guard_iff {ρ : Type} {src tgt : Repo} {rev : Rev} {fg : Bool} {f : Except Err ρ} {t' : ρ} :
    (if !hasRev src rev && (fg || !hasRev tgt rev) then .error .noSuchRevision else f) = .ok t' ↔
      (hasRev src rev = true ∨ (fg = false ∧ hasRev tgt rev = true)) ∧ f = .ok t' := by
  cases hasRev src rev <;> cases fg <;> cases hasRev tgt rev <;> simp

theorem fetchB_ok {n : Nat} {s : StreamKind} {ext fg : Bool} {src tgt t' : Repo} {rev : Rev}
    (h : fetchB n s ext fg src tgt rev = .ok t') :
    (hasRev src rev = true ∨ (fg = false ∧ hasRev tgt rev = true)) ∧
      fetchWithE ext src tgt (missingB n fg src tgt rev) (s.entries src (missingB n fg src tgt rev)) = .ok t' :=
  guard_iff.mp h

/-- the one-batch `fetch` is the copy of the search result `missing` with the stream sources' texts -/
theorem fetch_ok {x : Exclusion} {ext fg : Bool} {src tgt t' : Repo} {rev : Rev}
    (h : fetch x ext fg src tgt rev = .ok t') :
    (hasRev src rev = true ∨ (fg = false ∧ hasRev tgt rev = true)) ∧
      fetchWithE ext src tgt (missing fg src tgt rev) (streamEntries x src (missing fg src tgt rev)) = .ok t' :=
  guard_iff.mp (fetch_eq_fetchWithE .. ▸ h)

theorem fetchB_copied {n : Nat} {s : StreamKind} {ext fg : Bool} {src tgt t' : Repo} {rev : Rev}
    (h : fetchB n s ext fg src tgt rev = .ok t') :
    Copied src tgt t' (missingB n fg src tgt rev) (s.entries src (missingB n fg src tgt rev)) :=
  copied_fetchWith (fetchB_ok h).2

theorem fetch_copied {x : Exclusion} {ext fg : Bool} {src tgt t' : Repo} {rev : Rev}
    (h : fetch x ext fg src tgt rev = .ok t') :
    Copied src tgt t' (missing fg src tgt rev) (streamEntries x src (missing fg src tgt rev)) :=
  copied_fetchWith (fetch_ok h).2

end BreezyVerif.C03
