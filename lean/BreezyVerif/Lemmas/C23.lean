import BreezyVerif.Model.C23
/-! C23 — the symmetry between the two heavyweight checkouts; `Effect`, the list of what an operation can
do to the state, which the invariants are proved from instead of the code of the operations
(`step_effect`); duplicate-free tree parents; the shape of a step's effect on the log of tip writes. -/
namespace BreezyVerif.C23

theorem Entry.swap_swap (e : Entry) : e.swap.swap = e := by
  cases e with
  | mk br rev cause => cases br <;> rfl

theorem map_swap_swap (l : List Entry) : (l.map Entry.swap).map Entry.swap = l := by
  induction l with
  | nil => rfl
  | cons e l ih => simp [Entry.swap_swap, ih]

theorem swap_comp_swap : Entry.swap ∘ Entry.swap = id := funext Entry.swap_swap

theorem swapH_swapH (s : St) : swapH (swapH s) = s := by
  cases s
  simp [swapH, swap_comp_swap]

/-- `Effect s op x`: the results `x` that `step s op` can have, one case per way through the code of the
operation — refused with the state untouched, or one of the explicit new states.  The invariants of a step
are proved by cases on this list, not on the code.  No case but `onH2` mentions the second checkout. -/
inductive Effect : St → Op → St × Out → Prop
  | refused (s op out) : out ≠ .ok → Effect s op (s, out)
  | pullNothing (s) : Effect s .pull (s, .ok)
  | commitBound (s r) : s.bound = true → s.loc = s.master →
      Effect s (.commit .H r false)
        ({ s with graph := addRev s.graph r s.tH.parents, master := r, loc := r, tH := ⟨r, []⟩,
                  log := ⟨.loc, r, .boundCommit⟩ :: ⟨.master, r, .boundCommit⟩ :: s.log }, .ok)
  | commitLocal (s r l) : s.bound = l →
      Effect s (.commit .H r l)
        ({ s with graph := addRev s.graph r s.tH.parents, loc := r, tH := ⟨r, []⟩,
                  log := ⟨.loc, r, .commit⟩ :: s.log }, .ok)
  | commitM (s r) :
      Effect s (.commit .M r false)
        ({ s with graph := addRev s.graph r s.tM.parents, master := r, tM := ⟨r, []⟩,
                  log := ⟨.master, r, .commit⟩ :: s.log }, .ok)
  | commitL (s r) :
      Effect s (.commit .L r false)
        ({ s with graph := addRev s.graph r s.tL.parents, master := r, tL := ⟨r, []⟩,
                  log := ⟨.master, r, .commit⟩ :: s.log }, .ok)
  | updateBound (s n o) : s.bound = true → n = (if s.master == null then s.loc else s.master) →
      Effect s (.update .H)
        ({ s with loc := n, log := logIf (n != s.loc) ⟨.loc, n, .update⟩ s.log,
                  tH := updateTree s.graph s.tH n o }, .ok)
  | updateUnbound (s) : Effect s (.update .H) ({ s with tH := updateTree s.graph s.tH s.loc none }, .ok)
  | updateM (s) : Effect s (.update .M) ({ s with tM := updateTree s.graph s.tM s.master none }, .ok)
  | updateL (s) : Effect s (.update .L) ({ s with tL := updateTree s.graph s.tL s.master none }, .ok)
  | pull (s) :
      Effect s .pull
        ({ s with loc := s.master, log := ⟨.loc, s.master, .pull⟩ :: s.log,
                  tH := mkTree s.graph s.master s.tH.merges }, .ok)
  | bind (s) : Effect s .bind ({ s with bound := true }, .ok)
  | unbind (s) : Effect s .unbind ({ s with bound := false }, .ok)
  | commitO (s r) :
      Effect s (.commitO r) ({ s with graph := addRev s.graph r s.tO.parents, other := r, tO := ⟨r, []⟩ }, .ok)
  | syncO (s o') : Effect s .syncO ({ s with other := o', tO := pulledTree s.graph s.tO s.other o' }, .ok)
  /-- the master accepted, the checkout's branch has diverged: refused after the master has moved -/
  | pullOtherDiverged (s stop ow m') : s.bound = true → s.masterBound = false →
      updateRevisions s.graph s.master s.other stop ow = some m' →
      updateRevisions s.graph s.loc s.other stop ow = none →
      Effect s (.pullOther .H stop ow false)
        ({ s with master := m', log := logIf (m' != s.master) ⟨.master, m', .pull⟩ s.log }, .diverged)
  /-- the master is pulled first when the checkout is bound and the pull not local -/
  | pullOtherH (s stop ow l m' l') :
      (if s.bound && !l then updateRevisions s.graph s.master s.other stop ow else some s.master) = some m' →
      updateRevisions s.graph s.loc s.other stop ow = some l' →
      Effect s (.pullOther .H stop ow l)
        ({ s with master := m', loc := l', tH := pulledTree s.graph s.tH s.loc l',
                  log := logIf (l' != s.loc) ⟨.loc, l', .pull⟩
                    (logIf (m' != s.master) ⟨.master, m', .pull⟩ s.log) }, .ok)
  | pullOtherM (s stop ow m') :
      Effect s (.pullOther .M stop ow false)
        ({ s with master := m', log := logIf (m' != s.master) ⟨.master, m', .pull⟩ s.log,
                  tM := pulledTree s.graph s.tM s.master m' }, .ok)
  | pullOtherL (s stop ow m') :
      Effect s (.pullOther .L stop ow false)
        ({ s with master := m', log := logIf (m' != s.master) ⟨.master, m', .pull⟩ s.log,
                  tL := pulledTree s.graph s.tL s.master m' }, .ok)
  | push (s w p') : Effect s (.push w) ({ s with third := p' }, .ok)
  | bindM (s) : Effect s .bindM ({ s with masterBound := true }, .ok)
  | unbindM (s) : Effect s .unbindM ({ s with masterBound := false }, .ok)
  | onH2 (s op x) : Effect (swapH s) op x → Effect s (.onH2 op) (swapH x.1, x.2)

theorem commitH_effect (s : St) (r : Rev) (l : Bool) : Effect s (.commit .H r l) (commitH s r l) := by
  unfold commitH
  by_cases c1 : (l && !s.bound) = true
  · rw [if_pos c1]; exact .refused _ _ _ nofun
  · rw [if_neg c1]
    by_cases c2 : (!l && s.bound) = true
    · rw [if_pos c2]
      simp only [Bool.and_eq_true, Bool.not_eq_true'] at c2
      obtain ⟨rfl, hb⟩ := c2
      by_cases c3 : s.masterBound = true
      · rw [if_pos c3]; exact .refused _ _ _ nofun
      · rw [if_neg c3]
        by_cases c4 : (s.loc != s.master) = true
        · rw [if_pos c4]; exact .refused _ _ _ nofun
        · rw [if_neg c4]
          by_cases c5 : (!treeUpToDate s.tH s.master) = true
          · rw [if_pos c5]; exact .refused _ _ _ nofun
          · rw [if_neg c5]; exact .commitBound s r hb (by simpa using c4)
    · rw [if_neg c2]
      by_cases c5 : (!treeUpToDate s.tH s.loc) = true
      · rw [if_pos c5]; exact .refused _ _ _ nofun
      · rw [if_neg c5]
        refine .commitLocal s r l ?_
        cases l <;> cases hb : s.bound <;> simp [hb] at c1 c2 ⊢

theorem commitMaster_effect (s : St) (w : Who) (hw : w ≠ .H) (r : Rev) (l : Bool) :
    Effect s (.commit w r l) (commitMaster s w r l) := by
  unfold commitMaster
  by_cases c1 : s.masterBound = true
  · rw [if_pos c1]; exact .refused _ _ _ nofun
  · rw [if_neg c1]
    cases l with
    | true => exact .refused _ _ _ nofun
    | false =>
      cases w with
      | H => exact absurd rfl hw
      | M =>
        by_cases c3 : (!treeUpToDate s.tM s.master) = true
        · simp only [beq_self_eq_true, Bool.false_eq_true, if_false, if_true, c3]; exact .refused _ _ _ nofun
        · simp only [beq_self_eq_true, Bool.false_eq_true, if_false, if_true, c3]; exact .commitM s r
      | L =>
        have hw' : (Who.L == Who.M) = false := rfl
        by_cases c3 : (!treeUpToDate s.tL s.master) = true
        · simp only [hw', Bool.false_eq_true, if_false, c3, if_true]; exact .refused _ _ _ nofun
        · simp only [hw', Bool.false_eq_true, if_false, c3]; exact .commitL s r

theorem pullOtherH_effect (s : St) (stop : Option Rev) (ow l : Bool) :
    Effect s (.pullOther .H stop ow l) (pullOtherH s stop ow l) := by
  unfold pullOtherH
  by_cases c1 : (l && !s.bound) = true
  · rw [if_pos c1]; exact .refused _ _ _ nofun
  · rw [if_neg c1]
    by_cases c2 : (s.masterBound && s.bound && !l) = true
    · rw [if_pos c2]; exact .refused _ _ _ nofun
    · rw [if_neg c2]
      simp only
      cases hu : (if s.bound && !l then updateRevisions s.graph s.master s.other stop ow else some s.master) with
      | none => exact .refused _ _ _ nofun
      | some m' =>
        cases hu2 : updateRevisions s.graph s.loc s.other stop ow with
        | some l' => exact .pullOtherH s stop ow l m' l' hu hu2
        | none =>
          by_cases hv : (s.bound && !l) = true
          · rw [if_pos hv] at hu
            simp only [Bool.and_eq_true, Bool.not_eq_true'] at hv
            obtain ⟨hb, rfl⟩ := hv
            exact .pullOtherDiverged s stop ow m' hb (by simpa [hb] using c2) hu hu2
          · -- the master was "moved" to where it was: the state is untouched
            rw [if_neg hv] at hu
            cases hu
            have : ({ s with master := s.master, log := logIf (s.master != s.master) ⟨.master, s.master, .pull⟩ s.log } : St)
                = s := by cases s; simp [logIf]
            simp only [this]
            exact .refused _ _ _ nofun

theorem pullOtherMaster_effect (s : St) (w : Who) (hw : w ≠ .H) (stop : Option Rev) (ow l : Bool) :
    Effect s (.pullOther w stop ow l) (pullOtherMaster s w stop ow l) := by
  unfold pullOtherMaster
  by_cases c1 : s.masterBound = true
  · rw [if_pos c1]; exact .refused _ _ _ nofun
  · rw [if_neg c1]
    cases l with
    | true => exact .refused _ _ _ nofun
    | false =>
      cases updateRevisions s.graph s.master s.other stop ow with
      | none => exact .refused _ _ _ nofun
      | some m' =>
        cases w with
        | H => exact absurd rfl hw
        | M => exact .pullOtherM s stop ow m'
        | L => exact .pullOtherL s stop ow m'

theorem updateMasterTree_effect (s : St) (w : Who) (hw : w ≠ .H) : Effect s (.update w) (updateMasterTree s w) := by
  unfold updateMasterTree
  by_cases c1 : s.masterBound = true
  · rw [if_pos c1]; exact .refused _ _ _ nofun
  · rw [if_neg c1]
    cases w with
    | H => exact absurd rfl hw
    | M => exact .updateM s
    | L => exact .updateL s

theorem pushTo_effect (s : St) (w : Who) (src : Rev) : Effect s (.push w) (pushTo s src) := by
  unfold pushTo
  cases updateRevisions s.graph s.third src none false with
  | none => exact .refused _ _ _ nofun
  | some p' => exact .push s w p'

theorem step_effect (s : St) (op : Op) : Effect s op (step s op) := by
  induction op generalizing s with
  | commit w r l =>
    cases w with
    | H => exact commitH_effect s r l
    | M => exact commitMaster_effect s .M nofun r l
    | L => exact commitMaster_effect s .L nofun r l
  | update w =>
    cases w with
    | H =>
      show Effect s _ (updateH s)
      unfold updateH
      by_cases hb : s.bound = true
      · rw [if_pos hb]; exact .updateBound s _ _ hb rfl
      · rw [if_neg hb]; exact .updateUnbound s
    | M => exact updateMasterTree_effect s .M nofun
    | L => exact updateMasterTree_effect s .L nofun
  | pull =>
    show Effect s _ (pullH s)
    unfold pullH
    by_cases c1 : (s.master == null) = true
    · rw [if_pos c1]; exact .pullNothing s
    · rw [if_neg c1]
      by_cases c2 : isAncestor s.graph s.master s.loc = true
      · rw [if_pos c2]; exact .pullNothing s
      · rw [if_neg c2]
        by_cases c3 : (!isAncestor s.graph s.loc s.master) = true
        · rw [if_pos c3]; exact .refused _ _ _ nofun
        · rw [if_neg c3]; exact .pull s
  | bind => exact .bind s
  | unbind => exact .unbind s
  | commitO r => exact .commitO s r
  | syncO => exact .syncO s _
  | pullOther w st ow l =>
    cases w with
    | H => exact pullOtherH_effect s st ow l
    | M => exact pullOtherMaster_effect s .M nofun st ow l
    | L => exact pullOtherMaster_effect s .L nofun st ow l
  | push w => cases w <;> exact pushTo_effect s _ _
  | bindM => exact .bindM s
  | unbindM => exact .unbindM s
  | onH2 op ih => exact .onH2 s op _ (ih (swapH s))

@[simp, grind =] theorem mkTree_basis (g : Graph) (b : Rev) (ms : List Rev) : (mkTree g b ms).basis = b := rfl

/-- what `set_parent_trees` keeps is duplicate-free and disjoint from what was kept before -/
theorem acceptParents_nodup (g : Graph) (all : List Rev) :
    ∀ (ms acc : List Rev), (acceptParents g all acc ms).Nodup ∧ ∀ x ∈ acceptParents g all acc ms, x ∉ acc := by
  intro ms
  induction ms with
  | nil => intro acc; simp [acceptParents]
  | cons m rest ih =>
    intro acc
    unfold acceptParents
    split
    · exact ih acc
    · rename_i hc
      have hm : m ∉ acc := by
        intro hin
        apply hc
        simp [hin]
      obtain ⟨h1, h2⟩ := ih (m :: acc)
      refine ⟨List.nodup_cons.mpr ⟨fun hin => (h2 m hin) (by simp), h1⟩, ?_⟩
      intro x hx
      rcases List.mem_cons.mp hx with hx | hx
      · rw [hx]; exact hm
      · exact fun hin => (h2 x hx) (by simp [hin])

/-- the pending merges of a tree are duplicate-free and do not repeat the basis -/
def TreeOK (t : Tree) : Prop := t.basis ∉ t.merges ∧ t.merges.Nodup

theorem treeOK_mkTree (g : Graph) (b : Rev) (ms : List Rev) : TreeOK (mkTree g b ms) := by
  obtain ⟨h1, h2⟩ := acceptParents_nodup g (b :: ms) ms [b]
  exact ⟨fun hin => (h2 b hin) (by simp), h1⟩

theorem treeOK_single (r : Rev) : TreeOK ⟨r, []⟩ := ⟨by simp, by simp⟩

theorem treeOK_parents (t : Tree) (h : TreeOK t) : t.parents.Nodup := by
  unfold Tree.parents
  split
  · simp
  · exact List.nodup_cons.mpr ⟨h.1, h.2⟩

theorem treeOK_updateTree (g : Graph) (t : Tree) (target : Rev) (o : Option Rev) (h : TreeOK t) :
    TreeOK (updateTree g t target o) := by
  unfold updateTree
  split
  · exact treeOK_mkTree _ _ _
  · exact h

theorem treeOK_pulledTree (g : Graph) (t : Tree) (old new : Rev) (h : TreeOK t) :
    TreeOK (pulledTree g t old new) := by
  unfold pulledTree
  split
  · exact treeOK_mkTree _ _ _
  · exact h

/-- not the write of a checkout's own branch by a bound commit -/
def notBC (e : Entry) : Bool := !(e.br != .master && e.cause == .boundCommit)

theorem notBC_swap (e : Entry) : notBC e.swap = notBC e := by
  cases e with
  | mk br rev cause => cases br <;> rfl

/-- what a step may do to the log: push entries that are not bound-commit
writes of a checkout branch, or the (checkout, master) pair of a bound commit -/
def LogShape (s : St) (x : St × Out) : Prop :=
  (∃ es : List Entry, (∀ e ∈ es, notBC e = true) ∧ x.1.log = es ++ s.log) ∨
  (∃ (b : Br) (r : Rev), b ≠ .master ∧ x.1.log = ⟨b, r, .boundCommit⟩ :: ⟨.master, r, .boundCommit⟩ :: s.log)

theorem LogShape.same {s : St} {x : St × Out} (h : x.1.log = s.log) : LogShape s x :=
  Or.inl ⟨[], by simp, by simpa using h⟩

theorem LogShape.one {s : St} {x : St × Out} (e : Entry) (he : notBC e = true) (h : x.1.log = e :: s.log) :
    LogShape s x :=
  Or.inl ⟨[e], by intro e' he'; simp at he'; subst he'; exact he, by simpa using h⟩

theorem logIf_shape (c : Bool) (e : Entry) (l : List Entry) (he : notBC e = true) :
    ∃ es : List Entry, (∀ x ∈ es, notBC x = true) ∧ logIf c e l = es ++ l := by
  cases c
  · exact ⟨[], by simp, rfl⟩
  · refine ⟨[e], ?_, rfl⟩
    intro x hx; simp at hx; subst hx; exact he

theorem logShape_swap (s : St) (x : St × Out) (h : LogShape (swapH s) x) : LogShape s (swapH x.1, x.2) := by
  rcases h with ⟨es, hes, h2⟩ | ⟨b, r, hb, h2⟩
  · left
    refine ⟨es.map Entry.swap, ?_, ?_⟩
    · intro e he
      obtain ⟨e0, he0, rfl⟩ := List.mem_map.mp he
      rw [notBC_swap]; exact hes e0 he0
    · show (x.1.log.map Entry.swap) = _
      rw [h2]
      simp [swapH, swap_comp_swap]
  · right
    refine ⟨(Entry.swap ⟨b, r, .boundCommit⟩).br, r, ?_, ?_⟩
    · cases b <;> simp [Entry.swap] at hb ⊢
    · show (x.1.log.map Entry.swap) = _
      rw [h2]
      cases b <;> simp [swapH, swap_comp_swap, Entry.swap] at hb ⊢

theorem Effect.logShape {s : St} {op : Op} {x : St × Out} (h : Effect s op x) : LogShape s x := by
  induction h with
  | commitBound s r => exact .inr ⟨.loc, r, nofun, rfl⟩
  | commitLocal | commitM | commitL | pull => exact .one _ rfl rfl
  | updateBound | pullOtherDiverged | pullOtherM | pullOtherL => exact .inl (logIf_shape _ _ _ rfl)
  | pullOtherH s stop ow l m' l' =>
    obtain ⟨es1, h1, e1⟩ := logIf_shape (m' != s.master) ⟨.master, m', .pull⟩ s.log rfl
    obtain ⟨es2, h2, e2⟩ := logIf_shape (l' != s.loc) ⟨.loc, l', .pull⟩
      (logIf (m' != s.master) ⟨.master, m', .pull⟩ s.log) rfl
    refine .inl ⟨es2 ++ es1, fun e he => (List.mem_append.mp he).elim (h2 e) (h1 e), ?_⟩
    show logIf (l' != s.loc) ⟨.loc, l', .pull⟩ (logIf (m' != s.master) ⟨.master, m', .pull⟩ s.log) = _
    rw [e2, e1, List.append_assoc]
  | onH2 s op x _ ih => exact logShape_swap s x ih
  | _ => exact .same rfl

theorem masterFirst_cons_other (e : Entry) (l : List Entry) (he : notBC e = true) :
    masterFirst (e :: l) = masterFirst l := by
  have he' : (e.br != .master && e.cause == .boundCommit) = false := by
    unfold notBC at he
    cases hh : (e.br != .master && e.cause == .boundCommit)
    · rfl
    · rw [hh] at he; cases he
  cases l with
  | nil => simp [masterFirst, he']
  | cons m rest => simp [masterFirst, he']

theorem masterFirst_append_other (es l : List Entry) (h : ∀ e ∈ es, notBC e = true) :
    masterFirst (es ++ l) = masterFirst l := by
  induction es with
  | nil => rfl
  | cons e rest ih =>
    rw [List.cons_append, masterFirst_cons_other _ _ (h e (by simp))]
    exact ih (fun x hx => h x (by simp [hx]))

theorem masterFirst_pair (b : Br) (hb : b ≠ .master) (r : Rev) (l : List Entry) :
    masterFirst (⟨b, r, .boundCommit⟩ :: ⟨.master, r, .boundCommit⟩ :: l) = masterFirst l := by
  cases b <;> simp [masterFirst] at hb ⊢

theorem step_master_first (s : St) (op : Op) (h : masterFirst s.log = true) :
    masterFirst (step s op).1.log = true := by
  rcases (step_effect s op).logShape with ⟨es, hes, h2⟩ | ⟨b, r, hb, h2⟩
  · rw [h2, masterFirst_append_other es s.log hes]; exact h
  · rw [h2, masterFirst_pair b hb]; exact h

end BreezyVerif.C23
