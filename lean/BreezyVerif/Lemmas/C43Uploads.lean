import BreezyVerif.Lemmas.C43Delta
/-!
C43 — whole uploads without renames: the full upload onto any remote and onto an
empty one, the incremental upload assembled from its phases, sequences of uploads.
-/
namespace BreezyVerif.C43

theorem treeWF_facts {t : Tree} (h : treeWF t = true) :
    (∀ e ∈ t, t.find e.path = some e) ∧
    (∀ e ∈ t, e.path ≠ [] ∧ (e.path.dropLast = [] ∨ kindAt t e.path.dropLast = some .dir)
      ∧ (special e.path = true → e.kind ≠ .dir)) :=
  wf_facts [] t h fun _ he => nomatch he

/-- **A full upload onto any remote** whose root is a directory wherever a top-level entry is copied, which has no
directory where a file or symlink is copied and - for the uploader that leaves files alone - no file where a symlink
is copied: the upload succeeds, the slots of the copied entries show the tree and every other path shows what it
showed (nothing is deleted: `full_upload_keeps_stale_witness`). -/
theorem uploadFull_any (c : Cfg) (ign : List String) (t : Tree) (remote : Node) (hbad : c.badLinks = [])
    (hwf : treeWF t = true)
    (hclear : ∀ e ∈ t, keepFull ign e = true → (e.path.dropLast = [] → look remote [] = some .dir) ∧
      (e.kind ≠ .dir → look remote e.path ≠ some .dir) ∧
      (e.kind = .symlink → c.robustSymlinks = true ∨ ∀ x b, look remote e.path ≠ some (.file x b))) :
    ∃ r', uploadFull c ign t remote = (r', none) ∧ OverInv ign remote t r' := by
  obtain ⟨r', h1, h2⟩ := run_full_any c ign t hbad remote t [] { root := remote } hwf (treeWF_facts hwf).1
    (fun _ hd => nomatch hd) hclear ⟨rfl, fun q _ => by simp [Tree.find]⟩
  exact ⟨r', by rw [uploadFull, planFull_eq, h1], by simpa using h2⟩

/-- **full upload onto an empty remote** -/
theorem uploadFull_empty (c : Cfg) (ign : List String) (t : Tree) (hbad : c.badLinks = []) (hwf : treeWF t = true) :
    ∃ r', uploadFull c ign t (.dir []) = (r', none) ∧ FullInv ign t r' := by
  have hemp : ∀ q : Path, q ≠ [] → look (.dir []) q = none := fun q hq => by
    cases q with
    | nil => exact absurd rfl hq
    | cons y r => rfl
  obtain ⟨r', h1, h2, h3⟩ := uploadFull_any c ign t (.dir []) hbad hwf fun e he _ => by
    rw [hemp _ ((treeWF_facts hwf).2 e he).1]
    exact ⟨fun _ => rfl, fun _ => nofun, fun _ => Or.inr fun _ _ => nofun⟩
  refine ⟨r', h1, h2, fun q hq => ?_⟩
  rw [h3 q hq, hemp q hq]
  cases ignored ign q || special q with
  | true => rfl
  | false =>
    -- outside the tree the tree's listing is empty as well
    cases hf : Tree.find t q with
    | none => rw [Tree.look, hf]; rfl
    | some e => rfl

theorem FullInv.matches {ign : List String} {t : Tree} {r : Node} (h : FullInv ign t r) :
    Matches ign t r ∧ Clean ign r ∧ look r [] = some .dir := by
  refine ⟨?_, ?_, h.1⟩
  · intro p hp hig
    rw [h.2 p hp, hig]
    cases hs : special p with
    | false => left; simp
    | true => right; simp
  · intro p hig
    have hp : p ≠ [] := by
      intro h0; subst h0; simp [ignored] at hig
    rw [h.2 p hp, hig]; simp

/-- **the delta accounts for every path**: where the remote showed the old tree, the listing an upload of a correct
delta ends with (`v`: changed paths show the new tree, removed paths nothing, the rest what the remote showed) shows
the new tree -/
theorem delta_matches {ign : List String} {old new : Tree} {d : Delta} {remote : Node}
    (F : DeltaFacts ign old new d) (hm : Matches ign old remote) (q : Path) (hq : q ≠ []) (hi : ignored ign q = false)
    (v : Option Obs)
    (hv : v = if q ∈ mdL ign d ∨ q ∈ adL ign d ∨ q ∈ (kcL ign d).map (·.path) then new.look q
      else if q ∈ (rmL ign d).map (·.path) then none else look remote q) :
    v = new.look q ∨ (special q = true ∧ v = none) := by
  subst hv
  by_cases h1 : q ∈ mdL ign d ∨ q ∈ adL ign d ∨ q ∈ (kcL ign d).map (·.path)
  · rw [if_pos h1]; exact Or.inl rfl
  rw [if_neg h1]
  have hnad : q ∉ adL ign d := fun h => h1 (Or.inr (Or.inl h))
  by_cases h2 : q ∈ (rmL ign d).map (·.path)
  · rw [if_pos h2]
    obtain ⟨r, hr, he⟩ := List.mem_map.mp h2
    rcases (F.rm r hr).2.2.2.1 with h | h
    · rw [Tree.look, ← he, h]; exact Or.inl rfl
    · exact absurd (he ▸ h) hnad
  rw [if_neg h2]
  cases hn : Tree.find new q with
  | some e =>
    have hep := find_path hn
    rcases F.newC e (find_mem hn) (hep ▸ hi) with h | ⟨o, ho, h⟩
    · exact absurd (hep ▸ h) hnad
    · rw [hep] at ho h
      rcases h with ⟨_, h⟩ | ⟨_, h | h⟩
      · exact absurd h fun h => h1 (Or.inr (Or.inr h))
      · rcases hm q hq hi with g | g
        · left; rw [g, tlook_of_find ho, tlook_of_find hn, h]
        · exact Or.inr g
      · exact absurd h fun h => h1 (Or.inl h)
  | none =>
    cases ho : Tree.find old q with
    | some o =>
      have hop := find_path ho
      rcases F.oldC o (find_mem ho) (hop ▸ hi) with ⟨e, h⟩ | h
      · rw [hop, hn] at h; cases h
      · exact absurd (hop ▸ h) h2
    | none =>
      left
      rcases hm q hq hi with g | g
      · rw [g, Tree.look, Tree.look, ho, hn]
      · rw [g.2, Tree.look, hn]; rfl

/-- the exact listing after an incremental upload of a delta without renames (the hypotheses of
`incremental_upload_reaches_tree_partial`): changed paths show the new tree,
removed paths nothing, every other path - ignored or not - what it showed -/
theorem incremental_upload_frame (c : Cfg) (ign : List String) (old new : Tree) (d : Delta)
    (remote : Node) (hrob : c.robustSymlinks = true) (hbad : c.badLinks = []) (hnew : treeWF new = true)
    (hd : deltaOK ign old new d = true) (hroot : look remote [] = some .dir)
    (hm : Matches ign old remote) (hig : NoIgnoredBelow ign d remote) :
    ∃ r', uploadInc c ign new d remote = (r', none) ∧
      ∀ q, look r' q =
        if q ∈ mdL ign d ∨ q ∈ adL ign d ∨ q ∈ (kcL ign d).map (·.path) then new.look q
        else if q ∈ (rmL ign d).map (·.path) then none else look remote q := by
  have F := deltaFacts hd
  obtain ⟨hnfind, hnwf⟩ := treeWF_facts hnew
  -- what the remote shows at a path of the old tree
  have old_look : ∀ p o, p ≠ [] → ignored ign p = false → special p = false → old.find p = some o →
      look remote p = some o.obs := by
    intro p o hp hi hs ho
    rcases hm p hp hi with h | h
    · rw [h, tlook_of_find ho]
    · rw [hs] at h; cases h.1
  -- remote children of a removed / kind-changed directory are all removed
  have kids : ∀ p, p ≠ [] →
      (p ∈ (d.removed.filter fun r => r.kind == .dir).map (·.path) ∨
        p ∈ (d.kindChanged.filter fun k => k.oldKind == .dir).map (·.path)) →
      (∀ e ∈ old, isChildOf e.path p = true → ignored ign e.path = false → e.path ∈ (rmL ign d).map (·.path)) →
      ∀ x, look remote (p ++ [x]) ≠ none → p ++ [x] ∈ (rmL ign d).map (·.path) := by
    intro p hp hin hgone x hx
    cases hix : ignored ign (p ++ [x]) with
    | true => exact absurd (hig p hin x hix) hx
    | false =>
      rcases hm (p ++ [x]) (List.append_ne_nil_of_right_ne_nil _ (List.cons_ne_nil _ _)) hix with h | h
      · rw [h, Tree.look] at hx
        cases hf : Tree.find old (p ++ [x]) with
        | none => rw [hf] at hx; exact absurd rfl hx
        | some e =>
          have hep := find_path hf
          have := hgone e (find_mem hf) (hep ▸ (isChildOf_iff _ _).mpr ⟨x, rfl⟩) (hep ▸ hix)
          rwa [hep] at this
      · rw [special_snoc p x hp] at h; cases h.1
  -- removals
  have hR1 : ∀ r ∈ rmL ign d, RmOK remote r := by
    intro r hr
    obtain ⟨a, b, c', _, _⟩ := F.rm r hr
    obtain ⟨o, ho, hk⟩ := kindAt_some c'
    have hl := old_look r.path o a (mem_rmL.mp hr).2 b ho
    exact ⟨a, fun hkd => by rw [hl, obs_dir (hk.trans hkd)], fun hkd => ⟨o.obs, hl, obs_ne_dir (hk ▸ hkd)⟩⟩
  have hR3 : (rmL ign d).Pairwise fun a b => ∀ x, a.path ≠ b.path ++ [x] :=
    F.rmOrd.imp fun h x he => Bool.false_ne_true (h.2.symm.trans ((isChildOf_iff _ _).mpr ⟨x, he⟩))
  have hR4 : ∀ r ∈ rmL ign d, r.kind = .dir → ∀ x, look remote (r.path ++ [x]) ≠ none →
      r.path ++ [x] ∈ (rmL ign d).map (·.path) := by
    intro r hr hk x hx
    obtain ⟨a, _, _, _, g⟩ := F.rm r hr
    refine kids r.path a (Or.inl ?_) (g hk) x hx
    exact List.mem_map.mpr ⟨r, List.mem_filter.mpr ⟨(mem_rmL.mp hr).1, by rw [hk]; rfl⟩, rfl⟩
  obtain ⟨r1, run1, look1⟩ := run_removal_phase c new (rmL ign d) remote hR1
    (List.pairwise_map.mpr (F.rmOrd.imp fun h => h.1)) hR3 hR4
  -- kind changes
  have hK : ∀ k ∈ kcL ign d, KcOK new r1 k := by
    intro k hk
    obtain ⟨a, b, c', e, f, g, g2, i⟩ := F.kc k hk
    obtain ⟨o, ho, hok⟩ := kindAt_some e
    obtain ⟨n, hn, _⟩ := kindAt_some f
    have hl : look r1 k.path = some o.obs := by
      rw [look1, if_neg g2]
      exact old_look k.path o b (mem_kcL.mp hk).2 c' ho
    refine ⟨a, b, ⟨n, hn⟩, fun hkd => ⟨by rw [hl, obs_dir (hok.trans hkd)], fun x => ?_⟩,
      fun hkd => ⟨o.obs, hl, obs_ne_dir (hok ▸ hkd)⟩⟩
    rw [look1]
    split
    · rfl
    · next hin =>
      refine Classical.not_not.mp fun hx => hin (kids k.path b (Or.inr ?_) (i hkd) x hx)
      exact List.mem_map.mpr ⟨k, List.mem_filter.mpr ⟨(mem_kcL.mp hk).1, by rw [hkd]; rfl⟩, rfl⟩
  obtain ⟨r2, run2, look2⟩ := run_kinds c new hrob hbad (kcL ign d) { root := r1 } hK
    (List.pairwise_map.mpr F.kcOrd)
  replace look2 : ∀ q, look r2 q = if q ∈ (kcL ign d).map (·.path) then new.look q else look r1 q := look2
  -- directories of the new tree that are not added are in place after the kind changes
  have ad_not_kc : ∀ p ∈ adL ign d, p ∉ (kcL ign d).map (·.path) := by
    intro p hp hin
    obtain ⟨k, hk, he⟩ := List.mem_map.mp hin
    obtain ⟨_, _, _, e, _, _, g2, _⟩ := F.kc k hk
    obtain ⟨o, ho, _⟩ := kindAt_some e
    rcases (F.ad p hp).2.1 with h | h
    · rw [← he, ho] at h; cases h
    · exact g2 (he ▸ h)
  have dirs : ∀ par, par ≠ [] → ignored ign par = false → kindAt new par = some .dir → par ∉ adL ign d →
      look r2 par = some .dir := by
    intro par hp hi hk hnad
    obtain ⟨pe, hpe, hpk⟩ := kindAt_some hk
    have hpp := find_path hpe
    have hsp : special par = false :=
      Bool.eq_false_iff.mpr fun hs => (hnwf pe (find_mem hpe)).2.2 (hpp ▸ hs) hpk
    -- a modified entry is no directory
    have hnmd : par ∉ mdL ign d := fun h => by
      obtain ⟨_, _, e, _, he, _, hnd⟩ := F.md par h
      exact hnd (Option.some.inj (hpe.symm.trans he) ▸ hpk)
    -- neither added nor modified: what the removals and kind changes leave at `par` is what the upload ends with
    have := delta_matches F hm par hp hi _ rfl
    simp only [hnmd, hnad, false_or, hsp, Bool.false_eq_true, false_and, or_false] at this
    rw [look2, look1, this, tlook_of_find hpe, obs_dir hpk]
  have not_nil : ∀ (L : List Path), (∀ p ∈ L, p ≠ []) → ([] : Path) ∉ L := fun L h hin => h _ hin rfl
  have root2 : look r2 [] = some .dir := by
    rw [look2, if_neg, look1, if_neg, hroot]
    · exact fun hin => by obtain ⟨r, hr, he⟩ := List.mem_map.mp hin; exact (F.rm r hr).1 he
    · exact fun hin => by obtain ⟨k, hk, he⟩ := List.mem_map.mp hin; exact (F.kc k hk).2.1 he
  -- the parent of an entry of the new tree is in place, or is still to be added
  have parent_ok : ∀ p e, new.find p = some e → ignored ign p = false →
      look r2 p.dropLast = some .dir ∨ (p.dropLast ∈ adL ign d ∧ kindAt new p.dropLast = some .dir) := by
    intro p e he hi
    obtain ⟨a, b, _⟩ := hnwf e (find_mem he)
    rw [find_path he] at a b
    rcases b with b | b
    · rw [b]; exact Or.inl root2
    · by_cases hin : p.dropLast ∈ adL ign d
      · exact Or.inr ⟨hin, b⟩
      · refine Or.inl (dirs _ (fun h0 => ?_) (ignored_dropLast ign p a hi) b hin)
        obtain ⟨pe, hpe, _⟩ := kindAt_some (h0 ▸ b)
        exact (hnwf pe (find_mem hpe)).1 (find_path hpe)
  -- additions
  have hA : ∀ p ∈ adL ign d, AddOK new r2 (adL ign d) p := by
    intro p hp
    obtain ⟨a, b, ⟨e, he⟩⟩ := F.ad p hp
    refine ⟨a, ⟨e, he⟩, ?_, parent_ok p e he (mem_adL.mp hp).2⟩
    rw [look2, if_neg (ad_not_kc p hp), look1]
    split
    · rfl
    · next hin =>
      rcases hm p a (mem_adL.mp hp).2 with h | h
      · rw [h, Tree.look, b.resolve_right hin]; rfl
      · exact h.2
  have hAo : (adL ign d).Pairwise fun a b => a ≠ b ∧ ∀ x, a ≠ b ++ [x] :=
    F.adOrd.imp fun h => ⟨h.1, fun x he => Bool.false_ne_true (h.2.symm.trans ((isChildOf_iff _ _).mpr ⟨x, he⟩))⟩
  obtain ⟨r3, run3, look3⟩ := run_adds c new hrob hbad (adL ign d) { root := r2 } hA hAo
  replace look3 : ∀ q, look r3 q = if q ∈ adL ign d then new.look q else look r2 q := look3
  -- modifications
  have hM : ∀ p ∈ mdL ign d, ModOK new r3 p := by
    intro p hp
    obtain ⟨a, o, e, ho, he, hk, hnd⟩ := F.md p hp
    have hi := (mem_mdL.mp hp).2
    have hne : some e.obs ≠ some .dir := fun h => obs_ne_dir hnd (Option.some.inj h)
    refine ⟨a, ⟨e, he, hnd⟩, ?_, ?_⟩
    · rw [look3]
      rcases parent_ok p e he hi with h | ⟨h1, h2⟩
      · rw [if_neg, h]
        intro hin
        rw [(hA _ hin).2.2.1] at h
        cases h
      · obtain ⟨pe, hpe, hpk⟩ := kindAt_some h2
        rw [if_pos h1, tlook_of_find hpe, obs_dir hpk]
    · -- whichever phase wrote `p` last wrote a file or a symlink
      rw [look3]
      by_cases h3 : p ∈ adL ign d
      · rw [if_pos h3, tlook_of_find he]; exact hne
      rw [if_neg h3, look2]
      by_cases h2 : p ∈ (kcL ign d).map (·.path)
      · rw [if_pos h2, tlook_of_find he]; exact hne
      rw [if_neg h2, look1]
      by_cases h1 : p ∈ (rmL ign d).map (·.path)
      · rw [if_pos h1]; exact nofun
      rw [if_neg h1]
      rcases hm p a hi with h | h
      · rw [h, tlook_of_find ho]
        exact fun h => obs_ne_dir (hk ▸ hnd) (Option.some.inj h)
      · rw [h.2]; exact nofun
  obtain ⟨r4, run4, look4⟩ := run_mods c new hrob hbad (mdL ign d) { root := r3 } hM
  replace look4 : ∀ q, look r4 q = if q ∈ mdL ign d then new.look q else look r3 q := look4
  refine ⟨r4, ?_, ?_⟩
  · have hren : renameSteps ign (renOrder c d) 0 = [] :=
      renameSteps_ignored ign _ 0 fun r hr => F.ren r ((renOrder_mem c d r).mp hr)
    rw [uploadInc, planInc_eq, hren, List.append_nil, run_append, run_append, run_append, run1]
    simp only
    rw [run2]
    simp only
    rw [run3]
    simp only
    rw [run4]
  · intro q
    rw [look4 q, look3 q, look2 q, look1 q]
    by_cases h4 : q ∈ mdL ign d
    · simp only [h4, true_or, if_true]
    by_cases h3 : q ∈ adL ign d
    · simp only [h3, true_or, or_true, if_true, ite_self]
    · simp only [h4, h3, false_or, if_false]

/-- **An incremental upload of a delta without renames reaches the tree.**  For
the uploader with robust symlinks that escapes its link paths (`hrob`, `hbad`;
either rename discipline, either kind-change variant), every ignore list, every old tree, every well-formed new
tree and every delta that is a correct rename-free delta between them
(`deltaOK`: removals - whole subtrees, parents listed first -, kind changes
file/dir/symlink, additions - parents first, a path may be removed and added
again -, content / mode / target modifications; renames only where both sides are
ignored), on EVERY remote that shows the old tree on the paths that are not
ignored (`Matches`; ignored remote content is arbitrary except directly below a
directory that is removed, `NoIgnoredBelow`):
the upload succeeds, the remote then shows the new tree on every path that is
not ignored, every ignored path shows what it showed before, and the root is
still a directory.

Partial: deltas with renames are not covered (see
`upload_renames_reach_tree_partial` for top-level renames and the witnesses for
what goes wrong when renames meet other changes); the two special files must
not be removed or change kind (`special_file_removed_witness`). -/
theorem incremental_upload_reaches_tree_partial (c : Cfg) (ign : List String) (old new : Tree) (d : Delta)
    (remote : Node) (hrob : c.robustSymlinks = true) (hbad : c.badLinks = []) (hnew : treeWF new = true)
    (hd : deltaOK ign old new d = true) (hroot : look remote [] = some .dir)
    (hm : Matches ign old remote) (hig : NoIgnoredBelow ign d remote) :
    ∃ r', uploadInc c ign new d remote = (r', none) ∧ Matches ign new r' ∧
      (∀ q, ignored ign q = true → look r' q = look remote q) ∧ look r' [] = some .dir := by
  obtain ⟨r', hrun, hlook⟩ := incremental_upload_frame c ign old new d remote hrob hbad hnew hd hroot hm hig
  have F := deltaFacts hd
  -- a path that no list names
  have untouched : ∀ q, (∀ p ∈ mdL ign d, p ≠ q) → (∀ p ∈ adL ign d, p ≠ q) → (∀ k ∈ kcL ign d, k.path ≠ q) →
      (∀ r ∈ rmL ign d, r.path ≠ q) → look r' q = look remote q := by
    intro q h1 h2 h3 h4
    rw [hlook q, if_neg, if_neg]
    · exact fun h => by obtain ⟨k, hk, he⟩ := List.mem_map.mp h; exact h4 k hk he
    · rintro (h | h | h)
      · exact h1 q h rfl
      · exact h2 q h rfl
      · obtain ⟨k, hk, he⟩ := List.mem_map.mp h; exact h3 k hk he
  refine ⟨r', hrun, ?_, ?_, ?_⟩
  · exact fun q hq hi => delta_matches F hm q hq hi _ (hlook q)
  · intro q hi
    have hne : ∀ p, ignored ign p = false → p ≠ q := fun p hp he => Bool.false_ne_true (hp.symm.trans (he ▸ hi))
    exact untouched q (fun p hp => hne p (mem_mdL.mp hp).2) (fun p hp => hne p (mem_adL.mp hp).2)
      (fun k hk => hne _ (mem_kcL.mp hk).2) (fun r hr => hne _ (mem_rmL.mp hr).2)
  · rw [untouched, hroot]
    · exact fun p hp => (F.md p hp).1
    · exact fun p hp => (F.ad p hp).1
    · exact fun k hk => (F.kc k hk).2.1
    · exact fun r hr => (F.rm r hr).1

/-- upload the trees one after the other, each with its delta from the one before -/
def uploadSeq (c : Cfg) (ign : List String) : Node → List (Tree × Delta) → Node × Option Err
  | root, [] => (root, none)
  | root, (t, d) :: rest =>
    match uploadInc c ign t d root with
    | (r, none) => uploadSeq c ign r rest
    | (r, some e) => (r, some e)

/-- every tree is well formed and every delta is a correct delta without renames from the tree before -/
def seqOK (ign : List String) : Tree → List (Tree × Delta) → Bool
  | _, [] => true
  | prev, (t, d) :: rest => treeWF t && deltaOK ign prev t d && seqOK ign t rest

def lastTree : Tree → List (Tree × Delta) → Tree
  | t, [] => t
  | _, (t, _) :: rest => lastTree t rest

theorem uploadSeq_spec (c : Cfg) (ign : List String) (hrob : c.robustSymlinks = true) (hbad : c.badLinks = [])
    (steps : List (Tree × Delta)) (prev : Tree) (root : Node) (hok : seqOK ign prev steps = true)
    (hm : Matches ign prev root) (hc : Clean ign root) (hroot : look root [] = some .dir) :
    ∃ r, uploadSeq c ign root steps = (r, none) ∧ Matches ign (lastTree prev steps) r ∧ Clean ign r := by
  induction steps generalizing prev root with
  | nil => exact ⟨root, rfl, hm, hc⟩
  | cons st rest ih =>
    obtain ⟨t, d⟩ := st
    simp only [seqOK, Bool.and_eq_true] at hok
    obtain ⟨⟨h1, h2⟩, h3⟩ := hok
    obtain ⟨r1, e1, e2, e3, e4⟩ := incremental_upload_reaches_tree_partial c ign prev t d root hrob hbad h1 h2 hroot hm (hc.noIgnoredBelow d)
    have hc1 : Clean ign r1 := fun q hq => by rw [e3 q hq]; exact hc q hq
    obtain ⟨r, f1, f2, f3⟩ := ih t r1 h3 e2 hc1 e4
    exact ⟨r, by simp [uploadSeq, e1, f1], f2, f3⟩

end BreezyVerif.C43
