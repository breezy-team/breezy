import BreezyVerif.Model.C05
import BreezyVerif.Lemmas.C04
/-!
C05 — the data invariant (`InvA`): bounds, privacy of unsaved names, the
per-process covering invariant of pack operations, "data of every name that
was ever listed is still visible".  Preserved by every phase of every process.

A phase of process `i` changes the record of `i` and the shared state.  The
clauses of `InvA` about one process are collected in `ProcA`; they survive
every change of the shared state that only adds names (`ProcA.frame`), so for
each phase it remains to look at the acting process and at the shared clauses.
For `reload` and `save` that is `ProcA.merge_covers`: merging a process' names
into the listed ones drops a listed pack only for a private pack that holds its
data.
-/
namespace BreezyVerif.C05
open BreezyVerif.C04

@[simp] theorem upd_same {α : Type} (f : Nat → α) (i : Nat) (x : α) : upd f i x i = x := by simp [upd]

theorem upd_other {α : Type} (f : Nat → α) {i j : Nat} (x : α) (h : j ≠ i) : upd f i x j = f j := by
  simp [upd, h]

theorem forall_upd {α : Type} {C : Nat → α → Prop} {f : Nat → α} {i : Nat} {x : α} (hi : C i x)
    (ho : ∀ p, p ≠ i → C p (f p)) (p : Nat) : C p (upd f i x p) := by
  by_cases hp : p = i
  · rw [hp, upd_same]; exact hi
  · rw [upd_other _ _ hp]; exact ho p hp

theorem upd_field {α β : Type} (g : α → β) (f : Nat → α) {i : Nat} {x : α} (h : g x = g (f i)) (p : Nat) :
    g (upd f i x p) = g (f p) := by
  by_cases hp : p = i
  · rw [hp, upd_same, h]
  · rw [upd_other _ _ hp]

structure InvA (s : Sys) : Prop where
  bound_disk : ∀ n ∈ s.disk.names, n < s.next
  bound_ever : ∀ n ∈ s.ever, n < s.next
  bound_names : ∀ p, ∀ n ∈ (s.procs p).names, n < s.next
  bound_atLoad : ∀ p, ∀ n ∈ (s.procs p).atLoad, n < s.next
  /-- what is listed has been listed -/
  ev : ∀ n ∈ s.disk.names, n ∈ s.ever
  /-- `_packs_at_load` was read from `pack-names` -/
  al : ∀ p, ∀ n ∈ (s.procs p).atLoad, n ∈ s.ever
  /-- a name a process holds but did not load was created by it and has never been listed -/
  priv : ∀ p, ∀ n ∈ (s.procs p).names, n ∉ (s.procs p).atLoad → s.owner n = p ∧ n ∉ s.ever
  /-- what a process is about to drop is covered by what it is about to add -/
  covers : ∀ p, ∀ n ∈ (s.procs p).atLoad, n ∉ (s.procs p).names → ∀ r ∈ s.content n,
      ∃ m ∈ (s.procs p).names, m ∉ (s.procs p).atLoad ∧ r ∈ s.content m
  /-- the revisions of every name that was ever listed are still visible -/
  kept : ∀ n ∈ s.ever, ∀ r ∈ s.content n, ∃ m ∈ s.disk.names, r ∈ s.content m
  /-- committed revisions belong to names that have been listed -/
  comm : ∀ r ∈ s.committed, ∃ n ∈ s.ever, r ∈ s.content n

theorem names_newPack (chk : Bool) (d : Disk) (tmp : File) (m : Nat) :
    (run d (newPackOps chk tmp m)).names = d.names :=
  run_names_noPut _ _ (newPackOps_noPut chk tmp m)

theorem names_saveStep (d : Disk) (N : List Nat) (clear : Bool) (c : List Nat) :
    (run d ([Op.lock, Op.putNames N] ++ (if clear then clearOps d c else []) ++ [Op.unlock])).names = N := by
  rw [run_append, run_append, run_names_noPut [Op.unlock] _ (by simp [isPut])]
  cases clear
  · rfl
  · exact run_names_noPut _ _ (clearOps_noPut d c)

theorem isPut_obsolete (chk : Bool) (l : List Nat) : ∀ op ∈ l.flatMap (obsoleteOps chk), isPut op = false := by
  intro op hop
  obtain ⟨n, _, hop⟩ := List.mem_flatMap.mp hop
  obtain ⟨a, b, rfl, _⟩ := mem_obsoleteOps hop
  rfl

theorem reloadProc_atLoad (d : Disk) (p : Proc) : (reloadProc d p).atLoad = d.names := rfl

theorem reloadProc_names (d : Disk) (p : Proc) :
    (reloadProc d p).names = mergeNames d.names p.atLoad p.names := rfl

/-- after a reload the private names are among the private names before -/
theorem reloadProc_private (d : Disk) (p : Proc) (n : Nat)
    (hn : n ∈ (reloadProc d p).names) (hna : n ∉ (reloadProc d p).atLoad) :
    n ∈ p.names ∧ n ∉ p.atLoad := by
  rw [reloadProc_names] at hn
  rw [reloadProc_atLoad] at hna
  rcases mem_mergeNames.mp hn with ⟨hd, _⟩ | ⟨hm, ha, _⟩
  · exact absurd hd hna
  · exact ⟨hm, ha⟩

/-- the clauses of `InvA` about process `p` with record `x`, given the shared ghost state -/
structure ProcA (next : Nat) (ever : List Nat) (owner : Nat → Nat) (content : Nat → List Nat)
    (p : Nat) (x : Proc) : Prop where
  bn : ∀ n ∈ x.names, n < next
  ba : ∀ n ∈ x.atLoad, n < next
  al : ∀ n ∈ x.atLoad, n ∈ ever
  priv : ∀ n ∈ x.names, n ∉ x.atLoad → owner n = p ∧ n ∉ ever
  covers : ∀ n ∈ x.atLoad, n ∉ x.names → ∀ r ∈ content n, ∃ m ∈ x.names, m ∉ x.atLoad ∧ r ∈ content m

theorem InvA.proc {s : Sys} (h : InvA s) (p : Nat) :
    ProcA s.next s.ever s.owner s.content p (s.procs p) :=
  ⟨h.bound_names p, h.bound_atLoad p, h.al p, h.priv p, h.covers p⟩

theorem InvA.of {s : Sys} (bd : ∀ n ∈ s.disk.names, n < s.next) (be : ∀ n ∈ s.ever, n < s.next)
    (ev : ∀ n ∈ s.disk.names, n ∈ s.ever)
    (kept : ∀ n ∈ s.ever, ∀ r ∈ s.content n, ∃ m ∈ s.disk.names, r ∈ s.content m)
    (comm : ∀ r ∈ s.committed, ∃ n ∈ s.ever, r ∈ s.content n)
    (hp : ∀ p, ProcA s.next s.ever s.owner s.content p (s.procs p)) : InvA s :=
  ⟨bd, be, fun p => (hp p).bn, fun p => (hp p).ba, ev, fun p => (hp p).al, fun p => (hp p).priv,
    fun p => (hp p).covers, kept, comm⟩

section
variable {next next' : Nat} {ever ever' : List Nat} {owner owner' : Nat → Nat}
  {content content' : Nat → List Nat} {p : Nat} {x x' : Proc}

theorem ProcA.frame (h : ProcA next ever owner content p x) (hn : next ≤ next')
    (he : ∀ n ∈ ever, n ∈ ever') (ho : ∀ n, n < next → owner' n = owner n)
    (hc : ∀ n, n < next → content' n = content n)
    (hpriv : ∀ n ∈ x.names, n ∉ x.atLoad → n ∈ ever' → n ∈ ever) :
    ProcA next' ever' owner' content' p x := by
  refine ⟨fun n hx => Nat.lt_of_lt_of_le (h.bn n hx) hn, fun n hx => Nat.lt_of_lt_of_le (h.ba n hx) hn,
    fun n hx => he n (h.al n hx), fun n hx hna => ?_, fun n hx hnn r hr => ?_⟩
  · rw [ho n (h.bn n hx)]
    exact ⟨(h.priv n hx hna).1, fun e => (h.priv n hx hna).2 (hpriv n hx hna e)⟩
  · rw [hc n (h.ba n hx)] at hr
    obtain ⟨m, hm, hma, hrm⟩ := h.covers n hx hnn r hr
    exact ⟨m, hm, hma, by rw [hc m (h.bn m hm)]; exact hrm⟩

theorem ProcA.congr (h : ProcA next ever owner content p x) (hn : x'.names = x.names)
    (ha : x'.atLoad = x.atLoad) : ProcA next ever owner content p x' :=
  ⟨by rw [hn]; exact h.bn, by rw [ha]; exact h.ba, by rw [ha]; exact h.al, by rw [hn, ha]; exact h.priv,
    by rw [hn, ha]; exact h.covers⟩

/-- a private pack has never been listed, so the merge adds it -/
theorem ProcA.private_merged (h : ProcA next ever owner content p x) {listed : List Nat}
    (hev : ∀ n ∈ listed, n ∈ ever) {m : Nat} (hm : m ∈ x.names) (hma : m ∉ x.atLoad) :
    m ∈ mergeNames listed x.atLoad x.names :=
  mem_mergeNames.mpr (.inr ⟨hm, hma, fun hd => (h.priv m hm hma).2 (hev m hd)⟩)

/-- **The three-way merge loses no data**: what a listed pack `m` holds is held by a pack of the merge of the
process' names into the list: `m` itself or, when the process dropped `m`, one of its private packs.  (`listed` is
`pack-names` as `reload_pack_names` or `_save_pack_names` reads it.) -/
theorem ProcA.merge_covers (h : ProcA next ever owner content p x) {listed : List Nat}
    (hev : ∀ n ∈ listed, n ∈ ever) {m r : Nat} (hm : m ∈ listed) (hr : r ∈ content m) :
    ∃ m' ∈ mergeNames listed x.atLoad x.names, r ∈ content m' ∧ (m' = m ∨ (m' ∈ x.names ∧ m' ∉ x.atLoad)) := by
  by_cases hdrop : m ∈ x.atLoad ∧ m ∉ x.names
  · obtain ⟨m', hm', hma', hrm'⟩ := h.covers m hdrop.1 hdrop.2 r hr
    exact ⟨m', h.private_merged hev hm' hma', hrm', .inr ⟨hm', hma'⟩⟩
  · exact ⟨m, mem_mergeNames.mpr (.inl ⟨hm, hdrop⟩), hr, .inl rfl⟩

/-- `reload_pack_names`: the merge keeps the private names and covers what it drops by them -/
theorem ProcA.reload (h : ProcA next ever owner content p x) (d : Disk) (hb : ∀ n ∈ d.names, n < next)
    (hev : ∀ n ∈ d.names, n ∈ ever) : ProcA next ever owner content p (reloadProc d x) := by
  refine ⟨fun n hn => ?_, hb, hev, fun n hn hna => ?_, fun n hn hnn r hr => ?_⟩
  · rcases mem_mergeNames.mp hn with ⟨h1, _⟩ | ⟨h1, _, _⟩
    · exact hb n h1
    · exact h.bn n h1
  · have := reloadProc_private d x n hn hna
    exact h.priv n this.1 this.2
  · -- a listed name the merge leaves out is covered by a private name, which is not listed
    obtain ⟨m, hm, hrm, rfl | hp⟩ := h.merge_covers hev hn hr
    · exact absurd hm hnn
    · exact ⟨m, hm, fun hd => (h.priv m hp.1 hp.2).2 (hev m hd), hrm⟩

theorem ProcA.replace (h : ProcA next ever owner content p x) (keep : List Nat) (m : Nat)
    (hnames : x'.names = keep ++ [m]) (hat : x'.atLoad = x.atLoad) (hkeep : ∀ n ∈ keep, n ∈ x.names)
    (hm : m < next) (hma : m ∉ x.atLoad) (hme : m ∉ ever) (hown : owner m = p)
    (hv : ∀ n ∈ x.names, n ∉ keep → ∀ r ∈ content n, r ∈ content m) :
    ProcA next ever owner content p x' := by
  refine ⟨fun n hn => ?_, by rw [hat]; exact h.ba, by rw [hat]; exact h.al, fun n hn hna => ?_,
    fun n hn hnn r hr => ?_⟩
  · rw [hnames] at hn
    rcases List.mem_append.mp hn with hn | hn
    · exact h.bn n (hkeep n hn)
    · exact List.mem_singleton.mp hn ▸ hm
  · rw [hnames] at hn
    rw [hat] at hna
    rcases List.mem_append.mp hn with hn | hn
    · exact h.priv n (hkeep n hn) hna
    · exact List.mem_singleton.mp hn ▸ ⟨hown, hme⟩
  · rw [hat] at hn
    simp only [hnames, hat, List.mem_append, List.mem_singleton, not_or] at hnn ⊢
    -- the data of `n` is in a pack the process held: kept, or dropped now and then in `m`
    have held : ∃ k ∈ x.names, (k ∈ keep → k ∉ x.atLoad) ∧ r ∈ content k := by
      by_cases hN : n ∈ x.names
      · exact ⟨n, hN, fun hk => absurd hk hnn.1, hr⟩
      · obtain ⟨k, hk, hka, hrk⟩ := h.covers n hn hN r hr
        exact ⟨k, hk, fun _ => hka, hrk⟩
    obtain ⟨k, hk, hka, hrk⟩ := held
    by_cases hkk : k ∈ keep
    · exact ⟨k, .inl hkk, hka hkk, hrk⟩
    · exact ⟨m, .inr rfl, hma, hv k hk hkk r hrk⟩

end

theorem invA_reload (s : Sys) (i : Nat) (h : InvA s) : InvA (doReload s i) :=
  .of h.bound_disk h.bound_ever h.ev h.kept h.comm
    (forall_upd ((h.proc i).reload s.disk h.bound_disk h.ev) fun p _ => h.proc p)

theorem content_upd_lt (s : Sys) (v : List Nat) {x : Nat} (hx : x < s.next) :
    upd s.content (s.next + 1) v x = s.content x := by
  apply upd_other; omega

theorem owner_upd_lt (s : Sys) (i : Nat) {x : Nat} (hx : x < s.next) :
    upd s.owner (s.next + 1) i x = s.owner x := by
  apply upd_other; omega

/-- the common shape of `finish` and `repack`: process `i` replaces its names by
`keep ++ [next+1]` with `keep ⊆ names`, the new pack holds `v`, and everything
of the dropped names is in `v` -/
theorem invA_newPack (s : Sys) (i : Nat) (h : InvA s) (d' : Disk) (hd : d'.names = s.disk.names)
    (keep : List Nat) (v : List Nat) (p' : Proc)
    (hnames : p'.names = keep ++ [s.next + 1]) (hat : p'.atLoad = (s.procs i).atLoad)
    (hkeep : ∀ n ∈ keep, n ∈ (s.procs i).names)
    (hv : ∀ n ∈ (s.procs i).names, n ∉ keep → ∀ r ∈ s.content n, r ∈ v) :
    InvA { s with disk := d', procs := upd s.procs i p', content := upd s.content (s.next + 1) v,
                  owner := upd s.owner (s.next + 1) i, next := s.next + 2 } := by
  have lt2 : ∀ {n}, n < s.next → n < s.next + 2 := fun hn => by omega
  have frame : ∀ p, ProcA (s.next + 2) s.ever (upd s.owner (s.next + 1) i) (upd s.content (s.next + 1) v) p
      (s.procs p) := fun p =>
    (h.proc p).frame (by omega) (fun _ hn => hn) (fun _ hn => owner_upd_lt s i hn)
      (fun _ hn => content_upd_lt s v hn) fun _ _ _ he => he
  refine .of ?_ (fun n hn => lt2 (h.bound_ever n hn)) ?_ ?_ ?_ (forall_upd ?_ fun p _ => frame p)
  · intro n hn; rw [hd] at hn; exact lt2 (h.bound_disk n hn)
  · intro n hn; rw [hd] at hn; exact h.ev n hn
  · intro n hn r hr
    have hr' : r ∈ s.content n := by rw [← content_upd_lt s v (h.bound_ever n hn)]; exact hr
    obtain ⟨m, hm, hrm⟩ := h.kept n hn r hr'
    show ∃ m ∈ d'.names, r ∈ upd s.content (s.next + 1) v m
    exact ⟨m, hd ▸ hm, by rw [content_upd_lt s v (h.bound_disk m hm)]; exact hrm⟩
  · intro r hr
    obtain ⟨n, hn, hrn⟩ := h.comm r hr
    exact ⟨n, hn, by show r ∈ upd s.content (s.next + 1) v n; rw [content_upd_lt s v (h.bound_ever n hn)]; exact hrn⟩
  · refine (frame i).replace keep (s.next + 1) hnames hat hkeep (by omega)
      (fun hx => by have := h.bound_atLoad i _ hx; omega) (fun hx => by have := h.bound_ever _ hx; omega)
      (upd_same _ _ _) fun n hn hk r hr => ?_
    rw [upd_same]
    rw [content_upd_lt s v (h.bound_names i n hn)] at hr
    exact hv n hn hk r hr

theorem mem_privateNames {p : Proc} {n : Nat} : n ∈ privateNames p ↔ n ∈ p.names ∧ n ∉ p.atLoad := by
  simp [privateNames]

/-- the save with the disk after any operations that replace `pack-names` by the merge (the whole
phase, or only its atomic part) -/
theorem invA_saveAux (s : Sys) (i : Nat) (h : InvA s) (d' : Disk) (p' : Proc)
    (hdn : d'.names = mergeNames s.disk.names (s.procs i).atLoad (s.procs i).names)
    (hn : p'.names = mergeNames s.disk.names (s.procs i).atLoad (s.procs i).names)
    (ha : p'.atLoad = mergeNames s.disk.names (s.procs i).atLoad (s.procs i).names) :
    InvA { s with disk := d', procs := upd s.procs i p',
                  ever := s.ever ++ mergeNames s.disk.names (s.procs i).atLoad (s.procs i).names,
                  committed := s.committed ++ (privateNames (s.procs i)).flatMap s.content } := by
  have hM := fun n => mem_mergeNames_cases (disk := s.disk.names) (atLoad := (s.procs i).atLoad)
    (mine := (s.procs i).names) (n := n)
  have hMlt : ∀ n, n ∈ mergeNames s.disk.names (s.procs i).atLoad (s.procs i).names → n < s.next :=
    fun n hn => (hM n hn).elim (h.bound_disk n) fun h1 => h.bound_names i n h1.1
  refine .of ?_ ?_ ?_ ?_ ?_ (forall_upd ?_ fun p hp => ?_)
  · intro n hn
    exact hMlt n (hdn ▸ hn)
  · intro n hn
    exact (List.mem_append.mp hn).elim (h.bound_ever n) (hMlt n)
  · intro n hn
    exact List.mem_append_right _ (hdn ▸ hn)
  · intro n hn r hr
    show ∃ m ∈ d'.names, r ∈ s.content m
    rw [hdn]
    rcases List.mem_append.mp hn with hn | hn
    · obtain ⟨m, hm, hrm⟩ := h.kept n hn r hr
      obtain ⟨m', hm', hrm', -⟩ := (h.proc i).merge_covers h.ev hm hrm
      exact ⟨m', hm', hrm'⟩
    · exact ⟨n, hn, hr⟩
  · intro r hr
    rcases List.mem_append.mp hr with hr | hr
    · obtain ⟨n, hn, hrn⟩ := h.comm r hr
      exact ⟨n, List.mem_append_left _ hn, hrn⟩
    · simp only [List.mem_flatMap, mem_privateNames] at hr
      obtain ⟨n, ⟨hn, hna⟩, hrn⟩ := hr
      exact ⟨n, List.mem_append_right _ ((h.proc i).private_merged h.ev hn hna), hrn⟩
  · -- the saving process holds exactly what it wrote: no private names, nothing dropped
    have e : p'.atLoad = p'.names := ha.trans hn.symm
    exact ⟨fun n hx => hMlt n (hn ▸ hx), fun n hx => hMlt n (ha ▸ hx),
      fun n hx => List.mem_append_right _ (ha ▸ hx), fun n hx hna => absurd (e.symm ▸ hx) hna,
      fun n hx hnn => absurd (e ▸ hx) hnn⟩
  · -- a private name of another process is owned by it, so it is not among the names `i` lists
    refine (h.proc p).frame (Nat.le_refl _) (fun n hn => List.mem_append_left _ hn) (fun _ _ => rfl)
      (fun _ _ => rfl) fun n hn hna he => ?_
    rcases List.mem_append.mp he with he | he
    · exact he
    · rcases hM n he with h1 | ⟨h1, h2⟩
      · exact h.ev n h1
      · exact absurd ((h.priv p n hn hna).1.symm.trans (h.priv i n h1 h2).1) hp

theorem invA_save (s : Sys) (i : Nat) (clear : Bool) (h : InvA s) : InvA (step s i (.save clear)) :=
  invA_saveAux s i h _ _ (names_saveStep _ _ _ _) rfl rfl

theorem invA_files (s : Sys) (i : Nat) (h : InvA s) (d' : Disk) (hd : d'.names = s.disk.names) (p' : Proc)
    (hn : p'.names = (s.procs i).names) (ha : p'.atLoad = (s.procs i).atLoad) :
    InvA { s with disk := d', procs := upd s.procs i p' } := by
  refine .of ?_ h.bound_ever ?_ ?_ h.comm (forall_upd ((h.proc i).congr hn ha) fun p _ => h.proc p)
  · intro n hn'; rw [hd] at hn'; exact h.bound_disk n hn'
  · intro n hn'; rw [hd] at hn'; exact h.ev n hn'
  · intro n hn' r hr
    obtain ⟨m, hm, hrm⟩ := h.kept n hn' r hr
    exact ⟨m, hd ▸ hm, hrm⟩

theorem upd_self {α : Type} (f : Nat → α) (i : Nat) : upd f i (f i) = f := by
  funext j; simp only [upd]; split
  · rename_i hj; rw [hj]
  · rfl

/-- `InvA` does not look at files -/
theorem invA_disk (s : Sys) (h : InvA s) (d' : Disk) (hd : d'.names = s.disk.names) :
    InvA { s with disk := d' } := by
  have := invA_files s 0 h d' hd (s.procs 0) rfl rfl
  rwa [upd_self] at this

theorem invA_step (s : Sys) (i : Nat) (a : Act) (h : InvA s) : InvA (step s i a) := by
  cases a with
  | reload => exact invA_reload s i h
  | finish revs =>
    simp only [step]
    exact invA_newPack s i h _ (names_newPack _ _ _ _) (s.procs i).names revs _ rfl rfl
      (fun n hn => hn) (fun n hn hk => absurd hn hk)
  | repack sel =>
    simp only [step]
    split
    · refine invA_newPack s i h _ (names_newPack _ _ _ _)
        ((s.procs i).names.filter (fun n => !sel.contains n)) (sel.flatMap s.content) _ rfl rfl
        (fun n hn => (List.mem_filter.mp hn).1) ?_
      intro n hn hk r hr
      have : n ∈ sel := by
        by_cases hs : n ∈ sel
        · exact hs
        · exact absurd (List.mem_filter.mpr ⟨hn, by simpa using hs⟩) hk
      exact List.mem_flatMap.mpr ⟨n, this, hr⟩
    · exact invA_reload s i h
  | save clear => exact invA_save s i clear h
  | obsolete =>
    simp only [step]
    exact invA_files s i h _ (run_names_noPut _ _ (isPut_obsolete _ _)) _ rfl rfl
  | clearAll => exact invA_disk s h _ (run_names_noPut _ _ (clearOps_noPut _ _))

theorem invA_exec (s : Sys) (sched : Schedule) (h : InvA s) : InvA (exec s sched) :=
  List.foldlRecOn (motive := InvA) sched _ h fun s h a _ => invA_step s a.1 a.2 h

theorem invA_init (chk : Bool) (d : Disk) (content : Nat → List Nat) (next : Nat)
    (hb : ∀ n ∈ d.names, n < next) : InvA (Sys.init chk d content next) := by
  refine ⟨hb, hb, ?_, ?_, fun n hn => hn, ?_, ?_, ?_, ?_, ?_⟩
  · intro p n hn; cases hn
  · intro p n hn; cases hn
  · intro p n hn; cases hn
  · intro p n hn; cases hn
  · intro p n hn; cases hn
  · intro n hn r hr; exact ⟨n, hn, hr⟩
  · intro r hr
    simp only [Sys.init, List.mem_flatMap] at hr
    exact hr

end BreezyVerif.C05
