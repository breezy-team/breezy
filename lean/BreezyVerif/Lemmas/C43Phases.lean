import BreezyVerif.Lemmas.C43Steps
/-!
C43 — the phases after the removals (kind changes, additions, modifications), each
an instance of `run_phase`, and the full upload entry by entry.
-/
namespace BreezyVerif.C43

/-- **a phase of the upload**: the elements of `xs` are handled one after the other; handling `x` writes the
listing `v` at `key x` and nothing else, and keeps what the later elements rely on (`Inv`).  Then the phase
writes `v` at all the keys. -/
theorem run_phase {α : Type} (c : Cfg) (t : Tree) (steps : α → List Step) (key : α → Path) (v : Path → Option Obs)
    (Inv : List α → Node → Prop)
    (hstep : ∀ x rest (s : State), Inv (x :: rest) s.root →
      ∃ r', run c t s (steps x) = ({ s with root := r' }, none) ∧
        (∀ q, look r' q = if q = key x then v (key x) else look s.root q) ∧ Inv rest r')
    (xs : List α) (s : State) (h : Inv xs s.root) :
    ∃ r', run c t s (xs.flatMap steps) = ({ s with root := r' }, none) ∧
      ∀ q, look r' q = if q ∈ xs.map key then v q else look s.root q := by
  induction xs generalizing s with
  | nil => exact ⟨s.root, rfl, fun q => by simp⟩
  | cons x xs ih =>
    obtain ⟨r1, c1, c2, hinv⟩ := hstep x xs s h
    obtain ⟨r', f1, f2⟩ := ih { s with root := r1 } hinv
    refine ⟨r', by rw [List.flatMap_cons, run_append, c1]; exact f1, fun q => ?_⟩
    rw [f2 q, show look r1 q = _ from c2 q]
    by_cases hq : q = key x
    · simp [hq]
    · simp [hq]

def kcSteps (c : Cfg) (t : Tree) (k : KindChanged) : List Step :=
  (match k.oldKind with
    | .dir => [Step.rmdir (if c.kindChangeAtNew then k.path else k.old)]
    | _ => [Step.delete (if c.kindChangeAtNew then k.path else k.old)]) ++ createSteps c t k.path

def KcOK (t : Tree) (root : Node) (k : KindChanged) : Prop :=
  k.old = k.path ∧ k.path ≠ [] ∧ (∃ e, t.find k.path = some e) ∧
  (k.oldKind = .dir → look root k.path = some .dir ∧ ∀ x, look root (k.path ++ [x]) = none) ∧
  (k.oldKind ≠ .dir → ∃ o, look root k.path = some o ∧ o ≠ .dir)

theorem KcOK.present {t : Tree} {root : Node} {k : KindChanged} (h : KcOK t root k) : look root k.path ≠ none := by
  obtain ⟨_, _, _, h4, h5⟩ := h
  by_cases hk : k.oldKind = .dir
  · rw [(h4 hk).1]; exact nofun
  · obtain ⟨o, ho, _⟩ := h5 hk
    rw [ho]; exact nofun

theorem run_kinds (c : Cfg) (t : Tree) (hrob : c.robustSymlinks = true) (hbad : c.badLinks = []) (ks : List KindChanged) (s : State)
    (h : ∀ k ∈ ks, KcOK t s.root k) (hn : (ks.map (·.path)).Nodup) :
    ∃ r', run c t s (ks.flatMap (kcSteps c t)) = ({ s with root := r' }, none) ∧
      ∀ q, look r' q = if q ∈ ks.map (·.path) then t.look q else look s.root q := by
  refine run_phase c t (kcSteps c t) (·.path) t.look
    (fun ks root => (∀ k ∈ ks, KcOK t root k) ∧ (ks.map (·.path)).Nodup) ?_ ks s ⟨h, hn⟩
  intro k ks s ⟨h, hn⟩
  rw [List.map_cons, List.nodup_cons] at hn
  have hk := h k List.mem_cons_self
  have hkp := hk.present
  obtain ⟨hold, hp, ⟨e, he⟩, hdir, hnd⟩ := hk
  have hpar := look_parent' s.root k.path hp hkp
  obtain ⟨r1, e1, e2⟩ : ∃ r1, run c t s (match k.oldKind with
        | .dir => [Step.rmdir k.path]
        | _ => [Step.delete k.path]) = ({ s with root := r1 }, none) ∧
      ∀ q, look r1 q = if q = k.path then none else look s.root q := by
    by_cases hkk : k.oldKind = .dir
    · obtain ⟨r1, e1, e2⟩ := exec_rmdir c t s k.path hp (hdir hkk).1 (hdir hkk).2
      exact ⟨r1, by simp only [hkk, run, e1], e2⟩
    · obtain ⟨o, ho1, ho2⟩ := hnd hkk
      obtain ⟨r1, e1, e2⟩ := exec_delete c t s k.path o hp ho1 ho2
      refine ⟨r1, ?_, e2⟩
      cases hkk' : k.oldKind with
      | dir => exact absurd hkk' hkk
      | file => simp only [run, e1]
      | symlink => simp only [run, e1]
  obtain ⟨r2, c1, c2⟩ := run_create c t { s with root := r1 } k.path e hp hrob hbad he
    (look_dropLast_of_set hp e2 hpar) (by rw [e2, if_pos rfl]; exact nofun) (fun _ => by rw [e2, if_pos rfl])
  have hr2 := look_set_set e2 c2
  refine ⟨r2, ?_, hr2, ?_, hn.2⟩
  · rw [kcSteps, hold, ite_self, run_append, e1]
    exact c1
  · -- the remaining kind changes, at other paths, still see what they need
    intro k' hk'
    have hne : k'.path ≠ k.path := fun e => hn.1 (List.mem_map.mpr ⟨k', hk', e⟩)
    obtain ⟨a1, a2, a3, a4, a5⟩ := h k' (List.mem_cons_of_mem _ hk')
    refine ⟨a1, a2, a3, fun hd => ⟨?_, fun x => ?_⟩, fun hd => ?_⟩
    · rw [hr2, if_neg hne]; exact (a4 hd).1
    · rw [hr2, if_neg, (a4 hd).2 x]
      intro hx
      exact hkp (hx ▸ (a4 hd).2 x)
    · rw [hr2, if_neg hne]; exact a5 hd

def AddOK (t : Tree) (root : Node) (ps : List Path) (p : Path) : Prop :=
  p ≠ [] ∧ (∃ e, t.find p = some e) ∧ look root p = none ∧
    (look root p.dropLast = some .dir ∨ (p.dropLast ∈ ps ∧ kindAt t p.dropLast = some .dir))

theorem run_adds (c : Cfg) (t : Tree) (hrob : c.robustSymlinks = true) (hbad : c.badLinks = []) (ps : List Path) (s : State)
    (h : ∀ p ∈ ps, AddOK t s.root ps p) (hord : ps.Pairwise fun a b => a ≠ b ∧ ∀ x, a ≠ b ++ [x]) :
    ∃ r', run c t s (ps.flatMap (createSteps c t)) = ({ s with root := r' }, none) ∧
      ∀ q, look r' q = if q ∈ ps then t.look q else look s.root q := by
  have := run_phase c t (createSteps c t) id t.look
    (fun ps root => (∀ p ∈ ps, AddOK t root ps p) ∧ ps.Pairwise fun a b => a ≠ b ∧ ∀ x, a ≠ b ++ [x]) ?_ ps s ⟨h, hord⟩
  · rwa [List.map_id] at this
  intro p ps s ⟨h, hord⟩
  rw [List.pairwise_cons] at hord
  obtain ⟨hp, ⟨e, he⟩, hslot, hparent⟩ := h p List.mem_cons_self
  -- parents come first: the parent of `p` is not among the paths still to be added
  have hpar : look s.root p.dropLast = some .dir := by
    rcases hparent with h1 | ⟨h1, _⟩
    · exact h1
    · rcases List.mem_cons.mp h1 with h2 | h2
      · exact absurd h2 (dropLast_ne p hp)
      · exact absurd (path_split p hp) ((hord.1 _ h2).2 _)
  obtain ⟨r1, c1, c2⟩ := run_create c t s p e hp hrob hbad he hpar (by rw [hslot]; exact nofun) fun _ => hslot
  refine ⟨r1, c1, c2, ?_, hord.2⟩
  intro p' hp'
  have hne : p' ≠ p := fun e => (hord.1 p' hp').1 e.symm
  obtain ⟨a1, a2, a3, a4⟩ := h p' (List.mem_cons_of_mem _ hp')
  refine ⟨a1, a2, by rw [c2, if_neg hne, a3], ?_⟩
  rw [c2]
  by_cases hd : p'.dropLast = p
  · -- `p` is the parent of `p'`: it has just been created, as a directory
    rw [if_pos hd]
    rcases a4 with b | ⟨_, b⟩
    · rw [hd, hslot] at b; cases b
    · rw [hd, kindAt, he] at b
      exact Or.inl ((tlook_of_find he).trans (congrArg some (obs_dir (Option.some.inj b))))
  · rw [if_neg hd]
    exact a4.imp_right fun ⟨b1, b2⟩ => ⟨(List.mem_cons.mp b1).resolve_left hd, b2⟩

def modSteps (c : Cfg) (t : Tree) (p : Path) : List Step :=
  match t.find p with
  | some e =>
    (match e.kind with
      | .file => [Step.uploadFile p p]
      | .symlink => [symlinkStep c p e.target]
      | .dir => [Step.fail .notImplemented])
  | none => [Step.fail .treeError]

/-- a modified file or symlink is uploaded by the steps that create it -/
theorem modSteps_eq (c : Cfg) {t : Tree} {p : Path} {e : TEnt} (he : t.find p = some e) (hk : e.kind ≠ .dir) :
    modSteps c t p = createSteps c t p := by
  unfold modSteps createSteps
  rw [he]
  cases hkk : e.kind with
  | dir => exact absurd hkk hk
  | file => simp only [hkk]
  | symlink => simp only [hkk]

def ModOK (t : Tree) (root : Node) (p : Path) : Prop :=
  p ≠ [] ∧ (∃ e, t.find p = some e ∧ e.kind ≠ .dir) ∧ look root p.dropLast = some .dir ∧ look root p ≠ some .dir

theorem run_mods (c : Cfg) (t : Tree) (hrob : c.robustSymlinks = true) (hbad : c.badLinks = []) (ps : List Path) (s : State)
    (h : ∀ p ∈ ps, ModOK t s.root p) :
    ∃ r', run c t s (ps.flatMap (modSteps c t)) = ({ s with root := r' }, none) ∧
      ∀ q, look r' q = if q ∈ ps then t.look q else look s.root q := by
  have := run_phase c t (modSteps c t) id t.look (fun ps root => ∀ p ∈ ps, ModOK t root p) ?_ ps s h
  · rwa [List.map_id] at this
  intro p ps s h
  obtain ⟨hp, ⟨e, he, hk⟩, hpar, hslot⟩ := h p List.mem_cons_self
  obtain ⟨r1, c1, c2⟩ := run_create c t s p e hp hrob hbad he hpar hslot fun hd => absurd hd hk
  refine ⟨r1, modSteps_eq c he hk ▸ c1, c2, ?_⟩
  -- a file or symlink was written: directories are where they were
  intro p' hp'
  obtain ⟨a1, a2, a3, a4⟩ := h p' (List.mem_cons_of_mem _ hp')
  refine ⟨a1, a2, ?_, ?_⟩
  · rw [c2, if_neg (fun (hd : p'.dropLast = p) => hslot (hd ▸ a3)), a3]
  · rw [c2]
    by_cases hq : p' = p
    · rw [if_pos hq, tlook_of_find he]; exact fun h => obs_ne_dir hk (Option.some.inj h)
    · rw [if_neg hq]; exact a4

theorem ignored_prefix (ign : List String) (par : Path) (x : String) (h : ignored ign (par ++ [x]) = false) :
    ignored ign par = false := by
  unfold ignored at h ⊢
  rw [List.any_append] at h
  simp only [Bool.or_eq_false_iff] at h
  exact h.1

theorem ignored_dropLast (ign : List String) (p : Path) (hp : p ≠ []) (h : ignored ign p = false) :
    ignored ign p.dropLast = false := by
  rw [path_split p hp] at h
  exact ignored_prefix ign _ _ h

theorem find_append_single (pre : Tree) (e : TEnt) (q : Path) :
    Tree.find (pre ++ [e]) q = (match Tree.find pre q with
      | some d => some d
      | none => if e.path = q then some e else none) := by
  unfold Tree.find
  rw [List.find?_append]
  cases List.find? (fun e => e.path == q) pre with
  | some d => rfl
  | none =>
    by_cases h : e.path = q
    · simp [List.find?, h]
    · have : (e.path == q) = false := by simp [h]
      simp [List.find?, h, this]

theorem find_none_of_not_any (pre : Tree) (p : Path) (h : (pre.any fun d => d.path == p) = false) :
    Tree.find pre p = none := by
  unfold Tree.find
  rw [List.find?_eq_none]
  intro d hd
  rw [List.any_eq_false] at h
  exact h d hd

/-- the step of the full upload for entry `e` -/
def fullStep (e : TEnt) : Step :=
  match e.kind with
  | .file => Step.fileRobust e.path
  | .symlink => Step.symlinkRobust e.path e.target
  | .dir => Step.mkdirRobust e.path

def keepFull (ign : List String) (e : TEnt) : Bool :=
  e.path != [] && e.path != [".bzrignore"] && e.path != [".bzrignore-upload"] && !ignored ign e.path

theorem planFull_eq (ign : List String) (t : Tree) : planFull ign t = (t.filter (keepFull ign)).map fullStep := by
  unfold planFull
  congr 1

theorem keepFull_iff (ign : List String) (e : TEnt) (hp : e.path ≠ []) :
    keepFull ign e = true ↔ ignored ign e.path = false ∧ special e.path = false := by
  simp only [keepFull, special, Bool.and_eq_true, bne_iff_ne, ne_eq, Bool.not_eq_true', Bool.or_eq_false_iff,
    beq_eq_false_iff_ne]
  exact ⟨fun ⟨⟨⟨_, a⟩, b⟩, c⟩ => ⟨c, a, b⟩, fun ⟨c, a, b⟩ => ⟨⟨⟨hp, a⟩, b⟩, c⟩⟩

/-- the remote after the entries `pre` have been uploaded -/
def FullInv (ign : List String) (pre : Tree) (root : Node) : Prop :=
  look root [] = some .dir ∧
    ∀ q, q ≠ [] → look root q = if ignored ign q || special q then none else pre.look q

/-- **a step of the full upload** overwrites the slot of its entry with the entry, whatever the slot held,
as long as no directory is in the way of a file or symlink, and no file in the way of a symlink when the
uploader leaves files alone -/
theorem exec_fullStep (c : Cfg) (t : Tree) (s : State) (e : TEnt) (hbad : c.badLinks = []) (hp : e.path ≠ [])
    (he : t.find e.path = some e) (hpar : look s.root e.path.dropLast = some .dir)
    (hslot : e.kind ≠ .dir → look s.root e.path ≠ some .dir)
    (hfile : e.kind = .symlink → c.robustSymlinks = true ∨ ∀ x b, look s.root e.path ≠ some (.file x b)) :
    ∃ r', exec c t s (fullStep e) = ({ s with root := r' }, none) ∧
      ∀ q, look r' q = if q = e.path then some e.obs else look s.root q := by
  unfold fullStep
  cases hk : e.kind with
  | file =>
    have hnd := hslot (by rw [hk]; exact nofun)
    obtain ⟨r1, o, hc1, hc2, ho⟩ := forceClear_spec c s.root e.path hp hnd
    have hnd1 : look r1 e.path ≠ some .dir := by
      rw [hc2, if_pos rfl]
      rcases ho with rfl | ⟨rfl, _⟩
      · exact nofun
      · exact hnd
    obtain ⟨r', h1, h2⟩ := doUploadFile_spec t r1 e.path e hp he hk (look_dropLast_of_set hp hc2 hpar) hnd1
    exact ⟨r', by simp only [exec, hc1, h1, lift], look_set_set hc2 h2⟩
  | symlink =>
    obtain ⟨r', h1, h2⟩ := exec_symlinkRobust c t s e.path e.target hp (hfile hk) hbad hpar (hslot (by rw [hk]; exact nofun))
    exact ⟨r', h1, by rw [obs_link hk]; exact h2⟩
  | dir =>
    rw [obs_dir hk]
    simp only [exec]
    cases hl : lookup s.root e.path with
    | none =>
      obtain ⟨r', h1, h2⟩ := tMkdir_spec s.root e.path hp hpar (by rw [look, hl]; rfl)
      exact ⟨r', by simp only [h1, lift], h2⟩
    | some n =>
      have hlk : look s.root e.path = some n.obs := by rw [look, hl]; rfl
      cases n with
      | dir ks =>
        refine ⟨s.root, rfl, fun q => ?_⟩
        by_cases hq : q = e.path
        · rw [if_pos hq, hq, hlk]; rfl
        · rw [if_neg hq]
      | file c' e' =>
        obtain ⟨r1, d1, d2⟩ := tDelete_spec s.root e.path _ hp hlk Obs.noConfusion
        obtain ⟨r', h1, h2⟩ := tMkdir_spec r1 e.path hp (look_dropLast_of_set hp d2 hpar) (by rw [d2, if_pos rfl])
        exact ⟨r', by simp only [d1, h1, lift], look_set_set d2 h2⟩
      | link t' =>
        obtain ⟨r1, d1, d2⟩ := tDelete_spec s.root e.path _ hp hlk Obs.noConfusion
        obtain ⟨r', h1, h2⟩ := tMkdir_spec r1 e.path hp (look_dropLast_of_set hp d2 hpar) (by rw [d2, if_pos rfl])
        exact ⟨r', by simp only [d1, h1, lift], look_set_set d2 h2⟩

/-- the remote after the entries `pre` have been uploaded onto `remote`: the slots of the copied entries show the
entries; the root, ignored paths, the two special files and paths outside `pre` show what `remote` showed -/
def OverInv (ign : List String) (remote : Node) (pre : Tree) (root : Node) : Prop :=
  look root [] = look remote [] ∧
    ∀ q, q ≠ [] → look root q =
      if ignored ign q || special q || (pre.find q).isNone then look remote q else pre.look q

/-- **a full upload onto any remote**, entry by entry: as long as the remote root is a directory where a top-level
entry is copied, no directory is in the way of a file or symlink, and no file in the way of a symlink when the
uploader leaves files alone, every copied entry is written over whatever its slot held and everything else stays -/
theorem run_full_any (c : Cfg) (ign : List String) (t : Tree) (hbad : c.badLinks = []) (remote : Node)
    (rest : Tree) (pre : Tree) (s : State)
    (hwf : wfFrom pre rest = true) (hfind : ∀ e ∈ rest, t.find e.path = some e)
    (hsp : ∀ d ∈ pre, special d.path = true → d.kind ≠ .dir)
    (hclear : ∀ e ∈ rest, keepFull ign e = true → (e.path.dropLast = [] → look remote [] = some .dir) ∧
      (e.kind ≠ .dir → look remote e.path ≠ some .dir) ∧
      (e.kind = .symlink → c.robustSymlinks = true ∨ ∀ x b, look remote e.path ≠ some (.file x b)))
    (hinv : OverInv ign remote pre s.root) :
    ∃ r', run c t s ((rest.filter (keepFull ign)).map fullStep) = ({ s with root := r' }, none) ∧
      OverInv ign remote (pre ++ rest) r' := by
  induction rest generalizing pre s with
  | nil => exact ⟨s.root, rfl, by rwa [List.append_nil]⟩
  | cons e rest ih =>
    simp only [wfFrom, Bool.and_eq_true] at hwf
    obtain ⟨hok, hwf'⟩ := hwf
    simp only [parentOK, Bool.and_eq_true, bne_iff_ne, ne_eq, Bool.not_eq_true', Bool.or_eq_true, beq_iff_eq] at hok
    obtain ⟨⟨⟨hp, hnew⟩, hparent⟩, hspe⟩ := hok
    have hpre_none : Tree.find pre e.path = none := find_none_of_not_any pre e.path hnew
    have hsp' : ∀ d ∈ pre ++ [e], special d.path = true → d.kind ≠ .dir := by
      intro d hd hs hk
      rcases List.mem_append.mp hd with h | h
      · exact hsp d h hs hk
      · cases List.mem_singleton.mp h
        simp [hs, hk] at hspe
    have hfind_ext : ∀ q, q ≠ e.path → Tree.find (pre ++ [e]) q = Tree.find pre q := by
      intro q hq
      rw [find_append_single]
      cases hf : Tree.find pre q with
      | some d => rfl
      | none => simp only [if_neg (Ne.symm hq)]
    -- the slot of `e` still shows what the remote showed
    have hslot : look s.root e.path = look remote e.path := by
      rw [hinv.2 _ hp, hpre_none]; simp
    -- in both cases the invariant moves on to `pre ++ [e]`
    obtain ⟨r1, e1, hinv'⟩ : ∃ r1, run c t s (([e].filter (keepFull ign)).map fullStep) = ({ s with root := r1 }, none) ∧
        OverInv ign remote (pre ++ [e]) r1 := by
      by_cases hkeep : keepFull ign e = true
      · -- uploaded: the parent directory is in place, copied before `e` or there from the start
        obtain ⟨hi, hs⟩ := (keepFull_iff ign e hp).mp hkeep
        obtain ⟨hc0, hc1, hc2⟩ := hclear e List.mem_cons_self hkeep
        have hpar : look s.root e.path.dropLast = some .dir := by
          by_cases h0 : e.path.dropLast = []
          · rw [h0, hinv.1]; exact hc0 h0
          · obtain ⟨d, hd, hdk⟩ := kindAt_some (hparent.resolve_left h0)
            have hsd : special e.path.dropLast = false :=
              Bool.eq_false_iff.mpr fun hs => hsp d (find_mem hd) (by rw [find_path hd]; exact hs) hdk
            rw [hinv.2 _ h0, ignored_dropLast ign e.path hp hi, hsd, hd, tlook_of_find hd, obs_dir hdk]; rfl
        obtain ⟨r1, e1, e2⟩ := exec_fullStep c t s e hbad hp (hfind e List.mem_cons_self) hpar
          (fun hk => hslot ▸ hc1 hk) (fun hk => hslot ▸ hc2 hk)
        refine ⟨r1, by simp only [List.filter_cons, hkeep, if_true, List.filter_nil, List.map_cons, List.map_nil, run, e1],
          by rw [e2, if_neg (Ne.symm hp)]; exact hinv.1, fun q hq => ?_⟩
        rw [e2]
        by_cases hqe : q = e.path
        · rw [if_pos hqe, hqe, hi, hs, Tree.look, find_append_single, hpre_none, if_pos rfl]; rfl
        · rw [if_neg hqe, hinv.2 q hq, Tree.look, Tree.look, hfind_ext q hqe]
      · -- skipped: ignored, or one of the two special files; such a path shows what the remote showed
        have hskip : (ignored ign e.path || special e.path) = true := by
          cases hi : ignored ign e.path with
          | true => rfl
          | false =>
            cases hs : special e.path with
            | true => rfl
            | false => exact absurd ((keepFull_iff ign e hp).mpr ⟨hi, hs⟩) hkeep
        refine ⟨s.root, by simp only [List.filter_cons, hkeep, List.filter_nil]; rfl, hinv.1, fun q hq => ?_⟩
        rw [hinv.2 q hq]
        by_cases hqe : q = e.path
        · rw [hqe, hskip]; rfl
        · rw [Tree.look, Tree.look, hfind_ext q hqe]
    obtain ⟨r', f1, f2⟩ := ih (pre ++ [e]) { s with root := r1 } hwf' (fun e' he' => hfind e' (List.mem_cons_of_mem _ he')) hsp'
      (fun e' he' => hclear e' (List.mem_cons_of_mem _ he')) hinv'
    refine ⟨r', ?_, by rwa [List.append_assoc] at f2⟩
    rw [← List.singleton_append, List.filter_append, List.map_append, run_append, e1]
    exact f1

/-- what `wfFrom` says entry by entry: every entry is found at its path, has a real path and a parent
directory in the tree, and is no directory when its name is one of the two special ones -/
theorem wf_facts (pre rest : Tree) (hwf : wfFrom pre rest = true) (hpre : ∀ e ∈ pre, Tree.find pre e.path = some e) :
    (∀ e ∈ pre ++ rest, Tree.find (pre ++ rest) e.path = some e) ∧
    ∀ e ∈ rest, e.path ≠ [] ∧ (e.path.dropLast = [] ∨ kindAt (pre ++ rest) e.path.dropLast = some .dir)
      ∧ (special e.path = true → e.kind ≠ .dir) := by
  induction rest generalizing pre with
  | nil => exact ⟨by rwa [List.append_nil], fun _ he => nomatch he⟩
  | cons e rest ih =>
    simp only [wfFrom, Bool.and_eq_true] at hwf
    obtain ⟨hok, hwf'⟩ := hwf
    simp only [parentOK, Bool.and_eq_true, bne_iff_ne, ne_eq, Bool.not_eq_true', Bool.or_eq_true, beq_iff_eq] at hok
    obtain ⟨⟨⟨hp, hnew⟩, hparent⟩, hspe⟩ := hok
    have hnone : Tree.find pre e.path = none := find_none_of_not_any pre e.path hnew
    obtain ⟨ih1, ih2⟩ := ih (pre ++ [e]) hwf' (by
      intro d hd
      rw [find_append_single]
      rcases List.mem_append.mp hd with h | h
      · rw [hpre d h]
      · cases List.mem_singleton.mp h
        rw [hnone, if_pos rfl])
    rw [List.append_assoc, List.singleton_append] at ih1 ih2
    refine ⟨ih1, fun d hd => ?_⟩
    rcases List.mem_cons.mp hd with rfl | hd
    · refine ⟨hp, hparent.imp_right fun h => ?_, fun hs hk => ?_⟩
      · -- the parent found among the earlier entries is found in the whole tree
        obtain ⟨x, hx, hxk⟩ := kindAt_some h
        unfold Tree.find at hx
        rw [kindAt, Tree.find, List.find?_append, hx]
        exact congrArg some hxk
      · simp [hs, hk] at hspe
    · exact ih2 d hd

end BreezyVerif.C43
