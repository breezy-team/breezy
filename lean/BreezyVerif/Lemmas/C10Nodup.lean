import BreezyVerif.Lemmas.C10Filter
/-!
C10 — the loop with the `examined_file_ids` fix never emits an id twice.
-/
namespace BreezyVerif.C10

theorem filterMap_ids_nodup {f : Id → Option Change} (hf : ∀ i c, f i = some c → c.id = i)
    (l : List Id) (h : l.Nodup) : ((l.filterMap f).map (·.id)).Nodup := by
  rw [List.map_filterMap]
  refine List.Pairwise.filterMap _ ?_ h
  intro a a' hne b hb b' hb'
  obtain ⟨c, hc, rfl⟩ := Option.map_eq_some_iff.mp hb
  obtain ⟨c', hc', rfl⟩ := Option.map_eq_some_iff.mp hb'
  rw [hf a c hc, hf a' c' hc']
  exact hne

theorem base_ids_nodup {src tgt : Tree} (hs : (ids src).Nodup) (ht : (ids tgt).Nodup) (sel : List Id) (incl : Bool) :
    ((baseTgt src tgt sel incl ++ baseRemoved src tgt sel).map (·.id)).Nodup := by
  rw [List.map_append, List.nodup_append]
  refine ⟨?_, ?_, ?_⟩
  · unfold baseTgt
    refine filterMap_ids_nodup ?_ _ (List.Pairwise.filter _ ht)
    intro i c hc
    cases hr : change src tgt i with
    | none => simp [hr] at hc
    | some r =>
      simp only [hr, Option.bind_some] at hc
      split at hc
      · cases hc; exact change_id hr
      · cases hc
  · unfold baseRemoved
    exact filterMap_ids_nodup (fun i c hc => change_id hc) _ (List.Pairwise.filter _ hs)
  · intro a ha b hb hab
    subst hab
    rw [List.mem_map] at ha hb
    obtain ⟨c1, hc1, e1⟩ := ha
    obtain ⟨c2, hc2, e2⟩ := hb
    have h1 := (baseTgt_mem hc1).2.2.2
    have h2 := (baseRemoved_mem hc2).2.2.2.2
    rw [e1] at h1; rw [e2] at h2
    have := get_isSome_of_mem h1
    rw [h2] at this; cases this

theorem map_id_emit (src tgt : Tree) (l : List Id) :
    (l.filterMap (emit src tgt)).map (·.id) = l.filter fun i => (emit src tgt i).isSome := by
  induction l with
  | nil => rfl
  | cons i rest ih =>
    rw [List.filterMap_cons, List.filter_cons]
    cases he : emit src tgt i with
    | none => simpa using ih
    | some c => simp [ih, (emit_true he).1]

/-- **the fixed loop emits every id at most once** -/
theorem preciseLoopG_true_nodup (src tgt : Tree) (base : List Change) (n : Nat) (st : PState) (ex : List Id)
    (out : List Change) (hnd : ((base ++ st.out).map (·.id)).Nodup) (hin : ∀ c ∈ base ++ st.out, c.id ∈ st.changed)
    (hp : st.precise.Nodup) (h : preciseLoopG true src tgt n st ex = some out) :
    ((base ++ out).map (·.id)).Nodup := by
  have key := preciseLoopG_induct
    (I := fun st _ => ((base ++ st.out).map (·.id)).Nodup ∧ (∀ c ∈ base ++ st.out, c.id ∈ st.changed) ∧ st.precise.Nodup)
    ?_ n st ex out ⟨hnd, hin, hp⟩ h
  · obtain ⟨st', _, ⟨hnd', _, _⟩, _, rfl⟩ := key
    exact hnd'
  intro st ex ⟨hnd, hin, hp⟩ _
  have hcurnd : (currentG true src tgt st ex).Nodup := unionNew_nodup (List.Pairwise.filter _ hp) _
  -- the fix filters both parts of `current` against the emitted ids
  have hcurnc : ∀ i ∈ currentG true src tgt st ex, i ∉ st.changed := by
    intro i hi
    rcases mem_unionNew.mp hi with h' | h'
    · have := (List.mem_filter.mp h').2
      simp only [Bool.and_eq_true, Bool.not_eq_true', List.contains_eq_mem, decide_eq_false_iff_not] at this
      exact this.1
    · have := (List.mem_filter.mp h').2
      simp only [Bool.true_and, Bool.not_eq_true', Bool.or_eq_false_iff, List.contains_eq_mem,
        decide_eq_false_iff_not] at this
      exact this.1
  unfold afterRound
  refine ⟨?_, ?_, unionNew_nodup List.nodup_nil _⟩
  · -- the ids emitted in this round are the ids of `current` that are changes: new and pairwise different
    rw [← List.append_assoc, List.map_append, map_id_emit, List.nodup_append]
    refine ⟨hnd, List.Pairwise.filter _ hcurnd, ?_⟩
    intro a ha b hb hab
    obtain ⟨c, hc, rfl⟩ := List.mem_map.mp ha
    exact hcurnc b (List.mem_filter.mp hb).1 (hab ▸ hin c hc)
  · intro c hc
    rw [← List.append_assoc] at hc
    rcases List.mem_append.mp hc with h' | h'
    · exact mem_unionNew.mpr (Or.inl (hin c h'))
    · exact mem_unionNew.mpr (Or.inr (map_id_emit src tgt _ ▸ List.mem_map_of_mem (f := (·.id)) h'))

end BreezyVerif.C10
