import BreezyVerif.Lemmas.C26
/-!
C26 — the global invariant over all interleavings, any number of lockers and any
number of breakers (user `break_lock` or `locks.steal_dead`), as long as no two
`force_break`s are between their examination of the lock and its removal at the
same time (`Excl`).  One breaker `b` (`Who b`) is the special case used by the
single-breaker theorems; `exclusiveBreaks` is a decidable form of `Excl` along a run
that only mentions lockers `< n`.
-/
namespace BreezyVerif.C26

/-- events allowed when only locker `b` may call `break_lock` -/
def Ev.breaksOnlyBy (b : Nat) : Ev → Bool
  | .start i .brk => i == b
  | _ => true

/-- the break window of a `force_break x`: from the decision to break `x` (before its own `peek`) until it
has renamed `held/` away -/
def Pc.inWindow (p : Pc) : Bool := p.expects.isSome

/-- at most one locker is inside a break window -/
def Excl (s : Sys) : Prop :=
  ∀ i j, (s.lk i).pc.inWindow = true → (s.lk j).pc.inWindow = true → i = j

/-- only locker `b` is ever inside `break_lock` / `force_break` / `force_break_corrupt` -/
def Who (b : Nat) (s : Sys) : Prop := ∀ i, (s.lk i).pc.breaky = true → i = b

/-- what the invariant says of locker `i` in state `me`, given `held/`, who has crashed and the ghosts -/
structure LInv (held : Option Dir) (crashed : Nat → Bool) (breaks : Nat) (alive : Bool) (i : Nat)
    (me : Locker) : Prop where
  /-- a locker that believes it holds the lock owns `held/` — unless it crashed and a break happened -/
  claim : alive = false → me.claims = true → ownerOf held = some i ∨ (crashed i = true ∧ 0 < breaks)
  /-- between the examination of a lock and its removal the lock does not change -/
  exp : ∀ x, alive = false → me.pc.expects = some x → held = okDir x ∧ crashed x.owner = true ∧ 0 < breaks
  need : me.pc.needsHeld = true → me.held = true
  pend : me.pc.hasPend = true → ∃ k, me.pend = okDir ⟨i, k⟩
  nothold : me.pc.breaky = true → me.held = false
  corr : me.pc.corruptBreak = true → alive = true

def Inv (s : Sys) : Prop := ∀ i, LInv s.held s.crashed s.breaks s.brokeAlive i (s.lk i)

theorem LInv.owns {held : Option Dir} {crashed : Nat → Bool} {breaks : Nat} {alive : Bool} {i : Nat}
    {me : Locker} (I : LInv held crashed breaks alive i me) (ha : alive = false) (hc : crashed i = false)
    (hcl : me.claims = true) : ownerOf held = some i :=
  (I.claim ha hcl).resolve_right (by simp [hc])

theorem Inv.init (cfg : Nat → Cfg) (h : Option Dir) : Inv (Sys.init cfg h) := by
  intro i
  constructor <;> simp [Sys.init, Locker.claims, Pc.breaky, Pc.expects, Pc.needsHeld,
    Pc.hasPend, Pc.corruptBreak]

theorem Who.init (b : Nat) (cfg : Nat → Cfg) (h : Option Dir) : Who b (Sys.init cfg h) := by
  intro i hi; simp [Sys.init, Pc.breaky] at hi

theorem Who.excl {b : Nat} {s : Sys} (w : Who b s) : Excl s := by
  have hb : ∀ i, (s.lk i).pc.inWindow = true → i = b := by
    intro i hi
    obtain ⟨x, hx⟩ := Option.isSome_iff_exists.1 hi
    exact w i (breaky_of_expects hx)
  intro i j hi hj
  rw [hb i hi, hb j hj]

theorem Inv.set_lk {s : Sys} (inv : Inv s) (i : Nat) (me' : Locker) (lk' : Nat → Locker)
    (hlk : lk' = upd s.lk i me')
    (hcl : me'.claims = true → (s.lk i).claims = true) (hdec : me'.pc.breaky = true → me'.pc = .kPeek)
    (hneed : me'.pc.needsHeld = true → me'.held = true)
    (hpend : me'.pc.hasPend = true → (s.lk i).pc.hasPend = true ∧ me'.pend = (s.lk i).pend)
    (hnh : me'.pc.breaky = true → me'.held = false) (j : Nat) :
    LInv s.held s.crashed s.breaks s.brokeAlive j (lk' j) := by
  subst hlk
  by_cases hj : j = i
  · subst hj
    rw [upd_same]
    have hpc : me'.pc.expects = none ∧ me'.pc.corruptBreak = false := by
      revert hdec; cases me'.pc <;> simp [Pc.breaky, Pc.expects, Pc.corruptBreak]
    refine ⟨fun ha h => (inv j).claim ha (hcl h), by simp [hpc], hneed, ?_, hnh, by simp [hpc]⟩
    intro h
    rw [(hpend h).2]
    exact (inv j).pend (hpend h).1
  · rw [upd_other _ _ hj]; exact inv j

theorem Inv.stepStep {s : Sys} (inv : Inv s) (i : Nat) (hex : Excl s) : Inv (s.step (.step i)) := by
  simp only [Sys.step]
  split
  · exact inv
  rename_i hcr
  have hcr : s.crashed i = false := by simpa using hcr
  generalize hr : lstep i s.cfg s.crashed (s.lk i) s.held = r
  have hs := lstep_sound hr
  have mono : ∀ {n k : Nat}, 0 < n → 0 < n + k := fun h => Nat.lt_of_lt_of_le h (Nat.le_add_right _ _)
  have I := inv i
  have hdisk : s.brokeAlive = false → r.2.1 = s.held ∨ s.held = none ∨ (r.2.1 = none ∧ ownerOf s.held = some i) ∨
      (r.2.1 = none ∧ ∃ x, (s.lk i).pc.expects = some x ∧ s.held = okDir x ∧ s.crashed x.owner = true ∧
        0 < s.breaks) := by
    intro ha
    rcases hs.disk with ⟨_, h0, _⟩ | ⟨_, h0 | ⟨h0, ⟨hp, _⟩ | ⟨x, ret, hp⟩ | ⟨t, hp⟩⟩⟩
    · exact .inr (.inl h0)
    · exact .inl h0
    · exact .inr (.inr (.inl ⟨h0, I.owns ha hcr (by simp [Locker.claims, I.need (by simp [hp, Pc.needsHeld])])⟩))
    · exact .inr (.inr (.inr ⟨h0, x, by simp [hp, Pc.expects], I.exp x ha (by simp [hp, Pc.expects])⟩))
    · -- `force_break_corrupt`: its decision was against an unknown holder
      simp [I.corr (by simp [hp, Pc.corruptBreak])] at ha
  intro j
  by_cases hj : j = i
  · subst hj
    simp only [upd_same]
    refine ⟨?_, ?_, hs.need I.need, ?_, hs.nothold I.nothold, ?_⟩
    · intro hb hcl
      simp only [Bool.or_eq_false_iff] at hb
      left
      rcases hs.claims I.nothold hcl with ⟨h1, h2⟩ | ⟨h1, _, h3⟩
      · rw [h2]; exact I.owns hb.1 hcr h1
      · obtain ⟨k, hk⟩ := I.pend (by simp [h1, Pc.hasPend])
        rw [h3, hk]; rfl
    · intro x hb he
      simp only [Bool.or_eq_false_iff] at hb
      rcases hs.dec with hn | ⟨h1, _, ⟨t, hn, _⟩ | ⟨y, hn, h2, hp⟩⟩
      · obtain ⟨h1, h3⟩ := (hs.no_decision hn).2.2.2.2.1 x he
        obtain ⟨a, b, c⟩ := I.exp x hb.1 h1
        exact ⟨h3 ▸ a, b, mono c⟩
      · simp [hn, decisionAlive] at hb
      · have : y = x := by rcases hp with ⟨_, h⟩ | ⟨_, h, _⟩ <;> simpa [h, Pc.expects] using he
        subst this
        exact ⟨h1 ▸ h2, by simpa [hn, decisionAlive] using hb.2, by simp [hn]⟩
    · intro hp
      rcases hs.hasPend hp with ⟨h1, h2, _⟩ | h
      · rw [h2]; exact I.pend h1
      · exact ⟨_, h⟩
    · intro hc
      rcases hs.dec with hn | ⟨_, _, ⟨t, hn, _⟩ | ⟨y, _, _, hp⟩⟩
      · simp [I.corr ((hs.no_decision hn).2.1 hc)]
      · simp [hn, decisionAlive]
      · rcases hp with ⟨_, h⟩ | ⟨_, h, _⟩ <;> simp [h, Pc.corruptBreak] at hc
  · -- another locker: `held/` may have changed under it
    simp only [upd_other _ _ hj]
    have J := inv j
    refine ⟨?_, ?_, J.need, J.pend, J.nothold, fun h => by simp [J.corr h]⟩
    · intro hb hcl
      simp only [Bool.or_eq_false_iff] at hb
      rcases J.claim hb.1 hcl with h | ⟨h1, h2⟩
      · rcases hdisk hb.1 with h0 | h0 | ⟨_, hi⟩ | ⟨_, x, _, hx, hc, hbk⟩
        · exact .inl (h0 ▸ h)
        · simp [h0, ownerOf] at h
        · rw [hi] at h; exact absurd (Option.some.inj h).symm hj
        · -- a `force_break x` removes the lock of `j`: then `j` is the dead holder it examined
          rw [hx, ownerOf_okDir] at h
          exact .inr ⟨Option.some.inj h ▸ hc, mono hbk⟩
      · exact .inr ⟨h1, mono h2⟩
    · intro x hb he
      simp only [Bool.or_eq_false_iff] at hb
      have hx := J.exp x hb.1 he
      refine ⟨?_, hx.2.1, mono hx.2.2⟩
      rcases hdisk hb.1 with h0 | h0 | ⟨_, hi⟩ | ⟨_, y, hy, _⟩
      · exact h0 ▸ hx.1
      · simp [h0, okDir] at hx
      · -- `unlock` by its live owner `i`, but the examined holder is dead
        rw [hx.1, ownerOf_okDir] at hi
        rw [Option.some.inj hi, hcr] at hx
        simp at hx
      · -- another `force_break` renames `held/` away inside our window: excluded by `Excl`
        exact absurd (hex j i (by simp [Pc.inWindow, he]) (by simp [Pc.inWindow, hy])) hj

theorem Inv.step {s : Sys} (inv : Inv s) (e : Ev) (hex : Excl s) : Inv (s.step e) := by
  cases e with
  | start i op =>
    simp only [Sys.step]
    split
    · exact inv
    split
    · refine inv.set_lk i _ _ rfl ?_ ?_ ?_ ?_ ?_ <;>
        rcases start_pc (s.lk i) op with h | h | ⟨hh, h | h⟩ | ⟨rfl, hh, h⟩ <;>
        simp +contextual [*, Locker.claims, start_held, Pc.needsHeld, Pc.hasPend, Pc.breaky]
    · exact inv
  | step i => exact inv.stepStep i hex
  | fault i k =>
    simp only [Sys.step]
    split
    · exact inv
    · exact inv.set_lk i _ _ rfl (lfault_claims k _)
        (by simp [lfault_breaky])
        (by simp [lfault_needs]) (lfault_pend k _) (by simp [lfault_breaky])
  | crash i =>
    have hc : ∀ j, s.crashed j = true → upd s.crashed i true j = true := by
      intro j h; unfold upd; split <;> simp_all
    intro j
    have J := inv j
    exact ⟨fun ha h => (J.claim ha h).imp_right (.imp_left (hc j)),
      fun x ha h => (J.exp x ha h).imp_right (.imp_left (hc _)), J.need, J.pend, J.nothold, J.corr⟩

theorem run_cfg (s : Sys) (evs : List Ev) : (s.run evs).cfg = s.cfg := by
  induction evs generalizing s with
  | nil => rfl
  | cons e es ih => rw [run_cons, ih, step_cfg]

theorem Inv.run {s : Sys} (inv : Inv s) (evs : List Ev) (hex : ∀ k, Excl (s.run (evs.take k))) :
    Inv (s.run evs) := by
  induction evs generalizing s with
  | nil => exact inv
  | cons e es ih =>
    rw [run_cons]
    apply ih (inv.step e (by simpa [Sys.run] using hex 0))
    intro k
    have := hex (k + 1)
    simpa [run_cons] using this

theorem step_breaky (s : Sys) (e : Ev) (j : Nat) (h : ((s.step e).lk j).pc.breaky = true) :
    (s.lk j).pc.breaky = true ∨ e = .start j .brk ∨ (s.cfg j).steal = true := by
  rcases step_lk s e j with e' | ⟨_, ⟨op, rfl, _, e'⟩ | ⟨k, rfl, e'⟩ | ⟨rfl, e'⟩⟩ <;> rw [e'] at h
  · exact .inl h
  · rcases start_pc (s.lk j) op with h' | h' | ⟨_, h' | h'⟩ | ⟨rfl, _⟩
    case inr.inr.inr => exact .inr (.inl rfl)
    all_goals simp [h', Pc.breaky] at h
  · simp [lfault_breaky] at h
  · have hl := lstep_sound (r := lstep j s.cfg s.crashed (s.lk j) s.held) rfl
    rcases hl.dec with hn | ⟨_, _, ⟨t, _, hk, _⟩ | ⟨x, _, _, ⟨hk, _⟩ | ⟨_, _, _, _, hs⟩⟩⟩
    · exact .inl ((hl.no_decision hn).1 h)
    · exact .inl (by simp [hk, Pc.breaky])
    · exact .inl (by simp [hk, Pc.breaky])
    · exact .inr (.inr hs)

theorem Who.step {b : Nat} {s : Sys} (w : Who b s) (e : Ev) (hev : e.breaksOnlyBy b = true)
    (hsteal : ∀ j, (s.cfg j).steal = true → j = b) : Who b (s.step e) := by
  intro j hbr
  rcases step_breaky s e j hbr with h | rfl | h
  · exact w j h
  · simpa [Ev.breaksOnlyBy] using hev
  · exact hsteal j h

/-- with a single breaker the windows trivially never overlap -/
theorem Inv.run_single {b : Nat} {s : Sys} (inv : Inv s) (w : Who b s) (evs : List Ev)
    (hev : ∀ e ∈ evs, e.breaksOnlyBy b = true)
    (hsteal : ∀ j, (s.cfg j).steal = true → j = b) : Inv (s.run evs) := by
  apply inv.run evs
  intro k
  exact Who.excl <| run_induction (fun _ e hc he w => w.step e he (hc ▸ hsteal)) w _
    fun e he => hev e (List.mem_of_mem_take he)

def Ev.locker : Ev → Nat
  | .start i _ | .step i | .fault i _ | .crash i => i

/-- among lockers `< n` at most one is inside a break window -/
def exclUpTo (n : Nat) (s : Sys) : Bool :=
  (List.range n).all fun i => (List.range n).all fun j =>
    !((s.lk i).pc.inWindow && (s.lk j).pc.inWindow) || i == j

/-- in every state the run `evs` passes through (from `s`), at most one locker `< n` is inside a break window -/
def exclusiveBreaks (n : Nat) (s : Sys) (evs : List Ev) : Bool :=
  (List.range (evs.length + 1)).all fun k => exclUpTo n (s.run (evs.take k))

/-- lockers `≥ n` have never done anything -/
def Quiet (n : Nat) (s : Sys) : Prop := ∀ i, n ≤ i → (s.lk i).pc = .idle

theorem Quiet.init (n : Nat) (cfg : Nat → Cfg) (h : Option Dir) : Quiet n (Sys.init cfg h) :=
  fun _ _ => rfl

theorem Quiet.step {n : Nat} {s : Sys} (q : Quiet n s) (e : Ev) (he : e.locker < n) : Quiet n (s.step e) := by
  intro i hi
  rcases step_lk s e i with h | ⟨_, ⟨op, rfl, _⟩ | ⟨k, rfl, _⟩ | ⟨rfl, _⟩⟩
  · rw [h]; exact q i hi
  all_goals exact absurd he (Nat.not_lt.2 hi)

theorem excl_of_upTo {n : Nat} {s : Sys} (q : Quiet n s) (h : exclUpTo n s = true) : Excl s := by
  intro i j hi hj
  have lt : ∀ a, (s.lk a).pc.inWindow = true → a < n := by
    intro a ha
    by_cases hlt : a < n
    · exact hlt
    · have := q a (by omega)
      simp [this, Pc.inWindow, Pc.expects] at ha
  simp only [exclUpTo, List.all_eq_true, List.mem_range] at h
  have := h i (lt i hi) j (lt j hj)
  simpa [hi, hj] using this

theorem excl_prefixes {n : Nat} {s : Sys} (q : Quiet n s) (evs : List Ev) (he : ∀ e ∈ evs, e.locker < n)
    (h : exclusiveBreaks n s evs = true) (k : Nat) : Excl (s.run (evs.take k)) := by
  have hq : Quiet n (s.run (evs.take k)) :=
    run_induction (fun _ e _ he q => q.step e he) q _ fun e hm => he e (List.mem_of_mem_take hm)
  apply excl_of_upTo hq
  simp only [exclusiveBreaks, List.all_eq_true, List.mem_range] at h
  by_cases hk : k < evs.length + 1
  · exact h k hk
  · have : evs.take k = evs.take evs.length := by
      rw [List.take_length, List.take_of_length_le (by omega)]
    rw [this]
    exact h evs.length (by omega)

/-- nobody calls `break_lock` -/
def Ev.noBreak : Ev → Bool
  | .start _ .brk => false
  | _ => true

structure NoBreak (s : Sys) : Prop where
  pcs : ∀ i, (s.lk i).pc.breaky = false
  breaks : s.breaks = 0
  alive : s.brokeAlive = false

theorem noBreak_breaksOnlyBy {e : Ev} (b : Nat) (h : e.noBreak = true) : e.breaksOnlyBy b = true := by
  cases e with
  | start i op => cases op <;> simp_all [Ev.noBreak, Ev.breaksOnlyBy]
  | _ => rfl

theorem NoBreak.step {s : Sys} (nb : NoBreak s) (e : Ev) (he : e.noBreak = true)
    (hsteal : ∀ j, (s.cfg j).steal = false) : NoBreak (s.step e) := by
  -- outside a break and without `locks.steal_dead` no step takes a decision
  have hd : ∀ i, (lstep i s.cfg s.crashed (s.lk i) s.held).2.2 = none := by
    intro i
    have hp := nb.pcs i
    rcases (lstep_sound (r := lstep i s.cfg s.crashed (s.lk i) s.held) rfl).dec with
      hn | ⟨_, _, ⟨t, _, hk, _⟩ | ⟨x, _, _, ⟨hk, _⟩ | ⟨_, _, _, _, hs⟩⟩⟩
    · exact hn
    · simp [hk, Pc.breaky] at hp
    · simp [hk, Pc.breaky] at hp
    · simp [hsteal i] at hs
  refine ⟨fun j => ?_, ?_, ?_⟩
  · cases hb : ((s.step e).lk j).pc.breaky
    · rfl
    · rcases step_breaky s e j hb with h | rfl | h
      · rw [nb.pcs j] at h; cases h
      · simp [Ev.noBreak] at he
      · simp [hsteal j] at h
  · rcases step_frame s e with ⟨_, h, _⟩ | ⟨i, r, _, _, rfl, _, h, _⟩ <;> simp [h, hd, nb.breaks]
  · rcases step_frame s e with ⟨_, _, h⟩ | ⟨i, r, _, _, rfl, _, _, h⟩ <;> simp [h, hd, nb.alive, decisionAlive]

end BreezyVerif.C26
