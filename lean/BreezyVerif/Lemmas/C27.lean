import BreezyVerif.Lemmas.C26
import BreezyVerif.Model.C27
/-!
C27 — invariants over all event lists (no restriction on who breaks what): pending directories are
complete (`PendOk`), a lock on disk is explained by its owner's state (`OInv`); and the lock on disk is
free or readable, over the extended events (`RInvW`): after a lost reply an attempt has no pending directory
any more, so `PendOk` is weakened to "complete, or gone" (`PendW`).
-/
namespace BreezyVerif.C27
open BreezyVerif.C26

section
variable (id : Nat) (cfg : Nat → Cfg) (crashed : Nat → Bool) (me : Locker) (held : Option Dir)

theorem lstep_nonce_confirm (h : me.pc ≠ .aMkdir) : (lstep id cfg crashed me held).1.nonce = me.nonce :=
  (lstep_sound rfl).nonce.resolve_right fun h' => h h'.1

end

section
variable (k : FaultKind) (me : Locker) (op : Op)
theorem lfault_not_confirm : (lfault k me).pc ≠ .aConfirm := by
  rcases lfault_pc k me with h | ⟨_, h, _⟩ | ⟨e, h⟩ <;> simp [h]
theorem start_not_confirm : (startOp me op).pc ≠ .aConfirm := by
  rcases start_pc me op with h | h | ⟨_, h | h⟩ | ⟨_, _, h⟩ <;> simp [h]
end

theorem recoverable_none : recoverable none = true := rfl
theorem recoverable_okDir (x : Nonce) : recoverable (okDir x) = true := rfl

/-- Whatever holds of a locker's complete pending directory and current serial holds, after any event, of
every pending directory that may be renamed into place: such a directory was just filled with the locker's
info, or was there before with the same serial. -/
theorem pend_step {Q : Nat → Option Dir → Nat → Prop} (hQ : ∀ i n, Q i (okDir ⟨i, n⟩) n) {s : Sys}
    (h : ∀ i, (s.lk i).pc.hasPend = true → Q i (s.lk i).pend (s.lk i).nonce) (e : Ev) (i : Nat)
    (hp : ((s.step e).lk i).pc.hasPend = true) : Q i ((s.step e).lk i).pend ((s.step e).lk i).nonce := by
  rcases step_lk s e i with h' | ⟨_, ⟨op, rfl, _, h'⟩ | ⟨k, rfl, h'⟩ | ⟨rfl, h'⟩⟩ <;> rw [h'] at hp ⊢
  · exact h i hp
  · rcases start_pc (s.lk i) op with h' | h' | ⟨_, h' | h'⟩ | ⟨_, _, h'⟩ <;> simp [h', Pc.hasPend] at hp
  · obtain ⟨h1, h2⟩ := lfault_pend k _ hp
    rw [h2, lfault_nonce]; exact h i h1
  · rcases (lstep_sound rfl).hasPend hp with ⟨h1, h2, h3⟩ | h'
    · rw [h2, h3]; exact h i h1
    · rw [h']; exact hQ i _

/-- every pending directory that may be renamed into place carries its owner's current nonce -/
def PendOk (s : Sys) : Prop :=
  ∀ i, (s.lk i).pc.hasPend = true → (s.lk i).pend = okDir ⟨i, (s.lk i).nonce⟩

theorem PendOk.step {s : Sys} (hp : PendOk s) (e : Ev) : PendOk (s.step e) :=
  pend_step (Q := fun i p n => p = okDir ⟨i, n⟩) (fun _ _ => rfl) hp e

theorem PendOk.run {s : Sys} (hp : PendOk s) (evs : List Ev) : PendOk (s.run evs) :=
  List.foldlRecOn (motive := PendOk) evs _ hp fun _ h e _ => h.step e

theorem PendOk.init (cfg : Nat → Cfg) (h0 : Option Dir) : PendOk (Sys.init cfg h0) :=
  fun _ hp => by simp [Sys.init, Pc.hasPend] at hp

section
variable {id : Nat} {cfg : Nat → Cfg} {crashed : Nat → Bool} {me : Locker} {held : Option Dir}
  {p p' : Pc} {fl : Bool} {n : Nat} {q d : Option Dir} {dc : Decision}
  (h : LStep id cfg crashed me held p p' fl n q d dc)
include h

/-- a step leaves the lock on disk free or readable, if a pending directory about to be renamed is -/
theorem _root_.BreezyVerif.C26.LStep.recoverable (hp : p.hasPend = true → recoverable me.pend = true)
    (hd : recoverable held = true) : recoverable d = true := by
  rcases h.disk with ⟨h1, _, h3, _⟩ | ⟨_, h | ⟨h, _⟩⟩
  · rw [h3]; exact hp (by simp [h1, Pc.hasPend])
  · rw [h]; exact hd
  · rw [h]; rfl

variable (hp : p.hasPend = true → me.pend = okDir ⟨id, me.nonce⟩)
include hp

/-- If `held/` carries the stepping locker's nonce after the step, then it did before — and the locker goes
on believing that it holds the lock, or comes to believe it if it was confirming — or the step has just
renamed the pending directory into place. -/
theorem _root_.BreezyVerif.C26.LStep.own {m : Nat} (ho : d = okDir ⟨id, m⟩) :
    (held = okDir ⟨id, m⟩ ∧ (me.held = true → fl = true) ∧ (p = .aConfirm → m = me.nonce → fl = true)) ∨
    (p' = .aConfirm ∧ m = n) := by
  cases h with
  | renameIn _ _ => exact .inr ⟨rfl, (congrArg Nonce.serial (okDir_inj ((hp rfl).symm.trans ho))).symm⟩
  | confirmed _ _ => exact .inl ⟨ho, fun _ => rfl, fun _ _ => rfl⟩
  | fin _ _ other => exact .inl ⟨ho, fun hh => hh, fun hc hm => absurd (hm ▸ ho) (other hc)⟩
  | unlockRename | breakRename | corruptRename => simp [okDir] at ho
  | giveUp _ _ _ pc | retry _ pc => exact .inl ⟨ho, fun hh => hh, fun hc => by simp [hc, Pc.hasPend] at pc⟩
  | _ => exact .inl ⟨ho, fun hh => hh, nofun⟩

theorem _root_.BreezyVerif.C26.LStep.foreign {x : Nonce} (ho : d = okDir x) (hx : x.owner ≠ id) : held = okDir x := by
  rcases h.disk with ⟨h1, _, h3, _⟩ | ⟨_, h | ⟨h, _⟩⟩
  · rw [h3, hp (by simp [h1, Pc.hasPend])] at ho
    exact absurd (congrArg Nonce.owner (okDir_inj ho)).symm hx
  · exact h ▸ ho
  · rw [h] at ho; simp [okDir] at ho

end

/-- "the lock on disk is locker `i`'s" is explained by that locker's own state -/
structure OInv (i : Nat) (s : Sys) : Prop where
  pend : PendOk s
  own : ownerOf s.held = some i →
    (s.lk i).held = true ∨ s.orphan i = true ∨ ((s.lk i).pc = .aConfirm ∧ s.held = okDir ⟨i, (s.lk i).nonce⟩)

theorem OInv.step {i : Nat} {s : Sys} (inv : OInv i s) (e : Ev) : OInv i (s.step e) := by
  refine ⟨inv.pend.step e, ?_⟩
  cases e with
  | crash a => exact inv.own
  | fault a k =>
    simp only [Sys.step]; split
    · exact inv.own
    · intro ho
      by_cases hj : i = a
      · subst hj
        rcases inv.own ho with h | h | ⟨h, _⟩
        · left; simpa [lfault_held] using h
        · right; left; simp only []; split <;> simp [upd, h]
        · right; left; simp [h]
      · rcases inv.own ho with h | h | h
        · left; simpa [upd, hj] using h
        · right; left; simp only []; split <;> simp [upd, h, hj]
        · right; right; simpa [upd, hj] using h
  | start a op =>
    simp only [Sys.step]; split
    · exact inv.own
    · split
      · rename_i hidle
        intro ho
        by_cases hj : i = a
        · subst hj
          rcases inv.own ho with h | h | ⟨h, _⟩
          · left; simpa [start_held] using h
          · right; left; exact h
          · simp [hidle] at h
        · simpa [upd, hj] using inv.own ho
      · exact inv.own
  | step a =>
    simp only [Sys.step]; split
    · exact inv.own
    · intro ho
      dsimp only at ho ⊢
      obtain ⟨n, hn⟩ := ownerOf_eq_some.1 ho
      by_cases hj : i = a
      · subst hj
        simp only [upd_same]
        rcases (lstep_sound rfl).own (inv.pend i) hn with ⟨h0, hk, hc⟩ | ⟨h1, h2⟩
        · rcases inv.own (h0 ▸ rfl) with hh | hh | ⟨hh, hh2⟩
          · exact .inl (hk hh)
          · exact .inr (.inl hh)
          · exact .inl (hc hh (congrArg Nonce.serial (okDir_inj (h0 ▸ hh2 :))))
        · exact .inr (.inr ⟨h1, by rw [hn, h2]⟩)
      · simp only [upd_other _ _ hj]
        have h0 := (lstep_sound rfl).foreign (inv.pend a) hn hj
        rw [hn, ← h0]; exact inv.own (h0 ▸ rfl)

theorem OInv.run {i : Nat} {s : Sys} (inv : OInv i s) (evs : List Ev) : OInv i (s.run evs) :=
  List.foldlRecOn (motive := OInv i) evs _ inv fun _ h e _ => h.step e

/-- a pending directory that may be renamed into place is complete — or was already renamed into place by a
lost reply -/
def PendW (s : Sys) : Prop :=
  ∀ i, (s.lk i).pc.hasPend = true → (s.lk i).pend = okDir ⟨i, (s.lk i).nonce⟩ ∨ (s.lk i).pend = none

structure RInvW (s : Sys) : Prop where
  disk : recoverable s.held = true
  pend : PendW s

theorem RInvW.congr {s t : Sys} (inv : RInvW s) (hl : t.lk = s.lk) (hh : t.held = s.held) : RInvW t :=
  ⟨hh ▸ inv.disk, fun i => by rw [hl]; exact inv.pend i⟩

theorem RInvW.step {s : Sys} (inv : RInvW s) (e : Ev) : RInvW (s.step e) := by
  refine ⟨?_, pend_step (Q := fun i p n => p = okDir ⟨i, n⟩ ∨ p = none) (fun _ _ => .inl rfl) inv.pend e⟩
  rcases step_frame s e with ⟨h, _⟩ | ⟨i, r, _, _, hr, h, _⟩ <;> rw [h]
  · exact inv.disk
  · exact (lstep_sound hr).recoverable (fun h => by rcases inv.pend i h with e | e <;> rw [e] <;> rfl) inv.disk

/-- the invariant survives putting locker `i` into a state whose pending directory, if it may still be
renamed into place, is complete or gone, and a recoverable directory in the place of `held/` -/
theorem RInvW.set {s : Sys} (inv : RInvW s) (i : Nat) (me' : Locker) (h' : Option Dir)
    (hp : me'.pc.hasPend = true → me'.pend = okDir ⟨i, me'.nonce⟩ ∨ me'.pend = none)
    (hr : recoverable h' = true) : RInvW { s with lk := upd s.lk i me', held := h' } := by
  refine ⟨hr, fun j => ?_⟩
  by_cases hj : j = i
  · subst hj; simpa using hp
  · simpa [upd, hj] using inv.pend j

theorem RInvW.step27 {s : Sys} (inv : RInvW s) (fx : Bool) (e : Ev27) : RInvW (step27 fx s e) := by
  cases e with
  | base e =>
    cases e with
    | step i =>
      simp only [C27.step27]
      split
      · rename_i hc; exact inv.set i _ _ (fun _ => .inr hc.2.2) inv.disk
      split
      · exact inv.set i _ _ (by simp [Pc.hasPend]) inv.disk
      · exact inv.step (.step i)
    | start i op => exact inv.step (.start i op)
    | fault i k => exact inv.step (.fault i k)
    | crash i => exact inv.step (.crash i)
  | lost i k =>
    simp only [C27.step27]
    split
    · exact inv
    rename_i hc
    -- where the rename cannot take effect the event is an ordinary step; where no rename is pending, a fault
    have hstep : RInvW { s with lk := upd s.lk i (lstep i s.cfg s.crashed (s.lk i) s.held).1,
                                held := (lstep i s.cfg s.crashed (s.lk i) s.held).2.1 } :=
      (inv.step (.step i)).congr (by simp [Sys.step, hc]) (by simp [Sys.step, hc])
    have hfault : RInvW { s with lk := upd s.lk i (lfault k (s.lk i)), held := s.held } :=
      (inv.step (.fault i k)).congr (by simp [Sys.step, hc]) (by simp [Sys.step, hc])
    -- a rename away that took effect leaves `held/` free and the locker outside the attempt's rename loop
    have away : ∀ (me' : Locker), me'.pc.hasPend = false →
        RInvW { s with lk := upd s.lk i me', held := none } :=
      fun me' hp => inv.set i me' none (by simp [hp]) rfl
    unfold lostReply
    cases hpc : (s.lk i).pc with
    | aRename =>
      have hpend := inv.pend i (by simp [hpc, Pc.hasPend])
      cases hh : s.held <;> cases hp : (s.lk i).pend <;> simp only []
      · exact inv.set i _ _ (fun _ => .inr rfl) rfl
      · -- the pending directory is now `held/`
        refine inv.set i _ _ (fun _ => .inr rfl) ?_
        rcases hpend with h | h <;> rw [hp] at h
        · rw [h]; rfl
        · cases h
      · exact inv.set i _ _ (fun _ => .inr rfl) (hh ▸ inv.disk)
      · exact hh ▸ hstep
    | uRename =>
      cases hh : s.held <;> simp only []
      · exact hh ▸ hstep
      · exact away _ (by simp [Pc.hasPend])
    | bRename x ret =>
      cases hh : s.held <;> simp only []
      · exact hh ▸ hstep
      · exact away _ (by cases ret <;> simp [breakErr, Pc.hasPend, Locker.done])
    | xRename t =>
      cases hh : s.held <;> simp only []
      · exact hh ▸ hstep
      · exact away _ (by simp [Pc.hasPend])
    | _ => exact hfault

theorem RInvW.run27 {s : Sys} (inv : RInvW s) (fx : Bool) (evs : List Ev27) : RInvW (run27 fx s evs) :=
  List.foldlRecOn (motive := RInvW) evs _ inv fun _ h e _ => h.step27 fx e

theorem RInvW.init (cfg : Nat → Cfg) (h0 : Option Dir) (h : recoverable h0 = true) : RInvW (Sys.init cfg h0) :=
  ⟨h, fun _ hp => by simp [Sys.init, Pc.hasPend] at hp⟩

/-- where pending directories are complete the extended machine, given no lost reply, is the machine of C26:
its one extra case of a step, a rename whose pending directory is gone, does not arise -/
theorem run27_map_base (evs : List Ev) {s : Sys} (hp : PendOk s) : run27 false s (evs.map .base) = s.run evs := by
  induction evs generalizing s with
  | nil => rfl
  | cons e es ih =>
    simp only [List.map_cons, run27, List.foldl_cons, Sys.run]
    have hstep : step27 false s (.base e) = s.step e := by
      cases e with
      | step i =>
        simp only [step27]
        have h1 : ¬ (s.crashed i = false ∧ (s.lk i).pc = .aRename ∧ (s.lk i).pend = none) := by
          intro ⟨_, hpc, hn⟩
          have := hp i (by simp [hpc, Pc.hasPend])
          rw [hn] at this; simp [okDir] at this
        simp [h1]
      | _ => rfl
    rw [hstep]
    exact ih (hp.step e)

end BreezyVerif.C27
