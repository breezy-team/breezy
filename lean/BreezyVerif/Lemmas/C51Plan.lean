import BreezyVerif.Lemmas.C51
/-!
C51 — `generate_simple_plan`: what the plan loop adds, the slice of `order` it runs
over, the closure invariant of its new parents (`PlanClosedW`, `topoFrom`), and exactly
which revisions it leaves out.
-/
namespace BreezyVerif.C51
open BreezyVerif.C33

theorem planLoop_append (g : PMap) (gen : Key → Key) (onto : Key) (skip : Bool) :
    ∀ (pre post : List Key) (st st' : Plan × Skipped), planLoop g gen onto skip st (pre ++ post) = .ok st' →
      ∃ st1, planLoop g gen onto skip st pre = .ok st1 ∧ planLoop g gen onto skip st1 post = .ok st' := by
  intro pre
  induction pre with
  | nil => intro post st st' h; exact ⟨st, rfl, h⟩
  | cons x pre ih =>
    intro post st st' h
    obtain ⟨st2, hs, h⟩ := planLoop_cons.mp h
    obtain ⟨st1, h1, h2⟩ := ih post st2 st' h
    exact ⟨st1, planLoop_cons.mpr ⟨st2, hs, h1⟩, h2⟩

theorem planLoop_adds (g : PMap) (gen : Key → Key) (onto : Key) (skip : Bool) :
    ∀ (todo : List Key) (st st' : Plan × Skipped), planLoop g gen onto skip st todo = .ok st' →
      ∃ added : Plan, st'.1 = st.1 ++ added ∧ (added.map (·.old)).Sublist todo ∧
        (skip = false → added.map (·.old) = todo) ∧
        ∀ e ∈ added, e.new = gen e.old ∧ gen e.old ≠ e.old := by
  intro todo
  induction todo with
  | nil =>
    intro st st' h
    cases h
    exact ⟨[], (List.append_nil _).symm, List.Sublist.slnil, fun _ => rfl, fun e he => by cases he⟩
  | cons old todo ih =>
    intro st st' h
    obtain ⟨st1, hstep, h⟩ := planLoop_cons.mp h
    obtain ⟨added, h1, h2, h3, h4⟩ := ih st1 st' h
    obtain ⟨p0, rest, _, hc | hc⟩ := planStep_cases hstep
    · rw [hc.1] at h1
      exact ⟨added, h1, List.Sublist.cons _ h2, fun hf => absurd (hf ▸ hc.2.1) Bool.false_ne_true, h4⟩
    · rw [hc.1] at h1
      refine ⟨⟨old, gen old, (newParents g onto st.1 st.2 p0 rest).1 :: (newParents g onto st.1 st.2 p0 rest).2⟩ :: added,
        by rw [h1, List.append_assoc]; rfl, List.Sublist.cons_cons _ h2, fun hf => by rw [List.map_cons, h3 hf], ?_⟩
      intro e he
      rcases List.mem_cons.mp he with he | he
      · subst he; exact ⟨rfl, hc.2.1⟩
      · exact h4 e he

/-- induction along a run of the plan loop over `all`, the invariant knowing which revisions are done -/
theorem planLoop_induct_at {g : PMap} {gen : Key → Key} {onto : Key} {skip : Bool} {P : List Key → Plan × Skipped → Prop}
    (all : List Key)
    (hstep : ∀ done old rest st st', all = done ++ old :: rest → P done st →
      planStep g gen onto skip st old = .ok st' → P (done ++ [old]) st') :
    ∀ (todo done : List Key) (st st' : Plan × Skipped), all = done ++ todo → P done st →
      planLoop g gen onto skip st todo = .ok st' → P all st' := by
  intro todo
  induction todo with
  | nil => intro done st st' hall hP h; cases h; rw [hall, List.append_nil]; exact hP
  | cons old todo ih =>
    intro done st st' hall hP h
    obtain ⟨st1, hs, h⟩ := planLoop_cons.mp h
    exact ih (done ++ [old]) st1 st' (by rw [hall, List.append_assoc]; rfl) (hstep done old todo st st1 hall hP hs) h

theorem planLoop_induct {g : PMap} {gen : Key → Key} {onto : Key} {skip : Bool} {P : Plan × Skipped → Prop}
    (hstep : ∀ st old st', P st → planStep g gen onto skip st old = .ok st' → P st') :
    ∀ (todo : List Key) (st st' : Plan × Skipped), P st → planLoop g gen onto skip st todo = .ok st' → P st' :=
  fun todo st st' => planLoop_induct_at (P := fun _ => P) todo (fun _ old _ s s' _ => hstep s old s') todo [] st st' rfl

/-- entries and skip records are never removed -/
theorem planLoop_mono (g : PMap) (gen : Key → Key) (onto : Key) (skip : Bool) :
    ∀ (todo : List Key) (st st' : Plan × Skipped), planLoop g gen onto skip st todo = .ok st' →
      (∀ k ∈ st.1.map (·.old), k ∈ st'.1.map (·.old)) ∧ (∀ k ∈ st.2.map (·.1), k ∈ st'.2.map (·.1)) := by
  intro todo st st'
  refine planLoop_induct (P := fun s => (∀ k ∈ st.1.map (·.old), k ∈ s.1.map (·.old)) ∧
    ∀ k ∈ st.2.map (·.1), k ∈ s.2.map (·.1)) (fun s old s' hP hs => ?_) todo st st' ⟨fun _ h => h, fun _ h => h⟩
  obtain ⟨_, _, _, hc | hc⟩ := planStep_cases hs
  · rw [hc.1]
    exact ⟨hP.1, fun k hk => by rw [List.map_append]; exact List.mem_append_left _ (hP.2 k hk)⟩
  · rw [hc.1]
    exact ⟨fun k hk => by rw [List.map_append]; exact List.mem_append_left _ (hP.1 k hk), hP.2⟩

/-- every alias recorded for a skipped merge is the new base or the new id of an entry already in the plan -/
theorem planStep_alias {g : PMap} {gen : Key → Key} {onto : Key} {skip : Bool} {st st' : Plan × Skipped} {old : Key}
    (hsk : ∀ kv ∈ st.2, kv.2 = onto ∨ ∃ e ∈ st.1, e.new = kv.2)
    (hstep : planStep g gen onto skip st old = .ok st') : ∀ kv ∈ st'.2, kv.2 = onto ∨ ∃ e ∈ st'.1, e.new = kv.2 := by
  obtain ⟨p0, rest, _, hc | hc⟩ := planStep_cases hstep
  · rw [hc.1]
    intro kv hkv
    rcases List.mem_append.mp hkv with hkv | hkv
    · exact hsk kv hkv
    · rw [List.mem_singleton.mp hkv]
      exact src1_resolved hsk (newParents_src g onto st.1 st.2 p0 rest).1
  · rw [hc.1]
    exact fun kv hkv => (hsk kv hkv).imp_right fun ⟨e, he, h1⟩ => ⟨e, List.mem_append_left _ he, h1⟩

theorem indexOf_get {l : List Key} {k : Key} {i : Nat} (h : indexOf? l k = some i) : l[i]? = some k := by
  unfold indexOf? at h
  simp only at h
  split at h
  · rename_i hlt
    cases h
    rw [List.getElem?_eq_getElem hlt]
    exact congrArg some (eq_of_beq (List.findIdx_getElem (w := hlt)))
  · cases h

theorem pickStop_ok {order : List Key} {stop : Option Key} {s : Key} (h : pickStop order stop = .ok s) :
    stop = some s ∨ (stop = none ∧ order.getLast? = some s) := by
  unfold pickStop at h
  split at h
  · exact Or.inl (congrArg some (Except.ok.inj h))
  · split at h
    · rename_i hl; exact Or.inr ⟨rfl, hl.trans (congrArg some (Except.ok.inj h))⟩
    · cases h

theorem pickStart_ok {g : PMap} {order : List Key} {onto stopK : Key} {start : Option Key} {s : Key}
    (h : pickStart g order onto stopK start = .ok s) :
    start = some s ∨ (start = none ∧ order.head? = some s ∧ unrelated g stopK onto = false) := by
  unfold pickStart at h
  split at h
  · exact Or.inl (congrArg some (Except.ok.inj h))
  · split at h
    · cases h
    · rename_i hu
      split at h
      · rename_i hh
        exact Or.inr ⟨rfl, hh.trans (congrArg some (Except.ok.inj h)), Bool.eq_false_iff.mpr hu⟩
      · cases h

theorem simplePlan_slice {g : PMap} {gen : Key → Key} {todoS order : List Key} {start stop : Option Key}
    {onto : Key} {skip : Bool} {plan : Plan}
    (h : simplePlan g gen todoS order start stop onto skip = .ok plan) :
    ∃ stopK startK i j, (stop = some stopK ∨ (stop = none ∧ order.getLast? = some stopK)) ∧
      (start = some startK ∨ (start = none ∧ order.head? = some startK ∧ unrelated g stopK onto = false)) ∧
      indexOf? order startK = some i ∧ indexOf? order stopK = some j ∧
      ∃ sk, planLoop g gen onto skip ([], []) ((order.drop i).take (j + 1 - i)) = .ok (plan, sk) := by
  unfold simplePlan at h
  split at h
  · cases h
  split at h
  · cases h
  split at h
  · cases h
  rename_i stopK hs
  split at h
  · cases h
  rename_i startK hst
  split at h
  · rename_i i j hi hj
    split at h
    · rename_i st hl
      cases h
      exact ⟨stopK, startK, i, j, pickStop_ok hs, pickStart_ok hst, hi, hj, st.2, hl⟩
    · cases h
  · cases h

theorem sublist_drop_take (l : List Key) (i n : Nat) : ((l.drop i).take n).Sublist l :=
  (List.take_sublist _ _).trans (List.drop_sublist _ _)

theorem simplePlan_adds {g : PMap} {gen : Key → Key} {todoS order : List Key} {start stop : Option Key}
    {onto : Key} {skip : Bool} {plan : Plan}
    (h : simplePlan g gen todoS order start stop onto skip = .ok plan) :
    ∃ i n sk, planLoop g gen onto skip ([], []) ((order.drop i).take n) = .ok (plan, sk) ∧
      (plan.map (·.old)).Sublist ((order.drop i).take n) ∧
      ∀ e ∈ plan, e.new = gen e.old ∧ gen e.old ≠ e.old := by
  obtain ⟨_, _, i, j, _, _, _, _, sk, hl⟩ := simplePlan_slice h
  obtain ⟨added, ha, hsub, _, hadd⟩ := planLoop_adds g gen onto skip _ ([], []) (plan, sk) hl
  cases (show plan = added from ha)
  exact ⟨i, j + 1 - i, sk, hl, hsub, hadd⟩

theorem simplePlan_loop {g : PMap} {gen : Key → Key} {todoS order : List Key} {stop : Option Key}
    {onto : Key} {skip : Bool} {plan : Plan} (hnd : order.Nodup)
    (hstop : ∀ s, stop = some s → order.getLast? = some s)
    (h : simplePlan g gen todoS order none stop onto skip = .ok plan) :
    ∃ sk, planLoop g gen onto skip ([], []) order = .ok (plan, sk) := by
  obtain ⟨stopK, startK, i, j, hs, (hh | ⟨_, hh, _⟩), hi, hj, sk, hl⟩ := simplePlan_slice h
  · cases hh
  have hlast : order.getLast? = some stopK := hs.elim (hstop stopK) fun h2 => h2.2
  -- without repetitions the first revision has index 0 and the last one index `length - 1`
  have hi0 : i = 0 := by
    have hi := indexOf_get hi
    exact (List.getElem?_inj ((List.getElem?_eq_some_iff.mp hi).1) hnd).mp (hi.trans (List.head?_eq_getElem? ▸ hh).symm)
  have hjl : j = order.length - 1 := by
    have hj := indexOf_get hj
    exact (List.getElem?_inj ((List.getElem?_eq_some_iff.mp hj).1) hnd).mp (hj.trans (List.getLast?_eq_getElem? ▸ hlast).symm)
  rw [hi0, hjl, List.drop_zero, List.take_of_length_le (by omega)] at hl
  exact ⟨sk, hl⟩

/-- walking the plan in order with the new ids seen so far: every new parent is the new base, the new id of an
entry seen earlier, or an old revision `p` allowed by `W entry p` -/
def PlanClosedW (onto : Key) (W : Entry → Key → Prop) : List Key → Plan → Prop
  | _, [] => True
  | news, e :: rest =>
    (∀ p ∈ e.parents, p = onto ∨ p ∈ news ∨ W e p) ∧ PlanClosedW onto W (news ++ [e.new]) rest

/-- … or a GHOST PARENT OF THE OLD REVISION (which cannot be rewritten) -/
def PlanClosed (g : PMap) (onto : Key) : List Key → Plan → Prop :=
  PlanClosedW onto (fun e p => p ∈ parentsL g e.old ∧ parentsOf g p = none)

/-- … or a parent of the old revision that lies outside `slice`, the revisions asked to be rewritten, and is not
merged into the new base -/
def PlanClosedS (g : PMap) (onto : Key) (slice : List Key) : List Key → Plan → Prop :=
  PlanClosedW onto (fun e p => p ∈ parentsL g e.old ∧ p ∉ slice ∧ mergedInto g p onto = false)

theorem planClosedW_append (onto : Key) (W : Entry → Key → Prop) : ∀ (plan : Plan) (news : List Key) (e : Entry),
    PlanClosedW onto W news plan →
    (∀ p ∈ e.parents, p = onto ∨ p ∈ news ++ plan.map (·.new) ∨ W e p) →
    PlanClosedW onto W news (plan ++ [e]) := by
  intro plan
  induction plan with
  | nil => intro news e _ h; simpa [PlanClosedW] using h
  | cons x plan ih =>
    intro news e hc h
    simp only [List.cons_append, PlanClosedW] at hc ⊢
    refine ⟨hc.1, ih _ e hc.2 ?_⟩
    simpa [List.append_assoc] using h

theorem planClosedW_mono (onto : Key) (W W' : Entry → Key → Prop) : ∀ (plan : Plan) (news : List Key),
    (∀ e ∈ plan, ∀ p, W e p → W' e p) → PlanClosedW onto W news plan → PlanClosedW onto W' news plan := by
  intro plan
  induction plan with
  | nil => intro _ _ _; trivial
  | cons x plan ih =>
    intro news hw hc
    simp only [PlanClosedW] at hc ⊢
    refine ⟨fun p hp => ?_, ih _ (fun e he => hw e (List.mem_cons_of_mem _ he)) hc.2⟩
    rcases hc.1 p hp with h | h | h
    · exact Or.inl h
    · exact Or.inr (Or.inl h)
    · exact Or.inr (Or.inr (hw x (by simp) p h))

/-- no revision's parent appears at or after it (`topo_sort` output) -/
def topoFrom (g : PMap) : List Key → Bool
  | [] => true
  | old :: rest => (parentsL g old).all (fun p => p != old && !(rest.contains p)) && topoFrom g rest

theorem topoFrom_cons {g : PMap} {old : Key} {rest : List Key} :
    topoFrom g (old :: rest) = true ↔ (∀ p ∈ parentsL g old, p ≠ old ∧ p ∉ rest) ∧ topoFrom g rest = true := by
  simp only [topoFrom, Bool.and_eq_true, List.all_eq_true, bne_iff_ne, Bool.not_eq_true',
    List.contains_eq_mem, decide_eq_false_iff_not]

theorem topoFrom_sublist {g : PMap} {l' l : List Key} (hs : l'.Sublist l) (h : topoFrom g l = true) :
    topoFrom g l' = true := by
  induction hs with
  | slnil => rfl
  | cons a _ ih => exact ih (topoFrom_cons.mp h).2
  | cons_cons a hs ih =>
    obtain ⟨ha, ht⟩ := topoFrom_cons.mp h
    exact topoFrom_cons.mpr ⟨fun p hp => ⟨(ha p hp).1, fun hm => (ha p hp).2 (hs.subset hm)⟩, ih ht⟩

theorem topoFrom_suffix {g : PMap} {l1 l2 : List Key} (h : topoFrom g (l1 ++ l2) = true) : topoFrom g l2 = true :=
  topoFrom_sublist (List.sublist_append_right l1 l2) h

theorem topoFrom_last {g : PMap} {l : List Key} {j z : Key} (h : topoFrom g l = true) (hj : j ∈ l)
    (hz : l.getLast? = some z) : z ∉ parentsL g j := by
  obtain ⟨l1, l2, rfl⟩ := List.append_of_mem hj
  intro hp
  have hnot := (topoFrom_cons.mp (topoFrom_suffix h)).1 z hp
  rw [List.getLast?_append, List.getLast?_eq_some_getLast (List.cons_ne_nil j l2), Option.some_or] at hz
  rcases List.mem_cons.mp (Option.some.inj hz ▸ List.getLast_mem _) with h1 | h1
  · exact hnot.1 h1
  · exact hnot.2 h1

/-- the closure invariant of the plan loop, for any list of revisions in topological order (any start / stop):
a new parent that is neither the new base nor an earlier new id is a parent of the old revision that is outside the
list and not merged into the new base -/
theorem planLoop_closedS (g : PMap) (gen : Key → Key) (onto : Key) (skip : Bool) (all : List Key)
    (st' : Plan × Skipped) (htopo : topoFrom g all = true)
    (h : planLoop g gen onto skip ([], []) all = .ok st') : PlanClosedS g onto all [] st'.1 := by
  -- carried along: every revision done is rewritten or skipped, and every stand-in is resolved
  refine (planLoop_induct_at (P := fun done st =>
      (∀ k ∈ done, k ∈ st.1.map (·.old) ∨ k ∈ st.2.map (·.1)) ∧
      (∀ kv ∈ st.2, kv.2 = onto ∨ ∃ e ∈ st.1, e.new = kv.2) ∧ PlanClosedS g onto all [] st.1) all
    (fun done old rest st st1 hall ⟨hdone, hsk, hc⟩ hstep => ?_) all [] ([], []) st' rfl
    ⟨fun _ hk => (nomatch hk), fun _ hkv => (nomatch hkv), trivial⟩ h).2.2
  have htopo' := (topoFrom_cons.mp (topoFrom_suffix (hall ▸ htopo))).1
  obtain ⟨p0, rest', hps, ⟨rfl, _⟩ | ⟨rfl, _⟩⟩ := planStep_cases hstep
  · -- skipped merge: recorded with its stand-in
    refine ⟨fun k hk => ?_, planStep_alias hsk hstep, hc⟩
    simp only [List.mem_append, List.map_append, List.mem_singleton, List.map_cons, List.map_nil] at hk ⊢
    rcases hk with hk | rfl
    · exact (hdone k hk).imp_right Or.inl
    · exact Or.inr (Or.inr rfl)
  · -- one entry appended
    refine ⟨fun k hk => ?_, planStep_alias hsk hstep, ?_⟩
    · simp only [List.mem_append, List.map_append, List.mem_singleton, List.map_cons, List.map_nil] at hk ⊢
      rcases hk with hk | rfl
      · exact (hdone k hk).imp_left Or.inl
      · exact Or.inl (Or.inr rfl)
    have hsrc := newParents_src g onto st.1 st.2 p0 rest'
    apply planClosedW_append onto _ st.1 [] _ hc
    intro p hp
    -- a stand-in is the new base or a new id already in the plan
    have res1 : ∀ {W : Prop}, Src1 onto st.1 st.2 p → p = onto ∨ p ∈ [] ++ st.1.map (·.new) ∨ W := fun hx =>
      (src1_resolved hsk hx).imp_right fun ⟨e, he, h1⟩ => Or.inl (List.mem_map.mpr ⟨e, he, h1⟩)
    rcases List.mem_cons.mp hp with hp | hp
    · exact res1 (hp ▸ hsrc.1)
    · rcases hsrc.2 p hp with h1 | ⟨h1, h2, h3, h4⟩
      · exact res1 h1
      · -- an old parent kept: not merged into onto, neither rewritten nor skipped ⇒ outside the list
        have hpl : p ∈ parentsL g old := mem_parentsL.mpr ⟨_, hps, h1⟩
        refine Or.inr (Or.inr ⟨hpl, fun hin => ?_, h2⟩)
        rw [hall] at hin
        rcases List.mem_append.mp hin with h5 | h5
        · exact (hdone p h5).elim h3 h4
        · rcases List.mem_cons.mp h5 with h6 | h6
          · exact (htopo' p hpl).1 h6
          · exact (htopo' p hpl).2 h6

/-- in a topological order of the present revisions of `find_difference(tip, onto)[0]` nothing comes after `tip` -/
theorem tip_is_last (g : PMap) (tip onto : Key) (order : List Key) (hnd : order.Nodup)
    (hmem : ∀ k, k ∈ order ↔ (k ∈ todoSet g tip onto ∧ present g k = true))
    (htopo : topoFrom g order = true) (htip : tip ∈ order) : order.getLast? = some tip := by
  obtain ⟨z, hz⟩ : ∃ z, order.getLast? = some z := by
    cases order with
    | nil => cases htip
    | cons x l => exact ⟨_, List.getLast?_eq_some_getLast (List.cons_ne_nil x l)⟩
  obtain ⟨hzt, hzo⟩ := mem_todoSet.mp ((hmem z).mp (List.mem_of_getLast? hz)).1
  -- `z` is reached from `tip`; were it reached through a child `j`, that child would be in `order`, after `z`
  cases (anc_spec g tip z).mp hzt with
  | base hk => rw [hz, List.mem_singleton.mp hk]
  | @step j _ ps hj _ hps hk =>
    have hjno : j ∉ anc g onto := fun hm => hzo (anc_parent hm hps hk)
    have hjin : j ∈ order := (hmem j).mpr
      ⟨mem_todoSet.mpr ⟨(anc_spec g tip j).mpr hj, hjno⟩, present_iff.mpr ⟨ps, hps⟩⟩
    exact absurd (mem_parentsL.mpr ⟨ps, hps, hk⟩) (topoFrom_last htopo hjin hz)

theorem stop_is_last {g : PMap} {gen : Key → Key} {todoS order : List Key} {stop : Option Key} {tip onto : Key}
    {skip : Bool} {plan : Plan} (hnd : order.Nodup)
    (hmem : ∀ k, k ∈ order ↔ (k ∈ todoSet g tip onto ∧ present g k = true))
    (htopo : topoFrom g order = true) (hstop : stop = none ∨ stop = some tip)
    (h : simplePlan g gen todoS order none stop onto skip = .ok plan) :
    ∀ s, stop = some s → order.getLast? = some s := by
  intro s hs
  rcases hstop with h0 | h0
  · rw [h0] at hs; cases hs
  · rw [h0] at hs
    cases hs
    obtain ⟨stopK, _, _, j, hsk, _, _, hj, _⟩ := simplePlan_slice h
    have : stopK = tip := by
      rcases hsk with h1 | ⟨h1, _⟩
      · rw [h0] at h1; exact (Option.some.inj h1).symm
      · rw [h0] at h1; cases h1
    subst this
    exact tip_is_last g stopK onto order hnd hmem htopo (List.mem_of_getElem? (indexOf_get hj))

/-- the ghost form of the closure invariant, for the command's case (whole `order`, tip known) -/
theorem planLoop_closed (g : PMap) (gen : Key → Key) (tip onto : Key) (skip : Bool) (order : List Key)
    (st' : Plan × Skipped)
    (hmem : ∀ k, k ∈ order ↔ (k ∈ todoSet g tip onto ∧ present g k = true))
    (htopo : topoFrom g order = true)
    (h : planLoop g gen onto skip ([], []) order = .ok st') : PlanClosed g onto [] st'.1 := by
  have hS := planLoop_closedS g gen onto skip order st' htopo h
  obtain ⟨added, ha, hsub, _⟩ := planLoop_adds g gen onto skip order ([], []) st' h
  refine planClosedW_mono onto _ _ st'.1 [] (fun e he p ⟨hpl, hnin, hnm⟩ => ⟨hpl, ?_⟩) hS
  -- `e.old` is one of `order`, hence an ancestor of `tip`; so is its parent `p`, which is not in the history of
  -- `onto`: were `p` present, it would be in `order`
  have heo : e.old ∈ order := by
    simp only [List.nil_append] at ha
    rw [ha] at he
    exact hsub.subset (List.mem_map.mpr ⟨e, he, rfl⟩)
  obtain ⟨ps, hps, hp⟩ := mem_parentsL.mp hpl
  have hpA : p ∈ anc g tip := anc_parent (mem_todoSet.mp ((hmem e.old).mp heo).1).1 hps hp
  have hnm' : p ∉ anc g onto := fun hm => by simp [mergedInto, hm] at hnm
  cases hpp : parentsOf g p with
  | none => rfl
  | some pps => exact absurd ((hmem p).mpr ⟨mem_todoSet.mpr ⟨hpA, hnm'⟩, present_iff.mpr ⟨pps, hpp⟩⟩) hnin

/-- when the loop, run from the empty state over a duplicate-free list, leaves a revision `k` out: exactly if
skipping is on, `k` is a merge and its new parents, computed in the state `st1` reached before `k`, collapse to one;
that one is then the new base or the new id of an earlier entry -/
theorem planLoop_skip_exact (g : PMap) (gen : Key → Key) (onto : Key) (skip : Bool) (plan : Plan) (sk : Skipped)
    (pre post : List Key) (k : Key) (hnd : (pre ++ k :: post).Nodup)
    (hl : planLoop g gen onto skip ([], []) (pre ++ k :: post) = .ok (plan, sk)) :
    ∃ st1 p0 rest later, planLoop g gen onto skip ([], []) pre = .ok st1 ∧ plan = st1.1 ++ later ∧
      parentsOf g k = some (p0 :: rest) ∧
      (k ∉ plan.map (·.old) ↔
        (skip = true ∧ rest ≠ [] ∧ (newParents g onto st1.1 st1.2 p0 rest).2 = [])) ∧
      (k ∉ plan.map (·.old) →
        (newParents g onto st1.1 st1.2 p0 rest).1 = onto ∨
        ∃ e ∈ st1.1, e.new = (newParents g onto st1.1 st1.2 p0 rest).1) := by
  obtain ⟨st1, hpre, hrest⟩ := planLoop_append g gen onto skip pre (k :: post) ([], []) (plan, sk) hl
  have hkpre : k ∉ pre := fun hm => (List.nodup_append.mp hnd).2.2 k hm k (by simp) rfl
  have hkpost : k ∉ post := (List.nodup_cons.mp (List.nodup_append.mp hnd).2.1).1
  obtain ⟨add1, ha1, hsub1, _⟩ := planLoop_adds g gen onto skip pre ([], []) st1 hpre
  simp only [List.nil_append] at ha1
  have hk1 : k ∉ st1.1.map (·.old) := fun hm => hkpre (by rw [ha1] at hm; exact hsub1.subset hm)
  have halias := planLoop_induct (fun _ _ _ => planStep_alias) pre ([], []) st1 (fun kv hkv => nomatch hkv) hpre
  obtain ⟨st2, hstep, hrest⟩ := planLoop_cons.mp hrest
  obtain ⟨add2, ha2, hsub2, _⟩ := planLoop_adds g gen onto skip post st2 (plan, sk) hrest
  simp only at ha2
  obtain ⟨p0, rest, hps, ⟨hst, hcond⟩ | ⟨hst, _, hcond⟩⟩ := planStep_cases hstep
  · -- left out
    subst hst
    simp only at ha2
    have hnot : k ∉ plan.map (·.old) := by
      rw [ha2]
      simp only [List.map_append, List.mem_append, not_or]
      exact ⟨hk1, fun hm => hkpost (hsub2.subset hm)⟩
    exact ⟨st1, p0, rest, add2, hpre, ha2, hps, ⟨fun _ => hcond, fun _ => hnot⟩,
      fun _ => src1_resolved halias (newParents_src g onto st1.1 st1.2 p0 rest).1⟩
  · -- rewritten
    subst hst
    simp only at ha2
    have hin : k ∈ plan.map (·.old) := by
      rw [ha2]
      simp
    refine ⟨st1, p0, rest, ⟨k, gen k, (newParents g onto st1.1 st1.2 p0 rest).1 ::
        (newParents g onto st1.1 st1.2 p0 rest).2⟩ :: add2, hpre, by rw [ha2]; simp, hps,
      ⟨fun hn => absurd hin hn, fun hc => absurd hc hcond⟩, fun hn => absurd hin hn⟩

end BreezyVerif.C51
