import BreezyVerif.Lemmas.C48
/-! C48 — the Globster / ExceptionGlobster selection theorems, proved once for an
arbitrary *group matcher* `gm` (what one `(regex, patterns)` entry answers) that
is sound and complete with respect to the per-pattern meaning `kindMatches`,
then instantiated for the two modelled shapes of the group regex:
`groupMatchO` (the code since ac6b52e: alternatives tried in order) and
`groupMatch` (the earlier shared greedy extension prefix). -/
namespace BreezyVerif.C48

abbrev GroupMatcher := Kind → List CPat → List Char → Option CPat

/-- a reported pattern belongs to the group and matches -/
def GMSound (gm : GroupMatcher) : Prop :=
  ∀ k grp name p, gm k grp name = some p → p ∈ grp ∧ kindMatches k p name = true

/-- a group with a matching pattern reports something -/
def GMComplete (gm : GroupMatcher) : Prop :=
  ∀ k grp name p, p ∈ grp → kindMatches k p name = true → (gm k grp name).isSome = true

/-- `Globster.match` over a group matcher -/
def globsterWith (gm : GroupMatcher) (g : Nat) (cps : List CPat) (name : List Char) : Option CPat :=
  (groups g cps).findSome? fun kg => gm kg.1 kg.2 name

/-- `ExceptionGlobster.match` over a group matcher -/
def exceptionWith (gm : GroupMatcher) (g : Nat) (p0 p1 p2 : List CPat) (name : List Char) : Option (List Char) :=
  let dn := globsterWith gm g p2 name
  if truthy dn then dn.map fun p => '!' :: '!' :: p.src
  else if truthy (globsterWith gm g p1 name) then none
  else (globsterWith gm g p0 name).map (·.src)

theorem globsterMatch_eq_with : globsterMatch = globsterWith groupMatch := rfl
theorem globsterMatchO_eq_with : globsterMatchO = globsterWith groupMatchO := rfl
theorem exceptionMatch_eq_with : exceptionMatch = exceptionWith groupMatch := rfl
theorem exceptionMatchO_eq_with : exceptionMatchO = exceptionWith groupMatchO := rfl

theorem groupMatch_sound : GMSound groupMatch := fun _ _ _ _ h => groupMatch_some h
theorem groupMatch_complete : GMComplete groupMatch := fun _ _ _ _ hp hm => groupMatch_isSome hp hm

theorem groupMatchO_sound : GMSound groupMatchO := by
  intro k grp name p h
  unfold groupMatchO at h
  exact ⟨List.mem_of_find?_eq_some h, by simpa using List.find?_some h⟩

theorem groupMatchO_complete : GMComplete groupMatchO := by
  intro k grp name p hp hm
  unfold groupMatchO
  rw [List.find?_isSome]
  exact ⟨p, hp, hm⟩

def noEmptySrc (cps : List CPat) : Bool := cps.all fun p => !p.src.isEmpty

section generic
variable {gm : GroupMatcher}

theorem gen_reported (hs : GMSound gm) (g : Nat) (cps : List CPat) (name : List Char) (p : CPat)
    (h : globsterWith gm g cps name = some p) : p ∈ cps ∧ cpMatches p name = true := by
  unfold globsterWith at h
  obtain ⟨⟨k, grp⟩, hmem, hgm⟩ := List.exists_of_findSome?_eq_some h
  obtain ⟨hp, hm⟩ := hs _ _ _ _ hgm
  have hk := (mem_ofKind.mp (chunks_sub g _ grp (mem_groups hmem) p hp))
  refine ⟨hk.1, ?_⟩
  rw [cpMatches_eq, hk.2]; exact hm

theorem gen_ignored_iff (hs : GMSound gm) (hc : GMComplete gm) (g : Nat) (hg : 0 < g)
    (cps : List CPat) (name : List Char) :
    (globsterWith gm g cps name).isSome = true ↔ ∃ p ∈ cps, cpMatches p name = true := by
  constructor
  · intro h
    obtain ⟨p, hp⟩ := Option.isSome_iff_exists.mp h
    exact ⟨p, gen_reported hs g cps name p hp⟩
  · rintro ⟨p, hp, hm⟩
    have hin : p ∈ (chunks g (ofKind p.kind cps)).flatten := by
      rw [chunks_flatten g hg]; exact mem_ofKind.mpr ⟨hp, rfl⟩
    obtain ⟨grp, hgrp, hpg⟩ := List.mem_flatten.mp hin
    unfold globsterWith
    rw [List.findSome?_isSome_iff]
    refine ⟨(p.kind, grp), groups_mem hgrp, ?_⟩
    exact hc _ _ _ _ hpg (by rw [← cpMatches_eq]; exact hm)

theorem gen_truthy_iff (hs : GMSound gm) (hc : GMComplete gm) (g : Nat) (hg : 0 < g)
    (cps : List CPat) (name : List Char) (hne : noEmptySrc cps = true) :
    truthy (globsterWith gm g cps name) = true ↔ ∃ p ∈ cps, cpMatches p name = true := by
  rw [← gen_ignored_iff hs hc g hg]
  cases h : globsterWith gm g cps name with
  | none => simp [truthy]
  | some p =>
    have hp := (gen_reported hs g cps name p h).1
    have := List.all_eq_true.mp hne p hp
    simp [truthy, this]

theorem gen_none_of_no_match (hs : GMSound gm) (g : Nat) (cps : List CPat) (name : List Char)
    (h : ¬ ∃ p ∈ cps, cpMatches p name = true) : globsterWith gm g cps name = none := by
  cases hm : globsterWith gm g cps name with
  | none => rfl
  | some p => exact absurd ⟨p, gen_reported hs g cps name p hm⟩ h

/-- `ExceptionGlobster.match` when the `!!` list reports a pattern with a non-empty source -/
theorem exceptionWith_some {g : Nat} {p0 p1 p2 : List CPat} {name : List Char} {q : CPat}
    (h : globsterWith gm g p2 name = some q) (hq : q.src.isEmpty = false) :
    exceptionWith gm g p0 p1 p2 name = some ('!' :: '!' :: q.src) := by
  unfold exceptionWith
  simp only [h, truthy, hq, Bool.not_false, if_true, Option.map_some]

/-- … and when it reports nothing: the `!` list vetoes, otherwise the plain list decides -/
theorem exceptionWith_none {g : Nat} {p0 p1 p2 : List CPat} {name : List Char}
    (h : globsterWith gm g p2 name = none) :
    exceptionWith gm g p0 p1 p2 name =
      if truthy (globsterWith gm g p1 name) then none else (globsterWith gm g p0 name).map (·.src) := by
  unfold exceptionWith
  simp only [h, truthy, Bool.false_eq_true, if_false]

theorem gen_exception_double (hs : GMSound gm) (hc : GMComplete gm) (g : Nat) (hg : 0 < g)
    (p0 p1 p2 : List CPat) (name : List Char)
    (hne : noEmptySrc p2 = true) (h2 : ∃ p ∈ p2, cpMatches p name = true) :
    ∃ q ∈ p2, cpMatches q name = true ∧ exceptionWith gm g p0 p1 p2 name = some ('!' :: '!' :: q.src) := by
  obtain ⟨q, hm⟩ := Option.isSome_iff_exists.mp ((gen_ignored_iff hs hc g hg p2 name).mpr h2)
  obtain ⟨hq, hqm⟩ := gen_reported hs g p2 name q hm
  exact ⟨q, hq, hqm, exceptionWith_some hm (by simpa using List.all_eq_true.mp hne q hq)⟩

theorem gen_exception_single (hs : GMSound gm) (hc : GMComplete gm) (g : Nat) (hg : 0 < g)
    (p0 p1 p2 : List CPat) (name : List Char)
    (hne : noEmptySrc p1 = true) (h2 : ¬ ∃ p ∈ p2, cpMatches p name = true)
    (h1 : ∃ p ∈ p1, cpMatches p name = true) :
    exceptionWith gm g p0 p1 p2 name = none := by
  rw [exceptionWith_none (gen_none_of_no_match hs g p2 name h2),
    if_pos ((gen_truthy_iff hs hc g hg p1 name hne).mpr h1)]

theorem gen_exception_plain (hs : GMSound gm) (g : Nat) (p0 p1 p2 : List CPat) (name : List Char)
    (h2 : ¬ ∃ p ∈ p2, cpMatches p name = true) (h1 : ¬ ∃ p ∈ p1, cpMatches p name = true) :
    exceptionWith gm g p0 p1 p2 name = (globsterWith gm g p0 name).map (·.src) := by
  rw [exceptionWith_none (gen_none_of_no_match hs g p2 name h2), gen_none_of_no_match hs g p1 name h1]
  rfl

/-- `ExceptionGlobster.match` in closed form: the `!!` list's answer if it has one, else nothing when a `!`
pattern matches, else the plain list's answer -/
theorem gen_exception_eq (hs : GMSound gm) (hc : GMComplete gm) (g : Nat) (hg : 0 < g)
    (p0 p1 p2 : List CPat) (name : List Char) (hne1 : noEmptySrc p1 = true) (hne2 : noEmptySrc p2 = true) :
    exceptionWith gm g p0 p1 p2 name =
      match globsterWith gm g p2 name with
      | some q => some ('!' :: '!' :: q.src)
      | none => if (p1.any fun p => cpMatches p name) then none else (globsterWith gm g p0 name).map (·.src) := by
  cases hm : globsterWith gm g p2 name with
  | none =>
    rw [exceptionWith_none hm]
    congr 1
    rw [gen_truthy_iff hs hc g hg p1 name hne1, List.any_eq_true]
  | some q =>
    exact exceptionWith_some hm (by simpa using List.all_eq_true.mp hne2 q (gen_reported hs g p2 name q hm).1)

theorem gen_exception_ignored_iff (hs : GMSound gm) (hc : GMComplete gm) (g : Nat) (hg : 0 < g)
    (p0 p1 p2 : List CPat) (name : List Char)
    (hne1 : noEmptySrc p1 = true) (hne2 : noEmptySrc p2 = true) :
    (exceptionWith gm g p0 p1 p2 name).isSome = true ↔
      (∃ p ∈ p2, cpMatches p name = true) ∨
      ((¬ ∃ p ∈ p1, cpMatches p name = true) ∧ ∃ p ∈ p0, cpMatches p name = true) := by
  rw [gen_exception_eq hs hc g hg p0 p1 p2 name hne1 hne2, ← gen_ignored_iff hs hc g hg p2,
    ← gen_ignored_iff hs hc g hg p0, ← List.any_eq_true]
  cases globsterWith gm g p2 name <;> cases (p1.any fun p => cpMatches p name) <;> simp

end generic

end BreezyVerif.C48
