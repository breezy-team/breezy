import BreezyVerif.Lemmas.C30Compose
import BreezyVerif.Lemmas.C29V3
import BreezyVerif.Lemmas.C29Misc
/-! the five laws for ProtocolThreeDecoder, and for the decoder with `decoding_failed` / a raising
message handler: the handler events only grow, so a check on them is a guard (`Laws.guard`) -/
namespace BreezyVerif.C30
open BreezyVerif.C29

/-- states in which the decoder waits for bytes, with the `_number_needed_bytes` it then has -/
def v3Wf : V3 → Prop
  | .run .version buf _ needed =>
      buf.length < marker3.length ∧ (needed = marker3.length ∨ (buf = [] ∧ needed = marker3.length + 4))
  | .run .part buf _ needed => buf = [] ∧ needed = 1
  | .run .oneByte buf _ needed => buf = [] ∧ needed = 1
  | .run _ buf _ needed => extractLP buf = .inl needed
  | _ => True

theorem v3Wf_proc (tag : V3Tag) (b : Bytes) (evs : List Ev) : v3Wf (V3.proc tag b evs) := by
  fun_induction V3.proc tag b evs
  case case1 hl _ => exact ⟨hl, Or.inl rfl⟩
  case case7 | case13 => exact ⟨rfl, rfl⟩
  -- a recursive call is the induction hypothesis, a wait in a length-prefixed state records
  -- the `extractLP` result at hand, `done` and `failed` are well-formed by definition
  any_goals assumption
  all_goals trivial

theorem v3Wf_feed (s : V3) (x : Bytes) (_h : v3Wf s) : v3Wf (s.feed x) := by
  cases s with
  | run tag buf evs n => exact v3Wf_proc _ _ _
  | done evs u => trivial
  | failed evs e => trivial

/-- least length of a buffer from which state `tag` can reach the end of a message
(`unbe32` of a buffer shorter than four bytes is 0) -/
def minNeed : V3Tag → Bytes → Nat
  | .version, _ => marker3.length + 5
  | .part, _ => 1
  | .oneByte, _ => 2
  | _, b => 5 + unbe32 b

theorem v3_proc_fin (tag : V3Tag) (b : Bytes) (evs : List Ev)
    (h : (V3.proc tag b evs).finished = true) :
    minNeed tag b + (V3.proc tag b evs).unused.length ≤ b.length := by
  fun_induction V3.proc tag b evs
  case case3 hl _ ih =>
    have := ih h
    simp only [minNeed, List.length_drop] at this ⊢
    omega
  case case6 he ih | case16 he ih | case18 he ih =>
    have h1 := ih h
    have h2 := extractLP_inr_len he
    simp only [minNeed] at h1 ⊢
    omega
  case case8 ih | case9 ih | case10 ih | case14 ih =>
    have h1 := ih h
    simp only [minNeed, List.length_cons] at h1 ⊢
    omega
  case case11 => simp only [minNeed, V3.unused, List.length_cons]; omega
  -- the remaining results are waiting or failed states, which are not finished
  all_goals cases h

theorem v3Laws : Laws v3Machine v3Wf where
  append := V3.feed_append
  wf_feed := v3Wf_feed
  fin_feed := by
    intro s x h
    cases s with
    | done evs u => exact ⟨rfl, rfl⟩
    | _ => cases h
  fin_stop := by
    intro s h
    cases s with
    | done evs u => rfl
    | _ => cases h
  hint := by
    intro s q hwf hnf hfin
    cases s with
    | run tag buf evs needed =>
      simp only [v3Machine, V3.feed_run] at hfin ⊢
      have hV := v3_proc_fin tag (buf ++ q) evs hfin
      simp only [List.length_append] at hV
      have key : buf.length < needed ∧ needed ≤ minNeed tag (buf ++ q) := by
        cases tag with
        | headers | bytes | struct =>
          obtain ⟨h1, h2⟩ := extractLP_inl hwf q
          exact ⟨h1, by simp only [minNeed]; omega⟩
        | part | oneByte => obtain ⟨rfl, rfl⟩ := hwf; simp [minNeed]
        | version =>
          obtain ⟨hl, rfl | ⟨rfl, rfl⟩⟩ := hwf
          · exact ⟨hl, by simp only [minNeed]; omega⟩
          · simp [minNeed, marker3]
      obtain ⟨k1, k2⟩ := key
      have h1 : (1 : Int) ≤ V3.nextReadSize (.run tag buf evs needed) := by
        simp only [V3.nextReadSize]; omega
      refine ⟨?_, h1, ?_⟩
      · simp only [beq_eq_false_iff_ne, ne_eq]; omega
      · simp only [V3.nextReadSize]; omega
    | done evs u => cases hnf
    | failed evs e => cases hfin

theorem v3Wf_init (m : Bool) : v3Wf (V3.init m) := by
  cases m
  · simp only [V3.init, Bool.false_eq_true, if_false]; show extractLP [] = .inl 4; rfl
  · simp only [V3.init, if_true]; exact ⟨by decide, Or.inr ⟨rfl, rfl⟩⟩

theorem v3_proc_events (tag : V3Tag) (b : Bytes) (evs : List Ev) :
    evs <+: (V3.proc tag b evs).events := by
  fun_induction V3.proc tag b evs
  -- cases 6, 14, 16, 18: the recursive call has one event more; 11: `done` adds `end_`
  case case6 ih | case14 ih | case16 ih | case18 ih => exact (List.prefix_append _ _).trans ih
  case case11 => exact List.prefix_append _ _
  any_goals assumption
  all_goals exact List.prefix_refl _

theorem v3_feed_events (s : V3) (x : Bytes) : s.events <+: (s.feed x).events := by
  cases s with
  | run tag buf evs n => exact v3_proc_events _ _ _
  | done evs u => exact List.prefix_refl _
  | failed evs e => exact List.prefix_refl _

theorem v3_feed_events_fin (s : V3) (x : Bytes) (h : s.finished = true) :
    (s.feed x).events = s.events := by
  cases s <;> simp [V3.finished] at h
  rfl

theorem v3Ok_mono (okH okS : Bytes → Bool) (s : V3) (x : Bytes)
    (h : v3Ok okH okS (s.feed x) = true) : v3Ok okH okS s = true := by
  obtain ⟨t, ht⟩ := v3_feed_events s x
  simp only [v3Ok, ← ht, List.all_append, Bool.and_eq_true] at h
  exact h.1

theorem respRun_prefix (fx : Bool) (a t : List Ev)
    (h : (Resp.run fx {} (a ++ t)).toBool = true) : (Resp.run fx {} a).toBool = true := by
  rw [Resp.run_append] at h
  cases hr : Resp.run fx {} a with
  | ok r => rfl
  | error e => rw [hr] at h; simp [Except.toBool] at h

theorem v3cOk_mono (okH okS isSeq : Bytes → Bool) (fx : Bool) (s : V3) (x : Bytes)
    (h : v3cOk okH okS isSeq fx (s.feed x) = true) : v3cOk okH okS isSeq fx s = true := by
  simp only [v3cOk, Bool.and_eq_true] at h ⊢
  obtain ⟨⟨h1, h2⟩, h3⟩ := h
  refine ⟨⟨v3Ok_mono _ _ s x h1, v3Ok_mono _ _ s x h2⟩, ?_⟩
  obtain ⟨t, ht⟩ := v3_feed_events s x
  rw [← ht] at h3
  exact respRun_prefix fx _ t h3

theorem v3gLaws (okH okS : Bytes → Bool) : Laws (v3gMachine okH okS) v3Wf :=
  v3Laws.guard _ (v3Ok_mono okH okS)
    (by intro s x h; simp only [v3Ok]; rw [show v3Machine.feed s x = s.feed x from rfl,
          v3_feed_events_fin s x h])

theorem v3cLaws (okH okS isSeq : Bytes → Bool) (fx : Bool) :
    Laws (v3cMachine okH okS isSeq fx) v3Wf :=
  v3Laws.guard _ (v3cOk_mono okH okS isSeq fx)
    (by intro s x h; simp only [v3cOk, v3Ok]; rw [show v3Machine.feed s x = s.feed x from rfl,
          v3_feed_events_fin s x h])

end BreezyVerif.C30
