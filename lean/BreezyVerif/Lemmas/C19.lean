import BreezyVerif.Model.C19
import BreezyVerif.Lemmas.C18
/-! C19 — the extended sentinel is fresh and `fixLine` rewrites exactly the start marker lines, so region by
region the marker rendering followed by the post-pass is the conventional rendering (`Agree`); and the
placement of an outcome at its final path. -/
namespace BreezyVerif.C19

theorem newlineOf_cases (this : List Line) :
    newlineOf this = [10] ∨ newlineOf this = [13, 10] ∨ newlineOf this = [13] := by
  unfold newlineOf
  split
  · simp
  · split
    · simp
    · split <;> simp

theorem extendMarker_fresh (lines : List Line) (fuel : Nat) (m : Bytes)
    (h : ∀ l ∈ lines, l.length < m.length + fuel) :
    ∀ l ∈ lines, (extendMarker lines fuel m).isPrefixOf l = false := by
  induction fuel generalizing m with
  | zero =>
    intro l hl
    simp only [extendMarker]
    cases hp : m.isPrefixOf l with
    | false => rfl
    | true =>
      have := (List.isPrefixOf_iff_prefix.mp hp).length_le
      have := h l hl
      omega
  | succ n ih =>
    simp only [extendMarker]
    split
    · apply ih
      intro l hl
      have := h l hl
      simp only [List.length_append, List.length_cons, List.length_nil]
      omega
    · rename_i hany
      intro l hl
      simp only [List.any_eq_true, not_exists, not_and, Bool.not_eq_true] at hany
      exact hany l hl

theorem extendMarker_prefix (lines : List Line) (fuel : Nat) (m : Bytes) :
    ∃ r, extendMarker lines fuel m = m ++ r := by
  induction fuel generalizing m with
  | zero => exact ⟨[], by simp [extendMarker]⟩
  | succ n ih =>
    simp only [extendMarker]
    split
    · obtain ⟨r, hr⟩ := ih (m ++ [33])
      exact ⟨[33] ++ r, by rw [hr]; simp⟩
    · exact ⟨[], by simp⟩

theorem le_maxLen (ls : List Line) (l : Line) (h : l ∈ ls) : l.length ≤ maxLen ls := by
  induction ls with
  | nil => cases h
  | cons x xs ih =>
    simp only [maxLen]
    rcases List.mem_cons.mp h with rfl | h'
    · omega
    · have := ih h'; omega

/-- the marker line written by merge3 is rewritten to the conventional one and sets the flag -/
theorem fix_start (M nl : Bytes) :
    fixLine M (withName M nameA ++ nl) = (withName lt7 nameA ++ nl, true) := by
  have h1 : M.isPrefixOf (withName M nameA ++ nl) = true := by
    simp [withName, List.append_assoc]
  have h2 : (withName M nameA ++ nl).drop M.length = 32 :: nameA ++ nl := by
    simp [withName, List.append_assoc]
  simp only [fixLine, h1, if_true, h2]
  simp [withName, List.append_assoc]

theorem fix_plain (M : Bytes) (l : Line) (h : M.isPrefixOf l = false) : fixLine M l = (l, false) := by
  simp [fixLine, h]

/-- merge3's mid, end and base marker lines do not start with `!`: the post-pass leaves them alone -/
theorem fix_no_bang (r : Bytes) (c : UInt8) (m nl : Bytes) (h : c ≠ 33) :
    fixLine (sentinel ++ r) (c :: m ++ nl) = (c :: m ++ nl, false) :=
  fix_plain _ _ (by simp [sentinel, List.isPrefixOf, Ne.symm h])

theorem map_fix_plain (M : Bytes) (ls : List Line) (h : ∀ l ∈ ls, M.isPrefixOf l = false) :
    ls.map (fun l => (fixLine M l).1) = ls ∧ ls.any (fun l => (fixLine M l).2) = false := by
  induction ls with
  | nil => simp
  | cons l t ih =>
    have hl := fix_plain M l (h l (by simp))
    have := ih (fun x hx => h x (by simp [hx]))
    simp [hl, this.1, this.2]

theorem iterMerge3_append (M : Bytes) (x y : List Line) :
    iterMerge3 M (x ++ y) =
      ((iterMerge3 M x).1 ++ (iterMerge3 M y).1, (iterMerge3 M x).2 || (iterMerge3 M y).2) := by
  simp [iterMerge3]

/-- the post-pass turns the marker rendering `x` into the conventional rendering `y` and leaves the flag
at `conf`; an error of the one is the same error of the other -/
def Agree (M : Bytes) (conf : Bool) (x y : Except Err (List Line)) : Prop :=
  (∃ e, x = .error e ∧ y = .error e) ∨ ∃ l l', x = .ok l ∧ y = .ok l' ∧ iterMerge3 M l = (l', conf)

theorem renderRegion_agree (o : Opts) (r0 nl : Bytes)
    (r : Region) (h : ∀ l ∈ r.emitted o.showBase, (sentinel ++ r0).isPrefixOf l = false) :
    Agree (sentinel ++ r0) r.isConflict (renderRegion (withName (sentinel ++ r0) nameA) (baseMarkerOf o) nl r)
      (renderRegion (withName lt7 nameA) (baseMarkerOf o) nl r) := by
  cases r with
  | unchanged ls | a ls | same ls | b ls =>
    have := map_fix_plain _ ls h
    exact .inr ⟨ls, ls, rfl, rfl, by simp [iterMerge3, Region.isConflict, this.1, this.2]⟩
  | conflict base ta tb =>
    have hs := fix_start (sentinel ++ r0) nl
    have he : fixLine (sentinel ++ r0) (eq7 ++ nl) = (eq7 ++ nl, false) := fix_no_bang r0 61 _ nl (by decide)
    have hg : fixLine (sentinel ++ r0) (withName gt7 nameB ++ nl) = (withName gt7 nameB ++ nl, false) :=
      fix_no_bang r0 62 _ nl (by decide)
    have ha := map_fix_plain _ ta fun l hl => h l (by simp [Region.emitted, hl])
    have hb' := map_fix_plain _ tb fun l hl => h l (by simp [Region.emitted, hl])
    cases hb : o.showBase with
    | false =>
      rw [show baseMarkerOf o = none by simp [baseMarkerOf, hb]]
      exact .inr ⟨_, _, rfl, rfl, by simp [iterMerge3, Region.isConflict, hs, he, hg, ha.1, ha.2, hb'.1, hb'.2]⟩
    | true =>
      rw [show baseMarkerOf o = some (withName bar7 nameBase) by simp [baseMarkerOf, hb]]
      cases base with
      | none => exact .inl ⟨.assertion, rfl, rfl⟩
      | some bl =>
        have hm : fixLine (sentinel ++ r0) (withName bar7 nameBase ++ nl) = (withName bar7 nameBase ++ nl, false) :=
          fix_no_bang r0 124 _ nl (by decide)
        have hbl := map_fix_plain _ bl fun l hl => h l (by simp [Region.emitted, hb, hl])
        exact .inr ⟨_, _, rfl, rfl, by
          simp [iterMerge3, Region.isConflict, hs, he, hg, hm, ha.1, ha.2, hb'.1, hb'.2, hbl.1, hbl.2]⟩

theorem mergeLines_agree (o : Opts) (r0 nl : Bytes) (regions : List Region)
    (h : ∀ r ∈ regions, ∀ l ∈ r.emitted o.showBase, (sentinel ++ r0).isPrefixOf l = false) :
    Agree (sentinel ++ r0) (regions.any Region.isConflict)
      (mergeLines (withName (sentinel ++ r0) nameA) (baseMarkerOf o) nl regions)
      (mergeLines (withName lt7 nameA) (baseMarkerOf o) nl regions) := by
  induction regions with
  | nil => exact .inr ⟨[], [], rfl, rfl, rfl⟩
  | cons r rs ih =>
    rw [mergeLines, mergeLines, List.any_cons]
    rcases renderRegion_agree o r0 nl r (h r List.mem_cons_self) with ⟨e, h1, h2⟩ | ⟨x, x', h1, h2, h3⟩
    · rw [h1, h2]; exact .inl ⟨e, rfl, rfl⟩
    · rw [h1, h2]
      rcases ih (fun x hx => h x (List.mem_cons_of_mem r hx)) with ⟨e, t1, t2⟩ | ⟨y, y', t1, t2, t3⟩
      · rw [t1, t2]; exact .inl ⟨e, rfl, rfl⟩
      · rw [t1, t2]; exact .inr ⟨_, _, rfl, rfl, by rw [iterMerge3_append, h3, t3]⟩

theorem mergeLines_cons_ok {s : Bytes} {bm : Option Bytes} {nl : Bytes} {r : Region} {rs : List Region}
    {l : List Line} (hm : mergeLines s bm nl (r :: rs) = .ok l) :
    ∃ h t, renderRegion s bm nl r = .ok h ∧ mergeLines s bm nl rs = .ok t ∧ l = h ++ t := by
  rw [mergeLines] at hm
  cases h0 : renderRegion s bm nl r with
  | error e => simp [h0] at hm
  | ok h =>
    cases h1 : mergeLines s bm nl rs with
    | error e => simp [h0, h1] at hm
    | ok t => exact ⟨h, t, rfl, rfl, by simpa [h0, h1] using hm.symm⟩

theorem markers_of_conflict (s : Bytes) (bm : Option Bytes) (nl : Bytes) (regions : List Region)
    (l : List Line) (hm : mergeLines s bm nl regions = .ok l)
    (r : Region) (hr : r ∈ regions) (hc : r.isConflict = true) :
    (s ++ nl) ∈ l ∧ (eq7 ++ nl) ∈ l ∧ (withName gt7 nameB ++ nl) ∈ l := by
  induction regions generalizing l with
  | nil => cases hr
  | cons r0 rs ih =>
    obtain ⟨h, t, h0, h1, rfl⟩ := mergeLines_cons_ok hm
    rcases List.mem_cons.mp hr with rfl | hr'
    · cases r with
      | conflict base ta tb =>
        cases bm <;> cases base <;> simp only [renderRegion, Except.ok.injEq, reduceCtorEq] at h0 <;>
          (subst h0; simp)
      | _ => cases hc
    · have := ih t h1 hr'
      simp [this]

theorem renderRegion_clean (s : Bytes) (bm : Option Bytes) (nl : Bytes) (r : Region)
    (h : r.isConflict = false) : renderRegion s bm nl r = .ok r.chosen := by
  cases r <;> first | rfl | cases h

theorem chosen_eq_emitted (showBase : Bool) (r : Region) (h : r.isConflict = false) :
    r.chosen = r.emitted showBase := by
  cases r <;> first | rfl | cases h

theorem mergeLines_clean (s : Bytes) (bm : Option Bytes) (nl : Bytes) (regions : List Region)
    (hc : ∀ r ∈ regions, r.isConflict = false) :
    mergeLines s bm nl regions = .ok (regions.flatMap Region.chosen) := by
  induction regions with
  | nil => rfl
  | cons r rs ih =>
    rw [mergeLines, renderRegion_clean s bm nl r (hc r List.mem_cons_self),
      ih fun x hx => hc x (List.mem_cons_of_mem r hx), List.flatMap_cons]

theorem join_splitLinesAux (t acc : Bytes) :
    (splitLinesAux acc t).flatten = acc.reverse ++ t := by
  induction t generalizing acc with
  | nil =>
    unfold splitLinesAux
    cases acc <;> simp
  | cons c cs ih =>
    unfold splitLinesAux
    split
    · simp [ih]
    · simp [ih]

/-! The four names of one conflict, `l`, `l.BASE`, `l.THIS`, `l.OTHER`, are pairwise different for every
`l` (also one whose name itself ends in such a suffix): names with the same stem differ as their
suffixes do, and the three suffixes are non-empty and pairwise different. -/

@[simp] theorem suffixed_inj (l : Loc) (s1 s2 : Bytes) : l.suffixed s1 = l.suffixed s2 ↔ s1 = s2 := by
  simp [Loc.suffixed]

@[simp] theorem suffixed_eq_self (l : Loc) (s : Bytes) : l.suffixed s = l ↔ s = [] := by
  constructor
  · intro e
    simpa [Loc.suffixed] using congrArg Loc.name e
  · rintro rfl
    cases l
    simp [Loc.suffixed]

@[simp] theorem self_eq_suffixed (l : Loc) (s : Bytes) : l = l.suffixed s ↔ s = [] := by
  rw [eq_comm, suffixed_eq_self]

@[simp] theorem sfxBase_ne_nil : sfxBase ≠ [] := by decide
@[simp] theorem sfxThis_ne_nil : sfxThis ≠ [] := by decide
@[simp] theorem sfxOther_ne_nil : sfxOther ≠ [] := by decide
@[simp] theorem sfxBase_ne_sfxThis : sfxBase ≠ sfxThis := by decide
@[simp] theorem sfxBase_ne_sfxOther : sfxBase ≠ sfxOther := by decide
@[simp] theorem sfxThis_ne_sfxBase : sfxThis ≠ sfxBase := by decide
@[simp] theorem sfxThis_ne_sfxOther : sfxThis ≠ sfxOther := by decide
@[simp] theorem sfxOther_ne_sfxBase : sfxOther ≠ sfxBase := by decide
@[simp] theorem sfxOther_ne_sfxThis : sfxOther ≠ sfxThis := by decide

theorem pickWinner_eq : @pickWinner = @C18.Winner.pick := rfl

/-- `_merge_names`, one attribute -/
theorem pickWinner_threeWay {α : Type} [DecidableEq α] (b : Option α) (o t : α) :
    pickWinner (C18.threeWay b (some o) (some t)) o t = if b = some o then t else o :=
  pickWinner_eq ▸ C18.pick_three_way_some b o t

theorem mergeFileOpt_some (o : Opts) (base this other : List Line) (regions : List Region) :
    mergeFileOpt o (some base) this other regions = mergeFile o base this other regions := by
  simp [mergeFileOpt, mergeFile, C18.three_way_some, baseLinesOf]

theorem view_place (l : Loc) (pc hb : Bool) (out : Outcome) (p : Placed) (h : place l pc hb out = some p) :
    some (p.view l) = out.slot.map fun s => if hb then s else { s with hBase := none } := by
  cases out with
  | clean c =>
    simp only [place, Option.some.injEq] at h; subst h
    cases hb <;> simp [Placed.view, Placed.get, Placed.idLoc, Outcome.slot, lookupLoc]
  | textConflict c b t o =>
    simp only [place, Option.some.injEq] at h; subst h
    cases hb <;> simp [Placed.view, Placed.get, Placed.idLoc, Outcome.slot, lookupLoc, optFile]
  | contentsConflict b t o =>
    simp only [place, Option.some.injEq] at h; subst h
    cases hb <;> simp [Placed.view, Placed.get, Placed.idLoc, Outcome.slot, lookupLoc, optFile]
  | error e => simp [place] at h

theorem place_files (l : Loc) (pc hb : Bool) (out : Outcome) (p : Placed) (h : place l pc hb out = some p) :
    ∀ f ∈ p.files, f.1 = l ∨ f.1 = l.suffixed sfxBase ∨ f.1 = l.suffixed sfxThis ∨ f.1 = l.suffixed sfxOther := by
  cases out with
  | clean c =>
    simp only [place, Option.some.injEq] at h; subst h
    intro f hf; simp at hf; simp [hf]
  | textConflict c b t o =>
    simp only [place, Option.some.injEq] at h; subst h
    intro f hf
    cases hb <;> simp [optFile] at hf <;> rcases hf with rfl | rfl | rfl | rfl <;> simp
  | contentsConflict b t o =>
    simp only [place, Option.some.injEq] at h; subst h
    intro f hf
    cases hb <;> simp [optFile] at hf <;> rcases hf with rfl | rfl | rfl <;> simp
  | error e => simp [place] at h

theorem putSlot_resolved (p : Placed) (l : Loc) (c : Bytes)
    (hf : ∀ f ∈ p.files, f.1 = l ∨ f.1 = l.suffixed sfxBase ∨ f.1 = l.suffixed sfxThis ∨ f.1 = l.suffixed sfxOther) :
    p.putSlot l ⟨some c, none, none, none, none, .item⟩ = ⟨[(l, c)], none, some l, p.pathConflict⟩ := by
  simp only [Placed.putSlot, optFile, List.append_nil, List.cons_append, List.nil_append, Option.map_none,
    Placed.mk.injEq, List.cons.injEq, List.filter_eq_nil_iff, true_and, and_true]
  intro f hm
  rcases hf f hm with h | h | h | h <;> simp [h]

theorem resolvePlaced_text (w : Side) (l : Loc) (pc hb : Bool) (c b t x : Bytes) :
    (place l pc hb (.textConflict c b t x)).map (resolvePlaced w) =
      some (.ok ⟨[(l, match w with | .this => t | .other => x)], none, some l, pc⟩) := by
  obtain ⟨p, hp⟩ : ∃ p, place l pc hb (.textConflict c b t x) = some p := ⟨_, rfl⟩
  have hv := Option.some.inj (view_place l pc hb _ p hp)
  have hf := place_files l pc hb _ p hp
  obtain ⟨hr, hpc⟩ : p.record = some (.text, l) ∧ p.pathConflict = pc := by cases hp; exact ⟨rfl, rfl⟩
  rw [hp, Option.map_some, resolvePlaced, hr]
  simp only [hv]
  cases hb <;> cases w <;> simp [resolveText, Slot.helper, putSlot_resolved p l _ hf, hpc]

theorem resolvePlaced_contents (w : Side) (l : Loc) (pc hb : Bool) (b t x : Bytes) :
    (place l pc hb (.contentsConflict b t x)).map (resolvePlaced w) =
      some (.ok ⟨[(l, match w with | .this => t | .other => x)], none, some l, false⟩) := by
  obtain ⟨p, hp⟩ : ∃ p, place l pc hb (.contentsConflict b t x) = some p := ⟨_, rfl⟩
  have hv := Option.some.inj (view_place l pc hb _ p hp)
  have hf := place_files l pc hb _ p hp
  obtain ⟨hr, hpc⟩ : p.record = some (.contents, l) ∧ p.pathConflict = false := by cases hp; exact ⟨rfl, rfl⟩
  rw [hp, Option.map_some, resolvePlaced, hr]
  simp only [hv]
  cases hb <;> cases w <;> simp [resolveContents, putSlot_resolved p l _ hf, hpc]

end BreezyVerif.C19
