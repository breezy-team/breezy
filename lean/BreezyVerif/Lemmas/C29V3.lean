import BreezyVerif.Lemmas.C29LP
/-! ProtocolThreeDecoder framing: segmentation independence and round trip -/
namespace BreezyVerif.C29

theorem unbe32_append {u : Bytes} (y : Bytes) (h : 4 ≤ u.length) : unbe32 (u ++ y) = unbe32 u := by
  match u, h with
  | a :: b :: c :: d :: r, _ => rfl

theorem extractLP_eq (buf : Bytes) :
    extractLP buf =
      if buf.length < 4 then .inl 4
      else if buf.length < 4 + unbe32 buf then .inl (4 + unbe32 buf)
      else .inr ((buf.drop 4).take (unbe32 buf), buf.drop (4 + unbe32 buf)) := rfl

theorem extractLP_inr_len {b p r : Bytes} (h : extractLP b = .inr (p, r)) :
    b.length = 4 + unbe32 b + r.length := by
  rw [extractLP_eq] at h
  split at h
  · cases h
  · split at h
    · cases h
    · cases h
      rw [List.length_drop]
      omega

theorem extractLP_append_inr {u p r : Bytes} (y : Bytes) (h : extractLP u = .inr (p, r)) :
    extractLP (u ++ y) = .inr (p, r ++ y) := by
  have hle : 4 + unbe32 u ≤ u.length := by have := extractLP_inr_len h; omega
  have h4 : 4 ≤ u.length := Nat.le_trans (Nat.le_add_right _ _) hle
  have hy : u.length ≤ (u ++ y).length := (List.prefix_append u y).length_le
  rw [extractLP_eq, if_neg (Nat.not_lt.2 h4), if_neg (Nat.not_lt.2 hle)] at h
  cases h
  rw [extractLP_eq, unbe32_append y h4, if_neg (Nat.not_lt.2 (Nat.le_trans h4 hy)),
    if_neg (Nat.not_lt.2 (Nat.le_trans hle hy)), List.drop_append_of_le_length h4,
    List.drop_append_of_le_length hle,
    List.take_append_of_le_length (by rw [List.length_drop]; exact Nat.le_sub_of_add_le' hle)]

/-- a length-prefixed state asks for more than it has, and for no more than its part needs -/
theorem extractLP_inl {b : Bytes} {n : Nat} (h : extractLP b = .inl n) (q : Bytes) :
    b.length < n ∧ n ≤ 4 + unbe32 (b ++ q) := by
  rw [extractLP_eq] at h
  split at h
  · cases h; exact ⟨‹_›, Nat.le_add_right _ _⟩
  · rw [unbe32_append q (Nat.not_lt.1 ‹_›)]
    split at h
    · cases h; exact ⟨‹_›, Nat.le_refl _⟩
    · cases h

namespace V3

theorem feed_run (tag : V3Tag) (buf : Bytes) (evs : List Ev) (n : Nat) (x : Bytes) :
    feed (.run tag buf evs n) x = proc tag (buf ++ x) evs := rfl
theorem feed_done (evs : List Ev) (u x : Bytes) : feed (.done evs u) x = .done evs (u ++ x) := rfl
theorem feed_failed (evs : List Ev) (e : V3Err) (x : Bytes) :
    feed (.failed evs e) x = .failed evs e := rfl

theorem proc_version (buf : Bytes) (evs : List Ev) :
    proc .version buf evs =
      if buf.length < marker3.length then
        if buf.isPrefixOf marker3 then .run .version buf evs marker3.length
        else .failed evs .badVersion
      else if marker3.isPrefixOf buf then proc .headers (buf.drop marker3.length) evs
      else .failed evs .badVersion := by
  rw [proc]

theorem proc_part_nil (evs : List Ev) : proc .part [] evs = .run .part [] evs 1 := by
  rw [proc]

theorem proc_part_cons (k : UInt8) (r : Bytes) (evs : List Ev) :
    proc .part (k :: r) evs =
      if k = 111 then proc .oneByte r evs
      else if k = 115 then proc .struct r evs
      else if k = 98 then proc .bytes r evs
      else if k = 101 then .done (evs ++ [.end_]) r
      else .failed evs .badKind := by
  rw [proc]

theorem proc_oneByte_nil (evs : List Ev) : proc .oneByte [] evs = .run .oneByte [] evs 1 := by
  rw [proc]

theorem proc_oneByte_cons (b : UInt8) (r : Bytes) (evs : List Ev) :
    proc .oneByte (b :: r) evs = proc .part r (evs ++ [.byte b]) := by
  rw [proc]

/-- the three length-prefixed states share their shape -/
def lpEv : V3Tag → Bytes → Ev
  | .headers, p => .headers p
  | .struct, p => .struct p
  | _, p => .bytes p

def isLP : V3Tag → Bool
  | .headers | .bytes | .struct => true
  | _ => false

theorem proc_lp_inl {tag : V3Tag} (ht : isLP tag = true) {buf : Bytes} {n : Nat} (evs : List Ev)
    (h : extractLP buf = .inl n) : proc tag buf evs = .run tag buf evs n := by
  cases tag
  case version | part | oneByte => cases ht
  all_goals
    rw [proc]
    split
    · rename_i m h2; rw [h] at h2; cases h2; rfl
    · rename_i p r h2; rw [h] at h2; cases h2

theorem proc_lp_inr {tag : V3Tag} (ht : isLP tag = true) {buf p r : Bytes} (evs : List Ev)
    (h : extractLP buf = .inr (p, r)) : proc tag buf evs = proc .part r (evs ++ [lpEv tag p]) := by
  cases tag
  case version | part | oneByte => cases ht
  all_goals
    rw [proc]
    split
    · rename_i m h2; rw [h] at h2; cases h2
    · rename_i p' r' h2; rw [h] at h2; cases h2; rfl

theorem feed_proc (tag : V3Tag) (u : Bytes) (evs : List Ev) (y : Bytes) :
    feed (proc tag u evs) y = proc tag (u ++ y) evs := by
  -- the cases follow the branches of `proc`: 1–4 version, 5–6 headers, 7–12 part,
  -- 13–14 oneByte, 15–16 bytes, 17–18 struct
  fun_induction proc tag u evs
  case case2 buf evs hl hp =>
    -- a buffer that already disagrees with the marker cannot be repaired by more bytes
    rw [isPrefixOf_iff] at hp
    have h1 : ¬ (buf ++ y).isPrefixOf marker3 = true := fun hc =>
      hp ((List.prefix_append buf y).trans (isPrefixOf_iff.1 hc))
    have h2 : ¬ marker3.isPrefixOf (buf ++ y) = true := fun hc =>
      hp (List.prefix_of_prefix_length_le (List.prefix_append buf y)
        (isPrefixOf_iff.1 hc) (Nat.le_of_lt hl))
    rw [proc_version, if_neg h1, if_neg h2, ite_self]
    rfl
  case case3 buf evs hl hp ih =>
    have hl := Nat.not_lt.1 hl
    have hl' : ¬ (buf ++ y).length < marker3.length :=
      Nat.not_lt.2 (Nat.le_trans hl (List.prefix_append buf y).length_le)
    rw [proc_version, if_neg hl', if_pos (isPrefixOf_append_right y hp),
      List.drop_append_of_le_length hl]
    exact ih
  case case4 buf evs hl hp =>
    have hl := Nat.not_lt.1 hl
    have hl' : ¬ (buf ++ y).length < marker3.length :=
      Nat.not_lt.2 (Nat.le_trans hl (List.prefix_append buf y).length_le)
    rw [proc_version, if_neg hl', if_neg fun hc => hp (isPrefixOf_of_append hc hl)]
    rfl
  case case6 h ih => rw [proc_lp_inr (tag := .headers) rfl _ (extractLP_append_inr y h)]; exact ih
  case case16 h ih => rw [proc_lp_inr (tag := .bytes) rfl _ (extractLP_append_inr y h)]; exact ih
  case case18 h ih => rw [proc_lp_inr (tag := .struct) rfl _ (extractLP_append_inr y h)]; exact ih
  case case14 ih => rw [List.cons_append, proc_oneByte_cons]; exact ih
  -- waiting states: `feed` restarts `proc` on the extended buffer by definition
  case case1 | case5 | case7 | case13 | case15 | case17 => rfl
  -- the kind byte is still at the head of the extended buffer
  all_goals simp only [List.cons_append, proc_part_cons, feed_done, feed_failed, if_true, if_false, *]

theorem feed_append (s : V3) (a b : Bytes) : feed (feed s a) b = feed s (a ++ b) := by
  cases s with
  | run tag buf evs n => rw [feed_run, feed_proc, feed_run, List.append_assoc]
  | done evs u => rw [feed_done, feed_done, feed_done, List.append_assoc]
  | failed evs e => rfl

theorem extractLP_encode (p tail : Bytes) (h : p.length < 4294967296) :
    extractLP (be32 p.length ++ (p ++ tail)) = .inr (p, tail) := by
  unfold extractLP
  have h4 : ¬ (be32 p.length ++ (p ++ tail)).length < 4 := by simp [be32_length]
  simp only [h4, if_false, unbe32_be32_append h]
  have hn : ¬ (be32 p.length ++ (p ++ tail)).length < 4 + p.length := by
    simp [be32_length]
  simp only [hn, if_false]
  have e1 : (be32 p.length ++ (p ++ tail)).drop 4 = p ++ tail :=
    List.drop_left' (be32_length _)
  have e2 : (be32 p.length ++ (p ++ tail)).drop (4 + p.length) = tail := by
    rw [← List.drop_drop, e1]; exact List.drop_left' rfl
  rw [e1, e2]
  simp

def partsOk (parts : List Part) : Bool := parts.all (fun p => p.size < 4294967296)

theorem proc_part_encode (p : Part) (tail : Bytes) (evs : List Ev) (h : p.size < 4294967296) :
    proc .part (p.encode ++ tail) evs = proc .part tail (evs ++ [p.ev]) := by
  cases p with
  | byte b =>
    rw [Part.encode, List.cons_append, proc_part_cons, if_pos rfl, List.cons_append,
      proc_oneByte_cons]
    rfl
  | bytes b =>
    rw [Part.encode, List.cons_append, List.append_assoc, proc_part_cons, if_neg (by decide),
      if_neg (by decide), if_pos rfl, proc_lp_inr (tag := .bytes) rfl _ (extractLP_encode b _ h)]
    rfl
  | struct raw =>
    rw [Part.encode, List.cons_append, List.append_assoc, proc_part_cons, if_neg (by decide),
      if_pos rfl, proc_lp_inr (tag := .struct) rfl _ (extractLP_encode raw _ h)]
    rfl

theorem proc_parts (parts : List Part) (tail : Bytes) (evs : List Ev)
    (h : partsOk parts = true) :
    proc .part (encodeParts parts ++ tail) evs = proc .part tail (evs ++ parts.map Part.ev) := by
  induction parts generalizing evs with
  | nil => rw [encodeParts, List.nil_append, List.map_nil, List.append_nil]
  | cons p ps ih =>
    rw [partsOk, List.all_cons, Bool.and_eq_true, decide_eq_true_eq] at h
    rw [encodeParts, List.append_assoc, proc_part_encode p _ _ h.1, ih _ h.2, List.map_cons,
      List.append_assoc]
    rfl

theorem proc_headers_encode (headers : Bytes) (parts : List Part) (rest : Bytes) (evs : List Ev)
    (hh : headers.length < 4294967296) (hp : partsOk parts = true) :
    proc .headers (v3EncodeBody headers parts ++ rest) evs
      = .done (evs ++ .headers headers :: (parts.map Part.ev ++ [.end_])) rest := by
  have hw : v3EncodeBody headers parts ++ rest
      = be32 headers.length ++ (headers ++ (encodeParts parts ++ (101 :: rest))) := by
    simp [v3EncodeBody]
  rw [hw, proc_lp_inr (tag := .headers) rfl _ (extractLP_encode headers _ hh),
    proc_parts _ _ _ hp, proc_part_cons]
  simp only [show (101 : UInt8) ≠ 111 by decide, show (101 : UInt8) ≠ 115 by decide,
    show (101 : UInt8) ≠ 98 by decide, if_false, if_true]
  simp [lpEv]

theorem proc_version_encode (headers : Bytes) (parts : List Part) (rest : Bytes)
    (hh : headers.length < 4294967296) (hp : partsOk parts = true) :
    proc .version (v3Encode headers parts ++ rest) []
      = .done (.headers headers :: (parts.map Part.ev ++ [.end_])) rest := by
  rw [proc_version]
  have hl : ¬ (v3Encode headers parts ++ rest).length < marker3.length := by
    simp [v3Encode]
  have hpre : marker3.isPrefixOf (v3Encode headers parts ++ rest) = true := by
    rw [isPrefixOf_iff, v3Encode, List.append_assoc]
    exact List.prefix_append _ _
  simp only [hl, hpre, if_false, if_true]
  have hd : (v3Encode headers parts ++ rest).drop marker3.length
      = v3EncodeBody headers parts ++ rest := by
    simp only [v3Encode, List.append_assoc]
    exact List.drop_left' rfl
  rw [hd, proc_headers_encode _ _ _ _ hh hp]
  simp

end V3
end BreezyVerif.C29
