import BreezyVerif.Lemmas.C50
/-! C50 — the literal push-back machine (`mTokens`) computes `tokens`. -/
namespace BreezyVerif.C50

/-- the `for` loop of `_get_token`, structurally: final state (`none` = break),
context, unread input -/
def loopS (sq : Bool) : State → Ctx → Str → Option State × Ctx × Str
  | st, x, [] => (some st, x, [])
  | st, x, c :: cs =>
    match step1 sq st x c with
    | (none, x') => (none, x', cs)
    | (some st', x') => loopS sq st' x' cs

theorem loopS_rest_le (sq : Bool) (s : Str) : ∀ st x, (loopS sq st x s).2.2.length ≤ s.length := by
  induction s with
  | nil => intro st x; simp [loopS]
  | cons c cs ih =>
    intro st x
    simp only [loopS]
    split
    · simp
    · exact Nat.le_trans (ih _ _) (by simp)

theorem loopS_rest_some (sq : Bool) (s : Str) : ∀ st x st', (loopS sq st x s).1 = some st' →
    (loopS sq st x s).2.2 = [] := by
  induction s with
  | nil => intro st x st' _; simp [loopS]
  | cons c cs ih =>
    intro st x st' h
    simp only [loopS] at h ⊢
    split
    · rename_i h2; simp [h2] at h
    · rename_i st2 x2 h2
      simp only [h2] at h
      exact ih _ _ _ h

/-- context at the end of `_get_token` -/
def finO : Option State → Ctx → Ctx
  | some st, x => finish st x
  | none, x => x

theorem run_loopS (sq : Bool) (s : Str) : ∀ st x,
    run sq st x s = emit (finO (loopS sq st x s).1 (loopS sq st x s).2.1)
      (match (loopS sq st x s).1 with
        | some _ => []
        | none => run sq (.at (.plain .ws)) {} (loopS sq st x s).2.2) := by
  induction s with
  | nil => intro st x; simp [run_nil, loopS, finO]
  | cons c cs ih =>
    intro st x
    rw [run_cons]
    simp only [loopS]
    cases h : step1 sq st x c with
    | mk o x' =>
      cases o with
      | none => simp [cont, finO]
      | some st' => simp only [cont]; exact ih st' x'

def abs (m : MCtx) : Ctx :=
  { quoted := m.quoted, touched := decide (m.token.length > 0), chars := m.token.flatten }

theorem abs_tok (m : MCtx) (p : Str) :
    abs { m with token := m.token ++ [p] } = (abs m).app p := by
  simp [abs, Ctx.app]

theorem abs_push (m : MCtx) (ps : List Char) : abs { m with push := ps } = abs m := rfl

theorem mproc_at (sq : Bool) (e : Exit) (m : MCtx) (c : Char) :
    (mproc sq (.at e) m c).1 = (procExit sq e (abs m) c).1 ∧
    abs (mproc sq (.at e) m c).2 = (procExit sq e (abs m) c).2 ∧
    (mproc sq (.at e) m c).2.push = m.push := by
  have ht : (abs m).touched = decide (m.token.length > 0) := rfl
  rcases e with (_ | _) | ⟨q, o⟩ <;> simp only [mproc, procExit, ht, decide_eq_true_eq]
  · by_cases hw : isWs c = true
    · by_cases h : m.token.length > 0 <;> simp [hw, h]
    · by_cases ha : allowed sq c = true
      · simp [hw, ha, abs]
      · by_cases hb : c = '\\' <;> simp [hw, ha, hb, abs_tok]
  · by_cases hw : isWs c = true
    · simp [hw]
    · by_cases ha : allowed sq c = true
      · simp [hw, ha]
      · by_cases hb : c = '\\' <;> simp [hw, ha, hb, abs_tok]
  · by_cases hb : c = '\\'
    · simp [hb]
    · by_cases hq : c = q
      · subst hq
        simp [hb, abs_tok]
      · simp [hb, hq, abs_tok]

/-- one round of the loop with an empty push-back stack … -/
theorem mloop_in {sq : Bool} {g : Nat} {st : State} {m : MCtx} {c : Char} {cs : Str} (hp : m.push = []) :
    mloop sq (g + 1) st m (c :: cs) =
      match mproc sq st m c with
      | (none, x') => some (none, x', cs)
      | (some st', x') => mloop sq g st' x' cs := by
  simp only [mloop, hp]
  rcases mproc sq st _ _ with ⟨_ | _, _⟩ <;> rfl

/-- … and with a pushed-back character -/
theorem mloop_push {sq : Bool} {g : Nat} {st : State} {m : MCtx} {p : Char} {ps : List Char} {inp : Str}
    (hp : m.push = p :: ps) :
    mloop sq (g + 1) st m inp =
      match mproc sq st { m with push := ps } p with
      | (none, x') => some (none, x', inp)
      | (some st', x') => mloop sq g st' x' inp := by
  simp only [mloop, hp]
  rcases mproc sq st _ _ with ⟨_ | _, _⟩ <;> rfl
/-- 1 in a `_Backslash` state (which may un-read the character it is given), 0 elsewhere -/
def bsw : State → Nat
  | .at _ => 0
  | .bs _ _ => 1

/-- One `process` call of the machine against one `step1`: either the character is consumed and the
two agree, or a `_Backslash` state pushes it back and `step1` is what its exit state will do with it. -/
theorem mproc_step (sq : Bool) (st : State) (m : MCtx) (c : Char) :
    ((mproc sq st m c).2.push = m.push ∧
      ((mproc sq st m c).1, abs (mproc sq st m c).2) = step1 sq st (abs m) c) ∨
    (∃ e, (mproc sq st m c).1 = some (.at e) ∧ bsw st = 1 ∧ (mproc sq st m c).2.push = c :: m.push ∧
      step1 sq st (abs m) c = procExit sq e (abs (mproc sq st m c).2) c) := by
  cases st with
  | «at» e =>
    obtain ⟨h1, h2, h3⟩ := mproc_at sq e m c
    exact Or.inl ⟨h3, by rw [h1, h2]; rfl⟩
  | bs e n =>
    by_cases hb : c = '\\'
    · subst hb; left; simp [mproc, step1]
    · by_cases ha : allowed sq c = true
      · by_cases hodd : n % 2 = 1
        · left; simp [mproc, step1, hb, ha, hodd, abs, Ctx.app]
        · right; exact ⟨e, by simp [mproc, step1, hb, ha, hodd, bsw, abs, Ctx.app]⟩
      · right
        by_cases hn : n > 0
        · exact ⟨e, by simp [mproc, step1, hb, ha, hn, bsw, abs, Ctx.app]⟩
        · exact ⟨e, by simp [mproc, step1, hb, ha, hn, bsw, abs]⟩

theorem loopS_cons (sq : Bool) (st : State) (x : Ctx) (c : Char) (cs : Str) :
    loopS sq st x (c :: cs) = match step1 sq st x c with
      | (none, x') => (none, x', cs)
      | (some st', x') => loopS sq st' x' cs := by
  rw [loopS]

theorem bsw_le (st : State) : bsw st ≤ 1 := by
  cases st
  · exact Nat.zero_le 1
  · exact Nat.le_refl 1

/-- fuel: a round that consumes a character of the `k + 1` left costs one unit and leaves at most one
push-back to pay for … -/
theorem fuel_consumed {k w w' f : Nat} (h : 2 * (k + 1) + w + 1 ≤ f + 1) (hw : w' ≤ 1) : 2 * k + w' + 1 ≤ f := by
  omega

/-- … and a round that pushes it back was paid for by the `_Backslash` state -/
theorem fuel_pushed {k f : Nat} (h : 2 * (k + 1) + 1 + 1 ≤ f + 1) : 2 * (k + 1) + 0 + 1 ≤ f :=
  Nat.le_of_succ_le_succ h

/-- The machine reads the virtual input `push ++ inp`: with two units of fuel per character (one more in a
`_Backslash` state, which may push its character back once) its loop ends where the structural loop ends. -/
theorem mloop_eq (sq : Bool) : ∀ (f : Nat) (st : State) (m : MCtx) (inp : Str),
    2 * (inp.length + m.push.length) + bsw st + 1 ≤ f →
    ∃ m' inp', mloop sq f st m inp = some ((loopS sq st (abs m) (m.push ++ inp)).1, m', inp') ∧
      abs m' = (loopS sq st (abs m) (m.push ++ inp)).2.1 ∧
      m'.push ++ inp' = (loopS sq st (abs m) (m.push ++ inp)).2.2 := by
  intro f
  induction f with
  | zero => intro st m inp h; exact absurd h (Nat.not_succ_le_zero _)
  | succ f ih =>
    intro st m inp hf
    -- one round: `c` is read, `m0` is the context with `c` popped, `m0.push ++ inp0` is what is left
    have round : ∀ (m0 : MCtx) (c : Char) (inp0 : Str), abs m0 = abs m →
        2 * (inp0.length + m0.push.length + 1) + bsw st + 1 ≤ f + 1 →
        ∃ m' inp', (match mproc sq st m0 c with
              | (none, x') => some (none, x', inp0)
              | (some st', x') => mloop sq f st' x' inp0)
            = some ((loopS sq st (abs m) (c :: (m0.push ++ inp0))).1, m', inp') ∧
          abs m' = (loopS sq st (abs m) (c :: (m0.push ++ inp0))).2.1 ∧
          m'.push ++ inp' = (loopS sq st (abs m) (c :: (m0.push ++ inp0))).2.2 := by
      intro m0 c inp0 ha hg
      rw [loopS_cons, ← ha]
      rcases mproc_step sq st m0 c with ⟨hp, hs⟩ | ⟨e, ho, hw, hp, hs⟩
      · rw [← hs]
        rcases hr : mproc sq st m0 c with ⟨_ | st', m1⟩
        · rw [hr] at hp
          exact ⟨m1, inp0, rfl, rfl, by rw [hp]⟩
        · rw [hr] at hp
          have := ih st' m1 inp0 (hp ▸ fuel_consumed hg (bsw_le st'))
          rwa [hp] at this
      · rw [hs]
        rcases hr : mproc sq st m0 c with ⟨o, m1⟩
        rw [hr] at ho hp
        simp only at ho hp
        subst ho
        have := ih (.at e) m1 inp0 (hp ▸ fuel_pushed (hw ▸ hg))
        rwa [hp, List.cons_append, loopS_cons] at this
    rcases hm : m.push with _ | ⟨p, ps⟩
    · cases inp with
      | nil => exact ⟨m, [], by simp [mloop, hm, loopS], by simp [loopS], by simp [hm, loopS]⟩
      | cons c cs =>
        have := round m c cs rfl (hm ▸ hf)
        rw [hm] at this
        rw [mloop_in hm]
        exact this
    · rw [hm] at hf
      have := round { m with push := ps } p inp rfl hf
      rw [mloop_push hm, List.cons_append]
      exact this

theorem abs_mfinish (st : State) (m : MCtx) : abs (mfinish st m) = finish st (abs m) := by
  cases st with
  | «at» e => rfl
  | bs e n =>
    simp only [mfinish, finish]
    split
    · exact abs_tok m (rep n)
    · rfl

theorem result_abs (m : MCtx) :
    (result (abs m)).map (·.2)
      = if !m.quoted && m.token.flatten.isEmpty then none else some m.token.flatten := by
  unfold result abs
  split <;> rfl

theorem mGetToken_eq (sq : Bool) (push : List Char) (inp : Str) :
    ∃ push' inp', push' ++ inp' = (loopS sq (.at (.plain .ws)) {} (push ++ inp)).2.2 ∧
      mGetToken sq push inp =
        let l := loopS sq (.at (.plain .ws)) {} (push ++ inp)
        let x := finO l.1 l.2.1
        some (x.quoted, (result x).map (·.2), push', inp') := by
  obtain ⟨m', inp', h1, h2, h3⟩ := mloop_eq sq (2 * inp.length + 2 * push.length + 2)
    (.at (.plain .ws)) { quoted := false, token := [], push := push } inp
    (by rw [Nat.mul_add]; exact Nat.le_succ _)
  have e0 : abs { quoted := false, token := [], push := push } = ({} : Ctx) := rfl
  rw [e0] at h1 h2 h3
  simp only at h1 h2 h3
  simp only [mGetToken, h1]
  cases ho : (loopS sq (.at (.plain .ws)) {} (push ++ inp)).1 with
  | none =>
    refine ⟨m'.push, inp', h3, ?_⟩
    simp only [finO, ← h2, result_abs]
    rfl
  | some st =>
    have hpush : (mfinish st m').push = m'.push := by
      cases st with
      | «at» e => rfl
      | bs e n => simp only [mfinish]; split <;> rfl
    refine ⟨m'.push, inp', h3, ?_⟩
    simp only [finO, ← h2, ← abs_mfinish, hpush, result_abs]
    rfl

theorem loopS_none_lt (sq : Bool) (s : Str) : ∀ st x, (loopS sq st x s).1 = none →
    (loopS sq st x s).2.2.length < s.length := by
  intro st x h
  cases s with
  | nil => simp [loopS] at h
  | cons c cs =>
    rw [loopS_cons] at h ⊢
    rcases step1 sq st x c with ⟨_ | st', x'⟩
    · simp
    · exact Nat.lt_succ_of_le (loopS_rest_le sq cs st' x')

/-- whatever the push-back stack holds, the machine tokenizes `push ++ inp` -/
theorem mTokensAux_eq (sq : Bool) : ∀ (f : Nat) (push : List Char) (inp : Str),
    push.length + inp.length + 1 ≤ f →
    mTokensAux sq f push inp = some (run sq (.at (.plain .ws)) {} (push ++ inp)) := by
  intro f
  induction f with
  | zero => intro push inp h; exact absurd h (Nat.not_succ_le_zero _)
  | succ f ih =>
    intro push inp hf
    obtain ⟨push', inp', hv, hg⟩ := mGetToken_eq sq push inp
    rw [run_loopS]
    simp only [mTokensAux, hg]
    generalize hl : loopS sq (.at (.plain .ws)) {} (push ++ inp) = l at hv
    obtain ⟨o, x', rest⟩ := l
    simp only at hv ⊢
    cases hr : result (finO o x') with
    | none => simp [emit, hr]
    | some t =>
      have hq : (finO o x').quoted = t.1 := by
        unfold result at hr
        split at hr
        · simp at hr
        · simp only [Option.some.injEq] at hr; subst hr; rfl
      simp only [Option.map_some, emit, hr, hq]
      cases o with
      | some st' =>
        -- the iterator is exhausted: the next `_get_token` finds nothing
        have hrest := loopS_rest_some sq (push ++ inp) (.at (.plain .ws)) {} st' (by rw [hl])
        rw [hl] at hrest
        simp only at hrest
        subst hrest
        obtain ⟨rfl, rfl⟩ := List.append_eq_nil_iff.mp hv
        cases f with
        | zero =>
          -- no fuel left: the line was empty, and no token was produced
          have h0 := Nat.le_zero.mp (Nat.le_of_succ_le_succ hf)
          obtain ⟨rfl, rfl⟩ : push = [] ∧ inp = [] :=
            ⟨List.eq_nil_of_length_eq_zero (Nat.eq_zero_of_add_eq_zero_right h0),
              List.eq_nil_of_length_eq_zero (Nat.eq_zero_of_add_eq_zero_left h0)⟩
          simp [loopS] at hl
          obtain ⟨h1, h2⟩ := hl
          subst h1; subst h2
          simp [finO, finish, result] at hr
        | succ f' => simp [mTokensAux, mGetToken, mloop, mfinish]
      | none =>
        have := loopS_none_lt sq (push ++ inp) (.at (.plain .ws)) {} (by rw [hl])
        rw [hl, ← hv] at this
        simp only [List.length_append] at this
        rw [ih push' inp' (Nat.le_trans this (Nat.le_of_succ_le_succ hf)), hv]
        simp

theorem mTokens_eq (sq : Bool) (s : Str) : mTokens sq s = some (tokens sq s) := by
  simp [mTokens, tokens, mTokensAux_eq sq (s.length + 1) [] s (by simp)]

end BreezyVerif.C50
