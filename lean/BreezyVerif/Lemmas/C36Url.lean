import BreezyVerif.Model.C36
import BreezyVerif.Lemmas.Lib.Split
import BreezyVerif.Lemmas.C36Utf8
/-! C36 — lemmas about percent-encoding and segment parameters. -/
namespace BreezyVerif.C36

theorem hexValN_hexU : ∀ n, n < 16 → hexValN (hexU n) = some n := by decide

theorem isSafe_lt {b : Nat} (h : isSafe b = true) : b < 128 ∧ b ≠ 37 ∧ isWs b = false ∧ b ≠ 44 ∧ b ≠ 47 := by
  simp only [isSafe, isAlnum, Bool.or_eq_true, Bool.and_eq_true, decide_eq_true_eq] at h
  simp only [isWs, Bool.or_eq_false_iff, Bool.and_eq_false_iff, decide_eq_false_iff_not]
  omega

theorem hexU_props : ∀ n, n < 16 → hexU n < 128 ∧ isWs (hexU n) = false ∧ hexU n ≠ 44 ∧ hexU n ≠ 47 := by
  decide

theorem pctDecode_cons_ne (b : Nat) (l : Str) (h : b ≠ 37) : pctDecode (b :: l) = b :: pctDecode l := by
  match l with
  | [] => simp [pctDecode]
  | [x] => simp [pctDecode]
  | x :: y :: l' => rw [pctDecode]; simp [h]

theorem pctDecode_pct (x y : Nat) (hx : x < 16) (hy : y < 16) (l : Str) :
    pctDecode (37 :: hexU x :: hexU y :: l) = (x * 16 + y) :: pctDecode l := by
  rw [pctDecode]; simp [hexValN_hexU, hx, hy]

theorem pctEncode_one {b : Nat} (hb : b < 256) (l : Str) :
    (∀ c ∈ pctEncode [] [b], c < 128 ∧ isWs c = false ∧ c ≠ 44 ∧ c ≠ 47) ∧
      pctDecode (pctEncode [] [b] ++ l) = b :: pctDecode l := by
  have h1 : pctEncode [] [b] = if isSafe b then [b] else [37, hexU (b / 16), hexU (b % 16)] := by
    simp [pctEncode]
  rw [h1]
  split
  · next hs =>
    have hs := isSafe_lt hs
    exact ⟨by simpa using ⟨hs.1, hs.2.2⟩, pctDecode_cons_ne b l hs.2.1⟩
  · refine ⟨fun c hc => ?_, ?_⟩
    · simp only [List.mem_cons, List.not_mem_nil, or_false] at hc
      rcases hc with rfl | rfl | rfl
      · decide
      · exact hexU_props _ (by omega)
      · exact hexU_props _ (by omega)
    · rw [List.cons_append, List.cons_append, List.cons_append, List.nil_append,
        pctDecode_pct _ _ (by omega) (by omega)]
      congr 1
      omega

theorem pctEncode_cons (b : Nat) (bs : NBytes) : pctEncode [] (b :: bs) = pctEncode [] [b] ++ pctEncode [] bs :=
  List.flatMap_append (xs := [b])

/-- `unquote_to_bytes(quote_from_bytes(b, safe="")) == b` for every byte string -/
theorem pct_decode_encode (bs : NBytes) (hb : isBytes bs = true) : pctDecode (pctEncode [] bs) = bs := by
  induction bs with
  | nil => rfl
  | cons b bs ih =>
    have hb' := isBytes_cons.mp hb
    rw [pctEncode_cons, (pctEncode_one hb'.1 _).2, ih hb'.2]

theorem pctEncode_chars (bs : NBytes) (hb : isBytes bs = true) :
    ∀ c ∈ pctEncode [] bs, c < 128 ∧ isWs c = false ∧ c ≠ 44 ∧ c ≠ 47 := by
  induction bs with
  | nil => nofun
  | cons b bs ih =>
    have hb' := isBytes_cons.mp hb
    intro c hc
    rw [pctEncode_cons] at hc
    exact (List.mem_append.mp hc).elim ((pctEncode_one hb'.1 []).1 c) (ih hb'.2 c)

theorem all_lt_of_forall {l : List Nat} {n : Nat} (h : ∀ c ∈ l, c < n) : l.all (· < n) = true := by
  simp only [List.all_eq_true, decide_eq_true_eq]; exact h

/-- `unescape(escape(name)) == name` -/
theorem unescapeStr_escapeStr {name e : Str} (h : escapeStr name = some e) : unescapeStr e = .ok name := by
  obtain ⟨bs, hb, rfl⟩ := Option.map_eq_some_iff.mp h
  have hbytes := encodeUtf8_isBytes hb
  rw [unescapeStr, if_pos (all_lt_of_forall fun c hc => (pctEncode_chars bs hbytes c hc).1),
    pct_decode_encode bs hbytes, decode_encode_strict _ _ hb]

theorem splitOnFirst_eq (c : Nat) (l : List Nat) : splitOnFirst c l = Lib.splitFirst c l := by
  induction l with
  | nil => rfl
  | cons x xs ih => rw [splitOnFirst, Lib.splitFirst, ih]; cases Lib.splitFirst c xs <;> rfl

theorem splitOnFirst_append' (c : Nat) (a b : List Nat) (h : c ∉ a) :
    splitOnFirst c (a ++ c :: b) = some (a, b) :=
  (splitOnFirst_eq c _).trans (Lib.splitFirst_append_cons h b)

theorem splitLastSlash_join (l : List Nat) : (splitLastSlash l).1 ++ (splitLastSlash l).2 = l := by
  induction l with
  | nil => simp [splitLastSlash]
  | cons c r ih =>
    rw [splitLastSlash]
    split
    · simp [ih]
    · split
      · rename_i h; subst h; simp
      · simp

theorem splitLastSlash_append (l suf : List Nat) (h : 47 ∉ suf) :
    splitLastSlash (l ++ suf) = ((splitLastSlash l).1, (splitLastSlash l).2 ++ suf) := by
  induction l with
  | nil =>
    simp only [List.nil_append, splitLastSlash]
    cases suf with
    | nil => simp [splitLastSlash]
    | cons s ss =>
      simp only [List.mem_cons, not_or] at h
      rw [splitLastSlash]
      have h2 : s ≠ 47 := fun e => h.1 e.symm
      simp [h.2, h2]
  | cons c r ih =>
    simp only [List.cons_append]
    rw [splitLastSlash, splitLastSlash]
    have hcont : (r ++ suf).contains 47 = r.contains 47 := by
      by_cases hr : 47 ∈ r <;> simp [hr, h]
    rw [hcont]
    split
    · simp [ih]
    · split <;> simp

theorem splitOnAll_eq (c : Nat) (l : List Nat) : splitOnAll c l = l.splitOn c := by
  induction l with
  | nil => rfl
  | cons x xs ih =>
    obtain ⟨f, fs, h, h'⟩ := Lib.splitOn_cons c x xs
    simp [splitOnAll, ih, h, h']

theorem splitOnAll_append (c : Nat) (a b : List Nat) (ha : c ∉ a) (hb : c ∉ b) :
    splitOnAll c (a ++ c :: b) = [a, b] := by
  rw [splitOnAll_eq, Lib.splitOn_append_cons_of_not_mem ha, Lib.splitOn_of_not_mem hb]

theorem dropWhile_isWs_eq {s : Str} (h : ∀ c, s.head? = some c → isWs c = false) : s.dropWhile isWs = s := by
  cases s with
  | nil => rfl
  | cons x xs => simp [List.dropWhile, h x rfl]

theorem trimWs_eq_self {s : Str} (hh : ∀ c, s.head? = some c → isWs c = false)
    (hl : ∀ c, s.getLast? = some c → isWs c = false) : trimWs s = s := by
  rw [trimWs, dropWhile_isWs_eq hh, dropWhile_isWs_eq (by simpa using hl), List.reverse_reverse]

theorem trimWs_id (s : Str) (h : ∀ c ∈ s, isWs c = false) : trimWs s = s :=
  trimWs_eq_self (fun c hc => h c (List.mem_of_head? hc)) (fun c hc => h c (List.mem_of_getLast? hc))

theorem trimWs_wrap (x : NBytes) (hh : ∀ c, x.head? = some c → isWs c = false)
    (hl : ∀ c, x.getLast? = some c → isWs c = false) : trimWs (32 :: x ++ [10]) = x := by
  have h1 : (32 :: x ++ [10]).dropWhile isWs = (x ++ [10]).dropWhile isWs :=
    List.dropWhile_cons_of_pos (by decide)
  cases x with
  | nil => rw [trimWs, h1]; rfl
  | cons a rest =>
    rw [trimWs, h1, dropWhile_isWs_eq (s := a :: rest ++ [10]) hh, List.reverse_append, List.reverse_singleton,
      List.singleton_append, List.dropWhile_cons_of_pos (by decide),
      dropWhile_isWs_eq fun c hc => hl c (List.head?_reverse.symm.trans hc),
      List.reverse_reverse]
theorem mem_stripTrailingSlash {c : Nat} {u : Str} (h : c ∈ stripTrailingSlash u) : c ∈ u := by
  unfold stripTrailingSlash at h
  dsimp only at h
  repeat' split at h
  all_goals first
    | exact h
    | exact List.dropLast_subset _ h

theorem stripTrailingSlash_id (u : Str) (h : u.getLast? ≠ some 47) : stripTrailingSlash u = u := by
  unfold stripTrailingSlash; rw [if_pos h]

theorem mem_splitLastSlash_snd {c : Nat} {l : List Nat} (h : c ∈ (splitLastSlash l).2) : c ∈ l := by
  rw [← splitLastSlash_join l]; exact List.mem_append_right _ h

theorem splitSegParams_none (u : Str) (hu : 44 ∉ (splitLastSlash (stripTrailingSlash u)).2) :
    splitSegParams u = some (u, []) := by
  simp [splitSegParams, splitSegParamsRaw, hu, parseSubsegs]

theorem lastSegCommaFree_iff (u : Str) :
    lastSegCommaFree u = true ↔ 44 ∉ (splitLastSlash (stripTrailingSlash u)).2 ∧ 44 ∉ (splitLastSlash u).2 := by
  unfold lastSegCommaFree
  simp

/-- in particular every URL without any comma -/
theorem lastSegCommaFree_of_not_mem (u : Str) (hu : 44 ∉ u) : lastSegCommaFree u = true := by
  rw [lastSegCommaFree_iff]
  exact ⟨fun h => hu (mem_stripTrailingSlash (mem_splitLastSlash_snd h)), fun h => hu (mem_splitLastSlash_snd h)⟩

theorem splitSegParamsRaw_joined (u s : Str) (hseg44 : 44 ∉ (splitLastSlash u).2) (h44 : 44 ∉ s) (h47 : 47 ∉ s) :
    splitSegParamsRaw (u ++ 44 :: s) = (u, [trimWs s]) := by
  have hsuf47 : 47 ∉ 44 :: s := by
    simp only [List.mem_cons, not_or]
    exact ⟨by decide, h47⟩
  have hlast : (u ++ 44 :: s).getLast? ≠ some 47 := by
    rw [List.getLast?_append, List.getLast?_eq_some_getLast (List.cons_ne_nil _ _), Option.some_or]
    exact fun h => hsuf47 (Option.some.inj h ▸ List.getLast_mem _)
  have hc : ((splitLastSlash u).2 ++ 44 :: s).contains 44 = true := by simp
  simp only [splitSegParamsRaw, stripTrailingSlash_id _ hlast, splitLastSlash_append u _ hsuf47, hc,
    not_true_eq_false, if_false, splitOnAll_append 44 _ _ hseg44 h44, List.map_cons, List.map_nil,
    splitLastSlash_join]

theorem splitSegParams_joined (u k v : Str) (hseg44 : 44 ∉ (splitLastSlash u).2)
    (hk : ∀ c ∈ k, isWs c = false ∧ c ≠ 44 ∧ c ≠ 47 ∧ c ≠ 61)
    (hv : ∀ c ∈ v, isWs c = false ∧ c ≠ 44 ∧ c ≠ 47) :
    splitSegParams (u ++ 44 :: (k ++ 61 :: v)) = some (u, [(k, v)]) := by
  have hs : ∀ c ∈ k ++ 61 :: v, isWs c = false ∧ c ≠ 44 ∧ c ≠ 47 := by
    intro c hc
    rcases List.mem_append.mp hc with h | h
    · exact ⟨(hk c h).1, (hk c h).2.1, (hk c h).2.2.1⟩
    · rcases List.mem_cons.mp h with rfl | h
      · decide
      · exact hv c h
  rw [splitSegParams, splitSegParamsRaw_joined u _ hseg44 (fun h => (hs _ h).2.1 rfl) (fun h => (hs _ h).2.2 rfl),
    trimWs_id _ fun c hc => (hs c hc).1]
  simp only [parseSubsegs, splitOnFirst_append' 61 k v fun h => (hk _ h).2.2.2 rfl]
  rw [trimWs_id k fun c hc => (hk c hc).1, trimWs_id v fun c hc => (hv c hc).1]

theorem joinSegParam_simple (u k v : Str) (hu : 44 ∉ (splitLastSlash (stripTrailingSlash u)).2) :
    joinSegParam u k v = some (u ++ 44 :: (k ++ 61 :: v)) := by
  unfold joinSegParam
  rw [splitSegParams_none u hu]
  simp [insertKV, renderParams]

theorem key_chars : (∀ c ∈ kBranch, isWs c = false ∧ c ≠ 44 ∧ c ≠ 47 ∧ c ≠ 61) ∧
    (∀ c ∈ kRef, isWs c = false ∧ c ≠ 44 ∧ c ≠ 47 ∧ c ≠ 61) := by decide

theorem paramGet_singleton (k v k' : Str) : paramGet [(k, v)] k' = if k = k' then some v else none := by
  simp [paramGet]

theorem bzrUrlToGitUrl_plain {loc' : Str} (hc : 44 ∉ (splitLastSlash (stripTrailingSlash loc')).2) :
    bzrUrlToGitUrl loc' = .ok (loc', none, none) := by
  simp [bzrUrlToGitUrl, splitSegParams_none loc' hc, paramGet]

/-- the `ref` parameter `git_url_to_bzr_url` writes is read back as the ref -/
theorem bzrUrlToGitUrl_ref {loc' : Str} {r : NBytes} (hc : 44 ∉ (splitLastSlash loc').2) (hr : isBytes r = true) :
    bzrUrlToGitUrl (loc' ++ 44 :: (kRef ++ 61 :: pctEncode [] r)) = .ok (loc', none, some r) := by
  have hv := pctEncode_chars r hr
  have hk : kRef ≠ kBranch := by decide
  simp only [bzrUrlToGitUrl, splitSegParams_joined loc' kRef _ hc key_chars.2 (fun c hc => (hv c hc).2),
    paramGet_singleton, hk, if_false, if_true, encodeUtf8_ascii false _ (all_lt_of_forall fun c hc => (hv c hc).1),
    pct_decode_encode r hr]

/-- the `branch` parameter it writes is read back as the branch name -/
theorem bzrUrlToGitUrl_branch {loc' b e : Str} (hc : 44 ∉ (splitLastSlash loc').2) (he : escapeStr b = some e) :
    bzrUrlToGitUrl (loc' ++ 44 :: (kBranch ++ 61 :: e)) = .ok (loc', some b, none) := by
  have hun := unescapeStr_escapeStr he
  obtain ⟨bs, hbs, rfl⟩ := Option.map_eq_some_iff.mp he
  have hv := pctEncode_chars bs (encodeUtf8_isBytes hbs)
  have hk : kBranch ≠ kRef := by decide
  simp only [bzrUrlToGitUrl, splitSegParams_joined loc' kBranch _ hc key_chars.1 (fun c hc => (hv c hc).2),
    paramGet_singleton, hk, if_false, if_true, hun]
  rfl

theorem isBytes_map_toNat (b : Bytes) : isBytes (b.map UInt8.toNat) = true := by
  simp only [isBytes, List.all_map, List.all_eq_true, Function.comp_apply, decide_eq_true_eq]
  intro x _; exact x.toNat_lt

theorem normBR_some {branch : Option Str} {ref : Option NBytes} {b' : Option Str} {r : NBytes}
    (h : normBR branch ref = (b', some r)) : b' = none ∧ ref = some r := by
  unfold normBR at h
  split at h
  · rename_i r0
    split at h
    · simp at h
    · split at h
      · simp at h
      · simp only [Prod.mk.injEq, Option.some.injEq] at h
        exact ⟨h.1.symm, by rw [h.2]⟩
  · simp at h

theorem gitUrlToBzrUrl_one_none {loc : Str} {branch : Option Str} {ref : Option NBytes} {u : Str}
    (h : gitUrlToBzrUrl loc branch ref = .ok u) : branch = none ∨ ref = none := by
  unfold gitUrlToBzrUrl gitUrlToBzrUrlG at h
  split at h
  · cases h
  · rename_i hx
    by_cases hb : branch = none
    · exact .inl hb
    · exact .inr (Decidable.not_not.mp fun hr => hx ⟨hb, hr⟩)

theorem gitUrlToBzrUrl_eq_addRefParams (loc loc' : Str) (branch : Option Str) (ref : Option NBytes)
    (hloc : normLoc loc = .url loc' ∨ (normLoc loc = .unchanged ∧ loc' = loc)) (hx : branch = none ∨ ref = none) :
    gitUrlToBzrUrl loc branch ref = addRefParams loc' branch ref := by
  unfold gitUrlToBzrUrl gitUrlToBzrUrlG
  have : ¬(branch ≠ none ∧ ref ≠ none) := by rcases hx with h | h <;> simp [h]
  rw [if_neg this]
  rcases hloc with h | ⟨h, rfl⟩ <;> simp [h]

theorem normBR_head (b : Option Str) {r : NBytes} (h : r = headRef ∨ r = []) : normBR b (some r) = (none, none) := by
  simp only [normBR, if_pos h]

theorem normBR_ok (b : Option Str) {r : NBytes} {n : Option Str} (h : ¬(r = headRef ∨ r = []))
    (hrb : refToBranchName (some r) = .ok n) : normBR b (some r) = (n, none) := by
  simp only [normBR, if_neg h, hrb]

theorem normBR_error (b : Option Str) {r : NBytes} {e : Err} (h : ¬(r = headRef ∨ r = []))
    (hrb : refToBranchName (some r) = .error e) : normBR b (some r) = (none, some r) := by
  simp only [normBR, if_neg h, hrb]

theorem cleanBR_normBR_cases (b : Option Str) (ref : Option NBytes) :
    cleanBR (normBR b ref) = (none, none) ∨ (∃ n, n ≠ [] ∧ cleanBR (normBR b ref) = (some n, none)) ∨
    ∃ r e, ¬(r = headRef ∨ r = []) ∧ refToBranchName (some r) = .error e ∧
      cleanBR (normBR b ref) = (none, some r) := by
  have hclean : ∀ x : Option Str,
      cleanBR (x, none) = (none, none) ∨ ∃ n, n ≠ [] ∧ cleanBR (x, none) = (some n, none) := by
    intro x
    rcases x with _ | n
    · exact .inl rfl
    · by_cases hn : n = []
      · subst hn; exact .inl rfl
      · exact .inr ⟨n, hn, by simp [cleanBR, hn]⟩
  cases ref with
  | none => exact (hclean b).imp_right .inl
  | some r =>
    by_cases h1 : r = headRef ∨ r = []
    · rw [normBR_head b h1]; exact .inl rfl
    · cases hrb : refToBranchName (some r) with
      | ok n => rw [normBR_ok b h1 hrb]; exact (hclean n).imp_right .inl
      | error e => rw [normBR_error b h1 hrb]; exact .inr (.inr ⟨r, e, h1, hrb, rfl⟩)

/-- `addRefParams` only looks at the normal form of its arguments -/
theorem addRefParams_congr (l : Str) (b1 b2 : Option Str) (r1 r2 : Option NBytes)
    (h : cleanBR (normBR b1 r1) = cleanBR (normBR b2 r2)) : addRefParams l b1 r1 = addRefParams l b2 r2 := by
  unfold addRefParams
  generalize normBR b1 r1 = p1 at h ⊢
  generalize normBR b2 r2 = p2 at h ⊢
  obtain ⟨x1, y1⟩ := p1
  obtain ⟨x2, y2⟩ := p2
  simp only [cleanBR, Prod.mk.injEq] at h
  obtain ⟨hx, rfl⟩ := h
  rcases y1 with _ | r
  · -- without a ref, an empty branch name is treated like no branch name
    by_cases h1 : x1 = some []
    · by_cases h2 : x2 = some []
      · subst h1 h2; rfl
      · rw [if_pos h1, if_neg h2] at hx; subst h1 hx; rfl
    · by_cases h2 : x2 = some []
      · rw [if_neg h1, if_pos h2] at hx; subst h2 hx; rfl
      · rw [if_neg h1, if_neg h2] at hx; subst hx; rfl
  · rfl
theorem gitUrlToBzrUrl_congr {loc loc' : Str} {b1 b2 : Option Str} {r1 r2 : Option NBytes}
    (hloc : normLoc loc = .url loc' ∨ (normLoc loc = .unchanged ∧ loc' = loc))
    (h1 : b1 = none ∨ r1 = none) (h2 : b2 = none ∨ r2 = none)
    (h : cleanBR (normBR b1 r1) = cleanBR (normBR b2 r2)) : gitUrlToBzrUrl loc b1 r1 = gitUrlToBzrUrl loc b2 r2 := by
  rw [gitUrlToBzrUrl_eq_addRefParams _ _ _ _ hloc h1, gitUrlToBzrUrl_eq_addRefParams _ _ _ _ hloc h2,
    addRefParams_congr _ _ _ _ _ h]

end BreezyVerif.C36
