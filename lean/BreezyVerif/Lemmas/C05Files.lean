import BreezyVerif.Lemmas.C05
import BreezyVerif.Lemmas.C04Enabled
/-!
C05 — the file invariant (`InvB`): every listed pack and every private
(finished, not yet saved) pack has its files in place; a pack is moved to
`obsolete_packs/` only when it is neither listed nor anybody's private pack.
Preserved by the phases that do not remove files (given the data invariant
`InvA`); the removals are treated one transport operation at a time in
`Lemmas/C05Fine.lean`, which covers the whole phases as a special case.
-/
namespace BreezyVerif.C05
open BreezyVerif.C04

structure InvB (s : Sys) : Prop where
  bound_comb : ∀ p, ∀ n ∈ (s.procs p).combined, n < s.next
  bound_obs : ∀ p, ∀ n ∈ (s.procs p).toObsolete, n < s.next
  /-- a listed pack is readable -/
  r1 : ∀ n ∈ s.disk.names, ready s.chk s.disk n = true
  /-- a finished pack that is not yet listed is readable -/
  r2 : ∀ p, ∀ n ∈ (s.procs p).names, n ∉ (s.procs p).atLoad → ready s.chk s.disk n = true
  /-- what is about to be obsoleted is not listed and nobody's private pack -/
  obs : ∀ p, ∀ n ∈ (s.procs p).toObsolete,
      n ∉ s.disk.names ∧ ∀ q, ¬(n ∈ (s.procs q).names ∧ n ∉ (s.procs q).atLoad)
  cn : ∀ p, ∀ n ∈ (s.procs p).combined, n ∉ (s.procs p).names
  cb : ∀ p, ∀ n ∈ (s.procs p).combined, n ∈ s.ever ∨ s.owner n = p
  cd : ∀ p, ∀ n ∈ (s.procs p).combined, n ∈ s.disk.names → n ∈ (s.procs p).atLoad

theorem ready_newPack_other (chk : Bool) (d : Disk) (t : Nat) (b : Bool) (m n : Nat) (hne : m ≠ n)
    (hr : ready chk d n = true) : ready chk (run d (newPackOps chk (upTmp t b) m)) n = true :=
  (run_safe chk [n] _ d (newPackOps_safe chk [n] (upTmp t b) m rfl (by simpa using hne))).2 n (by simp) hr

theorem ready_newPack_self (chk : Bool) (d : Disk) (t : Nat) (b : Bool) (m : Nat) :
    ready chk (run d (newPackOps chk (upTmp t b) m)) m = true :=
  finish_ready' chk d (upTmp t b) m (by simp [upTmp])

/-- `n` is a finished, not yet saved pack of the process with record `x` -/
abbrev Private (x : Proc) (n : Nat) : Prop := n ∈ x.names ∧ n ∉ x.atLoad

/-- the clauses of `InvB` about process `p` with record `x` alone, given the shared state: the listed names
`listed` and which packs are readable -/
structure ProcB (next : Nat) (ever : List Nat) (owner : Nat → Nat) (listed : List Nat) (rdy : Nat → Prop)
    (p : Nat) (x : Proc) : Prop where
  bc : ∀ n ∈ x.combined, n < next
  bo : ∀ n ∈ x.toObsolete, n < next
  r2 : ∀ n, Private x n → rdy n
  obsL : ∀ n ∈ x.toObsolete, n ∉ listed
  cn : ∀ n ∈ x.combined, n ∉ x.names
  cb : ∀ n ∈ x.combined, n ∈ ever ∨ owner n = p
  cd : ∀ n ∈ x.combined, n ∈ listed → n ∈ x.atLoad

theorem InvB.proc {s : Sys} (g : InvB s) (p : Nat) :
    ProcB s.next s.ever s.owner s.disk.names (fun n => ready s.chk s.disk n = true) p (s.procs p) :=
  ⟨g.bound_comb p, g.bound_obs p, fun n hn => g.r2 p n hn.1 hn.2, fun n hn => (g.obs p n hn).1, g.cn p, g.cb p,
    g.cd p⟩

theorem InvB.cross {s : Sys} (g : InvB s) (p q : Nat) :
    ∀ n ∈ (s.procs p).toObsolete, ¬ Private (s.procs q) n :=
  fun n hn => (g.obs p n hn).2 q

theorem InvB.of {s : Sys} (r1 : ∀ n ∈ s.disk.names, ready s.chk s.disk n = true)
    (hp : ∀ p, ProcB s.next s.ever s.owner s.disk.names (fun n => ready s.chk s.disk n = true) p (s.procs p))
    (hx : ∀ p q, ∀ n ∈ (s.procs p).toObsolete, ¬ Private (s.procs q) n) : InvB s :=
  ⟨fun p => (hp p).bc, fun p => (hp p).bo, r1, fun p n hn hna => (hp p).r2 n ⟨hn, hna⟩,
    fun p n hn => ⟨(hp p).obsL n hn, fun q => hx p q n hn⟩, fun p => (hp p).cn, fun p => (hp p).cb,
    fun p => (hp p).cd⟩

section
variable {next next' : Nat} {ever ever' : List Nat} {owner owner' : Nat → Nat} {listed listed' : List Nat}
  {rdy rdy' : Nat → Prop} {p : Nat} {x : Proc}

theorem ProcB.frame (h : ProcB next ever owner listed rdy p x) (hn : next ≤ next')
    (he : ∀ n ∈ ever, n ∈ ever') (ho : ∀ n, n < next → owner' n = owner n)
    (hr : ∀ n, Private x n → rdy n → rdy' n)
    (hlo : ∀ n ∈ x.toObsolete, n ∈ listed' → n ∈ listed)
    (hlc : ∀ n ∈ x.combined, n ∈ listed' → n ∉ x.atLoad → n ∈ listed) :
    ProcB next' ever' owner' listed' rdy' p x :=
  ⟨fun n hx => Nat.lt_of_lt_of_le (h.bc n hx) hn, fun n hx => Nat.lt_of_lt_of_le (h.bo n hx) hn,
    fun n hx => hr n hx (h.r2 n hx), fun n hx hl => h.obsL n hx (hlo n hx hl), h.cn,
    fun n hx => (h.cb n hx).imp (he n) fun e => (ho n (h.bc n hx)).trans e,
    fun n hx hl => Classical.byContradiction fun hna => hna (h.cd n hx (hlc n hx hl hna))⟩

theorem ProcB.not_merged (h : ProcB next ever owner listed rdy p x) :
    ∀ n ∈ x.combined, n ∉ mergeNames listed x.atLoad x.names := by
  intro n hn hm
  rcases mem_mergeNames.mp hm with ⟨hd, hnot⟩ | ⟨hm', _, _⟩
  · exact hnot ⟨h.cd n hn hd, h.cn n hn⟩
  · exact h.cn n hn hm'

end

theorem cross_upd {f : Nat → Proc} {i : Nat} {x : Proc}
    (h : ∀ p q, ∀ n ∈ (f p).toObsolete, ¬ Private (f q) n)
    (hT : ∀ n ∈ x.toObsolete, n ∈ (f i).toObsolete ∨ ∀ q, ¬ Private (upd f i x q) n)
    (hP : ∀ n, Private x n → Private (f i) n ∨ ∀ p, n ∉ (upd f i x p).toObsolete) :
    ∀ p q, ∀ n ∈ (upd f i x p).toObsolete, ¬ Private (upd f i x q) n := by
  intro p q n hn hq
  -- either fact is an old one, or excluded by `hT` / `hP`
  have hn' : n ∈ (f p).toObsolete := by
    by_cases hp : p = i
    · rw [hp, upd_same] at hn
      exact hp ▸ (hT n hn).resolve_right fun hno => hno q hq
    · rwa [upd_other _ _ hp] at hn
  have hq' : Private (f q) n := by
    by_cases hqi : q = i
    · rw [hqi, upd_same] at hq
      exact hqi ▸ (hP n hq).resolve_right fun hno => hno p hn
    · rwa [upd_other _ _ hqi] at hq
  exact h p q n hn' hq'

theorem invB_reload (s : Sys) (i : Nat) (g : InvB s) : InvB (doReload s i) := by
  have gi := g.proc i
  exact .of g.r1
    (forall_upd ⟨gi.bc, gi.bo, fun n hq => gi.r2 n (reloadProc_private _ _ n hq.1 hq.2), gi.obsL, gi.not_merged,
      gi.cb, fun n _ hd => hd⟩ fun p _ => g.proc p)
    (cross_upd g.cross (fun n hn => .inl hn) fun n hq => .inl (reloadProc_private _ _ n hq.1 hq.2))

theorem invB_newPack (s : Sys) (i : Nat) (h : InvA s) (g : InvB s) (d' : Disk)
    (hdn : d'.names = s.disk.names)
    (keepReady : ∀ n, n < s.next → ready s.chk s.disk n = true → ready s.chk d' n = true)
    (selfReady : ready s.chk d' (s.next + 1) = true)
    (keep sel : List Nat) (v : List Nat) (p' : Proc)
    (hnames : p'.names = keep ++ [s.next + 1]) (hat : p'.atLoad = (s.procs i).atLoad)
    (hcomb : p'.combined = (s.procs i).combined ++ sel) (hobs : p'.toObsolete = (s.procs i).toObsolete)
    (hkeep : ∀ n ∈ keep, n ∈ (s.procs i).names)
    (hsel : ∀ n ∈ sel, n ∈ (s.procs i).names ∧ n ∉ keep) :
    InvB { s with disk := d',
                  procs := upd s.procs i p', content := upd s.content (s.next + 1) v,
                  owner := upd s.owner (s.next + 1) i, next := s.next + 2 } := by
  have frame : ∀ p, ProcB (s.next + 2) s.ever (upd s.owner (s.next + 1) i) d'.names
      (fun n => ready s.chk d' n = true) p (s.procs p) := fun p =>
    (g.proc p).frame (by omega) (fun _ hn => hn) (fun _ hn => owner_upd_lt s i hn)
      (fun n hq hr => keepReady n (h.bound_names p n hq.1) hr) (fun _ _ hl => hdn ▸ hl) fun _ _ hl _ => hdn ▸ hl
  have fi := frame i
  have hi := h.proc i
  refine .of (fun n hn => ?_) (forall_upd ?_ fun p _ => frame p) (cross_upd g.cross (fun n hn => .inl (hobs ▸ hn)) ?_)
  · have hn' : n ∈ s.disk.names := hdn ▸ hn
    exact keepReady n (h.bound_disk n hn') (g.r1 n hn')
  · refine ⟨fun n hn => ?_, by rw [hobs]; exact fi.bo, fun n hq => ?_, by rw [hobs]; exact fi.obsL,
      fun n hn => ?_, fun n hn => ?_, fun n hn hl => ?_⟩
    · rw [hcomb] at hn
      show n < s.next + 2
      exact (List.mem_append.mp hn).elim (fi.bc n) fun hn => by have := hi.bn n (hsel n hn).1; omega
    · rw [Private, hnames, hat] at hq
      rcases List.mem_append.mp hq.1 with hk | hm
      · exact fi.r2 n ⟨hkeep n hk, hq.2⟩
      · exact List.mem_singleton.mp hm ▸ selfReady
    · rw [hcomb] at hn
      simp only [hnames, List.mem_append, List.mem_singleton, not_or]
      rcases List.mem_append.mp hn with hn | hn
      · exact ⟨fun hk => fi.cn n hn (hkeep n hk), by have := (g.proc i).bc n hn; omega⟩
      · exact ⟨(hsel n hn).2, by have := hi.bn n (hsel n hn).1; omega⟩
    · rw [hcomb] at hn
      rcases List.mem_append.mp hn with hn | hn
      · exact fi.cb n hn
      · by_cases ha : n ∈ (s.procs i).atLoad
        · exact .inl (hi.al n ha)
        · exact .inr ((owner_upd_lt s i (hi.bn n (hsel n hn).1)).trans (hi.priv n (hsel n hn).1 ha).1)
    · rw [hcomb] at hn
      rw [hat]
      rcases List.mem_append.mp hn with hn | hn
      · exact fi.cd n hn hl
      · exact Classical.byContradiction fun ha => (hi.priv n (hsel n hn).1 ha).2 (h.ev n (hdn ▸ hl))
  · intro n hq
    rw [Private, hnames, hat] at hq
    rcases List.mem_append.mp hq.1 with hk | hm
    · exact .inl ⟨hkeep n hk, hq.2⟩
    · -- the fresh name is above every name marked for obsoleting
      refine .inr fun p hp => ?_
      rw [upd_field Proc.toObsolete s.procs hobs] at hp
      have := g.bound_obs p n hp
      have := List.mem_singleton.mp hm
      omega

/-- the save with the disk after any sequence of operations that replaces `pack-names` by the merge and
keeps complete packs complete (the whole phase, or only its atomic part) -/
theorem invB_saveAux (s : Sys) (i : Nat) (h : InvA s) (g : InvB s) (d' : Disk) (M T' : List Nat)
    (committed' : List Nat)
    (hMdef : M = mergeNames s.disk.names (s.procs i).atLoad (s.procs i).names)
    (hdn : d'.names = M)
    (hready : ∀ n, ready s.chk s.disk n = true → ready s.chk d' n = true)
    (hT : ∀ n ∈ T', n ∈ (s.procs i).toObsolete ∨ n ∈ (s.procs i).combined) :
    InvB { s with disk := d', procs := upd s.procs i ⟨(s.procs i).loaded, M, M, [], T'⟩,
                  ever := s.ever ++ M, committed := committed' } := by
  have gi := g.proc i
  have hM : ∀ n, n ∈ M → n ∈ s.disk.names ∨ Private (s.procs i) n := fun n hn =>
    mem_mergeNames_cases (hMdef ▸ hn)
  have combNotM : ∀ n ∈ (s.procs i).combined, n ∉ M := hMdef ▸ gi.not_merged
  have oldNotM : ∀ p, ∀ n ∈ (s.procs p).toObsolete, n ∉ M := fun p n hT hm =>
    (hM n hm).elim (g.obs p n hT).1 (g.cross p i n hT)
  -- a pack another process holds privately or combined is not a private pack of `i`: the owners differ
  have notMine : ∀ p, p ≠ i → ∀ n, s.owner n = p → ¬ Private (s.procs i) n := fun p hp n ho hq =>
    hp (ho.symm.trans (h.priv i n hq.1 hq.2).1)
  refine .of (fun n hn => ?_) (forall_upd ?_ fun p hp => ?_) (cross_upd g.cross (fun n hn => ?_) fun n hq => absurd hq.1 hq.2)
  · exact hready n ((hM n (hdn ▸ hn)).elim (g.r1 n) (gi.r2 n))
  · -- the saving process holds exactly what it wrote and has combined nothing since
    exact ⟨(fun _ hn => nomatch hn), fun n hn => (hT n hn).elim (gi.bo n) (gi.bc n), fun n hq => absurd hq.1 hq.2,
      fun n hn hl => (hT n hn).elim (fun hn => oldNotM i n hn (hdn ▸ hl)) fun hn => combNotM n hn (hdn ▸ hl),
      (fun _ hn => nomatch hn), (fun _ hn => nomatch hn), (fun _ hn => nomatch hn)⟩
  · refine (g.proc p).frame (Nat.le_refl _) (fun n hn => List.mem_append_left _ hn) (fun _ _ => rfl)
      (fun n _ hr => hready n hr) (fun n hn hl => absurd (hdn ▸ hl) (oldNotM p n hn)) fun n hn hl hna => ?_
    rcases hM n (hdn ▸ hl) with h1 | h1
    · exact h1
    · rcases g.cb p n hn with h3 | h3
      · exact absurd h3 (h.priv i n h1.1 h1.2).2
      · exact absurd h1 (notMine p hp n h3)
  · rcases hT n hn with hn | hn
    · exact .inl hn
    · -- a combined pack was listed or made by `i`: nobody else holds it privately
      refine .inr fun q hq => ?_
      by_cases hqi : q = i
      · rw [hqi, upd_same] at hq
        exact hq.2 hq.1
      · rw [upd_other _ _ hqi] at hq
        rcases gi.cb n hn with h1 | h1
        · exact (h.priv q n hq.1 hq.2).2 h1
        · exact hqi ((h.priv q n hq.1 hq.2).1.symm.trans h1)

theorem invB_finish (s : Sys) (i : Nat) (revs : List Nat) (h : InvA s) (g : InvB s) :
    InvB (step s i (.finish revs)) :=
  invB_newPack s i h g _ (names_newPack _ _ _ _)
    (fun n hn hr => ready_newPack_other _ _ _ _ _ n (by omega) hr) (ready_newPack_self _ _ _ _ _)
    (s.procs i).names [] revs _ rfl rfl (by simp) rfl (fun n hn => hn) (fun n hn => nomatch hn)

theorem invB_repack (s : Sys) (i : Nat) (sel : List Nat) (h : InvA s) (g : InvB s) :
    InvB (step s i (.repack sel)) := by
  simp only [step]
  split
  · rename_i hpre
    refine invB_newPack s i h g _ (names_newPack _ _ _ _)
      (fun n hn hr => ready_newPack_other _ _ _ _ _ n (by omega) hr) (ready_newPack_self _ _ _ _ _)
      ((s.procs i).names.filter (fun n => !sel.contains n)) sel
      (sel.flatMap s.content) _ rfl rfl rfl rfl (fun n hn => (List.mem_filter.mp hn).1) ?_
    intro n hn
    have := (List.all_eq_true.mp hpre) n hn
    simp only [List.contains_eq_mem, decide_eq_true_eq] at this
    exact ⟨this, fun hk => by simpa [hn] using (List.mem_filter.mp hk).2⟩
  · exact invB_reload s i g

theorem invB_init (chk : Bool) (d : Disk) (content : Nat → List Nat) (next : Nat)
    (hc : complete chk d = true) : InvB (Sys.init chk d content next) := by
  have hc' : ∀ n ∈ d.names, ready chk d n = true := by simpa [complete] using hc
  refine ⟨?_, ?_, hc', ?_, ?_, ?_, ?_, ?_⟩ <;> intro p n hn <;> cases hn

end BreezyVerif.C05
