import BreezyVerif.Lemmas.C39Group
import BreezyVerif.Lemmas.C39Sound
/-! C39 helper lemmas: the two sides of the hunk of a valid opcode group; the applier does not see `fixFirst`. -/
namespace BreezyVerif.C39

theorem sides_append (x y : List HLine) :
    oldSide (x ++ y) = oldSide x ++ oldSide y ∧ newSide (x ++ y) = newSide x ++ newSide y := by
  induction x with
  | nil => exact ⟨rfl, rfl⟩
  | cons l x ih => cases l <;> simp [oldSide, newSide, ih]

theorem sides_map (xs : List Line) :
    oldSide (xs.map .ctx) = xs ∧ newSide (xs.map .ctx) = xs ∧ oldSide (xs.map .rem) = xs ∧
    newSide (xs.map .rem) = [] ∧ oldSide (xs.map .ins) = [] ∧ newSide (xs.map .ins) = xs := by
  induction xs with
  | nil => simp [oldSide, newSide]
  | cons x xs ih => simp [oldSide, newSide, ih]

theorem sides_op (a b : List Line) (o : Op) (hv : validOp a b o = true) :
    oldSide (opLines a b o) = slice a o.i1 o.i2 ∧ newSide (opLines a b o) = slice b o.j1 o.j2 := by
  simp only [validOp, Bool.and_eq_true, decide_eq_true_eq] at hv
  obtain ⟨-, htag⟩ := hv
  have s1 := sides_map (slice a o.i1 o.i2)
  have s2 := sides_map (slice b o.j1 o.j2)
  unfold opLines
  cases ht : o.tag <;> simp only [ht, decide_eq_true_eq, Bool.and_eq_true] at htag ⊢
  · exact ⟨s1.1, s1.2.1.trans htag.1⟩
  · rw [(sides_append ..).1, (sides_append ..).2, s1.2.2.1, s1.2.2.2.1, s2.2.2.2.2.1, s2.2.2.2.2.2, List.append_nil,
      List.nil_append]
    exact ⟨rfl, rfl⟩
  · rw [← htag, slice_self]
    exact ⟨s1.2.2.1, s1.2.2.2.1⟩
  · rw [htag, slice_self]
    exact ⟨s2.2.2.2.2.1, s2.2.2.2.2.2⟩

theorem sides_chain (a b : List Line) (ops : List Op) (i j ei ej : Nat) (hi : i ≤ a.length) (hj : j ≤ b.length)
    (hv : validChain a b i j ops = some (ei, ej)) :
    oldSide (ops.flatMap (opLines a b)) = slice a i ei ∧ newSide (ops.flatMap (opLines a b)) = slice b j ej := by
  induction ops generalizing i j with
  | nil =>
    simp only [validChain, Option.some.injEq, Prod.mk.injEq] at hv
    obtain ⟨rfl, rfl⟩ := hv
    simp [oldSide, newSide, slice_self]
  | cons o os ih =>
    obtain ⟨rfl, rfl, hvo, hc⟩ := (validChain_cons ..).mp hv
    obtain ⟨b1, b2, b3, b4⟩ := validOp_bounds a b o hvo
    obtain ⟨l1, l2, -, -⟩ := validChain_le a b os _ _ ei ej hc b3 b4
    rw [List.flatMap_cons, (sides_append ..).1, (sides_append ..).2, (sides_op a b o hvo).1, (sides_op a b o hvo).2,
      (ih _ _ b3 b4 hc).1, (ih _ _ b3 b4 hc).2, slice_append a _ _ _ b1 l1, slice_append b _ _ _ b2 l2]
    exact ⟨rfl, rfl⟩

/-- the hunk of one valid group: its sides are the stretches of the two texts the chain covers -/
theorem group_spec (a b : List Line) (o : Op) (os : List Op) (ei ej : Nat)
    (hc : validChain a b o.i1 o.j1 (o :: os) = some (ei, ej)) :
    ∃ L, groupHunk a b (o :: os) = some ⟨o.i1 + 1, ei - o.i1, o.j1 + 1, ej - o.j1, none, L⟩ ∧
      oldSide L = slice a o.i1 ei ∧ newSide L = slice b o.j1 ej ∧
      o.i1 ≤ ei ∧ o.j1 ≤ ej ∧ ei ≤ a.length ∧ ej ≤ b.length := by
  obtain ⟨-, -, hvo, hc'⟩ := (validChain_cons ..).mp hc
  obtain ⟨b1, b2, b3, b4⟩ := validOp_bounds a b o hvo
  obtain ⟨l1, l2, l3, l4⟩ := validChain_le a b os _ _ ei ej hc' b3 b4
  obtain ⟨s1, s2⟩ := sides_chain a b (o :: os) _ _ ei ej (Nat.le_trans b1 b3) (Nat.le_trans b2 b4) hc
  exact ⟨_, groupHunk_chain a b o os ei ej hc, s1, s2, Nat.le_trans b1 l1, Nat.le_trans b2 l2, l3, l4⟩

theorem applyFrom_congr (ln : Nat) (rest : List Line) (h h' : Hunk) (hs : List Hunk)
    (hk : h.origPos - ln = h'.origPos - ln) (hl : h.lines = h'.lines) :
    applyFrom ln rest (h :: hs) = applyFrom ln rest (h' :: hs) := by
  simp only [applyFrom, hk, hl]

theorem applyFrom_fixFirst (a b : List Line) (hs : List Hunk) :
    applyFrom 1 a (fixFirst a b hs) = applyFrom 1 a hs := by
  cases hs with
  | nil => rfl
  | cons h hs =>
    obtain ⟨o, m, e, -, hp, -⟩ := fixFirst_cons a b h hs
    rw [e]
    exact applyFrom_congr _ _ _ _ _ hp rfl

end BreezyVerif.C39
