import BreezyVerif.Lemmas.C15
/-!
C15 — per id: merging the stored entry into the entry the work transform left,
over the basis entry, gives back the entry before shelving, without conflicts
(`mergeEntry_restores`).  Every step of `mergeEntry` (position, kind and content,
executable bit) compares an attribute that shelving left different from the
basis on one side only (`pick_threeWay`); a hunk selection does the same chunk by chunk.
-/
namespace BreezyVerif.C15
open BreezyVerif.C18 (threeWay Winner)

theorem names_restore (rn : Bool) (b t o w : Entry)
    (htp : t.parent = if rn then b.parent else w.parent) (htn : t.name = if rn then b.name else w.name)
    (hop : o.parent = if rn then w.parent else b.parent) (hon : o.name = if rn then w.name else b.name) :
    namesStep (some b) (some t) (some o) = ([], some (w.parent, w.name)) := by
  simp [namesStep, namesOn, overrideAbsent, C18.three_way_some, htp, htn, hop, hon, pick_threeWay]

theorem contentsStep_other_unchanged (b t o : Option Entry) (h : pairOf o = pairOf b) :
    contentsStep b t o = (.unmodified, pairOf t, []) := by
  simp [contentsStep, h, contentsOn]

theorem contentsStep_this_unchanged (b t o : Option Entry) (h : pairOf t = pairOf b)
    (hne : pairOf o ≠ pairOf b) : contentsStep b t o = contentsOn b .other t o := by
  rw [contentsStep, if_neg hne, h, (C18.three_way_eq_other _ _ _).mpr ⟨hne, rfl⟩]

theorem contentsStep_ne_deleted (b t : Option Entry) (o : Entry) : (contentsStep b t (some o)).1 ≠ .deleted := by
  rw [contentsStep]
  generalize (if pairOf (some o) = pairOf b then Winner.this else _) = W
  cases W <;> cases t <;> simp only [contentsOn] <;> (repeat' split) <;> simp

theorem contents_restore (sel : Bool) (b t o w : Entry)
    (ht : pairOf (some t) = if sel then pairOf (some b) else pairOf (some w))
    (ho : pairOf (some o) = if sel then pairOf (some w) else pairOf (some b)) :
    (contentsStep (some b) (some t) (some o)).2 = (pairOf (some w), []) := by
  by_cases hob : pairOf (some o) = pairOf (some b)
  · rw [contentsStep_other_unchanged _ _ _ hob, ht]
    cases sel <;> simp_all
  · have hs : sel = true := by cases sel <;> simp_all
    subst hs
    rw [contentsStep_this_unchanged _ _ _ ht hob, ← show _ = pairOf (some w) from ho]
    rfl

theorem contentsStep_files (b t o w : Entry) (hb : b.kind = .file) (ht : t.kind = .file) (ho : o.kind = .file)
    (hw : w.kind = .file) (h : mergeChunks b.content t.content o.content = some w.content) :
    (contentsStep (some b) (some t) (some o)).2 = (pairOf (some w), []) := by
  obtain ⟨h1, h2, h3⟩ := mergeChunks_eq h
  rw [show pairOf (some w) = some (.file, w.content) by simp [pairOf, hw]]
  by_cases hob : o.content = b.content
  · rw [contentsStep_other_unchanged _ _ _ (by simp [pairOf, hb, ho, hob]), h1 hob, ← ht]; rfl
  · have hne : pairOf (some o) ≠ pairOf (some b) := by simp [pairOf, hob]
    by_cases htb : t.content = b.content
    · rw [contentsStep_this_unchanged _ _ _ (by simp [pairOf, hb, ht, htb]) hne, h2 htb, ← ho]; rfl
    · by_cases hto : t.content = o.content
      · rw [contentsStep, if_neg hne, (C18.three_way_eq_this _ _ _).mpr (.inr (by simp [pairOf, ht, ho, hto])), h3 hto, ← ht]; rfl
      · have : threeWay (pairOf (some b)) (pairOf (some o)) (pairOf (some t)) = .conflict := by
          simp [C18.three_way_conflict_iff, pairOf, hb, ht, ho, htb, hto, Ne.symm hob]
        rw [contentsStep, if_neg hne, this]
        simp [contentsOn, hb, ht, ho, h]

theorem seenExec_of_recOk (v : Variant) (rec : Bool) (t : Option Entry) (h : recOk v rec t = true) :
    seenExec v rec t = t.map (·.exec) := by
  cases t with
  | none => rfl
  | some te => cases hf : v.freshExec <;> simp_all [seenExec, recOk]

theorem execStep_some (v : Variant) (rec : Bool) (st : Status) (b t o : Entry)
    (hr : recOk v rec (some t) = true) (h : threeWay b.exec o.exec t.exec ≠ .conflict) :
    execStep v rec st (some b) (some t) (some o) = pick (threeWay b.exec o.exec t.exec) o.exec t.exec := by
  simp only [execStep, seenExec_of_recOk v rec _ hr, Option.map_some, C18.three_way_some, if_neg h]
  cases hw : threeWay b.exec o.exec t.exec <;> simp [pick] <;> exact absurd hw h

theorem mergeEntry_added (v : Variant) (rec : Bool) (o : Entry) :
    mergeEntry v rec none none (some o) = ⟨some { o with exec := o.kind == .file && o.exec }, []⟩ := by
  simp [mergeEntry, contentsStep_this_unchanged none none (some o) rfl (by simp [pairOf]), contentsOn, namesStep,
    namesOn, overrideAbsent, execStep, seenExec, threeWay, assemble]
  cases o.kind <;> rfl

theorem mergeEntry_removed (v : Variant) (rec : Bool) (b t : Entry)
    (hp : t.parent = b.parent) (hn : t.name = b.name) (hk : t.kind = b.kind) (hc : t.content = b.content) :
    mergeEntry v rec (some b) (some t) none = ⟨none, []⟩ := by
  simp [mergeEntry, contentsStep_this_unchanged (some b) (some t) none (by simp [pairOf, hk, hc]) (by simp [pairOf]),
    contentsOn, namesStep, overrideAbsent, hp, hn, threeWay, assemble]

theorem mergeEntry_some (v : Variant) (rec : Bool) (b t o : Entry) (k : Kind) (c : List Nat)
    (p : Option Id) (n : Nat) (hob : o ≠ b)
    (hc : (contentsStep (some b) (some t) (some o)).2 = (some (k, c), []))
    (hn : namesStep (some b) (some t) (some o) = ([], some (p, n))) :
    mergeEntry v rec (some b) (some t) (some o) = ⟨some ⟨p, n, k, c, if k = .file then
      execStep v rec (contentsStep (some b) (some t) (some o)).1 (some b) (some t) (some o) else false⟩, []⟩ := by
  have hst := contentsStep_ne_deleted (some b) (some t) o
  simp only [mergeEntry, if_neg (show some o ≠ some b by simpa using hob), hc, hn]
  generalize (contentsStep (some b) (some t) (some o)).1 = st at hst ⊢
  cases st <;> first | rfl | exact absurd rfl hst

/-- Both sides present.  Position (`rn`) and executable bit (`se`) are each either selected (THIS
has the basis value, OTHER the working value) or not; kind and content are merged as `hc` says.
`hO`: the merge skips an id whose stored entry is the basis entry, so then the work transform
must not have taken anything either. -/
theorem mergeEntry_sel (v : Variant) (rec : Bool) (rn se : Bool) (b t o w : Entry) (hw : norm (some w) = true)
    (hr : recOk v rec (some t) = true)
    (htp : t.parent = if rn then b.parent else w.parent) (htn : t.name = if rn then b.name else w.name)
    (hop : o.parent = if rn then w.parent else b.parent) (hon : o.name = if rn then w.name else b.name)
    (hte : t.exec = if se then b.exec else w.exec) (hoe : o.exec = if se then w.exec else b.exec)
    (hc : (contentsStep (some b) (some t) (some o)).2 = (pairOf (some w), []))
    (hO : pairOf (some o) = pairOf (some b) → pairOf (some t) = pairOf (some w)) :
    mergeEntry v rec (some b) (some t) (some o) = ⟨some w, []⟩ := by
  by_cases hob : o = b
  · rw [mergeEntry, if_pos (by rw [hob])]
    have := hO (by rw [hob])
    obtain ⟨tp, tn, tk, tc, te⟩ := t
    obtain ⟨wp, wn, wk, wc, we⟩ := w
    cases rn <;> cases se <;> simp_all [pairOf]
  · have he := pick_threeWay se b.exec w.exec
    rw [← hte, ← hoe] at he
    rw [mergeEntry_some v rec b t o _ _ _ _ hob hc (names_restore rn b t o w htp htn hop hon),
      execStep_some v rec _ b t o hr he.1, he.2]
    obtain ⟨wp, wn, wk, wc, we⟩ := w
    by_cases hk : wk = .file <;> simp_all [norm]

theorem mergeEntry_restores (v : Variant) (rec : Bool) (s : Sel) (b w : Option Entry)
    (hb : norm b = true) (hw : norm w = true) (hs : shapeOk s b w = true) (hx : execSafe v b w = true)
    (hr : recOk v rec (shelveWork v s b w) = true) :
    mergeEntry v rec b (shelveWork v s b w) (shelveShelf v s b w) = ⟨w, []⟩ := by
  cases b with
  | none =>
    cases w with
    | none => rfl
    | some we =>
      cases hsw : s.whole
      · simp [shelveWork, shelveShelf, mergeEntry, hsw]
      · simp [shelveWork, shelveShelf, hsw, mergeEntry_added, norm_exec we hw,
          recreatedExec_eq v we hw (by simpa [execSafe] using hx)]
  | some be =>
    cases w with
    | none =>
      cases hsw : s.whole
      · simp [shelveWork, shelveShelf, mergeEntry, hsw]
      · simp only [shelveWork, shelveShelf, hsw, if_true]
        exact mergeEntry_removed v rec be _ rfl rfl rfl rfl
    | some we =>
      have hx := execSafe_some v be we hx
      have h1 := recreatedExec_eq v be hb hx.1
      have h2 := recreatedExec_eq v we hw hx.2
      cases hc : s.content with
      | none =>
        simp only [shelveWork, shelveShelf, hc] at hr ⊢
        exact mergeEntry_sel v rec s.rename false be _ _ we hw hr rfl rfl rfl rfl rfl rfl
          (contents_restore false _ _ _ _ rfl rfl) (fun _ => rfl)
      | whole =>
        -- between two files a chmod stays in the tree; otherwise the bit goes with its kind and content
        simp only [shelveWork, shelveShelf, hc, h1, h2] at hr ⊢
        exact mergeEntry_sel v rec s.rename (!(be.kind == .file && we.kind == .file)) be _ _ we hw hr rfl rfl rfl rfl
          (by cases (be.kind == Kind.file && we.kind == Kind.file) <;> rfl)
          (by cases (be.kind == Kind.file && we.kind == Kind.file) <;> rfl)
          (contents_restore true _ _ _ _ rfl rfl) Eq.symm
      | chunks bits =>
        simp [shapeOk, CSel.shapeOk, hc] at hs
        obtain ⟨⟨⟨hk, hk'⟩, hl1⟩, hl2⟩ := hs
        simp only [shelveWork, shelveShelf, hc] at hr ⊢
        have hm := mergeChunks_pick bits be.content we.content hl1 hl2
        exact mergeEntry_sel v rec s.rename false be _ _ we hw hr rfl rfl rfl rfl rfl rfl
          (contentsStep_files _ _ _ _ hk hk' hk hk' hm)
          (fun h => by
            simp only [pairOf, Option.map_some, Option.some.injEq, Prod.mk.injEq, true_and] at h ⊢
            exact ((mergeChunks_eq hm).1 h).symm)
