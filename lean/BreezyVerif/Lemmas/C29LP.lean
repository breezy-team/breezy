import BreezyVerif.Lemmas.C29Basic
/-! LengthPrefixedBodyDecoder: segmentation independence and round trip -/
namespace BreezyVerif.C29

/-- `List.isPrefixOf_iff_prefix` at `Bytes`, with the `LawfulBEq` instance found once -/
theorem isPrefixOf_iff {p t : Bytes} : p.isPrefixOf t = true ↔ p <+: t := List.isPrefixOf_iff_prefix

theorem isPrefixOf_length {p t : Bytes} (h : p.isPrefixOf t = true) : p.length ≤ t.length :=
  (isPrefixOf_iff.1 h).length_le

theorem isPrefixOf_append_right {p t : Bytes} (u : Bytes) (h : p.isPrefixOf t = true) :
    p.isPrefixOf (t ++ u) = true :=
  isPrefixOf_iff.2 ((isPrefixOf_iff.1 h).trans (List.prefix_append t u))

theorem isPrefixOf_of_append {p t u : Bytes} (h : p.isPrefixOf (t ++ u) = true)
    (hl : p.length ≤ t.length) : p.isPrefixOf t = true :=
  isPrefixOf_iff.2 (List.prefix_of_prefix_length_le (isPrefixOf_iff.1 h) (List.prefix_append t u) hl)

namespace LP

theorem feed_eL (buf x : Bytes) : feed (.expectingLength buf) x = lengthStep (buf ++ x) := rfl
theorem feed_rB (l : Nat) (bd x : Bytes) : feed (.readingBody l bd) x = bodyStep l bd x := rfl
theorem feed_rT (bd t x : Bytes) : feed (.readingTrailer bd t) x = trailerStep bd (t ++ x) := rfl
theorem feed_done (bd u x : Bytes) : feed (.done bd u) x = .done bd (u ++ x) := rfl
theorem feed_failed (x : Bytes) : feed .failed x = .failed := rfl

theorem feed_trailerStep (bd t y : Bytes) :
    feed (trailerStep bd t) y = trailerStep bd (t ++ y) := by
  unfold trailerStep
  by_cases h : doneMarker.isPrefixOf t = true
  · have h' := isPrefixOf_append_right y h
    have hl : 5 ≤ t.length := isPrefixOf_length h
    simp only [h, h', if_true, feed]
    rw [List.drop_append_of_le_length hl]
  · simp only [h, feed]
    rfl

theorem feed_bodyStep (l : Nat) (bd x y : Bytes) :
    feed (bodyStep l bd x) y = bodyStep l bd (x ++ y) := by
  unfold bodyStep
  by_cases h : l ≤ x.length
  · rw [if_pos h, if_pos (Nat.le_trans h (List.prefix_append x y).length_le), feed_trailerStep,
      List.take_append_of_le_length h, List.drop_append_of_le_length h]
  · have hx : x.length ≤ l := Nat.le_of_not_le h
    rw [if_neg h, feed_rB, bodyStep, List.length_append, List.take_append, List.drop_append,
      List.take_of_length_le hx, List.drop_of_length_le hx, List.nil_append]
    simp only [Nat.sub_le_iff_le_add', Nat.sub_sub, List.append_assoc]

theorem feed_lengthStep (b y : Bytes) : feed (lengthStep b) y = lengthStep (b ++ y) := by
  unfold lengthStep
  cases h : splitLine b with
  | none => simp only [feed]; rfl
  | some lr =>
    obtain ⟨line, rest⟩ := lr
    rw [splitLine_append_some y h]
    simp only
    cases parseNat 10 line with
    | none => rfl
    | some n => exact feed_bodyStep n [] rest y

theorem feed_append (s : LP) (a b : Bytes) : feed (feed s a) b = feed s (a ++ b) := by
  cases s with
  | expectingLength buf => rw [feed_eL, feed_lengthStep, feed_eL, List.append_assoc]
  | readingBody l bd => rw [feed_rB, feed_bodyStep, feed_rB]
  | readingTrailer bd t => rw [feed_rT, feed_trailerStep, feed_rT, List.append_assoc]
  | done bd u => rw [feed_done, feed_done, feed_done, List.append_assoc]
  | failed => rfl

theorem feed_nil_done (bd u : Bytes) : feed (.done bd u) [] = .done bd u := by simp [feed]

theorem trailerStep_done (bd rest : Bytes) : trailerStep bd (doneMarker ++ rest) = .done bd rest := by
  unfold trailerStep
  have : doneMarker.isPrefixOf (doneMarker ++ rest) = true :=
    isPrefixOf_iff.2 (List.prefix_append _ _)
  simp only [this, if_true]
  rfl

theorem feed_init_encode (body rest : Bytes) :
    feed init (lpEncode body ++ rest) = .done body rest := by
  have hw : lpEncode body ++ rest
      = natDigits 10 body.length ++ 10 :: (body ++ (doneMarker ++ rest)) := by
    simp [lpEncode]
  rw [hw]
  simp only [init, feed, List.nil_append, lengthStep]
  rw [splitLine_of_notMem _ (natDigits_notMem (by omega) (by omega) _ 10 (by simp))]
  simp only [parseNat_natDigits (base := 10) (by omega) (by omega)]
  unfold bodyStep
  simp only [List.length_append, Nat.le_add_right, if_true, List.nil_append,
    List.take_left', List.drop_left']
  exact trailerStep_done body rest

end LP

theorem feedAll_eq_of_append {S : Type} (feed : S → Bytes → S)
    (happ : ∀ s a b, feed (feed s a) b = feed s (a ++ b))
    (s : S) (x : Bytes) (segs : List Bytes) :
    feedAll feed (feed s x) segs = feed s (x ++ segs.flatten) := by
  induction segs generalizing x with
  | nil => simp [feedAll]
  | cons a rest ih =>
    simp only [feedAll, List.flatten_cons]
    rw [happ, ih, List.append_assoc]

theorem feedAll_eq_feed {S : Type} (feed : S → Bytes → S)
    (happ : ∀ s a b, feed (feed s a) b = feed s (a ++ b))
    (s : S) {segs : List Bytes} (hne : segs ≠ []) :
    feedAll feed s segs = feed s segs.flatten := by
  match segs, hne with
  | a :: r, _ => rw [feedAll, feedAll_eq_of_append feed happ, List.flatten_cons]

end BreezyVerif.C29
