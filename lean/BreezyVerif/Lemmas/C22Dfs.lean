import BreezyVerif.Model.C22
/-!
C22 — lemmas about the depth-first walk `visit` of `mergeSort`:
termination on topologically numbered graphs, the completed set is exactly the
reachable set, each node is completed once, parents are completed before their
children, and at most one child per left-hand parent carries the first-child
flag.  `visit` is unfolded once (`visit_succ`, `walk_exists`); everything else
is proved by induction on the relation `Walks`.
-/
namespace BreezyVerif.C22

abbrev Entry := Nat × Nat × Bool

/-- the present left-hand parent of a node -/
def lpOf (g : Graph) (n : Nat) : Option Nat :=
  match g[n]? with
  | some ps => leftParent g ps
  | none => none

/-- `a` is reachable from `n` through present revisions (ancestor-or-self) -/
inductive Reach (g : Graph) : Nat → Nat → Prop
  | refl {n : Nat} : n < g.length → Reach g n n
  | step {n p a : Nat} : n < g.length → p ∈ parentsD g n → p < g.length → Reach g p a → Reach g n a

def WF (g : Graph) : Prop := ∀ n ps, g[n]? = some ps → ∀ p ∈ ps, p < n ∨ g.length ≤ p

theorem wf_iff (g : Graph) : wf g = true ↔ WF g := by
  unfold wf WF
  rw [List.all_eq_true]
  constructor
  · intro h n ps hn p hp
    have hlt : n < g.length := by
      rcases Nat.lt_or_ge n g.length with h1 | h1
      · exact h1
      · rw [List.getElem?_eq_none h1] at hn; cases hn
    have := h n (List.mem_range.mpr hlt)
    rw [hn] at this
    simp only [List.all_eq_true, Bool.or_eq_true, decide_eq_true_eq] at this
    exact this p hp
  · intro h n hn
    split
    · rename_i ps hps
      simp only [List.all_eq_true, Bool.or_eq_true, decide_eq_true_eq]
      exact fun p hp => h n ps hps p hp
    · rfl

theorem parentsD_of_get {g : Graph} {n : Nat} {ps : List Nat} (h : g[n]? = some ps) :
    parentsD g n = ps := by
  unfold parentsD; rw [h]

theorem Reach.present {g : Graph} {n a : Nat} (h : Reach g n a) : a < g.length := by
  induction h with
  | refl h => exact h
  | step _ _ _ _ ih => exact ih

theorem Reach.src_present {g : Graph} {n a : Nat} (h : Reach g n a) : n < g.length := by
  cases h with
  | refl h => exact h
  | step h _ _ _ => exact h

theorem Reach.le {g : Graph} (hw : WF g) {n a : Nat} (h : Reach g n a) : a ≤ n := by
  induction h with
  | refl _ => exact Nat.le_refl _
  | @step n p a hn hp hpl _ ih =>
    have hg : g[n]? = some g[n] := List.getElem?_eq_getElem hn
    have hpp : p ∈ g[n] := by rw [← parentsD_of_get hg]; exact hp
    rcases hw n _ hg p hpp with h1 | h1
    · omega
    · omega

theorem Reach.trans {g : Graph} {a b c : Nat} (h1 : Reach g a b) (h2 : Reach g b c) : Reach g a c := by
  induction h1 with
  | refl _ => exact h2
  | step hn hp hpl _ ih => exact Reach.step hn hp hpl (ih h2)

/-- parents (present ones) are completed before their children: `l` is most recent first -/
def PF (g : Graph) : List Entry → Prop
  | [] => True
  | e :: older =>
    (e.1 < g.length ∧ ∀ p ∈ parentsD g e.1, p < g.length → p ∈ older.map (·.1)) ∧ PF g older

def doneSet (st : Dfs) : List Nat := st.done.map (·.1)

theorem isDone_iff (st : Dfs) (r : Nat) : st.isDone r = true ↔ r ∈ doneSet st := by
  unfold Dfs.isDone doneSet
  simp only [List.any_eq_true, List.mem_map, beq_iff_eq]

structure Inv (g : Graph) (st : Dfs) : Prop where
  nodup : (doneSet st).Nodup
  pf : PF g st.done
  claimed : ∀ e ∈ st.done, ∀ P, lpOf g e.1 = some P → P ∈ st.seen
  fcu : ∀ e1 ∈ st.done, ∀ e2 ∈ st.done, e1.2.2 = true → e2.2.2 = true →
    ∀ P, lpOf g e1.1 = some P → lpOf g e2.1 = some P → e1.1 = e2.1

theorem PF.closed {g : Graph} : ∀ {l : List Entry}, PF g l → ∀ e ∈ l,
    e.1 < g.length ∧ ∀ p ∈ parentsD g e.1, p < g.length → p ∈ l.map (·.1)
  | [], _, e, he => by cases he
  | x :: older, h, e, he => by
    rcases List.mem_cons.mp he with rfl | he'
    · exact ⟨h.1.1, fun p hp hpl => List.mem_cons_of_mem _ (h.1.2 p hp hpl)⟩
    · have := PF.closed h.2 e he'
      exact ⟨this.1, fun p hp hpl => List.mem_cons_of_mem _ (this.2 p hp hpl)⟩

/-- everything reachable from a completed node is completed -/
theorem closed_reach {g : Graph} {l : List Entry} (h : PF g l) {n a : Nat} (hr : Reach g n a)
    (hn : n ∈ l.map (·.1)) : a ∈ l.map (·.1) := by
  induction hr with
  | refl _ => exact hn
  | step _ hp hpl _ ih =>
    obtain ⟨e, he, rfl⟩ := List.mem_map.mp hn
    exact ih ((PF.closed h e he).2 _ hp hpl)

/-- `st'` extends `st` by the entries `new`, all reachable from `roots`; a first child among them claimed a
left parent that was free in `st` -/
def Ext (g : Graph) (st st' : Dfs) (roots : List Nat) : Prop :=
  ∃ new : List Entry, st'.done = new ++ st.done ∧ (∀ x ∈ st.seen, x ∈ st'.seen) ∧
    ∀ e ∈ new, (∃ r ∈ roots, Reach g r e.1) ∧ (∀ P, lpOf g e.1 = some P → e.2.2 = true → P ∉ st.seen)

theorem Ext.refl (g : Graph) (st : Dfs) (roots : List Nat) : Ext g st st roots :=
  ⟨[], by simp, fun _ h => h, fun e he => by cases he⟩

theorem Ext.trans {g : Graph} {s1 s2 s3 : Dfs} {r1 r2 : List Nat}
    (h1 : Ext g s1 s2 r1) (h2 : Ext g s2 s3 r2) : Ext g s1 s3 (r1 ++ r2) := by
  obtain ⟨n1, hd1, hs1, hp1⟩ := h1
  obtain ⟨n2, hd2, hs2, hp2⟩ := h2
  refine ⟨n2 ++ n1, by rw [hd2, hd1, List.append_assoc], fun x hx => hs2 x (hs1 x hx), ?_⟩
  intro e he
  rcases List.mem_append.mp he with he | he
  · obtain ⟨⟨r, hr, hreach⟩, hfc⟩ := hp2 e he
    exact ⟨⟨r, List.mem_append_right _ hr, hreach⟩, fun P hP hf hin => hfc P hP hf (hs1 P hin)⟩
  · obtain ⟨⟨r, hr, hreach⟩, hfc⟩ := hp1 e he
    exact ⟨⟨r, List.mem_append_left _ hr, hreach⟩, hfc⟩

theorem Ext.mono_done {g : Graph} {s1 s2 : Dfs} {r : List Nat} (h : Ext g s1 s2 r)
    {x : Nat} (hx : x ∈ doneSet s1) : x ∈ doneSet s2 := by
  obtain ⟨n, hd, _, _⟩ := h
  unfold doneSet at *
  rw [hd, List.map_append]
  exact List.mem_append_right _ hx

def stepFn (g : Graph) (fuel dd : Nat) : Option Dfs → Nat → Option Dfs :=
  fun acc p => acc.bind fun s => if s.isDone p then some s else visit g fuel p dd s

/-- one level of `visit`: the left parent (a schedule of at most one node) is claimed and walked at the same
depth, then the merge parents one level deeper, then the node is completed -/
theorem visit_succ (g : Graph) (fuel n d : Nat) (st : Dfs) {ps : List Nat} (hg : g[n]? = some ps) :
    visit g (fuel + 1) n d st =
      ((mergeParents g ps).foldl (stepFn g fuel (d + 1))
        ((leftParent g ps).toList.foldl (stepFn g fuel d)
          (some { st with seen := (leftParent g ps).toList ++ st.seen }))).map
        fun s => { s with done := (n, d, (leftParent g ps).all fun l => !st.seen.contains l) :: s.done } := by
  rw [visit]
  simp only [hg]
  cases leftParent g ps <;> rfl

theorem leftParent_mem {g : Graph} {ps : List Nat} {l : Nat} (h : leftParent g ps = some l) :
    l ∈ ps ∧ l < g.length := by
  unfold leftParent at h
  cases ps with
  | nil => cases h
  | cons p t =>
    simp only at h
    split at h
    · cases h; exact ⟨List.mem_cons_self .., by assumption⟩
    · cases h

/-- every present parent is the left parent or one of the merge parents -/
theorem present_parent_cases {g : Graph} {ps : List Nat} {p : Nat} (hp : p ∈ ps) (hpl : p < g.length) :
    leftParent g ps = some p ∨ p ∈ mergeParents g ps := by
  cases ps with
  | nil => cases hp
  | cons h t =>
    rcases List.mem_cons.mp hp with rfl | hp
    · left; simp [leftParent, hpl]
    · right
      simp [mergeParents, hp, hpl]

theorem mergeParents_mem {g : Graph} {ps : List Nat} {p : Nat} (h : p ∈ mergeParents g ps) :
    p ∈ ps ∧ p < g.length := by
  unfold mergeParents at h
  simp only [List.mem_filter, List.mem_reverse, decide_eq_true_eq] at h
  exact ⟨List.mem_of_mem_drop h.1, h.2⟩

/-- the walk without its fuel: `Walks g d qs st st'` — scheduling the nodes `qs` at depth `d` from the state `st`
ends in `st'`.  A completed node is skipped; any other claims its left parent, schedules it at the same depth
and its merge parents one level deeper, and is completed (one call of `visit`; the schedules are the two folds
of `visit_succ`). -/
inductive Walks (g : Graph) : Nat → List Nat → Dfs → Dfs → Prop
  | nil {d : Nat} {st : Dfs} : Walks g d [] st st
  | skip {d q : Nat} {qs : List Nat} {st st' : Dfs} : q ∈ doneSet st → Walks g d qs st st' →
      Walks g d (q :: qs) st st'
  | node {d q : Nat} {qs ps : List Nat} {st s1 s2 st' : Dfs} : q ∉ doneSet st → g[q]? = some ps →
      Walks g d (leftParent g ps).toList { st with seen := (leftParent g ps).toList ++ st.seen } s1 →
      Walks g (d + 1) (mergeParents g ps) s1 s2 →
      Walks g d qs { s2 with done := (q, d, (leftParent g ps).all fun l => !st.seen.contains l) :: s2.done } st' →
      Walks g d (q :: qs) st st'

/-- on a topologically numbered graph, with fuel above the nodes scheduled, the walk ends, and it is a `Walks` -/
theorem walk_exists {g : Graph} (hw : WF g) : ∀ (fuel d : Nat) (qs : List Nat) (st : Dfs),
    (∀ q ∈ qs, q < fuel ∧ q < g.length) →
    ∃ st', qs.foldl (stepFn g fuel d) (some st) = some st' ∧ Walks g d qs st st' := by
  intro fuel
  induction fuel with
  | zero =>
    intro d qs st h
    cases qs with
    | nil => exact ⟨st, rfl, .nil⟩
    | cons q qs => exact absurd (h q (List.mem_cons_self ..)).1 (Nat.not_lt_zero _)
  | succ fuel ihf =>
    intro d qs
    induction qs with
    | nil => intro st _; exact ⟨st, rfl, .nil⟩
    | cons q qs ih =>
      intro st h
      have hrest : ∀ p ∈ qs, p < fuel + 1 ∧ p < g.length := fun p hp => h p (List.mem_cons_of_mem _ hp)
      rw [List.foldl_cons]
      by_cases hd : st.isDone q = true
      · rw [show stepFn g (fuel + 1) d (some st) q = some st by simp [stepFn, hd]]
        obtain ⟨st', h', w⟩ := ih st hrest
        exact ⟨st', h', .skip ((isDone_iff st q).mp hd) w⟩
      · obtain ⟨hqf, hql⟩ := h q (List.mem_cons_self ..)
        have hg : g[q]? = some g[q] := List.getElem?_eq_getElem hql
        -- present parents are smaller, so the fuel left is above them
        have hlt : ∀ p ∈ g[q], p < g.length → p < fuel ∧ p < g.length := fun p hp hpl =>
          ⟨by rcases hw q _ hg p hp with h | h <;> omega, hpl⟩
        rw [show stepFn g (fuel + 1) d (some st) q = visit g (fuel + 1) q d st by simp [stepFn, hd],
          visit_succ g fuel q d st hg]
        obtain ⟨s1, h1, w1⟩ := ihf d (leftParent g g[q]).toList
          { st with seen := (leftParent g g[q]).toList ++ st.seen }
          (fun p hp => by have := leftParent_mem (Option.mem_toList.mp hp); exact hlt p this.1 this.2)
        obtain ⟨s2, h2, w2⟩ := ihf (d + 1) (mergeParents g g[q]) s1
          (fun p hp => by have := mergeParents_mem hp; exact hlt p this.1 this.2)
        rw [h1, h2]
        obtain ⟨st', h', w3⟩ := ih _ hrest
        exact ⟨st', h', .node (fun hm => hd ((isDone_iff st q).mpr hm)) hg w1 w2 w3⟩

/-- the walk from the tip -/
theorem visit_walks {g : Graph} (hw : WF g) {tip : Nat} (ht : tip < g.length) :
    ∃ st, visit g (tip + 1) tip 0 ⟨[], []⟩ = some st ∧ Walks g 0 [tip] ⟨[], []⟩ st :=
  walk_exists hw (tip + 1) 0 [tip] ⟨[], []⟩
    fun q hq => by rw [List.mem_singleton.mp hq]; exact ⟨Nat.lt_succ_self _, ht⟩

/-- the invariant along a walk: the nodes scheduled end up completed, and what is added is reachable from them -/
theorem Walks.inv {g : Graph} (hw : WF g) {d : Nat} {qs : List Nat} {st st' : Dfs} (h : Walks g d qs st st') :
    (∀ q ∈ qs, q < g.length) → Inv g st → Inv g st' ∧ Ext g st st' qs ∧ ∀ q ∈ qs, q ∈ doneSet st' := by
  induction h with
  | nil => exact fun _ hinv => ⟨hinv, Ext.refl .., fun _ h => nomatch h⟩
  | @skip d q qs st st' hq _ ih =>
    intro hl hinv
    obtain ⟨hi, he, hm⟩ := ih (fun p hp => hl p (List.mem_cons_of_mem _ hp)) hinv
    refine ⟨hi, (Ext.refl g st [q]).trans he, fun p hp => ?_⟩
    rcases List.mem_cons.mp hp with rfl | hp
    · exact he.mono_done hq
    · exact hm p hp
  | @node d q qs ps st s1 s2 st' hnd hg _ _ _ ih1 ih2 ih3 =>
    intro hl hinv
    have hql := hl q (List.mem_cons_self ..)
    have hpd := parentsD_of_get hg
    have hlp : lpOf g q = leftParent g ps := by unfold lpOf; rw [hg]
    have hlpm : ∀ l ∈ (leftParent g ps).toList, l ∈ ps ∧ l < g.length :=
      fun l hl => leftParent_mem (Option.mem_toList.mp hl)
    obtain ⟨hi1, he1, hm1⟩ := ih1 (fun l hl => (hlpm l hl).2)
      ⟨hinv.nodup, hinv.pf, fun e he P hP => List.mem_append_right _ (hinv.claimed e he P hP), hinv.fcu⟩
    obtain ⟨hi2, he2, hm2⟩ := ih2 (fun p hp => (mergeParents_mem hp).2) hi1
    -- what the parents added: reachable from `q`, hence smaller, hence not `q`
    obtain ⟨new, hnew, hs2, hp⟩ := he1.trans he2
    have hnew' : s2.done = new ++ st.done := hnew
    have hreach : ∀ e ∈ new, ∃ r ∈ ps, r < g.length ∧ Reach g r e.1 := fun e he => by
      obtain ⟨⟨r, hr, hreach⟩, _⟩ := hp e he
      have := (List.mem_append.mp hr).elim (hlpm r) mergeParents_mem
      exact ⟨r, this.1, this.2, hreach⟩
    have hq_notin : q ∉ doneSet s2 := by
      unfold doneSet
      rw [hnew', List.map_append]
      intro hmem
      rcases List.mem_append.mp hmem with hmem | hmem
      · obtain ⟨e, he, hen⟩ := List.mem_map.mp hmem
        obtain ⟨r, hr, _, hre⟩ := hreach e he
        have h2 := Reach.le hw hre
        rcases hw q _ hg r hr with h | h <;> omega
      · exact hnd hmem
    have hclaim : ∀ P, lpOf g q = some P → P ∈ s2.seen := fun P hP =>
      hs2 P (List.mem_append_left _ (Option.mem_toList.mpr (hlp ▸ hP)))
    have hfree : ((leftParent g ps).all fun l => !st.seen.contains l) = true →
        ∀ P, lpOf g q = some P → P ∉ st.seen := fun hfc P hP hin => by
      rw [hlp] at hP; rw [hP] at hfc
      simp at hfc; exact hfc hin
    have hc : Inv g { s2 with done := (q, d, (leftParent g ps).all fun l => !st.seen.contains l) :: s2.done } := by
      refine ⟨List.nodup_cons.mpr ⟨hq_notin, hi2.nodup⟩, ⟨⟨hql, fun p hp' hpl => ?_⟩, hi2.pf⟩, ?_, ?_⟩
      · rcases present_parent_cases (hpd ▸ hp') hpl with h | h
        · exact he2.mono_done (hm1 p (Option.mem_toList.mpr h))
        · exact hm2 p h
      · intro e he P hP
        rcases List.mem_cons.mp he with rfl | he
        · exact hclaim P hP
        · exact hi2.claimed e he P hP
      · -- first-child uniqueness: a first child among the completed nodes claimed `P` before or after `q` did
        intro e1 he1 e2 he2 hf1 hf2 P hP1 hP2
        have key : ∀ e ∈ s2.done, e.2.2 = true → lpOf g e.1 = some P →
            ((leftParent g ps).all fun l => !st.seen.contains l) = true → lpOf g q = some P → False := by
          intro e he hf hP hfcn hPn
          rw [hnew'] at he
          rcases List.mem_append.mp he with he | he
          · exact (hp e he).2 P hP hf (List.mem_append_left _ (Option.mem_toList.mpr (hlp ▸ hPn)))
          · exact hfree hfcn P hPn (hinv.claimed e he P hP)
        rcases List.mem_cons.mp he1 with rfl | he1 <;> rcases List.mem_cons.mp he2 with rfl | he2
        · rfl
        · exact (key e2 he2 hf2 hP2 hf1 hP1).elim
        · exact (key e1 he1 hf1 hP1 hf2 hP2).elim
        · exact hi2.fcu e1 he1 e2 he2 hf1 hf2 P hP1 hP2
    have hec : Ext g st
        { s2 with done := (q, d, (leftParent g ps).all fun l => !st.seen.contains l) :: s2.done } [q] := by
      refine ⟨(q, d, (leftParent g ps).all fun l => !st.seen.contains l) :: new, by simp [hnew'],
        fun x hx => hs2 x (List.mem_append_right _ hx), fun e he => ?_⟩
      rcases List.mem_cons.mp he with rfl | he
      · exact ⟨⟨q, List.mem_cons_self .., Reach.refl hql⟩, fun P hP hf => hfree hf P hP⟩
      · obtain ⟨r, hr, hrl, hre⟩ := hreach e he
        exact ⟨⟨q, List.mem_cons_self .., Reach.step hql (hpd ▸ hr) hrl hre⟩,
          fun P hP hf hin => (hp e he).2 P hP hf (List.mem_append_right _ hin)⟩
    obtain ⟨hi3, he3, hm3⟩ := ih3 (fun p hp => hl p (List.mem_cons_of_mem _ hp)) hc
    refine ⟨hi3, hec.trans he3, fun p hp => ?_⟩
    rcases List.mem_cons.mp hp with rfl | hp
    · exact he3.mono_done (List.mem_cons_self ..)
    · exact hm3 p hp

/-- a walk only adds to the completed nodes -/
theorem Walks.done_suffix {g : Graph} {d : Nat} {qs : List Nat} {st st' : Dfs} (h : Walks g d qs st st') :
    ∃ new, st'.done = new ++ st.done := by
  induction h with
  | nil => exact ⟨[], rfl⟩
  | skip _ _ ih => exact ih
  | @node d q _ ps st _ _ _ _ _ _ _ _ ih1 ih2 ih3 =>
    obtain ⟨n1, h1⟩ := ih1
    obtain ⟨n2, h2⟩ := ih2
    obtain ⟨n3, h3⟩ := ih3
    exact ⟨n3 ++ (q, d, (leftParent g ps).all fun l => !st.seen.contains l) :: (n2 ++ n1), by
      rw [h3, h2, h1]; simp⟩

end BreezyVerif.C22
