import BreezyVerif.Props.C45
import BreezyVerif.Generated.C45
/-!
C45 — T1 tie: `Generated/C45.lean` is rewritten from breezy/filters/eol.py on
every run (`_eol_filter_stack_map` sorted by key, `_native_output`, and the
byte constants of the two converters).  The generated table has exactly the
entries of the model table, so the theorems hold for the table the code has now.
-/
namespace BreezyVerif.C45

/-- the regenerated table is the model table up to the order of the entries -/
theorem eol_map_gen_perm (win : Bool) : (eolMapGen win).Perm (eolMap win) := by
  cases win <;> decide +kernel

/-- the regenerated table has exactly the entries of the model table -/
theorem eol_map_gen_eq (win : Bool) (e : String × List Filter) :
    e ∈ eolMapGen win ↔ e ∈ eolMap win :=
  (eol_map_gen_perm win).mem_iff

/-- no key occurs twice (a Python dict literal keeps the last one) -/
theorem eol_map_gen_keys_nodup (win : Bool) : ((eolMapGen win).map (·.1)).Nodup := by
  cases win <;> decide +kernel

/-- the constants in the converters are the ones the model uses:
`content.replace(b"\r\n", b"\n")`, `re.compile(rb"(?<!\r)\n").sub(b"\r\n", …)`,
`b"\x00" in content` -/
theorem converter_consts_gen_eq :
    lfReplaceFromGen = [CR, LF] ∧ lfReplaceToGen = [LF] ∧
    crlfPatternGen = ("(?<!\\r)\\n".toList.map fun ch => UInt8.ofNat ch.toNat) ∧ crlfReplGen = [CR, LF] ∧
    nulMarkersGen = [[NUL], [NUL]] := by decide +kernel

/-- the characterisation of the round trip, for the regenerated table -/
theorem roundtrip_iff_generated (win : Bool) (name : String) (stack : List Filter)
    (h : (name, stack) ∈ eolMapGen win) (c : Bytes) (hn : hasNul c = false)
    (hc : readIn stack c = c) :
    readIn stack (writeOut stack c) = c ↔ (lossy stack = true → noCrCrLf false c = true) :=
  roundtrip_iff win name stack ((eol_map_gen_eq win _).1 h) c hn hc

theorem binary_untouched_generated (win : Bool) (name : String) (stack : List Filter)
    (h : (name, stack) ∈ eolMapGen win) (chunks : List Bytes) (hn : hasNul chunks.flatten = true) :
    (outputBytes chunks stack).flatten = chunks.flatten ∧
    inputFile chunks.flatten stack = chunks.flatten :=
  binary_untouched win name stack ((eol_map_gen_eq win _).1 h) chunks hn

/-- "a fresh checkout reports no changes" (abstract hash) and the canonical
`st_size` of `stat_and_sha1`, for the regenerated table -/
theorem checkout_clean_generated {H : Type} [DecidableEq H] (sha : Bytes → H)
    (win : Bool) (name : String) (stack : List Filter) (h : (name, stack) ∈ eolMapGen win)
    (c : Bytes) (hn : hasNul c = false) (hc : readIn stack c = c)
    (hx : lossy stack = true → noCrCrLf false c = true) :
    reportsChange sha stack (sha c) (writeOut stack c) = false ∧
    statSize stack (writeOut stack c) = c.length :=
  checkout_clean sha win name stack ((eol_map_gen_eq win _).1 h) c hn hc hx

/-- `FilteredStat`'s size fallback is harmless for the regenerated table -/
theorem filtered_size_zero_iff_generated (win : Bool) (name : String) (stack : List Filter)
    (h : (name, stack) ∈ eolMapGen win) (d : Bytes) :
    (readIn stack d = [] ↔ d = []) ∧ statSize stack d = (readIn stack d).length :=
  ⟨filtered_size_zero_iff win name stack ((eol_map_gen_eq win _).1 h) d,
   (stat_size_canonical win name stack ((eol_map_gen_eq win _).1 h) d).1⟩

/-- "a fresh checkout reports no changes" through every comparison route, for
the regenerated table -/
theorem checkout_clean_every_route_generated {H : Type} [DecidableEq H] (sha : Bytes → H)
    (win : Bool) (name : String) (stack : List Filter) (h : (name, stack) ∈ eolMapGen win)
    (c : Bytes) (hn : hasNul c = false) (hc : readIn stack c = c)
    (hx : lossy stack = true → noCrCrLf false c = true) :
    reportsChange sha stack (sha c) (writeOut stack c) = false ∧
    contentMatches sha .off stack c.length (sha c) (writeOut stack c) = true ∧
    contentMatches sha .filtered stack c.length (sha c) (writeOut stack c) = true :=
  checkout_clean_every_route sha win name stack ((eol_map_gen_eq win _).1 h) c hn hc hx

end BreezyVerif.C45
