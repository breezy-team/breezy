import BreezyVerif.Lemmas.C11
import BreezyVerif.Lemmas.C11Idem
import BreezyVerif.Lemmas.C11Closed
import BreezyVerif.Lemmas.C11Git
/-!
C11 — adding files versions exactly the intended paths.

Theorems about `smartAdd` (`Model/C11.lean`: `_SmartAddHelper.add` for bzr,
`GitWorkingTree.smart_add` for git) for every layout (no bound on size or
depth), every list of named paths (any number, nested or not — the `prev_dir`
rule of `_gather_dirs_to_add` is part of the model), every `skip_file`
predicate, recurse on and off, both formats.  `f` is the layout before, `f'`
the layout after a successful call.  No hypothesis on the layout is needed:
lookups take the first entry with a given name, and the pass keeps names in
place.
-/
namespace BreezyVerif.C11
open BreezyVerif.C46 Forest

variable {c : Cfg} {f f' : Forest} {q : Path} {i : Info} {k : Forest}

theorem smartAdd_ok (h : smartAdd c f = .ok f') :
    checkNames c.fmt c.gitRefusesCtl f c.names = none ∧ f' = pass c (preOf c f) [] (rootMode c) f := by
  unfold smartAdd at h
  split at h
  · cases h
  · rename_i hn
    cases h
    exact ⟨hn, rfl⟩

/-- the call fails iff validation of the named paths fails, with that error -/
theorem smartAdd_error (e : Err) : smartAdd c f = .error e ↔ checkNames c.fmt c.gitRefusesCtl f c.names = some e := by
  unfold smartAdd
  split
  · rename_i e' he
    rw [he]
    constructor
    · intro h; cases h; rfl
    · intro h; cases h; rfl
  · rename_i he
    rw [he]
    constructor <;> intro h <;> cases h

/-- nothing but `versioned` flags changes: same entries, names, kinds, other
flags, and no path appears -/
theorem pass_shape (h : smartAdd c f = .ok f') :
    clearV f' = clearV f ∧ ∀ p, f.get p = none → f'.get p = none := by
  obtain ⟨_, rfl⟩ := smartAdd_ok h
  exact ⟨pass_clearV _ _ _ _ _, fun _ hp => pass_get_none hp⟩

/-- level-by-level characterisation: after the call the entry at `q` is the same entry
with `versioned` = `step` evaluated at the mode `modeOf` hands down along `q`
(see `add_recursive_exact` for the closed form without `modeOf`) -/
theorem add_exact (h : smartAdd c f = .ok f') (hg : f.get q = some (i, k)) :
    ∃ m' k', modeOf c (preOf c f) [] (rootMode c) f q = some m' ∧
      f'.get q = some ({ i with versioned := (step c (preOf c f) q m' i k).1 }, k') := by
  obtain ⟨_, rfl⟩ := smartAdd_ok h
  obtain ⟨m', h1, h2⟩ := pass_get (c := c) (pre := preOf c f) (here := []) (m := rootMode c) hg
  exact ⟨m', _, h1, by simpa using h2⟩

/-- already-versioned paths are left unchanged -/
theorem versioned_untouched (h : smartAdd c f = .ok f') (hg : f.get q = some (i, k))
    (hv : i.versioned = true) : ∃ k', f'.get q = some (i, k') := by
  obtain ⟨m', k', _, h2⟩ := add_exact h hg
  refine ⟨k', ?_⟩
  rw [h2, step_of_v1 (by simp [hv])]
  cases i; simp_all

theorem onPath_bzr_of_prefix (hf : c.fmt = .bzr) {n : Path} (hn : n ∈ c.names) (hq : q <+: n) :
    onPath c q i = true := by
  simp only [onPath, hf, List.any_eq_true]
  exact ⟨n, hn, List.isPrefixOf_iff_prefix.mpr hq⟩

/-- bzr: every named path and each of its parents is versioned afterwards,
whatever the ignore rules, the action's `skip_file`, helper flags or nested trees say -/
theorem add_named (h : smartAdd c f = .ok f') (hf : c.fmt = .bzr) {n : Path} (hn : n ∈ c.names)
    (hq : q <+: n) (hg : f.get q = some (i, k)) :
    ∃ k', f'.get q = some ({ i with versioned := true }, k') := by
  obtain ⟨m', k', _, h2⟩ := add_exact h hg
  refine ⟨k', ?_⟩
  rw [h2, step_of_v1 (by simp [onPath_bzr_of_prefix hf hn hq])]

/-- git: every named file or link is in the index afterwards (directories are not index
entries: see `git_dir_flag_unchanged`) -/
theorem add_named_git (h : smartAdd c f = .ok f') (hf : c.fmt = .git) (hn : q ∈ c.names)
    (hk : i.kind ≠ .dir) (hg : f.get q = some (i, k)) :
    ∃ k', f'.get q = some ({ i with versioned := true }, k') := by
  obtain ⟨m', k', _, h2⟩ := add_exact h hg
  refine ⟨k', ?_⟩
  have : onPath c q i = true := by
    simp only [onPath, hf, Bool.and_eq_true, List.contains_eq_mem, decide_eq_true_eq, bne_iff_ne, ne_eq]
    exact ⟨hn, hk⟩
  rw [h2, step_of_v1 (by simp [this])]

/-- bzr: only named directories are scheduled, and those are on a named path -/
theorem sched_onPath (hf : c.fmt = .bzr) (hs : sched c (preOf c f).ud q i = true) : onPath c q i = true := by
  simp only [sched, hf, Bool.and_eq_true] at hs
  exact onPath_bzr_of_prefix hf (by simpa using gathered_sub c f hs.2) (List.prefix_refl _)

/-- one level of the recursive walk, spelled out: a child `p` of a directory
being scanned ends up versioned iff it was, or was named (bzr: or is a parent of
a named path), or is eligible: (bzr) not in the control directory, not ignored,
not skipped by the action, not a conflict helper and not a nested tree; (git) a
file or link not in the control directory, not ignored and not a conflict
helper.  Outside the scanned listings (`m = idle`) nothing but the named paths changes. -/
theorem step_flag_exact (p : Path) (m : Mode) :
    (step c (preOf c f) p m i k).1 = (i.versioned || onPath c p i || ((m == .walk) && eligible c p i k)) :=
  step_fst_closed p m i k (fun hf hs => sched_onPath hf hs)

/-- … and its own content is scanned iff it is visited — listed by its parent's
scan (not in the control directory; not ignored, bzr: unless versioned / on a
named path) or a scheduled named directory that is not a tree reference — and
opens: a real directory, not a nested tree, (bzr) not skipped, not a helper -/
theorem step_mode_exact (pre : Pre) (p : Path) (m : Mode) :
    (step c pre p m i k).2 = .walk ↔
      (m = .walk ∧ (listed c p i (i.versioned || onPath c p i) && opens c p i k) = true) ∨
        (sched c pre.ud p i && !namedTreeRef c pre p i k && opens c p i k) = true :=
  step_snd_walk p m i k

/-- `reached` is the closed form of the recursion: the mode handed down to the
listing that contains `q` is `walk` iff some proper prefix of `q` (possibly the
root) is a scheduled named directory whose content is scanned, and the scan
passes through every entry strictly between it and `q` -/
theorem walk_reaches_iff (pre : Pre) {x : Info × Forest} (hg : f.get q = some x) :
    modeOf c pre [] (rootMode c) f q = some .walk ↔
      ∃ n, n < q.length ∧ startsAt c pre f (q.take n) = true ∧
        ∀ j, n < j → j < q.length → passesAt c f (q.take j) = true := by
  rw [modeOf_walk_iff_reached hg, reached_iff]

/-- **exact, global, closed form** (`add_recursive_exact`): after a successful
call every entry is the same entry with
`versioned' = versioned ∨ named / parent of a named path ∨ (reached ∧ eligible)`,
where `reached` / `eligible` look only at the entries along the path of `q`:
there is a named directory (or the named root) above `q` that is scanned (not a
nested tree, bzr: not a conflict helper, not skipped, not a tree reference, and
not dropped by `_gather_dirs_to_add`), every entry strictly between it and `q`
is not in the control directory, not ignored (bzr: unless versioned / on a named
path), a real directory, not a nested tree, (bzr) not a helper and not skipped;
and `q` itself is not in the control directory, not ignored, not a helper, (bzr)
not skipped and not a nested tree / (git) not a directory.  Nothing else changes. -/
theorem add_recursive_exact (h : smartAdd c f = .ok f') (hg : f.get q = some (i, k)) :
    ∃ k', f'.get q = some
      ({ i with versioned := (i.versioned || onPath c q i || (reached c (preOf c f) f q && eligible c q i k)) }, k') := by
  obtain ⟨m', k', hm, h2⟩ := add_exact h hg
  refine ⟨k', ?_⟩
  rw [h2, step_flag_exact]
  have : (m' == Mode.walk) = reached c (preOf c f) f q :=
    Bool.eq_iff_iff.mpr (by rw [← modeOf_walk_iff_reached hg, hm, beq_iff_eq, Option.some.injEq])
  rw [this]

/-- nothing else becomes versioned: a path that is newly versioned was named
(bzr: or is a parent of a named path), or is reached by the walk and eligible -/
theorem add_nothing_else (h : smartAdd c f = .ok f') (hg : f.get q = some (i, k))
    (hv : i.versioned = false) {i' : Info} {k' : Forest} (hg' : f'.get q = some (i', k'))
    (hv' : i'.versioned = true) :
    onPath c q i = true ∨ (reached c (preOf c f) f q = true ∧ eligible c q i k = true) := by
  obtain ⟨k'', h2⟩ := add_recursive_exact h hg
  rw [h2] at hg'
  simp only [Option.some.injEq, Prod.mk.injEq] at hg'
  rw [← hg'.1] at hv'
  simp only [hv, Bool.false_or, Bool.or_eq_true, Bool.and_eq_true] at hv'
  exact hv'

/-- git: directories are not index entries — the flag of a directory entry (in
the model: "some index entry lies below it", as read before the call) is never
touched, named or not; only files and links get flags -/
theorem git_dir_flag_unchanged (h : smartAdd c f = .ok f') (hf : c.fmt = .git) (hg : f.get q = some (i, k))
    (hk : i.kind = .dir) : ∃ k', f'.get q = some (i, k') := by
  obtain ⟨k', h2⟩ := add_recursive_exact h hg
  refine ⟨k', ?_⟩
  rw [h2]
  have h1 : onPath c q i = false := by simp [onPath, hf, hk]
  have h3 : eligible c q i k = false := by simp [eligible, hf, hk]
  simp [h1, h3]

/-- git: … and the flags of directory entries are never *read* either: the
call on the layout with all directory flags erased is the call on the layout
itself with the directory flags erased afterwards (same error, same file and
link flags).  So it does not matter that the model does not refresh them. -/
theorem git_dir_flags_irrelevant (hf : c.fmt = .git) :
    smartAdd c (eraseDirV f) = (smartAdd c f).map eraseDirV := by
  unfold smartAdd
  rw [checkNames_congr (eraseDirV_get_kind f)]
  cases checkNames c.fmt c.gitRefusesCtl f c.names with
  | some e => rfl
  | none =>
    simp only [Except.map]
    rw [pass_git_pre hf (pre := preOf c f) (userDirs_congr (eraseDirV_get_kind f)), pass_git_erase hf]

/-- **idempotence**: repeating a successful call changes nothing (same named
paths, same options, on the layout the first call produced) -/
theorem smartAdd_idempotent (h : smartAdd c f = .ok f') : smartAdd c f' = .ok f' := by
  obtain ⟨hn, rfl⟩ := smartAdd_ok h
  unfold smartAdd
  rw [checkNames_congr pass_get_kind, hn]
  simp only
  rw [pass_idem c (preOf c f) _ f [] (rootMode c) (rootMode c) id (userDirs_pass c _ _ _ f) (preOf_pass_conv c f)]

/-! ### witnesses -/

private def fl (n : String) (v : Bool := false) : Info :=
  { name := n, kind := .file, versioned := v, ignored := false, valid := false }
private def dr (n : String) (v : Bool := false) (valid : Bool := false) : Info :=
  { name := n, kind := .dir, versioned := v, ignored := false, valid := valid }
private def added (c : Cfg) (f : Forest) : Option (List Path) :=
  match smartAdd c f with
  | .ok f' => some ((versionedPaths f').filter fun p => !(versionedPaths f).contains p)
  | .error _ => none

/-- git trees: an explicitly named file of the control directory is put into
the index (bzr trees refuse: `ForbiddenControlFileError`) -/
theorem git_named_control_file_witness :
    let f := cons (dr ".git" false true) (cons (fl "HEAD") nil nil) (cons (fl "a") nil nil)
    added { fmt := .git, names := [[".git", "HEAD"]], recurse := true } f = some [[".git", "HEAD"]] ∧
    added { fmt := .bzr, names := [[".bzr", "README"]], recurse := true }
      (cons (dr ".bzr" false true) (cons (fl "README") nil nil) nil) = none := by
  decide +kernel

/-- bzr: `add . w/e` where `w` is a versioned directory that is also a nested
tree: `w/e` is dropped from the scan list (it lies inside the named root), the
scan of the root stops at `w`, so `w/e/y` stays unversioned — although
`add w/e` alone versions it -/
theorem bzr_named_dir_below_blocked_witness :
    let f := cons (dr ".bzr" false true) nil <|
      cons (dr "w" true) (cons (dr ".git" false true) nil (cons (dr "e") (cons (fl "y") nil nil) nil)) nil
    added { fmt := .bzr, names := [["w", "e"], []], recurse := true } f = some [["w", "e"]] ∧
    added { fmt := .bzr, names := [["w", "e"]], recurse := true } f = some [["w", "e"], ["w", "e", "y"]] := by
  decide +kernel

/-- bzr, three named directories: `_gather_dirs_to_add` compares each named
directory with the one *just before it in sorted order* only.  `add a a/n/d a/n/e`
with a nested tree `a/n`: `a/n/d` is dropped (its predecessor `a` is an ancestor)
and never scanned — the walk of `a` stops at `a/n` —, `a/n/e` is scheduled (its
predecessor `a/n/d` is not an ancestor) and scanned.  `add a a-x a/b`: all three
are scheduled (`a-x` sorts between `a` and `a/b`). -/
theorem bzr_prev_dir_witness :
    let f := cons (dr ".bzr" false true) nil <|
      cons (dr "a") (cons (dr "n") (cons (dr ".git" false true) nil <|
          cons (dr "d") (cons (fl "x") nil nil) <| cons (dr "e") (cons (fl "y") nil nil) nil)
        (cons (fl "z") nil nil)) nil
    added { fmt := .bzr, names := [["a"], ["a", "n", "d"], ["a", "n", "e"]], recurse := true } f
      = some [["a"], ["a", "n"], ["a", "n", "d"], ["a", "n", "e"], ["a", "n", "e", "y"], ["a", "z"]] ∧
    added { fmt := .bzr, names := [["a"], ["a", "n", "d"]], recurse := true } f
      = some [["a"], ["a", "n"], ["a", "n", "d"], ["a", "z"]] ∧
    gathered [["a"], ["a-x"], ["a", "b"]] ["a", "b"] = true ∧
    gathered [["a"], ["a", "b"]] ["a", "b"] = false ∧
    gathered [["a"], ["a", "b"], ["a", "c"]] ["a", "c"] = true := by
  decide +kernel

/-- bzr, order of the names: `t` is versioned and holds a `.bzr` directory that is no control
directory, so the inventory reports it as a tree reference and `add t` does nothing.  Naming an
unversioned path below it *first* converts the entry to a directory (`_convert_to_directory`),
and then the named `t` is scanned; naming it after `t` does not. -/
theorem bzr_tree_reference_order_witness :
    let f := cons (dr ".bzr" false true) nil <|
      cons (dr "t" true) (cons (dr ".bzr") nil <| cons (fl "x") nil <| cons (dr "s") (cons (fl "y") nil nil) nil) nil
    added { fmt := .bzr, names := [["t"]], recurse := true } f = some [] ∧
    added { fmt := .bzr, names := [["t", "s"], ["t"]], recurse := true } f
      = some [["t", ".bzr"], ["t", "x"], ["t", "s"], ["t", "s", "y"]] ∧
    added { fmt := .bzr, names := [["t"], ["t", "s"]], recurse := true } f = some [["t", "s"]] := by
  decide +kernel

/-! ### non-vacuity -/

private def sample : Forest :=
  cons (dr ".bzr" false true) nil <|
  cons (dr "src") (cons (fl "main.c") nil <| cons { fl "main.o" with ignored := true } nil <|
    cons { fl "x.THIS" with helper := true } nil <|
    cons (dr "nest") (cons (dr ".bzr" false true) nil (cons (fl "inner") nil nil)) <|
    cons { dr "build" with ignored := true } (cons (fl "out") nil nil) <|
    cons (dr "lib") (cons (fl "big.bin") nil (cons (fl "small") nil nil)) nil) <|
  cons (fl "README" true) nil nil

/-- every branch of the walk on one layout: ignored file and directory, helper,
nested tree are skipped; the named ignored file is versioned; the action's
`skip_file` keeps a file out (and a skipped directory is not entered) -/
example :
    added { fmt := .bzr, names := [["src"]], recurse := true } sample
      = some [["src"], ["src", "main.c"], ["src", "lib"], ["src", "lib", "big.bin"], ["src", "lib", "small"]] ∧
    added { fmt := .bzr, names := [["src"]], recurse := true, skip := [["src", "lib", "big.bin"]] } sample
      = some [["src"], ["src", "main.c"], ["src", "lib"], ["src", "lib", "small"]] ∧
    added { fmt := .bzr, names := [["src"]], recurse := true, skip := [["src", "lib"]] } sample
      = some [["src"], ["src", "main.c"]] ∧
    added { fmt := .bzr, names := [["src", "lib", "big.bin"]], recurse := true, skip := [["src", "lib", "big.bin"]] } sample
      = some [["src"], ["src", "lib"], ["src", "lib", "big.bin"]] ∧
    added { fmt := .git, names := [["src"]], recurse := true, skip := [["src", "lib", "big.bin"]] } sample
      = some [["src", "main.c"], ["src", "lib", "big.bin"], ["src", "lib", "small"]] ∧
    added { fmt := .bzr, names := [["src", "main.o"]], recurse := true } sample
      = some [["src"], ["src", "main.o"]] ∧
    added { fmt := .bzr, names := [["src"]], recurse := false } sample = some [["src"]] ∧
    added { fmt := .bzr, names := [["nope"]], recurse := true } sample = none := by
  decide +kernel

/-- the closed form on the sample: `src/lib/small` is reached from the named `src` through `lib`;
`src/nest/inner` is not (nested tree), `src/build/out` is not (ignored directory) -/
example :
    let c : Cfg := { fmt := .bzr, names := [["src"]], recurse := true }
    reached c (preOf c sample) sample ["src", "lib", "small"] = true ∧
    reached c (preOf c sample) sample ["src", "nest", "inner"] = false ∧
    reached c (preOf c sample) sample ["src", "build", "out"] = false ∧
    reached c (preOf c sample) sample ["README"] = false := by
  decide +kernel

/-- git: erasing directory flags is not the identity, and the call commutes with it -/
example :
    let f := cons (dr ".git" false true) nil <| cons (dr "d" true) (cons (fl "k" true) nil (cons (fl "new") nil nil)) nil
    eraseDirV f ≠ f ∧
      added { fmt := .git, names := [["d"]], recurse := true } (eraseDirV f) = some [["d", "new"]] ∧
      added { fmt := .git, names := [["d"]], recurse := true } f = some [["d", "new"]] := by
  decide +kernel

/-- idempotence is not vacuous: a successful call that versions something -/
example : (smartAdd { fmt := .bzr, names := [["src"]], recurse := true } sample).toOption.map (· != sample)
    = some true := by
  decide +kernel

end BreezyVerif.C11
