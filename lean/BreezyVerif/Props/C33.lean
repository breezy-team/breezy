import BreezyVerif.Lemmas.C33Limited
import BreezyVerif.Lemmas.C33Wire
/-!
C33 — theorems.  All parent maps, client caches, missing sets, tips and depth
limits (unbounded — stronger than the property's "up to a bounded size").

Reading guide: `g` is the repository graph as `Repository.get_graph()` shows it
(`null` present without parents), `pm` the client's cached parent map, `Reach`
the declarative walk (Lemmas/C33.lean), `bfs` the executable searcher.
-/
namespace BreezyVerif.C33

/-- The searcher always terminates within its fuel (number of keys it can meet + 1). -/
theorem bfs_total (g : PMap) (start stop : List Key) : (bfs g start stop).isSome = true := by
  obtain ⟨s, hs, _⟩ := bfs_inv g start stop
  simp [hs]

/-- `bfs_spec`: the level-wise searcher with stop set computes exactly the
declarative walk: `seen` = keys reachable from `start` through present non-stop
keys (each once), `_stopped_keys` = the reached stop keys and ghosts, the
looked-up keys = `get_state()` keys = reached, present, non-stop. -/
theorem bfs_spec (g : PMap) (start stop : List Key) (s : Search) (hs : bfs g start stop = some s) :
    s.seen.Nodup ∧ s.included.Nodup ∧
    (∀ k, k ∈ s.seen ↔ Reach g stop start k) ∧
    (∀ k, k ∈ s.stopped ↔ Reach g stop start k ∧ (k ∈ stop ∨ parentsOf g k = none)) ∧
    (∀ k, k ∈ s.queried ↔ Reach g stop start k ∧ k ∉ stop ∧ ∃ ps, parentsOf g k = some ps) ∧
    (∀ k, k ∈ s.included ↔ Reach g stop start k ∧ k ∉ stop ∧ ∃ ps, parentsOf g k = some ps) := by
  obtain ⟨s', hs', hinv⟩ := bfs_inv g start stop
  rw [hs] at hs'
  cases hs'
  have hf := inv_final hinv
  refine ⟨hf.1, nodup_included hinv, hf.2, ?_, ?_, mem_included hinv⟩
  · intro k; rw [hinv.stoppedC, hf.2]
  · intro k; rw [hinv.queriedC, hf.2]

/-- `walk_exact`: in an acyclic graph, if `K` (present, non-stop keys) is
generated from `start` by parent steps inside `K` and every parent step out of
`K` lands on a stop key or a ghost, the searcher's result is exactly `K`. -/
theorem walk_exact (g : PMap) (d : Key → Nat) (start stop K : List Key)
    (hac : Acyclic d g)
    (hKp : ∀ k ∈ K, ∃ ps, parentsOf g k = some ps) (hKs : ∀ k ∈ K, k ∉ stop)
    (hsrc : ∀ k ∈ K, k ∈ start ∨ ∃ j ∈ K, ∃ ps, parentsOf g j = some ps ∧ k ∈ ps)
    (hclosed : ∀ j ∈ K, ∀ ps, parentsOf g j = some ps → ∀ p ∈ ps,
      p ∈ K ∨ p ∈ stop ∨ parentsOf g p = none)
    (hstart : ∀ k ∈ start, k ∈ K ∨ k ∈ stop ∨ parentsOf g k = none)
    (s : Search) (hs : bfs g start stop = some s) (k : Key) :
    k ∈ s.included ↔ k ∈ K := by
  rw [(bfs_spec g start stop s hs).2.2.2.2.2 k]
  constructor
  · rintro ⟨hr, hns, ps, hps⟩
    have key : ∀ k, Reach g stop start k → k ∈ K ∨ k ∈ stop ∨ parentsOf g k = none := by
      intro k hr
      induction hr with
      | base hk => exact hstart _ hk
      | step _ hjs hjp hkp ih =>
        rcases ih with ih | ih | ih
        · exact hclosed _ ih _ hjp _ hkp
        · exact absurd ih hjs
        · rw [hjp] at ih; cases ih
    rcases key k hr with h | h | h
    · exact h
    · exact absurd h hns
    · rw [hps] at h; cases h
  · intro hk
    refine ⟨?_, hKs k hk, hKp k hk⟩
    have key : ∀ n, ∀ k, d k = n → k ∈ K → Reach g stop start k := by
      intro n
      induction n using Nat.strongRecOn with
      | _ n ih =>
        intro k hd hk
        rcases hsrc k hk with h | ⟨j, hj, ps, hps, hkps⟩
        · exact Reach.base h
        · have hlt := acyclic_lt hac hps hkps
          exact Reach.step (ih (d j) (hd ▸ hlt) j rfl hj) (hKs j hj) hps hkps
    exact key (d k) k rfl hk

/-- the set the client of `search_result_from_parent_map` intends: its cached
keys, plus NULL_REVISION when it is referenced and was pruned from the stop
keys because it is recorded as missing (the case the code's comment describes) -/
def intended (pm : PMap) (missing : List Key) : List Key :=
  keysOf pm ++ (if null ∈ refsOf pm ∧ null ∈ missing then [null] else [])

theorem mem_intended {pm : PMap} {missing : List Key} {k : Key} :
    k ∈ intended pm missing ↔ k ∈ keysOf pm ∨ (k = null ∧ null ∈ refsOf pm ∧ null ∈ missing) := by
  unfold intended
  by_cases hc : null ∈ refsOf pm ∧ null ∈ missing <;> simp [hc]

theorem nodup_intended {pm : PMap} {missing : List Key} (hnd : (keysOf pm).Nodup)
    (hmn : null ∈ missing → null ∉ keysOf pm) : (intended pm missing).Nodup := by
  unfold intended
  split
  · rename_i hc
    refine List.nodup_append.mpr ⟨hnd, List.nodup_cons.mpr ⟨List.not_mem_nil, List.nodup_nil⟩, fun a ha b hb hab => ?_⟩
    cases List.mem_singleton.mp hb
    exact hmn hc.2 (hab ▸ ha)
  · rwa [List.append_nil]

theorem length_intended (pm : PMap) (missing : List Key) :
    (intended pm missing).length = pm.length + (if null ∈ refsOf pm ∧ null ∈ missing then 1 else 0) := by
  unfold intended keysOf
  split <;> simp

theorem sr_eq (pm : PMap) (missing : List Key) :
    searchResultFromParentMap pm missing =
      ⟨(keysOf pm).filter (· ∉ refsOf pm),
       (dedup (refsOf pm)).filter (fun r => r ∉ keysOf pm ∧ r ∉ missing),
       pm.length + (if null ∈ refsOf pm ∧ null ∈ missing then 1 else 0)⟩ := by
  unfold searchResultFromParentMap
  cases pm with
  | nil => simp [keysOf, refsOf, dedup]
  | cons _ _ => simp

/-- `recipe_exact`: for every acyclic repository graph `g`, every client cache
`pm` that agrees with `g` on its keys, every `missing` set made of ghosts of `g`
(NULL may be listed although the server has it): replaying
`search_result_from_parent_map(pm, missing)` on `g` walks exactly the intended
keys — nothing missing, nothing extra — and their number is the recipe's count. -/
theorem recipe_exact (g pm : PMap) (missing : List Key) (d : Key → Nat)
    (hac : Acyclic d g) (hsub : SubMap pm g) (hnd : (keysOf pm).Nodup)
    (hnull : parentsOf g null = some [])
    (hmiss : ∀ m ∈ missing, m ≠ null → parentsOf g m = none)
    (hmn : null ∈ missing → null ∉ keysOf pm)
    (s : Search)
    (hs : bfs g (searchResultFromParentMap pm missing).start
      (searchResultFromParentMap pm missing).stop = some s) :
    (∀ k, k ∈ s.included ↔ k ∈ intended pm missing) ∧
    s.included.length = (searchResultFromParentMap pm missing).count := by
  rw [sr_eq] at hs ⊢
  simp only at hs ⊢
  have hkey : ∀ k ∈ keysOf pm, ∃ ps, parentsOf pm k = some ps ∧ parentsOf g k = some ps := by
    intro k hk
    obtain ⟨ps, hps⟩ := parentsOf_isSome_of_mem_keys hk
    exact ⟨ps, hps, subMap_parents hsub hps⟩
  have hexact : ∀ k, k ∈ s.included ↔ k ∈ intended pm missing := by
    refine walk_exact g d _ _ (intended pm missing) hac ?hKp ?hKs ?hsrc ?hclosed ?hstart s hs
    case hKp =>
      intro k hk
      rcases mem_intended.mp hk with hk | ⟨rfl, _⟩
      · obtain ⟨ps, _, h⟩ := hkey k hk; exact ⟨ps, h⟩
      · exact ⟨[], hnull⟩
    case hKs =>
      intro k hk hst
      simp only [List.mem_filter, mem_dedup, decide_eq_true_eq] at hst
      rcases mem_intended.mp hk with hk | ⟨rfl, _, hm⟩
      · exact hst.2.1 hk
      · exact hst.2.2 hm
    case hsrc =>
      intro k hk
      by_cases hr : k ∈ refsOf pm
      · obtain ⟨j, ps, hps, hp⟩ := (mem_refsOf hnd).mp hr
        exact Or.inr ⟨j, mem_intended.mpr (Or.inl (mem_keys_of_parentsOf hps)), ps,
          subMap_parents hsub hps, hp⟩
      · rcases mem_intended.mp hk with hk | ⟨rfl, h, _⟩
        · exact Or.inl (List.mem_filter.mpr ⟨hk, decide_eq_true hr⟩)
        · exact absurd h hr
    case hclosed =>
      intro j hj ps hps p hp
      rcases mem_intended.mp hj with hj | ⟨rfl, _⟩
      · obtain ⟨ps', hpm, hg⟩ := hkey j hj
        obtain rfl : ps' = ps := Option.some.inj (hg.symm.trans hps)
        have hpr : p ∈ refsOf pm := (mem_refsOf hnd).mpr ⟨j, _, hpm, hp⟩
        by_cases hpk : p ∈ keysOf pm
        · exact Or.inl (mem_intended.mpr (Or.inl hpk))
        · by_cases hpm' : p ∈ missing
          · by_cases hpn : p = null
            · subst hpn
              exact Or.inl (mem_intended.mpr (Or.inr ⟨rfl, hpr, hpm'⟩))
            · exact Or.inr (Or.inr (hmiss p hpm' hpn))
          · exact Or.inr (Or.inl (List.mem_filter.mpr
              ⟨mem_dedup.mpr hpr, decide_eq_true ⟨hpk, hpm'⟩⟩))
      · rw [hnull] at hps; cases hps; cases hp
    case hstart =>
      intro k hk
      exact Or.inl (mem_intended.mpr (Or.inl (List.mem_filter.mp hk).1))
  exact ⟨hexact, (length_eq_of_mem_iff (bfs_spec _ _ _ s hs).2.1 (nodup_intended hnd hmn) hexact).trans
    (length_intended pm missing)⟩

/-- `recipe_accepted`: under the same hypotheses the server's
`recreate_search_from_recipe` passes its count check and returns the intended
keys (never `NoSuchRevision`). -/
theorem recipe_accepted (g pm : PMap) (missing : List Key) (d : Key → Nat)
    (hac : Acyclic d g) (hsub : SubMap pm g) (hnd : (keysOf pm).Nodup)
    (hnull : parentsOf g null = some [])
    (hmiss : ∀ m ∈ missing, m ≠ null → parentsOf g m = none)
    (hmn : null ∈ missing → null ∉ keysOf pm) :
    ∃ a b inc, recreate g (searchResultFromParentMap pm missing) false = some (.ok a b inc) ∧
      ∀ k, k ∈ inc ↔ k ∈ intended pm missing :=
  recreate_of_exact (recipe_exact g pm missing d hac hsub hnd hnull hmiss hmn)

/-- `limited_recipe_exact`: for every acyclic repository graph `g`, every client
cache `pm` agreeing with `g`, all tips and every depth: replaying the recipe of
`limited_search_result_from_parent_map` on `g` walks exactly the keys of the
client's own walk over its cache (`keys`), and their number is the count sent. -/
theorem limited_recipe_exact (g pm : PMap) (tips : List Key) (depth : Nat) (d : Key → Nat)
    (hac : Acyclic d g) (hsub : SubMap pm g)
    (L : Limited) (hL : limitedSearchResult pm tips depth = some L)
    (s : Search) (hs : bfs g L.recipe.start L.recipe.stop = some s) :
    (∀ k, k ∈ s.included ↔ k ∈ L.keys) ∧ s.included.length = L.recipe.count := by
  obtain ⟨sc, _, _, hsc, _, heq, ⟨rfl, rfl, rfl, hK⟩ | ⟨rfl, rfl⟩⟩ := limitedSearchResult_walk pm tips depth
  · -- empty cache: nothing to walk
    cases hL.symm.trans heq
    simp only [hK] at hs ⊢
    have hexact : ∀ k, k ∈ s.included ↔ k ∈ ([] : List Key) := by
      apply walk_exact g d [] [] [] hac _ _ _ _ _ s hs <;> intro k hk <;> cases hk
    have : s.included = [] := List.eq_nil_iff_forall_not_mem.mpr fun k hk => nomatch (hexact k).mp hk
    exact ⟨hexact, by rw [this]⟩
  · cases hL.symm.trans heq
    simp only at hs ⊢
    obtain ⟨_, hcnd, hseen, hstopped, hqueried, hincl⟩ := bfs_spec pm _ tips sc hsc
    -- what the client's walk reaches it keeps, or lists as a stop key
    have hin_or : ∀ k, Reach pm tips (findPossibleHeads pm tips depth) k →
        k ∈ sc.included ∨ k ∈ dedup sc.stopped ∨ parentsOf g k = none := by
      intro k hr
      by_cases hst : k ∈ tips ∨ parentsOf pm k = none
      · exact Or.inr (Or.inl (mem_dedup.mpr ((hstopped k).mpr ⟨hr, hst⟩)))
      · refine Or.inl ((hincl k).mpr ⟨hr, fun h => hst (Or.inl h), ?_⟩)
        cases hp : parentsOf pm k with
        | none => exact absurd (Or.inr hp) hst
        | some ps => exact ⟨ps, rfl⟩
    have hexact : ∀ k, k ∈ s.included ↔ k ∈ sc.included := by
      apply walk_exact g d _ _ sc.included hac _ _ _ _ _ s hs
      · intro k hk
        obtain ⟨_, _, ps, hps⟩ := (hincl k).mp hk
        exact ⟨ps, subMap_parents hsub hps⟩
      · intro k hk hst
        have h1 := (hstopped k).mp (mem_dedup.mp hst)
        obtain ⟨_, hnt, ps, hps⟩ := (hincl k).mp hk
        rcases h1.2 with h | h
        · exact hnt h
        · rw [hps] at h; cases h
      · intro k hk
        obtain ⟨hr, _, _⟩ := (hincl k).mp hk
        cases hr with
        | base hh =>
          by_cases hf : k ∈ sc.queried.flatMap (parentsL pm)
          · obtain ⟨j, hj, hkj⟩ := List.mem_flatMap.mp hf
            obtain ⟨ps, hps, hkps⟩ := mem_parentsL.mp hkj
            exact Or.inr ⟨j, (hincl j).mpr ((hqueried j).mp hj), ps, subMap_parents hsub hps, hkps⟩
          · exact Or.inl (List.mem_filter.mpr
              ⟨hh, decide_eq_true fun h => hf (of_decide_eq_true (List.mem_filter.mp h).2)⟩)
        | step hrj hjs hjp hkp =>
          exact Or.inr ⟨_, (hincl _).mpr ⟨hrj, hjs, _, hjp⟩, _, subMap_parents hsub hjp, hkp⟩
      · intro j hj ps hps p hp
        obtain ⟨hrj, hjs, ps', hps'⟩ := (hincl j).mp hj
        obtain rfl : ps' = ps := Option.some.inj ((subMap_parents hsub hps').symm.trans hps)
        exact hin_or p (Reach.step hrj hjs hps' hp)
      · intro k hk
        exact hin_or k (Reach.base (List.mem_filter.mp hk).1)
    exact ⟨hexact, length_eq_of_mem_iff (bfs_spec _ _ _ s hs).2.1 hcnd hexact⟩

/-- `limited_recipe_accepted`: the server's count check passes on the limited
recipe and the reply carries exactly the client's walk. -/
theorem limited_recipe_accepted (g pm : PMap) (tips : List Key) (depth : Nat) (d : Key → Nat)
    (hac : Acyclic d g) (hsub : SubMap pm g) :
    ∃ L, limitedSearchResult pm tips depth = some L ∧
      ∃ a b inc, recreate g L.recipe false = some (.ok a b inc) ∧ ∀ k, k ∈ inc ↔ k ∈ L.keys := by
  obtain ⟨_, _, _, _, _, hL, _⟩ := limitedSearchResult_walk pm tips depth
  exact ⟨_, hL, recreate_of_exact (limited_recipe_exact g pm tips depth d hac hsub _ hL)⟩

/-- the limited walk never leaves the cache, never includes a tip, and is
duplicate-free (so `count` counts distinct revisions) -/
theorem limited_keys_cached (pm : PMap) (tips : List Key) (depth : Nat)
    (L : Limited) (hL : limitedSearchResult pm tips depth = some L) :
    L.keys.Nodup ∧ L.recipe.count = L.keys.length ∧ ∀ k ∈ L.keys, k ∈ keysOf pm ∧ k ∉ tips := by
  obtain ⟨sc, _, _, _, hinv, heq, _⟩ := limitedSearchResult_walk pm tips depth
  cases hL.symm.trans heq
  refine ⟨nodup_included hinv, rfl, fun k hk => ?_⟩
  obtain ⟨_, hnt, ps, hps⟩ := (mem_included hinv k).mp hk
  exact ⟨mem_keys_of_parentsOf hps, hnt⟩

/-- a ghost start key and a ghost stop key (such as the `b""` that
`b"".split(b" ")` yields for an empty start / stop field) change nothing -/
theorem walk_ghost_start (g : PMap) (start stop : List Key) (e e' : Key)
    (he : parentsOf g e = none) (he' : parentsOf g e' = none)
    (s s' : Search) (hs : bfs g start stop = some s) (hs' : bfs g (e :: start) (e' :: stop) = some s') :
    ∀ k, k ∈ s'.included ↔ k ∈ s.included := by
  intro k
  rw [(bfs_spec _ _ _ s hs).2.2.2.2.2 k, (bfs_spec _ _ _ s' hs').2.2.2.2.2 k]
  exact reach_ghosts (gs := [e]) (gs' := [e']) (fun _ h => List.mem_singleton.mp h ▸ he)
    (fun _ h => List.mem_singleton.mp h ▸ he') k

/-- `heads_within_depth`: every start candidate chosen by `_find_possible_heads`
lies at most `depth` child steps above one of the tips -/
theorem heads_within_depth (pm : PMap) (tips : List Key) (depth : Nat) (h : Key)
    (hh : h ∈ findPossibleHeads pm tips depth) :
    ∃ n, n ≤ depth ∧ ∃ t ∈ tips, ChildSteps pm n t h := by
  rcases (findPossibleHeads_char pm tips depth h).mp hh with hd | ⟨n, hn, hd, _⟩
  · exact ⟨depth, Nat.le_refl _, hd.1⟩
  · exact ⟨n, Nat.le_of_lt hn, hd.1⟩

/-- `sep.join(l).split(sep)`: `l` itself, except that the empty list comes back
as `[b""]` -/
theorem split_join (sep : UInt8) (l : List Bytes) (h : ∀ x ∈ l, sep ∉ x) :
    split sep (join sep l) = if l = [] then [[]] else l := by
  by_cases hl : l = []
  · subst hl; simp [join, split, splitAux]
  · simp only [hl, if_false]
    exact split_join_ne sep l hl h

/-- `recipe_serialise_roundtrip`: for revision ids free of space and newline the
server parses back exactly the start keys, stop keys and count that
`_serialise_search_recipe` wrote (an empty key list arriving as `[b""]`). -/
theorem recipe_serialise_roundtrip (r : WireRecipe)
    (h1 : ∀ x ∈ r.start, SP ∉ x ∧ NL ∉ x) (h2 : ∀ x ∈ r.stop, SP ∉ x ∧ NL ∉ x) :
    parseRecipe (serialise r) =
      some ⟨if r.start = [] then [[]] else r.start, if r.stop = [] then [[]] else r.stop, r.count⟩ := by
  have hnl : ∀ l : List Bytes, (∀ x ∈ l, SP ∉ x ∧ NL ∉ x) → NL ∉ join SP l := by
    intro l hl hc
    rcases mem_join hc with h | ⟨x, hx, hcx⟩
    · simp [NL, SP] at h
    · exact (hl x hx).2 hcx
  unfold parseRecipe serialise
  simp only [join]
  rw [split_append_sep (hnl _ h1), split_append_sep (hnl _ h2), split_no_sep (nl_not_mem_toDec _)]
  simp only [parseDec_toDec]
  rw [split_join SP r.start (fun x hx => (h1 x hx).1), split_join SP r.stop (fun x hx => (h2 x hx).1)]

/-- repository: `4 → {2,3}`, `3 → {1, ghost 9}`, `2 → 1`, `1 → null` -/
def exG : PMap := [(0, []), (1, [0]), (2, [1]), (3, [1, 9]), (4, [2, 3])]
def exD : Key → Nat := fun k => if k = 9 then 100 else 20 - k
/-- client cache: revisions 4, 3, 2 seen; 9 known missing -/
def exPM : PMap := [(4, [2, 3]), (3, [1, 9]), (2, [1])]

/-! ### what the limited recipe's "intended" set is (independent of the client's own walk) -/

/-- `heads_char`: `_find_possible_heads(parent_map, tips, depth)` returns exactly the
keys at child distance `depth` from the tips, plus the childless keys at a smaller
distance (`AtDist` = breadth-first level of the child graph of the cache) -/
theorem heads_char (pm : PMap) (tips : List Key) (depth : Nat) (h : Key) :
    h ∈ findPossibleHeads pm tips depth ↔
      (AtDist pm tips depth h ∨ ∃ n, n < depth ∧ AtDist pm tips n h ∧ childrenOf pm h = []) :=
  findPossibleHeads_char pm tips depth h

/-- `limited_keys_char`: the key set the client tells the server it has seen is,
declaratively, the cached non-tip keys reachable — by parent steps through cached
non-tip keys — from a key satisfying `HeadSpec`.  Together with
`limited_recipe_exact` this pins the server's walk to a set defined without
running the client's searcher: a client walk that shrank would violate it. -/
theorem limited_keys_char (pm : PMap) (tips : List Key) (depth : Nat) (L : Limited)
    (hne : pm ≠ []) (hL : limitedSearchResult pm tips depth = some L) (k : Key) :
    k ∈ L.keys ↔ ReachP pm tips (HeadSpec pm tips depth) k ∧ k ∉ tips ∧
      ∃ ps, parentsOf pm k = some ps := by
  rw [limited_keys_mem pm tips depth L hL k,
    reach_iff_reachP (fun h => findPossibleHeads_char pm tips depth h) k]

/-- `limited_keys_lower`: in a dict-shaped acyclic cache whose tips are not cached
themselves (they are the keys being requested), EVERY key within `depth` child
steps of a tip is in the set — the "depth-step child closure of the tips" -/
theorem limited_keys_lower (pm : PMap) (tips : List Key) (depth : Nat) (d : Key → Nat) (L : Limited)
    (hac : Acyclic d pm) (hnd : (keysOf pm).Nodup) (htips : ∀ t ∈ tips, t ∉ keysOf pm)
    (hL : limitedSearchResult pm tips depth = some L)
    (n : Nat) (k : Key) (h1 : 1 ≤ n) (hn : n ≤ depth) (hp : PathN pm tips n k) : k ∈ L.keys := by
  obtain ⟨t, ht, hs⟩ := hp
  obtain ⟨n', rfl⟩ : ∃ n', n = n' + 1 := ⟨n - 1, (Nat.sub_add_cancel h1).symm⟩
  obtain ⟨r, _, hkr⟩ := childSteps_unsnoc n' t k hs
  obtain ⟨ps, hmem, _⟩ := mem_childrenOf.mp hkr
  have hpk : parentsOf pm k = some ps := parentsOf_of_mem hnd hmem
  have hkey : k ∈ keysOf pm := mem_keys_of_parentsOf hpk
  rw [limited_keys_mem pm tips depth L hL k]
  exact ⟨reach_of_within pm tips depth d hac hnd htips (d k) k rfl hkey ⟨n' + 1, hn, t, ht, hs⟩,
    fun hkt => htips k hkt hkey, ps, hpk⟩

/-- … and the set is closed under cached non-tip parents (all cached ancestors of
its members, up to the tips) -/
theorem limited_keys_parent_closed (pm : PMap) (tips : List Key) (depth : Nat) (L : Limited)
    (hL : limitedSearchResult pm tips depth = some L) (j p : Key) (ps ps' : List Key)
    (hj : j ∈ L.keys) (hps : parentsOf pm j = some ps) (hp : p ∈ ps) (hpt : p ∉ tips)
    (hpp : parentsOf pm p = some ps') : p ∈ L.keys := by
  rw [limited_keys_mem pm tips depth L hL] at hj ⊢
  exact ⟨Reach.step hj.1 hj.2.1 hps hp, hpt, ps', hpp⟩

/-! ### ghosts filled on the server between the client's caching and the replay -/

/-- `limited_recipe_ghost_fill_safe` (the claim in the comment of
`recreate_search_from_recipe`): the limited recipe lists the cache's ghosts as
stop keys, so it is accepted with the same key set on ANY two acyclic server
graphs that agree with the cache on the cached keys — in particular before and
after a key the client saw as missing has been filled in. -/
theorem limited_recipe_ghost_fill_safe (g g' pm : PMap) (tips : List Key) (depth : Nat) (d d' : Key → Nat)
    (hac : Acyclic d g) (hsub : SubMap pm g) (hac' : Acyclic d' g') (hsub' : SubMap pm g') :
    ∃ L, limitedSearchResult pm tips depth = some L ∧
      (∃ a b inc, recreate g L.recipe false = some (.ok a b inc) ∧ ∀ k, k ∈ inc ↔ k ∈ L.keys) ∧
      (∃ a b inc, recreate g' L.recipe false = some (.ok a b inc) ∧ ∀ k, k ∈ inc ↔ k ∈ L.keys) := by
  obtain ⟨L, hL, h1⟩ := limited_recipe_accepted g pm tips depth d hac hsub
  obtain ⟨L', hL', h2⟩ := limited_recipe_accepted g' pm tips depth d' hac' hsub'
  rw [hL] at hL'; cases hL'
  exact ⟨L, hL, h1, h2⟩

/-- the server after ghost `9` of `exG` was filled in (with parent `1`) -/
def exGfilled : PMap := [(0, []), (1, [0]), (2, [1]), (9, [1]), (3, [1, 9]), (4, [2, 3])]
def exDfilled : Key → Nat := fun k => if k = 9 then 18 else 20 - k

/-- `unlimited_ghost_filled_witness`: the UNLIMITED recipe prunes recorded-missing
keys from its stop keys (hypothesis `hmiss` of `recipe_exact`), so once such a key
exists on the server the replay walks through it and the count check fails
(`NoSuchRevision`) — while the limited recipe of the same cache is accepted on both
graphs.  (The unlimited form is only used when `_DEFAULT_SEARCH_DEPTH <= 0`.) -/
theorem unlimited_ghost_filled_witness :
    Acyclic exDfilled exGfilled ∧ SubMap exPM exGfilled ∧
    recreate exG (searchResultFromParentMap exPM [9]) false = some (.ok [4] [1, 9] [4, 2, 3]) ∧
    recreate exGfilled (searchResultFromParentMap exPM [9]) false = some .noSuchRevision ∧
    (limitedSearchResult exPM [1] 2).map (fun L => (recreate exG L.recipe false, recreate exGfilled L.recipe false)) =
      some (some (.ok [4] [1, 9] [4, 2, 3]), some (.ok [4] [1, 9] [4, 2, 3])) := by
  decide +kernel

def toWire (enc : Key → Bytes) (r : Recipe) : WireRecipe := ⟨r.start.map enc, r.stop.map enc, r.count⟩
def ofWire (dec : Bytes → Key) (w : WireRecipe) : Recipe := ⟨w.start.map dec, w.stop.map dec, w.count⟩

/-- a key list after the wire: itself, or the ghost `dec []` in front of it when it is empty -/
theorem wire_field (g : PMap) (enc : Key → Bytes) (dec : Bytes → Key) (hdec : ∀ k, dec (enc k) = k)
    (hE : parentsOf g (dec []) = none) (l : List Key) :
    ∃ gs, (∀ e ∈ gs, parentsOf g e = none) ∧
      (if l.map enc = [] then [[]] else l.map enc).map dec = gs ++ l := by
  cases l with
  | nil => exact ⟨[dec []], fun e he => List.mem_singleton.mp he ▸ hE, rfl⟩
  | cons k ks =>
    refine ⟨[], fun e he => absurd he List.not_mem_nil, ?_⟩
    show (List.map enc (k :: ks)).map dec = k :: ks
    rw [List.map_map]
    exact (List.map_congr_left fun k _ => hdec k).trans (List.map_id _)

/-- serialising, parsing and replaying a recipe the server accepts gives the same
included keys (an empty start / stop field arrives as the key `b""`, a ghost) -/
theorem wire_transport (g : PMap) (r : Recipe) (enc : Key → Bytes) (dec : Bytes → Key)
    (hdec : ∀ k, dec (enc k) = k) (henc : ∀ k, SP ∉ enc k ∧ NL ∉ enc k)
    (hE : parentsOf g (dec []) = none)
    (a b inc : List Key) (h : recreate g r false = some (.ok a b inc)) :
    ∃ w, parseRecipe (serialise (toWire enc r)) = some w ∧
      ∃ a' b' inc', recreate g (ofWire dec w) false = some (.ok a' b' inc') ∧ ∀ k, k ∈ inc' ↔ k ∈ inc := by
  have hrt := recipe_serialise_roundtrip (toWire enc r)
    (by intro x hx; obtain ⟨k, _, rfl⟩ := List.mem_map.mp hx; exact henc k)
    (by intro x hx; obtain ⟨k, _, rfl⟩ := List.mem_map.mp hx; exact henc k)
  refine ⟨_, hrt, ?_⟩
  obtain ⟨gs, hgs, e1⟩ := wire_field g enc dec hdec hE r.start
  obtain ⟨gs', hgs', e2⟩ := wire_field g enc dec hdec hE r.stop
  have := recreate_add_ghosts g r gs gs' hgs hgs' a b inc h
  rw [← e1, ← e2] at this
  exact this

/-- `recipe_end_to_end`: client recipe → `_serialise_search_recipe` → server parse →
replay: accepted, and the walk is exactly the intended set -/
theorem recipe_end_to_end (g pm : PMap) (missing : List Key) (d : Key → Nat)
    (enc : Key → Bytes) (dec : Bytes → Key)
    (hdec : ∀ k, dec (enc k) = k) (henc : ∀ k, SP ∉ enc k ∧ NL ∉ enc k)
    (hE : parentsOf g (dec []) = none)
    (hac : Acyclic d g) (hsub : SubMap pm g) (hnd : (keysOf pm).Nodup)
    (hnull : parentsOf g null = some [])
    (hmiss : ∀ m ∈ missing, m ≠ null → parentsOf g m = none)
    (hmn : null ∈ missing → null ∉ keysOf pm) :
    ∃ w, parseRecipe (serialise (toWire enc (searchResultFromParentMap pm missing))) = some w ∧
      ∃ a b inc, recreate g (ofWire dec w) false = some (.ok a b inc) ∧
        ∀ k, k ∈ inc ↔ k ∈ intended pm missing := by
  obtain ⟨a, b, inc, hr, hinc⟩ := recipe_accepted g pm missing d hac hsub hnd hnull hmiss hmn
  obtain ⟨w, hw, a', b', inc', hr', hinc'⟩ := wire_transport g _ enc dec hdec henc hE a b inc hr
  exact ⟨w, hw, a', b', inc', hr', fun k => (hinc' k).trans (hinc k)⟩

/-- `limited_end_to_end`: the same for the limited recipe -/
theorem limited_end_to_end (g pm : PMap) (tips : List Key) (depth : Nat) (d : Key → Nat)
    (enc : Key → Bytes) (dec : Bytes → Key)
    (hdec : ∀ k, dec (enc k) = k) (henc : ∀ k, SP ∉ enc k ∧ NL ∉ enc k)
    (hE : parentsOf g (dec []) = none)
    (hac : Acyclic d g) (hsub : SubMap pm g) :
    ∃ L, limitedSearchResult pm tips depth = some L ∧
      ∃ w, parseRecipe (serialise (toWire enc L.recipe)) = some w ∧
        ∃ a b inc, recreate g (ofWire dec w) false = some (.ok a b inc) ∧ ∀ k, k ∈ inc ↔ k ∈ L.keys := by
  obtain ⟨L, hL, a, b, inc, hr, hinc⟩ := limited_recipe_accepted g pm tips depth d hac hsub
  obtain ⟨w, hw, a', b', inc', hr', hinc'⟩ := wire_transport g _ enc dec hdec henc hE a b inc hr
  exact ⟨L, hL, w, hw, a', b', inc', hr', fun k => (hinc' k).trans (hinc k)⟩

/-- the harness' key encoding: `r<decimal>` (and everything else, such as `b""`,
decodes to the never-present key 999999) -/
def exEnc (k : Key) : Bytes := 114 :: toDec k
def exDec : Bytes → Key
  | 114 :: rest => match parseDec rest with
    | some n => n
    | none => 999999
  | _ => 999999

/-- non-vacuity of the encoding hypotheses of the end-to-end theorems -/
theorem exEnc_ok : (∀ k, exDec (exEnc k) = k) ∧ (∀ k, SP ∉ exEnc k ∧ NL ∉ exEnc k) ∧
    parentsOf exG (exDec []) = none := by
  refine ⟨fun k => ?_, fun k => ⟨?_, ?_⟩, by decide +kernel⟩
  · simp [exEnc, exDec, parseDec_toDec]
  · intro h
    rcases List.mem_cons.mp h with h | h
    · simp [SP] at h
    · exact sp_not_mem_toDec k h
  · intro h
    rcases List.mem_cons.mp h with h | h
    · simp [NL] at h
    · exact nl_not_mem_toDec k h

/-! ### non-vacuity: the hypotheses hold on concrete non-trivial inputs -/


example : Acyclic exD exG ∧ SubMap exPM exG ∧ (keysOf exPM).Nodup ∧ parentsOf exG null = some [] ∧
    (∀ m ∈ [9], m ≠ null → parentsOf exG m = none) ∧ (null ∈ [9] → null ∉ keysOf exPM) := by
  decide +kernel

example : searchResultFromParentMap exPM [9] = ⟨[4], [1], 3⟩ := by decide +kernel
example : (bfs exG [4] [1]).map Search.included = some [4, 2, 3] := by decide +kernel
example : limitedSearchResult exPM [1] 1 = some ⟨⟨[3, 2], [1, 9], 2⟩, [3, 2]⟩ := by decide +kernel
example : recreate exG ⟨[2, 3], [1, 9], 2⟩ false = some (.ok [2, 3] [1, 9] [2, 3]) := by decide +kernel
example : recreate exG ⟨[2, 3], [1, 9], 3⟩ false = some .noSuchRevision := by decide +kernel
/-- the pruned-NULL case: NULL referenced, recorded missing, not a stop key; count is |pm| + 1 -/
example : searchResultFromParentMap [(1, [0])] [0] = ⟨[1], [], 2⟩ ∧
    (bfs exG [1] []).map Search.included = some [1, 0] := by decide +kernel
example : ∀ x ∈ [[114, 52], [114, 51]], SP ∉ x ∧ NL ∉ (x : Bytes) := by decide +kernel
example : parseRecipe (serialise ⟨[[114, 52]], [], 3⟩) = some ⟨[[114, 52]], [[]], 3⟩ := by decide +kernel
example : parentsOf exG 9 = none ∧ parentsOf exG 7 = none := by decide +kernel
example : findPossibleHeads exPM [1] 1 = [3, 2] ∧ findPossibleHeads exPM [1] 2 = [4] := by decide +kernel
/-- non-vacuity of `limited_keys_lower`: dict-shaped acyclic cache, uncached tip, and a key two
child steps above it -/
example : Acyclic exD exPM ∧ (keysOf exPM).Nodup ∧ (∀ t ∈ [1], t ∉ keysOf exPM) ∧
    PathN exPM [1] 2 4 ∧ (limitedSearchResult exPM [1] 2).map (·.keys) = some [4, 2, 3] :=
  ⟨by decide +kernel, by decide +kernel, by decide +kernel,
    ⟨1, by decide +kernel, ChildSteps.succ (c := 2) (by decide +kernel) (ChildSteps.succ (c := 4) (by decide +kernel) ChildSteps.zero)⟩,
    by decide +kernel⟩
/-- end to end on the example: an empty stop field travels as `b""` -/
example : parseRecipe (serialise (toWire exEnc ⟨[4], [], 5⟩)) = some ⟨[[114, 52]], [[]], 5⟩ ∧
    recreate exG (ofWire exDec ⟨[[114, 52]], [[]], 5⟩) false = some (.ok [4] [9] [4, 2, 3, 1, 0]) := by
  decide +kernel

end BreezyVerif.C33
