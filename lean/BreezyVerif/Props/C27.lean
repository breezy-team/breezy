import BreezyVerif.Lemmas.C27Orphan
/-!
C27 — lock operations leave recoverable state at every crash point.

As in C26 the theorems quantify over every event list: every interleaving of
every program of any number of lockers, where any process may stop at any point
(`Ev.crash`, or simply no further events for it: every reachable state *is* a
crash point of every running operation) and any transport call may raise
(`Ev.fault`).  Nothing restricts who breaks which lock here.
-/
namespace BreezyVerif.C27
open BreezyVerif.C26

/-- **Every crash point is recoverable.**  Starting from a lock that is free or held
with readable info, after any events whatsoever the lock on disk is again
`Free` or `HeldReadable` — `info` is written before the rename into place and
deleted only after the rename away. -/
theorem crash_recoverable (cfg : Nat → Cfg) (h0 : Option Dir) (evs : List Ev)
    (h : recoverable h0 = true) : recoverable ((Sys.init cfg h0).run evs).held = true :=
  run27_map_base evs (PendOk.init cfg h0) ▸ ((RInvW.init cfg h0 h).run27 false (evs.map .base)).disk

example : recoverable (some (some (.ok ⟨7, 3⟩))) = true ∧ recoverable none = true ∧
    recoverable (some none) = false ∧ recoverable (some (some (.bad 1))) = false := by decide

/-- the directory a locker is about to rename into place always carries its complete info
(whatever else happened, including faults and leftovers of crashed lockers) -/
theorem pending_complete (cfg : Nat → Cfg) (h0 : Option Dir) (evs : List Ev) (i : Nat)
    (h : (((Sys.init cfg h0).run evs).lk i).pc = .aRename) :
    (((Sys.init cfg h0).run evs).lk i).pend =
      some (some (.ok ⟨i, (((Sys.init cfg h0).run evs).lk i).nonce⟩)) :=
  (PendOk.init cfg h0).run evs i (by simp [h, Pc.hasPend])

/-- a free lock is acquired directly by any idle live locker: mkdir, put, rename, peek -/
theorem fresh_acquires_free (s : Sys) (i : Nat) (hfree : s.held = none) (hidle : (s.lk i).pc = .idle)
    (hal : s.crashed i = false) :
    ((s.run (acquireEvs i)).lk i).held = true ∧ ((s.run (acquireEvs i)).lk i).last = .ok ∧
      ownerOf (s.run (acquireEvs i)).held = some i := by
  simp [run_solo, Ev.actBy, acquireEvs, soloStep, hal, hidle, hfree, startOp, lstep, peekDir, Locker.done, ownerOf]

/-- a lock held with readable info is freed by `break_lock` of any idle live locker that does not hold it,
which then acquires it -/
theorem fresh_acquires_after_break (s : Sys) (i : Nat) (x : Nonce) (hheld : s.held = some (some (.ok x)))
    (hidle : (s.lk i).pc = .idle) (hnh : (s.lk i).held = false) (hal : s.crashed i = false) :
    (s.run (breakEvs i)).held = none ∧ ((s.run (breakEvs i)).lk i).last = .broken ∧
      ((s.run (breakEvs i ++ acquireEvs i)).lk i).held = true ∧
      ownerOf (s.run (breakEvs i ++ acquireEvs i)).held = some i := by
  simp [run_solo, Ev.actBy, breakEvs, acquireEvs, soloStep, hal, hidle, hnh, hheld, startOp, lstep, peekDir,
    Locker.done, ownerOf]

/-- the hypotheses of the three recovery theorems are satisfiable (free / readable / corrupt lock, idle live locker) -/
example :
    let cfg : Nat → Cfg := fun _ => ⟨1, 1, false⟩
    ((Sys.init cfg).held = none ∧ ((Sys.init cfg).lk 5).pc = .idle ∧ (Sys.init cfg).crashed 5 = false) ∧
    ((Sys.init cfg (some (some (.ok ⟨9, 2⟩)))).held = some (some (.ok ⟨9, 2⟩)) ∧
      ((Sys.init cfg (some (some (.ok ⟨9, 2⟩)))).lk 5).held = false) ∧
    ((Sys.init cfg (some (some (.bad 3)))).held = some (some (.bad 3)) ∧
      (((Sys.init cfg (some (some (.bad 3)))).run (breakCorruptEvs 5 ++ acquireEvs 5)).lk 5).last = .ok) := by
  decide +kernel

/-- **Recovery after any crash**: whatever happened before (any interleaving, crashes, faults, breaks), a live
idle locker that does not hold the lock acquires it directly or after one explicit break. -/
theorem recover_after_any_crash (cfg : Nat → Cfg) (h0 : Option Dir) (evs : List Ev) (i : Nat)
    (h : recoverable h0 = true)
    (hidle : (((Sys.init cfg h0).run evs).lk i).pc = .idle)
    (hnh : (((Sys.init cfg h0).run evs).lk i).held = false)
    (hal : ((Sys.init cfg h0).run evs).crashed i = false) :
    ((((Sys.init cfg h0).run evs).run (acquireEvs i)).lk i).held = true ∨
      ((((Sys.init cfg h0).run evs).run (breakEvs i ++ acquireEvs i)).lk i).held = true := by
  have hr := crash_recoverable cfg h0 evs h
  generalize (Sys.init cfg h0).run evs = s at *
  match hs : s.held with
  | none => exact Or.inl (fresh_acquires_free s i hs hidle hal).1
  | some (some (.ok x)) => exact Or.inr (fresh_acquires_after_break s i x hs hidle hnh hal).2.2.1
  | some none => simp [hs, recoverable, classify] at hr
  | some (some (.bad t)) => simp [hs, recoverable, classify] at hr

/-- non-vacuity: a locker crashes after each call of its attempt / unlock; a second locker recovers -/
example : ∀ k ∈ [0, 1, 2, 3, 4, 5, 6, 7, 8, 9],
    let evs := ([.start 0 .attempt, .step 0, .step 0, .step 0, .step 0, .start 0 .unlock, .step 0, .step 0,
      .step 0, .step 0] : List Ev).take k ++ [.crash 0]
    let s := (Sys.init (fun _ => ⟨1, 1, false⟩)).run evs
    (s.lk 1).pc = .idle ∧ (s.lk 1).held = false ∧ s.crashed 1 = false ∧
      (((s.run (acquireEvs 1)).lk 1).held = true ∨ ((s.run (breakEvs 1 ++ acquireEvs 1)).lk 1).held = true) := by
  decide +kernel

/-- if `held/` carries unparsable info, `break_lock` (→ `force_break_corrupt`) of any idle live locker frees it -/
theorem corrupt_info_break (s : Sys) (i : Nat) (t : Nat) (hheld : s.held = some (some (.bad t)))
    (hidle : (s.lk i).pc = .idle) (hnh : (s.lk i).held = false) (hal : s.crashed i = false) :
    (s.run (breakCorruptEvs i)).held = none ∧ ((s.run (breakCorruptEvs i)).lk i).last = .broken ∧
      ((s.run (breakCorruptEvs i ++ acquireEvs i)).lk i).held = true := by
  simp [run_solo, Ev.actBy, breakCorruptEvs, acquireEvs, soloStep, hal, hidle, hnh, hheld, startOp, lstep, peekDir,
    Locker.done]

/-- **A failed acquisition does not leave the lock held by the failing process (partial).**  In every
reachable state (all interleavings, crashes, faults, breaks, steals): if the lock on disk carries locker `i`'s
nonce with serial `n`, then `i` believes it holds the lock, or is just about to confirm exactly this nonce
(`aConfirm`), or — the missing part — a transport error hit the confirming `peek` of exactly the attempt with
serial `n`, right after its rename succeeded (`n ∈ orphanSerials`; see `failed_attempt_witness`).  The exception
is tied to the nonce on disk: it says nothing about other attempts of the same locker. -/
theorem failed_attempt_not_held_partial (cfg : Nat → Cfg) (h0 : Option Dir) (evs : List Ev) (i n : Nat)
    (h : ownerOf h0 ≠ some i) (ho : ((Sys.init cfg h0).run evs).held = okDir ⟨i, n⟩) :
    (((Sys.init cfg h0).run evs).lk i).held = true ∨
      ((((Sys.init cfg h0).run evs).lk i).pc = .aConfirm ∧ n = (((Sys.init cfg h0).run evs).lk i).nonce) ∨
      n ∈ orphanSerials (Sys.init cfg h0) evs i := by
  have inv := (NInv.init cfg h0 i h).runG evs
  rw [runG_fst] at inv
  exact (inv.own n ho).2

/-- the serial on disk is never ahead of its owner's attempt counter -/
theorem disk_serial_le_current (cfg : Nat → Cfg) (h0 : Option Dir) (evs : List Ev) (i n : Nat)
    (h : ownerOf h0 ≠ some i) (ho : ((Sys.init cfg h0).run evs).held = okDir ⟨i, n⟩) :
    n ≤ (((Sys.init cfg h0).run evs).lk i).nonce := by
  have inv := (NInv.init cfg h0 i h).runG evs
  rw [runG_fst] at inv
  exact (inv.own n ho).1

/-- **The latest attempt leaves nothing behind unless its own confirming peek failed**: a locker that does not
believe it holds the lock and is not about to confirm does not find its current nonce on disk, unless a fault
hit the confirming peek of this very attempt.  In particular a later attempt (fresh serial) that fails by
contention, by a fault at mkdir / put / rename / cleanup or inside a steal's `force_break` leaves no lock of
its own, whatever happened to earlier attempts. -/
theorem latest_attempt_leaves_no_nonce (cfg : Nat → Cfg) (h0 : Option Dir) (evs : List Ev) (i : Nat)
    (h : ownerOf h0 ≠ some i)
    (hflag : (((Sys.init cfg h0).run evs).lk i).held = false)
    (hpc : (((Sys.init cfg h0).run evs).lk i).pc ≠ .aConfirm)
    (hno : (((Sys.init cfg h0).run evs).lk i).nonce ∉ orphanSerials (Sys.init cfg h0) evs i) :
    ((Sys.init cfg h0).run evs).held ≠ okDir ⟨i, (((Sys.init cfg h0).run evs).lk i).nonce⟩ := by
  intro ho
  rcases failed_attempt_not_held_partial cfg h0 evs i _ h ho with h1 | ⟨h1, _⟩ | h1
  · rw [hflag] at h1; cases h1
  · exact hpc h1
  · exact hno h1

/-- a serial is orphaned only by a fault injected into the confirming peek of a live locker whose current
serial it is -/
theorem orphan_serial_origin (s : Sys) (evs : List Ev) (e : Ev) (i n : Nat)
    (h : n ∈ orphanSerials s (evs ++ [e]) i) :
    n ∈ orphanSerials s evs i ∨
      (∃ k, e = .fault i k ∧ (s.run evs).crashed i = false ∧ ((s.run evs).lk i).pc = .aConfirm ∧
        ((s.run evs).lk i).nonce = n) := by
  unfold orphanSerials at h ⊢
  rw [runG_append] at h
  simp only [runG] at h
  have := orphanStep_origin _ _ e i n h
  rw [runG_fst] at this
  exact this

/-- non-vacuity: (a) the lock on disk carries locker 0's nonce right after its rename (second disjunct) and after
its confirming peek (first disjunct), no fault involved; (b) after a fault at the confirming peek of attempt 1
the serial 1 is orphaned and on disk (third disjunct); locker 2 breaks that lock; locker 0's second attempt
(serial 2) then loses the race against locker 2 and fails by contention: its nonce is not on disk and serial 2
is not orphaned (`latest_attempt_leaves_no_nonce` applies) -/
example :
    let cfg : Nat → Cfg := fun _ => ⟨1, 1, false⟩
    let s3 := (Sys.init cfg).run [.start 0 .attempt, .step 0, .step 0, .step 0]
    let s4 := s3.run [.step 0]
    s3.held = okDir ⟨0, 1⟩ ∧ (s3.lk 0).pc = .aConfirm ∧ (s3.lk 0).held = false ∧ (s3.lk 0).nonce = 1 ∧
      s4.held = okDir ⟨0, 1⟩ ∧ (s4.lk 0).held = true ∧
      orphanSerials (Sys.init cfg) [.start 0 .attempt, .step 0, .step 0, .step 0, .step 0] 0 = [] := by
  decide +kernel

example :
    let cfg : Nat → Cfg := fun _ => ⟨1, 1, false⟩
    let evs1 : List Ev := [.start 0 .attempt, .step 0, .step 0, .step 0, .fault 0 .T]
    let evs2 : List Ev := evs1 ++ [.start 2 .brk, .step 2, .step 2, .step 2, .step 2, .step 2, .step 2,
      .start 2 .attempt, .step 2, .step 2, .step 2, .step 2,
      .start 0 .attempt, .step 0, .step 0, .step 0, .step 0, .step 0, .step 0]
    let s1 := (Sys.init cfg).run evs1
    let s2 := (Sys.init cfg).run evs2
    s1.held = okDir ⟨0, 1⟩ ∧ (s1.lk 0).held = false ∧ (s1.lk 0).pc = .idle ∧
      orphanSerials (Sys.init cfg) evs1 0 = [1] ∧
      (s2.lk 0).held = false ∧ (s2.lk 0).pc = .idle ∧ (s2.lk 0).nonce = 2 ∧ (s2.lk 0).last = .contention ∧
      orphanSerials (Sys.init cfg) evs2 0 = [1] ∧ s2.held = okDir ⟨2, 1⟩ := by
  decide +kernel

/-- **Witness (finding).**  Locker 0 attempts the free lock; its rename succeeds; the confirming `peek`
raises a transport error: `attempt_lock` fails, `_lock_held` is false, and the lock on disk stays held with
locker 0's info. -/
theorem failed_attempt_witness :
    let s := (Sys.init (fun _ => ⟨1, 1, false⟩)).run
      [.start 0 .attempt, .step 0, .step 0, .step 0, .fault 0 .T]
    (s.lk 0).pc = .idle ∧ (s.lk 0).last = .faultT ∧ (s.lk 0).held = false ∧
      s.held = some (some (.ok ⟨0, 1⟩)) := by
  decide +kernel

/-- `_lock_held` is set only by a confirming peek that reads the locker's own nonce; faults never set it -/
theorem flag_set_only_by_successful_confirm (id : Nat) (cfg : Nat → Cfg) (crashed : Nat → Bool) (me : Locker)
    (held : Option Dir) (k : FaultKind) :
    ((lstep id cfg crashed me held).1.held = true →
      me.held = true ∨ (me.pc = .aConfirm ∧ held = some (some (.ok ⟨id, me.nonce⟩)))) ∧
    (lfault k me).held = me.held := by
  refine ⟨fun h => ?_, lfault_held k me⟩
  rcases (lstep_sound (r := lstep id cfg crashed me held) rfl).flag with h1 | ⟨h1, h2, _⟩ | ⟨_, _, h1⟩
  · exact .inl (h1 ▸ h)
  · exact .inr ⟨h1, h2⟩
  · rw [h1] at h; cases h

/-- a fault at any call of an attempt other than the confirming peek: the failed attempt leaves `held/`
exactly as it was and `_lock_held` false (solo run to completion; `k` = index of the failing call) -/
theorem failed_attempt_solo (s : Sys) (i : Nat) (fk : FaultKind) (k : Nat) (hk : k < 3)
    (hidle : (s.lk i).pc = .idle) (hnh : (s.lk i).held = false) (hal : s.crashed i = false)
    (hsteal : (s.cfg i).steal = false) :
    let evs := [Ev.start i .attempt] ++ List.replicate k (Ev.step i) ++ [Ev.fault i fk] ++
      List.replicate 4 (Ev.step i)
    (s.run evs).held = s.held ∧ ((s.run evs).lk i).held = false ∧ ((s.run evs).lk i).pc = .idle := by
  intro evs
  obtain ⟨h1, h2⟩ := run_solo i evs (by simp [evs, Ev.actBy]) s hal
  rw [h1, h2]
  have hk' : k = 0 ∨ k = 1 ∨ k = 2 := by omega
  rcases hk' with rfl | rfl | rfl
  · simp [evs, soloStep, hidle, hnh, startOp, lstep, lfault, Locker.done]
  · simp [evs, soloStep, hidle, hnh, startOp, lstep, lfault, Locker.done, dropPend]
  · cases s.held with
    | none => simp [evs, soloStep, hidle, hnh, startOp, lstep, lfault, Locker.done, peekDir]
    | some d =>
      cases hp : peekDir (some d) <;>
        simp [evs, soloStep, hidle, hnh, hp, hsteal, startOp, lstep, lfault, Locker.done, dropPend]

/-- non-vacuity of `failed_attempt_solo`: the rename of a contended attempt raises; the attempt cleans up its
pending directory and fails with the other holder's lock untouched -/
example :
    let cfg : Nat → Cfg := fun _ => ⟨1, 1, false⟩
    let s := (Sys.init cfg (some (some (.ok ⟨9, 2⟩))))
    let evs := [Ev.start 0 .attempt] ++ List.replicate 2 (Ev.step 0) ++ [Ev.fault 0 .P] ++ List.replicate 4 (Ev.step 0)
    (s.lk 0).pc = .idle ∧ (s.cfg 0).steal = false ∧ (s.run evs).held = s.held ∧
      ((s.run evs).lk 0).last = .contention ∧ ((s.run evs).lk 0).pend = none ∧ ((s.run evs).lk 0).junk = [] := by
  decide +kernel

/-- **`held/` without an info file is stuck for ever.**  From a lock directory whose `held/` exists but
contains no `info` (it is never *reached*: `crash_recoverable`), whatever any number of lockers do —
attempts, breaks, unlocks, with any faults and crashes — `held/` stays as it is and nobody ever holds the
lock: `peek()` reports "not held" while every rename into place fails. -/
theorem heldNoInfo_unrecoverable (cfg : Nat → Cfg) (evs : List Ev) (j : Nat) :
    ((Sys.init cfg (some none)).run evs).held = some none ∧
      (((Sys.init cfg (some none)).run evs).lk j).held = false := by
  have := List.foldlRecOn (b := Sys.init cfg (some none))
    (motive := fun t => t.held = some none ∧ Quiet t ∧ ∀ j, (t.lk j).held = false) evs _
    ⟨rfl, fun j => ⟨rfl, by simp [Sys.init]⟩, fun _ => rfl⟩ fun t ⟨h1, h2, h3⟩ e _ =>
      let ⟨a, b, c⟩ := stuck_step h1 h2 e
      ⟨a, b, fun j => (c j).trans (h3 j)⟩
  exact ⟨this.1, this.2.2 j⟩

/-- what the two recovery procedures answer there: a complete attempt of any idle live locker ends in
`LockContention` with its pending directory cleaned up, and `break_lock` sees nothing to break -/
theorem heldNoInfo_witness (s : Sys) (i : Nat) (hheld : s.held = some none) (hidle : (s.lk i).pc = .idle)
    (hnh : (s.lk i).held = false) (hal : s.crashed i = false) :
    let sa := s.run ([Ev.start i .attempt] ++ List.replicate 6 (Ev.step i))
    let sb := s.run [Ev.start i .brk, Ev.step i]
    sa.held = some none ∧ (sa.lk i).pc = .idle ∧ (sa.lk i).last = .contention ∧ (sa.lk i).held = false ∧
      (sa.lk i).pend = none ∧
      sb.held = some none ∧ (sb.lk i).pc = .idle ∧ (sb.lk i).last = .nothing := by
  simp [run_solo, Ev.actBy, soloStep, hal, hidle, hnh, hheld, startOp, lstep, peekDir, Locker.done]

example : recoverable (some none) = false ∧ classify (some none) = .heldNoInfo := by decide

/-- **A fault at any call inside the `force_break` of a stealing attempt** (`locks.steal_dead`, the holder is
known dead; `k` = index of the failing call: peek, rename away, read, delete, rmdir): the attempt cleans its
pending directory up and fails, `_lock_held` stays false, and the lock on disk is not the failing locker's — it
is still the dead holder's when the fault came before the rename away, and free afterwards. -/
theorem failed_steal_solo (s : Sys) (i : Nat) (x : Nonce) (fk : FaultKind) (k : Nat) (hk : k < 5)
    (hheld : s.held = okDir x) (hx : x.owner ≠ i)
    (hidle : (s.lk i).pc = .idle) (hnh : (s.lk i).held = false) (hal : s.crashed i = false)
    (hsteal : (s.cfg i).steal = true) (hdead : stealable s.cfg s.crashed i x = true) :
    let evs := [Ev.start i .attempt] ++ List.replicate 4 (Ev.step i) ++ List.replicate k (Ev.step i) ++
      [Ev.fault i fk] ++ List.replicate 2 (Ev.step i)
    ((s.run evs).lk i).held = false ∧ ((s.run evs).lk i).pc = .idle ∧ ((s.run evs).lk i).pend = none ∧
      ownerOf (s.run evs).held ≠ some i ∧
      (k ≤ 1 → (s.run evs).held = s.held) ∧ (2 ≤ k → (s.run evs).held = none) := by
  intro evs
  obtain ⟨h1, h2⟩ := run_solo i evs (by simp [evs, Ev.actBy]) s hal
  rw [h1, h2]
  simp only [okDir] at hheld
  -- up to the decision to steal the dead holder's lock the run is the same for every `k`
  have h5 : ([Ev.start i .attempt] ++ List.replicate 4 (Ev.step i)).foldl (soloStep i s.cfg s.crashed)
      (s.lk i, s.held) =
      ({ s.lk i with pc := .bPeek x true, nonce := (s.lk i).nonce + 1, pend := okDir ⟨i, (s.lk i).nonce + 1⟩ },
        s.held) := by
    simp [soloStep, hidle, hnh, hheld, hsteal, hdead, startOp, lstep, peekDir, okDir]
  simp only [evs, List.foldl_append, h5]
  have hk' : k = 0 ∨ k = 1 ∨ k = 2 ∨ k = 3 ∨ k = 4 := by omega
  rcases hk' with rfl | rfl | rfl | rfl | rfl <;>
    simp [soloStep, hnh, hheld, hx, lstep, lfault, peekDir, okDir, Locker.done, dropTmp, breakErr, ownerOf]

/-- non-vacuity of `failed_steal_solo`: locker 1 took the lock and died; locker 0 (same host and user,
`locks.steal_dead`) steals; the rename away of the dead holder's lock succeeded, the read of the broken
directory raises -/
example :
    let cfg : Nat → Cfg := fun j => ⟨1, 1, j == 0⟩
    let s := (Sys.init cfg).run [.start 1 .attempt, .step 1, .step 1, .step 1, .step 1, .crash 1]
    let evs := [Ev.start 0 .attempt] ++ List.replicate 4 (Ev.step 0) ++ List.replicate 2 (Ev.step 0) ++
      [Ev.fault 0 .T] ++ List.replicate 2 (Ev.step 0)
    s.held = okDir ⟨1, 1⟩ ∧ (s.lk 0).pc = .idle ∧ (s.cfg 0).steal = true ∧
      stealable s.cfg s.crashed 0 ⟨1, 1⟩ = true ∧
      (s.run evs).held = none ∧ ((s.run evs).lk 0).last = .faultT ∧ ((s.run evs).lk 0).junk = [(.B, some (.ok ⟨1, 1⟩))] := by
  decide +kernel

/-- **Every crash point stays recoverable when renames may take effect and then raise** (lost replies, any
number, mixed with every other event; both variants of the contention handler). -/
theorem crash_recoverable_lost (fx : Bool) (cfg : Nat → Cfg) (h0 : Option Dir) (evs : List Ev27)
    (h : recoverable h0 = true) : recoverable (run27 fx (Sys.init cfg h0) evs).held = true :=
  ((RInvW.init cfg h0 h).run27 fx evs).disk

/-- the layer is conservative: without lost replies the extended machine is the machine of C26 -/
theorem run27_base (cfg : Nat → Cfg) (h0 : Option Dir) (evs : List Ev) :
    run27 false (Sys.init cfg h0) (evs.map .base) = (Sys.init cfg h0).run evs :=
  run27_map_base evs (PendOk.init cfg h0)

/-- **Witness (finding).**  Locker 0 attempts the free lock; its rename takes effect but the reply is lost
(the call raises a transport error): the contention handler peeks, finds a live holder — itself — and
raises `LockContention`; `attempt_lock` fails, `_lock_held` is false, and the lock on disk stays held with
locker 0's info. -/
theorem lost_reply_rename_witness :
    let s := run27 false (Sys.init (fun _ => ⟨1, 1, false⟩))
      [.base (.start 0 .attempt), .base (.step 0), .base (.step 0), .lost 0 .T, .base (.step 0), .base (.step 0)]
    (s.lk 0).pc = .idle ∧ (s.lk 0).last = .contention ∧ (s.lk 0).held = false ∧
      s.held = some (some (.ok ⟨0, 1⟩)) := by
  decide +kernel

/-- with a contention handler that recognises its own current nonce the same schedule ends with the lock
held: mkdir, put, rename (reply lost), peek, confirming peek -/
theorem lost_reply_rename_fixed (s : Sys) (i : Nat) (k : FaultKind) (hfree : s.held = none)
    (hidle : (s.lk i).pc = .idle) (hal : s.crashed i = false) :
    let evs : List Ev27 := [.base (.start i .attempt), .base (.step i), .base (.step i), .lost i k,
      .base (.step i), .base (.step i)]
    ((run27 true s evs).lk i).held = true ∧ ((run27 true s evs).lk i).last = .ok ∧
      ownerOf (run27 true s evs).held = some i := by
  simp [run27, step27, lostReply, Sys.step, hal, hidle, hfree, startOp, lstep, peekDir, Locker.done, ownerOf]

/-- a lost reply of the rename in `unlock`: the lock is free, the `releasing.*` directory stays behind, and
the locker still believes it holds the lock (`_lock_held = False` comes after the rename) -/
example :
    let s := run27 false (Sys.init (fun _ => ⟨1, 1, false⟩))
      ([.start 0 .attempt, .step 0, .step 0, .step 0, .step 0, .start 0 .unlock, .step 0].map .base ++ [.lost 0 .P])
    s.held = none ∧ (s.lk 0).held = true ∧ (s.lk 0).last = .swallowed ∧ (s.lk 0).junk = [(.R, some (.ok ⟨0, 1⟩))] := by
  decide +kernel

end BreezyVerif.C27
