import BreezyVerif.Lemmas.C30Serve
/-!
C30 — a smart server never waits for bytes beyond the current request.

For each decoder (state machines of Model/C29.lean, `nextReadSize` = `next_read_size()`):

* `*_hint_bound` (encoder independent, EVERY resting state `s`, EVERY continuation `q`):
  if feeding `q` completes the message, then `1 ≤ nextReadSize s` and
  `nextReadSize s + |unused_data afterwards| ≤ |q|` — the hint never reaches past
  the end of the current message, whatever the message is;
* `*_no_overread`: while a well-formed message is delivered in arbitrary reads, in
  every state reached, hint ∈ [1, bytes of the message not yet delivered], and the
  loop's exit test (`finished_reading` / hint = 0) is false;
* `*_done_exactly_at_end`: the exit test is true once the whole message has arrived;
* `*_loop_consumes_exactly`: the reading loop (`_serve_one_request_unguarded`,
  `_read_more`, `read_body_bytes`, `read_streamed_body`) under EVERY short-read
  schedule never blocks, terminates, and has consumed exactly the message.

Unbounded: all messages, all read patterns, all schedules.
-/
namespace BreezyVerif.C30
open BreezyVerif.C29

/-! ## LengthPrefixedBodyDecoder (client `read_body_bytes`, v1/v2 request bodies) -/

theorem lp_hint_bound (s : LP) (q : Bytes) (hwf : lpWf s) (hnf : s.finished = false)
    (hfin : (s.feed q).finished = true) :
    1 ≤ s.nextReadSize ∧ s.nextReadSize + ((s.feed q).unused.length : Int) ≤ q.length :=
  (lpLaws.hint s q hwf hnf hfin).2

theorem lp_complete (body : Bytes) : Complete lpMachine lpWf LP.init (lpEncode body) := by
  refine .of lpLaws lpWf_init ?_
  rw [show lpMachine.feed = LP.feed from rfl, lp_feed_encode]
  exact ⟨rfl, rfl⟩

theorem lp_no_overread (body : Bytes) (segs : List Bytes) (q : Bytes)
    (hw : segs.flatten ++ q = lpEncode body) (hq : q ≠ []) :
    (feedAll LP.feed LP.init segs).finished = false ∧
    1 ≤ (feedAll LP.feed LP.init segs).nextReadSize ∧
    (feedAll LP.feed LP.init segs).nextReadSize ≤ q.length :=
  (lp_complete body).no_overread segs q hw hq

theorem lp_done_exactly_at_end (body : Bytes) (segs : List Bytes) (hne : segs ≠ [])
    (hw : segs.flatten = lpEncode body) : (feedAll LP.feed LP.init segs).finished = true :=
  (lp_complete body).stops_at_end segs hne hw

theorem lp_loop_consumes_exactly (body : Bytes) (sched : Nat → Nat) (i : Nat)
    (segs : List Bytes) (q : Bytes) (hw : segs.flatten ++ q = lpEncode body) (hq : q ≠ []) :
    pipeLoop lpMachine sched (q.length + 1) i (feedAll LP.feed LP.init segs) q
      = .finished (.done body []) [] := by
  rw [← lp_feed_encode body]
  exact (lp_complete body).loop sched i segs q hw hq

example : lpWf (.readingBody 3 [1]) ∧ (LP.readingBody 3 [1]).finished = false ∧
    ((LP.readingBody 3 [1]).feed [7, 8, 9, 100, 111, 110, 101, 10, 55]).finished = true :=
  ⟨by simp [lpWf], by decide, by decide⟩

/-! ## ChunkedBodyDecoder (client `read_streamed_body`) -/

theorem ck_hint_bound (s : CK) (q : Bytes) (hwf : ckWf s) (hnf : s.finished = false)
    (hfin : (s.feed q).finished = true) :
    1 ≤ s.nextReadSize ∧ s.nextReadSize + ((s.feed q).unused.length : Int) ≤ q.length :=
  (ckLaws.hint s q hwf hnf hfin).2

theorem ck_complete (chunks : List Bytes) (err : Option (List Bytes)) :
    Complete ckMachine ckWf CK.init (ckEncode chunks err) := by
  refine .of ckLaws ckWf_init ?_
  rw [show ckMachine.feed = CK.feed from rfl, ck_feed_encode]
  exact ⟨rfl, rfl⟩

theorem ck_no_overread (chunks : List Bytes) (err : Option (List Bytes)) (segs : List Bytes)
    (q : Bytes) (hw : segs.flatten ++ q = ckEncode chunks err) (hq : q ≠ []) :
    (feedAll CK.feed CK.init segs).finished = false ∧
    1 ≤ (feedAll CK.feed CK.init segs).nextReadSize ∧
    (feedAll CK.feed CK.init segs).nextReadSize ≤ q.length :=
  (ck_complete chunks err).no_overread segs q hw hq

theorem ck_done_exactly_at_end (chunks : List Bytes) (err : Option (List Bytes))
    (segs : List Bytes) (hne : segs ≠ []) (hw : segs.flatten = ckEncode chunks err) :
    (feedAll CK.feed CK.init segs).finished = true :=
  (ck_complete chunks err).stops_at_end segs hne hw

theorem ck_loop_consumes_exactly (chunks : List Bytes) (err : Option (List Bytes))
    (sched : Nat → Nat) (i : Nat) (segs : List Bytes) (q : Bytes)
    (hw : segs.flatten ++ q = ckEncode chunks err) (hq : q ≠ []) :
    pipeLoop ckMachine sched (q.length + 1) i (feedAll CK.feed CK.init segs) q
      = .finished (.done (ckExpected chunks err) []) [] := by
  rw [← ck_feed_encode chunks err]
  exact (ck_complete chunks err).loop sched i segs q hw hq

example : ckWf (.expectingLength [49] .empty) ∧
    ((CK.expectingLength [49] .empty).feed [10, 97, 69, 78, 68, 10]).finished = true :=
  ⟨by simp [ckWf], by decide +kernel⟩

/-! ## ProtocolThreeDecoder (server pipe medium; client `_read_more`)

`v3_hint_bound` is the framing-level bound.  The server's decoder additionally gives up
(`decoding_failed`, hint 0) when a header / structure payload does not bdecode (`okH`, `okS`
— arbitrary predicates here, instantiated with a model of fastbencode in the driver); on
the client the message handler raising (`isSeq`, `Resp.run`) ends the loop as well.  The
theorems below are about those guarded machines and state the conditions explicitly. -/

theorem v3_hint_bound (s : V3) (q : Bytes) (hwf : v3Wf s) (hnf : s.finished = false)
    (hfin : (s.feed q).finished = true) :
    1 ≤ s.nextReadSize ∧ s.nextReadSize + ((s.feed q).unused.length : Int) ≤ q.length :=
  (v3Laws.hint s q hwf hnf hfin).2

/-- server: whatever state the decoder rests in and whatever continuation `q` completes the
message with all checks passing, the hint is ≥ 1 and stays inside the message -/
theorem v3s_hint_bound (okH okS : Bytes → Bool) (s : V3) (q : Bytes) (hwf : v3Wf s)
    (hnf : (v3gMachine okH okS).fin s = false)
    (hfin : (v3gMachine okH okS).fin (s.feed q) = true) :
    1 ≤ (v3gMachine okH okS).nrs s ∧
      (v3gMachine okH okS).nrs s + ((s.feed q).unused.length : Int) ≤ q.length :=
  ((v3gLaws okH okS).hint s q hwf hnf hfin).2

theorem v3s_complete (okH okS : Bytes → Bool) (headers : Bytes) (parts : List Part)
    (hh : headers.length < 4294967296) (hp : V3.partsOk parts = true)
    (hH : okH headers = true) (hS : parts.all (fun p => evOk okH okS p.ev) = true) :
    (v3gMachine okH okS).fin ((v3gMachine okH okS).feed (V3.init false) (v3EncodeBody headers parts)) = true ∧
    (v3gMachine okH okS).unused ((v3gMachine okH okS).feed (V3.init false) (v3EncodeBody headers parts)) = [] := by
  simp only [v3gMachine, guardMachine, v3Machine, v3_feed_encodeBody headers parts hh hp,
    v3Ok_done okH okS headers parts [] hH hS, V3.finished, V3.unused, Bool.and_self, and_self]

theorem v3s_message (okH okS : Bytes → Bool) (headers : Bytes) (parts : List Part)
    (hh : headers.length < 4294967296) (hp : V3.partsOk parts = true)
    (hH : okH headers = true) (hS : parts.all (fun p => evOk okH okS p.ev) = true) :
    Complete (v3gMachine okH okS) v3Wf (V3.init false) (v3EncodeBody headers parts) :=
  .of (v3gLaws okH okS) (v3Wf_init false) (v3s_complete okH okS headers parts hh hp hH hS)

/-- server side (the medium has consumed the version marker) -/
theorem v3s_no_overread (okH okS : Bytes → Bool) (headers : Bytes) (parts : List Part)
    (hh : headers.length < 4294967296) (hp : V3.partsOk parts = true)
    (hH : okH headers = true) (hS : parts.all (fun p => evOk okH okS p.ev) = true)
    (segs : List Bytes) (q : Bytes) (hw : segs.flatten ++ q = v3EncodeBody headers parts)
    (hq : q ≠ []) :
    (v3gMachine okH okS).nrs (feedAll V3.feed (V3.init false) segs) ≠ 0 ∧
    1 ≤ (v3gMachine okH okS).nrs (feedAll V3.feed (V3.init false) segs) ∧
    (v3gMachine okH okS).nrs (feedAll V3.feed (V3.init false) segs) ≤ q.length := by
  obtain ⟨_, h1, h2⟩ := (v3s_message okH okS headers parts hh hp hH hS).no_overread segs q hw hq
  exact ⟨by intro h; rw [show (v3gMachine okH okS).feed = V3.feed from rfl] at h1; omega, h1, h2⟩

theorem v3s_zero_exactly_at_end (okH okS : Bytes → Bool) (headers : Bytes) (parts : List Part)
    (hh : headers.length < 4294967296) (hp : V3.partsOk parts = true)
    (hH : okH headers = true) (hS : parts.all (fun p => evOk okH okS p.ev) = true)
    (segs : List Bytes) (hne : segs ≠ []) (hw : segs.flatten = v3EncodeBody headers parts) :
    (v3gMachine okH okS).nrs (feedAll V3.feed (V3.init false) segs) = 0 := by
  have hfin := (v3s_message okH okS headers parts hh hp hH hS).fin_at_end segs hne hw
  simp only [v3gMachine, guardMachine, v3Machine, Bool.and_eq_true] at hfin ⊢
  rw [hfin.2]
  cases hs : feedAll V3.feed (V3.init false) segs with
  | done evs u => rfl
  | run t b e n => rw [hs] at hfin; simp [V3.finished] at hfin
  | failed e x => rw [hs] at hfin; simp [V3.finished] at hfin

theorem v3s_loop_consumes_exactly (okH okS : Bytes → Bool) (headers : Bytes) (parts : List Part)
    (hh : headers.length < 4294967296) (hp : V3.partsOk parts = true)
    (hH : okH headers = true) (hS : parts.all (fun p => evOk okH okS p.ev) = true)
    (sched : Nat → Nat) (i : Nat) (segs : List Bytes) (q : Bytes)
    (hw : segs.flatten ++ q = v3EncodeBody headers parts) (hq : q ≠ []) :
    pipeLoop (v3gMachine okH okS) sched (q.length + 1) i (feedAll V3.feed (V3.init false) segs) q
      = .finished (.done (.headers headers :: (parts.map Part.ev ++ [.end_])) []) [] := by
  have := (v3s_message okH okS headers parts hh hp hH hS).loop sched i segs q hw hq
  rw [show (v3gMachine okH okS).feed (V3.init false) (v3EncodeBody headers parts) = _ from
    v3_feed_encodeBody headers parts hh hp] at this
  exact this

/-- WHY the conditions are needed (model = code): a structure part whose payload does not
bdecode makes the server's decoder give up as soon as that part has arrived — the hint is
0 and the loop returns with the rest `r` of the message unread, for every `r`. -/
theorem v3s_undecodable_stops_early (okH okS : Bytes → Bool) (headers raw : Bytes)
    (parts : List Part) (hh : headers.length < 4294967296) (hp : V3.partsOk parts = true)
    (hr : raw.length < 4294967296) (hbad : okS raw = false)
    (sched : Nat → Nat) (fuel i : Nat) (r : Bytes) :
    let s := V3.feed (V3.init false)
      (be32 headers.length ++ headers ++ encodeParts (parts ++ [Part.struct raw]))
    (v3gMachine okH okS).nrs s = 0 ∧
      pipeLoop (v3gMachine okH okS) sched (fuel + 1) i s r = .finished s r := by
  intro s
  have hs : s = .run .part [] (.headers headers :: (parts ++ [Part.struct raw]).map Part.ev) 1 := by
    have hp' : V3.partsOk (parts ++ [Part.struct raw]) = true := by
      simp only [V3.partsOk, List.all_append, List.all_cons, List.all_nil, Bool.and_true,
        Bool.and_eq_true, decide_eq_true_eq] at hp ⊢
      exact ⟨hp, hr⟩
    show V3.feed (V3.init false) _ = _
    simp only [V3.init, Bool.false_eq_true, if_false, V3.feed_run, List.nil_append,
      List.append_assoc]
    rw [V3.proc_lp_inr (tag := .headers) rfl _ (V3.extractLP_encode headers _ hh)]
    have := V3.proc_parts (parts ++ [Part.struct raw]) [] ([] ++ [V3.lpEv .headers headers]) hp'
    rw [List.append_nil] at this
    rw [this, V3.proc_part_nil]
    rfl
  have hok : v3Ok okH okS s = false := by
    rw [hs]
    simp [v3Ok, V3.events, Part.ev, evOk, hbad]
  obtain ⟨h1, h2, _⟩ := guard_stops v3Machine (v3Ok okH okS) s hok
  refine ⟨h1, ?_⟩
  unfold pipeLoop
  rw [show (v3gMachine okH okS).stop s = true from h2]
  rfl

/-- client side: the decoder expects the version marker itself; the response handler must
accept the parts (`Resp.run`) and every structure must be a sequence -/
theorem v3c_complete (okH okS isSeq : Bytes → Bool) (fx : Bool) (headers : Bytes) (parts : List Part)
    (hh : headers.length < 4294967296) (hp : V3.partsOk parts = true)
    (hH : okH headers = true) (hS : parts.all (fun p => evOk okH okS p.ev) = true)
    (hQ : parts.all (fun p => evOk (fun _ => true) isSeq p.ev) = true)
    (hR : (Resp.run fx {} (.headers headers :: (parts.map Part.ev ++ [.end_]))).toBool = true) :
    (v3cMachine okH okS isSeq fx).fin (V3.feed (V3.init true) (v3Encode headers parts)) = true ∧
    (V3.feed (V3.init true) (v3Encode headers parts)).unused = [] := by
  rw [v3_feed_encode headers parts hh hp]
  refine ⟨?_, rfl⟩
  simp only [v3cMachine, guardMachine, v3Machine, V3.finished, Bool.true_and, v3cOk,
    v3Ok_done okH okS headers parts [] hH hS, v3Ok_done (fun _ => true) isSeq headers parts [] rfl hQ,
    V3.events]
  revert hR
  cases Resp.run fx {} (.headers headers :: (parts.map Part.ev ++ [.end_])) <;> simp [Except.toBool]

theorem v3c_message (okH okS isSeq : Bytes → Bool) (fx : Bool) (headers : Bytes) (parts : List Part)
    (hh : headers.length < 4294967296) (hp : V3.partsOk parts = true)
    (hH : okH headers = true) (hS : parts.all (fun p => evOk okH okS p.ev) = true)
    (hQ : parts.all (fun p => evOk (fun _ => true) isSeq p.ev) = true)
    (hR : (Resp.run fx {} (.headers headers :: (parts.map Part.ev ++ [.end_]))).toBool = true) :
    Complete (v3cMachine okH okS isSeq fx) v3Wf (V3.init true) (v3Encode headers parts) :=
  .of (v3cLaws okH okS isSeq fx) (v3Wf_init true)
    (v3c_complete okH okS isSeq fx headers parts hh hp hH hS hQ hR)

theorem v3c_no_overread (okH okS isSeq : Bytes → Bool) (fx : Bool) (headers : Bytes) (parts : List Part)
    (hh : headers.length < 4294967296) (hp : V3.partsOk parts = true)
    (hH : okH headers = true) (hS : parts.all (fun p => evOk okH okS p.ev) = true)
    (hQ : parts.all (fun p => evOk (fun _ => true) isSeq p.ev) = true)
    (hR : (Resp.run fx {} (.headers headers :: (parts.map Part.ev ++ [.end_]))).toBool = true)
    (segs : List Bytes) (q : Bytes) (hw : segs.flatten ++ q = v3Encode headers parts)
    (hq : q ≠ []) :
    (v3cMachine okH okS isSeq fx).stop (feedAll V3.feed (V3.init true) segs) = false ∧
    1 ≤ (v3cMachine okH okS isSeq fx).nrs (feedAll V3.feed (V3.init true) segs) ∧
    (v3cMachine okH okS isSeq fx).nrs (feedAll V3.feed (V3.init true) segs) ≤ q.length :=
  (v3c_message okH okS isSeq fx headers parts hh hp hH hS hQ hR).no_overread segs q hw hq

theorem v3c_zero_exactly_at_end (okH okS isSeq : Bytes → Bool) (fx : Bool) (headers : Bytes) (parts : List Part)
    (hh : headers.length < 4294967296) (hp : V3.partsOk parts = true)
    (hH : okH headers = true) (hS : parts.all (fun p => evOk okH okS p.ev) = true)
    (hQ : parts.all (fun p => evOk (fun _ => true) isSeq p.ev) = true)
    (hR : (Resp.run fx {} (.headers headers :: (parts.map Part.ev ++ [.end_]))).toBool = true)
    (segs : List Bytes) (hne : segs ≠ []) (hw : segs.flatten = v3Encode headers parts) :
    (v3cMachine okH okS isSeq fx).stop (feedAll V3.feed (V3.init true) segs) = true ∧
    (v3cMachine okH okS isSeq fx).fin (feedAll V3.feed (V3.init true) segs) = true :=
  have C := v3c_message okH okS isSeq fx headers parts hh hp hH hS hQ hR
  ⟨C.stops_at_end segs hne hw, C.fin_at_end segs hne hw⟩

theorem v3c_loop_consumes_exactly (okH okS isSeq : Bytes → Bool) (fx : Bool) (headers : Bytes) (parts : List Part)
    (hh : headers.length < 4294967296) (hp : V3.partsOk parts = true)
    (hH : okH headers = true) (hS : parts.all (fun p => evOk okH okS p.ev) = true)
    (hQ : parts.all (fun p => evOk (fun _ => true) isSeq p.ev) = true)
    (hR : (Resp.run fx {} (.headers headers :: (parts.map Part.ev ++ [.end_]))).toBool = true)
    (sched : Nat → Nat) (i : Nat) (segs : List Bytes) (q : Bytes)
    (hw : segs.flatten ++ q = v3Encode headers parts) (hq : q ≠ []) :
    pipeLoop (v3cMachine okH okS isSeq fx) sched (q.length + 1) i (feedAll V3.feed (V3.init true) segs) q
      = .finished (V3.feed (V3.init true) (v3Encode headers parts)) [] :=
  (v3c_message okH okS isSeq fx headers parts hh hp hH hS hQ hR).loop sched i segs q hw hq

/-- WHY the handler conditions are needed on the client: in whatever state the response
handler has rejected the parts seen so far (`protocol_error` re-raises out of `_read_more`),
the loop is over, with everything not yet read (`r`) left on the pipe. -/
theorem v3c_rejected_stops_early (okH okS isSeq : Bytes → Bool) (fx : Bool) (s : V3)
    (hbad : (Resp.run fx {} s.events).toBool = false)
    (sched : Nat → Nat) (fuel i : Nat) (r : Bytes) :
    pipeLoop (v3cMachine okH okS isSeq fx) sched (fuel + 1) i s r = .finished s r ∧
      (v3cMachine okH okS isSeq fx).fin s = false := by
  have hok : v3cOk okH okS isSeq fx s = false := by simp [v3cOk, hbad]
  obtain ⟨_, h2, h3⟩ := guard_stops v3Machine (v3cOk okH okS isSeq fx) s hok
  refine ⟨?_, h3⟩
  unfold pipeLoop
  rw [show (v3cMachine okH okS isSeq fx).stop s = true from h2]
  rfl

/-- such a state is reachable: a response with two status bytes (`oS oS`) -/
example : (Resp.run true {} (V3.feed (V3.init true)
    (marker3 ++ [0, 0, 0, 2, 100, 101, 111, 83, 111, 83])).events).toBool = false := by decide +kernel

example : v3Wf (.run .bytes [0, 0, 0, 2, 9] [] 6) ∧
    ((V3.run .bytes [0, 0, 0, 2, 9] [] 6).feed [9, 101]).finished = true :=
  ⟨by show extractLP _ = _; decide, by decide +kernel⟩

/-- the conditions are satisfiable with the driver's bencode model: headers `de`, a success
response `oS` + `l2:oke` + one body part -/
example : bencIsDict [100, 101] = true ∧
    ([Part.byte 83, .struct [108, 50, 58, 111, 107, 101], .bytes [1, 2]].all
      (fun p => evOk bencIsDict bencValid p.ev) = true) ∧
    ([Part.byte 83, .struct [108, 50, 58, 111, 107, 101], .bytes [1, 2]].all
      (fun p => evOk (fun _ => true) bencIsList p.ev) = true) ∧
    (Resp.run true {} (.headers [100, 101] ::
      ([Part.byte 83, .struct [108, 50, 58, 111, 107, 101], .bytes [1, 2]].map Part.ev ++ [.end_]))).toBool = true :=
  ⟨by decide +kernel, by decide +kernel, by decide +kernel, by decide +kernel⟩

/-- … and can fail: `x` is not bencode, so `v3s_undecodable_stops_early` applies -/
example : bencValid [120] = false := by decide +kernel

/-! ## protocol 1 / 2 server (`SmartServerRequestProtocolOne.next_read_size`) -/

theorem req_hint_bound (w : List Bytes → Bool) (s : Req) (q : Bytes) (hwf : reqWf s)
    (hnf : s.finished = false) (hfin : (s.feed w q).finished = true) :
    1 ≤ s.nextReadSize ∧ s.nextReadSize + ((s.feed w q).unused.length : Int) ≤ q.length :=
  ((reqLaws w).hint s q hwf hnf hfin).2

theorem req_complete (w : List Bytes → Bool) (args : List Bytes) (body : Option Bytes)
    (hok : Req.argsOk args = true) (hw : w args = body.isSome) :
    Complete (reqMachine w) reqWf (.line []) (reqEncode args body) := by
  refine .of (reqLaws w) reqWf_init ?_
  rw [show (reqMachine w).feed = Req.feed w from rfl, req_feed_encode w args body hok hw]
  exact ⟨rfl, rfl⟩

theorem req_no_overread (w : List Bytes → Bool) (args : List Bytes) (body : Option Bytes)
    (hok : Req.argsOk args = true) (hwb : w args = body.isSome)
    (segs : List Bytes) (q : Bytes) (hw : segs.flatten ++ q = reqEncode args body) (hq : q ≠ []) :
    (feedAll (Req.feed w) (.line []) segs).nextReadSize ≠ 0 ∧
    1 ≤ (feedAll (Req.feed w) (.line []) segs).nextReadSize ∧
    (feedAll (Req.feed w) (.line []) segs).nextReadSize ≤ q.length := by
  obtain ⟨h0, h1, h2⟩ := (req_complete w args body hok hwb).no_overread segs q hw hq
  exact ⟨ne_of_beq_false h0, h1, h2⟩

theorem req_zero_exactly_at_end (w : List Bytes → Bool) (args : List Bytes) (body : Option Bytes)
    (hok : Req.argsOk args = true) (hwb : w args = body.isSome)
    (segs : List Bytes) (hne : segs ≠ []) (hw : segs.flatten = reqEncode args body) :
    (feedAll (Req.feed w) (.line []) segs).nextReadSize = 0 :=
  eq_of_beq ((req_complete w args body hok hwb).stops_at_end segs hne hw)

theorem req_loop_consumes_exactly (w : List Bytes → Bool) (args : List Bytes) (body : Option Bytes)
    (hok : Req.argsOk args = true) (hwb : w args = body.isSome)
    (sched : Nat → Nat) (i : Nat) (segs : List Bytes) (q : Bytes)
    (hw : segs.flatten ++ q = reqEncode args body) (hq : q ≠ []) :
    pipeLoop (reqMachine w) sched (q.length + 1) i (feedAll (Req.feed w) (.line []) segs) q
      = .finished (.done args body []) [] := by
  rw [← req_feed_encode w args body hok hwb]
  exact (req_complete w args body hok hwb).loop sched i segs q hw hq

example : reqWf (.line [104]) ∧ ((Req.line [104]).feed (fun _ => false) [105, 10]).finished = true :=
  ⟨by simp [reqWf], by decide⟩

/-! ## a whole request on the server's pipe: `_build_protocol` + `_serve_one_request_unguarded`

`serveMachine`: `_get_line` (`read_bytes(1)` until the newline), dispatch on the line
(v3 marker / v2 marker / a protocol 1 argument line, which is re-fed to the decoder), then
the loop on the chosen decoder.  `WellFormedRequest` (Lemmas/C30Serve.lean) = what the real
client encoders of the three protocol versions write. -/

theorem serve_message {w : List Bytes → Bool} {okH okS : Bytes → Bool} {msg : Bytes}
    (hm : WellFormedRequest w okH okS msg) :
    Complete (serveMachine w okH okS) serveWf serveInit msg :=
  .of (serveLaws w okH okS) serveWf_init (serve_complete hm)

theorem serve_no_overread (w : List Bytes → Bool) (okH okS : Bytes → Bool) (msg : Bytes)
    (hm : WellFormedRequest w okH okS msg)
    (segs : List Bytes) (q : Bytes) (hw : segs.flatten ++ q = msg) (hq : q ≠ []) :
    let s := feedAll (serveMachine w okH okS).feed serveInit segs
    (serveMachine w okH okS).stop s = false ∧ 1 ≤ (serveMachine w okH okS).nrs s ∧
      (serveMachine w okH okS).nrs s ≤ q.length :=
  (serve_message hm).no_overread segs q hw hq

theorem serve_done_exactly_at_end (w : List Bytes → Bool) (okH okS : Bytes → Bool) (msg : Bytes)
    (hm : WellFormedRequest w okH okS msg)
    (segs : List Bytes) (hne : segs ≠ []) (hw : segs.flatten = msg) :
    (serveMachine w okH okS).stop (feedAll (serveMachine w okH okS).feed serveInit segs) = true ∧
    (serveMachine w okH okS).fin (feedAll (serveMachine w okH okS).feed serveInit segs) = true :=
  ⟨(serve_message hm).stops_at_end segs hne hw, (serve_message hm).fin_at_end segs hne hw⟩

/-- the server reads exactly the request, whatever the version, under every short-read
schedule, starting from the very first byte (the line reader included); nothing is left to
push back, so the next request on the same pipe starts on its own first byte -/
theorem serve_loop_consumes_exactly (w : List Bytes → Bool) (okH okS : Bytes → Bool) (msg : Bytes)
    (hm : WellFormedRequest w okH okS msg)
    (sched : Nat → Nat) (i : Nat) (segs : List Bytes) (q : Bytes)
    (hw : segs.flatten ++ q = msg) (hq : q ≠ []) :
    pipeLoop (serveMachine w okH okS) sched (q.length + 1) i
        (feedAll (serveMachine w okH okS).feed serveInit segs) q
      = .finished ((serveMachine w okH okS).feed serveInit msg) [] ∧
    (serveMachine w okH okS).fin ((serveMachine w okH okS).feed serveInit msg) = true ∧
    (serveMachine w okH okS).unused ((serveMachine w okH okS).feed serveInit msg) = [] :=
  ⟨(serve_message hm).loop sched i segs q hw hq, serve_complete hm⟩

/-- the same with the medium's cap on every read (`min(hint, _MAX_READ_SIZE)`), any cap ≥ 1 -/
theorem serve_capped_loop_consumes_exactly (w : List Bytes → Bool) (okH okS : Bytes → Bool)
    (cap : Nat) (hc : 1 ≤ cap) (msg : Bytes) (hm : WellFormedRequest w okH okS msg)
    (sched : Nat → Nat) (i : Nat) (segs : List Bytes) (q : Bytes)
    (hw : segs.flatten ++ q = msg) (hq : q ≠ []) :
    pipeLoop (capMachine (serveMachine w okH okS) cap) sched (q.length + 1) i
        (feedAll (serveMachine w okH okS).feed serveInit segs) q
      = .finished ((serveMachine w okH okS).feed serveInit msg) [] :=
  ((serve_message hm).cap cap hc).loop sched i segs q hw hq

/-- the client hangs up inside a request: the server reads what was sent, gets EOF, and has
not reported completion at any point (no request is dispatched twice / half) -/
theorem serve_truncated_eof (w : List Bytes → Bool) (okH okS : Bytes → Bool) (msg : Bytes)
    (hm : WellFormedRequest w okH okS msg)
    (sched : Nat → Nat) (i : Nat) (segs : List Bytes) (avail q : Bytes)
    (hw : segs.flatten ++ (avail ++ q) = msg) (hq : q ≠ []) :
    ∃ s', pipeLoopEof (serveMachine w okH okS) sched (avail.length + 1) i
        (feedAll (serveMachine w okH okS).feed serveInit segs) avail = .eof s' ∧
      (serveMachine w okH okS).stop s' = false ∧ (serveMachine w okH okS).fin s' = false :=
  (serve_message hm).eof sched i segs avail q hw hq

example : WellFormedRequest (fun _ => false) bencIsDict bencValid
    (v3Encode [100, 101] [.struct [108, 53, 58, 104, 101, 108, 108, 111, 101]]) :=
  .v3 _ _ (by decide) (by decide) (by decide +kernel) (by decide +kernel)
example : WellFormedRequest (fun _ => true) bencIsDict bencValid
    (request2 ++ reqEncode [[104, 105]] (some [1, 2, 3])) :=
  .v2 _ _ (by decide) rfl
example : WellFormedRequest (fun _ => false) bencIsDict bencValid (reqEncode [[104, 105]] none) :=
  .v1 _ _ (by decide) rfl (by decide) (by decide)

/-! ## client, protocol 1 / 2: `read_response_tuple` (`read_line`s) then the body reader -/

theorem client1_no_overread (bk : BodyKind) (msg : Bytes) (hm : WellFormedResponse1 bk msg)
    (segs : List Bytes) (q : Bytes) (hw : segs.flatten ++ q = msg) (hq : q ≠ []) :
    let s := feedAll (client1 bk).feed client1Init segs
    (client1 bk).stop s = false ∧ 1 ≤ (client1 bk).nrs s ∧ (client1 bk).nrs s ≤ q.length :=
  (client1_complete hm).no_overread segs q hw hq

theorem client1_loop_consumes_exactly (bk : BodyKind) (cap : Nat) (hc : 1 ≤ cap) (msg : Bytes)
    (hm : WellFormedResponse1 bk msg)
    (sched : Nat → Nat) (i : Nat) (segs : List Bytes) (q : Bytes)
    (hw : segs.flatten ++ q = msg) (hq : q ≠ []) :
    pipeLoop (client1 bk) sched (q.length + 1) i (feedAll (client1 bk).feed client1Init segs) q
      = .finished ((client1 bk).feed client1Init msg) [] ∧
    pipeLoop (capMachine (client1 bk) cap) sched (q.length + 1) i
        (feedAll (client1 bk).feed client1Init segs) q
      = .finished ((client1 bk).feed client1Init msg) [] ∧
    (client1 bk).fin ((client1 bk).feed client1Init msg) = true :=
  have C := client1_complete hm
  ⟨C.loop sched i segs q hw hq, (C.cap cap hc).loop sched i segs q hw hq, C.fin⟩

theorem client2_no_overread (bk : BodyKind) (msg : Bytes) (hm : WellFormedResponse2 bk msg)
    (segs : List Bytes) (q : Bytes) (hw : segs.flatten ++ q = msg) (hq : q ≠ []) :
    let s := feedAll (client2 bk).feed client2Init segs
    (client2 bk).stop s = false ∧ 1 ≤ (client2 bk).nrs s ∧ (client2 bk).nrs s ≤ q.length :=
  (client2_complete hm).no_overread segs q hw hq

theorem client2_loop_consumes_exactly (bk : BodyKind) (cap : Nat) (hc : 1 ≤ cap) (msg : Bytes)
    (hm : WellFormedResponse2 bk msg)
    (sched : Nat → Nat) (i : Nat) (segs : List Bytes) (q : Bytes)
    (hw : segs.flatten ++ q = msg) (hq : q ≠ []) :
    pipeLoop (client2 bk) sched (q.length + 1) i (feedAll (client2 bk).feed client2Init segs) q
      = .finished ((client2 bk).feed client2Init msg) [] ∧
    pipeLoop (capMachine (client2 bk) cap) sched (q.length + 1) i
        (feedAll (client2 bk).feed client2Init segs) q
      = .finished ((client2 bk).feed client2Init msg) [] ∧
    (client2 bk).fin ((client2 bk).feed client2Init msg) = true :=
  have C := client2_complete hm
  ⟨C.loop sched i segs q hw hq, (C.cap cap hc).loop sched i segs q hw hq, C.fin⟩

/-- the server dies inside a response: the client's loop ends in EOF (`ConnectionResetError`)
without having reported a complete response -/
theorem client_truncated_eof (bk : BodyKind) (msg : Bytes)
    (sched : Nat → Nat) (i : Nat) (avail q : Bytes) (hw : avail ++ q = msg) (hq : q ≠ []) :
    (WellFormedResponse1 bk msg →
      ∃ s', pipeLoopEof (client1 bk) sched (avail.length + 1) i client1Init avail = .eof s' ∧
        (client1 bk).fin s' = false) ∧
    (WellFormedResponse2 bk msg →
      ∃ s', pipeLoopEof (client2 bk) sched (avail.length + 1) i client2Init avail = .eof s' ∧
        (client2 bk).fin s' = false) := by
  constructor
  · intro hm
    obtain ⟨s', h1, _, h3⟩ := (client1_complete hm).eof sched i [] avail q hw hq
    exact ⟨s', h1, h3⟩
  · intro hm
    obtain ⟨s', h1, _, h3⟩ := (client2_complete hm).eof sched i [] avail q hw hq
    exact ⟨s', h1, h3⟩

example : WellFormedResponse2 .bulk
    (response2 ++ ([115, 117, 99, 99, 101, 115, 115] ++ 10 :: ([111, 107] ++ 10 :: lpEncode [7, 7]))) :=
  .mk _ _ _ (by decide) (by decide) (.bulk _)
example : WellFormedResponse1 .none ([111, 107] ++ 10 :: []) := .mk _ _ (by decide) .none

/-! ## the peer closes the pipe inside a message: the body / v3 readers never report completion -/

theorem lp_truncated_eof (body : Bytes) (sched : Nat → Nat) (i : Nat) (segs : List Bytes)
    (avail q : Bytes) (hw : segs.flatten ++ (avail ++ q) = lpEncode body) (hq : q ≠ []) :
    ∃ s', pipeLoopEof lpMachine sched (avail.length + 1) i (feedAll LP.feed LP.init segs) avail
        = .eof s' ∧ s'.finished = false := by
  obtain ⟨s', h1, _, h3⟩ := (lp_complete body).eof sched i segs avail q hw hq
  exact ⟨s', h1, h3⟩

theorem ck_truncated_eof (chunks : List Bytes) (err : Option (List Bytes)) (sched : Nat → Nat)
    (i : Nat) (segs : List Bytes) (avail q : Bytes)
    (hw : segs.flatten ++ (avail ++ q) = ckEncode chunks err) (hq : q ≠ []) :
    ∃ s', pipeLoopEof ckMachine sched (avail.length + 1) i (feedAll CK.feed CK.init segs) avail
        = .eof s' ∧ s'.finished = false := by
  obtain ⟨s', h1, _, h3⟩ := (ck_complete chunks err).eof sched i segs avail q hw hq
  exact ⟨s', h1, h3⟩

theorem v3c_truncated_eof (okH okS isSeq : Bytes → Bool) (fx : Bool) (headers : Bytes) (parts : List Part)
    (hh : headers.length < 4294967296) (hp : V3.partsOk parts = true)
    (hH : okH headers = true) (hS : parts.all (fun p => evOk okH okS p.ev) = true)
    (hQ : parts.all (fun p => evOk (fun _ => true) isSeq p.ev) = true)
    (hR : (Resp.run fx {} (.headers headers :: (parts.map Part.ev ++ [.end_]))).toBool = true)
    (sched : Nat → Nat) (i : Nat) (segs : List Bytes) (avail q : Bytes)
    (hw : segs.flatten ++ (avail ++ q) = v3Encode headers parts) (hq : q ≠ []) :
    ∃ s', pipeLoopEof (v3cMachine okH okS isSeq fx) sched (avail.length + 1) i
        (feedAll V3.feed (V3.init true) segs) avail = .eof s' ∧
      (v3cMachine okH okS isSeq fx).stop s' = false := by
  obtain ⟨s', h1, h2, _⟩ := (v3c_message okH okS isSeq fx headers parts hh hp hH hS hQ hR).eof
    sched i segs avail q hw hq
  exact ⟨s', h1, h2⟩

end BreezyVerif.C30
