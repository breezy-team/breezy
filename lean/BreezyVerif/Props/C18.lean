import BreezyVerif.Lemmas.C18
/-!
C18 — theorems.  All values of any type with decidable equality, any number of
LCAs (unbounded — stronger than the property's "up to a bound").
-/
namespace BreezyVerif.C18
variable {α : Type} [DecidableEq α]

/-- Exchanging THIS and OTHER exchanges the winner, except for the documented
tie-break: when both sides agree the answer is `this` both ways. -/
theorem three_way_swap (b o t : α) (h : o ≠ t) :
    threeWay b t o = (threeWay b o t).swap := by
  unfold threeWay Winner.swap
  grind

theorem three_way_tie (b v : α) : threeWay b v v = .this :=
  (three_way_eq_this b v v).mpr (.inr rfl)

/-- A side whose value is one of the ancestors' values (it did not change)
never wins against a side whose value is new (`lca_unchanged_never_wins` is the
same for `_lca_multi_way`, with either value of `allow_overriding_lca`). -/
theorem three_way_unchanged_never_wins (b o t : α) (ht : t = b) (ho : o ≠ b) :
    threeWay b o t = .other :=
  (three_way_eq_other b o t).mpr ⟨ho, ht⟩

theorem three_way_other_eq_base (b t : α) : threeWay b b t = .this :=
  (three_way_eq_this b b t).mpr (.inl rfl)

theorem three_way_unchanged_never_wins' (b o t : α) (ho : o = b) (_ht : t ≠ b) :
    threeWay b o t = .this := by
  rw [ho, three_way_other_eq_base]

theorem three_way_ne_this (b o t : α) (hb : b ≠ o) (ht : t ≠ o) : threeWay b o t ≠ .this :=
  mt (three_way_eq_this b o t).mp (not_or.mpr ⟨hb.symm, ht⟩)

/-- the decision as a function of the non-base LCA values `f` only: a tie is `this`; where the values all
agree it is the three-way decision on that value (on `base` when there is none), otherwise membership decides -/
def lcaOn (b o t : α) (a : Bool) (f : List α) : Winner :=
  if o = t then .this
  else if ∀ w ∈ f, ∀ w' ∈ f, w = w' then threeWay (f.head?.getD b) o t
  else if a then
    (if o ∈ f then (if t ∈ f then .conflict else .this)
     else if t ∈ f then .other else .conflict)
  else .conflict

theorem lca_eq_lcaOn (b : α) (ls : List α) (o t : α) (a : Bool) :
    lcaMultiWay b ls o t a = lcaOn b o t a (ls.filter (fun v => v ≠ b)) := by
  unfold lcaMultiWay lcaOn
  cases ls.filter (fun v => decide (v ≠ b)) with
  | nil => simp
  | cons v rest =>
    have hall : rest.all (fun w => decide (w = v)) = true ↔ ∀ w ∈ v :: rest, ∀ w' ∈ v :: rest, w = w' := by
      simp only [List.all_eq_true, decide_eq_true_eq]
      refine ⟨fun h => ?_, fun h w hw => h w (List.mem_cons_of_mem _ hw) v List.mem_cons_self⟩
      have hv : ∀ w ∈ v :: rest, w = v := fun w hw => (List.mem_cons.mp hw).elim id (h w)
      exact fun w hw w' hw' => (hv w hw).trans (hv w' hw').symm
    simp only [hall, List.head?_cons, Option.getD_some]

theorem lca_tie (b : α) (ls : List α) (v : α) (a : Bool) : lcaMultiWay b ls v v a = .this :=
  lca_eq_lcaOn b ls v v a ▸ if_pos rfl

/-- also on a tie: `threeWay` answers `this` there as well -/
theorem lcaOn_of_agree (b o t : α) (a : Bool) (f : List α) (h : ∀ w ∈ f, ∀ w' ∈ f, w = w') :
    lcaOn b o t a f = threeWay (f.head?.getD b) o t := by
  unfold lcaOn
  by_cases e : o = t
  · rw [if_pos e, e, three_way_tie]
  · rw [if_neg e, if_pos h]

theorem lcaOn_of_disagree (b o t : α) (a : Bool) (f : List α) (hot : o ≠ t) {x y : α} (hx : x ∈ f) (hy : y ∈ f)
    (hxy : x ≠ y) :
    lcaOn b o t a f =
      if a then (if o ∈ f then (if t ∈ f then .conflict else .this) else if t ∈ f then .other else .conflict)
      else .conflict :=
  (if_neg hot).trans (if_neg fun h => hxy (h x hx y hy))

theorem lca_swap (b : α) (ls : List α) (o t : α) (a : Bool) (h : o ≠ t) :
    lcaMultiWay b ls t o a = (lcaMultiWay b ls o t a).swap := by
  rw [lca_eq_lcaOn, lca_eq_lcaOn]
  generalize ls.filter (fun v => decide (v ≠ b)) = f
  unfold lcaOn
  rw [if_neg h, if_neg h.symm]
  -- (`split` is very slow on these `if`s over bounded quantifiers; `by_cases` and `if_pos` / `if_neg` are not)
  by_cases hall : ∀ w ∈ f, ∀ w' ∈ f, w = w'
  · rw [if_pos hall, if_pos hall]
    exact three_way_swap _ o t h
  · rw [if_neg hall, if_neg hall]
    cases a
    · rfl
    · by_cases ho : o ∈ f <;> by_cases ht : t ∈ f <;> simp [ho, ht, Winner.swap]

theorem lca_nil_eq_three_way (b o t : α) (a : Bool) :
    lcaMultiWay b [] o t a = threeWay b o t := by
  rw [lca_eq_lcaOn]
  exact lcaOn_of_agree b o t a [] (fun _ hw => nomatch hw)

/-- all LCAs carry the same value `v` ⇒ plain three-way on `v` (or on `base`
when that value is the base value itself / there are no LCAs) -/
theorem lca_eq_three_way_of_const (b v : α) (ls : List α) (o t : α) (a : Bool)
    (hne : ls ≠ []) (hall : ∀ x ∈ ls, x = v) :
    lcaMultiWay b ls o t a = threeWay v o t := by
  have hf : ∀ w ∈ ls.filter (fun x => decide (x ≠ b)), w = v := fun w hw => hall w (List.mem_filter.mp hw).1
  rw [lca_eq_lcaOn, lcaOn_of_agree b o t a _ fun w hw w' hw' => (hf w hw).trans (hf w' hw').symm]
  cases hl : ls.filter (fun x => decide (x ≠ b)) with
  | nil =>
    -- every LCA value is the base value
    cases ls with
    | nil => exact absurd rfl hne
    | cons x xs =>
      have hx : x = b := by simpa using (List.filter_eq_nil_iff.mp hl) x List.mem_cons_self
      rw [← hall x List.mem_cons_self, hx]; rfl
  | cons x xs => rw [← hf x (hl ▸ List.mem_cons_self)]; rfl

/-- flag monotonicity: without `allow_overriding_lca` the verdict is either a
conflict or exactly the verdict with the flag — switching the flag off never
turns one winner into the other, it only withholds verdicts. -/
theorem lca_allow_false_conflict_or_eq (b : α) (ls : List α) (o t : α) :
    lcaMultiWay b ls o t false = .conflict ∨
      lcaMultiWay b ls o t false = lcaMultiWay b ls o t true := by
  rw [lca_eq_lcaOn, lca_eq_lcaOn]
  generalize ls.filter (fun v => decide (v ≠ b)) = f
  unfold lcaOn
  by_cases hot : o = t
  · rw [if_pos hot, if_pos hot]; exact .inr rfl
  · rw [if_neg hot, if_neg hot]
    by_cases hall : ∀ w ∈ f, ∀ w' ∈ f, w = w'
    · rw [if_pos hall, if_pos hall]; exact .inr rfl
    · rw [if_neg hall]; exact .inl rfl

theorem lca_unchanged_never_wins (b : α) (ls : List α) (o t : α) (a : Bool)
    (ht : t ∈ b :: ls) (ho : o ∉ b :: ls) :
    lcaMultiWay b ls o t a ≠ .this := by
  have hot : o ≠ t := fun e => ho (e ▸ ht)
  have hof : ∀ x ∈ ls.filter (fun v => decide (v ≠ b)), x ≠ o := fun x hx e =>
    ho (e ▸ List.mem_cons_of_mem b (List.mem_filter.mp hx).1)
  have hb : b ≠ o := fun e => ho (e ▸ List.mem_cons_self)
  rw [lca_eq_lcaOn]
  generalize ls.filter (fun v => decide (v ≠ b)) = f at hof
  by_cases hall : ∀ w ∈ f, ∀ w' ∈ f, w = w'
  · -- three-way on a value that is BASE's or an LCA's, hence not OTHER's
    rw [lcaOn_of_agree b o t a f hall]
    refine three_way_ne_this _ o t ?_ (Ne.symm hot)
    cases f with
    | nil => exact hb
    | cons x xs => exact hof x List.mem_cons_self
  · rw [lcaOn, if_neg hot, if_neg hall]
    cases a
    · nofun
    · rw [if_pos rfl, if_neg fun h => hof o h rfl]
      by_cases htf : t ∈ f
      · rw [if_pos htf]; nofun
      · rw [if_neg htf]; nofun

theorem lca_unchanged_never_wins' (b : α) (ls : List α) (o t : α) (a : Bool)
    (ho : o ∈ b :: ls) (ht : t ∉ b :: ls) :
    lcaMultiWay b ls o t a ≠ .other := by
  have hot : o ≠ t := fun e => ht (e ▸ ho)
  have := lca_unchanged_never_wins b ls t o a ho ht
  rw [lca_swap b ls o t a hot] at this
  intro h; rw [h] at this; exact this rfl

theorem lcaOn_perm (b o t : α) (a : Bool) (f f' : List α) (hp : f.Perm f') :
    lcaOn b o t a f = lcaOn b o t a f' := by
  unfold lcaOn
  simp only [hp.mem_iff]
  by_cases hall : ∀ w ∈ f', ∀ w' ∈ f', w = w'
  · -- the heads are members of both lists, hence equal
    have hh : f.head?.getD b = f'.head?.getD b := by
      cases f with
      | nil => rw [hp.nil_eq]
      | cons v r =>
        cases f' with
        | nil => exact absurd hp.eq_nil (List.cons_ne_nil v r)
        | cons v' r' => exact hall v (hp.mem_iff.mp List.mem_cons_self) v' List.mem_cons_self
    rw [if_pos hall, if_pos hall, hh]
  · rw [if_neg hall, if_neg hall]

/-- The verdict does not depend on the order of the LCA values: permuting the
LCA list never changes it (any number of LCAs, any values). -/
theorem lca_perm (b : α) (ls ls' : List α) (o t : α) (a : Bool) (hp : ls.Perm ls') :
    lcaMultiWay b ls o t a = lcaMultiWay b ls' o t a := by
  rw [lca_eq_lcaOn, lca_eq_lcaOn]
  exact lcaOn_perm b o t a _ _ (hp.filter _)

/-- Two different ancestor values conflict: if THIS and OTHER each carry a
(different) non-base LCA value and the LCAs do not all agree, the verdict is a
conflict — whatever the number or order of LCAs. -/
theorem lca_two_lca_values_conflict (b : α) (ls : List α) (o t : α)
    (ho : o ∈ ls) (ht : t ∈ ls) (hob : o ≠ b) (htb : t ≠ b) (hot : o ≠ t) :
    lcaMultiWay b ls o t true = .conflict := by
  have hof : o ∈ ls.filter (fun v => decide (v ≠ b)) := List.mem_filter.mpr ⟨ho, decide_eq_true hob⟩
  have htf : t ∈ ls.filter (fun v => decide (v ≠ b)) := List.mem_filter.mpr ⟨ht, decide_eq_true htb⟩
  rw [lca_eq_lcaOn, lcaOn_of_disagree b o t true _ hot hof htf hot, if_pos rfl, if_pos hof, if_pos htf]

/-- what the flag withholds, exactly (1): where the non-base LCA values all
agree the flag is irrelevant … -/
theorem lca_allow_false_agree (b : α) (ls : List α) (o t v : α)
    (h : ∀ w ∈ ls.filter (fun x => x ≠ b), w = v) :
    lcaMultiWay b ls o t false = lcaMultiWay b ls o t true := by
  have hall : ∀ w ∈ ls.filter (fun x => decide (x ≠ b)), ∀ w' ∈ ls.filter (fun x => decide (x ≠ b)), w = w' :=
    fun w hw w' hw' => (h w hw).trans (h w' hw').symm
  rw [lca_eq_lcaOn, lca_eq_lcaOn, lcaOn_of_agree _ _ _ _ _ hall, lcaOn_of_agree _ _ _ _ _ hall]

/-- … (2): where two different non-base LCA values exist and the sides differ,
the verdict without the flag is a conflict whatever THIS and OTHER are. -/
theorem lca_allow_false_disagree (b : α) (ls : List α) (o t x y : α) (hot : o ≠ t)
    (hx : x ∈ ls) (hy : y ∈ ls) (hxb : x ≠ b) (hyb : y ≠ b) (hxy : x ≠ y) :
    lcaMultiWay b ls o t false = .conflict := by
  have hxf : x ∈ ls.filter (fun v => decide (v ≠ b)) := List.mem_filter.mpr ⟨hx, decide_eq_true hxb⟩
  have hyf : y ∈ ls.filter (fun v => decide (v ≠ b)) := List.mem_filter.mpr ⟨hy, decide_eq_true hyb⟩
  rw [lca_eq_lcaOn, lcaOn_of_disagree b o t false _ hot hxf hyf hxy]
  rfl

/-- LCA values equal to the base value are "not interesting": dropping them from
the LCA list never changes the verdict (so an LCA list consisting of base values
only behaves like no LCA at all: `lca_nil_eq_three_way`). -/
theorem lca_base_values_irrelevant (b : α) (ls : List α) (o t : α) (a : Bool) :
    lcaMultiWay b (ls.filter (fun v => v ≠ b)) o t a = lcaMultiWay b ls o t a := by
  unfold lcaMultiWay
  rw [List.filter_filter]
  simp only [Bool.and_self]

/-- non-vacuity: concrete instances of the hypotheses -/
example : lcaMultiWay 0 [1, 2] 1 3 true = .this ∧ (1 : Nat) ∈ [0, 1, 2] ∧ (3 : Nat) ∉ [0, 1, 2] := by decide
example : lcaMultiWay 0 [1, 1] 1 3 false = threeWay 1 1 3 := by decide
/-- the flag matters (so `lca_allow_false_conflict_or_eq` is not `rfl`), and
`lca_unchanged_never_wins` has instances for both flag values -/
example : lcaMultiWay 0 [1, 2] 1 3 false = .conflict ∧ lcaMultiWay 0 [1, 2] 1 3 true = .this := by decide
example : lcaMultiWay 0 [1, 2] 3 1 false = .conflict ∧ lcaMultiWay 0 [1, 2] 3 1 true = .other
    ∧ (1 : Nat) ∈ [0, 1, 2] ∧ (3 : Nat) ∉ [0, 1, 2] := by decide
example : (∀ w ∈ [0, 1, 1].filter (fun x => x ≠ 0), w = 1) ∧ lcaMultiWay 0 [0, 1, 1] 1 3 false = .this := by decide

end BreezyVerif.C18
