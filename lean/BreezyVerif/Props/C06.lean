import BreezyVerif.Lemmas.C06
import BreezyVerif.Lemmas.C06Cycles
/-
C06 — aborted and suspended write groups.  Theorems about the write-group state
machine `step` / `exec` of Model/C06 for every repository state, every format
flag, every record and every operation sequence (no bound on lengths).
-/
namespace BreezyVerif.C06

/-- a fresh write group that is filled and aborted leaves at most a trace in the
object's missing-compression-parent bookkeeping -/
theorem exec_start_inserts_abort (fmt : Fmt) (r : Repo) (recs : List Rec) (h : r.wg = none) :
    exec fmt r (.start :: recs.map Op.insert ++ [.abort]) =
      { r with stale := (exec fmt { r with wg := some ⟨[], []⟩ } (recs.map Op.insert)).stale } := by
  obtain ⟨h1, h2, h3⟩ := exec_inserts fmt recs { r with wg := some ⟨[], []⟩ } ⟨[], []⟩ rfl
  rw [List.cons_append, exec_cons, step_start fmt h, exec_append, exec_cons, exec_nil,
    step_abort fmt h3]
  generalize exec fmt { r with wg := some ⟨[], []⟩ } (recs.map Op.insert) = r2 at h1 h2 ⊢
  cases r
  cases r2
  cases h
  cases h1
  cases h2
  rw [removeAll_nil]

/-- **Abort is a no-op on everything a reader can see.**  Starting a write group
on any repository, inserting any records and aborting leaves `pack-names`, the
visible keys and `upload/` exactly as they were, and no group is open. -/
theorem abort_noop (fmt : Fmt) (r : Repo) (recs : List Rec) (h : r.wg = none) :
    let r' := exec fmt r (.start :: recs.map Op.insert ++ [.abort])
    r'.packs = r.packs ∧ visible r' = visible r ∧ r'.upload = r.upload ∧ r'.wg = none := by
  intro r'
  have : r' = _ := exec_start_inserts_abort fmt r recs h
  rw [this]
  exact ⟨rfl, rfl, rfl, h⟩

/-- aborting any open write group (also a resumed one) never changes what is listed -/
theorem abort_keeps_packs (fmt : Fmt) (r : Repo) :
    (step fmt r .abort).1.packs = r.packs ∧ visible (step fmt r .abort).1 = visible r := by
  have := step_packs fmt r .abort (by simp)
  exact ⟨this, by simp only [visible, this]⟩

/-- **Nothing but a commit makes anything visible**: any operation sequence
without `commit` — insertions, aborts, suspends, failed and successful resumes,
in any order and with any tokens — leaves the listed packs unchanged. -/
theorem no_commit_no_change (fmt : Fmt) (ops : List Op) (r : Repo) (h : ∀ op ∈ ops, op ≠ .commit) :
    (exec fmt r ops).packs = r.packs ∧ visible (exec fmt r ops) = visible r := by
  have hp : (exec fmt r ops).packs = r.packs := by
    induction ops generalizing r with
    | nil => rfl
    | cons op ops ih =>
      rw [exec_cons, ih _ fun o ho => h o (List.mem_cons_of_mem _ ho)]
      exact step_packs fmt r op (h op List.mem_cons_self)
  exact ⟨hp, by simp only [visible, hp]⟩

/-- **A refused commit changes nothing** (the group stays open for the abort) -/
theorem refused_commit_noop (fmt : Fmt) (r : Repo) (e : Err)
    (h : (step fmt r .commit).2 = .err e) : (step fmt r .commit).1 = r := by
  simp only [step] at h ⊢
  split
  · rfl
  · rename_i g hg
    simp only [hg] at h
    split
    · rfl
    · rename_i hr
      simp [hr] at h

/-- the tokens `suspend` returns are resumable by a new `Repository` object, and
resuming restores the group's content -/
theorem token_wellformed (fmt : Fmt) (r : Repo) (g : Group) (h : r.wg = some g)
    (hin : ∀ p ∈ g.resumed, p ∈ r.upload) (hnd : g.resumed.Nodup) (hf : g.fresh ∉ g.resumed) :
    ∃ toks r1, step fmt r .suspend = (r1, .tokens toks) ∧ r1.packs = r.packs ∧ r1.wg = none ∧
      toks = (if g.fresh.isEmpty then g.resumed else g.resumed ++ [g.fresh]) ∧
      step fmt (step fmt r1 .reopen).1 (.resume (toks.map Tok.pack))
        = ({ (step fmt r1 .reopen).1 with wg := some ⟨[], toks⟩ }, .ok) := by
  obtain ⟨up, _, hsus, hres⟩ := suspend_reopen_resume fmt h hin hnd hf
  refine ⟨groupPacks g, { r with upload := up, wg := none }, hsus, rfl, rfl, groupPacks_eq_ite g, ?_⟩
  rw [step_reopen fmt rfl, hres]

/-- **Suspend → new object → resume → commit ≡ commit.**  Same verdict (accepted /
refused) and the same listed packs, provided the object's missing-compression-
parent bookkeeping describes the open group (see `stale_after_abort_witness`
for why the hypothesis `hstale` is needed on knit pack formats). -/
theorem suspend_resume_commit_eq_commit_partial (fmt : Fmt) (r : Repo) (g : Group) (h : r.wg = some g)
    (hin : ∀ p ∈ g.resumed, p ∈ r.upload) (hnd : g.resumed.Nodup) (hf : g.fresh ∉ g.resumed)
    (hstale : r.stale.isEmpty = !missingCompressionParent (r.packs.flatten ++ groupRecs g) g.fresh) :
    let direct := step fmt r .commit
    let toks := if g.fresh.isEmpty then g.resumed else g.resumed ++ [g.fresh]
    let r1 := (step fmt r .suspend).1
    let r2 := (step fmt r1 .reopen).1
    let r3 := (step fmt r2 (.resume (toks.map Tok.pack))).1
    let via := step fmt r3 .commit
    (step fmt r .suspend).2 = .tokens toks ∧
    (step fmt r2 (.resume (toks.map Tok.pack))).2 = .ok ∧
    via.2 = direct.2 ∧ via.1.packs = direct.1.packs ∧
      (direct.2 = .ok → via.1.wg = none ∧ direct.1.wg = none) := by
  obtain ⟨up, _, hsus, hres⟩ := suspend_reopen_resume fmt h hin hnd hf
  simp only [← groupPacks_eq_ite, hsus, step_reopen fmt (rfl : Repo.wg { r with upload := up, wg := none } = none),
    hres]
  -- the resumed group on the new object has the same records, and a clean object is exact for it
  have hw3 : Repo.wg { r with upload := up, wg := some ⟨[], groupPacks g⟩, stale := [] } = _ := rfl
  obtain ⟨c1, c2, c3⟩ := commit_congr fmt h hw3 rfl
    (by rw [← groupPacks_flatten, groupPacks_resumed, groupPacks_flatten]) hstale
    (StaleOK.exact (staleOK_clean _ _ rfl))
  refine ⟨trivial, trivial, c1, ?_, fun hok => ⟨(c3 hok).2.2.1, (c3 hok).2.2.2⟩⟩
  by_cases hok : (step fmt r .commit).2 = .ok
  · rw [(c3 hok).1, (c3 hok).2.1, groupPacks_resumed]
  · rw [(c2 hok).1, (c2 hok).2.1]

/-- what `_check_new_inventories` demands of a write group (`all`) in a repository
whose own records — listed packs and the group, no fallbacks — are `own` -/
structure GroupComplete (own all : Pack) : Prop where
  /-- every new revision has its inventory -/
  inv : ∀ i ∈ newRevIds all, hasKey own ⟨.inv, i⟩ = true
  /-- the chk root pages of the new inventories and of their present parent-only inventories are there -/
  roots : ∀ c ∈ rootsOf own (newRevIds all) ++ rootsOf own (parentOnlyInvs own all), hasKey own ⟨.chk, c⟩ = true
  /-- every text named by a new root page and not by a parent-only inventory's page is there -/
  texts : ∀ t ∈ neededTexts own all, hasKey own ⟨.text, t⟩ = true

theorem inventoryProblems_false_iff (own all : Pack) :
    inventoryProblems own all = false ↔ GroupComplete own all := by
  have key : ∀ (l : List Nat) (k : Nat → Key),
      l.any (fun i => !hasKey own (k i)) = false ↔ ∀ i ∈ l, hasKey own (k i) = true := fun l k => by
    simp only [List.any_eq_false, Bool.not_eq_true', Bool.not_eq_false]
  unfold inventoryProblems
  constructor
  · intro h
    split at h
    · cases h
    · next h1 =>
      split at h
      · cases h
      · next h2 =>
        exact ⟨(key _ (⟨.inv, ·⟩)).mp (Bool.eq_false_iff.mpr h1),
          (key _ (⟨.chk, ·⟩)).mp (Bool.eq_false_iff.mpr h2), (key _ (⟨.text, ·⟩)).mp h⟩
  · rintro ⟨a, b, c⟩
    rw [if_neg (Bool.eq_false_iff.mp ((key _ (⟨.inv, ·⟩)).mpr a)),
      if_neg (Bool.eq_false_iff.mp ((key _ (⟨.chk, ·⟩)).mpr b))]
    exact (key _ (⟨.text, ·⟩)).mpr c

/-- **A commit is accepted exactly when the group is complete**: the object
remembers no missing compression parent, no resumed pack lacks one, and (CHK
formats) every new revision comes with its inventory, the chk root pages and the
texts its inventory introduces.  Otherwise it is refused with `BzrCheckError`
(and then nothing changes: `refused_commit_noop`). -/
theorem commit_accepted_iff (fmt : Fmt) (r : Repo) (g : Group) (h : r.wg = some g) :
    (step fmt r .commit).2 = .ok ↔
      (r.stale = [] ∧
       missingCompressionParent (r.packs.flatten ++ groupRecs g) g.resumed.flatten = false ∧
       (fmt.checkInv = true → GroupComplete (r.packs.flatten ++ groupRecs g) (groupRecs g))) := by
  rw [step_commit fmt r g h]
  have href : refuses fmt r g = false ↔
      (r.stale = [] ∧
       missingCompressionParent (r.packs.flatten ++ groupRecs g) g.resumed.flatten = false ∧
       (fmt.checkInv = true → GroupComplete (r.packs.flatten ++ groupRecs g) (groupRecs g))) := by
    simp only [refuses, Bool.or_eq_false_iff, Bool.and_eq_false_iff, Bool.not_eq_false', List.isEmpty_iff]
    constructor
    · rintro ⟨⟨h1, h2⟩, h3⟩
      refine ⟨h1, h2, fun hc => ?_⟩
      rcases h3 with h3 | h3
      · rw [hc] at h3; cases h3
      · exact (inventoryProblems_false_iff _ _).mp h3
    · rintro ⟨h1, h2, h3⟩
      refine ⟨⟨h1, h2⟩, ?_⟩
      by_cases hc : fmt.checkInv = true
      · exact Or.inr ((inventoryProblems_false_iff _ _).mpr (h3 hc))
      · exact Or.inl (by simpa using hc)
  rw [← href]
  by_cases hr : refuses fmt r g = true
  · simp [hr]
  · simp [hr]

/-- the accepted direction, spelled out: whatever a CHK-format commit accepts is complete -/
theorem accepted_commit_complete (fmt : Fmt) (hfmt : fmt.checkInv = true) (r : Repo) (g : Group) (h : r.wg = some g)
    (hok : (step fmt r .commit).2 = .ok) :
    GroupComplete (r.packs.flatten ++ groupRecs g) (groupRecs g) :=
  ((commit_accepted_iff fmt r g h).mp hok).2.2 hfmt

theorem refused_of_incomplete (fmt : Fmt) (hfmt : fmt.checkInv = true) (r : Repo) (g : Group)
    (h : r.wg = some g)
    (hn : ¬ GroupComplete (r.packs.flatten ++ groupRecs g) (groupRecs g)) :
    step fmt r .commit = (r, .err .check) := by
  have hp : inventoryProblems (r.packs.flatten ++ groupRecs g) (groupRecs g) = true :=
    Bool.of_not_eq_false fun hf => hn ((inventoryProblems_false_iff _ _).mp hf)
  have : refuses fmt r g = true := by simp [refuses, hfmt, hp]
  rw [step_commit fmt r g h, if_pos this]

/-- **a new revision without its inventory is refused** (the repository is not changed) -/
theorem missing_inventory_refused (fmt : Fmt) (hfmt : fmt.checkInv = true) (r : Repo) (g : Group) (h : r.wg = some g)
    (i : Nat) (hrev : ∃ rec ∈ groupRecs g, rec.key = ⟨.rev, i⟩)
    (hinv : ∀ rec ∈ r.packs.flatten ++ groupRecs g, rec.key ≠ ⟨.inv, i⟩) :
    step fmt r .commit = (r, .err .check) := by
  refine refused_of_incomplete fmt hfmt r g h fun gc => ?_
  obtain ⟨rec, hm, hk⟩ := hrev
  have hi : i ∈ newRevIds (groupRecs g) :=
    List.mem_map.mpr ⟨rec, List.mem_filter.mpr ⟨hm, by rw [hk]; rfl⟩, by rw [hk]⟩
  obtain ⟨rec', hm', hk'⟩ := hasKey_iff.mp (gc.inv i hi)
  exact hinv rec' hm' hk'

/-- **a new inventory whose chk root page is absent is refused** -/
theorem missing_chk_root_refused (fmt : Fmt) (hfmt : fmt.checkInv = true) (r : Repo) (g : Group) (h : r.wg = some g)
    (i c : Nat) (irec : Rec) (hi : i ∈ newRevIds (groupRecs g))
    (hinv : invRec (r.packs.flatten ++ groupRecs g) i = some irec) (hc : c ∈ irec.roots)
    (hno : hasKey (r.packs.flatten ++ groupRecs g) ⟨.chk, c⟩ = false) :
    step fmt r .commit = (r, .err .check) :=
  refused_of_incomplete fmt hfmt r g h fun gc => Bool.false_ne_true
    (hno.symm.trans (gc.roots c (List.mem_append_left _ (mem_rootsOf hi hinv hc))))

/-- **a new revision whose inventory names a text that is neither present nor
named by a parent-only inventory is refused** -/
theorem missing_text_refused (fmt : Fmt) (hfmt : fmt.checkInv = true) (r : Repo) (g : Group) (h : r.wg = some g)
    (i c t : Nat) (irec crec : Rec) (hi : i ∈ newRevIds (groupRecs g))
    (hinv : invRec (r.packs.flatten ++ groupRecs g) i = some irec) (hc : c ∈ irec.roots)
    (hpage : (r.packs.flatten ++ groupRecs g).find? (·.key == ⟨.chk, c⟩) = some crec) (ht : t ∈ crec.items)
    (hnew : c ∉ rootsOf (r.packs.flatten ++ groupRecs g)
      (parentOnlyInvs (r.packs.flatten ++ groupRecs g) (groupRecs g)))
    (hnot : t ∉ itemsOf (r.packs.flatten ++ groupRecs g) (rootsOf (r.packs.flatten ++ groupRecs g)
      (parentOnlyInvs (r.packs.flatten ++ groupRecs g) (groupRecs g))))
    (hno : hasKey (r.packs.flatten ++ groupRecs g) ⟨.text, t⟩ = false) :
    step fmt r .commit = (r, .err .check) := by
  refine refused_of_incomplete fmt hfmt r g h fun gc => ?_
  have hneed : t ∈ neededTexts (r.packs.flatten ++ groupRecs g) (groupRecs g) :=
    List.mem_filter.mpr ⟨mem_itemsOf
      (List.mem_filter.mpr ⟨mem_rootsOf hi hinv hc, not_contains hnew⟩) hpage ht, not_contains hnot⟩
  exact Bool.false_ne_true (hno.symm.trans (gc.texts t hneed))

/-- the resumed packs of an open group are distinct files in `upload/` -/
def ResumedWf (r : Repo) : Prop :=
  ∀ g, r.wg = some g → (∀ p ∈ g.resumed, p ∈ r.upload) ∧ g.resumed.Nodup

theorem resumeToks_sound (up : List Pack) (toks : List Tok) (acc ps : List Pack)
    (h : resumeToks up toks acc = .ok ps) (ha : ∀ p ∈ acc, p ∈ up) (hn : acc.Nodup) :
    (∀ p ∈ ps, p ∈ up) ∧ ps.Nodup := by
  induction toks generalizing acc with
  | nil => simp only [resumeToks, Except.ok.injEq] at h; subst h; exact ⟨ha, hn⟩
  | cons t toks ih =>
    cases t with
    | malformed => simp [resumeToks] at h
    | pack p =>
      simp only [resumeToks, List.contains_iff_mem] at h
      by_cases h1 : p ∈ acc
      · rw [if_pos h1] at h; cases h
      · by_cases h2 : p ∈ up
        · rw [if_neg h1, if_pos h2] at h
          refine ih (acc ++ [p]) h (fun q hq => ?_) (Lib.nodup_concat hn h1)
          rcases List.mem_append.mp hq with hq | hq
          · exact ha q hq
          · rw [List.mem_singleton.mp hq]; exact h2
        · rw [if_neg h1, if_neg h2] at h; cases h

theorem resumedWf_step (fmt : Fmt) (r : Repo) (op : Op) (h : ResumedWf r) : ResumedWf (step fmt r op).1 := by
  have none_wf : ∀ r' : Repo, r'.wg = none → ResumedWf r' := fun r' hn g' hg' => by
    rw [hn] at hg'; cases hg'
  -- an operation refused by the write-group guard leaves the state as it is
  have same : (step fmt r op).1 = r → ResumedWf (step fmt r op).1 := fun e => by rw [e]; exact h
  cases hw : r.wg with
  | none =>
    cases op with
    | start =>
      rw [step_start fmt hw]
      intro g' hg'
      cases hg'
      exact ⟨fun _ hp => (nomatch hp), List.nodup_nil⟩
    | reopen => rw [step_reopen fmt hw]; exact none_wf _ hw
    | resume toks =>
      cases hres : resumeToks r.upload toks [] with
      | ok ps =>
        have : (step fmt r (.resume toks)).1 = { r with wg := some ⟨[], ps⟩ } := by
          simp only [step, hw, hres]
        rw [this]
        intro g' hg'
        cases hg'
        exact resumeToks_sound r.upload toks [] ps hres (fun _ hp => (nomatch hp)) List.nodup_nil
      | error e =>
        apply none_wf
        obtain ⟨e1, acc⟩ := e
        cases e1 <;> simp only [step, hw, hres]
    | insert rec => exact same (by simp only [step, hw])
    | abort => exact same (by simp only [step, hw])
    | suspend => exact same (by simp only [step, hw])
    | commit => exact same (by simp only [step, hw])
  | some g =>
    cases op with
    | start => exact same (by simp only [step, hw])
    | resume toks => exact same (by simp only [step, hw])
    | insert rec =>
      rw [step_insert fmt rec hw]
      intro g' hg'
      cases hg'
      exact h g hw
    | abort => rw [step_abort fmt hw]; exact none_wf _ rfl
    | suspend =>
      apply none_wf
      simp only [step, hw]
      split <;> rfl
    | commit =>
      rw [step_commit fmt r g hw]
      split
      · exact h
      · exact none_wf _ rfl
    | reopen => exact none_wf _ (by simp only [step, hw])

/-- **`hin` and `hnd` are invariants**: after ANY operation sequence, from any
state satisfying them (in particular any state without an open group) -/
theorem resumed_wf_invariant (fmt : Fmt) (ops : List Op) (r : Repo) (h : ResumedWf r) :
    ResumedWf (exec fmt r ops) := by
  induction ops generalizing r with
  | nil => exact h
  | cons op ops ih => rw [exec_cons]; exact ih _ (resumedWf_step fmt r op h)

/-- **the bookkeeping hypothesis `hstale` holds for every group opened on a clean
object**: start (or resume on a new object), then any insertions -/
theorem stale_tracks_inserts (fmt : Fmt) (r : Repo) (resumed : List Pack) (recs : List Rec)
    (hw : r.wg = some ⟨[], resumed⟩) (hs : r.stale = []) :
    let r2 := exec fmt r (recs.map Op.insert)
    r2.wg = some ⟨recs, resumed⟩ ∧
    r2.stale.isEmpty = !missingCompressionParent (r2.packs.flatten ++ groupRecs ⟨recs, resumed⟩) recs := by
  obtain ⟨_, _, h3⟩ := exec_inserts fmt recs r ⟨[], resumed⟩ hw
  have ok := staleOK_inserts fmt recs r ⟨[], resumed⟩ hw (staleOK_clean r resumed hs)
  simp only [List.nil_append] at h3 ok
  exact ⟨h3, ok.exact⟩

/-- **Suspending and resuming a write group any number of times, inserting
between the cycles and after the last resume, then committing, is the same as
inserting everything into one group and committing it**: the same verdict
(accepted / refused with `BzrCheckError`), the same visible records, and when
refused nothing is listed in either run.  From any state with a clean
`Repository` object and no open group, for all record lists `cs` (one per
cycle; a cycle may insert nothing) and `last`, provided the non-empty chunks are
pairwise different packs (no record is inserted twice). -/
theorem suspend_resume_cycles_eq_commit (fmt : Fmt) (r : Repo) (cs : List Pack) (last : Pack)
    (hw : r.wg = none) (hs : r.stale = []) (hnd : (nonempty cs).Nodup) :
    let via := step fmt (exec fmt r (.start :: cyclePrefix [] cs last)) .commit
    let direct := step fmt (exec fmt r (.start :: (cs.flatten ++ last).map Op.insert)) .commit
    via.2 = direct.2 ∧ visible via.1 = visible direct.1 ∧
      (direct.2 = .ok →
        via.1.wg = none ∧ direct.1.wg = none ∧
        via.1.packs = r.packs ++ nonempty cs ++ (if last.isEmpty then [] else [last])) ∧
      (direct.2 ≠ .ok → via.1.packs = r.packs ∧ direct.1.packs = r.packs ∧ direct.2 = .err .check) := by
  intro via direct
  have hstart : (step fmt r .start).1 = { r with wg := some ⟨[], []⟩ } := by rw [step_start fmt hw]
  -- the run with the cycles
  obtain ⟨v1, v2, v3⟩ := exec_cyclePrefix fmt cs last [] { r with wg := some ⟨[], []⟩ } rfl hs
    (fun _ hp => by cases hp) (fun _ hp => by cases hp) (by simpa using hnd)
  -- the direct run
  obtain ⟨d1, _, d3⟩ := exec_inserts fmt (cs.flatten ++ last) { r with wg := some ⟨[], []⟩ } ⟨[], []⟩ rfl
  have d4 := staleOK_inserts fmt (cs.flatten ++ last) { r with wg := some ⟨[], []⟩ } ⟨[], []⟩ rfl
    (staleOK_clean _ [] hs)
  simp only [List.nil_append] at v2 v3 d3 d4
  -- both groups hold the records `cs.flatten ++ last`, and both objects' bookkeeping is exact
  have hg : groupRecs ⟨last, nonempty cs⟩ = groupRecs ⟨cs.flatten ++ last, []⟩ := by
    simp [groupRecs, flatten_nonempty]
  obtain ⟨c1, c2, c3⟩ := commit_congr fmt d3 v2 (v1.trans d1.symm) hg d4.exact v3.exact
  simp only [via, direct, exec_cons, hstart]
  refine ⟨c1, ?_, fun hok => ?_, fun hno => ?_⟩
  · by_cases hok : (step fmt (exec fmt { r with wg := some ⟨[], []⟩ } ((cs.flatten ++ last).map Op.insert)) .commit).2 = .ok
    · simp only [visible, (c3 hok).1, (c3 hok).2.1, List.flatten_append, groupPacks_flatten, hg]
    · simp only [visible, (c2 hok).1, (c2 hok).2.1, v1, d1]
  · exact ⟨(c3 hok).2.2.1, (c3 hok).2.2.2, by rw [(c3 hok).1, d1, List.append_assoc]; rfl⟩
  · exact ⟨by rw [(c2 hno).1]; exact v1, by rw [(c2 hno).2.1]; exact d1, (c2 hno).2.2⟩

/-- a malformed or unknown token makes `resume` fail, nothing becomes listed
and no write group is open afterwards -/
theorem resume_rejects_bad_tokens (fmt : Fmt) (r : Repo) (toks : List Tok) (h : r.wg = none)
    (hbad : ∃ t ∈ toks, t = Tok.malformed ∨ ∃ p, t = Tok.pack p ∧ p ∉ r.upload) :
    ((step fmt r (.resume toks)).2 = .err .unresumable ∨ (step fmt r (.resume toks)).2 = .err .assertion) ∧
      (step fmt r (.resume toks)).1.packs = r.packs ∧ (step fmt r (.resume toks)).1.wg = none := by
  obtain ⟨e, acc', he, hcase⟩ := resumeToks_bad r.upload toks [] hbad
  simp only [step, h, he]
  rcases hcase with hc | hc <;> subst hc <;> simp [h]

/-! ### the finding: abort does not reset the object's bookkeeping -/

private def deltaRec : Rec := ⟨⟨.text, 1⟩, some 0, [], [], []⟩
private def fullRec : Rec := ⟨⟨.text, 2⟩, none, [], [], []⟩

/-- knit pack formats: after a group with a missing compression parent was
aborted, the same `Repository` object refuses a later, complete group; a new
object accepts it.  (Reproduced on the real code: family
`knit-missing-compression-parent-survives-abort`.) -/
theorem stale_after_abort_witness :
    (run ⟨false⟩ ⟨[], [], none, []⟩
        [.start, .insert deltaRec, .abort, .start, .insert fullRec, .commit]).2.getLast?
      = some (.err .check) ∧
    (run ⟨false⟩ ⟨[], [], none, []⟩
        [.start, .insert deltaRec, .abort, .reopen, .start, .insert fullRec, .commit]).2.getLast?
      = some .ok := by decide +kernel

/-- … and therefore suspend/resume/commit and a direct commit disagree there -/
theorem suspend_resume_witness :
    (run ⟨false⟩ ⟨[], [], none, []⟩
        [.start, .insert deltaRec, .abort, .start, .insert fullRec, .commit]).2.getLast?
      ≠ (run ⟨false⟩ ⟨[], [], none, []⟩
        [.start, .insert deltaRec, .abort, .start, .insert fullRec, .suspend, .reopen,
         .resume [.pack [fullRec]], .commit]).2.getLast? := by decide +kernel

/-- without delta records (all CHK formats) an aborted fresh write group restores
the whole state, bookkeeping included -/
theorem abort_restores_object_partial (fmt : Fmt) (r : Repo) (recs : List Rec) (h : r.wg = none)
    (hs : r.stale = []) (hd : ∀ rec ∈ recs, rec.cparent = none) :
    exec fmt r (.start :: recs.map Op.insert ++ [.abort]) = r := by
  have key : ∀ (recs : List Rec) (r2 : Repo) (g : Group), r2.wg = some g → r2.stale = [] →
      (∀ rec ∈ recs, rec.cparent = none) →
      (exec fmt r2 (recs.map Op.insert)).stale = [] := by
    intro recs
    induction recs with
    | nil => intro r2 g _ h2 _; exact h2
    | cons rec recs ih =>
      intro r2 g hg h2 hd
      rw [List.map_cons, exec_cons, step_insert fmt rec hg]
      refine ih _ { g with fresh := g.fresh ++ [rec] } rfl ?_
        fun x hx => hd x (List.mem_cons_of_mem _ hx)
      simp [staleAfter, h2, hd rec List.mem_cons_self]
  rw [exec_start_inserts_abort fmt r recs h, key recs { r with wg := some ⟨[], []⟩ } ⟨[], []⟩ rfl hs hd]
  cases r
  cases hs
  rfl

/-! ### non-vacuity -/

private def exRepo : Repo :=
  { packs := [[fullRec]], upload := [[deltaRec]], wg := some ⟨[⟨⟨.rev, 7⟩, none, [], [], []⟩], [[deltaRec]]⟩,
    stale := [] }

example : exRepo.wg = some ⟨[⟨⟨.rev, 7⟩, none, [], [], []⟩], [[deltaRec]]⟩ ∧
    (∀ p ∈ [[deltaRec]], p ∈ exRepo.upload) ∧ ([[deltaRec]] : List Pack).Nodup ∧
    ([⟨⟨.rev, 7⟩, none, [], [], []⟩] : Pack) ∉ ([[deltaRec]] : List Pack) := by decide +kernel

/-- the hypotheses of `suspend_resume_commit_eq_commit_partial` hold for a
resumed group with a missing compression parent and new data: both ways refuse -/
example : exRepo.stale.isEmpty = !missingCompressionParent (exRepo.packs.flatten ++
    groupRecs ⟨[⟨⟨.rev, 7⟩, none, [], [], []⟩], [[deltaRec]]⟩) [⟨⟨.rev, 7⟩, none, [], [], []⟩] := by decide +kernel
example : (step ⟨false⟩ exRepo .commit).2 = .err .check := by decide +kernel
example : (step ⟨true⟩ { exRepo with wg := some ⟨[], []⟩ } .commit).2 = .ok := by decide +kernel
example : (step ⟨true⟩ ⟨[], [], some ⟨[⟨⟨.rev, 7⟩, none, [], [], []⟩], []⟩, []⟩ .commit).2 = .err .check := by
  decide +kernel
example : ∃ t ∈ [Tok.pack [fullRec], Tok.malformed], t = Tok.malformed ∨
    ∃ p, t = Tok.pack p ∧ p ∉ exRepo.upload := ⟨.malformed, by simp, Or.inl rfl⟩

/-! non-vacuity of the refusal theorems: a CHK-format group with revision 1 whose
inventory (root page 5, which names text 9) arrives piecemeal -/

private def revRec : Rec := ⟨⟨.rev, 1⟩, none, [], [], []⟩
private def invRec1 : Rec := ⟨⟨.inv, 1⟩, none, [0], [5], []⟩
private def pageRec : Rec := ⟨⟨.chk, 5⟩, none, [], [], [9]⟩
private def textRec : Rec := ⟨⟨.text, 9⟩, none, [], [], []⟩
private def grp (l : Pack) : Repo := ⟨[], [], some ⟨l, []⟩, []⟩

-- hypotheses of `missing_inventory_refused`
example : (∃ rec ∈ groupRecs ⟨[revRec], []⟩, rec.key = ⟨.rev, 1⟩) ∧
    (∀ rec ∈ (grp [revRec]).packs.flatten ++ groupRecs ⟨[revRec], []⟩, rec.key ≠ ⟨.inv, 1⟩) := by decide +kernel
example : step ⟨true⟩ (grp [revRec]) .commit = (grp [revRec], .err .check) := by decide +kernel
-- hypotheses of `missing_chk_root_refused`
example : 1 ∈ newRevIds (groupRecs ⟨[revRec, invRec1], []⟩) ∧
    invRec ((grp [revRec, invRec1]).packs.flatten ++ groupRecs ⟨[revRec, invRec1], []⟩) 1 = some invRec1 ∧
    5 ∈ invRec1.roots ∧
    hasKey ((grp [revRec, invRec1]).packs.flatten ++ groupRecs ⟨[revRec, invRec1], []⟩) ⟨.chk, 5⟩ = false := by
  decide +kernel
-- hypotheses of `missing_text_refused` (no parent-only inventory is present: nothing is inherited)
example :
    let own := (grp [revRec, invRec1, pageRec]).packs.flatten ++ groupRecs ⟨[revRec, invRec1, pageRec], []⟩
    own.find? (·.key == ⟨.chk, 5⟩) = some pageRec ∧ 9 ∈ pageRec.items ∧
    5 ∉ rootsOf own (parentOnlyInvs own (groupRecs ⟨[revRec, invRec1, pageRec], []⟩)) ∧
    9 ∉ itemsOf own (rootsOf own (parentOnlyInvs own (groupRecs ⟨[revRec, invRec1, pageRec], []⟩))) ∧
    hasKey own ⟨.text, 9⟩ = false := by decide +kernel
example : step ⟨true⟩ (grp [revRec, invRec1, pageRec]) .commit = (grp [revRec, invRec1, pageRec], .err .check) := by
  decide +kernel
-- … and the complete group is accepted (`commit_accepted_iff`, right to left)
example : (step ⟨true⟩ (grp [revRec, invRec1, pageRec, textRec]) .commit).2 = .ok := by decide +kernel
-- a text named by a parent-only inventory's page need not be present (stacking): the parent inventory 0
-- with the same root page is there, revision 0 is not new
example : (step ⟨true⟩ (grp [revRec, invRec1, pageRec, ⟨⟨.inv, 0⟩, none, [], [5], []⟩]) .commit).2 = .ok := by
  decide +kernel
-- hypotheses of `suspend_resume_cycles_eq_commit`: three cycles, the second inserts nothing
example : (nonempty [[revRec, invRec1], [], [pageRec]]).Nodup ∧
    (exec ⟨true⟩ ⟨[], [], none, []⟩ (.start :: cyclePrefix [] [[revRec, invRec1], [], [pageRec]] [textRec])).wg
      = some ⟨[textRec], [[revRec, invRec1], [pageRec]]⟩ := by decide +kernel

end BreezyVerif.C06
