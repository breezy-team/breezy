import BreezyVerif.Lemmas.C46World
/-!
C46 — clean-tree deletes only what was asked for.

Theorems about the model of `Model/C46.lean` (`extras` of bzr and git trees,
`iter_deletables`, `_filter_out_nested_controldirs`, `delete_items`,
`clean_tree`), for every layout (no bound on size or depth), every option
combination and both tree formats.  Hypotheses: `f.wf` (sibling names distinct
and proper, only directories have content) and, for `never_versioned`,
`f.unvClosed` (nothing versioned below an unversioned entry), equivalently
`invShaped f` (the parent of a versioned entry is versioned — what an inventory
guarantees) — both hold for every layout a file system + inventory/index can
produce and are evaluated on every real layout by the check; examples below.

The section "the file system" refines the abstract removal (`Forest.remove`) to the file
system (`Model/C46World.lean`): `os.unlink` / `shutil.rmtree` chosen per kind,
kernel path resolution through symbolic links into an area outside the tree,
the dry-run test inside `delete_items`; `clean_world_refines` shows that the
refinement does exactly what the abstract model says and `outside_unchanged`
that nothing outside the tree is touched.
-/
namespace BreezyVerif.C46
open Forest

/-- the candidate is in one of the requested classes (`iter_deletables`) -/
def InClass (o : Opts) (it : Item) : Prop :=
  (o.detritus = true ∧ isDetritus (joinPath it.path) = true) ∨
  (o.ignored = true ∧ it.info.ignored = true) ∨
  (o.unknown = true ∧ it.info.ignored = false)

variable {keep : Item → Bool} {fmt : Fmt} {o : Opts} {f : Forest} {it : Item}

/-- every path handed to `delete_items` names an entry of the layout, and the
flags the selection looked at are that entry's flags -/
theorem selected_at (hw : f.wf = true) (h : it ∈ selectedWith keep fmt o f) :
    f.get it.path = some (it.info, it.kids) :=
  get_of_mem_items hw (extras_sub (selected_sub h).1)

/-- every selected path is unversioned, in a requested class, and passed the
final filter -/
theorem deletables_subset (hw : f.wf = true) (h : it ∈ selectedWith keep fmt o f) :
    f.get it.path = some (it.info, it.kids) ∧ it.info.versioned = false ∧ InClass o it ∧
      keep it = true := by
  obtain ⟨he, hwant, hkeep⟩ := selected_sub h
  refine ⟨selected_at hw h, extras_unversioned he, ?_, hkeep⟩
  · unfold wanted at hwant
    unfold InClass
    by_cases hd : (o.detritus && isDetritus (joinPath it.path)) = true
    · left; simpa using hd
    · rw [if_neg hd] at hwant
      by_cases hi : it.info.ignored = true
      · rw [if_pos hi] at hwant; right; left; exact ⟨hwant, hi⟩
      · rw [if_neg hi] at hwant; right; right; exact ⟨hwant, by simpa using hi⟩

/-- never a versioned path, never a directory containing a versioned path:
nothing at or below a selected path is versioned -/
theorem never_versioned (hw : f.wf = true) (hc : f.unvClosed = true) (h : it ∈ selectedWith keep fmt o f)
    {q : Path} {i : Info} {k : Forest} (hq : it.path <+: q) (hg : f.get q = some (i, k)) :
    i.versioned = false := by
  obtain ⟨r, rfl⟩ := hq
  have hit := extras_sub (selected_sub h).1
  have hv := extras_unversioned (selected_sub h).1
  have hget := get_of_mem_items hw hit
  by_cases hr : r = []
  · subst hr
    simp only [List.append_nil] at hg
    rw [hget] at hg
    simp at hg
    rw [← hg.1]; exact hv
  · rw [get_append hget hr] at hg
    exact allUnv_get (unvClosed_items hc hit hv) hg

/-- a dry run deletes nothing -/
theorem dry_run_noop (h : o.dryRun = true) : cleanTreeWith keep fmt o f = (f, false) :=
  cleanTree_noop (Or.inl h)

/-- a declined prompt deletes nothing -/
theorem declined_noop (h : o.prompt = some false) : cleanTreeWith keep fmt o f = (f, false) :=
  cleanTree_noop (Or.inr h)

/-- everything selected is inside the tree: a non-empty relative path of the
layout whose components are proper names (no `..`, no `/`) -/
theorem inside_tree (hw : f.wf = true) (h : it ∈ selectedWith keep fmt o f) :
    it.path ≠ [] ∧ it.path ∈ f.paths ∧
      ∀ c ∈ it.path, c ≠ "" ∧ c ≠ "." ∧ c ≠ ".." ∧ '/' ∉ c.toList := by
  have hm := selected_path_mem h
  refine ⟨?_, hm, paths_components hw hm⟩
  obtain ⟨n, t, e, _⟩ := paths_head hm
  simp [e]

/-- the candidates of `extras()` are pairwise unrelated: none is at or below another -/
theorem extras_antichain (hw : f.wf = true) {a b : Item} (ha : a ∈ extras fmt f)
    (hb : b ∈ extras fmt f) (hp : a.path <+: b.path) : a = b := by
  rcases pairwise_mem_sym (extras_antichain' hw) (fun _ _ h => ⟨h.2, h.1⟩) ha hb with h | h
  · exact h
  · exact absurd hp h.1

/-- exact effect of a real run: no error escapes, and a path survives iff no
selected path is a prefix of it -/
theorem clean_exact (hw : f.wf = true) (hd : o.dryRun = false) (hp : o.prompt ≠ some false) :
    (cleanTreeWith keep fmt o f).2 = false ∧
      ∀ q, q ∈ (cleanTreeWith keep fmt o f).1.paths ↔
        (q ∈ f.paths ∧ ∀ s ∈ selectedWith keep fmt o f, ¬ s.path <+: q) :=
  ⟨(cleanTree_spec (keep := keep) hw hd hp).1, (cleanTree_spec (keep := keep) hw hd hp).2.2⟩

/-- for all options: no error, nothing is created, and whatever disappears lies
at or below a selected path -/
theorem clean_only_selected (hw : f.wf = true) :
    (cleanTreeWith keep fmt o f).2 = false ∧ (∀ q ∈ (cleanTreeWith keep fmt o f).1.paths, q ∈ f.paths) ∧
      ∀ q ∈ f.paths, q ∉ (cleanTreeWith keep fmt o f).1.paths → ∃ s ∈ selectedWith keep fmt o f, s.path <+: q := by
  by_cases hd : o.dryRun = true
  · rw [cleanTree_noop (Or.inl hd)]
    exact ⟨rfl, fun _ h => h, fun _ h h' => absurd h h'⟩
  · by_cases hp : o.prompt = some false
    · rw [cleanTree_noop (Or.inr hp)]
      exact ⟨rfl, fun _ h => h, fun _ h h' => absurd h h'⟩
    · obtain ⟨h1, _, h3⟩ := cleanTree_spec (keep := keep) (fmt := fmt) hw (by simpa using hd) hp
      refine ⟨h1, fun q hq => ((h3 q).mp hq).1, ?_⟩
      intro q hq hnq
      apply Classical.byContradiction
      intro hne
      exact hnq ((h3 q).mpr ⟨hq, fun s hs hpre => hne ⟨s, hs, hpre⟩⟩)

/-- a candidate of `extras()` that the final filter rejects is kept with
everything below it (the candidates are pairwise unrelated, so no other
candidate can take it along) -/
theorem rejected_candidate_kept (hw : f.wf = true) (h : it ∈ extras fmt f) (hk : keep it = false)
    {q : Path} (hq : it.path <+: q) (hm : q ∈ f.paths) :
    q ∈ (cleanTreeWith keep fmt o f).1.paths := by
  refine survives_below hw (fun s hs => ?_) hq hm
  obtain ⟨hse, _, hks⟩ := selected_sub hs
  have hne : s ≠ it := fun e => Bool.false_ne_true (hk.symm.trans (e ▸ hks))
  exact ⟨fun h' => hne (extras_antichain hw hse h h'), fun h' => hne (extras_antichain hw h hse h').symm⟩

/-- bzr trees: a nested branch directly inside a versioned directory (so that
`extras()` yields it) is kept with everything below it — by the filter as
found and by the proposed repair -/
theorem nested_branch_top_level_kept (flt : Filter) (hw : f.wf = true) (h : it ∈ extras .bzr f)
    (hd : it.info.kind = .dir) (hc : hasCtl it.kids = true) {q : Path} (hq : it.path <+: q)
    (hm : q ∈ f.paths) : q ∈ (cleanTreeWith (keepOf flt f) .bzr o f).1.paths := by
  apply rejected_candidate_kept hw h ?_ hq hm
  cases flt with
  | asFound => simp [keepOf, keepNested, hd, hc]
  | fixed => simp [keepOf, keepFixed, hd, hasCtl_containsCtlName hc]

/-- git trees: a directory holding a `.git` entry (nested git repository,
submodule, worktree link) is kept with everything below it -/
theorem git_nested_git_kept (hw : f.wf = true) {d : Path} {i : Info} {k : Forest}
    (hg : f.get d = some (i, k)) (hd : i.kind = .dir) (hc : k.hasName ".git" = true)
    {q : Path} (hq : d <+: q) (hm : q ∈ f.paths) : q ∈ (cleanTreeWith keep .git o f).1.paths :=
  survives_below hw
    (fun _ hs => filesG_incomp_gitdir hw hg hd hc (List.mem_filter.mp (selected_sub hs).1).1) hq hm

/-- the proposed repair of `_filter_out_nested_controldirs` (`keepFixed`, see
the report of the check) protects every control directory of every layout: no
selected path is an entry with a control name, contains one at any depth, or
lies in a directory below the tree root that holds one -/
theorem fixed_filter_protects (hw : f.wf = true) {s : Item}
    (hs : s ∈ selectedWith (keepFixed f) fmt o f) {d : Path} {c : String}
    (hc : isCtlName c = true) (hm : d ++ [c] ∈ f.paths) :
    ¬ s.path <+: d ++ [c] ∧ (d ≠ [] → ¬ d <+: s.path) := by
  obtain ⟨hse, _, hk⟩ := selected_sub hs
  obtain ⟨h1, h2, h3⟩ := keepFixed_iff.mp hk
  have hit := extras_sub hse
  have hget := get_of_mem_items hw hit
  -- a path below `s` with `c` in it makes `s` a directory with a control name below it
  have hbelow : ∀ r, r ∈ s.kids.paths → c ∉ r := fun r hr hcr => by
    have hdir := (wf_items_kids hw hit).resolve_right fun h => by rw [h] at hr; cases hr
    exact Bool.false_ne_true ((h3 hdir).symm.trans (containsCtlName_of_path hr hcr hc))
  constructor
  · rintro ⟨r, e⟩
    by_cases hr : r = []
    · subst hr
      rw [List.append_nil] at e
      exact Bool.false_ne_true ((h1 c (e ▸ List.mem_append_right d List.mem_cons_self)).symm.trans hc)
    · exact hbelow r (paths_below hw hget hr (e ▸ hm)) (mem_of_append_eq_snoc e hr)
  · rintro hd ⟨r, e⟩
    obtain ⟨⟨i, k⟩, hgd⟩ := get_of_mem_paths hw (paths_prefix_closed hm hd)
    have hck := paths_below hw hgd (List.cons_ne_nil c []) hm
    by_cases hr : r = []
    · subst hr
      rw [List.append_nil] at e
      rw [← e, hgd] at hget
      cases hget
      exact hbelow [c] hck List.mem_cons_self
    · -- `d` is a proper prefix of `s.path`
      exact Bool.false_ne_true ((e ▸ h2).symm.trans
        (insideNested_of_prefix hd hr hgd (hasCtlName_of_single hck hc)))

/-! ### what the unchanged code gets wrong (witnesses) -/

private def fl (n : String) (v : Bool := false) : Info :=
  { name := n, kind := .file, versioned := v, ignored := false, valid := false }
private def dr (n : String) (v : Bool := false) (valid : Bool := false) : Info :=
  { name := n, kind := .dir, versioned := v, ignored := false, valid := valid }
private def unknownOnly : Opts := { unknown := true, ignored := false, detritus := false, dryRun := false }

/-- F10: bzr tree, `unk/sub/.bzr`: the unknown directory `unk` is not itself a
branch, so the filter keeps it as a candidate and `rmtree` destroys the nested
branch `unk/sub` -/
theorem nested_branch_deep_witness :
    let f := cons (dr ".bzr" false true) nil <|
      cons (dr "unk") (cons (dr "sub") (cons (dr ".bzr" false true) nil (cons (fl "file") nil nil)) nil) nil
    f.wf = true ∧ f.unvClosed = true ∧ nestedRoots f = [["unk", "sub"]] ∧
      (selected .bzr unknownOnly f).map (·.path) = [["unk"]] ∧
      (cleanTree .bzr unknownOnly f).1.paths = [[".bzr"]] ∧
      selectedWith (keepFixed f) .bzr unknownOnly f = [] := by
  decide +kernel

/-- git tree, `nest/.bzr/README`, `nest/file`: the walk prunes `.git` only, the
files of the nested bzr branch and of its control directory are candidates one
by one and are all deleted -/
theorem git_tree_nested_bzr_witness :
    let f := cons (dr ".git" false true) nil <|
      cons (dr "nest") (cons (dr ".bzr" false true) (cons (fl "README") nil nil) (cons (fl "file") nil nil)) nil
    f.wf = true ∧ f.unvClosed = true ∧ nestedRoots f = [["nest"]] ∧
      (selected .git unknownOnly f).map (·.path) = [["nest", ".bzr", "README"], ["nest", "file"]] ∧
      (cleanTree .git unknownOnly f).1.paths = [[".git"], ["nest"], ["nest", ".bzr"]] ∧
      selectedWith (keepFixed f) .git unknownOnly f = [] := by
  decide +kernel

/-- bzr tree with a git repository colocated at the root (or in a versioned
directory): `.git` is an unknown directory, `ControlDir.open(".git")` fails, so
it is deleted -/
theorem bzr_tree_git_controldir_witness :
    let f := cons (dr ".bzr" false true) nil <| cons (dr ".git" false true) (cons (fl "HEAD") nil nil) <|
      cons (fl "a" true) nil nil
    f.wf = true ∧ f.unvClosed = true ∧
      (selected .bzr unknownOnly f).map (·.path) = [[".git"]] ∧
      (cleanTree .bzr unknownOnly f).1.paths = [[".bzr"], ["a"]] ∧
      selectedWith (keepFixed f) .bzr unknownOnly f = [] := by
  decide +kernel

/-! ### the repaired filter and the exact effect together -/

/-- with the repaired filter no component of a selected path is a control name -/
theorem fixed_no_ctl_component {s : Item} (hs : s ∈ selectedWith (keepFixed f) fmt o f) :
    ∀ c ∈ s.path, isCtlName c = false :=
  (keepFixed_iff.mp (selected_sub hs).2.2).1

/-- **every control directory survives with everything in it**: a path one of
whose components is a control name (`.bzr`, `.git`) survives every run of
`clean_tree` with the repaired filter, whatever the options -/
theorem control_paths_survive (hw : f.wf = true) {q : Path} (hm : q ∈ f.paths) {c : String}
    (hcq : c ∈ q) (hc : isCtlName c = true) :
    q ∈ (cleanTreeWith (keepFixed f) fmt o f).1.paths := by
  obtain ⟨d, r, rfl⟩ := List.append_of_mem hcq
  have hm' : d ++ [c] ∈ f.paths := by
    have : d ++ c :: r = (d ++ [c]) ++ r := by simp
    rw [this] at hm
    exact paths_prefix_closed hm (by simp)
  refine survives_below hw (d := d ++ [c]) (fun s hs => ⟨(fixed_filter_protects hw hs hc hm').1, fun h => ?_⟩)
    ⟨r, by simp⟩ hm
  exact Bool.false_ne_true ((fixed_no_ctl_component hs c (h.subset (by simp))).symm.trans hc)

/-- **every nested tree survives with all its working files**: a path at or
below a directory (below the tree root) that holds a control name survives
every run of `clean_tree` with the repaired filter, whatever the options -/
theorem nested_tree_survives (hw : f.wf = true) {d : Path} {c : String} (hd : d ≠ [])
    (hc : isCtlName c = true) (hm : d ++ [c] ∈ f.paths) {q : Path} (hq : d <+: q)
    (hqm : q ∈ f.paths) : q ∈ (cleanTreeWith (keepFixed f) fmt o f).1.paths := by
  refine survives_below hw (fun s hs => ?_) hq hqm
  obtain ⟨h1, h2⟩ := fixed_filter_protects hw hs hc hm
  exact ⟨fun h => h1 (h.trans (List.prefix_append d [c])), h2 hd⟩

/-! ### the inventory shape instead of `unvClosed` -/

/-- `unvClosed` is exactly "the parent of a versioned entry is versioned" -/
theorem invShaped_iff_unvClosed : invShaped f = true ↔ f.unvClosed = true :=
  ⟨unvClosed_of_invShaped, invShaped_of_unvClosed⟩

/-- never a versioned path, never a directory containing a versioned path —
from the invariant an inventory has (the parent of a versioned entry is
versioned; evaluated on every real layout by the check) -/
theorem never_versioned_inv (hw : f.wf = true) (hi : invShaped f = true)
    (h : it ∈ selectedWith keep fmt o f) {q : Path} {i : Info} {k : Forest} (hq : it.path <+: q)
    (hg : f.get q = some (i, k)) : i.versioned = false :=
  never_versioned hw (unvClosed_of_invShaped hi) h hq hg

/-! ### the file system: primitives, links, the outside, dry run inside `delete_items` -/

/-- every component but the last of a selected path is a real directory of the
layout — never a symbolic link — so the kernel resolves the path handed to
`os.unlink` / `shutil.rmtree` without leaving the tree -/
theorem selected_dirs_above (hw : f.wf = true) (h : it ∈ selectedWith keep fmt o f) :
    dirsAbove f it.path = true ∧
      ∀ r s, r ≠ [] → s ≠ [] → r ++ s = it.path → ∃ i k, f.get r = some (i, k) ∧ i.kind = .dir := by
  have hd := extras_dirsAbove hw (selected_sub h).1
  refine ⟨hd, ?_⟩
  intro r s hr hs e
  rw [← e] at hd
  exact dirsAbove_get hd hr hs

/-- `osutils.isdir` (lstat) always picks a primitive that accepts the entry:
`rmtree` for real directories only, `unlink` for files and for links of either sort -/
theorem lstat_prim_accepts (k : Kind) :
    (primFor false k).accepts k = true ∧ (primFor false k = .rmtree ↔ k = .dir) := by
  cases k <;> decide

/-- **a dry run deletes nothing**, with the test where the code has it (inside
`delete_items`, per item): whatever list `delete_items` is given — existing
paths or not — and whichever `isdir` it uses -/
theorem dry_run_deletes_nothing (follow : Bool) (w : World) (ps : List Path) :
    deleteItemsW follow true w ps = (w, false) := by
  induction ps with
  | nil => rfl
  | cons p ps ih => exact ih

/-- **refinement**: on every world whose tree layout is well formed,
`clean_tree` with per-kind primitives, kernel path resolution through links and
the dry-run test inside `delete_items` does to the tree exactly what the
abstract model says, with the same error flag, and changes nothing else -/
theorem clean_world_refines (w : World) (hw : w.tree.wf = true) :
    cleanTreeW keep fmt o w =
      ({ w with tree := (cleanTreeWith keep fmt o w.tree).1 }, (cleanTreeWith keep fmt o w.tree).2) := by
  rw [cleanTreeW_eq, cleanTreeWith_eq]
  by_cases hp : o.prompt = some false
  · rw [if_pos hp, if_pos (.inl hp)]
  · rw [if_neg hp]
    by_cases hd : o.dryRun = true
    · rw [if_pos (.inr hd), hd, dry_run_deletes_nothing]
    · rw [if_neg (not_or.mpr ⟨hp, hd⟩), (Bool.not_eq_true _).mp hd]
      apply deleteItemsW_refines
      · intro p hp'
        obtain ⟨s, hs, rfl⟩ := List.mem_map.mp hp'
        exact extras_dirsAbove hw (selected_sub hs).1
      · exact List.pairwise_map.mpr ((selected_antichain hw).imp And.left)

/-- **nothing outside the tree is touched**, whatever the layout, the links in
it, the options and the filter -/
theorem outside_unchanged (w : World) (hw : w.tree.wf = true) :
    (cleanTreeW keep fmt o w).1.outside = w.outside ∧ (cleanTreeW keep fmt o w).1.targets = w.targets := by
  rw [clean_world_refines w hw]
  exact ⟨rfl, rfl⟩

/-- a dry run of `clean_tree` leaves the whole world as it is -/
theorem dry_run_noop_world (w : World) (h : o.dryRun = true) : cleanTreeW keep fmt o w = (w, false) := by
  rw [cleanTreeW_eq, h, dry_run_deletes_nothing, ite_self]

private def lk (n : String) : Info :=
  { name := n, kind := .linkDir, versioned := false, ignored := false, valid := false }

/-- the outside area *is* reachable in the model: a path through a link to an
outside directory (what an `extras()` that entered such links would yield)
deletes the outside file and leaves the tree as it is -/
theorem follow_links_witness :
    let w : World := { tree := cons (lk "lnk") nil nil,
                       outside := cons (dr "od") (cons (fl "inner") nil nil) (cons (fl "canary") nil nil),
                       targets := [(["lnk"], ["od"])] }
    dirsAbove w.tree ["lnk", "inner"] = false ∧
      deleteItemsW false false w [["lnk", "inner"]] =
        ({ w with outside := cons (dr "od") nil (cons (fl "canary") nil nil) }, false) := by
  decide +kernel

/-- `os.path.isdir` instead of `osutils.isdir` would call `rmtree` on a link to
a directory, which raises; the code as it is unlinks the link and leaves its
target alone -/
theorem stat_isdir_witness :
    let w : World := { tree := cons (lk "lnk") nil (cons (fl "a") nil nil),
                       outside := cons (dr "od") (cons (fl "inner") nil nil) nil,
                       targets := [(["lnk"], ["od"])] }
    deleteItemsW true false w [["lnk"]] = (w, true) ∧
      deleteItemsW false false w [["lnk"]] = ({ w with tree := cons (fl "a") nil nil }, false) := by
  decide +kernel

/-! ### non-vacuity -/

/-- a layout satisfying `wf` and `unvClosed` on which every branch of the
selection is taken: a versioned directory with unknown, ignored and
detritus-named content, a top-level nested branch, an unknown directory -/
private def sample : Forest :=
  cons (dr ".bzr" false true) nil <|
  cons (dr "src" true) (cons (fl "main.c" true) nil <|
    cons { fl "main.o" with ignored := true } nil <| cons (fl "main.c~") nil <| cons (fl "notes") nil nil) <|
  cons (dr "nest") (cons (dr ".bzr" false true) nil (cons (fl "inner") nil nil)) <|
  cons (dr "build") (cons (fl "out") nil nil) nil

private theorem sample_wf : sample.wf = true := by decide +kernel

example : sample.wf = true ∧ sample.unvClosed = true := ⟨sample_wf, by decide +kernel⟩

example :
    (selected .bzr { unknown := true, ignored := false, detritus := false, dryRun := false } sample).map (·.path)
      = [["src", "main.c~"], ["src", "notes"], ["build"]] ∧
    (selected .bzr { unknown := false, ignored := true, detritus := true, dryRun := false } sample).map (·.path)
      = [["src", "main.o"], ["src", "main.c~"]] := by decide +kernel

/-- hypotheses of `nested_branch_top_level_kept` are satisfiable: `nest` -/
example : ∃ it ∈ extras .bzr sample, it.path = ["nest"] ∧ it.info.kind = .dir ∧ hasCtl it.kids = true := by
  decide +kernel

/-- hypotheses of `git_nested_git_kept` are satisfiable -/
example :
    let f := cons (dr ".git" false true) nil <|
      cons (dr "sub") (cons (dr ".git" false true) nil (cons (fl "x") nil nil)) (cons (fl "y") nil nil)
    f.wf = true ∧ (f.get ["sub"]).map (fun x => (x.1.kind, x.2.hasName ".git")) = some (.dir, true) ∧
      (cleanTree .git unknownOnly f).1.paths = [[".git"], ["sub"], ["sub", ".git"], ["sub", "x"]] := by
  decide +kernel

/-- a real run that deletes: hypotheses of `clean_exact` -/
example : unknownOnly.dryRun = false ∧ unknownOnly.prompt ≠ some false ∧
    (cleanTree .bzr unknownOnly sample).1.paths =
      [[".bzr"], ["src"], ["src", "main.c"], ["src", "main.o"], ["nest"],
       ["nest", ".bzr"], ["nest", "inner"]] := by decide +kernel

/-- hypotheses of `control_paths_survive` / `nested_tree_survives` are satisfiable, and the
conclusion is not empty: `nest/.bzr`, `nest/inner` survive a run that deletes `build` -/
example :
    sample.wf = true ∧ ["nest", ".bzr"] ∈ sample.paths ∧ isCtlName ".bzr" = true ∧
      (["nest"] : Path) <+: ["nest", "inner"] ∧ ["nest", "inner"] ∈ sample.paths ∧
      ((cleanTreeWith (keepFixed sample) .bzr unknownOnly sample).1.paths).contains ["build"] = false :=
  ⟨sample_wf, by decide +kernel⟩

/-- the inventory shape holds for the sample (and fails when a versioned file sits in an
unversioned directory) -/
example : invShaped sample = true ∧
    invShaped (cons (dr "u") (cons (fl "v" true) nil nil) nil) = false := by decide +kernel

/-- a world satisfying the hypothesis of `clean_world_refines` / `outside_unchanged` in which
something is deleted next to a link to the outside and to a versioned directory that has been
replaced by a link to the outside -/
example :
    let w : World := { tree := cons (dr ".bzr" false true) nil <| cons (lk "lnk") nil <|
                         cons { lk "vdir" with versioned := true } nil <| cons (fl "junk") nil nil,
                       outside := cons (dr "od") (cons (fl "inner") nil nil) nil,
                       targets := [(["lnk"], ["od"]), (["vdir"], ["od"])] }
    w.tree.wf = true ∧
      (cleanTreeW (keepFixed w.tree) .bzr unknownOnly w).1.tree.paths = [[".bzr"], ["vdir"]] ∧
      (cleanTreeW (keepFixed w.tree) .bzr unknownOnly w).1.outside = w.outside := by
  decide +kernel

end BreezyVerif.C46
