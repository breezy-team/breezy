import BreezyVerif.Model.C42
import BreezyVerif.Lemmas.C42C
/-!
C42 — theorems.  Every well-formed entry stream (any size, any depth, any
names that are non-empty and free of `/`), every selection, every root.
-/
namespace BreezyVerif.C42

/-- a sample tree: `a/` (with `a/in a`), its string-prefix sibling `ab`, a
symlink `x` next to a file `x.lnk`, a special path, an executable -/
def sampleTree : List CEnt :=
  [ ⟨[], .dir, [], false, []⟩,
    ⟨["a".toList], .dir, [], false, []⟩,
    ⟨["ab".toList], .file, [1], true, []⟩,
    ⟨[".bzrignore".toList], .file, [2], false, []⟩,
    ⟨["x".toList], .symlink, [], false, "a/in a".toList⟩,
    ⟨["x.lnk".toList], .file, [3], false, []⟩,
    ⟨["a".toList, "in a".toList], .file, [4], false, []⟩,
    ⟨["a".toList, "sub".toList], .dir, [], false, []⟩,
    ⟨["a".toList, "sub".toList, "deep".toList], .file, [5], true, []⟩ ]

example : WF sampleTree = true := by
  unfold sampleTree
  -- string literals become character lists first: `String.toList` of a literal makes the kernel decode UTF-8
  repeat rw [String.toList_ofList]
  decide +kernel

/-- `"/".join` is injective on lists of non-empty, slash-free names -/
theorem pathStr_injective {p q : List Name} (hp : p.all goodName = true) (hq : q.all goodName = true)
    (h : pathStr p = pathStr q) : p = q := pathStr_inj hp hq h

/-- **Per entry**: the loop body of `_export_iter_entries` (string equality,
`startswith(subdir + "/")`, slicing) computes the component-level step, for
every entry and every selection with good names -/
theorem step_eq_spec (special : Str → Bool) (sub : Option (List Name)) (c : CEnt)
    (hs : ∀ s, sub = some s → s.all goodName = true ∧ s ≠ []) (hc : c.cpath.all goodName = true) :
    step special (sub.map pathStr) (render c) = (specStep special sub c).map renderItem := by
  cases sub with
  | none => exact step_none_eq special c hc
  | some s => exact step_some_eq special c (hs s rfl).1 (hs s rfl).2 hc

/-- the iteration over the rendered entries is the specification wherever the loop body is -/
theorem exportIter_render (special : Str → Bool) (t : List CEnt) (str : Option Str) (sub : Option (List Name))
    (h : ∀ c ∈ t, step special (normSubdir str) (render c) = (specStep special sub c).map renderItem) :
    exportIter special str (t.map render) = (exportSpec special sub t).map renderItem := by
  unfold exportIter exportSpec
  rw [List.filterMap_map, List.map_filterMap]
  exact Lib.filterMap_congr_mem h

/-- **Exactness, selection given**: for every entry stream with good names and
every selected path `s` (written with any number of trailing slashes) the
string-level code yields, in stream order, exactly the entries properly below
`s` re-rooted at `s` — or `s` itself under its own name if it is not a
directory — minus the special paths -/
theorem export_exact (special : Str → Bool) (t : List CEnt) (s : List Name) (k : Nat)
    (ht : ∀ c ∈ t, c.cpath.all goodName = true) (hs : s.all goodName = true) (hne : s ≠ []) :
    exportIter special (some (pathStr s ++ List.replicate k '/')) (t.map render)
      = (exportSpec special (some s) t).map renderItem := by
  apply exportIter_render
  intro c hc
  have h0 : pathStr s ++ List.replicate k '/' ≠ [] := fun e =>
    pathStr_ne_nil hs hne (List.append_eq_nil_iff.mp e).1
  simp only [normSubdir, h0, if_false, rstrip_pathStr hs hne k]
  exact step_some_eq special c hs hne (ht c hc)

example : (["a".toList] : List Name).all goodName = true ∧ (["a".toList] : List Name) ≠ [] := by decide +kernel

/-- **Exactness, whole tree**: without a selection (`None` or `""`) everything
but the root and the special paths is yielded under its own path -/
theorem export_whole_tree (special : Str → Bool) (t : List CEnt)
    (ht : ∀ c ∈ t, c.cpath.all goodName = true) (sub : Option Str) (hsub : sub = none ∨ sub = some []) :
    exportIter special sub (t.map render) = (exportSpec special none t).map renderItem := by
  have : normSubdir sub = none := by
    rcases hsub with rfl | rfl <;> rfl
  apply exportIter_render
  intro c hc
  rw [this]
  exact step_none_eq special c (ht c hc)

/-- a selection made of slashes only (`"/"`, `"//"`) exports nothing (it is
normalised to the empty text *after* the test for "no selection") -/
theorem export_slash_only_empty (special : Str → Bool) (t : List CEnt)
    (ht : ∀ c ∈ t, c.cpath.all goodName = true) (k : Nat) :
    exportIter special (some (List.replicate (k + 1) '/')) (t.map render) = [] := by
  unfold exportIter normSubdir
  have h0 : List.replicate (k + 1) '/' ≠ [] := by simp [List.replicate_succ]
  simp only [h0, if_false, rstrip_slashes]
  rw [List.filterMap_map, List.filterMap_eq_nil_iff]
  intro c hc
  simp only [Function.comp]
  exact step_slash_empty special c (ht c hc)

/-- **Member set**: what is exported for a selection `s`, spelled out -/
theorem export_members (special : Str → Bool) (t : List CEnt) (s : List Name) (i : SItem) :
    i ∈ exportSpec special (some s) t ↔
      ∃ c ∈ t, i.ent = c ∧ c.cpath ≠ [] ∧ special (pathStr c.cpath) = false ∧
        ((c.cpath = s ∧ c.kind ≠ .dir ∧ i.final = [lastName c.cpath]) ∨
         (c.cpath ≠ s ∧ below s c.cpath = true ∧ i.final = c.cpath.drop s.length)) := by
  unfold exportSpec
  rw [List.mem_filterMap]
  refine exists_congr fun c => and_congr_right fun _ => ?_
  rw [specStep_some]
  obtain ⟨f, e⟩ := i
  simp only [SItem.mk.injEq]
  constructor
  · rintro ⟨h0, hsp, ⟨a, b, rfl, rfl⟩ | ⟨a, b, rfl, rfl⟩⟩
    · exact ⟨rfl, h0, hsp, Or.inl ⟨a, b, rfl⟩⟩
    · exact ⟨rfl, h0, hsp, Or.inr ⟨a, b, rfl⟩⟩
  · rintro ⟨rfl, h0, hsp, ⟨a, b, rfl⟩ | ⟨a, b, rfl⟩⟩
    · exact ⟨h0, hsp, Or.inl ⟨a, b, rfl, rfl⟩⟩
    · exact ⟨h0, hsp, Or.inr ⟨a, b, rfl, rfl⟩⟩

/-- **No duplicates**: in a well-formed tree no two exported entries get the
same final path (the selected non-directory cannot clash with an entry below
it, because nothing lies below a non-directory) -/
theorem export_finals_nodup (special : Str → Bool) (sub : Option (List Name)) (t : List CEnt)
    (h : WF t = true) : ((exportSpec special sub t).map (·.final)).Nodup := by
  unfold exportSpec
  rw [List.map_filterMap]
  apply nodup_filterMap_on _ (·.cpath) t (WF_unpack h).2.1
  intro c hc c' hc' x h1 h2
  obtain ⟨i, hi, hix⟩ := Option.map_eq_some_iff.mp h1
  obtain ⟨i', hi', hix'⟩ := Option.map_eq_some_iff.mp h2
  exact specStep_final_inj h hc hc' hi hi' (hix.trans hix'.symm)

/-- every `startswith` test is closed under going down the tree -/
theorem specialOf_mono (pfx : Option Str) : Mono (specialOf pfx) := by
  intro p q hp hpq
  cases pfx with
  | none => cases hp
  | some x =>
    simp only [specialOf, List.isPrefixOf_iff_prefix] at hp ⊢
    exact List.IsPrefix.trans hp hpq

/-- **Directories first**: in a well-formed tree every exported entry that lies
deeper than the export root is preceded by its parent, exported as a directory
under the parent path — for every selection and every special-path test that
is a prefix test -/
theorem export_dirs_first (special : Str → Bool) (hm : Mono special) (sub : Option (List Name))
    (t : List CEnt) (h : WF t = true) :
    itemsParentsFirst [] (exportSpec special sub t) = true :=
  itemsParentsFirst_exportSpec hm sub t [] [] (WF_unpack h).2.2 (fun _ hd => by cases hd)

example : itemsParentsFirst [] (exportSpec (specialOf (some ".bzr".toList)) (some ["a".toList]) sampleTree) = true
    ∧ (exportSpec (specialOf (some ".bzr".toList)) (some ["a".toList]) sampleTree).length = 3 := by decide +kernel

/-- the observable attributes of an exported item -/
def SItem.view (i : SItem) : List Name × Kind × Bytes × Bool × Str :=
  (i.final, i.ent.kind, i.ent.content, i.ent.exec, i.ent.target)

/-- **A selected directory is its sub-tree**: exporting the selection `s` is
exporting the whole of the tree re-rooted at `s` (with the special-path test
still applied to the original paths), whenever `s` is not a non-directory -/
theorem subdir_is_subtree (special : Str → Bool) (t : List CEnt) (s : List Name) (hne : s ≠ [])
    (hd : ∀ c ∈ t, c.cpath = s → c.kind = .dir) :
    (exportSpec special (some s) t).map SItem.view
      = (exportSpec (fun p => special (pathStr s ++ '/' :: p)) none (subtree s t)).map SItem.view := by
  unfold exportSpec subtree
  rw [List.filterMap_filterMap, List.map_filterMap, List.map_filterMap]
  apply Lib.filterMap_congr_mem
  intro c hc
  unfold specStep
  by_cases hb : below s c.cpath = true
  · obtain ⟨r, hr, he⟩ := below_iff.mp hb
    have h0 : c.cpath ≠ [] := by rw [he]; simp [hne]
    have hcs : c.cpath ≠ s := fun e => hr (List.append_right_eq_self.mp (he.symm.trans e))
    have hdrop : c.cpath.drop s.length = r := by rw [he]; simp
    have hps : pathStr c.cpath = pathStr s ++ '/' :: pathStr r := by rw [he]; exact pathStr_append hne hr
    simp only [hb, h0, hcs, if_true, if_false, Option.bind, hdrop, hr, hps]
    split <;> simp [SItem.view]
  · simp only [hb, Bool.false_eq_true, if_false, Option.bind]
    by_cases h0 : c.cpath = []
    · simp [h0]
    · by_cases hsp : special (pathStr c.cpath) = true
      · simp [h0, hsp]
      · by_cases hcs : c.cpath = s
        · simp [hcs, hd c hc hcs]
        · simp [h0, hsp, hcs]

/-- **A selected file (or symlink) is exported alone**, under its own name -/
theorem subdir_single_file (special : Str → Bool) (t : List CEnt) (h : WF t = true) (c : CEnt)
    (hc : c ∈ t) (hk : c.kind ≠ .dir) (h0 : c.cpath ≠ []) (hsp : special (pathStr c.cpath) = false)
    (i : SItem) :
    i ∈ exportSpec special (some c.cpath) t ↔ i = ⟨[lastName c.cpath], c⟩ := by
  rw [export_members]
  constructor
  · rintro ⟨d, hd, hde, _, _, hcase⟩
    rcases hcase with ⟨a1, _, a3⟩ | ⟨_, a2, _⟩
    · have : d = c := Lib.inj_of_nodup_map (·.cpath) (WF_unpack h).2.1 hd hc a1
      subst this
      cases i
      simp_all
    · rw [nothing_below_nondir h hc hk h0 hd] at a2
      cases a2
  · rintro rfl
    exact ⟨c, hc, rfl, h0, hsp, Or.inl ⟨rfl, hk, rfl⟩⟩

example : ∃ c ∈ sampleTree, c.kind ≠ .dir ∧ c.cpath = ["ab".toList] := by decide +kernel

/-- why the separator matters: `ab` starts with `a` as a string, but is not
below it -/
theorem prefix_sibling_witness :
    (pathStr ["a".toList]).isPrefixOf (pathStr ["ab".toList]) = true ∧
    below ["a".toList] ["ab".toList] = false ∧
    (exportIter (specialOf none) (some "a".toList) (sampleTree.map render)).map (·.final)
      = ["in a".toList, "sub".toList, "sub/deep".toList] := by
  unfold sampleTree
  repeat rw [String.toList_ofList]
  decide +kernel

/-- why only the LEADING `subdir/` may be stripped: the selected directory's name
recurs deeper inside it, exactly (`lib/vendor/lib/util`) and as the end of a
longer name (`lib/mylib/mod`); the entries keep their place below the selection
(`export_exact` proves this for every tree; this is the concrete instance) -/
theorem recurring_name_witness :
    (exportIter (specialOf none) (some "lib".toList)
      (([ ⟨[], .dir, [], false, []⟩, ⟨["lib".toList], .dir, [], false, []⟩,
          ⟨["lib".toList, "mylib".toList], .dir, [], false, []⟩,
          ⟨["lib".toList, "vendor".toList], .dir, [], false, []⟩,
          ⟨["lib".toList, "mylib".toList, "mod".toList], .file, [1], false, []⟩,
          ⟨["lib".toList, "vendor".toList, "lib".toList], .dir, [], false, []⟩,
          ⟨["lib".toList, "vendor".toList, "lib".toList, "util".toList], .file, [2], false, []⟩ ] : List CEnt).map
        render)).map (·.final)
      = ["mylib".toList, "vendor".toList, "mylib/mod".toList, "vendor/lib".toList, "vendor/lib/util".toList] := by
  repeat rw [String.toList_ofList]
  decide +kernel

/-- **Root**: the members of an archive exported with root `r` are the
members of the root-less archive with every name put under `r` -/
theorem root_prefix (filt : Filter) (root : Str) (its : List Item)
    (hrel : ∀ it ∈ its, it.final.head? ≠ some '/') :
    tarMembers filt root its
      = (tarMembers filt [] its).map (fun ms => ms.map fun m => { m with name := rootDir root ++ m.name }) := by
  unfold tarMembers
  induction its with
  | nil => rfl
  | cons it its ih =>
    have ih' := ih (fun x hx => hrel x (List.mem_cons_of_mem _ hx))
    have hp := hrel it List.mem_cons_self
    simp only [List.mapM_cons, bind, Except.bind, pure, Except.pure] at ih' ⊢
    have e1 : tarMember filt root it
        = (tarMember filt [] it).map fun m => { m with name := rootDir root ++ m.name } := by
      unfold tarMember
      simp only [pathjoin_eq root _ hp, pathjoin_eq [] _ hp, rootDir]
      cases it.ent.kind <;> simp [Except.map]
    rw [e1, ih']
    cases tarMember filt [] it with
    | error e => rfl
    | ok m =>
      simp only [Except.map]
      cases List.mapM (tarMember filt []) its <;> rfl

/-- the suffix the zip exporter appends to a member name -/
def zipSuffix : Kind → Str
  | .dir => ['/'] | .symlink => ".lnk".toList | _ => []

theorem zipMember_name (ke : Bool) (filt : Filter) (root : Str) (it : Item) (m : Member)
    (hp : it.final.head? ≠ some '/') (h : zipMember ke filt root it = some m) :
    m.name = rootDir root ++ (it.final ++ zipSuffix it.ent.kind) := by
  unfold zipMember at h
  rw [pathjoin_eq root _ hp] at h
  cases hk : it.ent.kind <;> rw [hk] at h <;> cases h <;> simp [zipSuffix]

/-- every member name of a tar or zip export starts with the root directory -/
theorem root_prefix_under (filt : Filter) (root : Str) (its : List Item)
    (hrel : ∀ it ∈ its, it.final.head? ≠ some '/') :
    (∀ ms, tarMembers filt root its = .ok ms → ∀ m ∈ ms, rootDir root <+: m.name) ∧
    (∀ ke, ∀ m ∈ zipMembers ke filt root its, rootDir root <+: m.name) := by
  constructor
  · intro ms h m hm
    rw [root_prefix filt root its hrel] at h
    cases h0 : tarMembers filt [] its with
    | error e => rw [h0] at h; cases h
    | ok ms0 =>
      rw [h0] at h
      cases h
      obtain ⟨m0, _, rfl⟩ := List.mem_map.mp hm
      exact List.prefix_append _ _
  · intro ke m hm
    obtain ⟨it, hit, h1⟩ := List.mem_filterMap.mp hm
    rw [zipMember_name ke filt root it m (hrel it hit) h1]
    exact List.prefix_append _ _

/-- the directory exporter writes what a root-less tar export contains -/
theorem dir_eq_tar_rootless (filt : Filter) (its : List Item) (hrel : ∀ it ∈ its, it.final.head? ≠ some '/') :
    dirMembers filt its = tarMembers filt [] its := by
  unfold dirMembers tarMembers
  apply mapM_congr
  intro it hit
  unfold dirMember tarMember
  rw [pathjoin_eq [] _ (hrel it hit)]
  simp [rootDir]

theorem zipSuffix_nil {k : Kind} (hd : k ≠ .dir) (hs : k ≠ .symlink) : zipSuffix k = [] := by
  cases k
  · rfl
  · exact absurd rfl hd
  · exact absurd rfl hs
  · rfl

/-- only a directory's member name ends in `/` -/
theorem getLast_zipSuffix {k : Kind} (hd : k ≠ .dir) {l : Str} (hl : l.getLast? ≠ some '/') :
    (l ++ zipSuffix k).getLast? ≠ some '/' := by
  cases k
  · simpa [zipSuffix] using hl
  · exact absurd rfl hd
  · simp [zipSuffix]
  · simpa [zipSuffix] using hl

/-- **zip member names are unique** provided no exported non-symlink is called
`<a symlink's path>.lnk` (the exporter stores symlinks as `<path>.lnk` text
members; see `zip_lnk_collision_witness` for what happens otherwise).  The
other hypotheses are discharged for every export of a well-formed tree in
`zip_export_names_nodup_partial` (via `finals_rel`, `export_finals_nodup`). -/
theorem zip_names_nodup_partial (ke : Bool) (filt : Filter) (root : Str) (its : List Item)
    (hnd : (its.map (·.final)).Nodup)
    (hrel : ∀ it ∈ its, it.final.head? ≠ some '/')
    (hend : ∀ it ∈ its, it.final.getLast? ≠ some '/')
    (hlnk : ∀ a ∈ its, ∀ b ∈ its, a.ent.kind = .symlink → b.ent.kind ≠ .symlink →
              b.final ≠ a.final ++ ".lnk".toList) :
    ((zipMembers ke filt root its).map (·.name)).Nodup := by
  unfold zipMembers
  rw [List.map_filterMap]
  apply nodup_filterMap_on _ (·.final) its hnd
  intro a ha a' ha' n h1 h2
  simp only [Option.map_eq_some_iff] at h1 h2
  obtain ⟨m, hm, hmn⟩ := h1
  obtain ⟨m', hm', hmn'⟩ := h2
  have e1 := zipMember_name ke filt root a m (hrel a ha) hm
  have e2 := zipMember_name ke filt root a' m' (hrel a' ha') hm'
  have e : a.final ++ zipSuffix a.ent.kind = a'.final ++ zipSuffix a'.ent.kind := by
    have : rootDir root ++ (a.final ++ zipSuffix a.ent.kind)
        = rootDir root ++ (a'.final ++ zipSuffix a'.ent.kind) := by rw [← e1, ← e2, hmn, hmn']
    exact List.append_cancel_left this
  -- compare the suffixes: `/` for a directory, `.lnk` for a symlink, none otherwise
  have slash : ∀ l : Str, (l ++ zipSuffix .dir).getLast? = some '/' := fun l => by simp [zipSuffix]
  by_cases hd : a.ent.kind = .dir
  · by_cases hd' : a'.ent.kind = .dir
    · rw [hd, hd'] at e
      exact List.append_cancel_right e
    · exact absurd (by rw [← e, hd]; exact slash _) (getLast_zipSuffix hd' (hend a' ha'))
  · by_cases hd' : a'.ent.kind = .dir
    · exact absurd (by rw [e, hd']; exact slash _) (getLast_zipSuffix hd (hend a ha))
    · by_cases hs : a.ent.kind = .symlink
      · by_cases hs' : a'.ent.kind = .symlink
        · rw [hs, hs'] at e
          exact List.append_cancel_right e
        · rw [hs, zipSuffix_nil hd' hs', List.append_nil] at e
          exact absurd e.symm (hlnk a ha a' ha' hs hs')
      · by_cases hs' : a'.ent.kind = .symlink
        · rw [zipSuffix_nil hd hs, hs', List.append_nil] at e
          exact absurd e (hlnk a' ha' a ha hs' hs)
        · rwa [zipSuffix_nil hd hs, zipSuffix_nil hd' hs', List.append_nil, List.append_nil] at e

/-! ### end to end: entry stream → archive members -/

/-- **Shape of final paths**: for every stream of good names, every selection
and every special test, no final path starts or ends with `/` (this discharges
the `hrel` / `hend` hypotheses of `root_prefix`, `root_prefix_under`,
`dir_eq_tar_rootless` and `zip_names_nodup_partial`) -/
theorem finals_rel (special : Str → Bool) (sub : Option (List Name)) (t : List CEnt)
    (ht : ∀ c ∈ t, c.cpath.all goodName = true) :
    ∀ it ∈ (exportSpec special sub t).map renderItem,
      it.final.head? ≠ some '/' ∧ it.final.getLast? ≠ some '/' := by
  intro it hit
  obtain ⟨i, hi, rfl⟩ := List.mem_map.mp hit
  have g := (exportSpec_final_good ht hi).1
  exact ⟨pathStr_head_ne_slash g, pathStr_getLast_ne_slash g⟩

/-- the string-level iteration computes the specification for every `subdir`
argument that denotes a selection (`None`, `""`, or a path with any number of
trailing slashes) — `export_exact` and `export_whole_tree` in one statement -/
theorem export_iter_eq_spec (special : Str → Bool) (t : List CEnt)
    (ht : ∀ c ∈ t, c.cpath.all goodName = true) {subStr : Option Str} {sub : Option (List Name)}
    (hd : Denotes subStr sub) :
    exportIter special subStr (t.map render) = (exportSpec special sub t).map renderItem := by
  cases hd with
  | none => exact export_whole_tree special t ht none (Or.inl rfl)
  | empty => exact export_whole_tree special t ht (some []) (Or.inr rfl)
  | path s k hs hne => exact export_exact special t s k ht hs hne

example : Denotes (some "a//".toList) (some ["a".toList]) := Denotes.path ["a".toList] 2 (by decide) (by decide)

/-- `root_prefix` and `dir_eq_tar_rootless` for every export of a stream of good
names, with their hypothesis discharged by `finals_rel`: the archive with root
`r` is the root-less archive with every name put under `r`, and the directory
exporter writes what the root-less tar export contains -/
theorem root_prefix_export (special : Str → Bool) (filt : Filter) (root : Str) (t : List CEnt)
    (ht : ∀ c ∈ t, c.cpath.all goodName = true) {subStr : Option Str} {sub : Option (List Name)}
    (hd : Denotes subStr sub) :
    let its := exportIter special subStr (t.map render)
    tarMembers filt root its
        = (tarMembers filt [] its).map (fun ms => ms.map fun m => { m with name := rootDir root ++ m.name })
      ∧ dirMembers filt its = tarMembers filt [] its := by
  simp only
  rw [export_iter_eq_spec special t ht hd]
  have hf := finals_rel special sub t ht
  exact ⟨root_prefix filt root _ (fun it hit => (hf it hit).1),
         dir_eq_tar_rootless filt _ (fun it hit => (hf it hit).1)⟩

/-- **tar, end to end**: for every well-formed tree, every denoted selection,
every root, every filter and every special test, the ordered member list of the
tar exporter is the specification's items, each named
`rootDir root ++ "/".join(final)` and carrying the tree entry's kind, (filtered)
content, executable bit and link target.  No hypothesis beyond `WF`. -/
theorem tar_export_exact (special : Str → Bool) (filt : Filter) (root : Str) (t : List CEnt)
    (h : WF t = true) {subStr : Option Str} {sub : Option (List Name)} (hd : Denotes subStr sub) :
    tarMembers filt root (exportIter special subStr (t.map render))
      = (exportSpec special sub t).mapM (specTar filt root) := by
  have ht := (WF_unpack h).1
  rw [export_iter_eq_spec special t ht hd]
  unfold tarMembers
  rw [List.mapM_map]
  apply mapM_congr
  intro i hi
  exact tarMember_renderItem filt root i (exportSpec_final_good ht hi).1

/-- **directory, end to end**: the directory exporter writes the specification's
items under their final paths (the root option is not used) -/
theorem dir_export_exact (special : Str → Bool) (filt : Filter) (t : List CEnt)
    (h : WF t = true) {subStr : Option Str} {sub : Option (List Name)} (hd : Denotes subStr sub) :
    dirMembers filt (exportIter special subStr (t.map render))
      = (exportSpec special sub t).mapM (specTar filt []) := by
  exact (root_prefix_export special filt [] t (WF_unpack h).1 hd).2.trans (tar_export_exact special filt [] t h hd)

/-- **zip, end to end**: the ordered member list of the zip exporter is the
specification's items as `specZip` names them (directories `…/`, symlinks
`….lnk` text members) -/
theorem zip_export_exact (special : Str → Bool) (ke : Bool) (filt : Filter) (root : Str) (t : List CEnt)
    (h : WF t = true) {subStr : Option Str} {sub : Option (List Name)} (hd : Denotes subStr sub) :
    zipMembers ke filt root (exportIter special subStr (t.map render))
      = (exportSpec special sub t).filterMap (specZip ke filt root) := by
  have ht := (WF_unpack h).1
  rw [export_iter_eq_spec special t ht hd]
  unfold zipMembers
  rw [List.filterMap_map]
  apply Lib.filterMap_congr_mem
  intro i hi
  exact zipMember_renderItem ke filt root i (exportSpec_final_good ht hi).1

example : (tarMembers (fun _ c => c) "r".toList
    (exportIter (specialOf (some ".bzr".toList)) (some "a/".toList) (sampleTree.map render))).toOption
    = some [⟨"r/in a".toList, .file, [4], false, []⟩, ⟨"r/sub".toList, .dir, [], false, []⟩,
           ⟨"r/sub/deep".toList, .file, [5], true, []⟩] := by
  unfold sampleTree
  repeat rw [String.toList_ofList]
  decide +kernel

/-- **tar / directory member names are unique** for every well-formed tree,
selection and root (no side condition, unlike zip) -/
theorem tar_export_names_nodup (special : Str → Bool) (filt : Filter) (root : Str) (t : List CEnt)
    (h : WF t = true) {subStr : Option Str} {sub : Option (List Name)} (hd : Denotes subStr sub)
    (ms : List Member) (hok : tarMembers filt root (exportIter special subStr (t.map render)) = .ok ms) :
    (ms.map (·.name)).Nodup := by
  rw [tar_export_exact special filt root t h hd] at hok
  rw [mapM_specTar_names filt root _ ms hok]
  exact names_nodup root _ (fun i hi => (exportSpec_final_good (WF_unpack h).1 hi).1)
    (export_finals_nodup special sub t h)

/-- **zip member names are unique** for every export of a well-formed tree,
provided no exported non-symlink is called `<an exported symlink's path>.lnk`
(the only remaining hypothesis; `zip_lnk_collision_witness` shows it is needed) -/
theorem zip_export_names_nodup_partial (special : Str → Bool) (ke : Bool) (filt : Filter) (root : Str)
    (t : List CEnt) (h : WF t = true) {subStr : Option Str} {sub : Option (List Name)}
    (hd : Denotes subStr sub)
    (hlnk : ∀ a ∈ exportSpec special sub t, ∀ b ∈ exportSpec special sub t,
              a.ent.kind = .symlink → b.ent.kind ≠ .symlink →
              pathStr b.final ≠ pathStr a.final ++ ".lnk".toList) :
    ((zipMembers ke filt root (exportIter special subStr (t.map render))).map (·.name)).Nodup := by
  have ht := (WF_unpack h).1
  rw [export_iter_eq_spec special t ht hd]
  have hf := finals_rel special sub t ht
  apply zip_names_nodup_partial ke filt root _ _ (fun it hit => (hf it hit).1) (fun it hit => (hf it hit).2)
  · intro a ha b hb hka hkb
    obtain ⟨i, hi, rfl⟩ := List.mem_map.mp ha
    obtain ⟨j, hj, rfl⟩ := List.mem_map.mp hb
    exact hlnk i hi j hj hka hkb
  · rw [List.map_map]
    have : (fun x => x.final) ∘ renderItem = fun i : SItem => [] ++ pathStr i.final := by
      funext i; rfl
    rw [this]
    have := names_nodup [] _ (fun i hi => (exportSpec_final_good ht hi).1) (export_finals_nodup special sub t h)
    simpa [rootDir] using this

example : ∀ a ∈ exportSpec (specialOf none) (some ["a".toList]) sampleTree,
    ∀ b ∈ exportSpec (specialOf none) (some ["a".toList]) sampleTree,
      a.ent.kind = .symlink → b.ent.kind ≠ .symlink → pathStr b.final ≠ pathStr a.final ++ ".lnk".toList := by
  unfold sampleTree
  repeat rw [String.toList_ofList]
  decide +kernel

/-! ### selections that denote nothing -/

/-- **Only paths select**: if a non-empty `subdir` argument makes the iteration
yield anything, then — after `rstrip("/")` — it is the `/`-join of a non-empty
component prefix of some entry's path.  Consequently `/a`, `a//b`, `./a`,
`a/.`, `no/such` export nothing (next two theorems). -/
theorem export_nonempty_selection_is_path (special : Str → Bool) (t : List CEnt) (s : Str)
    (ht : ∀ c ∈ t, c.cpath.all goodName = true) (hs : s ≠ [])
    (h : exportIter special (some s) (t.map render) ≠ []) :
    ∃ c ∈ t, ∃ p, p ≠ [] ∧ p <+: c.cpath ∧ pathStr p = rstripSlash s := by
  unfold exportIter normSubdir at h
  simp only [hs, if_false] at h
  rw [List.filterMap_map] at h
  obtain ⟨it, hit⟩ := List.exists_mem_of_ne_nil _ h
  obtain ⟨c, hc, hci⟩ := List.mem_filterMap.mp hit
  exact ⟨c, hc, step_some_is_path (ht c hc) hci⟩

/-- a selection with an empty component (`/a`, `a//b`, `//`, …) exports nothing -/
theorem export_selection_empty_component (special : Str → Bool) (t : List CEnt) (s : Str)
    (ht : ∀ c ∈ t, c.cpath.all goodName = true) (hs : s ≠ [])
    (he : [] ∈ splitSlash (rstripSlash s)) :
    exportIter special (some s) (t.map render) = [] := by
  apply Classical.byContradiction
  intro hne
  obtain ⟨c, hc, p, hp0, hpc, hps⟩ := export_nonempty_selection_is_path special t s ht hs hne
  have hg := prefix_all_good (ht c hc) hpc
  rw [← hps, splitSlash_pathStr hg hp0] at he
  have := (List.all_eq_true.mp hg) [] he
  simp [goodName] at this

example : ([] : Str) ∈ splitSlash (rstripSlash "/a".toList) ∧ ([] : Str) ∈ splitSlash (rstripSlash "a//b/".toList) := by
  decide +kernel

/-- a selection of good names that is not a component prefix of any entry's
path (`no/such`, `./a`, `a/.`) exports nothing -/
theorem export_selection_not_in_tree (special : Str → Bool) (t : List CEnt) (s : List Name) (k : Nat)
    (ht : ∀ c ∈ t, c.cpath.all goodName = true) (hs : s.all goodName = true) (hne : s ≠ [])
    (hno : ∀ c ∈ t, ¬ s <+: c.cpath) :
    exportIter special (some (pathStr s ++ List.replicate k '/')) (t.map render) = [] := by
  apply Classical.byContradiction
  intro h
  have h0 : pathStr s ++ List.replicate k '/' ≠ [] := by
    intro e
    exact pathStr_ne_nil hs hne (List.append_eq_nil_iff.mp e).1
  obtain ⟨c, hc, p, _, hpc, hps⟩ := export_nonempty_selection_is_path special t _ ht h0 h
  rw [rstrip_pathStr hs hne k] at hps
  have := pathStr_inj (prefix_all_good (ht c hc) hpc) hs hps
  exact hno c hc (this ▸ hpc)

example : ∀ c ∈ sampleTree, ¬ ([".".toList, "a".toList] : List Name) <+: c.cpath := by
  unfold sampleTree
  repeat rw [String.toList_ofList]
  decide +kernel

/-! ### `get_root_name` -/

/-- **Root name**: for every registered extension `ext`, every directory part
and every slash-free stem `b` (even one that itself ends in an extension),
`get_root_name(d/b.ext) = b`: exactly one extension is stripped (no registered
extension is a suffix of another, so the first match is the only match) -/
theorem rootName_strips_ext (ext : Str) (he : ext ∈ extensions) (b : Str) (hb : '/' ∉ b) (d : Str) :
    rootName (d ++ '/' :: (b ++ ext)) = b ∧ rootName (b ++ ext) = b := by
  obtain ⟨hes, hel⟩ := ext_noslash ext he
  have hbe : '/' ∉ b ++ ext := by
    intro m
    rcases List.mem_append.mp m with m | m
    · exact hb m
    · exact hes m
  have hfind : extensions.find? (endsWith (b ++ ext)) = some ext := by
    apply Lib.find?_of_unique he (endsWith_iff.mpr (List.suffix_append _ _))
    intro y hy hyb
    have h1 : y <:+ b ++ ext := endsWith_iff.mp hyb
    have h2 : ext <:+ b ++ ext := List.suffix_append _ _
    rcases List.suffix_or_suffix_of_suffix h1 h2 with h3 | h3
    · exact (ext_suffix_free ext he y hy (endsWith_iff.mpr h3)).symm
    · exact ext_suffix_free y hy ext he (endsWith_iff.mpr h3)
  have htake : (b ++ ext).take ((b ++ ext).length - ext.length) = b := by
    apply List.take_left'
    simp
  have key : ∀ dest : Str, dest ≠ ['-'] → basename dest = b ++ ext → rootName dest = b := by
    intro dest hd hbn
    unfold rootName
    simp only [hd, if_false, hbn, hfind, htake]
  refine ⟨key _ ?_ (basename_append d hbe), key _ ?_ (basename_noslash hbe)⟩
  · intro e
    have : '/' ∈ ['-'] := by rw [← e]; simp
    simp at this
  · intro e
    have := congrArg List.length e
    simp at this
    omega

example : ".tar.gz".toList ∈ extensions ∧ '/' ∉ "x.tar".toList := by
  unfold extensions
  simp only [List.map_cons, List.map_nil]
  repeat rw [String.toList_ofList]
  decide +kernel

/-- a destination whose basename ends in no registered extension is its own root name -/
theorem rootName_no_ext (dest : Str) (hd : dest ≠ ['-'])
    (hno : ∀ ext ∈ extensions, endsWith (basename dest) ext = false) :
    rootName dest = basename dest := by
  unfold rootName
  have : extensions.find? (endsWith (basename dest)) = none := by
    rw [List.find?_eq_none]
    intro x hx
    rw [hno x hx]
    simp
  simp only [hd, if_false, this]

example : ∀ ext ∈ extensions, endsWith (basename "d/a.tar.gz.old".toList) ext = false := by
  unfold extensions
  simp only [List.map_cons, List.map_nil]
  repeat rw [String.toList_ofList]
  decide +kernel

/-- **Witness** (`.tar.gz` is tried as a whole, not `.gz` after `.tar`):
`a.tar.gz` has root `a`, `a.tgz.tgz` has root `a.tgz`, `.tar` has the empty root -/
theorem rootName_witness :
    rootName "d/a.tar.gz".toList = "a".toList ∧ rootName "a.tgz.tgz".toList = "a.tgz".toList ∧
    rootName ".tar".toList = [] ∧ rootName "-".toList = [] := by decide +kernel

/-- **Witness**: a well-formed tree holding a symlink `x` and a file `x.lnk`
is exported to a zip file with two members called `x.lnk` -/
theorem zip_lnk_collision_witness :
    WF sampleTree = true ∧
    ((zipMembers false (fun _ c => c) [] (exportIter (specialOf none) none (sampleTree.map render))).map
        (·.name)).count "x.lnk".toList = 2 := by
  unfold sampleTree
  repeat rw [String.toList_ofList]
  decide +kernel

/-- **Witness**: the zip exporter as found loses the executable bit (`ab` is
executable in the sample tree) -/
theorem zip_exec_dropped_witness :
    (sampleTree.any fun c => c.cpath == ["ab".toList] && c.exec) = true ∧
    ((zipMembers false (fun _ c => c) [] (exportIter (specialOf none) none (sampleTree.map render))).any
        fun m => m.name == "ab".toList && !m.exec) = true := by decide +kernel

/-- the zip exporter that records the mode keeps the executable bit of every file -/
theorem zip_exec_kept (filt : Filter) (root : Str) (it : Item) (m : Member) (hk : it.ent.kind = .file)
    (h : zipMember true filt root it = some m) : m.exec = it.ent.exec ∧ m.content = filt it.ent.path it.ent.content := by
  unfold zipMember at h
  rw [hk] at h
  cases h
  simp

end BreezyVerif.C42
