import BreezyVerif.Model.C47
import BreezyVerif.Lemmas.C47Path
import BreezyVerif.Lemmas.C47Join
import BreezyVerif.Lemmas.C47Lines
import BreezyVerif.Lemmas.C47Date
import BreezyVerif.Lemmas.C47F64
/-!
C47 — theorems.  Every statement is for *all* inputs (path lists, byte strings,
chunkings, nanosecond counts); nothing is bounded.
-/
namespace BreezyVerif.C47

/-- the selection is a subset of the input -/
theorem mps_subset (ps : List Path) : ∀ q ∈ mps ps, q ∈ ps := by
  intro q hq
  unfold mps at hq
  split at hq
  · exact hq
  · split at hq
    · simp at hq
    · rename_i s0 rest hsort
      rw [← mem_sortPaths, hsort]
      rcases List.mem_cons.mp hq with rfl | hq
      · simp
      · exact List.mem_cons_of_mem _ ((scan_sublist _ _).mem hq)

/-- no selected path lies inside another selected path -/
theorem mps_antichain (ps : List Path) :
    ∀ q ∈ mps ps, ∀ q' ∈ mps ps, isInside q q' = true → q = q' := by
  intro q hq q' hq' h
  exact mps_antichain' ps q hq q' hq' ((isInside_iff _ _).mp h)

/-- every input path lies inside exactly one selected path -/
theorem mps_covers_exactly_one (ps : List Path) (p : Path) (hp : p ∈ ps) :
    ∃ q ∈ mps ps, isInside q p = true ∧ ∀ q' ∈ mps ps, isInside q' p = true → q' = q := by
  obtain ⟨q, hq, hqp⟩ := mps_cover' ps p hp
  refine ⟨q, hq, (isInside_iff _ _).mpr hqp, ?_⟩
  intro q' hq' hq'p
  have hq'p := (isInside_iff _ _).mp hq'p
  -- two prefixes of the same path are comparable; the antichain property makes them equal
  rcases Nat.le_total q'.length q.length with hl | hl
  · exact mps_antichain' ps q' hq' q hq (List.prefix_of_prefix_length_le hq'p hqp hl)
  · exact (mps_antichain' ps q hq q' hq' (List.prefix_of_prefix_length_le hqp hq'p hl)).symm

/-- order-independent characterisation: the selected paths are exactly the
input paths that have no other input path as a proper ancestor -/
theorem mps_characterisation (ps : List Path) (q : Path) :
    q ∈ mps ps ↔ q ∈ ps ∧ ∀ p ∈ ps, isInside p q = true → p = q := by
  constructor
  · intro hq
    refine ⟨mps_subset ps q hq, fun p hp hpq => ?_⟩
    have hpq := (isInside_iff _ _).mp hpq
    obtain ⟨q0, hq0, hq0p⟩ := mps_cover' ps p hp
    have : q0 = q := mps_antichain' ps q0 hq0 q hq (hq0p.trans hpq)
    subst this
    exact hpq.eq_of_length_le hq0p.length_le
  · rintro ⟨hq, hmin⟩
    obtain ⟨q0, hq0, hq0q⟩ := mps_cover' ps q hq
    have := hmin q0 (mps_subset ps q0 hq0) ((isInside_iff _ _).mpr hq0q)
    exact this ▸ hq0

/-- `is_inside_any` is containment in some listed directory -/
theorem inside_any_iff (dirs : List Path) (f : Path) :
    isInsideAny dirs f = true ↔ ∃ d ∈ dirs, d <+: f := by
  unfold isInsideAny
  simp [isInside_iff]

/-- the selection covers exactly what the input covers -/
theorem inside_any_mps (ps : List Path) (f : Path) :
    isInsideAny (mps ps) f = isInsideAny ps f := by
  rw [Bool.eq_iff_iff, inside_any_iff, inside_any_iff]
  constructor
  · rintro ⟨d, hd, hdf⟩
    exact ⟨d, mps_subset ps d hd, hdf⟩
  · rintro ⟨d, hd, hdf⟩
    obtain ⟨q, hq, hqd⟩ := mps_cover' ps d hd
    exact ⟨q, hq, hqd.trans hdf⟩

/-- the scan on the sorted list `a, a/b, ab, b, b/a` keeps `ab, b` after `a` -/
example : scan [[97]] [[[97], [98]], [[97, 98]], [[98]], [[98], [97]]] = [[[97, 98]], [[98]]] := by
  decide +kernel

/-- a normalised relative path: empty, or `/`-separated non-empty segments none of which is `.` or `..` -/
def normalised (p : Bytes) : Bool :=
  p = [] ∨ (splitOn slash p).all (fun s => s ≠ [] ∧ s ≠ [dot] ∧ s ≠ [dot, dot])

/-- splitting a normalised path and joining the parts gives the path back -/
theorem split_join_id (p : Bytes) (h : normalised p = true) :
    ∃ cs, splitpath p = .ok cs ∧ joinpath cs = .ok p := by
  simp only [normalised, Bool.decide_or, Bool.or_eq_true, decide_eq_true_eq] at h
  rcases h with rfl | h
  · exact ⟨[], by simp [splitpath, splitOn, splitpathAux], by simp [joinpath, pathjoin]⟩
  · have hv : ∀ c ∈ splitOn slash p, validComp c = true := by
      intro c hc
      have := List.all_eq_true.mp h c hc
      simp only [Bool.decide_and, Bool.and_eq_true, decide_eq_true_eq] at this
      exact (validComp_iff c).mpr ⟨this.1, splitOn_no_sep slash p c hc, this.2.1, this.2.2⟩
    refine ⟨splitOn slash p, splitpathAux_valid _ hv, ?_⟩
    rw [joinpath_valid _ hv, joinSlash_splitOn]

/-- joining valid components and splitting the result gives the components back -/
theorem join_split_id (cs : List Bytes) (h : ∀ c ∈ cs, validComp c = true) :
    ∃ p, joinpath cs = .ok p ∧ splitpath p = .ok cs := by
  refine ⟨joinSlash cs, joinpath_valid cs h, ?_⟩
  unfold splitpath
  cases cs with
  | nil => simp [joinSlash, splitOn, splitpathAux]
  | cons c rest =>
    rw [splitOn_joinSlash_valid h (by simp)]
    exact splitpathAux_valid _ h

/-- `splitpath` normalises: whatever it returns is reproduced by join-then-split -/
theorem split_join_split (p : Bytes) (cs : List Bytes) (h : splitpath p = .ok cs) :
    ∃ p', joinpath cs = .ok p' ∧ splitpath p' = .ok cs :=
  join_split_id cs (splitpathAux_ok_valid _ cs (splitOn_no_sep slash p) h)

example : normalised [97, 47, 98, 99] = true ∧ splitpath [97, 47, 98, 99] = .ok [[97], [98, 99]] := by decide +kernel
example : validComp [97] = true ∧ validComp [46, 46] = false ∧ validComp [] = false := by decide +kernel
example : splitpath [97, 47, 46, 47, 47, 98] = .ok [[97], [98]] := by decide +kernel

/-! ## byte strings ↔ component lists

The selection / containment theorems above are stated on component lists; the
code works on byte strings through `Path::components()`.  For every list of
valid components the normalised spelling `c₁/c₂/…` is in the modelled domain and
has exactly these components, so the theorems transfer to byte-string paths. -/

/-- `components` inverts `"/".join` on valid components -/
theorem components_joinSlash (cs : List Bytes) (h : ∀ c ∈ cs, validComp c = true) :
    components (joinSlash cs) = cs := by
  unfold components
  cases cs with
  | nil => simp [joinSlash, splitOn]
  | cons c rest =>
    rw [splitOn_joinSlash_valid h (by simp)]
    apply List.filter_eq_self.mpr
    intro x hx
    have := (validComp_iff x).mp (h x hx)
    simp [this.1, this.2.2.1]

/-- the normalised spelling of valid components is in the modelled domain -/
theorem relOk_joinSlash (cs : List Bytes) (h : ∀ c ∈ cs, validComp c = true) :
    relOk (joinSlash cs) = true := by
  unfold relOk
  cases cs with
  | nil => simp [joinSlash, splitOn]
  | cons c rest =>
    have hc := (validComp_iff c).mp (h c (by simp))
    have hdd : [dot, dot] ∉ c :: rest := fun hm => ((validComp_iff _).mp (h _ hm)).2.2.2 rfl
    rw [splitOn_joinSlash_valid h (by simp)]
    obtain ⟨x, xs, rfl⟩ := List.exists_cons_of_ne_nil hc.1
    have hx : x ≠ slash := fun e => hc.2.1 (by simp [e])
    simp [joinSlash, hx, hc.2.2.1, hdd]

/-- containment of byte-string paths is the component-prefix relation -/
theorem inside_bytes (a b : List Bytes) (ha : ∀ c ∈ a, validComp c = true) (hb : ∀ c ∈ b, validComp c = true) :
    isInside (components (joinSlash a)) (components (joinSlash b)) = true ↔ a <+: b := by
  rw [components_joinSlash a ha, components_joinSlash b hb, isInside_iff]

/-- the selection computed from the byte-string spellings is the selection of the component lists -/
theorem mps_bytes (ps : List Path) (h : ∀ p ∈ ps, ∀ c ∈ p, validComp c = true) :
    mps ((ps.map joinSlash).map components) = mps ps := by
  congr 1
  rw [List.map_map]
  exact (List.map_congr_left fun p hp => components_joinSlash p (h p hp)).trans (List.map_id ps)

example : components (joinSlash [[97], [46, 97], [97, 46]]) = [[97], [46, 97], [97, 46]] ∧
    validComp [46, 97] = true ∧ relOk (joinSlash [[46, 97]]) = true := by decide +kernel

/-- concatenating the lines gives the text back -/
theorem split_lines_concat (t : Bytes) : (splitLines t).flatten = t := by
  fun_induction splitLines t with
  | case1 => rfl
  | case2 c cs r ih => rw [List.flatten_cons, ih, takeLine_concat]

/-- the result is a sequence of complete lines (exactly one `\\n`, at the end)
followed by at most one non-empty unterminated line -/
theorem split_lines_shape (t : Bytes) :
    ∃ ls tl, splitLines t = ls ++ tl ∧ (∀ l ∈ ls, IsLine l) ∧ (tl = [] ∨ ∃ x, tl = [x] ∧ IsTail x) := by
  fun_induction splitLines t with
  | case1 => exact ⟨[], [], rfl, by simp, Or.inl rfl⟩
  | case2 c cs r ih =>
    cases hf : r.2.2 with
    | false =>
      obtain ⟨h1, h2, h3⟩ := takeLine_not_found _ hf
      refine ⟨[], [c :: cs], ?_, by simp, Or.inr ⟨c :: cs, rfl, by simp, h3⟩⟩
      rw [h2, splitLines_nil, h1, List.nil_append]
    | true =>
      obtain ⟨ls, tl, h1, h2, h3⟩ := ih
      refine ⟨r.1 :: ls, tl, by rw [h1, List.cons_append], ?_, h3⟩
      intro l hl
      rcases List.mem_cons.mp hl with rfl | hl
      · exact takeLine_found _ hf
      · exact h2 l hl

/-- `lib.rs: chunks_to_lines` equals `split_lines` of the concatenation, for every chunking -/
theorem chunks_to_lines_eq (chunks : List Bytes) : c2lCore [] chunks = splitLines chunks.flatten := by
  rw [c2lCore_eq]; simp

/-- the Python-visible iterator equals `split_lines` of the concatenation, for every chunking -/
theorem chunks_to_lines_py_eq (chunks : List Bytes) : c2lPy none chunks = splitLines chunks.flatten := by
  rw [c2lPy_eq none chunks (by simp)]; simp [pyTail]

/-- the Python-visible `split_lines` is the crate's `split_lines` -/
theorem split_lines_py_eq (t : Bytes) : splitLinesPy t = splitLines t := by
  unfold splitLinesPy; rw [chunks_to_lines_py_eq]; simp

/-- the result does not depend on how the text was chunked -/
theorem chunks_to_lines_chunking_independent (cs ds : List Bytes) (h : cs.flatten = ds.flatten) :
    c2lPy none cs = c2lPy none ds ∧ c2lCore [] cs = c2lCore [] ds := by
  rw [chunks_to_lines_py_eq, chunks_to_lines_py_eq, chunks_to_lines_eq, chunks_to_lines_eq, h]
  exact ⟨rfl, rfl⟩

example : c2lPy none [[97], [10, 98], [], [10]] = [[97, 10], [98, 10]] := by
  rw [chunks_to_lines_py_eq]
  simp [splitLines, takeLine, nl]

/-- the calendar used for `%Y-%m-%d` is inverted by the parser's day count, for every day -/
theorem calendar_inverse (z : Int) : daysFromCivil (civilFromDays z) = z := (civil_spec z).1

/-- **whole-nanosecond timestamps**: for every nanosecond count and every
whole-minute offset below 100 h whose local date has a four-digit year,
unpacking the formatted string returns exactly the inputs. -/
theorem date_roundtrip (nanos offset : Int)
    (hr : inRange (nanos / 1000000000 + offset) = true)
    (h60 : offset % 60 = 0) (hb : offset.natAbs < 360000) :
    unpackHighres (formatHighresNs nanos offset) = .ok (nanos, offset) := by
  unfold formatHighresNs
  have hf : (nanos % 1000000000).toNat < 1000000000 := by omega
  obtain ⟨off, hoff, hsec⟩ := parseI32_offsetStr offset h60 hb
  rw [unpack_assemble _ _ _ hr hf, ← offsetStr, hoff]
  simp only [hsec]
  congr 2
  omega

/-- non-vacuity: a modern timestamp with offset −05:30 satisfies the hypotheses of `date_roundtrip`,
and a negative fractional one too -/
example : inRange (1700000000123456789 / 1000000000 + (-19800)) = true ∧ (-19800 : Int) % 60 = 0 ∧
    (-19800 : Int).natAbs < 360000 := by decide +kernel
example : inRange (-1500000000 / 1000000000 + 5400) = true := by decide +kernel
example : unpackHighres (formatHighresNs (-1500000000) (-5400)) = .ok (-1500000000, -5400) := by
  decide +kernel

/-- the nanosecond count the f64 `num / 2^k` rounds to: whole seconds from the
floor plus the 9-digit rounding of the (f64) fraction; the rounding may reach
the next second -/
def roundedNanos (num : Int) (k : Nat) : Int :=
  num / ((2 ^ k : Nat) : Int) * 1000000000 + (fracUnits num k : Nat)

theorem fracF64_le (num : Int) (k : Nat) : fracF64 num k ≤ 2 ^ k := by
  have := Int.emod_lt_of_pos num (Int.natCast_pos.2 (Nat.two_pow_pos k))
  exact roundF64_le k _ (by omega)

theorem fracUnits_le (num : Int) (k : Nat) : fracUnits num k ≤ 1000000000 :=
  round9_le k _ (fracF64_le num k)

/-- a timestamp given as whole seconds `fl` plus `u` nanoseconds (`u` may reach or exceed one second) -/
theorem formatHighresNs_add (fl : Int) (u : Nat) (offset : Int) :
    formatHighresNs (fl * 1000000000 + u) offset =
      assemble (fl + (u / 1000000000 : Nat) + offset) (u % 1000000000) (offsetStr offset) := by
  unfold formatHighresNs offsetStr
  have e1 : (fl * 1000000000 + (u : Int)) / 1000000000 = fl + (u / 1000000000 : Nat) := by omega
  have e2 : ((fl * 1000000000 + (u : Int)) % 1000000000).toNat = u % 1000000000 := by omega
  rw [e1, e2]

/-- the code as written formats an f64 like the whole-nanosecond timestamp
"floor seconds + (rounded fraction mod 1 s)" -/
theorem formatF64_eq_ns (num : Int) (k : Nat) (offset : Int) :
    formatHighresF64 num k offset =
      formatHighresNs (num / ((2 ^ k : Nat) : Int) * 1000000000 + ((fracUnits num k % 1000000000 : Nat) : Int)) offset := by
  rw [formatHighresNs_add, Nat.mod_mod, Nat.div_eq_of_lt (Nat.mod_lt _ (by decide))]
  simp [formatHighresF64]

/-- the patched formatter formats an f64 like the whole-nanosecond timestamp it rounds to -/
theorem formatF64Carry_eq_ns (num : Int) (k : Nat) (offset : Int) :
    formatHighresF64Carry num k offset = formatHighresNs (roundedNanos num k) offset := by
  have hle := fracUnits_le num k
  have : ((fracUnits num k / 1000000000 : Nat) : Int) = if 1000000000 ≤ fracUnits num k then 1 else 0 := by
    omega
  unfold roundedNanos
  rw [formatHighresNs_add, this]
  rfl

/-- the code as written, any finite f64: unpacking the formatted string returns the floor second plus
the rounded fraction *modulo one second*, and the offset -/
theorem unpack_formatF64 (num : Int) (k : Nat) (offset : Int)
    (hr : inRange (num / ((2 ^ k : Nat) : Int) + offset) = true)
    (h60 : offset % 60 = 0) (hb : offset.natAbs < 360000) :
    unpackHighres (formatHighresF64 num k offset) =
      .ok (num / ((2 ^ k : Nat) : Int) * 1000000000 + ((fracUnits num k % 1000000000 : Nat) : Int), offset) := by
  rw [formatF64_eq_ns]
  apply date_roundtrip _ _ _ h60 hb
  have : (num / ((2 ^ k : Nat) : Int) * 1000000000 + ((fracUnits num k % 1000000000 : Nat) : Int)) / 1000000000
      = num / ((2 ^ k : Nat) : Int) := by omega
  rw [this]; exact hr

/-- **partial** (the code as written, any finite f64): when the printed
fraction does not round up to `1.000000000`, unpacking the formatted string
returns the timestamp rounded to 9 digits, and the offset.  Missing: fractions
≥ 1 − ½·10⁻⁹ (see `date_f64_carry_loses_second` and the witnesses). -/
theorem date_roundtrip_f64_partial (num : Int) (k : Nat) (offset : Int)
    (hnc : fracUnits num k < 1000000000)
    (hr : inRange (num / ((2 ^ k : Nat) : Int) + offset) = true)
    (h60 : offset % 60 = 0) (hb : offset.natAbs < 360000) :
    unpackHighres (formatHighresF64 num k offset) = .ok (roundedNanos num k, offset) := by
  rw [unpack_formatF64 num k offset hr h60 hb, Nat.mod_eq_of_lt hnc]
  rfl

/-- **the defect family, in general**: whenever the fraction is printed as
`1.000000000`, the code as written unpacks to the *floor* second — one full
second below the value the timestamp rounds to. -/
theorem date_f64_carry_loses_second (num : Int) (k : Nat) (offset : Int)
    (hc : fracUnits num k = 1000000000)
    (hr : inRange (num / ((2 ^ k : Nat) : Int) + offset) = true)
    (h60 : offset % 60 = 0) (hb : offset.natAbs < 360000) :
    unpackHighres (formatHighresF64 num k offset) = .ok (roundedNanos num k - 1000000000, offset) := by
  rw [unpack_formatF64 num k offset hr h60 hb]
  unfold roundedNanos
  rw [hc]
  congr 2
  omega

/-- which timestamps are in the defect family: the (f64) fraction is at least 1 − ½·10⁻⁹ -/
theorem carry_iff (num : Int) (k : Nat) :
    fracUnits num k = 1000000000 ↔
      2 * (1000000000 * 2 ^ k) ≤ 2 * (fracF64 num k * 1000000000) + 2 ^ k :=
  round9_carry_iff k _ (fracF64_le num k)

/-- **with the carry** (the proposed patch): for every finite f64, unpacking the
formatted string returns the timestamp rounded to 9 digits, and the offset. -/
theorem date_roundtrip_f64_carry (num : Int) (k : Nat) (offset : Int)
    (hr : inRange (roundedNanos num k / 1000000000 + offset) = true)
    (h60 : offset % 60 = 0) (hb : offset.natAbs < 360000) :
    unpackHighres (formatHighresF64Carry num k offset) = .ok (roundedNanos num k, offset) := by
  rw [formatF64Carry_eq_ns]
  exact date_roundtrip _ _ hr h60 hb

/-- the 9-digit rounding is within half a nanosecond of the f64 fraction -/
theorem fracUnits_close (num : Int) (k : Nat) :
    2 * (fracUnits num k * 2 ^ k) ≤ 2 * (fracF64 num k * 1000000000) + 2 ^ k ∧
    2 * (fracF64 num k * 1000000000) ≤ 2 * (fracUnits num k * 2 ^ k) + 2 ^ k :=
  round9_close k (fracF64 num k)

/-- for a non-negative f64 (mantissa below 2^53) the subtraction `t - t.floor()` is exact -/
theorem fracF64_exact (num : Int) (k : Nat) (h0 : 0 ≤ num) (h53 : num < 2 ^ 53) :
    (fracF64 num k : Int) = num % ((2 ^ k : Nat) : Int) := by
  unfold fracF64
  have hD : (0 : Int) < ((2 ^ k : Nat) : Int) := Int.natCast_pos.2 (Nat.two_pow_pos k)
  have h1 := Int.emod_nonneg num (Int.ne_of_gt hD)
  have h2 : num % ((2 ^ k : Nat) : Int) ≤ num := by
    have e := Int.mul_ediv_add_emod num ((2 ^ k : Nat) : Int)
    have := Int.mul_nonneg (Int.le_of_lt hD) (Int.ediv_nonneg h0 (Int.le_of_lt hD))
    omega
  rw [roundF64_small]
  · omega
  · have : ((num % ((2 ^ k : Nat) : Int)).toNat : Int) < 2 ^ 53 := by omega
    exact_mod_cast this

/-- end to end for non-negative timestamps: the value read back (when there is
no carry, by `date_roundtrip_f64_partial`; with the patch always) is within
half a nanosecond of the exact value of the f64 -/
theorem roundedNanos_close (num : Int) (k : Nat) (h0 : 0 ≤ num) (h53 : num < 2 ^ 53) :
    2 * (roundedNanos num k * ((2 ^ k : Nat) : Int) - num * 1000000000).natAbs ≤ 2 ^ k := by
  have hex := fracF64_exact num k h0 h53
  obtain ⟨c1, c2⟩ := fracUnits_close num k
  have e := Int.mul_ediv_add_emod num ((2 ^ k : Nat) : Int)
  unfold roundedNanos
  rw [← hex] at e
  generalize fracUnits num k = U at *
  generalize fracF64 num k = n at *
  generalize 2 ^ k = D at *
  generalize num / (D : Int) = fl at *
  rw [← e]
  have h : (fl * 1000000000 + (U : Int)) * (D : Int) - ((D : Int) * fl + (n : Int)) * 1000000000
      = (U : Int) * D - (n : Int) * 1000000000 := by
    rw [Int.add_mul, Int.add_mul, Int.mul_right_comm fl 1000000000 (D : Int), Int.mul_comm (D : Int) fl]
    omega
  rw [h]
  rw [← Int.natCast_mul]
  generalize U * D = A at *
  omega

/-- t = 2097152.9999999995 (= 4503601774854143 / 2^31): printed with fraction
`.000000000` in second 2097152, read back as 2097152.0 — one second is lost -/
theorem date_f64_witness_carry :
    fracUnits 4503601774854143 31 = 1000000000 ∧
    unpackHighres (formatHighresF64 4503601774854143 31 0) = .ok (2097152000000000, 0) ∧
    unpackHighres (formatHighresF64Carry 4503601774854143 31 0) = .ok (2097153000000000, 0) := by
  decide +kernel

/-- t = 0.9999999996 (= 140737488299033 / 2^47) is read back as 0.0 -/
theorem date_f64_witness_carry_small :
    unpackHighres (formatHighresF64 140737488299033 47 0) = .ok (0, 0) := by
  decide +kernel

/-- t = −1e-20: `t - t.floor()` is already 1.0 in f64 (IEEE rounding of 1 − 1e-20); read back as −1.0 -/
theorem date_f64_witness_tiny_negative :
    fracF64 (-6646139978924579) 119 = 2 ^ 119 ∧
    unpackHighres (formatHighresF64 (-6646139978924579) 119 0) = .ok (-1000000000, 0) := by
  decide +kernel

/-- non-vacuity of `date_roundtrip_f64_partial`: t = −0.3 at offset +05:30, and a 9-digit tie (1/1024, ties to even) -/
example : fracUnits (-5404319552844595) 54 = 700000000 ∧
    inRange (-5404319552844595 / ((2 ^ 54 : Nat) : Int) + 19800) = true := by decide +kernel
example : fracUnits 1 10 = 976562 ∧ fracUnits 3 10 = 2929688 := by decide +kernel
/-- non-vacuity of `fracF64_exact` / of the hypotheses of `date_f64_carry_loses_second` -/
example : (0 : Int) ≤ 4503601774854143 ∧ (4503601774854143 : Int) < 2 ^ 53 ∧
    inRange (4503601774854143 / ((2 ^ 31 : Nat) : Int) + 0) = true := by decide +kernel

end BreezyVerif.C47
