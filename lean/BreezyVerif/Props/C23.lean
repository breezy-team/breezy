import BreezyVerif.Lemmas.C23B
/-!
C23 — checkouts and their master branches stay in step.

The per-operation theorems quantify over *every* state (any graph, any tips,
any tree parents, any log); the `run_…` theorems over every operation sequence
of any length (induction, invariants of reachable states).  Everything stated
for the first heavyweight checkout holds for the second one by the symmetry
`h2_symmetry` (the second checkout is the first one with the roles exchanged).
-/
namespace BreezyVerif.C23

/-- **master first**: a successful commit in the bound checkout ends with
master tip = local tip = the new revision; the master's tip is written first,
the local tip directly after it; the tree is based on the new revision -/
theorem bound_commit_master_first (s : St) (r : Rev) (hb : s.bound = true)
    (h : (step s (.commit .H r false)).2 = .ok) :
    (step s (.commit .H r false)).1.master = r ∧ (step s (.commit .H r false)).1.loc = r ∧
    (step s (.commit .H r false)).1.log = ⟨.loc, r, .boundCommit⟩ :: ⟨.master, r, .boundCommit⟩ :: s.log ∧
    (step s (.commit .H r false)).1.tH = ⟨r, []⟩ := by
  have he := step_effect s (.commit .H r false)
  generalize step s (.commit .H r false) = x at he h ⊢
  cases he with
  | refused _ _ _ ho => exact absurd h ho
  | commitBound => exact ⟨rfl, rfl, rfl, rfl⟩
  | commitLocal _ _ _ hf => rw [hb] at hf; cases hf

/-- **refused**: when the master has moved or diverged (its tip differs from
the local tip) the bound commit is refused and nothing changes -/
theorem bound_commit_refused_noop (s : St) (r : Rev) (hb : s.bound = true) (hne : s.loc ≠ s.master) :
    (step s (.commit .H r false)).2 ≠ .ok ∧ (step s (.commit .H r false)).1 = s ∧
    (s.masterBound = false → (step s (.commit .H r false)).2 = .boundOutOfDate) := by
  have : (s.loc != s.master) = true := by simpa using hne
  by_cases h0 : s.masterBound = true
  · simp [step, commitH, hb, h0]
  · simp [step, commitH, hb, this, h0]

/-- **a bound master**: a commit through a checkout whose master is itself
bound is refused with `CommitToDoubleBoundBranch`; nothing changes -/
theorem double_bound_commit_refused (s : St) (r : Rev) (hb : s.bound = true) (hm : s.masterBound = true) :
    step s (.commit .H r false) = (s, .doubleBound) := by
  simp [step, commitH, hb, hm]

/-- **--local**: a successful local commit needs a bound branch and changes
only the local branch (and the checkout's tree) -/
theorem local_commit_only_local (s : St) (r : Rev) (h : (step s (.commit .H r true)).2 = .ok) :
    s.bound = true ∧
    (step s (.commit .H r true)).1.master = s.master ∧ (step s (.commit .H r true)).1.loc = r ∧
    (step s (.commit .H r true)).1.log = ⟨.loc, r, .commit⟩ :: s.log ∧
    (step s (.commit .H r true)).1.tM = s.tM ∧ (step s (.commit .H r true)).1.tL = s.tL ∧
    (step s (.commit .H r true)).1.loc2 = s.loc2 := by
  have he := step_effect s (.commit .H r true)
  generalize step s (.commit .H r true) = x at he h ⊢
  cases he with
  | refused _ _ _ ho => exact absurd h ho
  | commitLocal _ _ _ hb => exact ⟨hb, rfl, rfl, rfl, rfl, rfl, rfl⟩

/-- an unbound branch commits to itself only -/
theorem unbound_commit_only_local (s : St) (r : Rev) (hb : s.bound = false)
    (h : (step s (.commit .H r false)).2 = .ok) :
    (step s (.commit .H r false)).1.master = s.master ∧ (step s (.commit .H r false)).1.loc = r := by
  have he := step_effect s (.commit .H r false)
  generalize step s (.commit .H r false) = x at he h ⊢
  cases he with
  | refused _ _ _ ho => exact absurd h ho
  | commitBound _ _ hb' => rw [hb] at hb'; cases hb'
  | commitLocal => exact ⟨rfl, rfl⟩

/-- commits in the master's tree or in the lightweight checkout move only the
master -/
theorem master_commit_only_master (s : St) (w : Who) (r : Rev) (l : Bool) (hw : w ≠ .H)
    (h : (step s (.commit w r l)).2 = .ok) :
    (step s (.commit w r l)).1.master = r ∧ (step s (.commit w r l)).1.loc = s.loc ∧
    (step s (.commit w r l)).1.tH = s.tH ∧ (step s (.commit w r l)).1.bound = s.bound ∧
    (step s (.commit w r l)).1.loc2 = s.loc2 := by
  have he := step_effect s (.commit w r l)
  generalize step s (.commit w r l) = x at he h ⊢
  cases he with
  | refused _ _ _ ho => exact absurd h ho
  | commitBound => exact absurd rfl hw
  | commitLocal => exact absurd rfl hw
  | commitM => exact ⟨rfl, rfl, rfl, rfl, rfl⟩
  | commitL => exact ⟨rfl, rfl, rfl, rfl, rfl⟩

/-- **update equalises** (*partial*: for a master that has at least one
revision, see `update_empty_master_witness`): update in the bound checkout
leaves the local tip equal to the master tip, the tree based on it, and the
master untouched -/
theorem update_equalises_partial (s : St) (hb : s.bound = true) (hm : s.master ≠ null) :
    (step s (.update .H)).2 = .ok ∧ (step s (.update .H)).1.loc = s.master ∧
    (step s (.update .H)).1.master = s.master ∧ (step s (.update .H)).1.tH.basis = s.master := by
  have hm' : (s.master == null) = false := by simpa using hm
  simp only [step, updateH, hb, hm']
  refine ⟨rfl, rfl, rfl, ?_⟩
  simp only [updateTree]
  by_cases h : s.tH.basis = s.master
  · simp [h]
  · have h' : (s.tH.basis != s.master) = true := by simpa using h
    simp [h']

/-- **Witness (statement violated)**: a checkout bound to an *empty* master
with a local commit: `update` pulls nothing (`_update_revisions` returns early
for a null source tip, even with overwrite) and the local tip stays different
from the master tip -/
theorem update_empty_master_witness :
    let s := (run init [.commit .H "r1" true])
    s.bound = true ∧ s.master = null ∧ s.loc = "r1" ∧
    (step s (.update .H)).2 = .ok ∧ (step s (.update .H)).1.loc = "r1" ∧
    (step s (.update .H)).1.loc ≠ (step s (.update .H)).1.master := by decide

/-- **pull** (*partial*: the third alternative leaves the local tip different
from the master tip, see `pull_local_ahead_witness`): pulling from the master
either is refused as diverged (nothing changes), or leaves the local tip equal
to the master tip, or changes nothing because the master is empty or its tip is
already in the local branch -/
theorem pull_equalises_or_refuses_partial (s : St) :
    ((step s .pull).2 = .diverged ∧ (step s .pull).1 = s) ∨
    ((step s .pull).2 = .ok ∧ (step s .pull).1.master = s.master ∧
      ((step s .pull).1.loc = s.master ∨
       ((step s .pull).1 = s ∧ (s.master = null ∨ isAncestor s.graph s.master s.loc = true)))) := by
  simp only [step, pullH]
  by_cases h1 : s.master == null
  · right; simp [h1]; right; left; simpa using h1
  · by_cases h2 : isAncestor s.graph s.master s.loc
    · right; simp [h1, h2]
    · by_cases h3 : !isAncestor s.graph s.loc s.master
      · left; simp [h1, h2, h3]
      · right; simp [h1, h2, h3]

/-- **pull equalises**: when the local branch does not already contain the
master's (non-null) tip, a pull that is not refused leaves local tip = master
tip, the tree based on it, and the master untouched -/
theorem pull_equalises (s : St) (hm : s.master ≠ null) (hna : isAncestor s.graph s.master s.loc = false)
    (hok : (step s .pull).2 = .ok) :
    (step s .pull).1.loc = s.master ∧ (step s .pull).1.master = s.master ∧ (step s .pull).1.tH.basis = s.master := by
  have hm' : (s.master == null) = false := by simpa using hm
  simp only [step, pullH, hm', hna] at hok ⊢
  by_cases h3 : !isAncestor s.graph s.loc s.master
  · simp [h3] at hok
  · simp [h3]

/-- **Witness (local ahead)**: after a `--local` commit on top of the master's
tip a pull from the master succeeds, changes nothing and leaves the local tip
*different* from the master tip (the local branch already contains it) - the
"leave the local branch equal to the master" of the statement does not hold for
pull in this case; it is `update` that equalises -/
theorem pull_local_ahead_witness :
    let s := run init [.commit .M "r1" false, .update .H, .commit .H "r2" true]
    s.bound = true ∧ s.master = "r1" ∧ s.loc = "r2" ∧
    (step s .pull).2 = .ok ∧ (step s .pull).1 = s ∧ (step s .pull).1.loc ≠ (step s .pull).1.master := by decide

/-- **refused operations change nothing** — EVERY operation, in either
checkout: a refused operation leaves the whole state as it was, with one
exception: `DivergedBranches` may have been raised after the master's tip (and
nothing else but the log of tip writes) was moved; `pull_other_refused_exact`
says exactly when -/
theorem refused_noop (s : St) (op : Op) (h : (step s op).2 ≠ .ok) :
    (step s op).1 = s ∨
    ((step s op).2 = .diverged ∧ ∃ m l, (step s op).1 = { s with master := m, log := l }) :=
  (step_effect s op).refusal h

/-- a refused pull from another branch into the checkout: nothing has changed,
or — the checkout is bound, the pull is not `--local`, the master accepted the
revision and the local branch has diverged from it — exactly the master's tip
has moved (finding pull-into-bound-branch-master-moved-before-local-diverged) -/
theorem pull_other_refused_exact (s : St) (stop : Option Rev) (ow l : Bool)
    (h : (step s (.pullOther .H stop ow l)).2 ≠ .ok) :
    (step s (.pullOther .H stop ow l)).1 = s ∨
    (l = false ∧ s.bound = true ∧ s.masterBound = false ∧ (step s (.pullOther .H stop ow l)).2 = .diverged ∧
      ∃ m', updateRevisions s.graph s.master s.other stop ow = some m' ∧
        updateRevisions s.graph s.loc s.other stop ow = none ∧
        (step s (.pullOther .H stop ow l)).1 =
          { s with master := m', log := logIf (m' != s.master) ⟨.master, m', .pull⟩ s.log }) := by
  have he := step_effect s (.pullOther .H stop ow l)
  generalize step s (.pullOther .H stop ow l) = x at he h ⊢
  cases he with
  | refused => exact .inl rfl
  | pullOtherDiverged _ _ _ m' hb hm h1 h2 => exact .inr ⟨rfl, hb, hm, rfl, m', h1, h2, rfl⟩
  | pullOtherH => exact absurd rfl h

/-- **pull from another branch, master first to the SAME revision**: a
successful non-local pull (any stop revision, with or without overwrite) in a
bound checkout that is in step with its master leaves it in step; when the tip
moves, the master's tip is written first and the local tip directly after it,
both to the same revision -/
theorem bound_pull_other_same_revision (s : St) (stop : Option Rev) (ow : Bool)
    (hb : s.bound = true) (hl : s.loc = s.master)
    (h : (step s (.pullOther .H stop ow false)).2 = .ok) :
    (step s (.pullOther .H stop ow false)).1.loc = (step s (.pullOther .H stop ow false)).1.master ∧
    ((step s (.pullOther .H stop ow false)).1.loc ≠ s.loc →
      (step s (.pullOther .H stop ow false)).1.log =
        ⟨.loc, (step s (.pullOther .H stop ow false)).1.loc, .pull⟩ ::
        ⟨.master, (step s (.pullOther .H stop ow false)).1.loc, .pull⟩ :: s.log) := by
  simp only [step, pullOtherH, hb, hl] at h ⊢
  cases hmb : s.masterBound
  · cases hu : updateRevisions s.graph s.master s.other stop ow with
    | none => simp [hmb, hu] at h
    | some m' =>
      simp only [Bool.not_true, Bool.and_false, Bool.false_eq_true, if_false, Bool.not_false,
        Bool.and_true, if_true]
      refine ⟨trivial, ?_⟩
      intro hne
      have : (m' != s.master) = true := by simpa using hne
      simp [logIf, this]
  · simp [hmb] at h

/-- a refused pull from another branch never touches the local branch, the
checkout's tree or the binding -/
theorem pull_other_refused_local_unchanged (s : St) (stop : Option Rev) (ow l : Bool)
    (h : (step s (.pullOther .H stop ow l)).2 ≠ .ok) :
    (step s (.pullOther .H stop ow l)).1.loc = s.loc ∧ (step s (.pullOther .H stop ow l)).1.tH = s.tH ∧
    (step s (.pullOther .H stop ow l)).1.bound = s.bound := by
  rcases pull_other_refused_exact s stop ow l h with h1 | ⟨_, _, _, _, m', _, _, h3⟩
  · rw [h1]; exact ⟨rfl, rfl, rfl⟩
  · rw [h3]; exact ⟨rfl, rfl, rfl⟩

/-- **Witness (statement violated)**: the checkout has a local-only commit, the
other branch is ahead of the master: the pull moves the master and then raises
`DivergedBranches` for the local branch — a refused operation that changed the
master -/
theorem pull_other_master_moved_witness :
    let s := run init [.commit .M "r1" false, .update .H, .syncO, .commitO "r2", .commit .H "r3" true]
    (step s (.pullOther .H none false false)).2 = .diverged ∧
    s.master = "r1" ∧ (step s (.pullOther .H none false false)).1.master = "r2" ∧
    (step s (.pullOther .H none false false)).1.loc = "r3" := by decide

/-- `pull --local` never touches the master -/
theorem pull_other_local_only (s : St) (stop : Option Rev) (ow : Bool) :
    (step s (.pullOther .H stop ow true)).1.master = s.master := by
  have he := step_effect s (.pullOther .H stop ow true)
  generalize step s (.pullOther .H stop ow true) = x at he ⊢
  cases he with
  | refused => rfl
  | pullOtherH _ _ _ _ m' l' hm =>
    rw [Bool.not_true, Bool.and_false, if_neg nofun] at hm
    cases hm
    rfl

/-- **symmetry**: an operation in the second heavyweight checkout is the same
operation in the first one with the roles of the two checkouts exchanged; so
every theorem about `H` holds for `H2` (instantiate it at `swapH s`) -/
theorem h2_symmetry (s : St) (op : Op) :
    step s (.onH2 op) = (swapH (step (swapH s) op).1, (step (swapH s) op).2) ∧ swapH (swapH s) = s :=
  ⟨rfl, swapH_swapH s⟩

/-- master first, for the second checkout: a successful bound commit there ends
with master tip = its tip = the new revision, written master first; the first
checkout is not touched (and is left behind the master) -/
theorem bound_commit_master_first_h2 (s : St) (r : Rev) (hb : s.bound2 = true)
    (h : (step s (.onH2 (.commit .H r false))).2 = .ok) :
    (step s (.onH2 (.commit .H r false))).1.master = r ∧ (step s (.onH2 (.commit .H r false))).1.loc2 = r ∧
    (step s (.onH2 (.commit .H r false))).1.loc = s.loc ∧ (step s (.onH2 (.commit .H r false))).1.tH = s.tH ∧
    (step s (.onH2 (.commit .H r false))).1.log =
      ⟨.loc2, r, .boundCommit⟩ :: ⟨.master, r, .boundCommit⟩ :: s.log := by
  have hb' : (swapH s).bound = true := hb
  have he : Effect _ _ (commitH (swapH s) r false) := step_effect (swapH s) (.commit .H r false)
  simp only [step] at h ⊢
  generalize commitH (swapH s) r false = x at he h ⊢
  cases he with
  | refused _ _ _ ho => exact absurd h ho
  | commitBound =>
    refine ⟨rfl, rfl, rfl, rfl, ?_⟩
    show Entry.swap _ :: Entry.swap _ :: (s.log.map Entry.swap).map Entry.swap = _
    rw [map_swap_swap]
    rfl
  | commitLocal _ _ _ hf => rw [hb'] at hf; cases hf

theorem run_eq_foldl (s : St) (ops : List Op) : run s ops = ops.foldl (fun s op => (step s op).1) s := by
  induction ops generalizing s with
  | nil => rfl
  | cons op rest ih => exact ih _

/-- **master first, always**: in the log of tip writes of *any* sequence of
operations (commits through the master, either checkout, with --local, updates,
pulls from the master and from other branches, pushes, binds and unbinds) every
write to a checkout's branch made by a bound commit directly follows the master
write of the same revision -/
theorem run_master_first (ops : List Op) (s : St) (h : masterFirst s.log = true) :
    masterFirst (run s ops).log = true :=
  run_eq_foldl s ops ▸ List.foldlRecOn (motive := fun s : St => masterFirst s.log = true) ops _ h
    fun s h op _ => step_master_first s op h

/-- **in step, one operation**: a bound checkout whose tip equals the master's
tip is still bound and in step after any operation made through it that is not
local-only, and after any operation that writes neither the master nor its
branch (`Op.keepsStep`: this includes local commits, updates, pulls from the
master, local pulls, pushes, binds and unbinds in the SECOND checkout) —
whether the operation succeeds or is refused -/
theorem in_step_preserved (s : St) (op : Op) (hop : op.keepsStep = true)
    (hb : s.bound = true) (hl : s.loc = s.master) :
    (step s op).1.bound = true ∧ (step s op).1.loc = (step s op).1.master :=
  step_inStep s op hop ⟨hb, hl⟩

/-- **in step, always**: along any sequence of such operations (any length, any
stop revisions, overwrite or not, successful or refused, whatever the other
branch does) a checkout that is in step stays in step -/
theorem run_in_step_invariant (ops : List Op) (hops : ∀ op ∈ ops, op.keepsStep = true) (s : St)
    (hb : s.bound = true) (hl : s.loc = s.master) :
    (run s ops).bound = true ∧ (run s ops).loc = (run s ops).master :=
  run_eq_foldl s ops ▸ List.foldlRecOn (motive := fun s : St => s.bound = true ∧ s.loc = s.master) ops _ ⟨hb, hl⟩
    fun s h op ho => step_inStep s op (hops op ho) h

/-- a new checkout is in step, and stays so as long as it is used without
`--local` and nobody else commits to the master -/
theorem run_in_step_from_init (ops : List Op) (hops : ∀ op ∈ ops, op.keepsStep = true) :
    (run init ops).loc = (run init ops).master :=
  (run_in_step_invariant ops hops init rfl rfl).2

/-- **getting back in step**: from ANY state with a bound checkout and a
non-empty master, `update` followed by any sequence of step-keeping operations
ends in step; so does a successful bound commit followed by such a sequence -/
theorem run_in_step_after_update (s : St) (hb : s.bound = true) (hm : s.master ≠ null)
    (ops : List Op) (hops : ∀ op ∈ ops, op.keepsStep = true) :
    (run s (.update .H :: ops)).loc = (run s (.update .H :: ops)).master := by
  obtain ⟨_, h2, h3, _⟩ := update_equalises_partial s hb hm
  have hb' : (step s (.update .H)).1.bound = true := by simp [step, updateH, hb]
  exact (run_in_step_invariant ops hops (step s (.update .H)).1 hb' (h2.trans h3.symm)).2

theorem run_in_step_after_commit (s : St) (r : Rev) (hb : s.bound = true)
    (hok : (step s (.commit .H r false)).2 = .ok)
    (ops : List Op) (hops : ∀ op ∈ ops, op.keepsStep = true) :
    (run s (.commit .H r false :: ops)).loc = (run s (.commit .H r false :: ops)).master := by
  obtain ⟨h1, h2, _, _⟩ := bound_commit_master_first s r hb hok
  have hb' : (step s (.commit .H r false)).1.bound = true := by
    have he := step_effect s (.commit .H r false)
    generalize step s (.commit .H r false) = x at he ⊢
    cases he <;> exact hb
  exact (run_in_step_invariant ops hops (step s (.commit .H r false)).1 hb' (h2.trans h1.symm)).2

/-- **tree basis = branch tip** is an invariant of every reachable state: after
any sequence of any operations (from a state where it holds, e.g. `init`) the
working tree of each heavyweight checkout is based on the tip of its branch -/
theorem run_tree_basis_invariant (ops : List Op) (s : St)
    (h : s.tH.basis = s.loc ∧ s.tH2.basis = s.loc2) :
    (run s ops).tH.basis = (run s ops).loc ∧ (run s ops).tH2.basis = (run s ops).loc2 :=
  run_eq_foldl s ops ▸ List.foldlRecOn (motive := fun s : St => s.tH.basis = s.loc ∧ s.tH2.basis = s.loc2) ops _ h
    fun s h op _ => (step_effect s op).treeInv h

/-- **tree parents are duplicate-free**, one operation: whatever the operation
(any checkout, any outcome), if no working tree lists a revision twice among
its parents before, none does afterwards — `set_parent_trees` keeps the basis
and drops a pending merge that was listed already or is an ancestor of another
parent -/
theorem step_tree_parents_nodup (s : St) (op : Op) (h : AllTreesOK s) :
    AllTreesOK (step s op).1 ∧
    (step s op).1.tM.parents.Nodup ∧ (step s op).1.tH.parents.Nodup ∧ (step s op).1.tL.parents.Nodup ∧
    (step s op).1.tO.parents.Nodup ∧ (step s op).1.tH2.parents.Nodup := by
  have h' := step_treesOK s op h
  obtain ⟨a, b, c, d, e⟩ := h'
  exact ⟨⟨a, b, c, d, e⟩, treeOK_parents _ a, treeOK_parents _ b, treeOK_parents _ c, treeOK_parents _ d,
    treeOK_parents _ e⟩

/-- … and after every step of every operation sequence from `init`: the parent
list (`get_parent_ids`) of each of the five working trees never repeats a
revision -/
theorem run_tree_parents_nodup (ops : List Op) :
    (run init ops).tM.parents.Nodup ∧ (run init ops).tH.parents.Nodup ∧ (run init ops).tL.parents.Nodup ∧
    (run init ops).tO.parents.Nodup ∧ (run init ops).tH2.parents.Nodup := by
  have h0 : AllTreesOK init := by
    refine ⟨?_, ?_, ?_, ?_, ?_⟩ <;> exact ⟨by simp [init], by simp [init]⟩
  obtain ⟨a, b, c, d, e⟩ : AllTreesOK (run init ops) :=
    run_eq_foldl init ops ▸ List.foldlRecOn (motive := AllTreesOK) ops _ h0 fun s h op _ => step_treesOK s op h
  exact ⟨treeOK_parents _ a, treeOK_parents _ b, treeOK_parents _ c, treeOK_parents _ d, treeOK_parents _ e⟩

/-- the corpus case: the local tip is overwritten from the other branch, pivoted
out by `update`, and overwritten again — the basis is not listed again as a
pending merge -/
example :
    let s := run init [.push .H, .commit .H "r1" false, .pull, .commitO "r2", .pullOther .H none true true, .bind,
                       .update .M, .update .H, .pullOther .H none true true]
    s.tH.parents = ["r2"] ∧ s.loc = "r2" ∧ s.master = "r1" := by decide

/-- **revnos of a bound commit**: when the checkout's tree is based on its
branch tip (which holds in every reachable state) a successful bound commit
leaves master and local branch with the same tip whose revno — the length of
its left-hand history — is the master's old revno plus one -/
theorem bound_commit_revnos (s : St) (r : Rev) (hr : r ≠ null) (hb : s.bound = true)
    (ht : s.tH.basis = s.loc) (h : (step s (.commit .H r false)).2 = .ok) :
    revno (step s (.commit .H r false)).1.graph (step s (.commit .H r false)).1.master = revno s.graph s.master + 1 ∧
    revno (step s (.commit .H r false)).1.graph (step s (.commit .H r false)).1.loc = revno s.graph s.master + 1 := by
  have he := step_effect s (.commit .H r false)
  generalize step s (.commit .H r false) = x at he h ⊢
  cases he with
  | refused _ _ _ ho => exact absurd h ho
  | commitBound _ _ _ hl =>
    show revno (addRev s.graph r s.tH.parents) r = _ ∧ revno (addRev s.graph r s.tH.parents) r = _
    rw [revno_addRev_self s.graph r s.tH hr, ht, hl]
    exact ⟨rfl, rfl⟩
  | commitLocal _ _ _ hf => rw [hb] at hf; cases hf

/-- the same in every state reachable from `init` -/
theorem run_bound_commit_revnos (ops : List Op) (r : Rev) (hr : r ≠ null)
    (hb : (run init ops).bound = true) (h : (step (run init ops) (.commit .H r false)).2 = .ok) :
    revno (step (run init ops) (.commit .H r false)).1.graph (step (run init ops) (.commit .H r false)).1.master
      = revno (run init ops).graph (run init ops).master + 1 ∧
    revno (step (run init ops) (.commit .H r false)).1.graph (step (run init ops) (.commit .H r false)).1.loc
      = revno (run init ops).graph (run init ops).master + 1 :=
  bound_commit_revnos _ r hr hb (run_tree_basis_invariant ops init ⟨rfl, rfl⟩).1 h

example : masterFirst init.log = true := rfl

example :
    let s := run init [.commit .M "r1" false, .update .H, .commit .H "r2" false, .commit .H "r3" true,
                       .update .M, .commit .M "r4" false, .commit .H "r5" false, .update .H]
    (s.master, s.loc, s.tH.parents, s.log.map (fun e => (e.br, e.rev))) =
      ("r4", "r4", ["r4", "r3"],
       [(.loc, "r4"), (.master, "r4"), (.loc, "r3"), (.loc, "r2"), (.master, "r2"), (.loc, "r1"), (.master, "r1")]) := by
  decide

/-- the hypotheses of `bound_commit_refused_noop` and `update_equalises_partial`
hold in a reachable state (the master moved on after a local commit) -/
example :
    let s := run init [.commit .M "r1" false, .update .H, .commit .H "r2" true, .update .M]
    s.bound = true ∧ s.loc ≠ s.master ∧ s.master ≠ null ∧
    (step s (.commit .H "r3" false)).2 = .boundOutOfDate := by decide

/-- the hypotheses of `bound_pull_other_same_revision` hold in a reachable state
and the pull stops at the requested revision for master and local alike -/
example :
    let s := run init [.commit .M "r1" false, .update .H, .syncO, .commitO "r2", .commitO "r3", .commitO "r4"]
    s.bound = true ∧ s.loc = s.master ∧
    (step s (.pullOther .H (some "r3") false false)).2 = .ok ∧
    (step s (.pullOther .H (some "r3") false false)).1.master = "r3" ∧
    (step s (.pullOther .H (some "r3") false false)).1.loc = "r3" := by decide

/-- a diverged pull is refused; `pull_equalises` applies to a checkout that is behind -/
example :
    let s := run init [.commit .M "r1" false, .update .H, .commit .H "r2" true, .commit .M "r3" false]
    (step s .pull).2 = .diverged := by decide
example :
    let s := run init [.commit .M "r1" false, .update .H, .commit .M "r2" false]
    s.master ≠ null ∧ isAncestor s.graph s.master s.loc = false ∧ (step s .pull).2 = .ok ∧
    (step s .pull).1.loc = "r2" := by decide

/-- two checkouts: a commit through the second one takes the first one out of
date; after `update` it commits again; the revnos are the left-hand lengths -/
example :
    let s := run init [.commit .M "r1" false, .update .H, .onH2 (.update .H), .onH2 (.commit .H "r2" false),
                       .commit .H "r3" false, .update .H, .commit .H "r4" false, .onH2 (.commit .H "r5" false)]
    (s.master, s.loc, s.loc2) = ("r4", "r4", "r2") ∧ revno s.graph s.master = 3 ∧ revno s.graph s.loc2 = 2 ∧
    s.log.map (fun e => (e.br, e.rev)) =
       [(.loc, "r4"), (.master, "r4"), (.loc, "r2"), (.loc2, "r2"), (.master, "r2"), (.loc2, "r1"), (.loc, "r1"),
        (.master, "r1")] := by
  decide

/-- a step-keeping sequence with commits, pulls with a stop revision and pushes -/
example :
    let ops := [Op.commit .H "r1" false, .syncO, .commitO "r2", .commitO "r3", .pullOther .H (some "r2") false false,
                .onH2 (.update .H), .onH2 (.commit .H "r9" true), .commit .H "r4" false, .push .H, .pull, .update .H,
                .onH2 .pull, .pullOther .H none false false]
    (∀ op ∈ ops, op.keepsStep = true) ∧ (run init ops).loc = "r4" ∧ (run init ops).master = "r4" ∧
    (run init ops).loc2 = "r9" := by decide

/-- a bound master: the commit through the checkout is refused, and accepted again after `unbindM` -/
example :
    let s := run init [.commit .M "r1" false, .update .H, .bindM]
    (step s (.commit .H "r2" false)).2 = .doubleBound ∧
    (step (step s .unbindM).1 (.commit .H "r2" false)).2 = .ok := by decide

end BreezyVerif.C23
