import BreezyVerif.Lemmas.C44
import BreezyVerif.Lemmas.C44B
import BreezyVerif.Lemmas.C44C
/-!
C44 — theorems.  Trees, histories (any length, any number of parents, ghosts) are
universally quantified; nothing is bounded.
-/
namespace BreezyVerif.C44

/-! ## one commit: file commands -/

/-- distinct file ids, distinct file paths -/
def WF (t : Tree) : Prop := (t.map (·.fid)).Nodup ∧ ((flat t).map (·.1)).Nodup

instance (t : Tree) : Decidable (WF t) := by unfold WF; exact inferInstance

/-- no entry that is present on both sides changed its name, parent, path or kind:
the commit only adds, deletes and modifies -/
def Stable (old new : Tree) : Prop :=
  ∀ o ∈ old, ∀ n ∈ new, o.fid = n.fid → o.own = n.own ∧ o.path = n.path ∧ o.dir = n.dir

theorem mods_eq (old new : Tree) : mods old new = (modPairs old new).map fun e => Cmd.mod e.1 e.2 := rfl

theorem modPairs_nodup (old new : Tree) (hn : WF new) : ((modPairs old new).map (·.1)).Nodup := by
  have hsub : List.Sublist (modPairs old new) (flat new) := by
    unfold modPairs flat
    exact List.Sublist.map _ List.filter_sublist
  exact List.Nodup.sublist (List.Sublist.map _ hsub) hn.2

/-! ### commits with renames -/

/-- an entry whose own (parent, name) is unchanged keeps its path and kind (nothing
sits below a renamed directory); an entry whose own changed is a file or symlink
on both sides (no directory is renamed) -/
def RenOK (old new : Tree) : Prop :=
  ∀ o ∈ old, ∀ n ∈ new, o.fid = n.fid →
    (o.own = n.own → o.path = n.path ∧ o.dir = n.dir) ∧ (o.own ≠ n.own → o.dir = false ∧ n.dir = false)

/-- no rename chain, cycle or swap: the new path of a renamed entry is not the old
path of a renamed entry -/
def NoChain (old new : Tree) : Prop :=
  ∀ a ∈ ownRenames old new, ∀ b ∈ ownRenames old new, a.2.path ≠ b.1.path

/-- a renamed pair consists of an old and a new entry with the same file id, both
files or symlinks -/
theorem ownRenames_ok {old new : Tree} (hr : RenOK old new) {o n : Ent} (hpr : (o, n) ∈ ownRenames old new) :
    o ∈ old ∧ n ∈ new ∧ n.fid = o.fid ∧ o.own ≠ n.own ∧ o.dir = false ∧ n.dir = false := by
  obtain ⟨h1, h2, h3⟩ := (mem_ownRenames old new o n).mp hpr
  obtain ⟨h4, h5⟩ := find_some h2
  obtain ⟨h6, h7⟩ := (hr o h1 n h4 h5.symm).2 h3
  exact ⟨h1, h4, h5, h3, h6, h7⟩

theorem ownRenames_indep (old new : Tree) (ho : WF old) (hn : WF new) (hr : RenOK old new) (hc : NoChain old new) :
    Indep (ownRenames old new) := by
  refine ⟨(ownRenames_fids old new ho.1).imp_of_mem ?_, hc⟩
  rintro ⟨o, n⟩ ⟨o', n'⟩ ha hb hne
  obtain ⟨a1, a2, a3, _, a4, a5⟩ := ownRenames_ok hr ha
  obtain ⟨b1, b2, b3, _, b4, b5⟩ := ownRenames_ok hr hb
  constructor
  · intro he
    exact hne (congrArg Ent.fid (file_path_inj old ho.2 o a1 o' b1 a4 b4 he))
  · intro he
    have := congrArg Ent.fid (file_path_inj new hn.2 n a2 n' b2 a5 b5 he)
    rw [a3, b3] at this
    exact hne this

/-- what the exporter's file commands leave at path `q` of the old files: the value of its `M`; else the value
the rename onto `q` carries; else nothing if `q` held a removed file or the source of a rename, and what was
there otherwise -/
theorem exportCmds_lookup (old new : Tree) (ho : WF old) (hn : WF new) (hr : RenOK old new)
    (hind : Indep (ownRenames old new)) (q : Path) :
    (∀ v, (q, v) ∈ modPairs old new → lookup (applyCmds (flat old) (exportCmds old new)) q = some v) ∧
    (q ∉ (modPairs old new).map (·.1) →
      (∀ pr ∈ ownRenames old new, pr.2.path = q →
        lookup (applyCmds (flat old) (exportCmds old new)) q = some pr.1.val) ∧
      ((∀ pr ∈ ownRenames old new, pr.2.path ≠ q) →
        lookup (applyCmds (flat old) (exportCmds old new)) q =
          if (∃ e ∈ old, find new e.fid = none ∧ e.dir = false ∧ e.path = q) ∨
              ∃ pr ∈ ownRenames old new, pr.1.path = q then none else lookup (flat old) q)) := by
  obtain ⟨hT, hN⟩ := renamePass_lookup _ ((removed old new).map (·.path)) _ hind
    (fun _ hpr => (ownRenames_ok hr hpr).2.2.2.2.2)
    (fun _ hpr => lookup_flat_mem old ho.2 _ (ownRenames_ok hr hpr).1 (ownRenames_ok hr hpr).2.2.2.2.1)
  have hleft := renamePass_dels (ownRenames old new) ((removed old new).map (·.path))
  -- the stream: the rename pass `rp.1`, a `D` for every removed file still in `rp.2`, the `M`s
  simp only [exportCmds, mods_eq]
  rw [show (fun e : Ent => Cmd.del e.path) = Cmd.del ∘ (·.path) from rfl, ← List.map_map]
  generalize renamePass (ownRenames old new) ((removed old new).map (·.path)) = rp at hT hN hleft ⊢
  -- `D` is emitted for the removed files no rename landed on
  have hdel : q ∈ ((removed old new).filter fun e => !e.dir && decide (e.path ∈ rp.2)).map (·.path) ↔
      (∃ e ∈ old, find new e.fid = none ∧ e.dir = false ∧ e.path = q) ∧
        ∀ pr ∈ ownRenames old new, pr.2.path ≠ q := by
    simp only [List.mem_map, List.mem_filter, Bool.and_eq_true, Bool.not_eq_true', decide_eq_true_eq,
      hleft, mem_removed]
    constructor
    · rintro ⟨e, ⟨⟨he1, he2⟩, he3, _, he5⟩, rfl⟩
      exact ⟨⟨e, he1, he2, he3, rfl⟩, he5⟩
    · rintro ⟨⟨e, he1, he2, he3, rfl⟩, h5⟩
      exact ⟨e, ⟨⟨he1, he2⟩, he3, ⟨e, ⟨he1, he2⟩, rfl⟩, h5⟩, rfl⟩
  rw [applyCmds_append, applyCmds_append]
  refine ⟨fun v hv => lookup_mods_mem _ (modPairs_nodup old new hn) _ _ v hv, fun hq => ?_⟩
  rw [lookup_mods_other _ _ _ hq, lookup_dels]
  refine ⟨fun pr hpr he => ?_, fun hnt => ?_⟩
  · rw [if_neg fun hd => (hdel.mp hd).2 pr hpr he, ← he, hT pr hpr]
  · rw [hN q hnt]
    by_cases hrm : ∃ e ∈ old, find new e.fid = none ∧ e.dir = false ∧ e.path = q
    · rw [if_pos (hdel.mpr ⟨hrm, hnt⟩), if_pos (Or.inl hrm)]
    · rw [if_neg fun hd => hrm (hdel.mp hd).1]
      by_cases hs : ∃ pr ∈ ownRenames old new, pr.1.path = q
      · rw [if_pos hs, if_pos (Or.inr hs)]
      · rw [if_neg hs, if_neg (not_or.mpr ⟨hrm, hs⟩)]

/-- **Renames survive** (no chains, no directory renames).  For every pair of
well-formed trees in which the renamed entries are files or symlinks whose new
paths avoid the old path of every renamed entry, and every other surviving
entry keeps its path (`RenOK`, `NoChain`) - together with any adds, deletes,
modifications, renames onto the path of a deleted entry (`D new`, `R old new`)
and modifications of renamed entries - importing the exporter's file commands on
top of the old files gives exactly the new files.

Partial: rename chains / swaps and renamed directories are excluded; they are
exactly the two witnesses below (`rename_swap_witness`,
`directory_rename_witness`), where the statement is false.  The statement is
about the importer on path space; the real importer additionally mishandles a
NEW entry at the path a rename vacates (known finding
import-new-entry-at-path-vacated-by-rename), which the correspondence check
excludes and the oracle reports. -/
theorem export_import_tree_rename_partial (old new : Tree) (ho : WF old) (hn : WF new)
    (hr : RenOK old new) (hc : NoChain old new) :
    FlatEq (applyCmds (flat old) (exportCmds old new)) (flat new) := by
  intro q
  obtain ⟨hM, hRD⟩ := exportCmds_lookup old new ho hn hr (ownRenames_indep old new ho hn hr hc) q
  by_cases hq : q ∈ (modPairs old new).map (·.1)
  · -- a path that gets an `M`
    obtain ⟨⟨q', v⟩, hmem, rfl⟩ := List.mem_map.mp hq
    rw [hM v hmem]
    obtain ⟨n, hnm, hnd, _, heq⟩ := (mem_modPairs old new q' v).mp hmem
    cases heq
    exact (lookup_flat_mem new hn.2 n hnm hnd).symm
  obtain ⟨hT, hN⟩ := hRD hq
  by_cases hex : ∃ n ∈ new, n.dir = false ∧ n.path = q
  · -- the path of a new file that needs no `M`: it existed with the same value
    obtain ⟨n, hnm, hnd, rfl⟩ := hex
    rw [lookup_flat_mem new hn.2 n hnm hnd]
    have hnm' : needsMod old n = false := by
      cases h : needsMod old n with
      | false => rfl
      | true =>
        exact absurd (List.mem_map.mpr ⟨_, (mem_modPairs old new _ _).mpr ⟨n, hnm, hnd, h, rfl⟩, rfl⟩) hq
    unfold needsMod at hnm'
    cases hf : find old n.fid with
    | none => simp [hf] at hnm'
    | some o =>
      simp only [hf, ne_eq, decide_eq_false_iff_not, Decidable.not_not] at hnm'
      obtain ⟨hom, hofid⟩ := find_some hf
      have hfn : find new o.fid = some n := by rw [hofid]; exact find_of_mem hn.1 hnm
      by_cases hown : o.own = n.own
      · -- not renamed: same path, neither source nor target of a rename, not deleted
        obtain ⟨hpath, hdir⟩ := (hr o hom n hnm hofid).1 hown
        have hod : o.dir = false := by rw [hdir, hnd]
        -- a renamed pair has another file id than `o`
        have hfid : ∀ pr ∈ ownRenames old new, pr.1.fid ≠ o.fid := by
          rintro ⟨o', n'⟩ hpr he
          obtain ⟨a1, h2, a4⟩ := (mem_ownRenames old new o' n').mp hpr
          cases Lib.inj_of_nodup_map Ent.fid ho.1 a1 hom he
          rw [hfn] at h2
          cases h2
          exact a4 hown
        have hnt : ∀ pr ∈ ownRenames old new, pr.2.path ≠ n.path := by
          rintro ⟨o', n'⟩ hpr he
          obtain ⟨_, a2, a3, _, _, a6⟩ := ownRenames_ok hr hpr
          cases file_path_inj new hn.2 n' a2 n hnm a6 hnd he
          exact hfid _ hpr (a3.symm.trans hofid.symm)
        rw [hN hnt, if_neg, ← hpath, lookup_flat_mem old ho.2 o hom hod, hnm']
        rintro (⟨e, he1, he2, he3, he4⟩ | ⟨⟨o', n'⟩, hpr, he⟩)
        · cases file_path_inj old ho.2 e he1 o hom he3 hod (he4.trans hpath.symm)
          rw [hfn] at he2; cases he2
        · obtain ⟨a1, _, _, _, a5, _⟩ := ownRenames_ok hr hpr
          cases file_path_inj old ho.2 o' a1 o hom a5 hod (he.trans hpath.symm)
          exact hfid _ hpr rfl
      · -- renamed: the rename carries the value over
        rw [hT (o, n) ((mem_ownRenames old new o n).mpr ⟨hom, hfn, hown⟩) rfl, hnm']
  · -- not the path of a new file: absent afterwards
    have hnt : ∀ pr ∈ ownRenames old new, pr.2.path ≠ q := fun pr hpr he =>
      hex ⟨pr.2, (ownRenames_ok hr hpr).2.1, (ownRenames_ok hr hpr).2.2.2.2.2, he⟩
    rw [hN hnt, lookup_flat_none new q fun e he hd hp => hex ⟨e, he, hd, hp⟩]
    split
    · rfl
    · rename_i hns
      apply lookup_flat_none
      intro o hom hod hop
      -- an old file at q that is neither removed nor a rename source survives unrenamed: q is a new file path
      cases hf : find new o.fid with
      | none => exact hns (Or.inl ⟨o, hom, hf, hod, hop⟩)
      | some n =>
        obtain ⟨hnm, hnfid⟩ := find_some hf
        by_cases hown : o.own = n.own
        · obtain ⟨hpath, hdir⟩ := (hr o hom n hnm hnfid.symm).1 hown
          exact hex ⟨n, hnm, by rw [← hdir, hod], by rw [← hpath, hop]⟩
        · exact hns (Or.inr ⟨(o, n), (mem_ownRenames old new o n).mpr ⟨hom, hf, hown⟩, hop⟩)

/-- **Adds, deletes and modifications survive.**  For every pair of well-formed
trees in which no surviving entry moved, importing the exporter's file commands
on top of the old files gives exactly the new files. -/
theorem export_import_tree_norename (old new : Tree) (ho : WF old) (hn : WF new) (hs : Stable old new) :
    FlatEq (applyCmds (flat old) (exportCmds old new)) (flat new) := by
  -- a special case of `export_import_tree_rename_partial`: no entry counts as renamed
  refine export_import_tree_rename_partial old new ho hn
    (fun o ho' n hn' hf => ⟨fun _ => (hs o ho' n hn' hf).2, fun h => absurd (hs o ho' n hn' hf).1 h⟩) ?_
  rintro ⟨o, n⟩ ha
  obtain ⟨h1, h2, h3⟩ := (mem_ownRenames old new o n).mp ha
  obtain ⟨h4, h5⟩ := find_some h2
  exact absurd (hs o h1 n h4 h5.symm).1 h3

/-- a rename, a rename onto the path of a deleted file, a modified renamed file, an add, a deletion and a
plain modification in one commit satisfy the hypotheses -/
example :
    let old : Tree := [⟨1, 1, 11, false, 100⟩, ⟨2, 2, 12, false, 200⟩, ⟨3, 3, 13, false, 300⟩, ⟨4, 4, 14, false, 400⟩,
      ⟨5, 5, 15, false, 500⟩, ⟨6, 6, 16, true, 0⟩, ⟨7, 7, 17, false, 700⟩]
    let new : Tree := [⟨1, 8, 18, false, 100⟩, ⟨2, 3, 13, false, 201⟩, ⟨4, 4, 14, false, 401⟩, ⟨6, 6, 16, true, 0⟩,
      ⟨7, 7, 17, false, 700⟩, ⟨9, 9, 19, false, 900⟩]
    WF old ∧ WF new ∧ RenOK old new ∧ NoChain old new ∧
    exportCmds old new = [.ren 1 8, .del 3, .ren 2 3, .del 5, .mod 3 201, .mod 4 401, .mod 9 900] := by
  refine ⟨by decide +kernel, by decide +kernel, ?_, ?_, by decide +kernel⟩
  · unfold RenOK
    decide +kernel
  · unfold NoChain
    decide +kernel

/-! ### the exporter's defects, as witnesses on concrete trees -/

/-- two files exchange their names: `R 1 2`, `R 2 1` loses one of them -/
theorem rename_swap_witness :
    let old : Tree := [⟨1, 1, 11, false, 100⟩, ⟨2, 2, 12, false, 200⟩]
    let new : Tree := [⟨1, 2, 12, false, 100⟩, ⟨2, 1, 11, false, 200⟩]
    exportCmds old new = [.ren 1 2, .ren 2 1] ∧
    applyCmds (flat old) (exportCmds old new) = [(1, 100)] ∧ lookup (flat new) 2 = some 100 := by
  decide +kernel

/-- a directory (entry 1, path 1 → 4) is renamed; its child (entry 2, own unchanged,
path 2 → 5) gets no command in the plain format and stays at the old path -/
theorem directory_rename_witness :
    let old : Tree := [⟨1, 1, 11, true, 0⟩, ⟨2, 2, 12, false, 100⟩]
    let new : Tree := [⟨1, 4, 14, true, 0⟩, ⟨2, 5, 12, false, 100⟩]
    exportCmds old new = [] ∧ lookup (applyCmds (flat old) (exportCmds old new)) 5 = none ∧
    lookup (flat new) 5 = some 100 := by
  decide +kernel

/-! ## the whole history -/

/-- the export order is topological: every parent position is smaller than the commit's own -/
def Topo (h : List Commit) : Prop := ∀ i (hi : i < h.length), ∀ p ∈ (h[i]'hi).parents, p ≤ i

/-- what the imported revision at position `i` should be -/
def expected (h : List Commit) (c : Commit) (files : Flat) : Rev :=
  { parents := c.parents.filter (· ≠ 0), files := files, info := c.info }

theorem importStep_ok (done : List Rev) (x : XCommit) (hm : ∀ m ∈ marksOf x, m ≠ 0 ∧ m ≤ done.length) :
    importStep done x = .ok (done ++ [{
      parents := marksOf x, files := applyCmds (baseOf done x) x.cmds, info := x.info }]) := by
  have : (marksOf x).any (badMark done) = false := by
    rw [List.any_eq_false]
    intro m hmem
    have := hm m hmem
    simp only [badMark, Bool.or_eq_true, beq_iff_eq, decide_eq_true_eq, not_or, Nat.not_lt]
    exact this
  simp [importStep, this]

theorem marks_eq (h : List Commit) (c : Commit) : marksOf (exportOne h c) = c.parents.filter (· ≠ 0) := by
  unfold marksOf exportOne
  simp only
  cases c.parents.filter (· ≠ 0) <;> simp

/-- Importing the exported stream of a topologically ordered history never meets
an unknown mark, and whatever every import step maintains holds of all imported
revisions: `P k r` is shown for the revision built from commit `k`, given `P` of
the earlier ones. -/
theorem import_export_ind (h : List Commit) (ht : Topo h) (P : Nat → Rev → Prop)
    (step : ∀ k (hk : k < h.length) (rs : List Rev), rs.length = k →
      (∀ i (hr : i < rs.length), P i (rs[i]'hr)) →
      P k { parents := (h[k]'hk).parents.filter (· ≠ 0),
            files := applyCmds (baseOf rs (exportOne h (h[k]'hk))) (exportOne h (h[k]'hk)).cmds,
            info := (h[k]'hk).info }) :
    ∃ rs, importAll (exportAll h) = .ok rs ∧ rs.length = h.length ∧
      ∀ i (hr : i < rs.length), P i (rs[i]'hr) := by
  -- generalise over prefixes of the stream
  suffices H : ∀ k, k ≤ h.length → ∃ rs, ((exportAll h).take k).foldlM importStep [] = .ok rs ∧
      rs.length = k ∧ ∀ i (hr : i < rs.length), P i (rs[i]'hr) by
    obtain ⟨rs, h1, h2, h3⟩ := H h.length (Nat.le_refl _)
    refine ⟨rs, ?_, h2, h3⟩
    have : (exportAll h).length = h.length := List.length_map _
    rw [← this, List.take_length] at h1
    exact h1
  intro k
  induction k with
  | zero => intro _; exact ⟨[], rfl, rfl, fun i hr => absurd hr (Nat.not_lt_zero _)⟩
  | succ k ih =>
    intro hk
    have hk' : k < h.length := hk
    obtain ⟨rs, h1, h2, h3⟩ := ih (Nat.le_of_lt hk')
    have hx : (exportAll h).take (k + 1) = (exportAll h).take k ++ [exportOne h (h[k]'hk')] := by
      rw [List.take_add_one]
      have : (exportAll h)[k]? = some (exportOne h (h[k]'hk')) := by
        simp [exportAll, List.getElem?_map, List.getElem?_eq_getElem hk']
      simp [this]
    rw [hx, foldlM_append_single, h1]
    simp only [bind, Except.bind]
    -- the marks of commit k are known
    have hmarks : ∀ m ∈ marksOf (exportOne h (h[k]'hk')), m ≠ 0 ∧ m ≤ rs.length := by
      intro m hm
      rw [marks_eq] at hm
      have := List.mem_filter.mp hm
      exact ⟨by simpa using this.2, h2 ▸ ht k hk' m this.1⟩
    rw [importStep_ok rs _ hmarks, marks_eq]
    refine ⟨_, rfl, by simp [h2], ?_⟩
    intro i hr
    by_cases hik : i < rs.length
    · rw [List.getElem_append_left hik]
      exact h3 i hik
    · have hieq : i = k := by
        simp only [List.length_append, List.length_singleton] at hr
        omega
      subst hieq
      simp only [List.getElem_append_right (Nat.le_of_eq h2), h2, Nat.sub_self, List.getElem_singleton]
      exact step i hk' rs h2 h3

/-- **Graph shape, metadata and order survive, for every history.**  Importing the
exported stream of a topologically ordered history never meets an unknown mark
and yields one revision per commit, in order, whose parents are the positions of
the non-ghost parents and whose metadata is the commit's. -/
theorem import_export_graph (h : List Commit) (ht : Topo h) :
    ∃ rs, importAll (exportAll h) = .ok rs ∧ rs.length = h.length ∧
      ∀ i (hi : i < h.length) (hr : i < rs.length),
        (rs[i]'hr).parents = (h[i]'hi).parents.filter (· ≠ 0) ∧ (rs[i]'hr).info = (h[i]'hi).info := by
  obtain ⟨rs, h1, h2, h3⟩ := import_export_ind h ht
    (fun i r => ∀ hi : i < h.length,
      r.parents = (h[i]'hi).parents.filter (· ≠ 0) ∧ r.info = (h[i]'hi).info)
    (fun _ _ _ _ _ _ => ⟨rfl, rfl⟩)
  exact ⟨rs, h1, h2, fun i hi hr => h3 i hr hi⟩


/-- the file commands of commit `c` reproduce its files from its first parent's,
and that first parent is exported (not a ghost) -/
def CommitOK (h : List Commit) (c : Commit) : Prop :=
  (c.parents.filter (· ≠ 0)).head? = c.parents.head? ∧
  FlatEq (applyCmds (flat (treeAt h (c.parents.head?.getD 0)))
      (exportCmds (treeAt h (c.parents.head?.getD 0)) c.tree)) (flat c.tree)

/-- **Isomorphism.**  For every topologically ordered history in which every
commit's file commands are faithful (`CommitOK`: proved for commits that add,
delete and modify — `export_import_tree_norename`; refuted for name swaps and for
directory renames — the two witnesses), the imported history is isomorphic to the
exported one: position ↦ imported revision preserves parents (ghosts dropped),
metadata and the files of every tree. -/
theorem import_export_iso_partial (h : List Commit) (ht : Topo h) (hok : ∀ c ∈ h, CommitOK h c) :
    ∃ rs, importAll (exportAll h) = .ok rs ∧ rs.length = h.length ∧
      ∀ i (hi : i < h.length) (hr : i < rs.length),
        (rs[i]'hr).parents = (h[i]'hi).parents.filter (· ≠ 0) ∧ (rs[i]'hr).info = (h[i]'hi).info ∧
        FlatEq (rs[i]'hr).files (flat (h[i]'hi).tree) := by
  obtain ⟨rs, h1, h2, h3⟩ := import_export_ind h ht
    (fun i r => ∀ hi : i < h.length,
      r.parents = (h[i]'hi).parents.filter (· ≠ 0) ∧ r.info = (h[i]'hi).info ∧
        FlatEq r.files (flat (h[i]'hi).tree))
    (by
      intro k hk rs h2 h3 _
      refine ⟨rfl, rfl, ?_⟩
      -- the files: start from the imported first parent, which matches the exported one
      obtain ⟨hhead, hfaith⟩ := hok (h[k]'hk) (List.getElem_mem hk)
      have hbase : FlatEq (baseOf rs (exportOne h (h[k]'hk)))
          (flat (treeAt h ((h[k]'hk).parents.head?.getD 0))) := by
        unfold baseOf
        simp only [exportOne, hhead]
        cases hp : (h[k]'hk).parents.head? with
        | none => intro q; simp [treeAt, flat, lookup]
        | some f =>
          simp only [Option.getD_some]
          have hfmem : f ∈ (h[k]'hk).parents := List.mem_of_head? hp
          have hfne : f ≠ 0 := by
            have : (List.filter (fun x => decide (x ≠ 0)) (h[k]'hk).parents).head? = some f := by rw [hhead, hp]
            have := List.mem_of_head? this
            simpa using (List.mem_filter.mp this).2
          have hfle : f ≤ k := ht k hk f hfmem
          have hf1 : f - 1 < rs.length := by omega
          have hf2 : f - 1 < h.length := by omega
          simp only [List.getElem?_eq_getElem hf1, treeAt, hfne, if_false, List.getElem?_eq_getElem hf2]
          exact (h3 (f - 1) hf1 hf2).2.2
      intro q
      rw [applyCmds_congr hbase _ q]
      exact hfaith q)
  exact ⟨rs, h1, h2, fun i hi hr => h3 i hr hi⟩

instance (old new : Tree) : Decidable (RenOK old new) := by unfold RenOK; exact inferInstance

instance (old new : Tree) : Decidable (NoChain old new) := by unfold NoChain; exact inferInstance

/-- the first parent of the commit is exported (it is no ghost), both trees are
well formed and the changes are in the domain of `export_import_tree_rename_partial` -/
def CommitFine (h : List Commit) (c : Commit) : Prop :=
  (c.parents.filter (· ≠ 0)).head? = c.parents.head? ∧
  WF (treeAt h (c.parents.head?.getD 0)) ∧ WF c.tree ∧
  RenOK (treeAt h (c.parents.head?.getD 0)) c.tree ∧ NoChain (treeAt h (c.parents.head?.getD 0)) c.tree

instance (h : List Commit) (c : Commit) : Decidable (CommitFine h c) := by unfold CommitFine; exact inferInstance

theorem CommitFine.ok {h : List Commit} {c : Commit} (hf : CommitFine h c) : CommitOK h c :=
  ⟨hf.1, export_import_tree_rename_partial _ _ hf.2.1 hf.2.2.1 hf.2.2.2.1 hf.2.2.2.2⟩

/-- **Isomorphism, unconditionally on the commands.**  For every topologically
ordered history (any length, merges with any number of parents, ghost parents
after the first) whose commits only add, delete, modify and rename files and
symlinks without chains (`CommitFine`, a decidable condition on the trees - no
assumption about the exporter or importer), the imported history is isomorphic
to the exported one: same parents (ghosts dropped), same metadata, same files
in every tree.

Partial: commits with rename chains / swaps or renamed directories are excluded
(the two witnesses). -/
theorem import_export_iso_of_fine_partial (h : List Commit) (ht : Topo h) (hf : ∀ c ∈ h, CommitFine h c) :
    ∃ rs, importAll (exportAll h) = .ok rs ∧ rs.length = h.length ∧
      ∀ i (hi : i < h.length) (hr : i < rs.length),
        (rs[i]'hr).parents = (h[i]'hi).parents.filter (· ≠ 0) ∧ (rs[i]'hr).info = (h[i]'hi).info ∧
        FlatEq (rs[i]'hr).files (flat (h[i]'hi).tree) :=
  import_export_iso_partial h ht fun c hc => (hf c hc).ok

/-- a history with a branch, a merge and a ghost: commit 2 renames and modifies,
commit 3 (a sibling) adds and deletes, commit 4 merges 3 into 2 (and names a
ghost), commit 5 renames onto the path of a file it deletes -/
def exHistory : List Commit :=
  let t1 : Tree := [⟨1, 1, 11, false, 100⟩, ⟨2, 2, 12, false, 200⟩, ⟨3, 3, 13, true, 0⟩, ⟨4, 4, 14, false, 400⟩]
  let t2 : Tree := [⟨1, 5, 15, false, 101⟩, ⟨2, 2, 12, false, 200⟩, ⟨3, 3, 13, true, 0⟩, ⟨4, 4, 14, false, 400⟩]
  let t3 : Tree := [⟨1, 1, 11, false, 100⟩, ⟨3, 3, 13, true, 0⟩, ⟨4, 4, 14, false, 400⟩, ⟨6, 6, 16, false, 600⟩]
  let t4 : Tree := [⟨1, 5, 15, false, 101⟩, ⟨3, 3, 13, true, 0⟩, ⟨4, 4, 14, false, 400⟩, ⟨6, 6, 16, false, 600⟩]
  let t5 : Tree := [⟨1, 4, 14, false, 101⟩, ⟨3, 3, 13, true, 0⟩, ⟨6, 6, 16, false, 601⟩]
  [⟨[], t1, 1⟩, ⟨[1], t2, 2⟩, ⟨[1], t3, 3⟩, ⟨[2, 3, 0], t4, 4⟩, ⟨[4], t5, 5⟩]

example : (∀ c ∈ exHistory, CommitFine exHistory c) ∧ Topo exHistory := by
  unfold Topo
  decide +kernel

/-- ... and its import: five revisions, the merge with its two exported parents, the last tree with the
renamed file at the deleted file's path -/
example :
    (importAll (exportAll exHistory)).toOption.map (fun rs => rs.map (·.parents)) = some [[], [1], [1], [2, 3], [4]] ∧
    (importAll (exportAll exHistory)).toOption.bind (fun rs => rs[4]?.map (fun r => (lookup r.files 4, lookup r.files 1, lookup r.files 6)))
      = some (some 101, none, some 601) := by
  decide +kernel

/-! ## metadata and tags -/

/-- **The zone survives.**  For every offset that is a whole number of minutes -
either sign, any size - parsing the `+HHMM` field the exporter writes gives the
offset back (`format_who_when`, `parse_tz`). -/
theorem zone_roundtrip (off : Int) (h : off % 60 = 0) : parseZone (formatZone off) = off := by
  have key : (60 * (60 * ((off.natAbs / 3600 : Nat) : Int)
      + ((off.natAbs / 60 - off.natAbs / 3600 * 60 : Nat) : Int))) = off.natAbs := by
    exact_mod_cast zone_nat off.natAbs (by omega)
  unfold parseZone formatZone
  by_cases hneg : off < 0
  · simp only [hneg, decide_true, if_true, key]
    rw [Int.ofNat_natAbs_of_nonpos (Int.le_of_lt hneg), Int.neg_mul, Int.one_mul, Int.neg_neg]
  · simp only [hneg, decide_false, Bool.false_eq_true, if_false, key]
    rw [Int.natAbs_of_nonneg (Int.not_lt.mp hneg), Int.one_mul]

example : ((-12600 : Int) % 60 = 0) ∧ formatZone (-12600) = ⟨true, 3, 30⟩ ∧ formatZone 20700 = ⟨false, 5, 45⟩ := by decide +kernel

/-- ... and only then: the seconds of an offset are dropped (bzr stores the zone in seconds) -/
theorem zone_seconds_lost_witness : parseZone (formatZone 90) = 60 ∧ parseZone (formatZone (-3599)) = -3540 := by decide +kernel

/-- **A committer `Name <email>` survives.**  For every name without `<` that is
not empty and does not end in white space, every non-empty email without `<`
and `>`, and every date field (it contains no `>`): the exporter splits the
committer into name and email (`_get_name_email`), writes
`Name <email> date` (`format_who_when`), the parser reads name and email back
(`_who_when`: `([^<]*)<(.*)> (.+)`, the name right-stripped) and the importer
joins them (`_format_name_email`) to the original string. -/
theorem committer_roundtrip_name_email (bare : Bool) (N E : Str) (d : Char) (ds : Str)
    (hN0 : N ≠ []) (hN1 : ∀ c ∈ N, c ≠ '<') (hN2 : rstrip N = N)
    (hE0 : E ≠ []) (hE : ∀ c ∈ E, c ≠ '<' ∧ c ≠ '>') (hd : ∀ c ∈ d :: ds, c ≠ '>') :
    committerRoundtrip bare (N ++ [' ', '<'] ++ E ++ ['>']) (d :: ds) = some (N ++ [' ', '<'] ++ E ++ ['>']) := by
  rw [committerRoundtrip_of_split d ds (split_name_email N E hN2 hE) hN1 hN2 (fun c hc => (hE c hc).2) hd]
  simp [joinWho, List.isEmpty_iff, hE0, hN0]

/-- **A committer without `<` survives** when it does not end in white space: it
travels as the name with an empty email (`who <> date`) -/
theorem committer_roundtrip_plain (bare : Bool) (u : Str) (d : Char) (ds : Str) (hu1 : ∀ c ∈ u, c ≠ '<')
    (hu2 : rstrip u = u) (hd : ∀ c ∈ d :: ds, c ≠ '>') :
    committerRoundtrip bare u (d :: ds) = some u := by
  rw [committerRoundtrip_of_split d ds (splitCommitter_plain hu1) hu1 hu2 (fun _ h => nomatch h) hd]
  simp [joinWho]

example : rstrip "Jürgen M".toList = "Jürgen M".toList ∧ (∀ c ∈ "j@example.com".toList, c ≠ '<' ∧ c ≠ '>') ∧
    committerRoundtrip false "A: B <c@d>".toList "1500000000 +0530".toList = some "A: B <c@d>".toList := by
  -- string literals become character lists first: `String.toList` of a literal makes the kernel decode UTF-8
  repeat rw [String.toList_ofList]
  decide +kernel

/-- **... and the forms that do not**: an email in angle brackets with no name comes back with a leading
blank (as found; the `bare` variant returns it unchanged); two blanks before `<`, a blank after `>`, an
empty `<>` and a name that ends in a blank are normalised; a name containing `<` is cut there. -/
theorem committer_defects_witness :
    committerRoundtrip false "<joe@example.com>".toList "1 +0000".toList = some " <joe@example.com>".toList ∧
    committerRoundtrip true "<joe@example.com>".toList "1 +0000".toList = some "<joe@example.com>".toList ∧
    committerRoundtrip false "Joe  <j@x>".toList "1 +0000".toList = some "Joe <j@x>".toList ∧
    committerRoundtrip false "Joe <j@x> ".toList "1 +0000".toList = some "Joe <j@x>".toList ∧
    committerRoundtrip false "Joe <>".toList "1 +0000".toList = some "Joe".toList ∧
    committerRoundtrip false "Joe ".toList "1 +0000".toList = some "Joe".toList ∧
    committerRoundtrip false "a<b <c@d>".toList "1 +0000".toList = some "a <b <c@d>".toList := by
  repeat rw [String.toList_ofList]
  decide +kernel

/-- **Tags survive.**  For every list of tags with distinct names whose revisions
were exported with marks `1..n` (position 0 = outside the exported ancestry):
after importing the `reset refs/tags/…` commands the exporter writes, every
tag that points into the exported history - and, in the plain format, whose
`refs/tags/<name>` is a valid git ref (`check_ref_format`, modelled byte by
byte) - is bound to the image of its revision; every other name is unbound. -/
theorem tags_preserved (plain : Bool) (n : Nat) (tags : List Tag) (hn : (tags.map (·.name)).Nodup)
    (hp : ∀ t ∈ tags, t.pos ≤ n) :
    (∀ t ∈ tags, tagLookup (importTags n (exportTags plain tags)) t.name =
      if t.pos ≠ 0 ∧ (plain = false ∨ validRef (refsTags ++ t.name) = true) then some t.pos else none) ∧
    (∀ x, x ∉ tags.map (·.name) → tagLookup (importTags n (exportTags plain tags)) x = none) := by
  rw [importTags_export plain n tags hp]
  have hkn : ((tags.filter fun t => t.pos != 0 && (!plain || validRef (refsTags ++ t.name))).map (·.name)).Nodup :=
    List.Nodup.sublist (List.Sublist.map _ List.filter_sublist) hn
  have hfind : ∀ {x : Bytes} {t' : Tag},
      List.find? (fun t' => t'.name == x)
        (tags.filter fun t => t.pos != 0 && (!plain || validRef (refsTags ++ t.name))) = some t' →
      t' ∈ tags ∧ t'.name = x ∧ t'.pos ≠ 0 ∧ (plain = false ∨ validRef (refsTags ++ t'.name) = true) := by
    intro x t' hf
    obtain ⟨h1, h3⟩ := List.mem_filter.mp (List.mem_of_find?_eq_some hf)
    simp only [Bool.and_eq_true, bne_iff_ne, ne_eq, Bool.or_eq_true, Bool.not_eq_true'] at h3
    have h2 := List.find?_some hf
    exact ⟨h1, beq_iff_eq.mp h2, h3⟩
  constructor
  · intro t ht
    rw [tagLookup_foldl _ hkn]
    by_cases hk : t.pos ≠ 0 ∧ (plain = false ∨ validRef (refsTags ++ t.name) = true)
    · have hmem : t ∈ tags.filter fun t => t.pos != 0 && (!plain || validRef (refsTags ++ t.name)) := by
        refine List.mem_filter.mpr ⟨ht, ?_⟩
        obtain ⟨h1, h2⟩ := hk
        rcases h2 with h2 | h2 <;> simp [h1, h2]
      rw [if_pos hk, Lib.find?_key_of_mem Tag.name hkn hmem]
    · rw [if_neg hk]
      cases hf : List.find? (fun t' => t'.name == t.name) (tags.filter fun t => t.pos != 0 && (!plain || validRef (refsTags ++ t.name))) with
      | none => rfl
      | some t' =>
        obtain ⟨h1, h2, h3⟩ := hfind hf
        exact absurd (Lib.inj_of_nodup_map Tag.name hn h1 ht h2 ▸ h3) hk
  · intro x hx
    rw [tagLookup_foldl _ hkn]
    cases hf : List.find? (fun t' => t'.name == x) (tags.filter fun t => t.pos != 0 && (!plain || validRef (refsTags ++ t.name))) with
    | none => rfl
    | some t' =>
      obtain ⟨h1, h2, _⟩ := hfind hf
      exact absurd (List.mem_map.mpr ⟨t', h1, h2⟩) hx

/-- tags "v1" (valid), "with space" (no git ref), "x..y" (no git ref) and one that points outside the export -/
example :
    let tags : List Tag := [⟨[118, 49], 2⟩, ⟨[119, 105, 116, 104, 32, 115], 1⟩, ⟨[120, 46, 46, 121], 3⟩, ⟨[122], 0⟩]
    (tags.map (·.name)).Nodup ∧ (∀ t ∈ tags, t.pos ≤ 3) ∧
    exportTags true tags = [(refsTags ++ [118, 49], 2)] ∧ (exportTags false tags).length = 3 := by
  decide +kernel

/-! ### non-vacuity -/

example : WF [⟨1, 1, 11, false, 100⟩, ⟨2, 2, 12, false, 200⟩, ⟨3, 3, 13, true, 0⟩] ∧
    Topo [⟨[], [], 1⟩, ⟨[1], [], 2⟩, ⟨[1, 0], [], 3⟩, ⟨[3, 2], [], 4⟩] := by
  unfold Topo
  decide +kernel

/-- the hypotheses of `export_import_tree_norename` on an add + modification + deletion -/
example : Stable [⟨1, 1, 11, false, 100⟩, ⟨2, 2, 12, false, 200⟩, ⟨3, 3, 13, true, 0⟩]
    [⟨1, 1, 11, false, 101⟩, ⟨3, 3, 13, true, 0⟩, ⟨4, 4, 14, false, 400⟩] := by
  unfold Stable
  decide +kernel

/-- an add, a modification and a deletion in one commit -/
example :
    let old : Tree := [⟨1, 1, 11, false, 100⟩, ⟨2, 2, 12, false, 200⟩, ⟨3, 3, 13, true, 0⟩]
    let new : Tree := [⟨1, 1, 11, false, 101⟩, ⟨3, 3, 13, true, 0⟩, ⟨4, 4, 14, false, 400⟩]
    exportCmds old new = [.del 2, .mod 1 101, .mod 4 400] ∧
    applyCmds (flat old) (exportCmds old new) = [(4, 400), (1, 101)] := by
  decide +kernel

end BreezyVerif.C44
