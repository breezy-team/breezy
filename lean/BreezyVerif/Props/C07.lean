import BreezyVerif.Model.C07
import BreezyVerif.Lemmas.C07
/-!
C07 — autopack planning is well-formed for EVERY pack size distribution.

All theorems are universally quantified over every list of packs (any length,
any counts, duplicates, any order, any pack identities) and every total
revision count `total ≥` the sum of the per-pack counts.  The real caller
passes exactly the sum (`keyCount`: `CombinedGraphIndex.key_count()` adds the
per-pack key counts, revisions duplicated across packs counted once per pack —
checked on a real repository holding duplicated revisions on every run), for
which `autopack_real_ok`/`autopack_real_spec`/`autopack_execute_bound` need no
hypothesis on the total.  `plan_error_witness` shows what a de-duplicating
`key_count` would do: with `total <` sum the real planner raises `IndexError`.
`maxPackCount_eq_digit_sum` ties the bound to the digits of `str(total)`;
`execute_*` describe `_execute_pack_operations` (one new pack per combination,
duplicates stored once).

The loop invariant (`loop_spec`) and the complete description of the planner
(`plan_spec`) are in `Lemmas/C07.lean`.
-/
namespace BreezyVerif.C07

/-- `pack_distribution(t)` distributes exactly `t` revisions … -/
theorem distribution_sum (t : Nat) : (packDistribution t).sum = t := packDistribution_sum t

/-- … over exactly `_max_pack_count(t)` buckets (the digit sum, `1` for `0`). -/
theorem distribution_length (t : Nat) : (packDistribution t).length = maxPackCount t :=
  packDistribution_length t

/-- Planning never fails with an internal error (`IndexError`,
`AssertionError`): all pack lists with positive counts, all totals ≥ their sum. -/
theorem plan_ok (packs : List Pack) (total : Nat)
    (hpos : ∀ p ∈ packs, 0 < p.1) (htot : cnt packs ≤ total) :
    ∃ ops, plan packs (packDistribution total) = .ok ops := by
  rcases plan_total_spec packs total hpos htot with ⟨_, h⟩ | ⟨_, _, _, h, _⟩
  · exact ⟨_, h⟩
  · exact ⟨_, h⟩

/-- The plan is empty or a single combination `(n, ps)` of at least two of the
given packs (`ps` is a sub-multiset of the input: `ps ++ kept` is a permutation
of it, and `ps` appears in descending `(count, pack)` order), and `n` is the
sum of the combined packs' revision counts. -/
theorem plan_shape (packs : List Pack) (total : Nat) (ops : List Op)
    (hpos : ∀ p ∈ packs, 0 < p.1) (htot : cnt packs ≤ total)
    (h : plan packs (packDistribution total) = .ok ops) :
    ops = [] ∨ ∃ ps kept, ops = [(cnt ps, ps)] ∧ 2 ≤ ps.length ∧
      (ps ++ kept).Perm packs ∧ ps.Sublist (sortDesc packs) := by
  rcases plan_total_spec packs total hpos htot with ⟨_, h'⟩ | ⟨_, ps, kept, h', h2, h3, h4, _⟩
  · exact .inl (Except.ok.inj (h.symm.trans h'))
  · exact .inr ⟨ps, kept, Except.ok.inj (h.symm.trans h'), h2, h3, h4⟩

/-- After carrying out a non-empty plan the number of packs is at most
`_max_pack_count(total)` — the digit sum of the total revision count. -/
theorem plan_bound (packs : List Pack) (total : Nat) (ops : List Op)
    (hpos : ∀ p ∈ packs, 0 < p.1) (htot : cnt packs ≤ total)
    (h : plan packs (packDistribution total) = .ok ops) (hne : ops ≠ []) :
    packsAfter packs.length ops ≤ maxPackCount total := by
  rcases plan_total_spec packs total hpos htot with ⟨_, h'⟩ | ⟨_, ps, kept, h', h2, h3, _, h5⟩
  · exact absurd (Except.ok.inj (h.symm.trans h')) hne
  · obtain rfl := Except.ok.inj (h.symm.trans h')
    rw [packsAfter_single _ _ (List.ne_nil_of_length_pos (Nat.lt_of_lt_of_le (by decide) h2)),
      ← h3.length_eq, List.length_append, Nat.add_sub_cancel_left]
    exact h5

/-- Planning plans nothing when the pack count is already within the bound … -/
theorem plan_idle (packs : List Pack) (total : Nat)
    (hlen : packs.length ≤ maxPackCount total) :
    plan packs (packDistribution total) = .ok [] := by
  rw [plan, if_pos (by rwa [packDistribution_length])]

/-- … and only then: whenever there are more packs than the bound allows, a
combination is planned. -/
theorem plan_nonidle (packs : List Pack) (total : Nat)
    (hpos : ∀ p ∈ packs, 0 < p.1) (htot : cnt packs ≤ total)
    (hlen : maxPackCount total < packs.length) :
    plan packs (packDistribution total) ≠ .ok [] := by
  rcases plan_total_spec packs total hpos htot with ⟨h1, _⟩ | ⟨_, ps, kept, h', _⟩
  · exact absurd h1 (Nat.not_le_of_gt hlen)
  · rw [h']
    intro h
    cases h

/-- The trigger in `_do_autopack`: nothing is done exactly when the number of
packs (zero-revision packs included) is within `_max_pack_count`. -/
theorem autopack_none_iff (packs : List Pack) (total : Nat) :
    doAutopack total packs = .ok none ↔ packs.length ≤ maxPackCount total := by
  unfold doAutopack
  split
  · next h => exact iff_of_true rfl h
  · next h =>
    refine iff_of_false (fun h' => ?_) h
    split at h' <;> cases h'

/-- `_do_autopack`'s planning never fails, zero-revision packs included
(they are skipped), as long as `total` is at least the sum of the counts. -/
theorem autopack_ok (packs : List Pack) (total : Nat) (htot : cnt packs ≤ total) :
    ∃ r, doAutopack total packs = .ok r := by
  unfold doAutopack
  split
  · exact ⟨_, rfl⟩
  · obtain ⟨ops, h⟩ := plan_ok (packs.filter (fun p => p.1 != 0)) total
      (fun p hp => Nat.pos_of_ne_zero (bne_iff_ne.mp (List.mem_filter.mp hp).2))
      (Nat.le_trans (cnt_filter_le packs _) htot)
    exact ⟨some ops, by rw [h]⟩

/-- For a collection of packs with positive revision counts `_do_autopack`
either does nothing (count within the bound) or plans one combination of at
least two packs after which the count is within the bound. -/
theorem autopack_spec (packs : List Pack) (total : Nat)
    (hpos : ∀ p ∈ packs, 0 < p.1) (htot : cnt packs ≤ total) :
    (packs.length ≤ maxPackCount total ∧ doAutopack total packs = .ok none) ∨
    (∃ ps kept, doAutopack total packs = .ok (some [(cnt ps, ps)]) ∧ 2 ≤ ps.length ∧
      (ps ++ kept).Perm packs ∧ packsAfter packs.length [(cnt ps, ps)] ≤ maxPackCount total) := by
  by_cases hlen : packs.length ≤ maxPackCount total
  · exact .inl ⟨hlen, (autopack_none_iff packs total).mpr hlen⟩
  · rcases plan_total_spec packs total hpos htot with ⟨h1, _⟩ | ⟨_, ps, kept, h', h2, h3, _, _⟩
    · exact absurd h1 hlen
    · refine .inr ⟨ps, kept, ?_, h2, h3,
        plan_bound packs total _ hpos htot h' (List.cons_ne_nil _ _)⟩
      rw [doAutopack, if_neg hlen, filter_pos_id packs hpos, h']

/-- `_max_pack_count(total)` is literally the sum of the decimal digits of
`str(total)` (`Nat.toDigits 10` is the digit list `Nat.repr` prints), so
"digit sum" in the statements above is the real digit sum and not an artefact
of the fuelled recursion of the model. -/
theorem maxPackCount_eq_digit_sum (t : Nat) (ht : 0 < t) :
    maxPackCount t = ((Nat.toDigits 10 t).map charDigit).sum := by
  have h0 := Nat.ne_of_gt ht
  rw [maxPackCount, if_neg h0, digitSumAux_eq_toDigits t t (Nat.le_refl t), if_neg h0]

/-- With the total the real caller passes (`key_count()` ADDS the per-pack
counts, revisions duplicated across packs included — `keyCount`) planning
never fails: every pack list, zero-revision packs and duplicates included, no
side condition. -/
theorem autopack_real_ok (packs : List Pack) :
    ∃ r, doAutopack (keyCount packs) packs = .ok r :=
  autopack_ok packs (keyCount packs) (Nat.le_refl _)

/-- `autopack_spec` for the total the real caller passes: no hypothesis on the total. -/
theorem autopack_real_spec (packs : List Pack) (hpos : ∀ p ∈ packs, 0 < p.1) :
    (packs.length ≤ maxPackCount (keyCount packs) ∧ doAutopack (keyCount packs) packs = .ok none) ∨
    (∃ ps kept, doAutopack (keyCount packs) packs = .ok (some [(cnt ps, ps)]) ∧ 2 ≤ ps.length ∧
      (ps ++ kept).Perm packs ∧
      packsAfter packs.length [(cnt ps, ps)] ≤ maxPackCount (keyCount packs)) :=
  autopack_spec packs (keyCount packs) hpos (Nat.le_refl _)

/-- Carrying out a single combination `ps` of `packs` (`ps ++ kept` a
permutation of `packs`) replaces exactly the packs of `ps` by one new pack
holding their revisions once (`dups` = number of revision-index entries of
`ps` that are duplicates of another entry of `ps`): the collection afterwards
is `kept` plus the new pack. -/
theorem execute_perm (dups : Nat) (packs ps kept : List Pack) (hne : ps ≠ [])
    (hperm : (ps ++ kept).Perm packs) :
    (executeOpsDup dups packs [(cnt ps, ps)]).Perm ((cnt ps - dups, 0) :: kept) :=
  executeOpsDup_single dups (cnt ps) packs ps kept hne hperm

/-- … so the number of packs afterwards is the arithmetic `packsAfter` that
`plan_bound` bounds, whatever the number of duplicated revisions … -/
theorem execute_length (dups : Nat) (packs ps kept : List Pack) (hne : ps ≠ [])
    (hperm : (ps ++ kept).Perm packs) :
    (executeOpsDup dups packs [(cnt ps, ps)]).length = packsAfter packs.length [(cnt ps, ps)] := by
  rw [(execute_perm dups packs ps kept hne hperm).length_eq, packsAfter_single _ _ hne,
    ← hperm.length_eq, List.length_append, Nat.add_sub_cancel_left, List.length_cons]

/-- … and no revision-index entry is lost except the `dups` duplicates. -/
theorem execute_cnt (dups : Nat) (packs ps kept : List Pack) (hne : ps ≠ [])
    (hperm : (ps ++ kept).Perm packs) (hd : dups ≤ cnt ps) :
    cnt (executeOpsDup dups packs [(cnt ps, ps)]) + dups = cnt packs := by
  rw [cnt_perm (execute_perm dups packs ps kept hne hperm), cnt_cons, ← cnt_perm hperm, cnt_append,
    Nat.add_right_comm, Nat.sub_add_cancel hd]

/-- a plan `_do_autopack` makes for the caller's total is one non-empty combination -/
theorem doAutopack_some {packs : List Pack} {ops : List Op} (hpos : ∀ p ∈ packs, 0 < p.1)
    (h : doAutopack (keyCount packs) packs = .ok (some ops)) :
    ∃ ps kept, ops = [(cnt ps, ps)] ∧ ps ≠ [] ∧ (ps ++ kept).Perm packs ∧
      packsAfter packs.length ops ≤ maxPackCount (keyCount packs) := by
  rcases autopack_real_spec packs hpos with ⟨_, h'⟩ | ⟨ps, kept, h', h2, h3, h4⟩
  · cases h.symm.trans h'
  · obtain rfl := Option.some.inj (Except.ok.inj (h.symm.trans h'))
    exact ⟨ps, kept, rfl, List.ne_nil_of_length_pos (Nat.lt_of_lt_of_le (by decide) h2), h3, h4⟩

/-- The whole of `_do_autopack` on a collection of packs with positive counts
and the total the real caller passes: whatever it plans can be carried out,
and afterwards the number of packs is within `_max_pack_count` of the total
the plan was made for — also when `dups` revisions were duplicated. -/
theorem autopack_execute_bound (dups : Nat) (packs : List Pack) (ops : List Op)
    (hpos : ∀ p ∈ packs, 0 < p.1)
    (h : doAutopack (keyCount packs) packs = .ok (some ops)) :
    (executeOpsDup dups packs ops).length ≤ maxPackCount (keyCount packs) := by
  obtain ⟨ps, kept, rfl, hne, h3, h4⟩ := doAutopack_some hpos h
  rw [execute_length dups packs ps kept hne h3]
  exact h4

/-- Autopack reaches a fixed point in one step: after carrying out whatever
`_do_autopack` planned for a collection with positive counts and no duplicated
revisions, the revision total is unchanged and a second `_do_autopack` on the
resulting collection (with the total the caller would pass then) does nothing. -/
theorem autopack_fixpoint (packs : List Pack) (ops : List Op)
    (hpos : ∀ p ∈ packs, 0 < p.1)
    (h : doAutopack (keyCount packs) packs = .ok (some ops)) :
    keyCount (executeOpsDup 0 packs ops) = keyCount packs ∧
      doAutopack (keyCount (executeOpsDup 0 packs ops)) (executeOpsDup 0 packs ops) = .ok none := by
  have hk : keyCount (executeOpsDup 0 packs ops) = keyCount packs := by
    obtain ⟨ps, kept, rfl, hne, h3, _⟩ := doAutopack_some hpos h
    exact execute_cnt 0 packs ps kept hne h3 (Nat.zero_le _)
  refine ⟨hk, ?_⟩
  rw [autopack_none_iff, hk]
  exact autopack_execute_bound 0 packs ops hpos h

/-- With `dups` duplicated revisions dropped by the combination the total the
next caller passes is smaller, and the fixed point may need further rounds:
the pack count is still within the bound of the OLD total (`autopack_execute_bound`),
and the revision total never grows. -/
theorem autopack_total_nonincreasing (dups : Nat) (packs : List Pack) (ops : List Op)
    (hpos : ∀ p ∈ packs, 0 < p.1)
    (h : doAutopack (keyCount packs) packs = .ok (some ops)) :
    keyCount (executeOpsDup dups packs ops) ≤ keyCount packs := by
  obtain ⟨ps, kept, rfl, hne, h3, _⟩ := doAutopack_some hpos h
  show cnt _ ≤ cnt packs
  rw [cnt_perm (execute_perm dups packs ps kept hne h3), ← cnt_perm h3, cnt_append]
  exact Nat.add_le_add_right (Nat.sub_le _ _) _

/-- Why `cnt packs ≤ total` is needed: with a total smaller than the sum of
the per-pack counts the planner runs out of buckets — `IndexError` in the real
code (reproduced by the harness on the real method). -/
theorem plan_error_witness :
    plan [(10, 1), (10, 2), (1, 3)] (packDistribution 20) = .error .index := by decide +kernel

/-! ### non-vacuity: concrete non-trivial inputs satisfying the hypotheses -/

/-- hypotheses of `plan_ok`/`plan_shape`/`plan_bound`/`plan_nonidle` hold for a
collection with duplicate sizes that does need packing … -/
example : (∀ p ∈ [((5 : Nat), (1 : Nat)), (5, 2), (10, 3)], 0 < p.1) ∧
    cnt [(5, 1), (5, 2), (10, 3)] ≤ 20 ∧
    maxPackCount 20 < [((5 : Nat), (1 : Nat)), (5, 2), (10, 3)].length := by decide +kernel

/-- … for which the planner combines the two small packs: -/
example : plan [(5, 1), (5, 2), (10, 3)] (packDistribution 20) = .ok [(10, [(5, 2), (5, 1)])] := by
  decide +kernel

example : packsAfter 3 [(10, [(5, 2), (5, 1)])] = 2 ∧ maxPackCount 20 = 2 := by decide +kernel

/-- `autopack_fixpoint` on that collection: one combination, then nothing. -/
example : doAutopack (keyCount [(5, 1), (5, 2), (10, 3)]) [(5, 1), (5, 2), (10, 3)]
      = .ok (some [(10, [(5, 2), (5, 1)])]) ∧
    doAutopack 20 (executeOpsDup 0 [(5, 1), (5, 2), (10, 3)] [(10, [(5, 2), (5, 1)])]) = .ok none := by
  constructor <;> rfl

/-- a larger run with a partially used bucket (`12` eats one bucket of ten and
two units of the next) -/
example : plan [(4, 1), (12, 2), (4, 3)] (packDistribution 20) = .ok [(8, [(4, 3), (4, 1)])] := by
  decide +kernel

/-- `plan_idle`: a collection within the bound -/
example : [((10 : Nat), (1 : Nat)), (10, 2)].length ≤ maxPackCount 20 := by decide +kernel

/-- `autopack_ok` with a zero-revision pack -/
example : doAutopack 2 [(1, 1), (1, 2), (0, 3)] = .ok (some []) := by decide +kernel

example : packDistribution 2015 = [1000, 1000, 10, 1, 1, 1, 1, 1] := by decide +kernel

/-- `execute_perm`/`execute_length`/`execute_cnt` on a collection where the two
combined packs share one revision (3 + 1 entries, 3 distinct revisions) -/
example : executeOpsDup 1 [(18, 1), (9, 2), (3, 3), (1, 4), (10, 5)] [(4, [(3, 3), (1, 4)])]
    = [(3, 0), (18, 1), (9, 2), (10, 5)] := by decide +kernel

example : ([((3 : Nat), (3 : Nat)), (1, 4)] ++ [(18, 1), (9, 2), (10, 5)]).Perm
    [(18, 1), (9, 2), (3, 3), (1, 4), (10, 5)] := by decide +kernel

/-- `autopack_execute_bound`: the planner's view of the duplicated-revision
repository of the finding reproduced by the harness -/
example : doAutopack (keyCount [(18, 1), (9, 2), (2, 3), (1, 4), (10, 5)])
    [(18, 1), (9, 2), (2, 3), (1, 4), (10, 5)] = .ok (some [(3, [(2, 3), (1, 4)])]) := by decide +kernel

example : maxPackCount 2015 = 8 ∧ ((Nat.toDigits 10 2015).map charDigit).sum = 8 := by decide +kernel

end BreezyVerif.C07
