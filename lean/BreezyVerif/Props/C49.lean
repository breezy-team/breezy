import BreezyVerif.Lemmas.C49
import BreezyVerif.Lemmas.C49F
/-!
C49 — theorems.  Quantified over all locations, all lists of sections (any
number, any glob token lists), all option lists and all values.
-/
namespace BreezyVerif.C49

/-- component-wise glob prefix match, as a specification -/
inductive PrefixMatch : List Str → List (List GTok) → Prop where
  | nil (loc : List Str) : PrefixMatch loc []
  | cons {l : Str} {s : List GTok} {ls : List Str} {ss : List (List GTok)} :
      gmatch s l = true → PrefixMatch ls ss → PrefixMatch (l :: ls) (s :: ss)

/-- a section matches a location iff its components are a glob-wise prefix of
the location's components -/
theorem section_match_iff (loc : List Str) (sec : List (List GTok)) :
    compsMatch loc sec = true ↔ PrefixMatch loc sec := by
  induction sec generalizing loc with
  | nil =>
    constructor
    · intro _; exact PrefixMatch.nil loc
    · intro _; simp [compsMatch]
  | cons s ss ih =>
    cases loc with
    | nil =>
      constructor
      · intro h; simp [compsMatch] at h
      · intro h; cases h
    | cons l ls =>
      rw [compsMatch_cons, Bool.and_eq_true, ih]
      constructor
      · rintro ⟨h1, h2⟩; exact PrefixMatch.cons h1 h2
      · intro h; cases h with
        | cons h1 h2 => exact ⟨h1, h2⟩

/-- the extra path is exactly the unmatched suffix: the (right-stripped)
location is the matched components, a `/`, and the extra path — or the
matched components alone when nothing is left (then the extra path is empty) -/
theorem extra_is_unmatched_suffix (location : Str) (sec : List (List GTok))
    (hm : compsMatch (parts location) sec = true) (hs : sec ≠ []) :
    (sec.length < (parts location).length →
      rstripSlash location = joinSlash ((parts location).take sec.length) ++ '/' :: extraPath (parts location) sec.length) ∧
    (sec.length = (parts location).length →
      extraPath (parts location) sec.length = [] ∧ rstripSlash location = joinSlash ((parts location).take sec.length)) := by
  have hj : joinSlash (parts location) = rstripSlash location := joinSlash_splitSlash _
  have hpos : 0 < sec.length := List.length_pos_iff.mpr hs
  constructor
  · intro hlt
    rw [← hj]
    conv => lhs; rw [← List.take_append_drop sec.length (parts location)]
    unfold extraPath
    apply joinSlash_append
    · intro h
      have h2 := congrArg List.length h
      rw [List.length_take, List.length_nil] at h2; omega
    · intro h
      have h2 := congrArg List.length h
      rw [List.length_drop, List.length_nil] at h2; omega
  · intro heq
    unfold extraPath
    rw [heq, List.drop_length, List.take_length, hj]
    exact ⟨rfl, rfl⟩

/-- `_iter_for_location_by_parts` yields exactly the matching sections, each
with its unmatched suffix and its number of components, in the given order -/
theorem iter_by_parts_spec (secs : List PSec) (location : Str) :
    iterByParts secs location =
      (secs.filter fun s => compsMatch (parts location) s.comps).map fun s =>
        (s, extraPath (parts location) s.comps.length, s.comps.length) :=
  filterMap_ite _ _ secs

/-- the candidates are consulted in order of decreasing number of matched
components (ties: decreasing id) — for every pair of positions -/
theorem most_specific_first (noName : Option (List (Str × Str))) (secs : List PSec) (location : Str) :
    ((matchingSections noName secs location).mergeSort keyGe).Pairwise
      (fun a b => b.1 < a.1 ∨ (a.1 = b.1 ∧ strLe b.2.1 a.2.1 = true)) := by
  have h := List.pairwise_mergeSort (le := keyGe) keyGe_trans keyGe_total (matchingSections noName secs location)
  refine h.imp ?_
  intro a b hab
  simpa [keyGe] using hab

/-- sorting neither loses nor invents a section -/
theorem sorted_is_permutation (noName : Option (List (Str × Str))) (secs : List PSec) (location : Str) :
    ((matchingSections noName secs location).mergeSort keyGe).Perm (matchingSections noName secs location) :=
  List.mergeSort_perm _ _

/-- `Stack.get` returns the (unquoted) value of the FIRST section, in the order
they are consulted, that defines the option -/
theorem value_from_first_defining (secs : List LocSection) (name v : Str)
    (h : stackGet secs name = .val v) :
    ∃ l₁ s l₂ raw, secs = l₁ ++ s :: l₂ ∧ (∀ x ∈ l₁, secGet' x name = none) ∧
      secGet' s name = some raw ∧ v = unquote raw := by
  unfold stackGet at h
  cases hf : secs.findSome? (fun s => secGet' s name) with
  | none => rw [hf] at h; simp at h
  | some raw =>
    rw [hf] at h
    simp only at h
    split at h
    · simp at h
    · obtain ⟨l₁, s, l₂, hsecs, hs, hbefore⟩ := List.findSome?_eq_some_iff.mp hf
      refine ⟨l₁, s, l₂, raw, hsecs, hbefore, hs, ?_⟩
      cases h; rfl

/-- and it is `None` exactly when no consulted section defines it -/
theorem none_iff_no_section_defines (secs : List LocSection) (name : Str) :
    stackGet secs name = .none ↔ ∀ s ∈ secs, secGet' s name = none := by
  rw [← List.findSome?_eq_none_iff]
  unfold stackGet
  cases secs.findSome? (fun s => secGet' s name) with
  | none => simp
  | some raw =>
    simp only [reduceCtorEq, iff_false]
    split <;> simp

/-! ### matching uses the FULL location string (segment parameters included) -/

/-- the components a `LocationMatcher` matches against are those of the location
as given: for a location `pre/seg` the last component is the WHOLE last segment
`seg` — with any `,branch=…` / `,k=v` parameters it carries -/
theorem location_keeps_segment_parameters (pre seg : Str) (hne : seg ≠ []) (hns : '/' ∉ seg) :
    parts (pre ++ '/' :: seg) = splitSlash pre ++ [seg] := by
  unfold parts
  rcases List.eq_nil_or_concat seg with h | ⟨init, l, h⟩
  · exact absurd h hne
  · rw [List.concat_eq_append] at h
    have hl : l ≠ '/' := fun e => hns (by rw [h, e]; simp)
    have e : pre ++ '/' :: seg = (pre ++ '/' :: init) ++ [l] := by rw [h]; simp
    rw [e, rstripSlash_concat _ l hl, ← e, splitSlash_append, splitSlash_noslash seg hns]

/-- a section named exactly like the location (parameters included, no glob
characters) matches it completely: all components, empty extra path — so it is
the most specific candidate there can be -/
theorem own_section_matches_completely (location : Str) :
    compsMatch (parts location) ((parts location).map litToks) = true ∧
    extraPath (parts location) ((parts location).map litToks).length = [] := by
  refine ⟨(compsMatch_lits _ _).mpr (List.prefix_refl _), ?_⟩
  simp [extraPath, joinSlash]

/-- … while a section named like the location WITHOUT its parameters does not
match it component-wise (its last component `base` is not the location's last
component `base,params`): stripping the parameters before matching would change
which sections apply -/
theorem stripped_section_does_not_match (pre base params : Str) :
    compsMatch (splitSlash pre ++ [base ++ ',' :: params]) ((splitSlash pre ++ [base]).map litToks) = false := by
  cases h : compsMatch (splitSlash pre ++ [base ++ ',' :: params]) ((splitSlash pre ++ [base]).map litToks) with
  | false => rfl
  | true =>
    have hp := (compsMatch_lits _ _).mp h
    have hlen : (splitSlash pre ++ [base]).length = (splitSlash pre ++ [base ++ ',' :: params]).length := by simp
    have heq := hp.eq_of_length hlen
    have := List.append_cancel_left heq
    simp only [List.cons.injEq, and_true] at this
    have hl := congrArg List.length this
    simp at hl

/-- `LocationMatcher.get_sections`: the search goes from the most specific
candidate down and stops AFTER the first section whose `ignore_parents` is true:
what is consulted is a prefix of the sorted candidates, no consulted section but
the last is ignoring, and candidates are dropped only behind an ignoring section -/
theorem ignore_parents_cut (noName : Option (List (Str × Str))) (secs : List PSec) (location : Str) :
    ∃ rest, sortedSections noName secs location = locationSections noName secs location ++ rest ∧
      (∀ a s b, locationSections noName secs location = a ++ s :: b →
        (∀ x ∈ a, ignoring x = false) ∧ (b ≠ [] → ignoring s = false)) ∧
      (rest ≠ [] → ∃ s, (locationSections noName secs location).getLast? = some s ∧ ignoring s = true) :=
  cut_spec _

/-- without any ignoring candidate every candidate is consulted -/
theorem ignore_parents_none (noName : Option (List (Str × Str))) (secs : List PSec) (location : Str)
    (h : ∀ s ∈ sortedSections noName secs location, ignoring s = false) :
    locationSections noName secs location = sortedSections noName secs location := by
  unfold locationSections
  generalize sortedSections noName secs location = l at h
  induction l with
  | nil => rfl
  | cons a r ih =>
    have ha := h a (by simp)
    simp only [cutAfterIgnoring, ha, Bool.false_eq_true, if_false]
    rw [ih (fun s hs => h s (by simp [hs]))]

/-- HISTORICAL: the loop before fix 5b060e5 (`locationSectionsExcl`) consulted
exactly one section less — the first ignoring one -/
theorem ignore_parents_gap (l : List LocSection) :
    cutAfterIgnoring l = l.takeWhile (fun s => !ignoring s) ++ ((l.dropWhile fun s => !ignoring s).head?).toList := by
  induction l with
  | nil => rfl
  | cons s r ih =>
    unfold cutAfterIgnoring
    by_cases h : ignoring s = true
    · simp [h]
    · have h' : ignoring s = false := by simpa using h
      simp [h', ih]

def wSec : PSec := ⟨['/', 'a'], [(ignoreParentsN, ['t', 'r', 'u', 'e']), (['f', 'o', 'o'], ['m', 'i', 'd'])],
  [[], [.lit 'a']], [.lit '/', .lit 'a']⟩

/-- the regression the fix removed, as a machine-checked example: a section `[/a]`
with `ignore_parents = true` and `foo = mid`; at location `/a` the code answers
`mid` (the old loop answered `None`) -/
theorem ignore_parents_own_section_example :
    prepare ['/', 'a'] wSec.opts = some wSec ∧
    stackGet (locationSections none [wSec] ['/', 'a']) ['f', 'o', 'o'] = .val ['m', 'i', 'd'] ∧
    stackGet (locationSectionsExcl none [wSec] ['/', 'a']) ['f', 'o', 'o'] = .none := by
  have hs : sortedSections none [wSec] ['/', 'a'] =
      [⟨some ['/', 'a'], wSec.opts, [], ['a']⟩] := by
    unfold sortedSections
    have : matchingSections none [wSec] ['/', 'a'] =
        [(2, ['/', 'a'], (⟨some ['/', 'a'], wSec.opts, [], ['a']⟩ : LocSection))] := by decide +kernel
    rw [this, List.mergeSort_singleton]; rfl
  refine ⟨by decide +kernel, ?_, ?_⟩
  · unfold locationSections; rw [hs]; decide +kernel
  · unfold locationSectionsExcl; rw [hs]; decide +kernel

/-- the candidates: the no-name section with key 0, and one entry per named
section that matches, carrying its number of components, its id, the unmatched
suffix of the location and the branch name -/
theorem matching_sections_mem (noName : Option (List (Str × Str))) (secs : List PSec) (location : Str)
    (m : Nat × Str × LocSection) :
    m ∈ matchingSections noName secs location ↔
      (∃ o, noName = some o ∧ m = (0, [], (⟨none, o, location, []⟩ : LocSection))) ∨
      (∃ p ∈ secs, compsMatch (parts location) p.comps = true ∧
        m = (p.comps.length, p.id,
          (⟨some p.id, p.opts, extraPath (parts location) p.comps.length, branchOf location⟩ : LocSection))) := by
  unfold matchingSections
  rw [List.mem_append, iter_by_parts_spec]
  apply or_congr
  · cases noName <;> simp
  · simp only [List.map_map, List.mem_map, List.mem_filter, Function.comp, and_assoc, eq_comm (a := m)]

/-- MOST SPECIFIC WINS.  If `Stack.get` through a `LocationMatcher` answers `v`,
then `v` is the unquoted value of a candidate `t` (a matching section or the
no-name section) that defines the option, and EVERY candidate that is strictly
more specific than `t` (more matched components, or as many and a larger id)
neither defines the option nor sets `ignore_parents`. -/
theorem most_specific_wins (noName : Option (List (Str × Str))) (secs : List PSec) (location name v : Str)
    (h : stackGet (locationSections noName secs location) name = .val v) :
    ∃ t raw, t ∈ matchingSections noName secs location ∧ secGet' t.2.2 name = some raw ∧ v = unquote raw ∧
      ∀ m ∈ matchingSections noName secs location, keyGe t m = false →
        secGet' m.2.2 name = none ∧ ignoring m.2.2 = false := by
  obtain ⟨l₁, s, l₂, raw, hcut, hundef, hdef, hv⟩ := value_from_first_defining _ _ _ h
  unfold locationSections at hcut
  obtain ⟨rest, hl, hmid, _⟩ := cut_spec (sortedSections noName secs location)
  have hnoign := (hmid l₁ s l₂ hcut).1
  have hsorted : sortedSections noName secs location = l₁ ++ s :: (l₂ ++ rest) := by
    rw [hl, hcut, List.append_assoc, List.cons_append]
  unfold sortedSections at hsorted
  obtain ⟨L₁, L₂', hL, hL₁, hL₂'⟩ := List.map_eq_append_iff.mp hsorted
  obtain ⟨t, L₂, hL₂, hts, _⟩ := List.map_eq_cons_iff.mp hL₂'
  subst hL₂
  have hperm := sorted_is_permutation noName secs location
  have hpw := List.pairwise_mergeSort (le := keyGe) keyGe_trans keyGe_total (matchingSections noName secs location)
  rw [hL] at hperm hpw
  refine ⟨t, raw, ?_, by rw [hts]; exact hdef, hv, ?_⟩
  · exact hperm.subset (by simp)
  · intro m hm hlt
    have hmL : m ∈ L₁ ++ t :: L₂ := hperm.symm.subset hm
    rw [List.pairwise_append] at hpw
    rcases List.mem_append.mp hmL with h1 | h2
    · have hm1 : m.2.2 ∈ l₁ := by rw [← hL₁]; exact List.mem_map.mpr ⟨m, h1, rfl⟩
      exact ⟨hundef _ hm1, hnoign _ hm1⟩
    · rcases List.mem_cons.mp h2 with e | e
      · subst e
        have := keyGe_total m m
        simp only [Bool.or_self] at this
        rw [this] at hlt; cases hlt
      · have := (List.pairwise_cons.mp hpw.2.1).1 m e
        rw [this] at hlt; cases hlt

/-- … and `None` exactly when no consulted candidate defines the option -/
theorem location_none_iff (noName : Option (List (Str × Str))) (secs : List PSec) (location name : Str) :
    stackGet (locationSections noName secs location) name = .none ↔
      ∀ s ∈ locationSections noName secs location, secGet' s name = none :=
  none_iff_no_section_defines _ _

/-- FUEL SUFFICIENCY: the `name:policy:policy…` recursion of `LocationSection.get`
needs one more existing, strictly longer key per level, so it ends within
(number of keys at least as long as `name`) + 1 levels -/
theorem secGet_fuel (s : LocSection) : ∀ (fuel : Nat) (name : Str), cntGe name.length s.opts < fuel →
    ∃ r, secGet fuel s name = some r
  | 0, _, h => absurd h (Nat.not_lt_zero _)
  | fuel + 1, name, h => by
    unfold secGet
    cases hl : lookup name s.opts with
    | none => exact ⟨none, rfl⟩
    | some v =>
      have hc := lookup_cnt hl
      have hlen : (name ++ policySuffix).length = name.length + 7 := by simp [policySuffix]
      obtain ⟨pol, hpol⟩ := secGet_fuel s fuel (name ++ policySuffix) (by rw [hlen]; omega)
      simp only [hpol]
      exact ⟨_, rfl⟩

/-- more fuel never changes an answer -/
theorem secGet_mono (s : LocSection) : ∀ (fuel : Nat) (name : Str) (r : Option Str),
    secGet fuel s name = some r → secGet (fuel + 1) s name = some r
  | 0, _, _, h => by simp [secGet] at h
  | fuel + 1, name, r, h => by
    rw [secGet] at h ⊢
    cases hl : lookup name s.opts with
    | none => rw [hl] at h; exact h
    | some v =>
      rw [hl] at h
      simp only at h ⊢
      cases hp : secGet fuel s (name ++ policySuffix) with
      | none => rw [hp] at h; cases h
      | some pol =>
        rw [hp] at h
        rw [secGet_mono s fuel _ pol hp]
        exact h

theorem secGet_mono_le (s : LocSection) (name : Str) (r : Option Str) (f : Nat) (h : secGet f s name = some r) :
    ∀ k, secGet (f + k) s name = some r
  | 0 => h
  | k + 1 => secGet_mono s (f + k) name r (secGet_mono_le s name r f h k)

/-- `secGet'` (the model of `LocationSection.get` the other theorems use) never
runs out of fuel: its answer is THE answer of the recursion at any sufficient depth -/
theorem secGet'_spec (s : LocSection) (name : Str) (r : Option Str) :
    secGet' s name = r ↔ ∃ fuel, secGet fuel s name = some r := by
  have hsuff : cntGe name.length s.opts < s.opts.length + 2 := by
    have := cntGe_le_length name.length s.opts; omega
  obtain ⟨r0, hr0⟩ := secGet_fuel s (s.opts.length + 2) name hsuff
  have h' : secGet' s name = r0 := by unfold secGet'; rw [hr0]
  constructor
  · intro h; exact ⟨s.opts.length + 2, by rw [hr0, ← h', h]⟩
  · rintro ⟨f, hf⟩
    have e1 := secGet_mono_le s name r f hf (s.opts.length + 2)
    have e2 := secGet_mono_le s name r0 (s.opts.length + 2) hr0 f
    rw [Nat.add_comm] at e2
    rw [e1] at e2
    rw [h']; cases e2; rfl

/-- no policy: the stored value with the section-local references expanded -/
theorem no_policy_plain_value (s : LocSection) (name v : Str)
    (hv : lookup name s.opts = some v) (hp : lookup (name ++ policySuffix) s.opts = none) :
    secGet' s name = some (expandLocals s v) :=
  (secGet'_spec s name _).mpr ⟨2, by simp [secGet, hv, hp]⟩

/-- `opt:policy = appendpath`: the value is joined with the extra path — which
is exactly the unmatched part of the location (`extra_is_unmatched_suffix`) -/
theorem appendpath_value (s : LocSection) (name v : Str)
    (hv : lookup name s.opts = some v)
    (hp : lookup (name ++ policySuffix) s.opts = some appendpathN)
    (hpp : lookup (name ++ policySuffix ++ policySuffix) s.opts = none) :
    secGet' s name = some (expandLocals s (joinPath v s.extra)) := by
  rw [List.append_assoc] at hpp
  exact (secGet'_spec s name _).mpr
    ⟨3, by simp [secGet, hv, hp, hpp, show expandLocals s appendpathN = appendpathN from rfl]⟩

def relpathRef : Str := '{' :: relpathN ++ ['}']
def basenameRef : Str := '{' :: basenameN ++ ['}']
def branchnameRef : Str := '{' :: branchnameN ++ ['}']

/-- `{relpath}` expands to the extra path, `{basename}` to its last component and
`{branchname}` to the branch name, wherever they occur after reference-free text
(`rest` is arbitrary, so this covers every reference of a value whose other text
has no `{`) -/
theorem relpath_basename_expansion (s : LocSection) (pre rest : Str) (hpre : '{' ∉ pre) :
    expandLocals s (pre ++ relpathRef ++ rest) = pre ++ s.extra ++ expandLocals s rest ∧
    expandLocals s (pre ++ basenameRef ++ rest) = pre ++ urlBasenameU s.extra ++ expandLocals s rest ∧
    expandLocals s (pre ++ branchnameRef ++ rest) = pre ++ s.branch ++ expandLocals s rest := by
  have h := fun name hname => expandLocals_ref s name rest hname pre hpre
  exact ⟨by simpa [relpathRef, expandChunk, localOf] using h relpathN (by decide),
    by simpa [basenameRef, expandChunk, localOf, show basenameN ≠ relpathN by decide]
      using h basenameN (by decide),
    by simpa [branchnameRef, expandChunk, localOf, show branchnameN ≠ relpathN by decide,
      show branchnameN ≠ basenameN by decide] using h branchnameN (by decide)⟩

/-- the sections a StartingPathMatcher yields: later sections of the file first,
a named section iff its id is a string prefix of the location or globs it as a
whole, the no-name section last -/
theorem starting_sections_spec (noName : Option (List (Str × Str))) (secs : List PSec) (location : Str) :
    startingSections noName secs location =
      ((secs.reverse.filter fun s => s.id.isPrefixOf location || gmatch s.whole location).map fun s =>
        (⟨some s.id, s.opts, extraPath (parts location) s.comps.length, []⟩ : LocSection)) ++
      (match noName with
        | some o => [(⟨none, o, location, []⟩ : LocSection)]
        | none => []) :=
  congrArg (· ++ _) (filterMap_ite _ _ secs.reverse)

/-- VALUE LEVEL.  For a value without line boundary, without both quote kinds and
without a Unicode blank at an unquoted end (`okValue`): `Stack.set` stores a string
`q1` that `IniFileStore.unquote` maps back to the value, `ConfigObj.write` turns
`q1` into a text `q2` without line boundary, and the parser reads `q2` (after the
`=\s*` of the key line, whatever lines follow) back as exactly `q1`, on one line,
without inline comment — so the stored string is a fixed point of save + load. -/
theorem quote_unquote_partial (v : Str) (h : okValue v = true) :
    ∃ q1 q2, cquote true v = some q1 ∧ unquote q1 = v ∧ cquote false q1 = some q2 ∧
      (∀ c ∈ q2, isLineBreak c = false) ∧
      ∀ rest, parseOptValue (q2.dropWhile isSpace) rest = some (q1, 0, []) := by
  obtain ⟨q1, h1, h2, q2, h3, h4, h5⟩ := storeQuote_reloadable false v h
  rw [storeQuote_false] at h1
  exact ⟨q1, q2, h1, h2, h3, h4, h5⟩

/-- FILE LEVEL, any number of options.  Options with plain, pairwise different keys
and `okValue` values are set on an empty section (the no-name section or a plainly
named one), the store is saved and loaded again: the load succeeds and yields
exactly these options, in order, in that section, without inline comments, each
un-quoting to the value that was set; and saving the loaded store again writes the
very same file (so every later generation reads the same values).
`fix = false` is the code as it is (hypothesis `okValue`); `fix = true` is the code
with the fix proposed for roundtrip-unicode-blank-at-end, where the hypothesis on the
ends of the value is not needed (`okValueFix`). -/
theorem store_roundtrip_partial (fix : Bool) (sec : Option Str) (hsec : sec.all plainSec = true)
    (opts : List (Str × Str))
    (hk : ∀ o ∈ opts, plainKey o.1 = true) (hnd : (opts.map (·.1)).Nodup)
    (hv : ∀ o ∈ opts, okFor fix o.2 = true) :
    ∃ stored content loaded, quoteAll fix opts = some stored ∧ writeSection sec stored = some content ∧
      loadContent content = .opts loaded ∧
      loaded.map (fun e => (e.sec, e.key, unquote e.raw, e.comment)) = opts.map (fun o => (sec, o.1, o.2, [])) ∧
      writeSection sec (loaded.map fun e => (e.key, e.raw, e.comment)) = some content := by
  obtain ⟨stored, hst, rfl, hrel⟩ := quoteAll_ok fix opts hv
  obtain ⟨content, hw, hload⟩ := load_section sec hsec stored
    (fun s hs => ⟨hk (s.1, unquote s.2) (List.mem_map_of_mem hs), hrel s hs⟩)
    (by simpa [List.map_map, Function.comp_def] using hnd)
  refine ⟨_, content, _, hst, hw, hload, ?_, ?_⟩
  · rw [List.map_map, List.map_map]; rfl
  · rw [List.map_map]; exact hw

/-! the three input families on which the real round trip FAILS, reproduced by the
model (each is also reproduced on the real code by the harness on every run) -/

def optK : Str := ['o', 'p', 't']

/-- the whole round trip of one option in the no-name section: value read back, or `none` -/
def readBack1 (v : Str) (fix : Bool := false) : Option Str :=
  match quoteAll fix [(optK, v)] with
  | none => none
  | some stored =>
    match writeSection none stored with
    | none => none
    | some content =>
      match loadContent content with
      | .opts [e] => some (unquote e.raw)
      | _ => none

/-- WITNESS roundtrip-line-break: the value a-newline-b is stored inside three double
quotes, written inside three single quotes around that, parsed back with the three
double quotes, and un-quoting removes only ONE quote of the three on each side -/
theorem roundtrip_line_break_witness :
    okValue ['a', '\n', 'b'] = false ∧
    readBack1 ['a', '\n', 'b'] = some ['"', '"', 'a', '\n', 'b', '"', '"'] := by decide +kernel

/-- WITNESS roundtrip-both-quote-kinds: a value that starts and ends with a single
quote and has a double quote inside comes back without its own quotes; one with both
kinds and a `#` comes back with two extra double quotes on each side -/
theorem roundtrip_both_quote_kinds_witness :
    okValue ['\'', 'a', '"', '\''] = false ∧ readBack1 ['\'', 'a', '"', '\''] = some ['a', '"'] ∧
    readBack1 ['x', '\'', '"', '#'] = some ['"', '"', 'x', '\'', '"', '#', '"', '"'] := by decide +kernel

/-- WITNESS roundtrip-unicode-blank-at-end: a no-break space (or U+3000) at an end of
an otherwise unquoted value is not a reason to quote for configobj (wspace_plus),
but the parser's `\s*` strips it -/
theorem roundtrip_unicode_blank_witness :
    okValue ['a', Char.ofNat 0xa0] = false ∧ readBack1 ['a', Char.ofNat 0xa0] = some ['a'] ∧
    okValue [Char.ofNat 0x3000, 'a'] = false ∧ readBack1 [Char.ofNat 0x3000, 'a'] = some ['a'] ∧
    -- … and with the proposed fix both survive
    readBack1 ['a', Char.ofNat 0xa0] true = some ['a', Char.ofNat 0xa0] ∧
    readBack1 [Char.ofNat 0x3000, 'a'] true = some [Char.ofNat 0x3000, 'a'] := by decide +kernel

theorem store_set_other_unchanged (opts : List (Str × Str)) (k k' w : Str) (hne : k' ≠ k) :
    lookup k' (setOpt k w opts) = lookup k' opts := by
  induction opts with
  | nil => simp [setOpt, lookup, hne.symm]
  | cons o r ih =>
    obtain ⟨a, v⟩ := o
    unfold setOpt
    by_cases h : a = k
    · subst h; simp [lookup, hne.symm]
    · simp only [h, if_false, lookup, ih]

/-- the model of configobj's `_unquote` removes one pair of matching quotes and
leaves text that does not start with a quote alone -/
theorem unquote_quoted (v : Str) :
    unquote ('"' :: v ++ ['"']) = v ∧ unquote ('\'' :: v ++ ['\'']) = v ∧
    (∀ c r, c ≠ '"' → c ≠ '\'' → unquote (c :: r) = c :: r) :=
  ⟨unquote_wrap '"' (Or.inl rfl) v, unquote_wrap '\'' (Or.inr rfl) v,
    fun c r h1 h2 => unquote_plain c r ⟨h1, h2⟩⟩

-- a matching section with glob components, and its extra path
example : prepare ['/', 'a', '*', '/', '?'] [] =
    some ⟨['/', 'a', '*', '/', '?'], [], [[], [.lit 'a', .star], [.any1]], [.lit '/', .lit 'a', .star, .lit '/', .any1]⟩ := by
  decide +kernel
example : compsMatch (parts ['/', 'a', 'b', '/', 'c', '/', 'd', '/']) [[], [.lit 'a', .star], [.any1]] = true ∧
    extraPath (parts ['/', 'a', 'b', '/', 'c', '/', 'd', '/']) 3 = ['d'] ∧
    (3 < (parts ['/', 'a', 'b', '/', 'c', '/', 'd', '/']).length) := by decide +kernel
-- hypotheses of appendpath_value
example : let s : LocSection := ⟨some ['/', 'a'], [(['f'], ['v']), (['f'] ++ policySuffix, appendpathN)], ['x', '/', 'y'], []⟩
    lookup ['f'] s.opts = some ['v'] ∧ lookup (['f'] ++ policySuffix) s.opts = some appendpathN ∧
    lookup (['f'] ++ policySuffix ++ policySuffix) s.opts = none ∧
    secGet' s ['f'] = some ['v', '/', 'x', '/', 'y'] := by decide +kernel
-- hypothesis of ignore_parents_none holds for a store without ignore_parents …
example : ∀ s ∈ [(⟨some ['/', 'a'], [(['f'], ['v'])], [], []⟩ : LocSection)], ignoring s = false := by decide +kernel
-- most_specific_wins: `[/a]` and `[/a/b]` both define `f`; at `/a/b/c` the deeper one answers
def exP1 : PSec := ⟨['/', 'a'], [(['f'], ['1'])], [[], [.lit 'a']], [.lit '/', .lit 'a']⟩
def exP2 : PSec := ⟨['/', 'a', '/', 'b'], [(['f'], ['2'])], [[], [.lit 'a'], [.lit 'b']], [.lit '/', .lit 'a', .lit '/', .lit 'b']⟩
example : prepare ['/', 'a'] [(['f'], ['1'])] = some exP1 ∧ prepare ['/', 'a', '/', 'b'] [(['f'], ['2'])] = some exP2 := by
  decide +kernel
example : stackGet (locationSections none [exP2, exP1] ['/', 'a', '/', 'b', '/', 'c']) ['f'] = .val ['2'] := by
  have hm : matchingSections none [exP2, exP1] ['/', 'a', '/', 'b', '/', 'c'] =
      [(3, exP2.id, ⟨some exP2.id, exP2.opts, ['c'], ['c']⟩), (2, exP1.id, ⟨some exP1.id, exP1.opts, ['b', '/', 'c'], ['c']⟩)] := by
    decide +kernel
  have hs : sortedSections none [exP2, exP1] ['/', 'a', '/', 'b', '/', 'c'] =
      [⟨some exP2.id, exP2.opts, ['c'], ['c']⟩, ⟨some exP1.id, exP1.opts, ['b', '/', 'c'], ['c']⟩] := by
    unfold sortedSections
    rw [hm, List.mergeSort_of_pairwise (by decide +kernel)]; rfl
  unfold locationSections; rw [hs]; decide +kernel
-- okValue: a value that needs every kind of care (blank at an end, comma, `#`, one quote kind) …
example : okValue [' ', 'a', ',', '#', '\''] = true ∧ readBack1 [' ', 'a', ',', '#', '\''] = some [' ', 'a', ',', '#', '\''] := by
  decide +kernel
-- … and the hypotheses of store_roundtrip_partial for a named section with two options
example : (some ['/', 'a', '/', 'b'] : Option Str).all plainSec = true ∧
    (∀ o ∈ [(optK, [' ', 'x', '#', '"']), (['o', '1'], ([] : Str))], plainKey o.1 = true ∧ okFor false o.2 = true) ∧
    okFor true [Char.ofNat 0xa0, 'a'] = true ∧
    ([(optK, [' ', 'x', '#', '"']), (['o', '1'], ([] : Str))].map (·.1)).Nodup := by decide +kernel
-- … and expansion
example : expandLocals ⟨none, [], ['x', '/', 'y'], ['b']⟩ (['p', '-'] ++ relpathRef ++ ['.'] ++ basenameRef)
    = ['p', '-', 'x', '/', 'y', '.', 'y'] := by decide +kernel

-- segment parameters: the branch name comes from `,branch=…`, else from the basename;
-- a sub-segment without `=` is an InvalidURL
example : segBranch ['/', 'r', '/', ',', 'b', 'r', 'a', 'n', 'c', 'h', '=', 'f'] = .fromParam ['f'] ∧
    branchOf ['/', 'r', '/', 'b', ',', 'q', '=', '1'] = ['b', ',', 'q', '=', '1'] ∧
    segBranch ['/', 'a', ',', 'b'] = .invalid ∧
    segBranch ['/', 'a', ',', 'b', 'r', 'a', 'n', 'c', 'h', '=', 'x', '/', 'c'] = .noParam := by decide +kernel
-- hypotheses of location_keeps_segment_parameters for `/r/b,branch=f`
example : (['b', ',', 'b', 'r', 'a', 'n', 'c', 'h', '=', 'f'] : Str) ≠ [] ∧ '/' ∉ (['b', ',', 'b', 'r', 'a', 'n', 'c', 'h', '=', 'f'] : Str) := by
  decide +kernel

end BreezyVerif.C49
