import BreezyVerif.Lemmas.C17
/-!
C17 — the four three-way merge laws, for all trees (functions `Id → Option
Entry`, no bound on the number of ids), lifted from per-entry lemmas by
extensionality over ids.  "No conflicts" = no attribute-level conflict at any
id, and the merged tree is the stated well-formed tree (so the file-system
conflict pass has nothing to act on).
-/
namespace BreezyVerif.C17
open BreezyVerif.C18 (threeWay Winner)

/-- per-entry normal form of inventories: non-files are never executable -/
def EntryNorm (e : Option Entry) : Prop := ∀ x, e = some x → x.kind ≠ .file → x.exec = false

theorem mergeEntry_other_eq_base (b t : Option Entry) : mergeEntry b t b = ⟨t, []⟩ := by
  simp [mergeEntry]

theorem mergeEntry_this_eq_base (b o : Option Entry) (hn : EntryNorm o) :
    mergeEntry b b o = ⟨o, []⟩ := by
  by_cases hob : o = b
  · rw [hob, mergeEntry_other_eq_base]
  · cases o with
    | none =>
      -- OTHER deleted the file
      obtain ⟨be, rfl⟩ := Option.ne_none_iff_exists'.mp (Ne.symm hob)
      simp [mergeEntry, namesStep, contentsStep, contentsOn, assemble, threeWay, overrideAbsent, pairOf]
    | some oe =>
      obtain ⟨st, hst, hc⟩ := contentsStep_this_eq_base b oe
      rw [mergeEntry, if_neg hob, namesStep_this_eq_base, hc, execStep_this_eq_base]
      exact assemble_entry st oe _ hst (hn oe rfl)

theorem mergeEntry_same (b t : Option Entry) (hn : EntryNorm t) :
    mergeEntry b t t = ⟨t, []⟩ := by
  by_cases hob : t = b
  · rw [hob, mergeEntry_other_eq_base]
  · rw [mergeEntry, if_neg hob, namesStep_same, contentsStep_same, execStep_same]
    cases t with
    | none => rfl
    | some te => exact assemble_entry _ te _ (by simp) (hn te rfl)

theorem merge3_of_entries (base this other r : Tree)
    (h : ∀ i, mergeEntry (base i) (this i) (other i) = ⟨r i, []⟩) :
    merge3 base this other = r ∧ ∀ i, conflictsAt base this other i = [] :=
  ⟨funext fun i => congrArg Result.entry (h i), fun i => congrArg Result.conflicts (h i)⟩

/-- OTHER = BASE ⇒ the merge leaves THIS unchanged, without conflicts -/
theorem merge_other_eq_base (base this : Tree) :
    merge3 base this base = this ∧ ∀ i, conflictsAt base this base i = [] :=
  merge3_of_entries _ _ _ _ fun i => mergeEntry_other_eq_base (base i) (this i)

/-- THIS = BASE ⇒ the merged tree is OTHER, without conflicts -/
theorem merge_this_eq_base (base other : Tree) (hn : ExecNorm other) :
    merge3 base base other = other ∧ ∀ i, conflictsAt base base other i = [] :=
  merge3_of_entries _ _ _ _ fun i => mergeEntry_this_eq_base _ _ (hn i)

/-- both sides made identical changes ⇒ result is THIS (= OTHER), without conflicts -/
theorem merge_identical (base this : Tree) (hn : ExecNorm this) :
    merge3 base this this = this ∧ ∀ i, conflictsAt base this this i = [] :=
  merge3_of_entries _ _ _ _ fun i => mergeEntry_same _ _ (hn i)

/-- the two sides change disjoint sets of ids ⇒ the result is the union of both
change sets, without conflicts -/
theorem merge_disjoint (base this other : Tree) (hn : ExecNorm other)
    (hd : ∀ i, this i = base i ∨ other i = base i) :
    merge3 base this other = union base this other ∧ ∀ i, conflictsAt base this other i = [] := by
  refine merge3_of_entries _ _ _ _ fun i => ?_
  unfold union
  by_cases ho : other i = base i
  · rw [if_pos ho, ho, mergeEntry_other_eq_base]
  · rw [if_neg ho, (hd i).resolve_right ho]
    exact mergeEntry_this_eq_base _ _ (hn i)

/-- hence the file-system conflict pass has nothing to do whenever the union is well-formed -/
theorem merge_disjoint_wf (ids : List Id) (base this other : Tree) (hn : ExecNorm other)
    (hd : ∀ i, this i = base i ∨ other i = base i) (hw : wf ids (union base this other) = true) :
    wf ids (merge3 base this other) = true := by
  rw [(merge_disjoint base this other hn hd).1]; exact hw

/-- the union takes every change of either side: ids changed by OTHER carry
OTHER's entry, ids changed by THIS carry THIS's entry, untouched ids BASE's -/
theorem union_spec (base this other : Tree) (hd : ∀ i, this i = base i ∨ other i = base i) (i : Id) :
    (other i ≠ base i → union base this other i = other i) ∧
    (this i ≠ base i → union base this other i = this i) ∧
    (this i = base i → other i = base i → union base this other i = base i) := by
  unfold union
  refine ⟨fun h => by simp [h], fun h => ?_, fun h1 h2 => by simp [h1, h2]⟩
  have : other i = base i := (hd i).resolve_left h
  simp [this]

/-- the laws are not vacuous and the hypotheses matter: when both sides change
the same entry differently the merge reports a conflict -/
theorem conflict_witness :
    (mergeEntry (some ⟨some 0, 1, .file, 1, false⟩) (some ⟨some 0, 2, .file, 1, false⟩)
      (some ⟨some 0, 3, .file, 1, false⟩)).conflicts = [.path] ∧
    (mergeEntry (some ⟨some 0, 1, .file, 1, false⟩) none (some ⟨some 0, 1, .file, 2, false⟩)).conflicts
      = [.contents] := by decide

example : ∃ base this other : Tree, ExecNorm other ∧ (∀ i, this i = base i ∨ other i = base i) ∧
    this ≠ base ∧ other ≠ base := by
  refine ⟨fun i => if i = 0 then some ⟨none, 0, .dir, 0, false⟩ else if i = 1 then some ⟨some 0, 1, .file, 1, false⟩ else none,
          fun i => if i = 0 then some ⟨none, 0, .dir, 0, false⟩ else if i = 1 then some ⟨some 0, 2, .file, 1, false⟩ else none,
          fun i => if i = 0 then some ⟨none, 0, .dir, 0, false⟩ else if i = 1 then some ⟨some 0, 1, .file, 1, false⟩
                   else if i = 2 then some ⟨some 0, 3, .file, 7, true⟩ else none, ?_, ?_, ?_, ?_⟩
  · intro i e h hk
    simp only at h
    split at h
    · cases h; rfl
    · split at h
      · cases h; rfl
      · split at h
        · cases h; exact absurd rfl hk
        · cases h
  · intro i
    by_cases h1 : i = 1
    · right; simp [h1]
    · left; simp [h1]
  · intro h; have := congrFun h 1; simp at this
  · intro h; have := congrFun h 2; simp at this

/-- refinement: on the triples read off three entries of one file (an element
that `iter_changes(other vs base)` reports: `o ≠ b`), the literal loop body is
the per-entry function the laws are proved about -/
theorem mergeChange_ofEntries (b o t : Option Entry) (h : o ≠ b) (tc : Option Entry := none) :
    mergeChange (Change.ofEntries b o t false tc) = mergeEntry b t o := by
  unfold mergeChange mergeEntry
  simp only [normCopy_ofEntries_false, namesStepC_ofEntries, contentsStepC_ofEntries, execStepC_ofEntries, h,
    if_false]

/-- a COPY reported by `iter_changes` (git trees: OTHER's entry `oe` at the new
path, paired with a source file whose entries in BASE and THIS are `sb`, `st`)
is merged as an ADD of `oe` against whatever THIS has, versioned, at the copy's
own path (`tc`): the attributes of the copy source play no part -/
theorem mergeChange_copied_general (sb st tc : Option Entry) (oe : Entry) :
    mergeChange (Change.ofEntries sb (some oe) st true tc) = mergeEntry none tc (some oe) := by
  have h0 : mergeChange (Change.ofEntries sb (some oe) st true tc)
      = mergeChange (Change.ofEntries none (some oe) tc false) := by
    unfold mergeChange
    simp only [normCopy_ofEntries_copied, normCopy_ofEntries_false]
  rw [h0, mergeChange_ofEntries none (some oe) tc (by simp)]

/-- THIS has nothing at the copy's path: the merged file is OTHER's entry — its own parent, name,
kind, content and executable bit — and no conflict is reported -/
theorem mergeChange_copied (sb st : Option Entry) (oe : Entry) (hn : EntryNorm (some oe)) :
    mergeChange (Change.ofEntries sb (some oe) st true none) = ⟨some oe, []⟩ := by
  rw [mergeChange_copied_general]
  exact mergeEntry_this_eq_base none (some oe) hn

/-- THIS already has the very same file at the copy's path (both sides made the copy): unchanged, no conflict -/
theorem mergeChange_copied_same (sb st : Option Entry) (oe : Entry) (hn : EntryNorm (some oe)) :
    mergeChange (Change.ofEntries sb (some oe) st true (some oe)) = ⟨some oe, []⟩ := by
  rw [mergeChange_copied_general]
  exact mergeEntry_same none (some oe) hn

/-- THIS has a DIFFERENT file at the copy's path: it is not silently overwritten — a text merge /
contents conflict is reported (the defect repaired by 2bc6965+a2e75d3) -/
theorem mergeChange_copied_clash_witness :
    (mergeChange (Change.ofEntries (some ⟨some 0, 1, .file, 1, false⟩) (some ⟨some 0, 2, .file, 1, false⟩)
        (some ⟨some 0, 1, .file, 1, false⟩) true (some ⟨some 0, 2, .file, 7, false⟩))).conflicts = [.textMerge] := by
  decide

/-- the `changed` flag of an element (git: any mode or blob change; bzr: text or
kind change) only matters when OTHER's kind+content differs from BASE's: so
reading it off the entries (`Change.ofEntries`) loses nothing -/
theorem mergeChange_changed_irrelevant (c : Change) (hc : c.copied = false) (h : c.pairs3.other = c.pairs3.base) :
    mergeChange { c with changed := true } = mergeChange { c with changed := false } := by
  unfold mergeChange
  simp only [normCopy, hc, Bool.false_eq_true, if_false, contentsStepC, namesStepC, execStepC, namesStepW, execStepW, h,
    if_true, contentsOnP]

example : (⟨true, ⟨some (.file, 1), some (.file, 1), some (.file, 2)⟩, ⟨some (some 0), some (some 0), some (some 0)⟩,
    ⟨some 1, some 1, some 1⟩, ⟨some false, some true, some false⟩, false, none⟩ : Change).pairs3.other = some (.file, 1) := rfl

/-- the copy normalisation matters: without it a copy whose source THIS has
modified would be merged against the source (here: a text merge of the copy
with the source's edit and the source's executable bit in play) -/
theorem copy_without_normalisation_witness :
    (mergeChangeRaw (Change.ofEntries (some ⟨some 0, 1, .file, 1, true⟩) (some ⟨some 0, 2, .file, 1, false⟩)
        (some ⟨some 0, 1, .file, 3, true⟩) true)) ≠ ⟨some ⟨some 0, 2, .file, 1, false⟩, []⟩ ∧
    (mergeChange (Change.ofEntries (some ⟨some 0, 1, .file, 1, true⟩) (some ⟨some 0, 2, .file, 1, false⟩)
        (some ⟨some 0, 1, .file, 3, true⟩) true)) = ⟨some ⟨some 0, 2, .file, 1, false⟩, []⟩ := by decide

example : EntryNorm (some ⟨some 0, 2, .file, 1, true⟩) := by
  intro x hx hk; cases hx; simp at hk

/-- both sides keep the file and, attribute by attribute (name, parent,
kind+content, executable bit), at most one side changed it (relationship A5 of the check) -/
def AttrDisjoint (be te oe : Entry) : Prop :=
  (te.name = be.name ∨ oe.name = be.name) ∧ (te.parent = be.parent ∨ oe.parent = be.parent) ∧
  ((te.kind, te.content) = (be.kind, be.content) ∨ (oe.kind, oe.content) = (be.kind, be.content)) ∧
  (te.exec = be.exec ∨ oe.exec = be.exec)

/-- every attribute from the side that changed it (`sel b t o = if o = b then t else o`) -/
def attrUnion (be te oe : Entry) : Entry :=
  let kc := sel (be.kind, be.content) (te.kind, te.content) (oe.kind, oe.content)
  ⟨sel be.parent te.parent oe.parent, sel be.name te.name oe.name, kc.1, kc.2,
   if kc.1 = .file then sel be.exec te.exec oe.exec else false⟩

/-- THIS renames / moves / chmods / edits a file and OTHER changes OTHER
attributes of the same file: every attribute is taken from the side that
changed it, without conflicts -/
theorem mergeEntry_attr_disjoint (be te oe : Entry) (hnt : EntryNorm (some te))
    (hd : AttrDisjoint be te oe) :
    mergeEntry (some be) (some te) (some oe) = ⟨some (attrUnion be te oe), []⟩ := by
  obtain ⟨h1, h2, h3, -⟩ := hd
  by_cases hob : oe = be
  · -- OTHER left the entry alone: every attribute is THIS's
    subst hob
    rw [mergeEntry_other_eq_base]
    simp only [attrUnion, sel, if_true]
    exact (assemble_entry .modified te [] nofun (hnt te rfl)).symm.trans (assemble_kept .modified _ _ _ _ _ _ nofun)
  · have hob' : ¬ (some oe = some be) := fun e => hob (Option.some.inj e)
    obtain ⟨st, hst, hc⟩ := contentsStep_one_side be te oe h3
    rw [mergeEntry, if_neg hob', namesStep_one_side be te oe h1 h2, hc, execStep_some]
    exact assemble_kept st _ _ _ _ _ _ hst

/-- per id: one side left the entry alone, or both keep it and changed different attributes -/
def AttrDisjointAt (b t o : Option Entry) : Prop :=
  t = b ∨ o = b ∨ ∃ be te oe, b = some be ∧ t = some te ∧ o = some oe ∧ AttrDisjoint be te oe

def attrUnionAt (b t o : Option Entry) : Option Entry :=
  if o = b then t else if t = b then o else
    match b, t, o with
    | some be, some te, some oe => some (attrUnion be te oe)
    | _, _, _ => none

/-- tree level: per id, one side left the entry alone or the two sides changed
different attributes of it ⇒ the merged tree takes every change of either side,
without conflicts (generalises `merge_disjoint` to attribute granularity) -/
theorem merge_attr_disjoint (base this other : Tree) (hnt : ExecNorm this) (hno : ExecNorm other)
    (hd : ∀ i, AttrDisjointAt (base i) (this i) (other i)) :
    merge3 base this other = (fun i => attrUnionAt (base i) (this i) (other i)) ∧
      ∀ i, conflictsAt base this other i = [] := by
  refine merge3_of_entries _ _ _ _ fun i => ?_
  unfold attrUnionAt
  by_cases ho : other i = base i
  · rw [if_pos ho, ho, mergeEntry_other_eq_base]
  · rw [if_neg ho]
    by_cases ht : this i = base i
    · rw [if_pos ht, ht]
      exact mergeEntry_this_eq_base _ _ (hno i)
    · rcases hd i with h | h | ⟨be, te, oe, hb, hte, hoe, hdis⟩
      · exact absurd h ht
      · exact absurd h ho
      · rw [if_neg ht, hb, hte, hoe]
        exact mergeEntry_attr_disjoint be te oe (fun x hx => hnt i x (hte ▸ hx)) hdis

/-- non-vacuity: THIS renames and moves, OTHER edits and sets the executable bit -/
example : AttrDisjoint ⟨some 0, 1, .file, 1, false⟩ ⟨some 5, 2, .file, 1, false⟩ ⟨some 0, 1, .file, 9, true⟩ ∧
    attrUnion ⟨some 0, 1, .file, 1, false⟩ ⟨some 5, 2, .file, 1, false⟩ ⟨some 0, 1, .file, 9, true⟩
      = ⟨some 5, 2, .file, 9, true⟩ := by
  refine ⟨by simp [AttrDisjoint], by decide⟩

/-- an attribute merges cleanly iff the two sides did not both change it, differently -/
def Clean {α : Type} (b o t : α) : Prop := o = b ∨ t = b ∨ t = o

theorem threeWay_conflict_iff {α : Type} [DecidableEq α] (b o t : α) :
    threeWay b o t = .conflict ↔ ¬ Clean b o t := by
  rw [C18.three_way_conflict_iff, Clean, not_or, not_or, ne_comm]

/-- the merge of one file reports NO attribute-level conflict exactly when OTHER
left the file alone or each of name, parent and kind+content was changed by at
most one side (or by both in the same way); in every other case a path /
contents conflict (or a text merge) is reported — the hypotheses of the four
laws cannot be dropped -/
theorem mergeEntry_conflicts_nil_iff (b t o : Option Entry) :
    (mergeEntry b t o).conflicts = [] ↔
      o = b ∨ (Clean (b.map (·.name)) (o.map (·.name)) (t.map (·.name)) ∧
               Clean (b.map (·.parent)) (o.map (·.parent)) (t.map (·.parent)) ∧
               Clean (pairOf b) (pairOf o) (pairOf t)) := by
  by_cases hob : o = b
  · simp [mergeEntry, hob]
  · simp only [mergeEntry, hob, if_false, assemble_conflicts, false_or, List.append_eq_nil_iff]
    unfold namesStep contentsStep
    simp only [ite_eq_right_iff, reduceCtorEq, imp_false, not_or, overrideAbsent_conflict_iff,
      contentsOn_conflicts_nil_iff, threeWay_conflict_iff, Classical.not_not]
    by_cases hp : pairOf o = pairOf b
    · simp [hp, Clean]
    · simp only [hp, if_false, ne_eq, threeWay_conflict_iff, Classical.not_not, and_assoc]

/-- a conflict of each kind does occur -/
theorem conflict_kinds_witness :
    ¬ Clean (some 1) (some 3) (some 2) ∧
    (mergeEntry (some ⟨some 0, 1, .file, 1, false⟩) (some ⟨some 0, 1, .file, 2, false⟩)
      (some ⟨some 0, 1, .file, 3, false⟩)).conflicts = [.textMerge] ∧
    (mergeEntry (some ⟨some 0, 1, .file, 1, false⟩) (some ⟨some 4, 1, .file, 1, false⟩)
      (some ⟨some 5, 1, .symlink, 3, false⟩)).conflicts = [.path] := by
  refine ⟨by simp [Clean], by decide, by decide⟩

theorem clean_of_agree {α : Type} [DecidableEq α] (f : Entry → α) : ∀ b t o : Option Entry,
    (∀ x y, x ∈ [b, t, o] → y ∈ [b, t, o] → ∀ ex ey, x = some ex → y = some ey → f ex = f ey) →
    Clean (b.map f) (o.map f) (t.map f)
  | none, _, none, _ => .inl rfl
  | none, none, some _, _ => .inr (.inl rfl)
  | none, some te, some oe, h => .inr (.inr (congrArg some (h _ _ (by simp) (by simp) te oe rfl rfl)))
  | some _, none, none, _ => .inr (.inr rfl)
  | some be, some te, none, h => .inr (.inl (congrArg some (h _ _ (by simp) (by simp) te be rfl rfl)))
  | some be, _, some oe, h => .inl (congrArg some (h _ _ (by simp) (by simp) oe be rfl rfl))

/-- path-keyed (git) reading of the model: when all entries present at one key
carry the same name and parent (they are functions of the path), no path
conflict can arise — conflicts are about kind / contents only -/
theorem pathKeyed_no_path_conflict (b t o : Option Entry)
    (hk : ∀ x y, x ∈ [b, t, o] → y ∈ [b, t, o] → ∀ ex ey, x = some ex → y = some ey →
      ex.name = ey.name ∧ ex.parent = ey.parent) :
    ConflictKind.path ∉ (mergeEntry b t o).conflicts := by
  by_cases hob : o = b
  · simp [mergeEntry, hob]
  · simp only [mergeEntry, hob, if_false, assemble_conflicts, List.mem_append, not_or]
    refine ⟨?_, contentsOn_no_path _ _ _⟩
    have n1 := clean_of_agree (·.name) b t o fun x y hx hy ex ey h1 h2 => (hk x y hx hy ex ey h1 h2).1
    have n2 := clean_of_agree (·.parent) b t o fun x y hx hy ex ey h1 h2 => (hk x y hx hy ex ey h1 h2).2
    simp [namesStep, overrideAbsent_conflict_iff, threeWay_conflict_iff, n1, n2]

example : ∀ x y, x ∈ [some (⟨some 0, 1, .file, 1, false⟩ : Entry), none, some ⟨some 0, 1, .symlink, 2, false⟩] →
    y ∈ [some (⟨some 0, 1, .file, 1, false⟩ : Entry), none, some ⟨some 0, 1, .symlink, 2, false⟩] →
    ∀ ex ey, x = some ex → y = some ey → ex.name = ey.name ∧ ex.parent = ey.parent := by
  intro x y hx hy ex ey h1 h2
  subst h1 h2
  simp only [List.mem_cons, Option.some.injEq, reduceCtorEq, List.not_mem_nil, or_false, false_or] at hx hy
  rcases hx with rfl | rfl <;> rcases hy with rfl | rfl <;> exact ⟨rfl, rfl⟩

/-- `ExecNorm` cannot be dropped from `merge_this_eq_base`: an "executable
symlink" in OTHER (which no real tree contains: the harness checks that every
dumped tree is normal) would lose its bit -/
theorem exec_norm_needed_witness :
    mergeEntry none none (some ⟨some 0, 1, .symlink, 1, true⟩) ≠ ⟨some ⟨some 0, 1, .symlink, 1, true⟩, []⟩ := by
  decide

/-! ### the laws on path-keyed (git) trees, for whatever pairing the rename detector reports

`cs` is the list of elements `_entries3` yields.  `IsDiff` states what
`iter_changes(other vs base)` (dulwich `tree_changes` + `RenameDetector`)
guarantees about it — the harness checks these conditions on the real
enumeration of every git case:
 * only changed things are reported, a copy has a target, which is a path BASE does not have;
 * a reported target path exists in OTHER and differs from BASE there; a source path exists in BASE;
 * the source path of a rename / deletion is vacated in OTHER (or is itself a target);
 * every path where OTHER differs from BASE is a target or a vacated source. -/

structure IsDiff (base other : Tree) (cs : List PChange) : Prop where
  changed : ∀ c ∈ cs, c.copied = false → look other c.dst ≠ look base c.src
  copyTarget : ∀ c ∈ cs, c.copied = true → ∃ oe, look other c.dst = some oe
  copyFresh : ∀ c ∈ cs, c.copied = true → look base c.dst = none
  target : ∀ c ∈ cs, ∀ i, c.dst = some i → other i ≠ none ∧ other i ≠ base i
  source : ∀ c ∈ cs, ∀ i, c.src = some i → base i ≠ none
  vacated : ∀ c ∈ cs, c.copied = false → ∀ i, c.src = some i → other i = none ∨ ∃ c' ∈ cs, c'.dst = some i
  complete : ∀ i, other i ≠ base i →
    (∃ c ∈ cs, c.dst = some i) ∨ (other i = none ∧ ∃ c ∈ cs, c.copied = false ∧ c.src = some i)

/-- entries sit at the path made of their (parent, name) -/
def PathKeyed (key : Option Id → Nat → Id) (t : Tree) : Prop := ∀ i e, t i = some e → key e.parent e.name = i

theorem look_norm (t : Tree) (hn : ExecNorm t) (p : Option Id) : EntryNorm (look t p) := by
  cases p with
  | none => intro x hx; simp [look] at hx
  | some i => intro x hx hk; exact hn i x hx hk

/-- when every element merges to OTHER's entry at its target path, the placements are OTHER's entries at their own paths -/
theorem placements_of_results (key : Option Id → Nat → Id) (base this other : Tree) (cs : List PChange)
    (hk : PathKeyed key other)
    (hr : ∀ c ∈ cs, (c.result base this other).entry = look other c.dst) :
    (∀ pe ∈ placements key base this other cs, other pe.1 = some pe.2 ∧ ∃ c ∈ cs, c.dst = some pe.1) ∧
    (∀ c ∈ cs, ∀ i e, c.dst = some i → other i = some e → (i, e) ∈ placements key base this other cs) := by
  constructor
  · intro pe hpe
    simp only [placements, List.mem_filterMap] at hpe
    obtain ⟨c, hc, hce⟩ := hpe
    rw [hr c hc] at hce
    obtain ⟨e, he, rfl⟩ := Option.map_eq_some_iff.mp hce
    cases hd : c.dst with
    | none => rw [hd] at he; cases he
    | some i =>
      rw [hd] at he
      simp only [hk i e he]
      exact ⟨he, c, hc, hd⟩
  · intro c hc i e hd ho
    simp only [placements, List.mem_filterMap]
    refine ⟨c, hc, ?_⟩
    rw [hr c hc, hd]
    simp [look, ho, hk i e ho]

/-- the shape of the merged tree once every element merges to OTHER's entry at its target -/
theorem applyChanges_of_results (key : Option Id → Nat → Id) (base this other : Tree) (cs : List PChange)
    (hk : PathKeyed key other) (hd : IsDiff base other cs)
    (hr : ∀ c ∈ cs, (c.result base this other).entry = look other c.dst) (i : Id) :
    applyChanges key base this other cs i =
      if ∃ c ∈ cs, c.dst = some i then other i
      else if ∃ c ∈ cs, c.removes this = some i then none else this i := by
  obtain ⟨hp1, hp2⟩ := placements_of_results key base this other cs hk hr
  unfold applyChanges
  cases hf : (placements key base this other cs).find? (fun pe => pe.1 == i) with
  | some pe =>
    have hmem := List.mem_of_find?_eq_some hf
    have hkey : pe.1 = i := by simpa using List.find?_some hf
    obtain ⟨ho, c, hc, hcd⟩ := hp1 pe hmem
    subst hkey
    have hex : ∃ c ∈ cs, c.dst = some pe.1 := ⟨c, hc, hcd⟩
    rw [if_pos hex, ho]
  | none =>
    have hnot : ¬ ∃ c ∈ cs, c.dst = some i := by
      rintro ⟨c, hc, hcd⟩
      obtain ⟨hne, _⟩ := hd.target c hc i hcd
      cases ho : other i with
      | none => exact hne ho
      | some e =>
        have := hp2 c hc i e hcd ho
        rw [List.find?_eq_none] at hf
        have := hf (i, e) this
        simp at this
    simp only [hnot, if_false, List.any_eq_true, beq_iff_eq]

/-- what a non-copy element leaves behind: THIS's path; a copy leaves at most its own target path -/
theorem removes_cases (this : Tree) (c : PChange) (i : Id) (h : c.removes this = some i) :
    (c.copied = false ∧ c.cur = some i) ∨ (c.copied = true ∧ c.dst = some i) := by
  unfold PChange.removes at h
  cases hcp : c.copied with
  | false => left; simpa [hcp] using h
  | true =>
    right
    simp only [hcp, if_true] at h
    split at h
    · exact ⟨rfl, h⟩
    · simp at h

/-- git, disjoint changes (per path one side equals BASE, and THIS still has the
files OTHER changed where BASE has them): the merged tree is the union of both
sides' changes, without conflicts -/
theorem git_merge_disjoint (key : Option Id → Nat → Id) (base this other : Tree) (cs : List PChange)
    (hk : PathKeyed key other) (hn : ExecNorm other) (hd : IsDiff base other cs)
    (hdis : ∀ i, this i = base i ∨ other i = base i)
    (hcur : ∀ c ∈ cs, c.copied = false → c.cur = c.src ∧ look this c.src = look base c.src) :
    applyChanges key base this other cs = union base this other ∧
      ∀ c ∈ cs, (c.result base this other).conflicts = [] := by
  have hthis : ∀ c ∈ cs, look this c.dst = look base c.dst := by
    intro c hc
    cases hdst : c.dst with
    | none => rfl
    | some q =>
      simp only [look]
      exact (hdis q).resolve_right (hd.target c hc q hdst).2
  have hres : ∀ c ∈ cs, c.result base this other = ⟨look other c.dst, []⟩ := by
    intro c hc
    unfold PChange.result
    cases hcp : c.copied with
    | true =>
      obtain ⟨oe, hoe⟩ := hd.copyTarget c hc hcp
      rw [hoe, hthis c hc, hd.copyFresh c hc hcp]
      exact mergeChange_copied _ _ oe (hoe ▸ look_norm other hn c.dst)
    | false =>
      rw [(hcur c hc hcp).1, (hcur c hc hcp).2, mergeChange_ofEntries _ _ _ (hd.changed c hc hcp) _]
      exact mergeEntry_this_eq_base _ _ (look_norm other hn c.dst)
  refine ⟨?_, fun c hc => by rw [hres c hc]⟩
  funext i
  rw [applyChanges_of_results key base this other cs hk hd (fun c hc => by rw [hres c hc]) i]
  unfold union
  by_cases h1 : ∃ c ∈ cs, c.dst = some i
  · obtain ⟨c, hc, hcd⟩ := h1
    rw [if_pos ⟨c, hc, hcd⟩, if_neg (hd.target c hc i hcd).2]
  · rw [if_neg h1]
    -- off the targets, the paths the elements vacate are exactly the paths where OTHER differs from BASE
    have hrm : (∃ c ∈ cs, c.removes this = some i) ↔ other i ≠ base i := by
      constructor
      · rintro ⟨c, hc, hrm⟩ e
        rcases removes_cases this c i hrm with ⟨hcp, hcu⟩ | ⟨_, hdst⟩
        · have hsrc : c.src = some i := (hcur c hc hcp).1 ▸ hcu
          rcases hd.vacated c hc hcp i hsrc with h | h
          · exact hd.source c hc i hsrc (e ▸ h)
          · exact h1 h
        · exact h1 ⟨c, hc, hdst⟩
      · intro hob
        obtain ⟨_, c, hc, hcp, hsrc⟩ := (hd.complete i hob).resolve_left h1
        exact ⟨c, hc, by simp [PChange.removes, hcp, (hcur c hc hcp).1, hsrc]⟩
    by_cases hob : other i = base i
    · rw [if_neg fun h => hrm.mp h hob, if_pos hob]
    · rw [if_pos (hrm.mpr hob), if_neg hob, ((hd.complete i hob).resolve_left h1).1]

/-- git, THIS = BASE (every file is found at its BASE path): the merged tree is
OTHER and no element reports a conflict — for renames, copies (exact or
inexact, whatever their mode bits), additions, deletions and modifications alike -/
theorem git_merge_this_eq_base (key : Option Id → Nat → Id) (base other : Tree) (cs : List PChange)
    (hk : PathKeyed key other) (hn : ExecNorm other) (hd : IsDiff base other cs)
    (hcur : ∀ c ∈ cs, c.copied = false → c.cur = c.src) :
    applyChanges key base base other cs = other ∧ ∀ c ∈ cs, (c.result base base other).conflicts = [] := by
  have h := git_merge_disjoint key base base other cs hk hn hd (fun _ => .inl rfl)
    fun c hc hcp => ⟨hcur c hc hcp, rfl⟩
  rwa [show union base base other = other from funext fun i => sel_self (base i) (other i)] at h

/-- git, THIS = OTHER (every file OTHER renamed is found at its new path in
THIS, every copy OTHER made is already there): the merge leaves the tree as it
is and reports no conflict -/
theorem git_merge_identical (key : Option Id → Nat → Id) (base other : Tree) (cs : List PChange)
    (hk : PathKeyed key other) (hn : ExecNorm other) (hd : IsDiff base other cs)
    (hcur : ∀ c ∈ cs, c.copied = false → c.cur = c.dst) :
    applyChanges key base other other cs = other ∧ ∀ c ∈ cs, (c.result base other other).conflicts = [] := by
  have hres : ∀ c ∈ cs, c.result base other other = ⟨look other c.dst, []⟩ := by
    intro c hc
    unfold PChange.result
    cases hcp : c.copied with
    | true =>
      obtain ⟨oe, hoe⟩ := hd.copyTarget c hc hcp
      rw [hoe]
      exact mergeChange_copied_same _ _ oe (hoe ▸ look_norm other hn c.dst)
    | false =>
      rw [hcur c hc hcp, mergeChange_ofEntries _ _ _ (hd.changed c hc hcp) _]
      exact mergeEntry_same _ _ (look_norm other hn c.dst)
  refine ⟨?_, fun c hc => by rw [hres c hc]⟩
  funext i
  rw [applyChanges_of_results key base other other cs hk hd (fun c hc => by rw [hres c hc]) i]
  by_cases h1 : ∃ c ∈ cs, c.dst = some i
  · simp [h1]
  · simp only [h1, if_false]
    by_cases h2 : ∃ c ∈ cs, c.removes other = some i
    · obtain ⟨c, hc, hrm⟩ := h2
      rcases removes_cases other c i hrm with ⟨hcp, hcu⟩ | ⟨_, hdst⟩
      · exact absurd ⟨c, hc, by rw [← hcur c hc hcp]; exact hcu⟩ h1
      · exact absurd ⟨c, hc, hdst⟩ h1
    · simp [h2]

/-- git, OTHER = BASE: nothing is reported, nothing happens -/
theorem git_merge_other_eq_base (key : Option Id → Nat → Id) (base this other : Tree) :
    applyChanges key base this other [] = this := by
  funext i; simp [applyChanges, placements]

/-- non-vacuity: BASE has an executable `1`; OTHER modifies it and adds a
non-executable copy at `2` (`key p n = n`): `IsDiff` holds for the enumeration
[modify 1, copy 1→2] and the merge of it into THIS = BASE gives OTHER -/
example :
    let key : Option Id → Nat → Id := fun _ n => n
    let base : Tree := fun i => if i = 1 then some ⟨none, 1, .file, 1, true⟩ else none
    let other : Tree := fun i => if i = 1 then some ⟨none, 1, .file, 2, true⟩
      else if i = 2 then some ⟨none, 2, .file, 1, false⟩ else none
    let cs : List PChange := [⟨some 1, some 1, some 1, false⟩, ⟨some 1, some 2, some 1, true⟩]
    PathKeyed key other ∧ ExecNorm other ∧ IsDiff base other cs ∧
      (∀ c ∈ cs, c.copied = false → c.cur = c.src) ∧ applyChanges key base base other cs 2 = other 2 := by
  intro key base other cs
  -- every entry of `other` is a file sitting at its own name
  have hother : ∀ i e, other i = some e → e.kind = .file ∧ e.name = i := by
    intro i e h
    simp only [other] at h
    split at h
    · next h1 => cases h; exact ⟨rfl, h1.symm⟩
    · split at h
      · next h2 => cases h; exact ⟨rfl, h2.symm⟩
      · cases h
  -- a condition on the elements of `cs` is a condition on its two elements
  have hcs : ∀ P : PChange → Prop, P ⟨some 1, some 1, some 1, false⟩ → P ⟨some 1, some 2, some 1, true⟩ →
      ∀ c ∈ cs, P c := by
    intro P h1 h2 c hc
    simp only [cs, List.mem_cons, List.not_mem_nil, or_false] at hc
    rcases hc with rfl | rfl <;> assumption
  refine ⟨fun i e h => (hother i e h).2, fun i e h hk => absurd (hother i e h).1 hk,
    ⟨by decide, hcs _ nofun fun _ => ⟨_, rfl⟩, by decide,
     hcs _ (fun i hi => by cases hi; decide) (fun i hi => by cases hi; decide),
     hcs _ (fun i hi => by cases hi; decide) (fun i hi => by cases hi; decide),
     hcs _ (fun _ i hi => by cases hi; decide) nofun, ?_⟩, by decide, by decide⟩
  intro i hi
  by_cases h1 : i = 1
  · exact .inl ⟨_, List.mem_cons_self, congrArg some h1.symm⟩
  · by_cases h2 : i = 2
    · exact .inl ⟨_, List.mem_cons_of_mem _ List.mem_cons_self, congrArg some h2.symm⟩
    · simp [base, other, h1, h2] at hi
end BreezyVerif.C17
