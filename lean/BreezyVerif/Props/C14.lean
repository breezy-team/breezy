import BreezyVerif.Model.C14
import BreezyVerif.Lemmas.C14
import BreezyVerif.Lemmas.C14Git
import BreezyVerif.Lemmas.C14DeltaSound
/-!
C14 — transform previews match their applied result; conflict resolution ends
clean or with MalformedTransform; nothing is applied otherwise.

All statements are about the executable model `Model/C14.lean`, for every base
tree, every transform state (any maps over any trans-ids) and every fuel.
-/
namespace BreezyVerif.C14

/-- the code variant of the pinned source (before any `fix:` commit) for bzr trees -/
def pinnedBzr : Flags := { git := false, dataByTreePath := false, execByTreePath := false, childrenGet := false, cancelGuarded := false, loopGuarded := false }
def pinnedGit : Flags := { git := true, dataByTreePath := true, execByTreePath := false, childrenGet := false, cancelGuarded := false, loopGuarded := false }

/-- the code variant of /repo now (what T1 extracts; `source_flags_fixed` in Props/C14T1 proves the
extracted records have `previewFixed` and `resolversFixed`) -/
def currentBzr : Flags := { git := false, dataByTreePath := true, execByTreePath := true, childrenGet := true, cancelGuarded := true, loopGuarded := true }
def currentGit : Flags := { currentBzr with git := true }

/-- the code variant with the four repairs proposed for the defects reported by this check -/
def repairedBzr : Flags := { currentBzr with upSkipsIdless := true, npReleasesId := true, unversionTolerant := true, deltaDropsOldId := true }

/-- non-vacuity of the hypotheses `previewFixed` / `resolversFixed` -/
example : currentBzr.previewFixed = true ∧ currentGit.previewFixed = true ∧ currentBzr.resolversFixed = true := by decide

/-- the three outcomes of `resolve_conflicts`, for every number of passes: it returns from a state
without raw conflicts; or it raises MalformedTransform, with the conflicts it was handed when no
pass is left, else with the non-empty conflicts of a pass; or a pass that started with raw
conflicts failed with the very error that is reported -/
theorem resolve_outcome (fl : Flags) (fuel : Nat) (tt : TT) (last : List Conflict) :
    match TT.resolve fl fuel tt last with
    | .clean tt' => tt'.findRawConflicts fl = []
    | .malformed cs => (fuel = 0 ∧ cs = last) ∨ cs ≠ []
    | .crashed e => ∃ tt' : TT, tt'.findRawConflicts fl ≠ [] ∧
        tt'.conflictPass fl (tt'.findRawConflicts fl) = Except.error e := by
  induction fuel generalizing tt last with
  | zero => exact .inl ⟨rfl, rfl⟩
  | succ n ih =>
    unfold TT.resolve
    by_cases hc : (tt.findRawConflicts fl).isEmpty = true
    · simp only [hc, if_true]
      exact List.isEmpty_iff.mp hc
    · have hne : tt.findRawConflicts fl ≠ [] := fun h => hc (List.isEmpty_iff.mpr h)
      simp only [hc, Bool.false_eq_true, if_false]
      cases hp : tt.conflictPass fl (tt.findRawConflicts fl) with
      | error e => exact ⟨tt, hne, hp⟩
      | ok tt1 =>
        have := ih tt1 (tt.findRawConflicts fl)
        simp only
        cases hr : TT.resolve fl n tt1 (tt.findRawConflicts fl) with
        | clean tt' => rw [hr] at this; exact this
        | crashed e => rw [hr] at this; exact this
        | malformed cs =>
          rw [hr] at this
          rcases this with ⟨_, rfl⟩ | h
          · exact .inr hne
          · exact .inr h

/-- `resolve_conflicts` returns only from a state in which `find_raw_conflicts()`
is empty — for every number of passes, every transform, every code variant. -/
theorem resolve_clean_or_error (fl : Flags) (fuel : Nat) (tt : TT) (last : List Conflict) (tt' : TT)
    (h : TT.resolve fl fuel tt last = .clean tt') : tt'.findRawConflicts fl = [] := by
  have := resolve_outcome fl fuel tt last
  rw [h] at this
  exact this

/-- a conflict-free transform is returned as it is (no resolver runs) -/
theorem resolve_clean_reached (fl : Flags) (fuel : Nat) (tt : TT) (last : List Conflict)
    (h : tt.findRawConflicts fl = []) : TT.resolve fl (fuel + 1) tt last = .clean tt := by
  simp [TT.resolve, h]

/-- when the passes are used up the loop raises MalformedTransform with the
conflicts of the last pass; they are not empty -/
theorem resolve_zero_malformed (fl : Flags) (fuel : Nat) (tt : TT) (last cs : List Conflict)
    (hl : fuel = 0 → last ≠ []) (h : TT.resolve fl fuel tt last = .malformed cs) : cs ≠ [] := by
  have := resolve_outcome fl fuel tt last
  rw [h] at this
  rcases this with ⟨h0, rfl⟩ | h1
  · exact hl h0
  · exact h1

example : TT.resolve pinnedBzr 0 { base := [], next := 0 } [.parentLoop 1] = .malformed [.parentLoop 1] := rfl

/-- the ways `apply` ends: it raises with the disk it was given; or the inventory layer refuses
the delta, after the file phases and outside their rollback; or it returns, having passed every
test on the way -/
theorem apply_cases (fl : Flags) (tt : TT) (d0 : Disk) :
    (∃ e, tt.apply fl d0 = .raised e d0) ∨
    tt.apply fl d0 = .raised .inconsistentDelta tt.applyDisk ∨
    (tt.apply fl d0 = .applied tt tt.applyDisk ∧ tt.findRawConflicts fl = [] ∧ tt.dangling = [] ∧
      (fl.git = false →
        ∃ dl, tt.generateDelta fl = .ok dl ∧ invConsistent (applyDelta tt.baseInv dl) = true)) := by
  unfold TT.apply
  by_cases c1 : (!(tt.findRawConflicts fl).isEmpty) = true
  · rw [if_pos c1]; exact .inl ⟨_, rfl⟩
  rw [if_neg c1]
  cases hg : (if fl.git = true then Except.ok [] else tt.generateDelta fl) with
  | error e => exact .inl ⟨_, rfl⟩
  | ok dl =>
    by_cases c2 : (!tt.dangling.isEmpty) = true
    · simp only [c2, if_true]; exact .inl ⟨_, rfl⟩
    by_cases c3 : (!fl.git && !invConsistent (applyDelta tt.baseInv dl)) = true
    · simp only [c2, c3, if_true]; exact .inr (.inl rfl)
    · simp only [c2, c3]
      refine .inr (.inr ⟨rfl, by simpa using c1, by simpa using c2, fun hgit => ⟨dl, ?_, ?_⟩⟩)
      · simpa [hgit] using hg
      · simpa [hgit] using c3

/-- **all or nothing, except for a refused delta**: whatever `resolve_conflicts(tt); tt.apply()`
raises — MalformedTransform, a resolver's own exception, NoFinalPath from the delta generation, a
failed rename (rolled back) — the disk it leaves behind is exactly the disk before, *unless* the
exception is the inventory layer refusing the delta: that happens after the file phases and
outside their rollback.  (`inconsistent_delta_partial_witness` shows that case is real.) -/
theorem run_raise_keeps_disk_partial (fl : Flags) (tt : TT) (e : Err) (d : Disk)
    (h : tt.resolveAndApply fl = .raised e d) (he : e ≠ .inconsistentDelta) : d = tt.baseDisk := by
  unfold TT.resolveAndApply at h
  cases hr : tt.resolveConflicts fl with
  | malformed cs => simp only [hr] at h; cases h; rfl
  | crashed e' => simp only [hr] at h; cases h; rfl
  | clean tt' =>
    simp only [hr] at h
    rcases apply_cases fl tt' tt.baseDisk with ⟨e', h'⟩ | h' | ⟨h', _⟩ <;> rw [h'] at h <;> cases h
    · rfl
    · exact absurd rfl he

/-- **all or nothing**: `resolve_conflicts(tt); tt.apply()` either raises, or it has applied —
completely: the disk is `applyDisk` of — a transform `tt'` that `resolve_conflicts` returned, that
has no raw conflicts, whose inventory delta exists and is consistent (bzr), and that renames
nothing onto a file. -/
theorem run_all_or_nothing (fl : Flags) (tt tt' : TT) (d : Disk) (h : tt.resolveAndApply fl = .applied tt' d) :
    tt.resolveConflicts fl = .clean tt' ∧ tt'.findRawConflicts fl = [] ∧ d = tt'.applyDisk ∧ tt'.dangling = [] ∧
    (fl.git = false → ∃ dl, tt'.generateDelta fl = .ok dl ∧ invConsistent (applyDelta tt'.baseInv dl) = true) := by
  unfold TT.resolveAndApply at h
  cases hr : tt.resolveConflicts fl with
  | malformed cs => simp only [hr] at h; cases h
  | crashed e' => simp only [hr] at h; cases h
  | clean tt1 =>
    simp only [hr] at h
    rcases apply_cases fl tt1 tt.baseDisk with ⟨e', h'⟩ | h' | ⟨h', hc, hd, hm⟩ <;> rw [h'] at h <;> cases h
    exact ⟨rfl, hc, rfl, hd, hm⟩

def Resolved.isCrashed : Resolved → Err → Bool
  | .crashed e, e' => e == e'
  | _, _ => false

def Resolved.malformedWith : Resolved → List Conflict → Bool
  | .malformed cs, cs' => cs == cs'
  | _, _ => false

def Resolved.isClean : Resolved → Bool
  | .clean _ => true
  | _ => false

/-- `resolve_conflicts` ends with an exception other than MalformedTransform only when a
resolver raised it: there is a pass that started from a transform with raw conflicts and whose
`conflict_pass` failed with exactly that error.  (It never comes from the loop itself.) -/
theorem resolve_crashed_from_resolver (fl : Flags) (fuel : Nat) (tt : TT) (last : List Conflict) (e : Err)
    (h : TT.resolve fl fuel tt last = .crashed e) :
    ∃ tt' : TT, tt'.findRawConflicts fl ≠ [] ∧ tt'.conflictPass fl (tt'.findRawConflicts fl) = Except.error e := by
  have := resolve_outcome fl fuel tt last
  rw [h] at this
  exact this

theorem resolveOne_no_resolver (fl : Flags) (tt : TT) (c : Conflict) (h : c.hasResolver = false) :
    tt.resolveOne fl c = .ok tt := by
  cases c <;> first | rfl | cases h

/-- a pass over conflicts that have no resolver changes nothing and cannot raise -/
theorem conflictPass_unresolvable (fl : Flags) (tt : TT) (cs : List Conflict)
    (h : ∀ c ∈ cs, c.hasResolver = false) : tt.conflictPass fl cs = .ok tt := by
  induction cs with
  | nil => rfl
  | cons c rest ih =>
    rw [TT.conflictPass, List.foldlM_cons, resolveOne_no_resolver fl tt c (h c List.mem_cons_self)]
    exact ih fun c' hc' => h c' (List.mem_cons_of_mem _ hc')

/-- a transform all of whose raw conflicts are of the kinds nobody resolves (executability of an
unversioned entry / of a non-file, overwrite) is reported as malformed with exactly those
conflicts, for every positive number of passes: no crash, no change -/
theorem resolve_unresolvable_malformed (fl : Flags) (fuel : Nat) (tt : TT) (last : List Conflict)
    (hne : tt.findRawConflicts fl ≠ []) (h : ∀ c ∈ tt.findRawConflicts fl, c.hasResolver = false) :
    TT.resolve fl (fuel + 1) tt last = .malformed (tt.findRawConflicts fl) := by
  have hcs : (tt.findRawConflicts fl).isEmpty = false := by
    cases hcs : tt.findRawConflicts fl with
    | nil => exact absurd hcs hne
    | cons _ _ => rfl
  -- every pass leaves `tt` as it is, so the loop only counts down
  induction fuel generalizing last with
  | zero =>
    unfold TT.resolve
    simp only [hcs, Bool.false_eq_true, if_false, conflictPass_unresolvable fl tt _ h]
    rfl
  | succ n ih =>
    unfold TT.resolve
    simp only [hcs, Bool.false_eq_true, if_false, conflictPass_unresolvable fl tt _ h]
    exact ih _

/-- root, a versioned directory `b`, a registered path `y` that does not exist -/
def crashBase1 : TT :=
  { base := [⟨none, "", some .dir, "", false, some "r"⟩, ⟨some 0, "b", some .dir, "", false, some "fb"⟩,
             ⟨some 0, "y", none, "", false, none⟩], next := 3 }

/-- **witness (crash, bzr)**: `adjust_path("b", y, b)` moves the versioned directory `b` below a
path that does not exist.  Raw conflicts: unversioned parent `y`, missing parent `y`.
`resolve_unversioned_parent` calls `version_file(y, file_id=None)`: `resolve_conflicts` ends with
ValueError — neither clean nor MalformedTransform.  With the proposed repair (the resolver leaves
a parent without an inactive file id alone) the run ends with MalformedTransform. -/
theorem unversioned_parent_crash_witness :
    let tt := (crashBase1.steps currentBzr [.adjustPath "b" 2 1]).1
    tt.findRawConflicts currentBzr = [.unversionedParent 2, .missingParent 2] ∧
    (tt.resolveConflicts currentBzr).isCrashed .valueError = true ∧
    (tt.resolveConflicts repairedBzr).malformedWith [.unversionedParent 2] = true := by
  decide +kernel

/-- root and an unversioned symlink `a` -/
def crashBase2 : TT :=
  { base := [⟨none, "", some .dir, "", false, some "r"⟩, ⟨some 0, "a", some .symlink, "t1", false, none⟩], next := 2 }

/-- **witness (crash, bzr)**: `version_file(a, "fid1")`, `new_file("d", a, …, "fid2")`: the symlink
`a` gets a file id in this transform and a child.  `resolve_non_directory_parent` creates `a.new`
with `final_file_id(a)` = "fid1" while `a` still holds it in `_new_id`: DuplicateKey.  With the
proposed repair (release the id first) the run ends clean. -/
theorem non_dir_parent_duplicate_key_witness :
    let tt := (crashBase2.steps currentBzr [.versionFile 1 "fid1", .newFile "d" 1 "N9" (some "fid2") none]).1
    tt.findRawConflicts currentBzr = [.nonDirParent 1] ∧
    (tt.resolveConflicts currentBzr).isCrashed .duplicateKey = true ∧
    (tt.resolveConflicts repairedBzr).isClean = true := by
  decide +kernel

/-- **witness (bzr)**: `unversion_file` of a tree path that is not versioned makes
`find_raw_conflicts` itself raise NoSuchFile (`_add_tree_children` → `stored_kind`); with the
proposed repair it is a no-op and the transform is conflict-free. -/
theorem unversion_unversioned_raises_witness :
    let tt := (crashBase2.steps currentBzr [.unversionFile 1]).1
    tt.addTreeChildrenRaises currentBzr = true ∧ tt.addTreeChildrenRaises currentGit = false ∧
    tt.addTreeChildrenRaises repairedBzr = false ∧ tt.findRawConflicts repairedBzr = [] := by
  decide +kernel

/-- **a clean transform applies** — under exactly these conditions: no raw conflicts, nothing
without contents to rename onto a file, and (bzr) a delta that exists and is consistent.  Then
`apply()` returns and the disk is `applyDisk`. -/
theorem apply_clean_applies (fl : Flags) (tt : TT) (d0 : Disk) (hc : tt.findRawConflicts fl = [])
    (hd : tt.dangling = [])
    (hm : fl.git = true ∨ ∃ dl, tt.generateDelta fl = .ok dl ∧ invConsistent (applyDelta tt.baseInv dl) = true) :
    tt.apply fl d0 = .applied tt tt.applyDisk := by
  unfold TT.apply
  simp only [hc, hd, List.isEmpty_nil, Bool.not_true, Bool.false_eq_true, if_false]
  rcases hm with hg | ⟨dl, h1, h2⟩
  · simp [hg]
  · cases hgit : fl.git with
    | true => simp
    | false => simp [h1, h2]

/-- **Never a partially applied tree when the file system fails**: whatever the transform,
`resolve_conflicts; apply` with a failure in the mover phases raises and leaves the disk it
started from (the mover's rollback — property C13 — is part of the definition of
`applyFaulted`; the real code is compared with it for every failing `os.rename`). -/
theorem faulted_run_keeps_disk (fl : Flags) (tt : TT) :
    ∃ e, tt.resolveAndApplyFaulted fl = .raised e tt.baseDisk := by
  unfold TT.resolveAndApplyFaulted
  split
  · unfold TT.applyFaulted
    split
    · exact ⟨_, rfl⟩
    · split
      · exact ⟨_, rfl⟩
      · exact ⟨_, rfl⟩
  · exact ⟨_, rfl⟩
  · exact ⟨_, rfl⟩

/-- a conflict-free transform whose delta can be generated gets as far as the mover phases:
the failure it reports is the rename failure, not a refusal -/
theorem faulted_apply_of_clean (fl : Flags) (tt : TT) (d0 : Disk) (hc : tt.findRawConflicts fl = [])
    (hm : fl.git = true ∨ ∃ dl, tt.generateDelta fl = .ok dl) :
    tt.applyFaulted fl d0 = .raised .renameFailed d0 := by
  unfold TT.applyFaulted
  simp only [hc, List.isEmpty_nil, Bool.not_true, Bool.false_eq_true, if_false]
  rcases hm with hg | ⟨dl, h1⟩
  · simp [hg]
  · cases hgit : fl.git with
    | true => simp
    | false => simp [h1]

def Outcome.raisedWith : Outcome → Err → Bool
  | .raised e _, e' => e == e'
  | _, _ => false

def Outcome.isApplied : Outcome → Bool
  | .applied _ _ => true
  | _ => false

/-- root and a versioned file `b` -/
def crashBase3 : TT :=
  { base := [⟨none, "", some .dir, "", false, some "r"⟩, ⟨some 0, "b", some .file, "B", false, some "fb"⟩], next := 2 }

/-- **witness (partially applied tree, bzr)**: `version_file(b, "fid1")` on the versioned file `b`
(no `unversion_file`), plus a new file `d`.  No raw conflicts, so `resolve_conflicts` returns at
once; the delta adds "fid1" at `b` while "fb" still occupies it, `apply_inventory_delta` refuses
it — after the files were moved and outside the rollback: the run raises and the disk is *not*
the disk before.  With the proposed repair (the delta drops the old id) the run applies. -/
theorem inconsistent_delta_partial_witness :
    let tt := (crashBase3.steps currentBzr [.versionFile 1 "fid1", .newFile "d" 0 "N6" (some "fid2") (some false)]).1
    tt.findRawConflicts currentBzr = [] ∧ tt.reversioned = [1] ∧
    (tt.resolveAndApply currentBzr).raisedWith .inconsistentDelta = true ∧
    diskSame (tt.diskAfter currentBzr) tt.baseDisk = false ∧
    (tt.resolveAndApply repairedBzr).isApplied = true := by
  decide +kernel

/-- root, a versioned file `c`, a registered path `y` that does not exist -/
def crashBase4 : TT :=
  { base := [⟨none, "", some .dir, "", false, some "r"⟩, ⟨some 0, "c", some .file, "C", false, some "fc"⟩,
             ⟨some 0, "y", none, "", false, none⟩], next := 3 }

/-- **witness (a conflict-free transform that does not apply, bzr and git)**:
`adjust_path("f", c, y)` moves the path `y`, which has no contents, below the file `c`.
`_parent_type_conflicts` ignores children without contents: no raw conflicts; the rename from limbo
fails with ENOTDIR (rolled back: the disk is the disk before). -/
theorem dangling_rename_failed_witness :
    let tt := (crashBase4.steps currentBzr [.adjustPath "f" 1 2]).1
    tt.findRawConflicts currentBzr = [] ∧ tt.findRawConflicts currentGit = [] ∧ tt.dangling = [2] ∧
    (tt.resolveAndApply currentBzr).raisedWith .renameFailed = true ∧
    (tt.resolveAndApply currentGit).raisedWith .renameFailed = true ∧
    diskSame (tt.diskAfter currentBzr) tt.baseDisk = true := by
  decide +kernel

theorem applyRemovals_get (tt : TT) (d : Disk) (t : Tid) :
    (tt.applyRemovals d)[t]? = (d[t]?).map (tt.removalStep t) := by
  simp [TT.applyRemovals]

/-- hypotheses under which the entry is meaningful: the id is known, a tree id
has a name and a parent, contents are only deleted where there are contents
(`delete_contents` checks `tree_kind`) and new ids carry no tree data -/
def TT.okId (tt : TT) (t : Tid) : Bool :=
  decide (t < tt.next) && decide (t ≠ TT.root) &&
  (decide (t < tt.nbase) || (ahas tt.newName t && ahas tt.newParent t))

theorem removal_fields (tt : TT) (t : Tid) (hroot : t ≠ TT.root) :
    let i1 := tt.removalStep t (tt.baseInode t)
    i1.kind = (if tt.removedContents.contains t then none else tt.treeKind t) ∧
    (i1.attached = true → i1.kind = tt.treeKind t ∧ tt.pathChanged t = false ∧ tt.removedContents.contains t = false) ∧
    (tt.pathChanged t = false → tt.removedContents.contains t = false → i1.attached = (tt.treeKind t).isSome) ∧
    i1.data = tt.treeData t ∧ i1.exec = tt.treeExec t := by
  rw [removalStep_baseInode tt t hroot]
  cases tt.removedContents.contains t <;> cases tt.pathChanged t <;> simp

/-- **the applied inode is the final inode**: after the three phases the inode of a known trans-id
other than the root has the final directory entry and kind, is attached iff it has a final kind,
holds the new contents (else the tree's) and the new mode (else the mode `create_file` copies / the tree's) -/
theorem applied_inode_eq (tt : TT) (t : Tid) (hr : t ≠ TT.root)
    (hk : t < tt.nbase ∨ (ahas tt.newName t = true ∧ ahas tt.newParent t = true)) {pp : Option Tid} {n : String}
    (hpp : tt.finalParent t = some pp) (hn : tt.finalName t = some n) :
    tt.chmodStep t (tt.insertionStep t (tt.removalStep t (tt.baseInode t))) =
      { parent := pp, name := n, attached := (tt.finalKind t).isSome, kind := tt.finalKind t,
        data := (match alookup tt.newContents t with | some (_, d) => d | none => tt.treeData t),
        exec := (alookup tt.newExec t).getD (match alookup tt.newContents t with
          | some (k, _) => k = .file && tt.treeKind t = some .file && tt.treeExec t
          | none => tt.treeExec t) } := by
  rw [chmodStep_eq, removalStep_baseInode tt t hr]
  unfold TT.finalKind
  cases hnc : alookup tt.newContents t with
  | some kd => rw [insertionStep_new _ hnc hpp hn]; rfl
  | none =>
    by_cases hpc : tt.pathChanged t = true
    · rw [insertionStep_moved _ hnc hpc hpp hn]
    · have hpc' : tt.pathChanged t = false := Bool.not_eq_true _ ▸ hpc
      -- untouched: the tree's directory entry, which is what `final_*` fall back to
      have hb : t < tt.base.length := hk.resolve_right fun h => by
        rw [TT.pathChanged, h.1, Bool.true_or] at hpc'; cases hpc'
      obtain ⟨h1, h2⟩ := final_of_unchanged tt t hpc'
      rw [hpp, List.getElem?_eq_getElem hb] at h1
      rw [hn, List.getElem?_eq_getElem hb] at h2
      cases h1; cases h2
      rw [insertionStep_kept _ hnc hpc', hpc', List.getElem?_eq_getElem hb]
      cases tt.removedContents.contains t <;> cases tt.treeKind t <;> simp

/-- **apply = final (disk)**: after the removal, insertion and chmod phases the
inode of every trans-id shows exactly the kind, contents and executable bit that
`final_kind`, the new / tree contents and `_new_executability` / the tree mode
describe.  Holds for every transform state, clean or not. -/
theorem applied_disk_eq_final (fl : Flags) (tt : TT) (t : Tid) (p : List String) (h : tt.okId t = true) :
    let a := tt.appliedEntry fl t p
    let f := tt.finalEntry t
    a.kind = f.kind ∧ a.data = f.data ∧ a.exec = f.exec := by
  simp only [TT.okId, Bool.and_eq_true, Bool.or_eq_true, decide_eq_true_eq] at h
  obtain ⟨pp, n, hpp, hn⟩ := final_dirent_of_known tt t h.2
  simp only [TT.appliedEntry, applyDisk_get tt t h.1.1, applied_inode_eq tt t h.1.2 h.2 hpp hn, TT.finalEntry]
  have hkind : (if (tt.finalKind t).isSome = true then tt.finalKind t else none) = tt.finalKind t := by
    cases tt.finalKind t <;> rfl
  rw [hkind]
  refine ⟨rfl, rfl, ?_⟩
  by_cases hf : tt.finalKind t = some .file
  · -- a final file has a file's new contents, with the copied mode, or none and is a tree file
    simp only [hf, decide_true, Bool.true_and]
    rcases (finalKind_eq_some tt t .file).mp hf with ⟨d, hnc⟩ | ⟨hnc, _, hk⟩
    · rw [hnc]
      cases alookup tt.newExec t <;> simp
    · rw [hnc, hk]
      cases alookup tt.newExec t <;> simp
  · simp only [hf, decide_false, Bool.false_and]

example : ({ base := [⟨none, "", some .dir, "", false, some "r"⟩, ⟨some 0, "x", some .file, "X", true, some "fx"⟩], next := 2,
             newName := [(1, "y")], newParent := [(1, some 0)] } : TT).okId 1 = true := by decide

/-- non-vacuity of `wf`: a renamed tree file and a new directory -/
example : ({ base := [⟨none, "", some .dir, "", false, some "r"⟩, ⟨some 0, "x", some .file, "X", true, some "fx"⟩], next := 3,
             newName := [(1, "y"), (2, "n")], newParent := [(1, some 2), (2, some 0)], newContents := [(2, (.dir, ""))] } : TT).wf = true := by
  decide

theorem okId_of_wf (tt : TT) (h : tt.wf = true) (t : Tid) (ht : t < tt.next) (hr : t ≠ TT.root) : tt.okId t = true := by
  simp only [TT.wf, Bool.and_eq_true, decide_eq_true_eq, List.all_eq_true, TT.ids, List.mem_range, Bool.or_eq_true] at h
  obtain ⟨_, hall⟩ := h
  simp only [TT.okId, Bool.and_eq_true, decide_eq_true_eq, Bool.or_eq_true]
  exact ⟨⟨ht, hr⟩, hall t ht⟩

/-- **the applied directory entry is the final one**: after apply, the inode of every trans-id sits
under the parent `final_parent` names, with the name `final_name` gives. -/
theorem applied_dirent_eq_final (tt : TT) (t : Tid) (h : tt.okId t = true) :
    ∃ i, tt.applyDisk[t]? = some i ∧ tt.finalParent t = some i.parent ∧ tt.finalName t = some i.name := by
  simp only [TT.okId, Bool.and_eq_true, Bool.or_eq_true, decide_eq_true_eq] at h
  obtain ⟨pp, n, hpp, hn⟩ := final_dirent_of_known tt t h.2
  exact ⟨_, applyDisk_get tt t h.1.1, by rw [applied_inode_eq tt t h.1.2 h.2 hpp hn]; exact ⟨hpp, hn⟩⟩

/-- **paths**: for a well-formed transform state, walking the directory entries of the applied
disk from any trans-id spells exactly the path `FinalPaths` computes — for every fuel. -/
theorem diskPath_applyDisk_eq_finalPath (tt : TT) (hwf : tt.wf = true) (fuel : Nat) (t : Tid) :
    diskPath tt.applyDisk fuel t = tt.finalPath fuel t := by
  induction fuel generalizing t with
  | zero => rfl
  | succ n ih =>
    unfold diskPath TT.finalPath
    by_cases hr : t = TT.root
    · simp [hr]
    · simp only [hr, if_false]
      by_cases hlt : t < tt.next
      · obtain ⟨i, hi, hp, hn⟩ := applied_dirent_eq_final tt t (okId_of_wf tt hwf t hlt hr)
        simp only [hi, hp, hn]
        cases hpp : i.parent with
        | none => rfl
        | some p => simp [ih p]
      · -- unknown id: no inode, no final parent
        have hge : tt.next ≤ t := Nat.le_of_not_lt hlt
        have hlen : tt.applyDisk.length = tt.next := by
          simp [TT.applyDisk, TT.applyInsertions, TT.applyRemovals, TT.baseDisk, TT.ids]
        have hnone : tt.applyDisk[t]? = none := List.getElem?_eq_none (hlen ▸ hge)
        simp only [TT.wf, Bool.and_eq_true, decide_eq_true_eq, List.all_eq_true] at hwf
        obtain ⟨⟨⟨⟨_, hnb⟩, _⟩, hnp⟩, _⟩ := hwf
        have h1 : alookup tt.newParent t = none :=
          alookup_none_of_ahas_false <| List.any_eq_false.mpr fun x hx h =>
            Nat.lt_irrefl t (Nat.lt_of_lt_of_le (beq_iff_eq.mp h ▸ hnp x hx) hge)
        have hfp : tt.finalParent t = none := by
          rw [TT.finalParent, h1, List.getElem?_eq_none (Nat.le_trans hnb hge)]
          rfl
        simp [hnone, hfp]

/-- **preview = final**: with the preview accessors reading an unmodified entry at its
*tree* path, `kind`, `get_file_text` / `get_symlink_target`, `is_executable` and
`is_versioned` of the preview tree are exactly the final entry — for every
transform state, every trans-id and whatever path it is found at. -/
theorem preview_entry_eq_final (fl : Flags) (tt : TT) (t : Tid) (p : List String) (hf : fl.previewFixed = true) :
    let v := tt.previewEntry fl t p
    let f := tt.finalEntry t
    v.kind = f.kind ∧ v.data = some f.data ∧ v.exec = f.exec ∧ v.versioned = f.versioned := by
  simp only [Flags.previewFixed, Bool.and_eq_true] at hf
  obtain ⟨hd, hx⟩ := hf
  simp only [TT.previewEntry, TT.finalEntry, hd, hx, if_true]
  refine ⟨trivial, ?_, ?_, trivial⟩
  · unfold TT.finalKind
    cases hnc : alookup tt.newContents t with
    | some kd => obtain ⟨k, d⟩ := kd; cases k <;> simp
    | none =>
      by_cases hr : t ∈ tt.removedContents
      · simp [hr]
      · cases hk : tt.treeKind t with
        | none => simp [hr]
        | some k => cases k <;> simp [hr]
  · cases hk : tt.finalKind t with
    | none => simp
    | some k => cases k <;> cases alookup tt.newExec t <;> simp

/-- **preview = final, for every code variant**: the preview shows the final entry of `t` at `p`
provided each accessor that reads an unmodified entry at the *preview* path finds this very entry
there.  `hd`: the text accessor reads at the tree path (`dataByTreePath`, or git), or the base tree
has `t` at `p` and contents are only replaced on versioned entries; `hx`: the same for the mode. -/
theorem previewEntry_eq_finalEntry (fl : Flags) (tt : TT) (t : Tid) (p : List String)
    (hd : fl.dataByTreePath = true ∨ fl.git = true ∨
      (tt.tidOfTreePath p = some t ∧ (ahas tt.newContents t = true → tt.finalVersioned t = true)))
    (hx : fl.execByTreePath = true ∨ tt.tidOfTreePath p = some t) :
    let v := tt.previewEntry fl t p
    let f := tt.finalEntry t
    v.kind = f.kind ∧ v.data = some f.data ∧ v.exec = f.exec ∧ v.versioned = f.versioned := by
  -- under `hd` and `hx` the accessors answer as the ones that read at the tree path do
  have byTreePath : tt.previewEntry fl t p =
      tt.previewEntry { fl with dataByTreePath := true, execByTreePath := true } t p := by
    simp only [TT.previewEntry, if_true]
    congr 1
    · cases hk : tt.finalKind t with
      | none => rfl
      | some k =>
        rcases hd with h | h | ⟨hp, hv⟩
        · simp only [h, if_true]
        · simp only [h, if_true, ite_self]
        · simp only [TT.baseDataAt, hp]
          rcases (finalKind_eq_some tt t k).mp hk with ⟨d, hnc⟩ | ⟨hnc, hr, _⟩
          · simp [hnc, hv (ahas_of_alookup_some hnc)]
          · rw [List.contains_eq_mem, decide_eq_false_iff_not] at hr
            simp [hnc, hr]
    · rcases hx with h | h
      · simp only [h, if_true]
      · simp only [TT.baseExecAt, h, ite_self]
  rw [byTreePath]
  exact preview_entry_eq_final _ tt t p rfl

/-- **preview = apply** on kind, contents and executable bit, for the fixed preview
accessors: both equal the final entry. -/
theorem preview_eq_apply_disk (fl : Flags) (tt : TT) (t : Tid) (p : List String)
    (hf : fl.previewFixed = true) (h : tt.okId t = true) :
    let v := tt.previewEntry fl t p
    let a := tt.appliedEntry fl t p
    v.kind = a.kind ∧ v.data = some a.data ∧ v.exec = a.exec := by
  obtain ⟨a1, a2, a3⟩ := applied_disk_eq_final fl tt t p h
  obtain ⟨p1, p2, p3, _⟩ := preview_entry_eq_final fl tt t p hf
  simp only at a1 a2 a3 p1 p2 p3 ⊢
  exact ⟨by rw [p1, a1], by rw [p2, a2], by rw [p3, a3]⟩

/-- the paths `FinalPaths` gives to the trans-ids that end with contents -/
def TT.finalContentPaths (tt : TT) : List (Tid × List String) :=
  tt.ids.filterMap fun t =>
    if t = TT.root then none
    else if (tt.finalKind t).isSome then (tt.pathOf t).map (fun p => (t, p)) else none

theorem mem_finalContentPaths_iff (tt : TT) (t : Tid) (p : List String) :
    (t, p) ∈ tt.finalContentPaths ↔ (t, p) ∈ tt.livePaths ∧ (tt.finalKind t).isSome = true := by
  rw [mem_livePaths_iff]
  refine (mem_pathsWhere_iff tt (fun t => (tt.finalKind t).isSome) t p).trans
    ⟨fun ⟨h1, h2, h3, h4⟩ => ⟨⟨h1, h2, ?_, h4⟩, h3⟩, fun ⟨⟨h1, h2, _, h4⟩, h3⟩ => ⟨h1, h2, h3, h4⟩⟩
  rw [TT.live, h3, Bool.true_or]

/-- **the applied disk has exactly the final paths**: enumerating the inodes that have a directory
entry, at the path their directory entries spell, gives exactly the trans-ids with final contents
at their `FinalPaths` path. -/
theorem appliedPaths_eq_final (tt : TT) (hwf : tt.wf = true) : tt.appliedPaths = tt.finalContentPaths := by
  unfold TT.appliedPaths TT.finalContentPaths
  apply Lib.filterMap_congr_mem
  intro t ht
  have hlt : t < tt.next := by simpa [TT.ids] using ht
  by_cases hr : t = TT.root
  · simp [hr]
  · simp only [hr, if_false]
    obtain ⟨pp, n, hpp, hn⟩ := final_dirent_of_known tt t (wf_known tt hwf t hlt)
    rw [applyDisk_get tt t hlt, applied_inode_eq tt t hr (wf_known tt hwf t hlt) hpp hn,
      diskPath_applyDisk_eq_finalPath tt hwf]
    simp only [Bool.and_self]
    rfl

/-- **preview = apply, per path** (kind, contents, executable bit): every path found on the
applied disk is a path of the preview tree, bound to the same trans-id, and the two trees show the
same kind, the same text / link target and the same executable bit there. -/
theorem preview_eq_apply_per_path (fl : Flags) (tt : TT) (hf : fl.previewFixed = true) (hwf : tt.wf = true)
    (t : Tid) (p : List String) (h : (t, p) ∈ tt.appliedPaths) :
    (t, p) ∈ tt.livePaths ∧
    (tt.previewEntry fl t p).kind = (tt.appliedEntry fl t p).kind ∧
    (tt.previewEntry fl t p).data = some (tt.appliedEntry fl t p).data ∧
    (tt.previewEntry fl t p).exec = (tt.appliedEntry fl t p).exec := by
  rw [appliedPaths_eq_final tt hwf, mem_finalContentPaths_iff] at h
  obtain ⟨hlt, hr, _, _⟩ := (mem_livePaths_iff tt t p).mp h.1
  exact ⟨h.1, preview_eq_apply_disk fl tt t p hf (okId_of_wf tt hwf t hlt hr)⟩

/-- … and conversely every path of the preview tree whose entry has contents is found on the
applied disk, under the same trans-id. -/
theorem preview_paths_on_applied_disk (tt : TT) (hwf : tt.wf = true) (t : Tid) (p : List String)
    (h : (t, p) ∈ tt.livePaths) (hk : (tt.finalKind t).isSome = true) : (t, p) ∈ tt.appliedPaths := by
  rw [appliedPaths_eq_final tt hwf]
  exact (mem_finalContentPaths_iff tt t p).mpr ⟨h, hk⟩

/-- hypothesis of the partial theorem: the base tree has this very entry at the path
the preview shows it at (it was not moved), and contents are only replaced on
versioned entries -/
def TT.unmovedAt (tt : TT) (t : Tid) (p : List String) : Bool :=
  tt.tidOfTreePath p == some t && (!(ahas tt.newContents t) || tt.finalVersioned t)

/-- **preview = final, partial**: for the accessors as they are in the pinned source
(an unmodified entry is read from the base tree at the *preview* path) the
statement holds for entries that the base tree has at that same path.  For moved
entries it is false: `preview_path_lookup_witness`. -/
theorem preview_entry_partial (fl : Flags) (tt : TT) (t : Tid) (p : List String) (hu : tt.unmovedAt t p = true) :
    let v := tt.previewEntry fl t p
    let f := tt.finalEntry t
    v.kind = f.kind ∧ v.data = some f.data ∧ v.exec = f.exec ∧ v.versioned = f.versioned := by
  simp only [TT.unmovedAt, Bool.and_eq_true, Bool.or_eq_true, beq_iff_eq, Bool.not_eq_eq_eq_not, Bool.not_true] at hu
  refine previewEntry_eq_finalEntry fl tt t p (.inr (.inr ⟨hu.1, fun h => ?_⟩)) (.inr hu.1)
  rcases hu.2 with h' | h'
  · rw [h] at h'; cases h'
  · exact h'

/-- base tree `x` (an executable file) and a directory `d` with a file `d/g` -/
def witnessTT : TT :=
  { base := [⟨none, "", some .dir, "", false, some "r"⟩, ⟨some 0, "x", some .file, "X", true, some "fx"⟩,
             ⟨some 0, "d", some .dir, "", false, some "fd"⟩, ⟨some 2, "g", some .file, "G", false, some "fg"⟩],
    next := 4 }

/-- `adjust_path("y", root, trans_id_tree_path("x"))` -/
def renamedFile : TT := { witnessTT with newName := [(1, "y")], newParent := [(1, some 0)] }
/-- `adjust_path("e", root, trans_id_tree_path("d"))` -/
def renamedDir : TT := { witnessTT with newName := [(2, "e")], newParent := [(2, some 0)] }

/-- **witness (bzr preview)**: rename an unmodified executable file `x` to `y`.  The
transform has no raw conflicts, the applied tree has `y` with the text and the
executable bit of `x`, but the preview tree (as in the pinned source) cannot
read `y` (`data = none`: NoSuchFile) and says it is not executable. -/
theorem preview_path_lookup_witness :
    renamedFile.findRawConflicts pinnedBzr = [] ∧
    renamedFile.pathOf 1 = some ["y"] ∧
    (renamedFile.appliedEntry pinnedBzr 1 ["y"]).data = "X" ∧
    (renamedFile.appliedEntry pinnedBzr 1 ["y"]).exec = true ∧
    (renamedFile.previewEntry pinnedBzr 1 ["y"]).data = none ∧
    (renamedFile.previewEntry pinnedBzr 1 ["y"]).exec = false := by
  decide +kernel

/-- **witness (git apply, before fix a33311f)**: rename a directory `d` with a versioned file `d/g`
to `e`.  No raw conflicts; the preview tree says `e/g` is versioned; the index written by
`_generate_index_changes` as it was still has `d/g` and not `e/g`.  The repaired
`_generate_index_changes` (`TT.gitIndex`, what /repo has now) re-keys the entry. -/
theorem git_index_dir_rename_witness :
    renamedDir.findRawConflicts pinnedGit = [] ∧
    renamedDir.pathOf 3 = some ["e", "g"] ∧
    (renamedDir.previewEntry pinnedGit 3 ["e", "g"]).versioned = true ∧
    renamedDir.gitIndexPinned = [["x"], ["d", "g"]] ∧
    renamedDir.gitIndex = [["x"], ["e", "g"]] ∧
    (renamedDir.appliedEntry currentGit 3 ["e", "g"]).versioned = true := by
  decide +kernel

theorem finalPath_succ (tt : TT) : ∀ (fuel : Nat) (t : Tid) (p : List String),
    tt.finalPath fuel t = some p → tt.finalPath (fuel + 1) t = some p := by
  intro fuel
  induction fuel with
  | zero => intro t p h; simp [TT.finalPath] at h
  | succ n ih =>
    intro t p h
    unfold TT.finalPath at h ⊢
    by_cases hr : t = TT.root
    · simpa [hr] using h
    · simp only [hr, if_false] at h ⊢
      split at h
      · rename_i pp nn _ _
        cases hq : tt.finalPath n pp with
        | none => simp [hq] at h
        | some q =>
          simp only [hq, Option.map_some] at h
          simp [ih pp q hq, h]
      · cases h

/-- **fuel (paths)**: a `FinalPaths` walk that has ended keeps its answer with any amount of
additional fuel; so the fuel `next + 1` of `pathOf` can only ever be *too small* (answer `none`),
never give a wrong path — and `TT.fuelOk`, evaluated by the driver on every reached state,
checks that doubling it changes nothing. -/
theorem finalPath_fuel_mono (tt : TT) (fuel k : Nat) (t : Tid) (p : List String)
    (h : tt.finalPath fuel t = some p) : tt.finalPath (fuel + k) t = some p := by
  induction k with
  | zero => exact h
  | succ k ih => exact finalPath_succ tt _ t p ih

/-- the same for the registered tree paths and for inventory paths -/
theorem treePath_invPath_fuel_mono (tt : TT) (inv : Inv) (fuel : Nat) :
    (∀ t p, tt.treePath fuel t = some p → tt.treePath (fuel + 1) t = some p) ∧
    (∀ f p, invPath inv fuel f = some p → invPath inv (fuel + 1) f = some p) := by
  induction fuel with
  | zero => exact ⟨fun t p h => (by cases h), fun f p h => (by cases h)⟩
  | succ n ih =>
    refine ⟨fun t p h => ?_, fun f p h => ?_⟩
    · unfold TT.treePath at h ⊢
      by_cases hr : t = TT.root
      · simpa [hr] using h
      · simp only [hr, if_false] at h ⊢
        cases hb : tt.base[t]? with
        | none => simp [hb] at h
        | some b =>
          simp only [hb] at h ⊢
          cases hp : b.parent with
          | none => simp [hp] at h
          | some pp =>
            simp only [hp] at h ⊢
            cases hq : tt.treePath n pp with
            | none => simp [hq] at h
            | some q =>
              simp only [hq, Option.map_some] at h
              simp [ih.1 pp q hq, h]
    · unfold invPath at h ⊢
      cases he : (inv.find? (fun e => e.1 == f)).map (·.2) with
      | none => simp [he] at h
      | some e =>
        simp only [he] at h ⊢
        cases hpf : e.parentFid with
        | none => simpa [hpf] using h
        | some pf =>
          simp only [hpf] at h ⊢
          cases hq : invPath inv n pf with
          | none => simp [hq] at h
          | some q =>
            simp only [hq, Option.map_some] at h
            simp [ih.2 pf q hq, h]

/-- **fuel (loops)**: a `_parent_loops` walk that found the loop, and a `resolve_parent_loop` walk
that found the changed entry, keep their answer with more fuel -/
theorem loopWalk_findChanged_fuel_mono (tt : TT) (fuel : Nat) :
    (∀ t cur seen, tt.loopWalk t fuel cur seen = true → tt.loopWalk t (fuel + 1) cur seen = true) ∧
    (∀ cur r, tt.findChanged fuel cur = .ok r → tt.findChanged (fuel + 1) cur = .ok r) := by
  induction fuel with
  | zero => exact ⟨fun t cur seen h => (by cases h), fun cur r h => (by cases h)⟩
  | succ n ih =>
    refine ⟨fun t cur seen h => ?_, fun cur r h => ?_⟩
    · unfold TT.loopWalk at h ⊢
      cases hp : tt.finalParent cur with
      | none => simp [hp] at h
      | some pp =>
        cases pp with
        | none => simp [hp] at h
        | some p =>
          simp only [hp] at h ⊢
          by_cases h1 : p = t
          · simp [h1]
          · simp only [h1, if_false] at h ⊢
            by_cases h2 : (cur :: seen).contains p = true
            · rw [if_pos h2] at h; cases h
            · rw [if_neg h2] at h ⊢
              exact ih.1 t p (cur :: seen) h
    · unfold TT.findChanged at h ⊢
      by_cases hc : tt.pathChanged cur = true
      · simpa [hc] using h
      · simp only [hc, Bool.false_eq_true, if_false] at h ⊢
        cases hp : tt.finalParent cur with
        | none => simp [hp] at h
        | some pp =>
          cases pp with
          | none => simp [hp] at h
          | some p =>
            simp only [hp] at h ⊢
            exact ih.2 p r h

/-- non-vacuity: the walks of the witness states end within their fuel -/
example : renamedDir.fuelOk = true ∧ renamedDir.pathOf 3 = some ["e", "g"] := by decide +kernel

/-- what `_apply_index_changes` adds -/
theorem gitAdded_mem_iff (tt : TT) (p : List String) :
    p ∈ tt.gitAdded ↔ ∃ t, t ∈ tt.gitChanged ∧ (tt.finalKind t = some .file ∨ tt.finalKind t = some .symlink) ∧
      tt.finalVersioned t = true ∧ tt.pathOf t = some p := by
  unfold TT.gitAdded
  rw [List.mem_filterMap]
  constructor
  · rintro ⟨t, ht, hx⟩
    refine ⟨t, ht, ?_⟩
    cases hk : tt.finalKind t with
    | none => simp [hk] at hx
    | some k =>
      cases k <;> simp only [hk] at hx
      · split at hx
        · rename_i hv; exact ⟨Or.inl rfl, hv, hx⟩
        · cases hx
      · cases hx
      · split at hx
        · rename_i hv; exact ⟨Or.inr rfl, hv, hx⟩
        · cases hx
  · rintro ⟨t, ht, hk, hv, hp⟩
    refine ⟨t, ht, ?_⟩
    rcases hk with hk | hk <;> simp [hk, hv, hp]

/-- the index after apply: what was added, and what was there and was not deleted -/
theorem gitIndex_mem_iff (tt : TT) (p : List String) :
    p ∈ tt.gitIndex ↔ p ∈ tt.gitAdded ∨ (p ∈ tt.gitBaseIndex ∧ p ∉ tt.gitDeleted) := by
  unfold TT.gitIndex
  simp only [List.mem_append, List.mem_filter, Bool.and_eq_true, Bool.not_eq_eq_eq_not, Bool.not_true,
    List.contains_eq_mem, decide_eq_false_iff_not]
  by_cases ha : p ∈ tt.gitAdded <;> simp [ha]

/-- non-vacuity of `gitHyps`: the base tree of the witnesses with a directory renamed -/
example : renamedDir.gitHyps = true := by decide +kernel

/-- **the git index agrees with `final_is_versioned`**: after `_generate_index_changes` +
`_apply_index_changes` (as /repo has them now: entries that only become versioned and the
children of moved directories are re-keyed) the index holds exactly the final paths of the
trans-ids that end as a versioned file or symlink — for every transform state that satisfies
`gitHyps` (well-formed state and base tree, distinct tree paths, no two live ids at one final
path; the driver evaluates `gitHyps` on every conflict-free transform the harness reaches). -/
theorem gitIndex_eq_final (tt : TT) (h : tt.gitHyps = true) (p : List String) :
    p ∈ tt.gitIndex ↔ ∃ t, (t, p) ∈ tt.livePaths ∧ (tt.finalKind t = some .file ∨ tt.finalKind t = some .symlink) ∧
      tt.finalVersioned t = true := by
  simp only [TT.gitHyps, Bool.and_eq_true, beq_iff_eq] at h
  obtain ⟨⟨⟨⟨⟨⟨hwf, hbw⟩, hbd⟩, hve⟩, htp⟩, hlp⟩, hroot⟩ := h
  have hnb := (wf_nbase_le tt hwf).2
  -- an id that is in none of the sets `_generate_index_changes` looks at keeps path and versioning
  have untouched : ∀ t : Nat, t < tt.nbase → t ∉ tt.gitRemoved → (tt.treeFid t).isSome = true →
      tt.treeKind t ≠ some .dir → tt.pathOf t = tt.treePath (tt.nbase + 1) t ∧ tt.finalVersioned t = true ∧
      tt.removedContents.contains t = false := by
    intro t htb hnr hfid hnd
    have hnr' := mt (fun hx => (mem_gitRemoved tt t).mpr ⟨Nat.lt_of_lt_of_le htb hnb, hx⟩) hnr
    simp only [not_or, Bool.not_eq_true] at hnr'
    obtain ⟨hri, hrc, hnn, hnp, hre⟩ := hnr'
    have hk := treeKind_isSome_of_versioned tt hve t htb hfid
    have hbm : tt.belowMovedDir (tt.nbase + 1) t = false := by
      cases hbm : tt.belowMovedDir (tt.nbase + 1) t with
      | false => rfl
      | true =>
        have : t ∈ tt.reindexed := List.mem_filter.mpr ⟨List.mem_range.mpr htb, by simp [hfid, hk, hnd, hbm]⟩
        rw [List.contains_iff_mem.mpr this] at hre
        cases hre
    refine ⟨pathOf_eq_treePath tt hbw hbd hnb t htb hk (by rw [TT.pathChanged, hnn, hnp]; rfl) hbm, ?_, hrc⟩
    obtain ⟨f, hf⟩ := Option.isSome_iff_exists.mp hfid
    cases hl : alookup tt.newId t with
    | some g => rw [TT.finalVersioned, (finalFid_eq_some tt t g).mpr (.inl hl)]; rfl
    | none => rw [TT.finalVersioned, (finalFid_eq_some tt t f).mpr (.inr ⟨hl, hri, hf⟩)]; rfl
  have root_dir : ∀ t, (tt.finalKind t = some .file ∨ tt.finalKind t = some .symlink) → t ≠ TT.root := by
    rintro _ hk rfl
    rw [hroot] at hk
    rcases hk with h | h <;> cases h
  rw [gitIndex_mem_iff]
  constructor
  · rintro (ha | ⟨hb, hnd⟩)
    · obtain ⟨t, htc, hk, hv, hpath⟩ := (gitAdded_mem_iff tt p).mp ha
      refine ⟨t, (mem_livePaths_iff tt t p).mpr ⟨((mem_gitChanged tt t).mp htc).1, root_dir t hk, ?_, hpath⟩, hk, hv⟩
      rcases hk with hk | hk <;> simp [TT.live, hk]
    · -- a base entry that is not deleted: its id is untouched, and still a versioned file or symlink
      obtain ⟨t, htb, hx⟩ := List.mem_filterMap.mp hb
      have htb := List.mem_range.mp htb
      split at hx
      · rename_i hcond
        simp only [Bool.and_eq_true, decide_eq_true_eq] at hcond
        obtain ⟨hfid, hndir⟩ := hcond
        have hnr : t ∉ tt.gitRemoved := fun hmem =>
          hnd (List.mem_append_left _ (List.mem_filterMap.mpr ⟨t, hmem, hx⟩))
        obtain ⟨hpath, hv, hrc⟩ := untouched t htb hnr hfid hndir
        have hlt : t < tt.next := Nat.lt_of_lt_of_le htb hnb
        have hkind : tt.finalKind t = some .file ∨ tt.finalKind t = some .symlink := by
          cases hnc : alookup tt.newContents t with
          | none =>
            have hk := treeKind_isSome_of_versioned tt hve t htb hfid
            cases hkt : tt.treeKind t with
            | none => rw [hkt] at hk; cases hk
            | some k =>
              have hfk := (finalKind_eq_some tt t k).mpr (.inr ⟨hnc, hrc, hkt⟩)
              cases k
              · exact .inl hfk
              · exact absurd hkt hndir
              · exact .inr hfk
          | some kd =>
            -- new contents put the id in `changed_ids`: were they a directory, the path would be deleted
            obtain ⟨k, d⟩ := kd
            have hfk : tt.finalKind t = some k := (finalKind_eq_some tt t k).mpr (.inl ⟨d, hnc⟩)
            cases k
            · exact .inl hfk
            · refine absurd (List.mem_append_right _ (List.mem_filterMap.mpr ⟨t, ?_, ?_⟩)) hnd
              · exact (mem_gitChanged tt t).mpr ⟨hlt, .inr (.inr (.inr (.inl (ahas_of_alookup_some hnc))))⟩
              · simp [hfk, hv, hpath, hx]
            · exact .inr hfk
        exact ⟨t, (mem_livePaths_iff tt t p).mpr ⟨hlt, root_dir t hkind, by simp [TT.live, hv], by rw [hpath, hx]⟩,
          hkind, hv⟩
      · cases hx
  · rintro ⟨t, hl, hk, hv⟩
    obtain ⟨hlt, hr, _, hpath⟩ := (mem_livePaths_iff tt t p).mp hl
    by_cases hc : t ∈ tt.gitChanged
    · exact .inl ((gitAdded_mem_iff tt p).mpr ⟨t, hc, hk, hv, hpath⟩)
    · -- an id `_generate_index_changes` does not look at: a tree id with the tree's kind and file id
      right
      have hc' := mt (fun hx => (mem_gitChanged tt t).mpr ⟨hlt, hx⟩) hc
      simp only [not_or, Bool.not_eq_true] at hc'
      obtain ⟨hnn, hnp, _, hnc, hni, hre⟩ := hc'
      have htb : t < tt.nbase := (wf_known tt hwf t hlt).resolve_right fun h => by rw [hnn] at h; cases h.1
      obtain ⟨k, hkk⟩ : ∃ k, tt.finalKind t = some k := by rcases hk with h | h <;> exact ⟨_, h⟩
      have hkd : k ≠ .dir := by
        rintro rfl
        rw [hkk] at hk
        rcases hk with h | h <;> cases h
      rcases (finalKind_eq_some tt t k).mp hkk with ⟨d, h⟩ | ⟨_, hrc, htk⟩
      · rw [alookup_none_of_ahas_false hnc] at h; cases h
      obtain ⟨f, hf⟩ := Option.isSome_iff_exists.mp hv
      rcases (finalFid_eq_some tt t f).mp hf with h | ⟨_, hri, htf⟩
      · rw [alookup_none_of_ahas_false hni] at h; cases h
      have hndir : tt.treeKind t ≠ some .dir := by rw [htk]; exact fun h => hkd (Option.some.inj h)
      have hnr : t ∉ tt.gitRemoved := by
        simp only [mem_gitRemoved, hri, hrc, hnn, hnp, hre, Bool.false_eq_true, or_self, and_false,
          not_false_eq_true]
      obtain ⟨hpt, _, _⟩ := untouched t htb hnr (by rw [htf]; rfl) hndir
      have htree : tt.treePath (tt.nbase + 1) t = some p := by rw [← hpt, hpath]
      have hpne : p ≠ [] := fun h => hr (finalPath_nil tt _ t (h ▸ hpath))
      refine ⟨List.mem_filterMap.mpr ⟨t, List.mem_range.mpr htb, by simp [htf, hndir, htree]⟩, fun hdel => ?_⟩
      rcases List.mem_append.mp hdel with hd | hd
      · -- the tree path of a removed id: that id is `t` itself
        obtain ⟨t', ht', hx⟩ := List.mem_filterMap.mp hd
        have hr' : t' ≠ TT.root := by
          rintro rfl
          rw [treePath_root] at hx
          exact hpne (Option.some.inj hx).symm
        have htb' := treePath_some_lt tt _ t' p hx hr'
        exact hnr (unique_of_all tt.nbase (tt.treePath (tt.nbase + 1)) htp htb htb' htree hx ▸ ht')
      · -- the final path of a versioned directory: two live ids at one path
        obtain ⟨t', ht', hx⟩ := List.mem_filterMap.mp hd
        split at hx
        · rename_i hcond
          simp only [Bool.and_eq_true, decide_eq_true_eq] at hcond
          have hr' : t' ≠ TT.root := by
            rintro rfl
            rw [pathOf_root] at hx
            exact hpne (Option.some.inj hx).symm
          have hl' : (t', p) ∈ tt.livePaths :=
            (mem_livePaths_iff tt t' p).mpr ⟨((mem_gitChanged tt t').mp ht').1, hr', by simp [TT.live, hcond.1], hx⟩
          simp only [TT.livePathsInj, List.all_eq_true, Bool.or_eq_true, beq_iff_eq, bne_iff_ne] at hlp
          rcases hlp (t, p) hl (t', p) hl' with h1 | h1
          · simp only at h1
            subst h1
            rw [hkk] at hcond
            exact hkd (Option.some.inj hcond.1)
          · exact h1 rfl
        · cases hx

/-- every trans-id whose name, parent, file id or executable bit is set by the
transform is in `_inventory_altered` -/
theorem inventoryAltered_covers (tt : TT) (t : Tid) (h : t < tt.next)
    (hc : ahas tt.newName t = true ∨ ahas tt.newParent t = true ∨ ahas tt.newExec t = true) :
    t ∈ tt.inventoryAltered := by
  refine List.mem_filter.mpr ⟨List.mem_range.mpr h, ?_⟩
  rcases hc with h1 | h1 | h1 <;> simp only [h1, Bool.true_or, Bool.or_true]

/-- non-vacuity of `bzrHyps`: the renamed file / renamed directory of the witnesses -/
example : renamedFile.bzrHyps = true ∧ renamedDir.bzrHyps = true := by decide +kernel

/-- **delta soundness**: for a bzr transform state that satisfies `bzrHyps` (well-formed state,
distinct file ids in the tree and in the result, versioned entries below versioned parents, no
overwrite, no file id given to an entry that keeps its old one; the driver evaluates `bzrHyps`
on every conflict-free transform the harness reaches), the inventory after
`apply_inventory_delta(_generate_inventory_delta())` has for a file id `f` exactly one kind of
entry: the final name, the file id of the *final* parent and the final kind (the stored kind for
an entry without contents) of the trans-id whose final file id is `f` — and no entry for a file id
no trans-id ends with.  If the delta cannot be generated (NoFinalPath) nothing is applied. -/
theorem delta_sound (fl : Flags) (tt : TT) (hb : tt.bzrHyps = true) (d : List DeltaItem)
    (hd : tt.generateDelta fl = .ok d) (f : String) (e : InvEntry) :
    (f, e) ∈ tt.appliedInv fl ↔ ∃ t, t < tt.next ∧ tt.finalFid t = some f ∧ tt.deltaEntry t f = some e := by
  unfold TT.appliedInv
  rw [hd]
  exact delta_sound_aux fl tt d hb hd f e

/-- … in particular the applied inventory is a function of the file id -/
theorem applied_inv_functional (fl : Flags) (tt : TT) (hb : tt.bzrHyps = true) (d : List DeltaItem)
    (hd : tt.generateDelta fl = .ok d) (f : String) (e e' : InvEntry)
    (h : (f, e) ∈ tt.appliedInv fl) (h' : (f, e') ∈ tt.appliedInv fl) : e = e' := by
  obtain ⟨t, ht, hf, he⟩ := (delta_sound fl tt hb d hd f e).mp h
  obtain ⟨t', ht', hf', he'⟩ := (delta_sound fl tt hb d hd f e').mp h'
  have := finalFids_unique tt (bzrHyps_unpack tt hb).finalFids t t' f ht ht' hf hf'
  subst this
  rw [he] at he'
  exact Option.some.inj he'

/-- non-vacuity of `rootHyps` -/
example : renamedFile.rootHyps = true ∧ renamedDir.rootHyps = true := by decide +kernel

/-- **inventory paths are final paths**: under `bzrHyps` and `rootHyps` (the root keeps its empty
name and is the only parentless id), in the inventory after apply, walking the parent file ids
from the final file id of a trans-id spells exactly the path `FinalPaths` computes for that
trans-id — for every fuel.  With `delta_sound`: a path is versioned in the applied tree exactly
when it is the final path of a trans-id that ends versioned. -/
theorem applied_inv_path_eq_final (fl : Flags) (tt : TT) (hb : tt.bzrHyps = true) (hr : tt.rootHyps = true)
    (d : List DeltaItem) (hd : tt.generateDelta fl = .ok d) (fuel : Nat) (t : Tid) (f : String)
    (ht : t < tt.next) (hf : tt.finalFid t = some f) :
    invPath (tt.appliedInv fl) fuel f = tt.finalPath fuel t := by
  unfold TT.appliedInv
  rw [hd]
  exact applied_inv_path_aux fl tt d hb hr hd fuel t f ht hf

/-- **witness: the hypothesis "no re-versioning" is needed.**  `version_file(x, "new")` on the
versioned file `x` together with a rename: no raw conflicts, but the applied inventory keeps the
old id "fx" (an entry no trans-id ends with) next to the new one.  The repaired delta drops it. -/
theorem delta_reversion_stale_witness :
    let tt : TT := { renamedFile with newId := [(1, "new")] }
    tt.findRawConflicts currentBzr = [] ∧ tt.reversioned = [1] ∧ tt.bzrHyps = false ∧
    (tt.appliedInv currentBzr).map (·.1) = ["r", "fx", "fd", "fg", "new"] ∧
    (tt.ids.filterMap tt.finalFid) = ["r", "new", "fd", "fg"] ∧
    (tt.appliedInv repairedBzr).map (·.1) = ["r", "fd", "fg", "new"] := by
  decide +kernel

/-- "versioning no contents": after `cancel_versioning` the id is no longer in
`_new_id`, so the conflict is not reported again -/
theorem resolve_versioning_no_contents_sound (tt tt' : TT) (t : Tid) (h : tt.cancelVersioning t = .ok tt') :
    ahas tt'.newId t = false ∧ Conflict.versioningNoContents t ∉ tt'.improperVersioning := by
  unfold TT.cancelVersioning at h
  split at h
  · cases h
    have h1 : ahas (aerase tt.newId t) t = false := ahas_aerase_self _ _
    refine ⟨h1, ?_⟩
    unfold TT.improperVersioning
    rw [List.mem_filterMap]
    rintro ⟨e, he, hx⟩
    split at hx
    · simp only [Option.some.injEq, Conflict.versioningNoContents.injEq] at hx
      have : ahas (aerase tt.newId t) t = true := by
        unfold ahas
        exact List.any_eq_true.mpr ⟨e, he, by simp [hx]⟩
      simp [h1] at this
    · cases hx
  · cases h

/-- "missing parent", parent not scheduled for deletion: it becomes a directory -/
theorem resolve_missing_parent_sound (fl : Flags) (tt tt' : TT) (t : Tid)
    (hr : tt.removedContents.contains t = false) (h : tt.resolveMissingParent fl t = .ok tt') :
    tt'.finalKind t = some .dir := by
  unfold TT.resolveMissingParent at h
  simp only [hr, Bool.false_eq_true, if_false] at h
  split at h
  · cases h
  · unfold TT.createContents at h
    split at h
    · cases h
    · rename_i hn
      cases h
      have hn' : ahas tt.newContents t = false := by simpa using hn
      simp [TT.finalKind, alookup_append_new _ _ _ hn']

/-- "missing parent", parent scheduled for deletion: the deletion is cancelled -/
theorem resolve_missing_parent_cancels (fl : Flags) (tt tt' : TT) (t : Tid)
    (hr : tt.removedContents.contains t = true) (h : tt.resolveMissingParent fl t = .ok tt') :
    tt'.removedContents.contains t = false := by
  unfold TT.resolveMissingParent at h
  simp only [hr, if_true] at h
  cases hc : tt.childrenOf fl t with
  | error e => simp [hc, bind, Except.bind] at h
  | ok cs =>
    simp only [hc, bind, Except.bind, pure, Except.pure] at h
    cases h
    simp

theorem adjustPath_final {tt tt' : TT} {n : String} {p t : Tid} (h : tt.adjustPath n p t = .ok tt') :
    tt'.finalName t = some n ∧ tt'.finalParent t = some (some p) := by
  unfold TT.adjustPath at h
  split at h
  · cases h
  · cases h
    exact ⟨by simp only [TT.finalName, alookup_aset_self], by simp only [TT.finalParent, alookup_aset_self]⟩

/-- "duplicate" (the `.moved` branch): one of the two entries keeps its parent and
gets the suffix `.moved` — the entry that was *not* renamed by the transform if
exactly one of them was -/
theorem resolve_duplicate_renames (fl : Flags) (tt tt' : TT) (last cur : Tid)
    (hb : (fl.git && tt.finalKind cur = some .dir && tt.finalKind last = some .dir) = false)
    (h : tt.resolveDuplicate fl last cur = .ok tt') :
    ∃ fp n, tt.finalParent last = some (some fp) ∧
      let existing := if tt.pathChanged last then cur else last
      tt.finalName existing = some n ∧ tt'.finalName existing = some (n ++ ".moved") ∧
      tt'.finalParent existing = some (some fp) := by
  unfold TT.resolveDuplicate at h
  split at h
  · cases h
  · cases h
  · rename_i fp hfp
    have tail : ∀ ex, (match tt.finalName ex with
          | some n => tt.adjustPath (n ++ ".moved") fp ex
          | none => Except.error Err.noFinalPath) = .ok tt' →
        ∃ n, tt.finalName ex = some n ∧ tt'.finalName ex = some (n ++ ".moved") ∧
          tt'.finalParent ex = some (some fp) := by
      intro ex h
      cases hn : tt.finalName ex with
      | none => rw [hn] at h; cases h
      | some n => rw [hn] at h; exact ⟨n, rfl, adjustPath_final h⟩
    refine ⟨fp, ?_⟩
    simp only [hb, Bool.false_eq_true, if_false] at h
    cases hpc : tt.pathChanged last <;> simp only [hpc, Bool.false_eq_true, if_true, if_false] at h ⊢
    · obtain ⟨n, hn⟩ := tail last h; exact ⟨n, hfp, hn⟩
    · obtain ⟨n, hn⟩ := tail cur h; exact ⟨n, hfp, hn⟩

/-- "duplicate id": the tree entry that carries the file id is unversioned -/
theorem resolve_duplicate_id_sound (tt tt' : TT) (old : Tid) (h : tt.resolveDuplicateId old = .ok tt') :
    tt'.removedId.contains old = true := by
  unfold TT.resolveDuplicateId TT.unversionFile at h
  cases h
  exact sadd_contains _ _

end BreezyVerif.C14
