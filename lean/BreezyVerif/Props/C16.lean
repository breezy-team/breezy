import BreezyVerif.Model.C16
import BreezyVerif.Lemmas.C16B
/-!
C16 — theorems.  Every well-formed revision graph (any size, merges, ghosts),
every branch/tree state, every uncommit depth, tags anywhere, standalone and
bound branches.
-/
namespace BreezyVerif.C16
open BreezyVerif.C21

/-! ### commit then uncommit is the identity -/

/-- **Inverse law.**  In any state whose tree parent list is what
`set_parent_ids` leaves (`treeOK`), whose tip is present, whose master (if
bound) is in step, committing the tree as a NEW revision `r` and uncommitting
that revision gives back exactly the state before the commit: tip, revno, the
whole parent list with its pending merges, the tags and the master's tip, revno
and tags.  (No file operation exists in `uncommit`; that the files stay is
checked on the real tree by the oracle.) -/
theorem uncommit_commit_id (g : Graph) (st : St) (r : Rev) (keep : Bool)
    (hwf : wf ((r, st.parents) :: g) = true)
    (htree : treeOK g st = true)
    (hpres : tipPresent g st.br.tip = true)
    (hmaster : ∀ m, st.master = some m → m.tip = st.br.tip ∧ m.revno = st.br.revno)
    (htags : ∀ t ∈ st.br.tags, t.2 ≠ r) :
    uncommit (commit g st r).1 (commit g st r).2 1 keep false = .ok st := by
  have hood : outOfDate (masterFor false (commit g st r).2) (some r) = false := by
    cases hm : st.master <;> simp [commit, masterFor, outOfDate, hm]
  rw [uncommit_eq_guarded, guarded_eq rfl rfl hood (Nat.le_add_left 1 _)]
  rw [show walk (commit g st r).1 r 1 (commit g st r).2.parents.tail = _ from
    walk_fresh r st.parents g [] (treeOK_head htree ▸ hpres)]
  refine congrArg Except.ok (finish_fresh g st r _ keep false (wf_cons hwf).1 htree htags ?_)
  cases hm : st.master with
  | none => rfl
  | some m =>
    obtain ⟨h1, h2⟩ := hmaster m hm
    simp [← h1, ← h2]

-- non-vacuity: a state with a pending merge, bound, satisfying every hypothesis
example :
    let g : Graph := [(3, [1]), (2, [1]), (1, [])]
    let st : St := { br := { tip := some 2, revno := 2, tags := [(7, 3)] },
                     master := some { tip := some 2, revno := 2 }, parents := [2, 3] }
    wf ((4, st.parents) :: g) = true ∧ treeOK g st = true ∧ tipPresent g st.br.tip = true := by
  decide +kernel

/-- **Inverse law, `--local`.**  In a bound branch (master anywhere, in step or
not), `commit --local` of a new revision followed by `uncommit --local` gives
back exactly the state before: the master is touched by neither. -/
theorem uncommit_commit_id_local (g : Graph) (st : St) (r : Rev) (keep : Bool)
    (hwf : wf ((r, st.parents) :: g) = true)
    (htree : treeOK g st = true)
    (hpres : tipPresent g st.br.tip = true)
    (hbound : st.master.isSome = true)
    (htags : ∀ t ∈ st.br.tags, t.2 ≠ r) :
    uncommit (commitLocal g st r).1 (commitLocal g st r).2 1 keep true = .ok st := by
  have hbound' : (true && (commitLocal g st r).2.master.isNone) = false := by
    simpa [commitLocal] using hbound
  rw [uncommit_eq_guarded, guarded_eq hbound' rfl rfl (Nat.le_add_left 1 _)]
  rw [show walk (commitLocal g st r).1 r 1 (commitLocal g st r).2.parents.tail = _ from
    walk_fresh r st.parents g [] (treeOK_head htree ▸ hpres)]
  refine congrArg Except.ok (finish_fresh g st r _ keep true (wf_cons hwf).1 htree htags ?_)
  cases st.master <;> rfl

-- non-vacuity: bound, master elsewhere (out of step), a pending merge
example :
    let g : Graph := [(3, [1]), (2, [1]), (1, [])]
    let st : St := { br := { tip := some 2, revno := 2, tags := [(7, 3)] },
                     master := some { tip := some 1, revno := 1, tags := [(7, 3)] }, parents := [2, 3] }
    (wf ((4, st.parents) :: g) = true ∧ treeOK g st = true ∧ tipPresent g st.br.tip = true ∧ st.master.isSome = true) ∧
    uncommit (commitLocal g st 4).1 (commitLocal g st 4).2 1 false true = .ok st :=
  ⟨by decide +kernel, rfl⟩

/-! ### depth d: tip, revno, pending merges -/

/-- The new tip is the `d`-th left-hand ancestor of the old tip (`null:` past
the origin) and the revno drops by exactly `d` (no truncation: a successful
uncommit never removes more revisions than the branch records); the master of a
bound branch (unless `local`) gets the same tip and revno. -/
theorem uncommit_tip (g : Graph) (st st' : St) (d : Nat) (keep loc : Bool)
    (h : uncommit g st d keep loc = .ok st') :
    ∃ old, st.br.tip = some old ∧ lhNth g old d = .ok st'.br.tip ∧ st'.br.revno + d = st.br.revno ∧
      (loc = false → ∀ m', st'.master = some m' → m'.tip = st'.br.tip ∧ m'.revno = st'.br.revno) := by
  have hd := (uncommit_ok_guards g st st' d keep loc h).1
  obtain ⟨old, t, pm, htip, hw, rfl⟩ := uncommit_ok_inv g st st' d keep loc h
  refine ⟨old, htip, (walk_ok g old d _ t pm hw).1, Nat.sub_add_cancel hd, ?_⟩
  intro hl m' hm'
  subst hl
  cases hm : st.master with
  | none => simp [finish, hm] at hm'
  | some m => simp [finish, hm] at hm'; subst hm'; simp [finish]

/-- `lhNth` is not a private notion: on a ghost-free left-hand history it is the
head of C21's `lefthand` list with `d` revisions dropped -/
theorem lhNth_lefthand (g : Graph) (hwf : wf g = true) (r : Rev) (d : Nat) (l : List Rev)
    (hl : lefthand g r = some l) : lhNth g r d = .ok (l.drop d).head? := by
  obtain ⟨t, ht, hlh⟩ := lhNth_lhTip g hwf r d l hl
  rw [ht, lhTip_head g t _ hlh]

/-- … so the new tip is the `(d+1)`-th entry of the old tip's left-hand history -/
theorem uncommit_tip_lefthand (g : Graph) (hwf : wf g = true) (st st' : St) (d : Nat) (keep loc : Bool)
    (h : uncommit g st d keep loc = .ok st') (old : Rev) (htip : st.br.tip = some old)
    (l : List Rev) (hl : lefthand g old = some l) : st'.br.tip = (l.drop d).head? := by
  obtain ⟨old', htip', hnth, _⟩ := uncommit_tip g st st' d keep loc h
  rw [htip] at htip'
  cases htip'
  rw [lhNth_lefthand g hwf old d l hl] at hnth
  exact (Except.ok.inj hnth).symm

example : lefthand [(4, [3, 2]), (3, [1]), (2, [1]), (1, [])] 4 = some [4, 3, 1] ∧
    lhNth [(4, [3, 2]), (3, [1]), (2, [1]), (1, [])] 4 2 = .ok (some 1) := ⟨by decide +kernel, rfl⟩

/-- When the old tip's left-hand history has no ghost and the recorded revno is
its length, the new revno is the length of the new tip's left-hand history. -/
theorem uncommit_revno_ok (g : Graph) (hwf : wf g = true) (st st' : St) (d : Nat) (keep loc : Bool)
    (h : uncommit g st d keep loc = .ok st')
    (hrev : revnoOf g st.br.tip = some st.br.revno) :
    revnoOf g st'.br.tip = some st'.br.revno := by
  obtain ⟨old, t, pm, htip, hw, rfl⟩ := uncommit_ok_inv g st st' d keep loc h
  rw [htip] at hrev
  simp only [revnoOf, lhTip, Option.map_eq_some_iff] at hrev
  obtain ⟨l, hl, hlen⟩ := hrev
  obtain ⟨t2, hn, hlh⟩ := lhNth_lhTip g hwf old d l hl
  cases (walk_ok g old d _ t pm hw).1.symm.trans hn
  simp only [finish, revnoOf, hlh, Option.map_some, List.length_drop, hlen]

/-- **Pending merges.**  When the new tip is a revision `x`, the new tree parent
list is what the tree keeps of `[x] ++ M_d ++ … ++ M_1 ++ reverse P0`, where
`M_i` are the merged (non-left-hand) parents of the `i`-th removed revision
(1 = the old tip), each in its recorded order, and `P0` the pending merges
present before; when the branch becomes empty the tree has no parents at all. -/
theorem uncommit_pending (g : Graph) (st st' : St) (d : Nat) (keep loc : Bool)
    (h : uncommit g st d keep loc = .ok st') :
    ∃ old, st.br.tip = some old ∧
      (st'.br.tip = none → st'.parents = []) ∧
      (∀ x, st'.br.tip = some x → st'.parents = filterParents g
        (x :: ((removedMerges g old d).reverse.flatten ++ st.parents.tail.reverse))) := by
  obtain ⟨old, t, pm, htip, hw, rfl⟩ := uncommit_ok_inv g st st' d keep loc h
  refine ⟨old, htip, ?_, ?_⟩
  · intro ht
    simp only [finish] at ht
    subst ht
    simp [finish, newParents, filterParents]
  · intro x ht
    simp only [finish] at ht
    subst ht
    simp only [finish, newParents]
    rw [(walk_ok g old d _ (some x) pm hw).2]
    simp [List.reverse_flatten, Function.comp_def]

/-- the tree always keeps the first parent it is given … -/
theorem filterParents_head (g : Graph) (p : Rev) (rest : List Rev) :
    (filterParents g (p :: rest)).head? = some p := by
  simp [filterParents]

/-- … never invents a parent … -/
theorem filterParents_sub (g : Graph) (l : List Rev) (x : Rev) (h : x ∈ filterParents g l) : x ∈ l := by
  cases l with
  | nil => simp [filterParents] at h
  | cons p rest =>
    simp only [filterParents, List.mem_cons] at h ⊢
    rcases h with h | h
    · exact Or.inl h
    · exact Or.inr (filterRest_sub _ rest [p] x h)

/-- … and keeps every requested parent that is a head of the requested list:
a removed merge is lost from the pending merges only if it is an ancestor of
another new parent (or a repetition). -/
theorem filterParents_keeps_heads (g : Graph) (l : List Rev) (x : Rev) (hx : x ∈ l)
    (hh : some x ∈ heads g (l.map some)) : x ∈ filterParents g l := by
  cases l with
  | nil => simp at hx
  | cons p rest =>
    simp only [filterParents, List.mem_cons] at hx ⊢
    by_cases hxp : x = p
    · exact Or.inl hxp
    · right
      rcases hx with hx | hx
      · exact absurd hx hxp
      · exact filterRest_keeps _ rest [p] x hx (by simpa using hxp) hh

/-- **Re-recorded merges.**  Every merged parent of a removed revision that is a
head of the requested parent list is a pending merge of the tree afterwards -/
theorem removed_merge_head_kept (g : Graph) (st st' : St) (d : Nat) (keep loc : Bool)
    (h : uncommit g st d keep loc = .ok st') (old x m : Rev) (hold : st.br.tip = some old)
    (hx : st'.br.tip = some x) (hm : m ∈ (removedMerges g old d).flatten)
    (hh : some m ∈ heads g ((x :: ((removedMerges g old d).reverse.flatten ++ st.parents.tail.reverse)).map some)) :
    m ∈ st'.parents := by
  obtain ⟨old', hold', _, h1⟩ := uncommit_pending g st st' d keep loc h
  rw [hold] at hold'
  cases hold'
  rw [h1 x hx]
  apply filterParents_keeps_heads g _ m _ hh
  simp only [List.mem_cons, List.mem_append]
  right; left
  simp only [List.mem_flatten, List.mem_reverse] at hm ⊢
  exact hm

example :
    let g : Graph := [(4, [3, 2]), (3, [1]), (2, [1]), (1, [])]
    let st : St := { br := { tip := some 4, revno := 3 }, parents := [4] }
    (removedMerges g 4 1 = [[2]] ∧ heads g [some 3, some 2] = [some 3, some 2]) ∧
    uncommit g st 1 false false = .ok { br := { tip := some 3, revno := 2 }, parents := [3, 2] } :=
  ⟨by decide +kernel, rfl⟩

/-- after every successful uncommit the tree's basis is the branch tip (and a
tree on an empty branch has no parents) -/
theorem uncommit_tree_basis (g : Graph) (st st' : St) (d : Nat) (keep loc : Bool)
    (h : uncommit g st d keep loc = .ok st') : st'.parents.head? = st'.br.tip := by
  obtain ⟨old, _, h0, h1⟩ := uncommit_pending g st st' d keep loc h
  cases ht : st'.br.tip with
  | none => rw [h0 ht]; rfl
  | some x => rw [h1 x ht]; simp [filterParents]

example : uncommit [(2, [1, 3]), (3, []), (1, [])] { br := { tip := some 2, revno := 2 }, parents := [2] } 2 false false
    = .ok { br := { tip := none, revno := 0 }, parents := [] } := by
  rfl

/-! ### tags -/

/-- A tag name is removed iff some tag of that name sits on a revision that is
an ancestor of the old tip and of none of the new parents (new tip and pending
merges): exactly the revisions that left the history. -/
theorem tags_dropped_iff (g : Graph) (tags : Tags) (old : Rev) (parents : List Rev) (n : Nat) :
    n ∈ removedTags g tags old parents ↔
      ∃ r, (n, r) ∈ tags ∧ r ∈ anc g old ∧ ∀ p ∈ parents, r ∉ anc g p :=
  mem_removedTags g tags old parents n

/-- The branch's tags after an uncommit without `keep_tags`: a tag stays iff
its revision did not leave the history. -/
theorem tags_after_uncommit (g : Graph) (st st' : St) (d : Nat) (loc : Bool)
    (h : uncommit g st d false loc = .ok st') :
    ∃ old t pm, st.br.tip = some old ∧ walk g old d st.parents.tail = .ok (t, pm) ∧
      ∀ tag, tag ∈ st'.br.tags ↔
        tag ∈ st.br.tags ∧ ¬ (tag.2 ∈ anc g old ∧ ∀ p ∈ newParents t pm, tag.2 ∉ anc g p) := by
  obtain ⟨old, t, pm, htip, hw, rfl⟩ := uncommit_ok_inv g st st' d false loc h
  refine ⟨old, t, pm, htip, hw, ?_⟩
  intro tag
  simp only [finish, Bool.false_eq_true, if_false]
  exact mem_keepTagsOutside g st.br.tags old _ tag

/-- with `keep_tags` no tag of the branch or of its master is touched -/
theorem tags_kept (g : Graph) (st st' : St) (d : Nat) (loc : Bool)
    (h : uncommit g st d true loc = .ok st') :
    st'.br.tags = st.br.tags ∧ st'.master.map (·.tags) = st.master.map (·.tags) := by
  obtain ⟨old, t, pm, htip, hw, rfl⟩ := uncommit_ok_inv g st st' d true loc h
  refine ⟨rfl, ?_⟩
  cases hm : st.master <;> simp [finish, dropTags_nil, hm]

/-- a tag on the new tip or on any of its ancestors survives -/
theorem tags_on_new_ancestry_survive (g : Graph) (st st' : St) (d : Nat) (loc : Bool)
    (h : uncommit g st d false loc = .ok st') (tag : Nat × Rev) (htag : tag ∈ st.br.tags)
    (x : Rev) (hx : st'.br.tip = some x) (hanc : tag.2 ∈ anc g x) : tag ∈ st'.br.tags := by
  obtain ⟨old, t, pm, htip, hw, hiff⟩ := tags_after_uncommit g st st' d loc h
  obtain ⟨old', htip', hnth, _⟩ := uncommit_tip g st st' d false loc h
  rw [htip] at htip'
  cases htip'
  have ht : t = some x := by
    have := (walk_ok g old d _ t pm hw).1
    rw [this] at hnth
    cases hnth
    exact hx
  rw [hiff]
  refine ⟨htag, ?_⟩
  rintro ⟨_, h2⟩
  exact h2 x (by simp [ht, newParents]) hanc

/-- **Master tags.**  After an uncommit without `keep_tags` a tag of the master
stays iff no tag OF THE SAME NAME in the bound branch sat on a revision that
left the history (the removal is computed from the bound branch's tags and
applied to the master by name — `local` or not) -/
theorem master_tags_after_uncommit (g : Graph) (st st' : St) (d : Nat) (loc : Bool)
    (h : uncommit g st d false loc = .ok st') :
    ∃ old t pm, st.br.tip = some old ∧ walk g old d st.parents.tail = .ok (t, pm) ∧
      st'.master.map (·.tags) =
        st.master.map (fun m => dropTags m.tags (removedTags g st.br.tags old (newParents t pm))) ∧
      ∀ m m', st.master = some m → st'.master = some m' → ∀ tag, tag ∈ m'.tags ↔
        tag ∈ m.tags ∧ ¬ ∃ r, (tag.1, r) ∈ st.br.tags ∧ r ∈ anc g old ∧ ∀ p ∈ newParents t pm, r ∉ anc g p := by
  obtain ⟨old, t, pm, htip, hw, rfl⟩ := uncommit_ok_inv g st st' d false loc h
  refine ⟨old, t, pm, htip, hw, ?_, ?_⟩
  · cases hm : st.master <;> simp [finish, hm]
  · intro m m' hm hm' tag
    simp only [finish, hm, Option.map_some, Option.some.injEq, Bool.false_eq_true, if_false] at hm'
    subst hm'
    simp only [dropTags, List.mem_filter, Bool.not_eq_true', ← mem_removedTags]
    simp

example :
    uncommit [(2, [1]), (1, [])]
        { br := { tip := some 2, revno := 2, tags := [(7, 2), (8, 1)] },
          master := some { tip := some 2, revno := 2, tags := [(7, 2), (8, 1), (9, 2)] }, parents := [2] } 1 false false
      = .ok { br := { tip := some 1, revno := 1, tags := [(8, 1)] },
              master := some { tip := some 1, revno := 1, tags := [(8, 1), (9, 2)] }, parents := [1] } := by
  rfl

/-! ### `tree=None` and `dry_run=True` -/

/-- **No tree.**  `uncommit(branch, tree=None)` moves the tip to the same
left-hand ancestor, leaves the tree's parent list alone and — because the
removed merges are not re-recorded anywhere — keeps a tag iff its revision is
still an ancestor of the new tip (or never was one of the old tip) -/
theorem uncommit_no_tree (g : Graph) (st st' : St) (d : Nat) (keep loc : Bool)
    (h : uncommitNoTree g st d keep loc = .ok st') :
    ∃ old, st.br.tip = some old ∧ lhNth g old d = .ok st'.br.tip ∧ st'.br.revno + d = st.br.revno ∧
      st'.parents = st.parents ∧
      (keep = true → st'.br.tags = st.br.tags) ∧
      (keep = false → ∀ tag, tag ∈ st'.br.tags ↔
        tag ∈ st.br.tags ∧ ¬ (tag.2 ∈ anc g old ∧ ∀ x, st'.br.tip = some x → tag.2 ∉ anc g x)) := by
  obtain ⟨old, t, pm, htip, hw, hd, rfl⟩ := uncommitNoTree_ok_inv g st st' d keep loc h
  refine ⟨old, htip, (walk_ok g old d _ t pm hw).1, Nat.sub_add_cancel hd, rfl, ?_, ?_⟩
  · intro hk; subst hk; simp [finish]
  · intro hk tag
    subst hk
    simp only [finish, Bool.false_eq_true, if_false]
    rw [mem_keepTagsOutside]
    cases t <;> simp [newParents]

/-- with and without a tree the branch ends at the same tip and revno -/
theorem no_tree_same_branch (g : Graph) (st s1 s2 : St) (d : Nat) (k1 k2 loc : Bool)
    (h1 : uncommit g st d k1 loc = .ok s1) (h2 : uncommitNoTree g st d k2 loc = .ok s2) :
    s2.br.tip = s1.br.tip ∧ s2.br.revno = s1.br.revno := by
  obtain ⟨o1, ht1, hn1, hr1, _⟩ := uncommit_tip g st s1 d k1 loc h1
  obtain ⟨o2, ht2, hn2, hr2, _⟩ := uncommit_no_tree g st s2 d k2 loc h2
  rw [ht1] at ht2
  cases ht2
  rw [hn1] at hn2
  exact ⟨(Except.ok.inj hn2).symm, Nat.add_right_cancel (hr2.trans hr1.symm)⟩

example : uncommitNoTree [(4, [3, 2]), (3, [1]), (2, [1]), (1, [])]
      { br := { tip := some 4, revno := 3, tags := [(5, 2), (6, 3)] }, parents := [4] } 1 false false
    = .ok { br := { tip := some 3, revno := 2, tags := [(6, 3)] }, parents := [4] } := by rfl

/-- **Dry run.**  Nothing changes … -/
theorem dry_run_unchanged (g : Graph) (st st' : St) (d : Nat) (keep loc : Bool)
    (h : uncommitDry g st d keep loc = .ok st') : st' = st := by
  unfold uncommitDry at h
  split at h
  · cases h
  · cases h; rfl

/-- … and it fails exactly when the real run fails, with the same error -/
theorem dry_run_same_errors (g : Graph) (st : St) (d : Nat) (keep loc : Bool) (e : Err) :
    uncommitDry g st d keep loc = .error e ↔ uncommit g st d keep loc = .error e := by
  unfold uncommitDry
  cases uncommit g st d keep loc <;> simp

/-- **Witness (finding).**  `uncommit --local` in a bound branch removes the
tag from the MASTER as well, although the master keeps the revision (family
`local-uncommit-deletes-master-tags`). -/
theorem local_uncommit_master_tags_witness :
    uncommit [(2, [1]), (1, [])]
        { br := { tip := some 2, revno := 2, tags := [(7, 2)] },
          master := some { tip := some 2, revno := 2, tags := [(7, 2)] }, parents := [2] } 1 false true
      = .ok { br := { tip := some 1, revno := 1, tags := [] },
              master := some { tip := some 2, revno := 2, tags := [] }, parents := [1] } := by
  rfl

end BreezyVerif.C16
