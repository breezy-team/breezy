import BreezyVerif.Lemmas.C43Uploads
/-!
C43 — theorems.
-/
namespace BreezyVerif.C43

example : Independent [("a", ".tmp.0"), ("b", ".tmp.1")] := by
  unfold Independent
  decide +kernel

/-- the order in which the renames are staged -/
def stagingOrder (c : Cfg) (rs : List (String × String)) : List (String × String) :=
  match c.renames with
  | .asFound => rs
  | .childrenFirst => rs.reverse

/-- the two rounds behind `upload_renames_reach_tree_partial`, for any staging order `rs'` that is a
permutation of the renames and any finishing order `L` that is a permutation of the staged ones -/
theorem reach_core (c : Cfg) (t : Tree) (kids : Kids) (rs rs' : List (String × String)) (L : List (Nat × Path))
    (hrs : rs'.Perm rs) (hLperm : L.Perm (pendOf rs' 0))
    (hup : ∀ kS, seqRename (.dir kids) (stageMoves rs' 0) = (.dir kS, none) →
      uploadInc c [] t { renamed := toRenamed rs } (.dir kids) = finishRen (.dir kS) L)
    (hst : Independent (stageMoves rs' 0)) (hfi : Independent (finishMoves rs' 0))
    (hsrc : ∀ r ∈ rs, kget kids r.1 ≠ none)
    (hstamp : ∀ m ∈ stageMoves rs' 0, kget kids m.2 = none)
    (hnew : ∀ r ∈ rs, kget kids r.2 = none ∨ r.2 ∈ rs.map (·.1)) :
    ∃ kids', uploadInc c [] t { renamed := toRenamed rs } (.dir kids) = (.dir kids', none)
      ∧ (∀ r ∈ rs, kget kids' r.2 = kget kids r.1)
      ∧ (∀ x, x ∉ rs.map (·.2) → kget kids' x = if x ∈ rs.map (·.1) then none else kget kids x) := by
  have hmem : ∀ r, r ∈ rs' ↔ r ∈ rs := fun _ => hrs.mem_iff
  have hmem1 : ∀ x, x ∈ rs'.map (·.1) ↔ x ∈ rs.map (·.1) := fun _ => (hrs.map _).mem_iff
  have hmem2 : ∀ x, x ∈ rs'.map (·.2) ↔ x ∈ rs.map (·.2) := fun _ => (hrs.map _).mem_iff
  -- round 1: staging
  have hsrc1 : ∀ m ∈ stageMoves rs' 0, kget kids m.1 ≠ none := by
    intro m hm
    have : m.1 ∈ (stageMoves rs' 0).map (·.1) := List.mem_map.mpr ⟨m, hm, rfl⟩
    rw [stageMoves_srcs] at this
    obtain ⟨r, hr, he⟩ := List.mem_map.mp this
    rw [← he]
    exact hsrc r ((hmem r).mp hr)
  obtain ⟨kS, hrunS, hS⟩ := rename_exec_independent (stageMoves rs' 0) hst kids hsrc1 hstamp
  -- round 2: finishing, in the order the discipline prescribes
  have hLtop : TopLevel L := fun p hp => topLevel_pendOf rs' 0 p (hLperm.mem_iff.mp hp)
  have hperm : (L.map pendMove).Perm (finishMoves rs' 0) := by
    rw [← pendMove_pendOf]; exact hLperm.map _
  have hfi' : Independent (L.map pendMove) := Independent.perm hperm.symm hfi
  have hsrcs : ∀ x, x ∈ (L.map pendMove).map (·.1) ↔ x ∈ (stageMoves rs' 0).map (·.2) := by
    intro x; rw [← finishMoves_srcs]; exact (hperm.map _).mem_iff
  have hdsts : ∀ x, x ∈ (L.map pendMove).map (·.2) ↔ x ∈ rs.map (·.2) := by
    intro x; rw [← hmem2, ← finishMoves_dsts rs' 0]; exact (hperm.map _).mem_iff
  have hsrc2 : ∀ m ∈ L.map pendMove, kget kS m.1 ≠ none := by
    intro m hm
    have : m.1 ∈ (stageMoves rs' 0).map (·.2) := (hsrcs m.1).mp (List.mem_map.mpr ⟨m, hm, rfl⟩)
    obtain ⟨m', hm', he⟩ := List.mem_map.mp this
    rw [hS, ← he, movesSpec_dst _ _ hst.2.1 m'.1 m'.2 hm']
    exact hsrc1 m' hm'
  have hnostamp : ∀ x ∈ rs.map (·.2), x ∉ (stageMoves rs' 0).map (·.2) := by
    intro x hx hx2
    exact hfi'.2.2 x ((hsrcs x).mpr hx2) ((hdsts x).mpr hx)
  have hS_new : ∀ x ∈ rs.map (·.2), kget kS x = none := by
    intro x hx
    rw [hS, movesSpec_not_dst _ _ _ (hnostamp x hx), stageMoves_srcs]
    obtain ⟨r, hr, he⟩ := List.mem_map.mp hx
    rw [← he]
    rcases hnew r hr with h | h
    · rw [h, ite_self]
    · rw [if_pos ((hmem1 r.2).mpr h)]
  have hdst2 : ∀ m ∈ L.map pendMove, kget kS m.2 = none := by
    intro m hm
    exact hS_new _ ((hdsts m.2).mp (List.mem_map.mpr ⟨m, hm, rfl⟩))
  obtain ⟨kF, hrunF, hF⟩ := rename_exec_independent (L.map pendMove) hfi' kS hsrc2 hdst2
  refine ⟨kF, ?_, ?_, ?_⟩
  · rw [hup kS hrunS, finishRen_eq_moves _ _ hLtop, hrunF]
  · intro r hr
    obtain ⟨s, h1, h2⟩ := via_stamp rs' 0 r ((hmem r).mpr hr)
    rw [hF, movesSpec_dst _ _ hfi'.2.1 s r.2 (hperm.mem_iff.mpr h2), hS, movesSpec_dst _ _ hst.2.1 r.1 s h1]
  · intro x hx
    have hx' : x ∉ (L.map pendMove).map (·.2) := fun h => hx ((hdsts x).mp h)
    rw [hF, movesSpec_not_dst _ _ _ hx']
    by_cases hs : x ∈ (stageMoves rs' 0).map (·.2)
    · -- a temporary name: gone afterwards, absent before, and never an old name
      obtain ⟨m, hm, he⟩ := List.mem_map.mp hs
      have h0 : kget kids x = none := by rw [← he]; exact hstamp m hm
      rw [if_pos ((hsrcs x).mpr hs), h0, ite_self]
    · have hs' : x ∉ (L.map pendMove).map (·.1) := fun h => hs ((hsrcs x).mp h)
      rw [if_neg hs', hS, movesSpec_not_dst _ _ _ hs, stageMoves_srcs]
      by_cases ho : x ∈ rs.map (·.1)
      · rw [if_pos ho, if_pos ((hmem1 x).mpr ho)]
      · rw [if_neg ho, if_neg fun h => ho ((hmem1 x).mp h)]
/-- **The staged rename plan reaches the tree** (part): for BOTH rename
disciplines (as found: delta order; children first: reverse delta order,
finished in the order of the new paths — what the code does since the fix),
every remote directory `kids` (entries of any kind, directories with arbitrary
content) and every set `rs` of renames `(old name, new name)` of top-level
entries — swaps, cycles and chains included: a new name may be the old name of
another rename — the incremental upload of a delta consisting of these renames
succeeds, every new name holds exactly what its old name held, every old name
that is not also a new name is gone, and every other entry is untouched.

Hypotheses (all decidable on concrete data): the temporary names are distinct
from each other and from all old/new names (`Independent` of the two rounds),
absent from the remote; the old names exist; a new name is free or vacated.

Partial: renames of entries below the top level, and deltas that mix renames
with other changes, are covered by the correspondence check only (the nested
shapes by `children_first_fixes_witnesses`). -/
theorem upload_renames_reach_tree_partial (c : Cfg) (t : Tree) (kids : Kids)
    (rs : List (String × String))
    (hst : Independent (stageMoves (stagingOrder c rs) 0)) (hfi : Independent (finishMoves (stagingOrder c rs) 0))
    (hsrc : ∀ r ∈ rs, kget kids r.1 ≠ none)
    (hstamp : ∀ m ∈ stageMoves (stagingOrder c rs) 0, kget kids m.2 = none)
    (hnew : ∀ r ∈ rs, kget kids r.2 = none ∨ r.2 ∈ rs.map (·.1)) :
    ∃ kids', uploadInc c [] t { renamed := toRenamed rs } (.dir kids) = (.dir kids', none)
      ∧ (∀ r ∈ rs, kget kids' r.2 = kget kids r.1)
      ∧ (∀ x, x ∉ rs.map (·.2) → kget kids' x = if x ∈ rs.map (·.1) then none else kget kids x) := by
  refine reach_core c t kids rs (stagingOrder c rs)
    (match c.renames with
      | .asFound => pendOf (stagingOrder c rs) 0
      | .childrenFirst => sortByNew (pendOf (stagingOrder c rs) 0)) ?_ ?_ ?_ hst hfi hsrc hstamp hnew
  · unfold stagingOrder
    cases c.renames
    · exact .refl _
    · exact List.reverse_perm _
  · cases c.renames
    · exact .refl _
    · exact perm_sortByNew _
  · -- the plan: the staging steps, then `finish_renames` in the order of the discipline; nothing else
    intro kS h
    have hren : renOrder c { renamed := toRenamed rs } = toRenamed (stagingOrder c rs) := by
      unfold renOrder stagingOrder toRenamed
      cases c.renames
      · rfl
      · exact List.map_reverse.symm
    rw [uploadInc, planInc_eq, hren]
    simp only [rmL, kcL, adL, mdL, List.filter_nil, List.map_nil, List.flatMap_nil, List.nil_append, List.append_nil]
    rw [run_append, run_stage _ t _ 0 { root := .dir kids } (.dir kS) h]
    simp only [run, exec, List.nil_append]
    cases finishRen (.dir kS) _ with
    | mk a b => cases b <;> rfl

/-- a swap and a three-cycle at once satisfy the hypotheses -/
example : let rs := [("a", "b"), ("b", "a"), ("x", "y"), ("y", "z"), ("z", "x")]
    let rs' := stagingOrder { renames := .childrenFirst } rs
    Independent (stageMoves rs' 0) ∧ Independent (finishMoves rs' 0) ∧
    ∀ r ∈ rs, r.2 ∈ rs.map (·.1) := by
  unfold Independent
  decide +kernel

/-! ### witnesses of the failing families (each reproduced on the real code by the check) -/

def present (r : Node × Option Err) (p : Path) : Bool := (lookup r.1 p).isSome

def isFile (r : Node × Option Err) (p : Path) (c : String) (x : Bool) : Bool :=
  match lookup r.1 p with
  | some (.file c' x') => c' == c && x' == x
  | _ => false

def isLink (r : Node × Option Err) (p : Path) (t : String) : Bool :=
  match lookup r.1 p with
  | some (.link t') => t' == t
  | _ => false

def remoteDF : Node := .dir [("d", .dir [("f", .file "x" false)])]

def treeEG : Tree := [⟨["e"], .dir, "", false, ""⟩, ⟨["e", "g"], .file, "x", false, ""⟩]

def deltaNested : Delta := { renamed := [⟨["d"], ["e"], false⟩, ⟨["d", "f"], ["e", "g"], false⟩] }

/-- **F13**: a revision renames `d` to `e` and `d/f` to `e/g`.  The directory
is staged first, so the old path of the child no longer exists: the upload
stops with NoSuchFile and leaves `d` parked under the temporary name. -/
theorem nested_rename_witness :
    let r := uploadInc {} [] treeEG deltaNested remoteDF
    r.2 = some .noSuchFile ∧ present r [".tmp.0", "f"] = true ∧ present r ["e"] = false
      ∧ present r ["d"] = false := by decide +kernel

def remoteDS : Node := .dir [("d", .dir [("s", .dir [])])]

def treeS2 : Tree := [⟨["s2"], .dir, "", false, ""⟩, ⟨["s2", "d"], .dir, "", false, ""⟩]

def deltaNested2 : Delta := { renamed := [⟨["d"], ["s2", "d"], false⟩, ⟨["d", "s"], ["s2"], false⟩] }

/-- the second shape: `d/s` becomes `s2` and `d` moves into it -/
theorem nested_rename_second_witness :
    let r := uploadInc {} [] treeS2 deltaNested2 remoteDS
    r.2 = some .noSuchFile ∧ present r [".tmp.0", "s"] = true ∧ present r ["s2"] = false := by decide +kernel

/-- staging children first and finishing parents first handles both -/
theorem children_first_fixes_witnesses :
    let c : Cfg := { renames := .childrenFirst }
    let r1 := uploadInc c [] treeEG deltaNested remoteDF
    let r2 := uploadInc c [] treeS2 deltaNested2 remoteDS
    r1.2 = none ∧ isFile r1 ["e", "g"] "x" false = true ∧ present r1 ["d"] = false
      ∧ present r1 [".tmp.0"] = false ∧ present r1 [".tmp.1"] = false
      ∧ r2.2 = none ∧ present r2 ["s2", "d"] = true ∧ present r2 ["d"] = false := by decide +kernel

/-- a file moved into a directory that the same revision adds: the rename is
finished before the directory is created (both disciplines) -/
theorem rename_into_new_dir_witness :
    let t : Tree := [⟨["n"], .dir, "", false, ""⟩, ⟨["n", "a"], .file, "x", false, ""⟩]
    let d : Delta := { renamed := [⟨["a"], ["n", "a"], false⟩], added := [["n"]] }
    let remote : Node := .dir [("a", .file "x" false)]
    (uploadInc {} [] t d remote).2 = some .noSuchFile ∧
    (uploadInc { renames := .childrenFirst } [] t d remote).2 = some .noSuchFile ∧
    present (uploadInc {} [] t d remote) [".tmp.0"] = true := by decide +kernel

/-- symlinks: added below the top level (InvalidURL), re-targeted (FileExists),
over a file in a full upload (FileExists) — and the robust variant handles all -/
theorem symlink_families_witness :
    let tl : Tree := [⟨["d"], .dir, "", false, ""⟩, ⟨["d", "l"], .symlink, "", false, "t1"⟩]
    let r1 := fun c => uploadInc c [] tl { added := [["d", "l"]] } (.dir [("d", .dir [])])
    let t2 : Tree := [⟨["l"], .symlink, "", false, "t2"⟩]
    let r2 := fun c => uploadInc c [] t2 { modified := [["l"]] } (.dir [("l", .link "t1")])
    let r3 := fun c => uploadFull c [] t2 (.dir [("l", .file "x" false)])
    (r1 {}).2 = some .invalidURL ∧ (r2 {}).2 = some .fileExists ∧ (r3 {}).2 = some .fileExists ∧
    (r1 { robustSymlinks := true }).2 = none ∧ isLink (r1 { robustSymlinks := true }) ["d", "l"] "t1" = true ∧
    (r2 { robustSymlinks := true }).2 = none ∧ isLink (r2 { robustSymlinks := true }) ["l"] "t2" = true ∧
    (r3 { robustSymlinks := true }).2 = none ∧ isLink (r3 { robustSymlinks := true }) ["l"] "t2" = true := by decide +kernel

/-- a renamed symlink whose target changed is re-uploaded as an empty regular
file; a file renamed and made executable keeps its old mode -/
theorem renamed_as_file_witness :
    let r := uploadInc {} [] [⟨["m"], .symlink, "", false, "t2"⟩] { renamed := [⟨["l"], ["m"], true⟩] }
      (.dir [("l", .link "t1")])
    let r' := uploadInc {} [] [⟨["g"], .file, "x", true, ""⟩] { renamed := [⟨["f"], ["g"], false⟩] }
      (.dir [("f", .file "x" false)])
    r.2 = none ∧ isFile r ["m"] "" false = true ∧ r'.2 = none ∧ isFile r' ["g"] "x" false = true := by decide +kernel

/-- a file below a directory becomes a symlink while the directory is renamed:
the old object is deleted at its OLD path after the renames are finished
(NoSuchFile); deleting at the new path works -/
theorem kind_change_below_renamed_dir_witness :
    let t : Tree := [⟨["e"], .dir, "", false, ""⟩, ⟨["e", "a"], .symlink, "", false, "t1"⟩]
    let d : Delta := { renamed := [⟨["d"], ["e"], false⟩], kindChanged := [⟨["d", "a"], ["e", "a"], .file, .symlink⟩] }
    let remote : Node := .dir [("d", .dir [("a", .file "x" false)])]
    let c : Cfg := { renames := .childrenFirst, robustSymlinks := true }
    (uploadInc c [] t d remote).2 = some .noSuchFile ∧
    (uploadInc { c with kindChangeAtNew := true } [] t d remote).2 = none ∧
    isLink (uploadInc { c with kindChangeAtNew := true } [] t d remote) ["e", "a"] "t1" = true := by decide +kernel

/-- deferred directory deletions run after the renames are finished, with the
old paths: (1) a directory removed below a renamed directory is no longer
there (NoSuchFile); (2) a directory renamed onto the path of a removed
directory is what the deferred rmdir then finds (DirectoryNotEmpty) -/
theorem deferred_deletion_witnesses :
    let c : Cfg := { renames := .childrenFirst, robustSymlinks := true }
    let r1 := uploadInc c [] [⟨["e"], .dir, "", false, ""⟩, ⟨["e", "f"], .file, "2", false, ""⟩]
      { removed := [⟨["a", "d"], .dir⟩, ⟨["a", "d", "b"], .file⟩], renamed := [⟨["a"], ["e"], false⟩] }
      (.dir [("a", .dir [("d", .dir [("b", .file "1" false)]), ("f", .file "2" false)])])
    let r2 := uploadInc c [] [⟨["a"], .dir, "", false, ""⟩, ⟨["e"], .file, "1", false, ""⟩, ⟨["a", "b"], .file, "2", false, ""⟩]
      { removed := [⟨["a"], .dir⟩], renamed := [⟨["a", "a"], ["e"], false⟩, ⟨["d"], ["a"], false⟩] }
      (.dir [("a", .dir [("a", .file "1" false)]), ("d", .dir [("b", .file "2" false)])])
    r1.2 = some .noSuchFile ∧ present r1 ["e", "d"] = true ∧
    r2.2 = some .dirNotEmpty ∧ isFile r2 ["a", "b"] "2" false = true := by decide +kernel

/-- ... and (3) when the new occupant is an EMPTY directory the deferred rmdir
succeeds: the upload reports no error and the directory is gone from the remote -/
theorem deferred_deletion_empty_occupant_witness :
    let c : Cfg := { renames := .childrenFirst, robustSymlinks := true, kindChangeAtNew := true }
    let r := uploadInc c [] [⟨["a"], .dir, "", false, ""⟩]
      { removed := [⟨["a"], .dir⟩, ⟨["a", "b"], .file⟩], renamed := [⟨["d"], ["a"], false⟩] }
      (.dir [("a", .dir [("b", .file "1" false)]), ("d", .dir [])])
    r.2 = none ∧ present r ["a"] = false ∧ present r ["d"] = false := by decide +kernel

/-- the hypotheses of `upload_renames_reach_tree_partial` on a concrete remote: a file, a directory with
content and an executable exchange their names in a cycle while a fourth entry stays -/
example :
    let kids : Kids := [("a", .file "1" false), ("b", .dir [("x", .link "t")]), ("c", .file "3" true), ("k", .file "4" false)]
    let rs := [("a", "b"), ("b", "c"), ("c", "a")]
    let c : Cfg := { renames := .childrenFirst, robustSymlinks := true, kindChangeAtNew := true }
    Independent (stageMoves (stagingOrder c rs) 0) ∧ Independent (finishMoves (stagingOrder c rs) 0) ∧
    (∀ r ∈ rs, kget kids r.1 ≠ none) ∧ (∀ m ∈ stageMoves (stagingOrder c rs) 0, kget kids m.2 = none) ∧
    (∀ r ∈ rs, kget kids r.2 = none ∨ r.2 ∈ rs.map (·.1)) ∧
    (uploadInc c [] [] { renamed := toRenamed rs } (.dir kids)).2 = none := by
  unfold Independent
  decide +kernel

/-- `upload --full` onto an existing remote never deletes what left the tree -/
theorem full_upload_keeps_stale_witness :
    let r := uploadFull {} [] [⟨["a"], .file, "x", false, ""⟩] (.dir [("a", .file "old" false), ("gone", .file "y" false)])
    r.2 = none ∧ isFile r ["a"] "x" false = true ∧ present r ["gone"] = true := by decide +kernel

/-- a rename with exactly one side ignored addresses a path that was never uploaded -/
theorem ignored_rename_boundary_witness :
    (uploadInc {} ["a"] [⟨["d"], .file, "x", false, ""⟩] { renamed := [⟨["a"], ["d"], false⟩] } (.dir [])).2
      = some .noSuchFile := by decide +kernel

/-- the paths a plan may address: not ignored, or a temporary name -/
def okPath (ign : List String) (p : Path) : Prop := ignored ign p = false ∨ ∃ k, p = stamp k

theorem symlinkStep_paths (c : Cfg) (p : Path) (tg : String) : (symlinkStep c p tg).paths = [p] := by
  unfold symlinkStep
  split <;> rfl

/-- the steps that create (or re-upload) the entry at `p` address `p` only -/
theorem createSteps_paths {c : Cfg} {t : Tree} {p : Path} {st : Step} {q : Path}
    (hst : st ∈ createSteps c t p ∨ st ∈ modSteps c t p) (hq : q ∈ st.paths) : q = p := by
  unfold createSteps modSteps at hst
  revert hst
  cases t.find p with
  | none =>
    rintro (h | h) <;> (cases List.mem_singleton.mp h; cases hq)
  | some e =>
    dsimp only
    cases e.kind with
    | file => rintro (h | h) <;> (cases List.mem_singleton.mp h; exact List.mem_singleton.mp hq)
    | dir =>
      rintro (h | h)
      · cases List.mem_singleton.mp h; exact List.mem_singleton.mp hq
      · cases List.mem_singleton.mp h; cases hq
    | symlink =>
      rintro (h | h) <;>
        (cases List.mem_singleton.mp h; rw [symlinkStep_paths] at hq; exact List.mem_singleton.mp hq)

theorem renameSteps_ok (ign : List String) (rs : List Renamed) (k : Nat)
    (hb : ∀ r ∈ rs, ignored ign r.old = ignored ign r.new) :
    ∀ st ∈ renameSteps ign rs k, ∀ q ∈ st.paths, okPath ign q := by
  induction rs generalizing k with
  | nil => exact fun st hst => nomatch hst
  | cons r rs ih =>
    intro st hst q hq
    have hb' := fun x hx => hb x (List.mem_cons_of_mem _ hx)
    rw [renameSteps] at hst
    split at hst
    · exact ih k hb' st hst q hq
    next hi =>
    -- the two sides lie on the same side of the ignore boundary and are not both ignored
    have hbr := hb r List.mem_cons_self
    have ho : ignored ign r.old = false := by
      cases h1 : ignored ign r.old with
      | false => rfl
      | true => rw [← hbr, h1] at hi; exact absurd rfl hi
    rcases List.mem_append.mp hst with h | h
    · split at h
      · cases List.mem_singleton.mp h; cases List.mem_singleton.mp hq; exact Or.inl ho
      · cases h
    · rcases List.mem_cons.mp h with rfl | h
      · simp only [Step.paths, List.mem_cons, List.not_mem_nil, or_false] at hq
        rcases hq with rfl | rfl | rfl
        · exact Or.inl ho
        · exact Or.inr ⟨k, rfl⟩
        · exact Or.inl (hbr ▸ ho)
      · exact ih (k + 1) hb' st h q hq

/-- **Ignored paths are never addressed.**  For every tree, delta and ignore
list in which no rename (and no kind change below a renamed directory) crosses
the ignore boundary, every remote path named
by a step of the incremental plan (either discipline, either symlink variant)
(the new path of a rename included) is a path that is not ignored, or one of
the temporary names; and a full upload names only paths that are not ignored.
The paths of `finish_renames` / `finish_deletions` are those recorded by the
`stage` / `rmdirMaybe` steps.  The statement about the remote STATE is
`incremental_upload_reaches_tree_partial` (ignored paths keep their listing).  (`ignored_rename_boundary_witness`
shows what happens when a rename does cross the boundary.) -/
theorem ignored_never_addressed (c : Cfg) (ign : List String) (t : Tree) (d : Delta)
    (hb : ∀ r ∈ d.renamed, ignored ign r.old = ignored ign r.new)
    (hk : ∀ k ∈ d.kindChanged, ignored ign k.old = ignored ign k.path) :
    (∀ st ∈ planInc c ign t d, ∀ q ∈ st.paths, okPath ign q) ∧
    (∀ st ∈ planFull ign t, ∀ q ∈ st.paths, ignored ign q = false) := by
  constructor
  · intro st hst q hq
    rw [planInc_eq] at hst
    simp only [List.mem_append, List.mem_map, List.mem_flatMap] at hst
    rcases hst with ((((⟨r, hr, rfl⟩ | h) | h) | ⟨k, hk', hst⟩) | ⟨p, hp, hst⟩) | ⟨p, hp, hst⟩
    · -- a removal addresses the removed path
      have : q = r.path := by
        unfold rmStep at hq
        split at hq <;> exact List.mem_singleton.mp hq
      exact Or.inl (this ▸ (mem_rmL.mp hr).2)
    · exact renameSteps_ok ign _ 0 (fun r hr => hb r ((renOrder_mem c d r).mp hr)) st h q hq
    · rcases List.mem_cons.mp h with rfl | h
      · cases hq
      · cases List.mem_singleton.mp h; cases hq
    · -- a kind change addresses the old or the new path of the entry, both not ignored
      have hkp := (mem_kcL.mp hk').2
      rcases List.mem_append.mp hst with h | h
      · have hq' : q = if c.kindChangeAtNew then k.path else k.old := by
          split at h <;> (cases List.mem_singleton.mp h; exact List.mem_singleton.mp hq)
        have hP : ignored ign (if c.kindChangeAtNew then k.path else k.old) = false := by
          split
          · exact hkp
          · exact (hk k (mem_kcL.mp hk').1).trans hkp
        exact Or.inl (hq' ▸ hP)
      · exact Or.inl (createSteps_paths (Or.inl h) hq ▸ hkp)
    · exact Or.inl (createSteps_paths (Or.inl hst) hq ▸ (mem_adL.mp hp).2)
    · exact Or.inl (createSteps_paths (Or.inr hst) hq ▸ (mem_mdL.mp hp).2)
  · intro st hst q hq
    rw [planFull_eq] at hst
    obtain ⟨e, he, rfl⟩ := List.mem_map.mp hst
    have h2 := (List.mem_filter.mp he).2
    simp only [keepFull, Bool.and_eq_true, Bool.not_eq_true'] at h2
    have : q = e.path := by
      unfold fullStep at hq
      split at hq <;> exact List.mem_singleton.mp hq
    exact this ▸ h2.2

example : ∀ r ∈ ([⟨["a"], ["b"], false⟩] : List Renamed), ignored ["x"] r.old = ignored ["x"] r.new := by decide +kernel

/-- **A full upload onto an empty remote yields exactly the tree.**  For every
uploader variant, every ignore list and every well-formed tree (any size and
depth; `treeWF`: distinct non-empty paths, parents listed before their children
as `iter_entries_by_dir` does, the two special names not directories) the full
upload succeeds and the remote listing is, path by path, the tree's listing
(kind, content, executable bit, link target) on the paths that are neither
ignored nor one of the two special files, and empty everywhere else. -/
theorem full_upload_onto_empty_reaches_tree (c : Cfg) (ign : List String) (t : Tree) (hbad : c.badLinks = [])
    (hwf : treeWF t = true) :
    ∃ r', uploadFull c ign t (.dir []) = (r', none) ∧
      (∀ q, q ≠ [] → look r' q = if ignored ign q || special q then none else t.look q) ∧
      Matches ign t r' ∧ Clean ign r' := by
  obtain ⟨r', h1, h2⟩ := uploadFull_empty c ign t hbad hwf
  exact ⟨r', h1, h2.2, h2.matches.1, h2.matches.2.1⟩

/-- **A full upload is idempotent.**  For every uploader variant that escapes its
symlink paths, every ignore list, every well-formed tree and EVERY remote that
already shows the tree on the paths that are not ignored (whatever it holds at
ignored paths): the full upload succeeds and every path of the listing -
ignored or not - shows exactly what it showed before.  In particular a second
full upload right after the first changes nothing. -/
theorem full_upload_idempotent (c : Cfg) (ign : List String) (t : Tree) (remote : Node) (hbad : c.badLinks = [])
    (hwf : treeWF t = true) (hm : Matches ign t remote) :
    ∃ r', uploadFull c ign t remote = (r', none) ∧ (∀ q, look r' q = look remote q) ∧ Matches ign t r' := by
  obtain ⟨hfind, hwfp⟩ := treeWF_facts hwf
  obtain ⟨r', h1, h2, h3⟩ := uploadFull_any c ign t remote hbad hwf fun e he hkeep => by
    -- the remote shows the copied entry already, so nothing is in the way
    have hp := (hwfp e he).1
    obtain ⟨hi, hsp⟩ := (keepFull_iff ign e hp).mp hkeep
    have hs : look remote e.path = some e.obs := by
      rcases hm e.path hp hi with h | h
      · rw [h, tlook_of_find (hfind e he)]
      · rw [hsp] at h; cases h.1
    refine ⟨fun h0 => h0 ▸ look_parent' remote e.path hp (by rw [hs]; exact nofun), ?_, ?_⟩
    · rw [hs]; exact fun hkd h => obs_ne_dir hkd (Option.some.inj h)
    · rw [hs]; exact fun hkl => Or.inr fun x b => by rw [obs_link hkl]; exact nofun
  -- a path that is not copied shows what it showed; a copied one shows the tree, as it did
  have hsame : ∀ q, look r' q = look remote q := by
    intro q
    by_cases hq : q = []
    · rw [hq, h2]
    rw [h3 q hq]
    cases hi : ignored ign q with
    | true => rfl
    | false =>
      rcases hm q hq hi with h | h
      · rw [h, ite_self]
      · rw [h.1]; rfl
  exact ⟨r', h1, hsame, fun p hp hi => by rw [hsame p]; exact hm p hp hi⟩

theorem full_upload_twice (c : Cfg) (ign : List String) (t : Tree) (hbad : c.badLinks = []) (hwf : treeWF t = true) :
    ∃ r1 r2, uploadFull c ign t (.dir []) = (r1, none) ∧ uploadFull c ign t r1 = (r2, none) ∧
      ∀ q, look r2 q = look r1 q := by
  obtain ⟨r1, h1, _, h3, _⟩ := full_upload_onto_empty_reaches_tree c ign t hbad hwf
  obtain ⟨r2, g1, g2, _⟩ := full_upload_idempotent c ign t r1 hbad hwf h3
  exact ⟨r1, r2, h1, g1, g2⟩

/-- a tree with nested directories, an executable, a symlink below the top level and the ignore file -/
def exTree1 : Tree :=
  [⟨[".bzrignore-upload"], .file, "b\n", false, ""⟩, ⟨["a"], .dir, "", false, ""⟩, ⟨["f"], .file, "1", true, ""⟩,
   ⟨["k"], .file, "k", false, ""⟩, ⟨["a", "b"], .dir, "", false, ""⟩, ⟨["a", "l"], .symlink, "", false, "t1"⟩,
   ⟨["a", "x"], .dir, "", false, ""⟩, ⟨["a", "b", "g"], .file, "2", false, ""⟩, ⟨["a", "x", "y"], .file, "3", false, ""⟩]

example : treeWF exTree1 = true := by decide +kernel

/-- **Copied paths reach the remote.**  (Only git trees report copies.)  Under the
hypotheses of `incremental_upload_reaches_tree_partial`, every copied path that
is not ignored shows the new tree's entry after the upload - `upload_tree`
treats `changes.added + changes.copied` alike. -/
theorem copied_paths_reach_remote (c : Cfg) (ign : List String) (old new : Tree) (d : Delta)
    (remote : Node) (hrob : c.robustSymlinks = true) (hbad : c.badLinks = []) (hnew : treeWF new = true)
    (hd : deltaOK ign old new d = true) (hroot : look remote [] = some .dir)
    (hm : Matches ign old remote) (hig : NoIgnoredBelow ign d remote) :
    ∃ r', uploadInc c ign new d remote = (r', none) ∧
      ∀ p ∈ d.copied, ignored ign p = false → look r' p = new.look p := by
  obtain ⟨r', h1, h2⟩ := incremental_upload_frame c ign old new d remote hrob hbad hnew hd hroot hm hig
  refine ⟨r', h1, ?_⟩
  intro p hp hi
  rw [h2 p, if_pos (Or.inr (Or.inl (mem_adL.mpr ⟨Or.inr hp, hi⟩)))]

/-- **Dropping `copied` loses exactly those paths.**  `a` is moved to `b` and its
text duplicated at `d/e` (git: renamed a -> b, copied a -> d/e, the new directory
`d` added): with the delta as reported the remote equals the tree; with the
copied list dropped (iterating `changes.added` only) the upload still succeeds,
`d/e` - and nothing else - is missing, and the remote no longer equals the tree. -/
theorem copied_dropped_witness :
    let c : Cfg := { renames := .childrenFirst, robustSymlinks := true, kindChangeAtNew := true }
    let new : Tree := [⟨["b"], .file, "x", false, ""⟩, ⟨["d"], .dir, "", false, ""⟩, ⟨["k"], .file, "k", false, ""⟩,
      ⟨["d", "e"], .file, "x", false, ""⟩]
    let remote : Node := .dir [("a", .file "x" false), ("k", .file "k" false)]
    let d : Delta := { renamed := [⟨["a"], ["b"], false⟩], added := [["d"]], copied := [["d", "e"]] }
    let r := uploadInc c [] new d remote
    let r' := uploadInc c [] new { d with copied := [] } remote
    r.2 = none ∧ look r.1 ["d", "e"] = some (.file "x" false) ∧ look r.1 ["b"] = some (.file "x" false) ∧ look r.1 ["a"] = none ∧
    r'.2 = none ∧ look r'.1 ["d", "e"] = none ∧ look r'.1 ["b"] = look r.1 ["b"] ∧ look r'.1 ["d"] = look r.1 ["d"] ∧
    look r'.1 ["k"] = look r.1 ["k"] ∧ look r'.1 ["a"] = none := by decide +kernel

/-- the successor of `exTree1`: the subtree `a/b` and `k` removed (deferred
directory deletion), `f` modified, `a/l` re-targeted, `a/x` turned into a file
(its child removed), a new directory with a file and a nested symlink added -/
def exTree2 : Tree :=
  [⟨[".bzrignore-upload"], .file, "b\n", false, ""⟩, ⟨["a"], .dir, "", false, ""⟩, ⟨["f"], .file, "11", false, ""⟩,
   ⟨["n"], .dir, "", false, ""⟩, ⟨["a", "l"], .symlink, "", false, "t2"⟩, ⟨["a", "x"], .file, "x", false, ""⟩,
   ⟨["n", "h"], .file, "4", true, ""⟩, ⟨["n", "s"], .symlink, "", false, "t1"⟩]

def exDelta12 : Delta :=
  { removed := [⟨["a", "b"], .dir⟩, ⟨["a", "b", "g"], .file⟩, ⟨["a", "x", "y"], .file⟩, ⟨["k"], .file⟩],
    kindChanged := [⟨["a", "x"], ["a", "x"], .dir, .file⟩],
    added := [["n"], ["n", "h"], ["n", "s"]],
    modified := [["a", "l"], ["f"]] }

example : treeWF exTree2 = true ∧ deltaOK [] exTree1 exTree2 exDelta12 = true
    ∧ deltaOK ["b"] exTree1 exTree2 exDelta12 = true := by decide +kernel

/-- **Any sequence of uploads without renames keeps the remote equal to the
tree.**  Start from the empty remote, upload the first tree in full (what
`upload_tree` does when there is no marker), then any number of trees
incrementally, each with a correct rename-free delta from the tree before
(`seqOK`), under one ignore list: no upload fails, and the remote finally shows
the last tree on every path that is not ignored and nothing on ignored paths.
(Induction over the sequence with the invariant `Matches ∧ Clean`.)

Partial: sequences whose deltas contain renames are not covered. -/
theorem upload_sequence_reaches_tree_partial (c : Cfg) (ign : List String) (hrob : c.robustSymlinks = true)
    (hbad : c.badLinks = [])
    (t0 : Tree) (steps : List (Tree × Delta)) (h0 : treeWF t0 = true) (hok : seqOK ign t0 steps = true) :
    ∃ r0 r, uploadFull c ign t0 (.dir []) = (r0, none) ∧ uploadSeq c ign r0 steps = (r, none) ∧
      Matches ign (lastTree t0 steps) r ∧ Clean ign r := by
  obtain ⟨r0, h1, h2⟩ := uploadFull_empty c ign t0 hbad h0
  obtain ⟨r, f1, f2, f3⟩ := uploadSeq_spec c ign hrob hbad steps t0 r0 hok h2.matches.1 h2.matches.2.1 h2.matches.2.2
  exact ⟨r0, r, h1, f1, f2, f3⟩

example : seqOK ["b"] exTree1 [(exTree2, exDelta12), (exTree2, {})] = true := by decide +kernel

/-- what `Matches` means on a concrete remote: the result of the two uploads is
the second tree (and the ignore file, which the full upload skipped, is absent) -/
example :
    let c : Cfg := { renames := .childrenFirst, robustSymlinks := true, kindChangeAtNew := true }
    let r := uploadSeq c [] (uploadFull c [] exTree1 (.dir [])).1 [(exTree2, exDelta12)]
    r.2 = none ∧ look r.1 ["a", "x"] = some (.file "x" false) ∧ look r.1 ["a", "b"] = none ∧
      look r.1 ["n", "s"] = some (.link "t1") ∧ look r.1 ["f"] = some (.file "11" false) ∧
      look r.1 [".bzrignore-upload"] = none := by decide +kernel

/-- **Symlink paths are not URL-escaped** (as found): `upload_symlink` is the one
remote operation that does not go through `urlutils.escape`; for a link whose
path the transport cannot take unescaped (`badLinks`) the upload stops with
InvalidURL after `_force_clear` has already removed what was there, or the link
lands at the percent-decoded path; an uploader that escapes (`badLinks = []`)
succeeds. -/
theorem unescaped_symlink_witness :
    let t : Tree := [⟨["u"], .symlink, "", false, "t2"⟩, ⟨["z"], .file, "1", false, ""⟩]
    let remote : Node := .dir [("u", .link "t1")]
    let c : Cfg := { renames := .childrenFirst, robustSymlinks := true, kindChangeAtNew := true }
    let r := uploadFull { c with badLinks := [(["u"], none)] } [] t remote
    let r' := uploadFull { c with badLinks := [(["u"], some ["v"])] } [] t remote
    r.2 = some .invalidURL ∧ present r ["u"] = false ∧ present r ["z"] = false ∧
    r'.2 = none ∧ present r' ["u"] = false ∧ isLink r' ["v"] "t2" = true ∧
    (uploadFull c [] t remote).2 = none ∧ isLink (uploadFull c [] t remote) ["u"] "t2" = true := by decide +kernel

/-- **The special files.**  A full upload does not copy `.bzrignore-upload` (nor
`.bzrignore`); an incremental upload treats them like any file.  Removing one of
them after a full upload therefore deletes a remote file that was never
created: NoSuchFile, the upload stops (reproduced on the real code). -/
theorem special_file_removed_witness :
    let c : Cfg := { renames := .childrenFirst, robustSymlinks := true, kindChangeAtNew := true }
    let t1 : Tree := [⟨[".bzrignore-upload"], .file, "x", false, ""⟩, ⟨["a"], .file, "1", false, ""⟩]
    let t2 : Tree := [⟨["a"], .file, "1", false, ""⟩]
    let r1 := uploadFull c [] t1 (.dir [])
    let r2 := uploadInc c [] t2 { removed := [⟨[".bzrignore-upload"], .file⟩] } r1.1
    r1.2 = none ∧ r2.2 = some .noSuchFile ∧
      (uploadInc { c with tolerantSpecialDelete := true } [] t2 { removed := [⟨[".bzrignore-upload"], .file⟩] } r1.1).2 = none := by
  decide +kernel

end BreezyVerif.C43
