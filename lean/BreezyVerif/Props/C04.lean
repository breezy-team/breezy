import BreezyVerif.Lemmas.C04Fault
import BreezyVerif.Lemmas.C04Enabled
/-!
C04 — pack repositories are crash-atomic.  Theorems.

Everything is quantified over all directory states, all collections, all
plans and **every crash prefix `k`** of the operation list; no bound on the
number of packs or files.
-/
namespace BreezyVerif.C04

/-- every crash prefix of a list of safe operations: same `pack-names`, same
complete packs -/
theorem run_take_safe (chk : Bool) (ns : List Nat) (ops : List Op) (d : Disk)
    (h : ∀ op ∈ ops, safeOp ns op = true) (k : Nat) :
    (run d (ops.take k)).names = d.names ∧
    ∀ n ∈ ns, ready chk d n = true → ready chk (run d (ops.take k)) n = true :=
  run_safe chk ns (ops.take k) d (fun op hop => h op (List.mem_of_mem_take hop))

theorem complete_of {chk : Bool} {d : Disk} {N : List Nat} (hn : d.names = N)
    (hr : ∀ n ∈ N, ready chk d n = true) : complete chk d = true :=
  complete_iff.2 (hn ▸ hr)

/-- no `pack-names` replacement at all (an aborted pack operation): every
prefix keeps the old list and completeness -/
theorem safe_crash_atomic (chk : Bool) (d : Disk) (ops : List Op)
    (hc : complete chk d = true) (hs : ∀ op ∈ ops, safeOp d.names op = true) (k : Nat) :
    complete chk (run d (ops.take k)) = true ∧ (run d (ops.take k)).names = d.names := by
  have h := run_take_safe chk d.names ops d hs k
  exact ⟨complete_of h.1 fun n hn => h.2 n hn (complete_iff.1 hc n hn), h.1⟩

/-- What C04 proves of every operation, interrupted or not: a crash after any prefix of the executed list
`ex` leaves a repository in which every listed pack is complete and `pack-names` is either the old list or
the new one, `N` (readers of `pack-names` never see a half-done operation). -/
def Atomic (chk : Bool) (d : Disk) (N : List Nat) (ex : List Op) : Prop :=
  ∀ k, complete chk (run d (ex.take k)) = true ∧
    ((run d (ex.take k)).names = d.names ∨ (run d (ex.take k)).names = N)

/-- no `pack-names` replacement at all: atomic for any `N` one likes -/
theorem Atomic.of_safe {chk : Bool} {d : Disk} {ex : List Op} (N : List Nat)
    (hc : complete chk d = true) (hs : ∀ op ∈ ex, safeOp d.names op = true) : Atomic chk d N ex :=
  fun k => ⟨(safe_crash_atomic chk d ex hc hs k).1, .inl (safe_crash_atomic chk d ex hc hs k).2⟩

/-- **Generic crash atomicity.**  An operation list of the shape
`pre ++ [putNames N] ++ post` in which `pre` does not touch the listed packs,
every pack of `N` is complete when `pack-names` is replaced, and `post` does
not touch the packs of `N`: after EVERY prefix every listed pack is complete
and `pack-names` is the old list or `N`. -/
theorem txn_crash_atomic (chk : Bool) (d : Disk) (pre post : List Op) (N : List Nat)
    (hc : complete chk d = true)
    (hpre : ∀ op ∈ pre, safeOp d.names op = true)
    (hready : ∀ n ∈ N, ready chk (run d pre) n = true)
    (hpost : ∀ op ∈ post, safeOp N op = true) (k : Nat) :
    complete chk (run d ((pre ++ Op.putNames N :: post).take k)) = true ∧
    ((run d ((pre ++ Op.putNames N :: post).take k)).names = d.names ∨
     (run d ((pre ++ Op.putNames N :: post).take k)).names = N) := by
  by_cases hk : k ≤ pre.length
  · rw [List.take_append_of_le_length hk]
    exact Atomic.of_safe N hc hpre k
  · obtain ⟨j, rfl⟩ : ∃ j, k = pre.length + (j + 1) := ⟨k - pre.length - 1, by omega⟩
    rw [List.take_append, List.take_of_length_le (by omega),
      show pre.length + (j + 1) - pre.length = j + 1 by omega, List.take_succ_cons, run_append, run_cons]
    have h := run_take_safe chk N post (step (run d pre) (Op.putNames N)) hpost j
    exact ⟨complete_of h.1 fun n hn => h.2 n hn (hready n hn), .inr h.1⟩

/-- **Generic.**  Any executed list `pre ++ sv ++ tail` in which `pre` does not
touch listed packs, `sv` has the shape of an executed `_save_pack_names`
(`SaveShape`: nothing / lock / lock+unlock / lock, `putNames N`, allowed
operations) and `tail` only deletes in `obsolete_packs/`: after every prefix
every listed pack is complete and `pack-names` is the old list or `N`. -/
theorem shape_crash_atomic (chk : Bool) (d : Disk) (pre sv tail : List Op) (N : List Nat) (allowed : List Op)
    (hc : complete chk d = true)
    (hpre : ∀ op ∈ pre, safeOp d.names op = true)
    (hready : ∀ n ∈ N, ready chk (run d pre) n = true)
    (hallowed : ∀ op ∈ allowed, safeOp N op = true)
    (htail : ∀ op ∈ tail, ∀ ns, safeOp ns op = true)
    (hs : SaveShape N allowed sv) (k : Nat) :
    complete chk (run d ((pre ++ sv ++ tail).take k)) = true ∧
    ((run d ((pre ++ sv ++ tail).take k)).names = d.names ∨
     (run d ((pre ++ sv ++ tail).take k)).names = N) := by
  -- without a `put_file` every operation is safe for the listed packs
  have safe3 : ∀ sv' : List Op, (∀ op ∈ sv', safeOp d.names op = true) → Atomic chk d N (pre ++ sv' ++ tail) :=
    fun sv' h => .of_safe N hc (List.forall_mem_append.2
      ⟨List.forall_mem_append.2 ⟨hpre, h⟩, fun op hop => htail op hop _⟩)
  rcases hs with rfl | rfl | rfl | ⟨post, rfl, hpost⟩
  · exact safe3 [] (fun _ h => nomatch h) k
  · exact safe3 [.lock] (by simp [safeOp]) k
  · exact safe3 [.lock, .unlock] (by simp [safeOp]) k
  · rw [show pre ++ Op.lock :: Op.putNames N :: post ++ tail
        = (pre ++ [Op.lock]) ++ Op.putNames N :: (post ++ tail) by simp]
    refine txn_crash_atomic chk d (pre ++ [Op.lock]) (post ++ tail) N hc
      (List.forall_mem_append.2 ⟨hpre, by simp [safeOp]⟩) (fun n hn => ?_)
      (List.forall_mem_append.2 ⟨fun op hop => hallowed op (hpost op hop), fun op hop => htail op hop N⟩) k
    rw [run_append]
    exact hready n hn

/-- the context in which `_save_pack_names` runs (`pre` wrote the new packs of
`mine`, `obs` are replaced packs): every executed list `pre ++ sv ++ tail` with
`sv` of the shape of an executed save is atomic for every crash prefix -/
theorem save_ctx_atomic (chk : Bool) (d : Disk) (atLoad mine : List Nat) (obs : Option (List Nat))
    (ord : List File) (pre sv tail : List Op)
    (hc : complete chk d = true)
    (hpre : ∀ op ∈ pre, safeOp d.names op = true)
    (hmine : ∀ n ∈ mine, n ∈ atLoad ∨ ready chk (run d pre) n = true)
    (hobs : ∀ s, obs = some s → ∀ n ∈ s, n ∉ mine ∧ (n ∈ atLoad ∨ n ∉ d.names))
    (htail : ∀ op ∈ tail, ∀ ns, safeOp ns op = true)
    (hs : SaveShape (mergeNames d.names atLoad mine) (saveAllowed chk d obs ord) sv) (k : Nat) :
    complete chk (run d ((pre ++ sv ++ tail).take k)) = true ∧
    ((run d ((pre ++ sv ++ tail).take k)).names = d.names ∨
     (run d ((pre ++ sv ++ tail).take k)).names = mergeNames d.names atLoad mine) := by
  apply shape_crash_atomic chk d pre sv tail _ _ hc hpre ?_ ?_ htail hs k
  · intro n hn
    rcases mem_mergeNames.mp hn with ⟨hd, _⟩ | ⟨hm, hna, _⟩
    · exact (run_safe chk d.names pre d hpre).2 n hd (complete_iff.1 hc n hd)
    · exact (hmine n hm).resolve_left hna
  · apply saveAllowed_safe
    intro s hs' n hn hN
    obtain ⟨hnm, hat⟩ := hobs s hs' n hn
    rcases mem_mergeNames.mp hN with ⟨hd, hnot⟩ | ⟨hm, _, _⟩
    · exact hat.elim (fun hat => hnot ⟨hat, hnm⟩) fun hat => hat hd
    · exact hnm hm

/-- the context of a `_save_pack_names` call (the hypotheses of `save_ctx_atomic`); the contexts of
commit, autopack and `pack()` are built from `init` by `newPack` and `drop` -/
structure SaveCtx (chk : Bool) (d : Disk) (atLoad : List Nat) (pre : List Op) (mine : List Nat)
    (obs : Option (List Nat)) : Prop where
  pre_safe : ∀ op ∈ pre, safeOp d.names op = true
  mine_ready : ∀ n ∈ mine, n ∈ atLoad ∨ ready chk (run d pre) n = true
  obs_dropped : ∀ s, obs = some s → ∀ n ∈ s, n ∉ mine ∧ (n ∈ atLoad ∨ n ∉ d.names)

section
variable {chk : Bool} {d : Disk} {atLoad mine : List Nat} {pre : List Op} {obs : Option (List Nat)}

theorem SaveCtx.init (chk : Bool) (d : Disk) {atLoad names : List Nat} (hv : ∀ n ∈ names, n ∈ atLoad) :
    SaveCtx chk d atLoad [] names none :=
  ⟨(fun _ h => nomatch h), fun n hn => .inl (hv n hn), fun _ h => nomatch h⟩

theorem SaveCtx.obs_nil (c : SaveCtx chk d atLoad pre mine none) : SaveCtx chk d atLoad pre mine (some []) :=
  ⟨c.pre_safe, c.mine_ready, fun _ h _ hn => by cases h; cases hn⟩

theorem SaveCtx.newPack (c : SaveCtx chk d atLoad pre mine obs) (t : Nat) (auto : Bool) {new : Nat}
    (hd : new ∉ d.names) (hm : new ∈ mine → new ∈ atLoad) (ho : ∀ s, obs = some s → new ∉ s) :
    SaveCtx chk d atLoad (pre ++ newPackOps chk (upTmp t auto) new) (mine ++ [new]) obs := by
  refine ⟨List.forall_mem_append.2 ⟨c.pre_safe, newPackOps_safe chk d.names _ new rfl hd⟩, ?_, ?_⟩
  · intro n hn
    rw [run_append]
    rcases List.mem_append.mp hn with hn | hn
    · by_cases e : n = new
      · rw [e]
        exact .inl (hm (e ▸ hn))
      · exact (c.mine_ready n hn).imp_right
          ((run_safe chk [n] _ _ (newPackOps_safe chk [n] _ new rfl (by simpa using Ne.symm e))).2 n (by simp))
    · cases List.mem_singleton.mp hn
      exact .inr (finish_ready' chk _ _ _ rfl)
  · intro s hs n hn
    have h := c.obs_dropped s hs n hn
    refine ⟨fun hm => (List.mem_append.mp hm).elim h.1 fun e => ho s hs ?_, h.2⟩
    exact List.mem_singleton.mp e ▸ hn

theorem SaveCtx.drop (c : SaveCtx chk d atLoad pre mine none) (s : List Nat) (hs : ∀ n ∈ s, n ∈ atLoad ∨ n ∉ d.names) :
    SaveCtx chk d atLoad pre (mine.filter fun n => !s.contains n) (some s) := by
  refine ⟨c.pre_safe, fun n hn => c.mine_ready n (List.mem_filter.mp hn).1, fun _ h n hn => ?_⟩
  cases h
  exact ⟨fun hm => by simpa [hn] using (List.mem_filter.mp hm).2, hs n hn⟩

theorem SaveCtx.atomic (c : SaveCtx chk d atLoad pre mine obs) (hc : complete chk d = true) {ord : List File}
    {sv tail : List Op} (hs : SaveShape (mergeNames d.names atLoad mine) (saveAllowed chk d obs ord) sv)
    (htail : ∀ op ∈ tail, ∀ ns, safeOp ns op = true) :
    Atomic chk d (mergeNames d.names atLoad mine) (pre ++ sv ++ tail) :=
  save_ctx_atomic chk d atLoad mine obs ord pre sv tail hc c.pre_safe c.mine_ready c.obs_dropped htail hs

end

theorem run_save_names (chk : Bool) (d0 d : Disk) (v : View) (obs : Option (List Nat)) (pre : List Op) :
    (run d0 (pre ++ saveOps chk d v obs)).names = mergeNames d.names v.atLoad v.names := by
  rw [run_append, run_saveOps_names]

/-- final `pack-names` of `pre ++ _save_pack_names ++ tail` when `tail` does not replace it -/
theorem run_save_tail_names {chk : Bool} {d0 d : Disk} {v : View} {obs : Option (List Nat)} {pre tail ops : List Op}
    (h : ops = pre ++ saveOps chk d v obs ++ tail) (htail : ∀ op ∈ tail, ∀ ns, safeOp ns op = true) :
    (run d0 ops).names = mergeNames d.names v.atLoad v.names := by
  rw [h, run_append, run_names_noPut tail _ fun op h => isPut_of_safe (htail op h []), run_save_names]

theorem SaveCtx.crash_atomic {chk : Bool} {d : Disk} {atLoad mine : List Nat} {pre : List Op}
    {obs : Option (List Nat)} (c : SaveCtx chk d atLoad pre mine obs) (hc : complete chk d = true)
    {tail ops : List Op} (htail : ∀ op ∈ tail, ∀ ns, safeOp ns op = true)
    (hops : ops = pre ++ saveOps chk d ⟨mine, atLoad⟩ obs ++ tail) : Atomic chk d (run d ops).names ops := by
  rw [run_save_tail_names hops htail]
  exact hops ▸ c.atomic hc (saveOps_shape chk d ⟨mine, atLoad⟩ obs) htail

theorem safe_ite_nil {c : Bool} {l : List Op} (h : ∀ op ∈ l, ∀ ns, safeOp ns op = true) :
    ∀ op ∈ (if c then l else []), ∀ ns, safeOp ns op = true := by
  cases c
  · exact fun _ h => nomatch h
  · exact h

/-- the final `_clear_obsolete_packs()` of `pack()` only deletes in `obsolete_packs/` -/
theorem finalClear_safe (clean : Bool) (d : Disk) :
    ∀ op ∈ (if clean then clearOps d [] else []), ∀ ns, safeOp ns op = true :=
  safe_ite_nil fun op hop ns => clearOps_safe ns _ _ op hop

theorem finalClearFault_safe (d : Disk) (ord : List File) (i : Nat) (f : Fault) :
    ∀ op ∈ finalClearFault d ord i f, ∀ ns, safeOp ns op = true := by
  intro op hop ns
  unfold finalClearFault at hop
  split at hop
  · exact clearOrd_safe ns d [] ord op (skipAt_subset _ _ _ hop)
  · exact clearOrd_safe ns d [] ord op (cutAt_subset _ _ _ hop)

theorem commit_ctx (chk : Bool) (d : Disk) (v : View) (tmp0 new0 : Nat)
    (hv : ∀ n ∈ v.names, n ∈ v.atLoad) (h0 : new0 ∉ d.names) :
    SaveCtx chk d v.atLoad (newPackOps chk (upTmp tmp0 false) new0) (v.names ++ [new0]) none :=
  (SaveCtx.init chk d hv).newPack tmp0 false h0 (hv new0) fun _ h => nomatch h

theorem commit_combine_ctx (chk : Bool) (d : Disk) (v : View) (s : List Nat) (tmp0 new0 tmp1 new1 : Nat)
    (hv : ∀ n ∈ v.names, n ∈ v.atLoad)
    (h0 : new0 ∉ d.names) (h1 : new1 ∉ d.names) (h01 : new0 ≠ new1) (h1v : new1 ∉ v.names)
    (hs : ∀ n ∈ s, n ∈ v.names ∨ n = new0) :
    SaveCtx chk d v.atLoad (newPackOps chk (upTmp tmp0 false) new0 ++ newPackOps chk (upTmp tmp1 true) new1)
      ((v.names ++ [new0]).filter (fun n => !s.contains n) ++ [new1]) (some s) := by
  have h1n : new1 ∉ v.names ++ [new0] := by simpa [h1v] using Ne.symm h01
  refine ((commit_ctx chk d v tmp0 new0 hv h0).drop s ?_).newPack tmp1 true h1
    (fun h => absurd (List.mem_filter.mp h).1 h1n) ?_
  · exact fun n hn => (hs n hn).elim (fun h => .inl (hv n h)) fun h => .inr (h ▸ h0)
  · intro _ e hn
    cases e
    exact h1n (by simpa using hs new1 hn)

/-- **Commit / fetch / autopack is crash-atomic.**  For every directory `d` in
which the listed packs are complete, every process view `v` without unsaved
names, every plan `plan` that combines packs of the collection, fresh names
`new0 ≠ new1`, and EVERY prefix `k` of the operation list of
`_commit_write_group`: every listed pack is complete, and `pack-names` is the
old list or the final one. -/
theorem commit_crash_atomic (chk : Bool) (d : Disk) (v : View) (plan : Plan) (tmp0 new0 tmp1 new1 : Nat)
    (hc : complete chk d = true)
    (hv : ∀ n ∈ v.names, n ∈ v.atLoad)
    (h0 : new0 ∉ d.names) (h1 : new1 ∉ d.names) (h01 : new0 ≠ new1) (h1v : new1 ∉ v.names)
    (hplan : ∀ s, plan = .combine s → ∀ n ∈ s, n ∈ v.names ∨ n = new0) (k : Nat) :
    let ops := commitOpsWith chk d v plan tmp0 new0 tmp1 new1
    complete chk (run d (ops.take k)) = true ∧
    ((run d (ops.take k)).names = d.names ∨ (run d (ops.take k)).names = (run d ops).names) := by
  intro ops
  have base := commit_ctx chk d v tmp0 new0 hv h0
  cases plan with
  | noAutopack => exact base.crash_atomic hc (tail := []) (fun _ h => nomatch h) (List.append_nil _).symm k
  | error =>
    -- the planner raised: only the (unlisted) new pack was written
    exact Atomic.of_safe _ hc base.pre_safe k
  | combine s =>
    cases s with
    | nil => exact base.obs_nil.crash_atomic hc (tail := []) (fun _ h => nomatch h) (List.append_nil _).symm k
    | cons a t =>
      exact (commit_combine_ctx chk d v (a :: t) tmp0 new0 tmp1 new1 hv h0 h1 h01 h1v (hplan _ rfl)).crash_atomic
        hc (tail := []) (fun _ h => nomatch h) (by simp [ops, commitOpsWith]) k

/-- the same for the operation list computed with the real planner
(`commitOps`): the plan is a function of the revision counts -/
theorem commit_crash_atomic_planned (chk : Bool) (d : Disk) (v : View) (counts : List (Nat × Nat))
    (tmp0 new0 tmp1 new1 : Nat)
    (hc : complete chk d = true)
    (hv : ∀ n ∈ v.names, n ∈ v.atLoad)
    (h0 : new0 ∉ d.names) (h1 : new1 ∉ d.names) (h01 : new0 ≠ new1) (h1v : new1 ∉ v.names)
    (hcounts : ∀ p ∈ counts, p.1 ∈ v.names ∨ p.1 = new0) (k : Nat) :
    let ops := commitOps chk d v counts tmp0 new0 tmp1 new1
    complete chk (run d (ops.take k)) = true ∧
    ((run d (ops.take k)).names = d.names ∨ (run d (ops.take k)).names = (run d ops).names) :=
  commit_crash_atomic chk d v (planAutopack counts) tmp0 new0 tmp1 new1 hc hv h0 h1 h01 h1v
    (planAutopack_subset counts hcounts) k

theorem pack_ctx (chk : Bool) (d : Disk) (v : View) (s : List Nat) (tmp1 new1 : Nat)
    (hv : ∀ n ∈ v.names, n ∈ v.atLoad) (hs : ∀ n ∈ s, n ∈ v.names) (h1 : new1 ∉ d.names) (h1v : new1 ∉ v.names) :
    SaveCtx chk d v.atLoad (newPackOps chk (upTmp tmp1 true) new1)
      (v.names.filter (fun n => !s.contains n) ++ [new1]) (some s) :=
  ((SaveCtx.init chk d hv).drop s fun n hn => .inl (hv n (hs n hn))).newPack tmp1 true h1
    (fun h => absurd (List.mem_filter.mp h).1 h1v) fun _ e hn => by cases e; exact h1v (hs _ hn)

theorem optimalOps_safe (ns : List Nat) (tmp1 : Nat) :
    ∀ op ∈ [Op.beginWrite (upTmp tmp1 true), Op.endWrite (upTmp tmp1 true), Op.delete (upTmp tmp1 true)],
      safeOp ns op = true := by
  simp [safeOp, touches_false_of_dir ns (f := upTmp tmp1 true) (.inl rfl)]

/-- **`pack(hint)` is crash-atomic**, including the aborted "already optimally
packed" run and the final `_clear_obsolete_packs()`; `s` = the packs selected
by the hint, any sub-collection. -/
theorem packSel_crash_atomic (chk : Bool) (d : Disk) (v : View) (s : List Nat) (optimal clean : Bool)
    (tmp1 new1 : Nat)
    (hc : complete chk d = true)
    (hv : ∀ n ∈ v.names, n ∈ v.atLoad)
    (hs : ∀ n ∈ s, n ∈ v.names)
    (h1 : new1 ∉ d.names) (h1v : new1 ∉ v.names) (k : Nat) :
    let ops := packOpsSel chk d v s optimal clean tmp1 new1
    complete chk (run d (ops.take k)) = true ∧
    ((run d (ops.take k)).names = d.names ∨ (run d (ops.take k)).names = (run d ops).names) := by
  intro ops
  by_cases hdis : (!chk && decide (v.names.length ≤ 1)) = true
  · have : ops = [] := by simp [ops, packOpsSel, hdis]
    rw [this]; simp [run, hc]
  · by_cases hemp : s.isEmpty = true
    · exact (SaveCtx.init chk d hv).obs_nil.crash_atomic hc (finalClear_safe clean _)
        (by simp [ops, packOpsSel, hdis, hemp]; rfl) k
    · cases optimal with
      | true =>
        -- aborted: no pack-names replacement
        have hall : ∀ op ∈ ops, safeOp d.names op = true := by
          simp only [ops, packOpsSel, hdis, hemp, Bool.false_eq_true, if_false, if_true,
            Bool.not_true, Bool.and_false, Bool.false_and]
          exact List.forall_mem_append.2 ⟨optimalOps_safe _ tmp1, fun op hop => finalClear_safe clean _ op hop _⟩
        exact Atomic.of_safe _ hc hall k
      | false =>
        exact (pack_ctx chk d v s tmp1 new1 hv hs h1 h1v).crash_atomic hc (finalClear_safe clean _)
          (by simp [ops, packOpsSel, hdis, hemp, h1v]; rfl) k

theorem hintSel_subset (v : View) (hint : Option (List Nat)) : ∀ n ∈ hintSel v hint, n ∈ v.names := by
  intro n hn
  cases hint with
  | none => exact hn
  | some h => exact (List.mem_filter.mp hn).1

/-- **`pack()` / `pack(hint)` is crash-atomic.** -/
theorem pack_crash_atomic (chk : Bool) (d : Disk) (v : View) (hint : Option (List Nat)) (optimal clean : Bool)
    (tmp1 new1 : Nat)
    (hc : complete chk d = true)
    (hv : ∀ n ∈ v.names, n ∈ v.atLoad)
    (h1 : new1 ∉ d.names) (h1v : new1 ∉ v.names) (k : Nat) :
    let ops := packOps chk d v hint optimal clean tmp1 new1
    complete chk (run d (ops.take k)) = true ∧
    ((run d (ops.take k)).names = d.names ∨ (run d (ops.take k)).names = (run d ops).names) :=
  packSel_crash_atomic chk d v (hintSel v hint) optimal clean tmp1 new1 hc hv (hintSel_subset v hint) h1 h1v k

/-- the final `pack-names` of a commit is the three-way merge of the process'
names -/
theorem commit_final_names (chk : Bool) (d : Disk) (v : View) (tmp0 new0 : Nat) :
    (run d (commitOpsWith chk d v .noAutopack tmp0 new0 0 0)).names
      = mergeNames d.names v.atLoad (v.names ++ [new0]) :=
  run_save_names chk d d ⟨v.names ++ [new0], v.atLoad⟩ none _

/-- **A commit without concurrent writers adds exactly the new pack's
revisions**: the visible set afterwards is the old one plus `revsOf new0`. -/
theorem commit_visible (chk : Bool) (revsOf : Nat → List Nat) (d : Disk) (tmp0 new0 : Nat)
    (h0 : new0 ∉ d.names) (r : Nat) :
    r ∈ visible revsOf (run d (commitOpsWith chk d ⟨d.names, d.names⟩ .noAutopack tmp0 new0 0 0))
      ↔ r ∈ visible revsOf d ∨ r ∈ revsOf new0 := by
  rw [visible, commit_final_names]
  simp only [visible, List.mem_flatMap, mem_mergeNames_self, List.mem_append, List.mem_singleton,
    or_and_right, exists_or, exists_eq_left]

/-- final `pack-names` of commit + autopack of `s` (no concurrent writers) -/
theorem autopack_final_names (chk : Bool) (d : Disk) (a : Nat) (t : List Nat) (tmp0 new0 tmp1 new1 : Nat) :
    (run d (commitOpsWith chk d ⟨d.names, d.names⟩ (.combine (a :: t)) tmp0 new0 tmp1 new1)).names
      = mergeNames d.names d.names ((d.names ++ [new0]).filter (fun n => !(a :: t).contains n) ++ [new1]) :=
  run_save_names chk d d ⟨_, d.names⟩ (some (a :: t)) _

/-- **Autopack preserves what is visible**: commit + autopack of `s` (the
combined pack `new1` holds exactly the revisions of the packs in `s`) shows the
old revisions plus those of the new pack `new0` — nothing is lost, nothing
else appears. -/
theorem autopack_visible (chk : Bool) (revsOf : Nat → List Nat) (d : Disk) (a : Nat) (t : List Nat)
    (tmp0 new0 tmp1 new1 : Nat)
    (h0 : new0 ∉ d.names) (h1 : new1 ∉ d.names)
    (hs : ∀ n ∈ a :: t, n ∈ d.names ∨ n = new0)
    (hcopy : ∀ r, r ∈ revsOf new1 ↔ ∃ n ∈ a :: t, r ∈ revsOf n) (r : Nat) :
    r ∈ visible revsOf (run d (commitOpsWith chk d ⟨d.names, d.names⟩ (.combine (a :: t)) tmp0 new0 tmp1 new1))
      ↔ r ∈ visible revsOf d ∨ r ∈ revsOf new0 := by
  rw [visible, autopack_final_names]
  simp only [visible, List.mem_flatMap, mem_mergeNames_self, List.mem_append, List.mem_filter,
    List.mem_singleton]
  constructor
  · rintro ⟨n, (⟨hm | rfl, _⟩ | rfl), hr⟩
    · exact .inl ⟨n, hm, hr⟩
    · exact .inr hr
    · obtain ⟨m, hm, hrm⟩ := (hcopy r).mp hr
      exact (hs m hm).elim (fun h => .inl ⟨m, h, hrm⟩) fun h => .inr (h ▸ hrm)
  · -- a pack holding `r` is kept, or combined into `new1`
    have cover : ∀ m, (m ∈ d.names ∨ m = new0) → r ∈ revsOf m →
        ∃ n, (((n ∈ d.names ∨ n = new0) ∧ (!(a :: t).contains n) = true) ∨ n = new1) ∧ r ∈ revsOf n := by
      intro m hm hr
      by_cases hin : m ∈ a :: t
      · exact ⟨new1, .inr rfl, (hcopy r).mpr ⟨m, hin, hr⟩⟩
      · exact ⟨m, .inl ⟨hm, by simpa using hin⟩, hr⟩
    rintro (⟨n, hd, hr⟩ | hr)
    · exact cover n (.inl hd) hr
    · exact cover new0 (.inr rfl) hr

/-- final `pack-names` of a full `pack()` that wrote a new pack -/
theorem pack_final_names (chk : Bool) (d : Disk) (v : View) (clean : Bool) (tmp1 new1 : Nat)
    (hen : (!chk && decide (v.names.length ≤ 1)) = false) (hne : v.names.isEmpty = false)
    (h1v : new1 ∉ v.names) :
    (run d (packOps chk d v none false clean tmp1 new1)).names = mergeNames d.names v.atLoad [new1] := by
  have hcol : v.names.contains new1 = false := by simpa using h1v
  have hfil : v.names.filter (fun n => !v.names.contains n) = [] :=
    List.filter_eq_nil_iff.mpr fun n hn => by simp [hn]
  simp only [packOps, packOpsSel, hintSel, hen, hne, hcol, hfil, Bool.false_eq_true, if_false,
    Bool.not_false, Bool.and_false, Bool.and_true, List.nil_append]
  exact run_save_tail_names (v := ⟨[new1], v.atLoad⟩) rfl (finalClear_safe clean _)

/-- **`pack()` preserves what is visible** (no concurrent writers; the new pack
holds exactly the revisions of the packs it replaces). -/
theorem pack_visible (chk : Bool) (revsOf : Nat → List Nat) (d : Disk) (clean : Bool) (tmp1 new1 : Nat)
    (hen : (!chk && decide (d.names.length ≤ 1)) = false) (hne : d.names.isEmpty = false)
    (h1 : new1 ∉ d.names)
    (hcopy : ∀ r, r ∈ revsOf new1 ↔ ∃ n ∈ d.names, r ∈ revsOf n) (r : Nat) :
    r ∈ visible revsOf (run d (packOps chk d ⟨d.names, d.names⟩ none false clean tmp1 new1))
      ↔ r ∈ visible revsOf d := by
  rw [visible, pack_final_names chk d ⟨d.names, d.names⟩ clean tmp1 new1 hen hne h1]
  simp only [visible, List.mem_flatMap, mem_mergeNames_self, List.mem_singleton, exists_eq_left]
  exact hcopy r

/-- **No non-tolerated transport call of a commit / fetch / autopack can fail**,
whatever the plan: `runT` (which fails at the first call whose precondition does
not hold, except the `delete`s of `_clear_obsolete_packs` and the `move`s of
`_obsolete_packs`, whose errors the real code catches) runs the whole operation
list.  So outside those tolerated calls `step` never takes a "missing file" /
"stream not open" / "lock already held" branch. -/
theorem commit_ops_enabled_all (chk : Bool) (d : Disk) (v : View) (plan : Plan) (tmp0 new0 tmp1 new1 : Nat)
    (hl : d.locked = false) :
    runT d (commitOpsWith chk d v plan tmp0 new0 tmp1 new1)
      = some (run d (commitOpsWith chk d v plan tmp0 new0 tmp1 new1)) := by
  have hpre := newPackOps_enabled chk d tmp0 false new0
  have hnl := newPackOps_noLock chk (upTmp tmp0 false) new0
  cases plan with
  | noAutopack => exact saveOps_enabled chk d d _ none _ hpre hnl hl
  | error => exact hpre
  | combine s =>
    cases s with
    | nil => exact saveOps_enabled chk d d _ (some []) _ hpre hnl hl
    | cons a t =>
      exact saveOps_enabled chk d d _ (some (a :: t)) _
        (runT_append_some _ _ _ hpre (newPackOps_enabled chk _ tmp1 true new1))
        (List.forall_mem_append.2 ⟨hnl, newPackOps_noLock chk _ new1⟩) hl

/-- **No transport call of a plain commit raises**: from an unlocked directory
every operation of `commit_write_group` (new pack, `finish`, lock, `put_file`,
unlock) finds its precondition satisfied (`runE`, which tolerates no failure, does not fail) — so the total
`step` never takes its "missing file" branch on this path.  (The moves of
`_obsolete_packs` and the deletes of `_clear_obsolete_packs` are allowed to
fail in the real code: their errors are caught.) -/
theorem commit_ops_enabled (chk : Bool) (d : Disk) (v : View) (tmp0 new0 : Nat) (hl : d.locked = false) :
    runE d (commitOpsWith chk d v .noAutopack tmp0 new0 0 0)
      = some (run d (commitOpsWith chk d v .noAutopack tmp0 new0 0 0)) := by
  rw [← commit_ops_enabled_all chk d v .noAutopack tmp0 new0 0 0 hl]
  refine (runT_eq_runE _ _ (List.forall_mem_append.2 ⟨?_, by simp [saveOps, tolerated]⟩)).symm
  exact forall_mem_newPackOps.2 ⟨rfl, fun _ _ => ⟨rfl, rfl⟩, rfl, rfl⟩

/-- the same for `pack()` / `pack(hint)`, including the already-optimal abort
and the final `_clear_obsolete_packs()` -/
theorem pack_ops_enabled (chk : Bool) (d : Disk) (v : View) (s : List Nat) (optimal clean : Bool)
    (tmp1 new1 : Nat) (hl : d.locked = false) :
    runT d (packOpsSel chk d v s optimal clean tmp1 new1)
      = some (run d (packOpsSel chk d v s optimal clean tmp1 new1)) := by
  have htail : ∀ (c : Bool) (d0 d' : Disk), runT d0 (if c then clearOps d' [] else [])
      = some (run d0 (if c then clearOps d' [] else [])) := by
    intro c d0 d'
    cases c
    · rfl
    · refine runT_tolerated _ _ fun op hop => ?_
      obtain ⟨f, rfl, hf⟩ := mem_clearOps hop
      simp [tolerated, hf]
  unfold packOpsSel
  by_cases h1 : (!chk && decide (v.names.length ≤ 1)) = true
  · rw [if_pos h1]; rfl
  rw [if_neg h1]
  by_cases h2 : (!s.isEmpty && !optimal && v.names.contains new1) = true
  · rw [if_pos h2]; exact newPackOps_enabled chk d tmp1 true new1
  rw [if_neg h2]
  refine runT_append_some _ _ _ ?_ (htail clean _ _)
  by_cases h3 : s.isEmpty = true
  · rw [if_pos h3]; exact saveOps_enabled chk d d v (some []) [] rfl (fun _ h => nomatch h) hl
  rw [if_neg h3]
  cases optimal with
  | true => simp [runT, run, step, Enabled, rm, upTmp]
  | false =>
    exact saveOps_enabled chk d d _ (some s) _ (newPackOps_enabled chk d tmp1 true new1)
      (newPackOps_noLock chk _ new1) hl

/-- **Leftovers of crashed or failed operations are harmless**, including what
the error paths leave in `packs/` and `indices/`: arbitrary extra files that are
in `upload/` or `obsolete_packs/` OR belong to a pack that `pack-names` does not
list (a finished but never-listed pack, half-written indices of an aborted one)
change neither which packs are listed nor whether the listed packs are
complete. -/
theorem leftovers_harmless_unlisted (chk : Bool) (revsOf : Nat → List Nat) (d : Disk) (extra extraTorn : List File)
    (h : ∀ f ∈ extra, f.dir = .upload ∨ f.dir = .obsolete ∨ f.stem ∉ d.names) :
    let d' : Disk := { d with files := extra ++ d.files, torn := extraTorn ++ d.torn }
    complete chk d' = complete chk d ∧ visible revsOf d' = visible revsOf d := by
  intro d'
  refine ⟨?_, rfl⟩
  rw [Bool.eq_iff_iff, complete_iff, complete_iff]
  refine forall_congr' fun n => forall_congr' fun hn => ?_
  rw [ready_iff, ready_iff]
  refine ⟨fun h1 f hf => ?_, fun h1 f hf => List.mem_append_right _ (h1 f hf)⟩
  -- a file of the listed pack `n` is none of the extra files
  have ht := packFiles_touches (ns := [n]) hf (by simp)
  refine (List.mem_append.mp (h1 f hf)).resolve_left fun hfe => ?_
  rcases h f hfe with hd | hd | hd
  · simp [touches, hd] at ht
  · simp [touches, hd] at ht
  · simp only [touches, Bool.and_eq_true, List.contains_eq_mem, List.mem_singleton, decide_eq_true_eq] at ht
    exact hd (ht.2 ▸ hn)

/-- **Leftover files are harmless**: arbitrary extra files (complete or torn) in
`upload/` and `obsolete_packs/` change neither what is listed nor whether the
listed packs are complete. -/
theorem leftovers_harmless (chk : Bool) (revsOf : Nat → List Nat) (d : Disk) (extra extraTorn : List File)
    (h : ∀ f ∈ extra, f.dir = .upload ∨ f.dir = .obsolete) :
    let d' : Disk := { d with files := extra ++ d.files, torn := extraTorn ++ d.torn }
    complete chk d' = complete chk d ∧ visible revsOf d' = visible revsOf d :=
  leftovers_harmless_unlisted chk revsOf d extra extraTorn fun f hf => (h f hf).elim .inl fun h => .inr (.inl h)

/-- non-vacuity: a finished, never-listed pack `9` and a torn index of an
aborted pack `8` next to the listed pack `0` -/
example :
    let d : Disk := ⟨[0], packFiles true 0, [], false⟩
    let extra := packFiles true 9 ++ [⟨.upload, 3, .pack⟩]
    (∀ f ∈ extra, f.dir = .upload ∨ f.dir = .obsolete ∨ f.stem ∉ d.names) ∧
    complete true { d with files := extra ++ d.files, torn := [⟨.indices, 8, .rix⟩] ++ d.torn } = true := by
  decide +kernel

/-- **Witness.**  If the new pack's name is already listed (same content hash),
`NewPack.finish` rewrites the listed pack's indices in place: there is a crash
prefix after which a listed pack is incomplete. -/
theorem name_collision_witness :
    let d : Disk := ⟨[0], packFiles true 0, [], false⟩
    complete true d = true ∧
    complete true (run d ((commitOpsWith true d ⟨[0], [0]⟩ .noAutopack 5 0 0 0).take 2)) = false := by
  decide +kernel

/-- the hypotheses of `commit_crash_atomic` hold for a collection of two
packs that is autopacked together with the new pack -/
example :
    let d : Disk := ⟨[0, 1], packFiles true 0 ++ packFiles true 1 ++ [⟨.obsolete, 7, .pack⟩], [], false⟩
    let v : View := ⟨[0, 1], [0, 1]⟩
    complete true d = true ∧ (∀ n ∈ v.names, n ∈ v.atLoad) ∧ 2 ∉ d.names ∧ 3 ∉ d.names ∧
    (∀ n ∈ [0, 1, 2], n ∈ v.names ∨ n = 2) ∧
    (run d (commitOpsWith true d v (.combine [0, 1, 2]) 10 2 11 3)).names = [3] ∧
    (commitOpsWith true d v (.combine [0, 1, 2]) 10 2 11 3).length = 48 := by
  decide +kernel

/-- the planner triggers on ten one-revision packs and combines all of them -/
example : planAutopack ((List.range 10).map (fun i => (i, 1))) = .combine (List.range 10) := by
  decide +kernel

/-- `pack_crash_atomic`'s hypotheses hold on a two-pack collection, and the
operation list is the long one (new pack, save, obsolete both, final clear) -/
example :
    let d : Disk := ⟨[0, 1], packFiles false 0 ++ packFiles false 1, [], false⟩
    complete false d = true ∧ 5 ∉ d.names ∧
    (run d (packOps false d ⟨[0, 1], [0, 1]⟩ none false true 4 5)).names = [5] ∧
    (packOps false d ⟨[0, 1], [0, 1]⟩ none false true 4 5).length = 34 ∧
    (run d (packOps false d ⟨[0, 1], [0, 1]⟩ (some [1]) false false 4 5)).names = [0, 5] := by
  decide +kernel

/-- **Witness (the behaviour of pack-0.92 before fix 24f6bb3).**  `pack(hint=[p])`
on a pack whose repacked content hashes to its own name, with a packer that does
not check for a listed name: `finish()` rewrites the indices of the LISTED pack
`1` in place, so after 2 operations a listed pack is incomplete (then `allocate`
raises "Pack already exists" and nothing is saved).  This is why every packer
needs the already-listed guard and why the theorems assume fresh names. -/
theorem pack_hint_collision_witness :
    let d : Disk := ⟨[0, 1], packFiles false 0 ++ packFiles false 1, [], false⟩
    complete false d = true ∧
    complete false (run d ((packOps false d ⟨[0, 1], [0, 1]⟩ (some [1]) false false 4 1).take 2)) = false ∧
    (run d (packOps false d ⟨[0, 1], [0, 1]⟩ (some [1]) false false 4 1)).names = [0, 1] := by
  decide +kernel

/-! ## Error paths: the operation FAILS with an exception instead of being killed

`commitFaultWith` / `packFaultSel` (Model/C04Fault.lean) give the complete list
of operations the real code executes when its `f.pos`-th transport call raises
(before or after taking effect; I/O error, `TransportError`,
`KeyboardInterrupt`, or an exception of a read made just before it): the
prefix, then whatever the `finally:` / `except` clauses and
`abort_write_group` do.  The theorems quantify over EVERY fault and over every
crash prefix `k` of the resulting list (a crash inside the error handling). -/

/-- the write group's own pack: the executed list of a fault inside
`open_write_stream … finish()` (prefix + `NewPack.abort()`) touches no listed
pack -/
theorem newPackFault_safe (chk : Bool) (ns : List Nat) (d : Disk) (tmp : File) (name : Nat) (f : Fault)
    (ht : tmp.dir = .upload) (hn : name ∉ ns) :
    ∀ op ∈ newPackFault chk d tmp name f, safeOp ns op = true := by
  intro op hop
  have hsafe := newPackOps_safe chk ns tmp name ht hn
  unfold newPackFault at hop
  simp only [] at hop
  split at hop
  · exact hsafe op (cutAt_subset _ _ _ hop)
  · rcases List.mem_append.mp hop with hop | hop
    · exact hsafe op (cutAt_subset _ _ _ hop)
    · exact abortNewPack_safe ns _ tmp ht op hop

/-- **A failing commit / fetch / autopack is atomic.**  Under the hypotheses of
`commit_crash_atomic`, for EVERY fault `f` (position, before/after, kind), every
`list_dir` order `ord`, and every crash prefix `k` of the list of operations the
real code executes in that failing run (including its `finally:` clauses and
`abort_write_group`): every listed pack is complete and `pack-names` is the old
list or the one the successful operation would have written. -/
theorem commit_fault_atomic (chk : Bool) (d : Disk) (v : View) (plan : Plan) (tmp0 new0 tmp1 new1 : Nat)
    (hc : complete chk d = true)
    (hv : ∀ n ∈ v.names, n ∈ v.atLoad)
    (h0 : new0 ∉ d.names) (h1 : new1 ∉ d.names) (h01 : new0 ≠ new1) (h1v : new1 ∉ v.names)
    (hplan : ∀ s, plan = .combine s → ∀ n ∈ s, n ∈ v.names ∨ n = new0)
    (ord : List File) (f : Fault) (k : Nat) :
    let ex := commitFaultWith chk d v plan tmp0 new0 tmp1 new1 ord f
    let ops := commitOpsWith chk d v plan tmp0 new0 tmp1 new1
    complete chk (run d (ex.take k)) = true ∧
    ((run d (ex.take k)).names = d.names ∨ (run d (ex.take k)).names = (run d ops).names) := by
  intro ex ops
  have base := commit_ctx chk d v tmp0 new0 hv h0
  suffices h : Atomic chk d (run d ops).names ex from h k
  have allsafe : ∀ l : List Op, ex = l → (∀ op ∈ l, safeOp d.names op = true) → Atomic chk d (run d ops).names ex :=
    fun l hl h => hl ▸ .of_safe _ hc h
  have key : ∀ {pre : List Op} {mine : List Nat} {obs : Option (List Nat)} (g : Fault),
      SaveCtx chk d v.atLoad pre mine obs →
      ex = pre ++ saveFault chk d ⟨mine, v.atLoad⟩ obs ord g →
      ops = pre ++ saveOps chk d ⟨mine, v.atLoad⟩ obs → Atomic chk d (run d ops).names ex := by
    intro pre mine obs g c hex hops
    rw [hops, run_save_names, hex, ← List.append_nil (pre ++ _)]
    exact c.atomic hc (saveFault_shape chk d ⟨mine, v.atLoad⟩ obs ord g) (tail := []) fun _ h => nomatch h
  by_cases hp : f.pos < (newPackOps chk (upTmp tmp0 false) new0).length
  · exact allsafe _ (by simp [ex, commitFaultWith, hp]) (newPackFault_safe chk d.names d (upTmp tmp0 false) new0 f rfl h0)
  · generalize hg : f.shift (newPackOps chk (upTmp tmp0 false) new0).length = g
    cases plan with
    | noAutopack => exact key g base (by simp [ex, commitFaultWith, hp, hg]) rfl
    | error => exact allsafe _ (by simp [ex, commitFaultWith, hp]) base.pre_safe
    | combine s =>
      cases s with
      | nil => exact key g base.obs_nil (by simp [ex, commitFaultWith, hp, hg]) rfl
      | cons a t =>
        have c := commit_combine_ctx chk d v (a :: t) tmp0 new0 tmp1 new1 hv h0 h1 h01 h1v (hplan _ rfl)
        by_cases hq : g.pos < (newPackOps chk (upTmp tmp1 true) new1).length
        · -- the fault hits the packer's new pack: nothing is aborted, nothing is saved
          refine allsafe (newPackOps chk (upTmp tmp0 false) new0 ++ cutAt (newPackOps chk (upTmp tmp1 true) new1) g.pos g)
            (by simp [ex, commitFaultWith, hp, hg, hq]) fun op hop => c.pre_safe op ?_
          exact List.mem_append.mpr ((List.mem_append.mp hop).imp_right fun h => cutAt_subset _ _ _ h)
        · exact key (g.shift (newPackOps chk (upTmp tmp1 true) new1).length) c
            (by simp [ex, commitFaultWith, hp, hg, hq]) (by simp [ops, commitOpsWith])

/-- the same for the plan computed by the real planner -/
theorem commit_fault_atomic_planned (chk : Bool) (d : Disk) (v : View) (counts : List (Nat × Nat))
    (tmp0 new0 tmp1 new1 : Nat)
    (hc : complete chk d = true)
    (hv : ∀ n ∈ v.names, n ∈ v.atLoad)
    (h0 : new0 ∉ d.names) (h1 : new1 ∉ d.names) (h01 : new0 ≠ new1) (h1v : new1 ∉ v.names)
    (hcounts : ∀ p ∈ counts, p.1 ∈ v.names ∨ p.1 = new0)
    (ord : List File) (f : Fault) (k : Nat) :
    let ex := commitFault chk d v counts tmp0 new0 tmp1 new1 ord f
    let ops := commitOps chk d v counts tmp0 new0 tmp1 new1
    complete chk (run d (ex.take k)) = true ∧
    ((run d (ex.take k)).names = d.names ∨ (run d (ex.take k)).names = (run d ops).names) :=
  commit_fault_atomic chk d v (planAutopack counts) tmp0 new0 tmp1 new1 hc hv h0 h1 h01 h1v
    (planAutopack_subset counts hcounts) ord f k

/-- a body of `pack()` that contains `_save_pack_names`, with a fault anywhere
(in the packer's new pack, in the save, in the final clear) -/
theorem packTail_atomic {chk : Bool} {d : Disk} {atLoad mine s : List Nat} {pre : List Op}
    (c : SaveCtx chk d atLoad pre mine (some s)) (hc : complete chk d = true) (clean : Bool)
    (ord : List File) (f : Fault) :
    Atomic chk d (mergeNames d.names atLoad mine) (packTail chk d ⟨mine, atLoad⟩ s clean pre ord f) := by
  have shape := saveFault_shape chk d ⟨mine, atLoad⟩ (some s) ord (f.shift pre.length)
  simp only [packTail]
  -- (the conditions one at a time: `split` is slow to check here)
  by_cases h1 : f.pos < pre.length
  · rw [if_pos h1]
    exact .of_safe _ hc fun op h => c.pre_safe op (cutAt_subset _ _ _ h)
  rw [if_neg h1]
  by_cases h2 : f.pos < pre.length + (saveOpsOrd chk d ⟨mine, atLoad⟩ (some s) ord).length
  · rw [if_pos h2]
    by_cases hr : saveRaises chk d (some s) ord (f.shift pre.length) = true
    · rw [if_pos hr, ← List.append_nil (pre ++ _)]
      exact c.atomic hc shape (tail := []) fun _ h => nomatch h
    · rw [if_neg hr]
      exact c.atomic hc shape (safe_ite_nil fun op hop ns => clearOrd_safe ns _ _ _ op hop)
  · rw [if_neg h2]
    exact c.atomic hc (saveOpsOrd_shape chk d ⟨mine, atLoad⟩ (some s) ord)
      (safe_ite_nil (finalClearFault_safe _ _ _ _))

/-- **A failing `pack()` / `pack(hint)` is atomic**: for every fault (in the
packer's new pack, in `_save_pack_names`, in the obsoleting moves, in the final
`_clear_obsolete_packs()`), and every crash prefix of what the real code then
executes. -/
theorem packSel_fault_atomic (chk : Bool) (d : Disk) (v : View) (s : List Nat) (optimal clean : Bool)
    (tmp1 new1 : Nat)
    (hc : complete chk d = true)
    (hv : ∀ n ∈ v.names, n ∈ v.atLoad)
    (hs : ∀ n ∈ s, n ∈ v.names)
    (h1 : new1 ∉ d.names) (h1v : new1 ∉ v.names) (ord : List File) (f : Fault) (k : Nat) :
    let ex := packFaultSel chk d v s optimal clean tmp1 new1 ord f
    let ops := packOpsSel chk d v s optimal clean tmp1 new1
    complete chk (run d (ex.take k)) = true ∧
    ((run d (ex.take k)).names = d.names ∨ (run d (ex.take k)).names = (run d ops).names) := by
  intro ex ops
  by_cases hdis : (!chk && decide (v.names.length ≤ 1)) = true
  · have : ex = [] := by simp [ex, packFaultSel, hdis]
    rw [this]; simp [run, hc]
  · by_cases hemp : s.isEmpty = true
    · have hex : ex = packTail chk d ⟨v.names, v.atLoad⟩ [] clean [] ord f := by
        simp [ex, packFaultSel, hdis, hemp]
      rw [run_save_tail_names (ops := ops) (pre := []) (v := v) (by simp [ops, packOpsSel, hdis, hemp]; rfl)
        (finalClear_safe clean _), hex]
      exact packTail_atomic (SaveCtx.init chk d hv).obs_nil hc clean ord f k
    · cases optimal with
      | true =>
        have hall : ∀ op ∈ ex, safeOp d.names op = true := by
          simp only [ex, packFaultSel, hdis, hemp, Bool.false_eq_true, if_false, if_true,
            Bool.not_true, Bool.and_false, Bool.false_and]
          split
          · exact fun op hop => optimalOps_safe _ tmp1 op (cutAt_subset _ _ _ hop)
          · exact List.forall_mem_append.2 ⟨optimalOps_safe _ tmp1,
              fun op hop => safe_ite_nil (finalClearFault_safe _ _ _ _) op hop _⟩
        exact Atomic.of_safe _ hc hall k
      | false =>
        have hex : ex = packTail chk d ⟨v.names.filter (fun n => !s.contains n) ++ [new1], v.atLoad⟩ s clean
            (newPackOps chk (upTmp tmp1 true) new1) ord f := by
          simp [ex, packFaultSel, hdis, hemp, h1v]
        rw [run_save_tail_names (ops := ops) (v := ⟨v.names.filter (fun n => !s.contains n) ++ [new1], v.atLoad⟩)
          (by simp [ops, packOpsSel, hdis, hemp, h1v]; rfl) (finalClear_safe clean _), hex]
        exact packTail_atomic (pack_ctx chk d v s tmp1 new1 hv hs h1 h1v) hc clean ord f k

/-- **A failing `pack()` / `pack(hint)` is atomic** (hint form) -/
theorem pack_fault_atomic (chk : Bool) (d : Disk) (v : View) (hint : Option (List Nat)) (optimal clean : Bool)
    (tmp1 new1 : Nat)
    (hc : complete chk d = true)
    (hv : ∀ n ∈ v.names, n ∈ v.atLoad)
    (h1 : new1 ∉ d.names) (h1v : new1 ∉ v.names) (ord : List File) (f : Fault) (k : Nat) :
    let ex := packFault chk d v hint optimal clean tmp1 new1 ord f
    let ops := packOps chk d v hint optimal clean tmp1 new1
    complete chk (run d (ex.take k)) = true ∧
    ((run d (ex.take k)).names = d.names ∨ (run d (ex.take k)).names = (run d ops).names) :=
  packSel_fault_atomic chk d v (hintSel v hint) optimal clean tmp1 new1 hc hv (hintSel_subset v hint) h1 h1v ord f k

/-- **Exception atomicity of `_save_pack_names`.**  Whatever the fault: if the
exception was raised before the `put_file` of `pack-names` completed, the
method leaves `pack-names` untouched; otherwise `pack-names` is exactly the
merged list the successful call writes. -/
theorem save_fault_names (chk : Bool) (d0 d : Disk) (v : View) (obs : Option (List Nat)) (ord : List File)
    (f : Fault) :
    (f.beforePut → (run d0 (saveFault chk d v obs ord f)).names = d0.names) ∧
    (¬ f.beforePut → (run d0 (saveFault chk d v obs ord f)).names = saveN d v) := by
  rcases saveFault_shape' chk d v obs ord f with ⟨hb, h | h | h⟩ | ⟨hb, post, h, hpost⟩
  · exact ⟨fun _ => by rw [h]; rfl, fun hn => absurd hb hn⟩
  · exact ⟨fun _ => by rw [h]; rfl, fun hn => absurd hb hn⟩
  · exact ⟨fun _ => by rw [h]; rfl, fun hn => absurd hb hn⟩
  · refine ⟨fun hy => absurd hy hb, fun _ => ?_⟩
    rw [h, run_cons, run_cons,
      run_names_noPut post _ (fun op hop => saveAllowed_noPut chk d obs ord op (hpost op hop))]
    rfl

/-- **Witness: why `_obsolete_packs` must stay outside the `finally:`.**  The
model variant in which the obsoleting moves run in the `finally:` clause of
`_save_pack_names` (so also after a failed `put_file`): `pack()` of two packs
whose `pack-names` write fails with an I/O error leaves `pack-names` listing
both old packs while their files are in `obsolete_packs/`. -/
theorem obsolete_in_finally_witness :
    let d : Disk := ⟨[0, 1], packFiles true 0 ++ packFiles true 1, [], false⟩
    let ex := newPackOps true (upTmp 4 true) 5
      ++ saveFaultObsoleteInFinally true d ⟨[5], [0, 1]⟩ [0, 1] ⟨1, false, .io⟩
    complete true d = true ∧ (run d ex).names = [0, 1] ∧ complete true (run d ex) = false ∧
    -- the real error path on the same input: lock, unlock, nothing else
    (newPackOps true (upTmp 4 true) 5 ++ saveFault true d ⟨[5], [0, 1]⟩ (some [0, 1]) [] ⟨1, false, .io⟩
      = packFault true d ⟨[0, 1], [0, 1]⟩ none false false 4 5 [] ⟨14, false, .io⟩) ∧
    complete true (run d (packFault true d ⟨[0, 1], [0, 1]⟩ none false false 4 5 [] ⟨14, false, .io⟩)) = true := by
  decide +kernel

/-- **Crash, then retry.**  Take ANY crash prefix `k` of a commit / fetch /
autopack, break the stale lock, and let a fresh process (which loads
`pack-names` as it finds it) run another write group with fresh pack names:
the hypotheses of `commit_crash_atomic` hold again, so that operation is
crash-atomic too.  (`fault_then_retry` is the same statement with
`commitFaultWith` in place of the prefix.) -/
theorem crash_then_retry (chk : Bool) (d : Disk) (v : View) (plan : Plan) (tmp0 new0 tmp1 new1 : Nat)
    (hc : complete chk d = true)
    (hv : ∀ n ∈ v.names, n ∈ v.atLoad)
    (h0 : new0 ∉ d.names) (h1 : new1 ∉ d.names) (h01 : new0 ≠ new1) (h1v : new1 ∉ v.names)
    (hplan : ∀ s, plan = .combine s → ∀ n ∈ s, n ∈ v.names ∨ n = new0) (k : Nat)
    (plan' : Plan) (tmp0' new0' tmp1' new1' : Nat) :
    let d' : Disk := { run d ((commitOpsWith chk d v plan tmp0 new0 tmp1 new1).take k) with locked := false }
    new0' ∉ d'.names → new1' ∉ d'.names → new0' ≠ new1' →
    (∀ s, plan' = .combine s → ∀ n ∈ s, n ∈ d'.names ∨ n = new0') →
    ∀ k', let ops' := commitOpsWith chk d' ⟨d'.names, d'.names⟩ plan' tmp0' new0' tmp1' new1'
      complete chk (run d' (ops'.take k')) = true ∧
      ((run d' (ops'.take k')).names = d'.names ∨ (run d' (ops'.take k')).names = (run d' ops').names) := by
  intro d' g0 g1 g01 gplan k'
  have hc' : complete chk d' = true :=
    (commit_crash_atomic chk d v plan tmp0 new0 tmp1 new1 hc hv h0 h1 h01 h1v hplan k).1
  exact commit_crash_atomic chk d' ⟨d'.names, d'.names⟩ plan' tmp0' new0' tmp1' new1' hc'
    (fun n hn => hn) g0 g1 g01 g1 gplan k'

/-- the same after a FAILED commit (any fault, any crash prefix of its error
handling) -/
theorem fault_then_retry (chk : Bool) (d : Disk) (v : View) (plan : Plan) (tmp0 new0 tmp1 new1 : Nat)
    (hc : complete chk d = true)
    (hv : ∀ n ∈ v.names, n ∈ v.atLoad)
    (h0 : new0 ∉ d.names) (h1 : new1 ∉ d.names) (h01 : new0 ≠ new1) (h1v : new1 ∉ v.names)
    (hplan : ∀ s, plan = .combine s → ∀ n ∈ s, n ∈ v.names ∨ n = new0) (ord : List File) (f : Fault) (k : Nat)
    (plan' : Plan) (tmp0' new0' tmp1' new1' : Nat) :
    let d' : Disk := { run d ((commitFaultWith chk d v plan tmp0 new0 tmp1 new1 ord f).take k) with locked := false }
    new0' ∉ d'.names → new1' ∉ d'.names → new0' ≠ new1' →
    (∀ s, plan' = .combine s → ∀ n ∈ s, n ∈ d'.names ∨ n = new0') →
    ∀ k', let ops' := commitOpsWith chk d' ⟨d'.names, d'.names⟩ plan' tmp0' new0' tmp1' new1'
      complete chk (run d' (ops'.take k')) = true ∧
      ((run d' (ops'.take k')).names = d'.names ∨ (run d' (ops'.take k')).names = (run d' ops').names) := by
  intro d' g0 g1 g01 gplan k'
  have hc' : complete chk d' = true :=
    (commit_fault_atomic chk d v plan tmp0 new0 tmp1 new1 hc hv h0 h1 h01 h1v hplan ord f k).1
  exact commit_crash_atomic chk d' ⟨d'.names, d'.names⟩ plan' tmp0' new0' tmp1' new1' hc'
    (fun n hn => hn) g0 g1 g01 g1 gplan k'

/-- a commit that autopacks two packs; the `put_file` of `pack-names` (operation
27 of 48) fails with an I/O error: the real error path runs lock, unlock and
nothing else (28 operations), `pack-names` keeps the old list; when the
exception arrives just AFTER the `put_file`, the new list is in place and the
old packs are NOT moved away (they stay behind, unlisted) -/
example :
    let d : Disk := ⟨[0, 1], packFiles true 0 ++ packFiles true 1 ++ [⟨.obsolete, 7, .pack⟩], [], false⟩
    let v : View := ⟨[0, 1], [0, 1]⟩
    let ex := commitFaultWith true d v (.combine [0, 1, 2]) 10 2 11 3 []
    (commitOpsWith true d v (.combine [0, 1, 2]) 10 2 11 3)[27]? = some (Op.putNames [3]) ∧
    (ex ⟨27, false, .io⟩).length = 28 ∧ (run d (ex ⟨27, false, .io⟩)).names = [0, 1] ∧
    (run d (ex ⟨27, false, .io⟩)).locked = false ∧
    (ex ⟨27, true, .interrupt⟩).length = 29 ∧ (run d (ex ⟨27, true, .interrupt⟩)).names = [3] ∧
    ready true (run d (ex ⟨27, true, .interrupt⟩)) 0 = true ∧
    -- a TransportError on the first obsoleting move is skipped, the rest runs
    (ex ⟨30, false, .transport⟩).length = 47 ∧ (ex ⟨30, false, .io⟩).length = 30 ∧
    -- a fault while finishing the write group's own pack: NewPack.abort()
    ex ⟨5, false, .io⟩ = (commitOpsWith true d v (.combine [0, 1, 2]) 10 2 11 3).take 5
      ++ [Op.endWrite (upTmp 10 false), Op.delete (upTmp 10 false)] := by
  decide +kernel

/-- `pack(clean_obsolete_packs=True)` of two packs (34 operations; hypotheses of
`pack_fault_atomic` as in the example of `pack_crash_atomic`): a `TransportError`
on the second deletion of the final clear is skipped (33 operations executed,
the operation completes), an I/O error there stops it (25 executed, raises); an
interrupt inside the packer's `finish()` leaves everything as it was -/
example :
    let d : Disk := ⟨[0, 1], packFiles false 0 ++ packFiles false 1, [], false⟩
    let v : View := ⟨[0, 1], [0, 1]⟩
    (packFault false d v none false true 4 5 [] ⟨25, false, .transport⟩).length = 33 ∧
    packRaisesSel false d v (hintSel v none) false true 4 5 [] ⟨25, false, .transport⟩ = false ∧
    (packFault false d v none false true 4 5 [] ⟨25, false, .io⟩).length = 25 ∧
    packRaisesSel false d v (hintSel v none) false true 4 5 [] ⟨25, false, .io⟩ = true ∧
    (run d (packFault false d v none false true 4 5 [] ⟨25, false, .io⟩)).names = [5] ∧
    (run d (packFault false d v none false true 4 5 [] ⟨6, true, .interrupt⟩)).names = [0, 1] ∧
    complete false (run d (packFault false d v none false true 4 5 [] ⟨6, true, .interrupt⟩)) = true := by
  decide +kernel

end BreezyVerif.C04
