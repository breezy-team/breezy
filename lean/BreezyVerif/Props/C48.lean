import BreezyVerif.Lemmas.C48
import BreezyVerif.Lemmas.C48Gen
import BreezyVerif.Lemmas.C48Lex
/-!
C48 — theorems.  Everything is universally quantified over pattern lists of any
length, group sizes `g > 0` (the code uses 99) and file names of any length.
The selection theorems hold for ARBITRARY compiled patterns (any token lists),
hence in particular for the ones the lexer produces.

The LIVE model functions (the code since ac6b52e, every extension alternative
carries its own `.*\.`) are `globsterMatchO` / `exceptionMatchO`; the headline
theorems are about them.  The theorems named `…_greedy` / `…_partial` and
`group_size_witness` concern `globsterMatch` / `exceptionMatch`, the shared
greedy extension prefix of the code before ac6b52e (historical; the harness
reports a tie break if the live code has that shape again).  Both sets are
instances of the generic theorems of Lemmas/C48Gen.lean.
-/
namespace BreezyVerif.C48

/-- the first pattern, in type order (extension, basename, fullpath; list order
within a type), that matches — what a Globster without grouping limit reports
when the extension prefix cannot pick between two dots -/
def firstInTypeOrder (cps : List CPat) (name : List Char) : Option CPat :=
  (ofKind .ext cps ++ (ofKind .base cps ++ ofKind .full cps)).find? fun p => cpMatches p name

/-- at most one dot-suffix of the last component is matched by an extension pattern -/
def extUnambiguous (cps : List CPat) (name : List Char) : Bool :=
  decide (((dotSuffixes (basename name)).filter fun s => (ofKind .ext cps).any fun p => bodyMatch p s).length ≤ 1)

/-! ### Globster (live variant) -/

/-- the reported pattern is one of the patterns and it matches (any group size, even 0) -/
theorem reported_pattern_matches (g : Nat) (cps : List CPat) (name : List Char) (p : CPat)
    (h : globsterMatchO g cps name = some p) : p ∈ cps ∧ cpMatches p name = true :=
  gen_reported groupMatchO_sound g cps name p h

/-- a name is reported ignored exactly when at least one pattern matches it -/
theorem ignored_iff_some_matches (g : Nat) (hg : 0 < g) (cps : List CPat) (name : List Char) :
    (globsterMatchO g cps name).isSome = true ↔ ∃ p ∈ cps, cpMatches p name = true :=
  gen_ignored_iff groupMatchO_sound groupMatchO_complete g hg cps name

/-- within one type the groups of any size find what a single scan of that type's patterns finds -/
theorem kind_group_findO (g : Nat) (hg : 0 < g) (k : Kind) (cps : List CPat) (name : List Char) :
    ((chunks g (ofKind k cps)).map fun grp => (k, grp)).findSome? (fun kg => groupMatchO kg.1 kg.2 name)
      = (ofKind k cps).find? fun p => cpMatches p name := by
  rw [List.findSome?_map]
  have hcp : ∀ p ∈ ofKind k cps, cpMatches p name = kindMatches k p name := by
    intro p hp; rw [cpMatches_eq, (mem_ofKind.mp hp).2]
  rw [Lib.find?_congr_mem hcp]
  conv => rhs; rw [← chunks_flatten g hg (ofKind k cps)]
  rw [List.find?_flatten]
  rfl

/-- GROUP-SIZE INDEPENDENCE, full: for every group size the Globster reports the
first matching pattern in type order (extension, basename, fullpath; list order
within a type). -/
theorem group_size_irrelevant (g : Nat) (hg : 0 < g) (cps : List CPat) (name : List Char) :
    globsterMatchO g cps name = firstInTypeOrder cps name := by
  unfold globsterMatchO firstInTypeOrder groups typeOrder
  simp only [List.flatMap_cons, List.flatMap_nil, List.append_nil, List.findSome?_append, List.find?_append]
  rw [kind_group_findO g hg .ext, kind_group_findO g hg .base, kind_group_findO g hg .full]

/-- the reported pattern (not only whether one is reported) is the same for any two group sizes -/
theorem group_size_irrelevant_reported (g g' : Nat) (hg : 0 < g) (hg' : 0 < g')
    (cps : List CPat) (name : List Char) :
    globsterMatchO g cps name = globsterMatchO g' cps name := by
  rw [group_size_irrelevant g hg, group_size_irrelevant g' hg']

/-- whether a name is ignored does not depend on the group size -/
theorem group_size_irrelevant_ignored (g g' : Nat) (hg : 0 < g) (hg' : 0 < g')
    (cps : List CPat) (name : List Char) :
    (globsterMatchO g cps name).isSome = (globsterMatchO g' cps name).isSome := by
  rw [group_size_irrelevant_reported g g' hg hg']

/-! ### Globster (historical greedy variant, the code before ac6b52e) -/

theorem reported_pattern_matches_greedy (g : Nat) (cps : List CPat) (name : List Char) (p : CPat)
    (h : globsterMatch g cps name = some p) : p ∈ cps ∧ cpMatches p name = true :=
  gen_reported groupMatch_sound g cps name p h

theorem ignored_iff_some_matches_greedy (g : Nat) (hg : 0 < g) (cps : List CPat) (name : List Char) :
    (globsterMatch g cps name).isSome = true ↔ ∃ p ∈ cps, cpMatches p name = true :=
  gen_ignored_iff groupMatch_sound groupMatch_complete g hg cps name

/-- on WHETHER a name is ignored the two variants agree, for all group sizes -/
theorem variants_agree_on_ignored (g g' : Nat) (hg : 0 < g) (hg' : 0 < g')
    (cps : List CPat) (name : List Char) :
    (globsterMatch g cps name).isSome = (globsterMatchO g' cps name).isSome := by
  rw [Bool.eq_iff_iff, ignored_iff_some_matches_greedy g hg, ignored_iff_some_matches g' hg']

theorem kind_group_find (g : Nat) (hg : 0 < g) (k : Kind) (cps : List CPat) (name : List Char)
    (hk : k ≠ .ext) :
    ((chunks g (ofKind k cps)).map fun grp => (k, grp)).findSome? (fun kg => groupMatch kg.1 kg.2 name)
      = (ofKind k cps).find? fun p => cpMatches p name := by
  rw [← kind_group_findO g hg k cps name, List.findSome?_map, List.findSome?_map]
  cases k with
  | ext => exact absurd rfl hk
  | base => rfl
  | full => rfl

theorem ext_group_find (g : Nat) (hg : 0 < g) (cps : List CPat) (name : List Char)
    (hu : extUnambiguous cps name = true) :
    ((chunks g (ofKind .ext cps)).map fun grp => (Kind.ext, grp)).findSome? (fun kg => groupMatch kg.1 kg.2 name)
      = (ofKind .ext cps).find? fun p => cpMatches p name := by
  rw [List.findSome?_map]
  have hcp : ∀ p ∈ ofKind .ext cps, cpMatches p name = kindMatches .ext p name := by
    intro p hp; rw [cpMatches_eq, (mem_ofKind.mp hp).2]
  rw [Lib.find?_congr_mem hcp]
  have hlen : (((dotSuffixes (basename name)).reverse).filter
      fun s => (ofKind .ext cps).any fun p => bodyMatch p s).length ≤ 1 := by
    rw [List.filter_reverse, List.length_reverse]
    simpa [extUnambiguous] using hu
  -- every chunk behaves like `find?` with the per-pattern predicate
  have hgrp : ∀ grp ∈ chunks g (ofKind .ext cps),
      ((fun kg : Kind × List CPat => groupMatch kg.1 kg.2 name) ∘ fun grp => (Kind.ext, grp)) grp
        = grp.find? fun p => kindMatches .ext p name := by
    intro grp hmem
    have hsub : ∀ p ∈ grp, p ∈ ofKind .ext cps := chunks_sub g _ grp hmem
    simp only [Function.comp, groupMatch]
    rw [ext_group_unamb (ofKind .ext cps) grp hsub _ hlen]
    apply Lib.find?_congr_mem
    intro p _
    simp [kindMatches]
  conv => rhs; rw [← chunks_flatten g hg (ofKind .ext cps)]
  rw [List.find?_flatten]
  generalize chunks g (ofKind .ext cps) = L at hgrp ⊢
  induction L with
  | nil => rfl
  | cons a L ih =>
    simp only [List.findSome?_cons]
    rw [hgrp a (by simp)]
    cases a.find? (fun p => kindMatches .ext p name) with
    | some q => rfl
    | none => exact ih (fun grp h => hgrp grp (by simp [h]))

/-- HISTORICAL (greedy variant): for every group size the
Globster reports the first matching pattern in type order — PARTIAL: under the
hypothesis that at most one dot of the last component is followed by text that
an extension pattern matches.  Without it the reported pattern does depend on
the grouping (`group_size_witness`). -/
theorem group_size_irrelevant_partial (g : Nat) (hg : 0 < g) (cps : List CPat) (name : List Char)
    (hu : extUnambiguous cps name = true) :
    globsterMatch g cps name = firstInTypeOrder cps name := by
  unfold globsterMatch firstInTypeOrder groups typeOrder
  simp only [List.flatMap_cons, List.flatMap_nil, List.append_nil, List.findSome?_append, List.find?_append]
  rw [ext_group_find g hg cps name hu, kind_group_find g hg .base cps name (by decide),
    kind_group_find g hg .full cps name (by decide)]

/-- without extension patterns the hypothesis is void: full group-size independence -/
theorem first_in_type_order_noext (g : Nat) (hg : 0 < g) (cps : List CPat) (name : List Char)
    (hne : ∀ p ∈ cps, p.kind ≠ .ext) :
    globsterMatch g cps name = firstInTypeOrder cps name := by
  apply group_size_irrelevant_partial g hg
  have : ofKind .ext cps = [] := by
    simp only [ofKind, List.filter_eq_nil_iff]
    intro p hp; simpa using hne p hp
  have hf : ((dotSuffixes (basename name)).filter fun _ => false) = [] :=
    List.filter_eq_nil_iff.mpr (by simp)
  simp [extUnambiguous, this, hf]

def wAB : CPat := ⟨['*', '.', 'a', '.', 'b'], .ext, [.lit 'a', .lit '.', .lit 'b']⟩
def wB : CPat := ⟨['*', '.', 'b'], .ext, [.lit 'b']⟩

/-- HISTORICAL WITNESS (greedy variant; reproduced on the code before ac6b52e with 100 patterns): with `*.a.b` before
`*.b`, the name `x.a.b` is reported as `*.a.b` when the two patterns fall into
different groups and as `*.b` when they share a group. -/
theorem group_size_witness :
    compile ['*', '.', 'a', '.', 'b'] = some wAB ∧ compile ['*', '.', 'b'] = some wB ∧
    globsterMatch 1 [wAB, wB] ['x', '.', 'a', '.', 'b'] = some wAB ∧
    globsterMatch 2 [wAB, wB] ['x', '.', 'a', '.', 'b'] = some wB := by
  decide +kernel

/-! ### ExceptionGlobster (live variant) -/

theorem truthy_iff (g : Nat) (hg : 0 < g) (cps : List CPat) (name : List Char) (hne : noEmptySrc cps = true) :
    truthy (globsterMatchO g cps name) = true ↔ ∃ p ∈ cps, cpMatches p name = true :=
  gen_truthy_iff groupMatchO_sound groupMatchO_complete g hg cps name hne

/-- a matching `!!` pattern wins: the result is `!!` + a matching `!!` pattern -/
theorem exception_double (g : Nat) (hg : 0 < g) (p0 p1 p2 : List CPat) (name : List Char)
    (hne : noEmptySrc p2 = true) (h2 : ∃ p ∈ p2, cpMatches p name = true) :
    ∃ q ∈ p2, cpMatches q name = true ∧ exceptionMatchO g p0 p1 p2 name = some ('!' :: '!' :: q.src) :=
  gen_exception_double groupMatchO_sound groupMatchO_complete g hg p0 p1 p2 name hne h2

/-- no `!!` pattern matches but a `!` pattern does: not ignored -/
theorem exception_single (g : Nat) (hg : 0 < g) (p0 p1 p2 : List CPat) (name : List Char)
    (hne : noEmptySrc p1 = true) (h2 : ¬ ∃ p ∈ p2, cpMatches p name = true)
    (h1 : ∃ p ∈ p1, cpMatches p name = true) :
    exceptionMatchO g p0 p1 p2 name = none :=
  gen_exception_single groupMatchO_sound groupMatchO_complete g hg p0 p1 p2 name hne h2 h1

/-- neither kind of exception matches: the plain Globster decides -/
theorem exception_plain (g : Nat) (p0 p1 p2 : List CPat) (name : List Char)
    (h2 : ¬ ∃ p ∈ p2, cpMatches p name = true) (h1 : ¬ ∃ p ∈ p1, cpMatches p name = true) :
    exceptionMatchO g p0 p1 p2 name = (globsterMatchO g p0 name).map (·.src) :=
  gen_exception_plain groupMatchO_sound g p0 p1 p2 name h2 h1

/-- the complete decision table of `!` / `!!` precedence -/
theorem exception_ignored_iff (g : Nat) (hg : 0 < g) (p0 p1 p2 : List CPat) (name : List Char)
    (hne1 : noEmptySrc p1 = true) (hne2 : noEmptySrc p2 = true) :
    (exceptionMatchO g p0 p1 p2 name).isSome = true ↔
      (∃ p ∈ p2, cpMatches p name = true) ∨
      ((¬ ∃ p ∈ p1, cpMatches p name = true) ∧ ∃ p ∈ p0, cpMatches p name = true) :=
  gen_exception_ignored_iff groupMatchO_sound groupMatchO_complete g hg p0 p1 p2 name hne1 hne2

/-- the whole RESULT of `ExceptionGlobster.match` (not only whether it is
`None`) is independent of the group size; no hypothesis on the patterns -/
theorem exception_group_size_irrelevant (g g' : Nat) (hg : 0 < g) (hg' : 0 < g') (p0 p1 p2 : List CPat)
    (name : List Char) :
    exceptionMatchO g p0 p1 p2 name = exceptionMatchO g' p0 p1 p2 name := by
  unfold exceptionMatchO
  rw [group_size_irrelevant_reported g g' hg hg' p2, group_size_irrelevant_reported g g' hg hg' p1,
    group_size_irrelevant_reported g g' hg hg' p0]

/-- the result written out over the three lists: the first matching `!!`
pattern in type order, else nothing if a `!` pattern matches, else the first
matching plain pattern in type order -/
theorem exception_spec (g : Nat) (hg : 0 < g) (p0 p1 p2 : List CPat) (name : List Char)
    (hne1 : noEmptySrc p1 = true) (hne2 : noEmptySrc p2 = true) :
    exceptionMatchO g p0 p1 p2 name =
      match firstInTypeOrder p2 name with
      | some q => some ('!' :: '!' :: q.src)
      | none => if (p1.any fun p => cpMatches p name) then none else (firstInTypeOrder p0 name).map (·.src) := by
  rw [exceptionMatchO_eq_with, gen_exception_eq groupMatchO_sound groupMatchO_complete g hg p0 p1 p2 name hne1 hne2,
    ← globsterMatchO_eq_with, group_size_irrelevant g hg, group_size_irrelevant g hg]
  cases firstInTypeOrder p2 name <;> rfl

/-- HISTORICAL (greedy variant): the decision table also held before ac6b52e -/
theorem exception_ignored_iff_greedy (g : Nat) (hg : 0 < g) (p0 p1 p2 : List CPat) (name : List Char)
    (hne1 : noEmptySrc p1 = true) (hne2 : noEmptySrc p2 = true) :
    (exceptionMatch g p0 p1 p2 name).isSome = true ↔
      (∃ p ∈ p2, cpMatches p name = true) ∨
      ((¬ ∃ p ∈ p1, cpMatches p name = true) ∧ ∃ p ∈ p0, cpMatches p name = true) :=
  gen_exception_ignored_iff groupMatch_sound groupMatch_complete g hg p0 p1 p2 name hne1 hne2

/-- WITNESS that the non-emptiness hypothesis is needed: an exception pattern `!`
(empty body) matches the path `a/` (empty last component), but Python's
truthiness test of `""` lets the plain `*` win.  File names have a non-empty
last component, so this is outside the property's quantifier. -/
theorem exception_empty_pattern_witness :
    cpMatches ⟨[], .base, []⟩ ['a', '/'] = true ∧
    exceptionMatchO 99 [⟨['*'], .base, [.star]⟩] [⟨[], .base, []⟩] [] ['a', '/'] = some ['*'] := by
  decide +kernel

/-- the constructor's split: `!!x` goes to the double-exception list as `x`,
`!x` (not `!!…`) to the exception list as `x`, everything else stays plain -/
theorem splitExc_spec (pats : List (List Char)) (x : List Char) :
    (x ∈ (splitExc pats).2.2 ↔ ('!' :: '!' :: x) ∈ pats) ∧
    (x ∈ (splitExc pats).2.1 ↔ ('!' :: x) ∈ pats ∧ x.head? ≠ some '!') ∧
    (x ∈ (splitExc pats).1 ↔ x ∈ pats ∧ x.head? ≠ some '!') := by
  induction pats with
  | nil => simp [splitExc]
  | cons p ps ih =>
    obtain ⟨ih1, ih2, ih3⟩ := ih
    unfold splitExc
    split
    · rename_i y
      refine ⟨?_, ?_, ?_⟩
      · simp [ih1]
      · simp only [ih2, List.mem_cons, List.cons.injEq, true_and]
        constructor
        · rintro ⟨h, hx⟩; exact ⟨Or.inr h, hx⟩
        · rintro ⟨h | h, hx⟩
          · subst h; simp at hx
          · exact ⟨h, hx⟩
      · simp only [ih3, List.mem_cons]
        constructor
        · rintro ⟨h, hx⟩; exact ⟨Or.inr h, hx⟩
        · rintro ⟨h | h, hx⟩
          · subst h; simp at hx
          · exact ⟨h, hx⟩
    · rename_i y hnot
      refine ⟨?_, ?_, ?_⟩
      · simp only [ih1, List.mem_cons, List.cons.injEq, true_and]
        constructor
        · intro h; exact Or.inr h
        · rintro (h | h)
          · exact absurd h.symm (by intro e; exact hnot x (by rw [e]))
          · exact h
      · simp only [List.mem_cons, ih2, List.cons.injEq, true_and]
        constructor
        · rintro (h | ⟨h, hx⟩)
          · subst h
            refine ⟨Or.inl rfl, ?_⟩
            intro hh
            cases x with
            | nil => simp at hh
            | cons c x' => simp at hh; subst hh; exact hnot x' rfl
          · exact ⟨Or.inr h, hx⟩
        · rintro ⟨h | h, hx⟩
          · exact Or.inl h
          · exact Or.inr ⟨h, hx⟩
      · simp only [ih3, List.mem_cons]
        constructor
        · rintro ⟨h, hx⟩; exact ⟨Or.inr h, hx⟩
        · rintro ⟨h | h, hx⟩
          · subst h; simp at hx
          · exact ⟨h, hx⟩
    · rename_i hnn hn
      refine ⟨?_, ?_, ?_⟩
      · simp only [ih1, List.mem_cons]
        constructor
        · intro h; exact Or.inr h
        · rintro (h | h)
          · exact absurd h.symm (hnn x)
          · exact h
      · simp only [ih2, List.mem_cons]
        constructor
        · rintro ⟨h, hx⟩; exact ⟨Or.inr h, hx⟩
        · rintro ⟨h | h, hx⟩
          · exact absurd h.symm (hn x)
          · exact ⟨h, hx⟩
      · simp only [List.mem_cons, ih3]
        constructor
        · rintro (h | ⟨h, hx⟩)
          · subst h
            refine ⟨Or.inl rfl, ?_⟩
            intro hh
            cases x with
            | nil => simp at hh
            | cons c x' => simp at hh; subst hh; exact hn x' rfl
          · exact ⟨Or.inr h, hx⟩
        · rintro ⟨h | h, hx⟩
          · exact Or.inl h
          · exact Or.inr ⟨h, hx⟩

/-! ### _OrderedGlobster -/

/-- the ordered variant reports the first pattern of the list that matches -/
theorem ordered_first_match (cps : List CPat) (name : List Char) :
    orderedMatch cps name = cps.find? fun p => cpMatches p name := by
  unfold orderedMatch
  rw [← findSome?_ite_eq_find?]
  congr 1
  funext p
  rw [cpMatches_eq]
  exact groupMatch_single p.kind p name

/-! ### documented matching rules -/

/-- a pattern of basename or extension type only looks at the last component:
any directory prefix is irrelevant -/
theorem basename_dir_irrelevant (p : CPat) (d b : List Char) (hk : p.kind ≠ .full) (hb : '/' ∉ b) :
    cpMatches p (d ++ '/' :: b) = cpMatches p b := by
  unfold cpMatches
  cases hkind : p.kind with
  | full => exact absurd hkind hk
  | base => simp only [basename_dir d b hb, basename_no_slash b hb]
  | ext => simp only [basename_dir d b hb, basename_no_slash b hb]

/-- `*.ext` with a literal extension matches exactly the names whose last
component ends in `.ext` -/
theorem ext_literal_iff_suffix (src e name : List Char) :
    cpMatches ⟨src, .ext, e.map Tok.lit⟩ name = true ↔ ∃ stem, basename name = stem ++ '.' :: e := by
  simp only [cpMatches, List.any_eq_true, bodyMatch, matchToks_lits]
  constructor
  · rintro ⟨s, hs, he⟩
    subst he
    exact (mem_dotSuffixes _ _).mp hs
  · intro h
    exact ⟨e, (mem_dotSuffixes _ _).mpr h, rfl⟩

/-- `**/` matches any directory prefix (including none) -/
theorem starstar_iff (full : Bool) (ts : List Tok) (name : List Char) :
    matchToks full (.starstar :: ts) name = true ↔
      matchToks full ts name = true ∨ ∃ d s, name = d ++ '/' :: s ∧ matchToks full ts s = true := by
  simp only [matchToks, Bool.or_eq_true, afterSlash_iff]

/-- the lexer turns a leading `**/` into the any-directory-prefix token, and
drops leading `./` and `/` -/
theorem lex_starstar_prefix (p : List Char) :
    lexRun true .seg ('*' :: '*' :: '/' :: p) = (lexRun true .seg p).map (Tok.starstar :: ·) ∧
    lexRun true .seg ('.' :: '/' :: p) = lexRun true .seg p ∧
    lexRun true .seg ('/' :: p) = lexRun true .seg p := by
  have e1 : step true .seg '*' = some (.segStars 0, []) := rfl
  have e2 : step true (.segStars 0) '*' = some (.segStars 1, []) := rfl
  have e3 : step true (.segStars 1) '/' = some (.seg, [.starstar]) := rfl
  have e4 : step true .seg '.' = some (.segDot, []) := rfl
  have e5 : step true .segDot '/' = some (.seg, []) := rfl
  have e6 : step true .seg '/' = some (.seg, []) := rfl
  refine ⟨?_, ?_, ?_⟩
  · simp only [lexRun, e1, e2, e3]
    generalize lexRun true .seg p = r
    cases r <;> rfl
  · simp only [lexRun, e4, e5]
    generalize lexRun true .seg p = r
    cases r <;> rfl
  · simp only [lexRun, e6]
    generalize lexRun true .seg p = r
    cases r <;> rfl

/-- `/**/` (two or more stars) in the MIDDLE of a full-path pattern: whenever
the text `a` before it leaves the lexer inside a segment (state `mid`, or
`stars` after a `*`), the pattern `a/**…*/p` lexes to the tokens of `a`, a
literal `/`, the any-directory-prefix token, and the tokens of `p`. -/
theorem lex_starstar_mid (a p : List Char) (st : LexSt) (ta : List Tok) (n : Nat)
    (ha : lexSteps true .seg a = some (st, ta)) (hst : st = .mid ∨ st = .stars) :
    lexRun true .seg (a ++ '/' :: '*' :: (List.replicate (n + 1) '*' ++ '/' :: p)) =
      (lexRun true .seg p).map fun r => ta ++ (Tok.lit '/' :: Tok.starstar :: r) := by
  rw [lexRun_append true a _ .seg st ta ha]
  have e1 : step true st '/' = some (.seg, [Tok.lit '/']) := by
    rcases hst with rfl | rfl <;> rfl
  have e2 : step true .seg '*' = some (.segStars 0, []) := rfl
  simp only [lexRun, e1, e2]
  rw [segStars_run p (n + 1) 0]
  have : (0 + (n + 1) ≥ 1) := by omega
  simp only [this, if_true]
  cases lexRun true .seg p <;> simp

/-- what the tokens `lex_starstar_mid` puts after those of `a` mean: a `/`, then
either `b` directly or any further directories before `b` (`ta` plays no role) -/
theorem starstar_mid_matches (ta tb : List Tok) (name : List Char) :
    matchToks true (Tok.lit '/' :: Tok.starstar :: tb) name = true ↔
      ∃ s, name = '/' :: s ∧ (matchToks true tb s = true ∨ ∃ d r, s = d ++ '/' :: r ∧ matchToks true tb r = true) := by
  cases name with
  | nil => simp [matchToks]
  | cons x s =>
    simp only [matchToks, Bool.and_eq_true, beq_iff_eq, Bool.or_eq_true, afterSlash_iff, List.cons.injEq]
    constructor
    · rintro ⟨rfl, h⟩; exact ⟨s, ⟨rfl, rfl⟩, h⟩
    · rintro ⟨s', ⟨rfl, rfl⟩, h⟩; exact ⟨rfl, h⟩

example : lexSteps true .seg ['a', '*'] = some (.stars, [.lit 'a', .star]) := by decide +kernel
example : compile ['a', '/', '*', '*', '/', 'b'] =
    some ⟨['a', '/', '*', '*', '/', 'b'], .full, [.lit 'a', .lit '/', .starstar, .lit 'b']⟩ := by decide +kernel
example : matchToks true [.lit 'a', .lit '/', .starstar, .lit 'b'] ['a', '/', 'b'] = true ∧
    matchToks true [.lit 'a', .lit '/', .starstar, .lit 'b'] ['a', '/', 'x', '/', 'y', '/', 'b'] = true ∧
    matchToks true [.lit 'a', .lit '/', .starstar, .lit 'b'] ['a', 'b'] = false ∧
    matchToks true [.lit 'a', .lit '/', .starstar, .lit 'b'] ['a', '/', 'x', 'b'] = false := by decide +kernel

/-- a normalised pattern has no backslash-as-separator left, no doubled and no
trailing slash — unless it is an `RE:` / `!RE:` pattern, which keeps its slashes -/
theorem normalize_clean (p : List Char) (h : isRe p = false) : cleanFrom false (normalize p) = true := by
  have hre' : (startsWith reP p || startsWith nreP p) = false := by unfold isRe at h; exact h
  rw [normalize_nonre p hre']
  split
  · exact clean_rstrip _ (clean_collapseAux p false)
  · exact clean_collapseAux p false

example : normalize ['a', '\\', '\\', 'b', '/', '/'] = ['a', '/', 'b'] ∧ isRe ['a', '\\', 'b'] = false ∧
    normalize ['R', 'E', ':', 'a', '/', '/', 'b', '/'] = ['R', 'E', ':', 'a', '/', '/', 'b'] := by decide +kernel

/-- `*` matches any run of characters, which in full-path mode must not contain `/` -/
theorem star_iff (full : Bool) (ts : List Tok) (s : List Char) :
    matchToks full (.star :: ts) s = true ↔
      ∃ u v, s = u ++ v ∧ (∀ c ∈ u, full = true → c ≠ '/') ∧ matchToks full ts v = true := by
  simp only [matchToks, starLoop_iff, charOk]
  constructor
  · rintro ⟨u, v, hs, hu, hv⟩
    refine ⟨u, v, hs, ?_, hv⟩
    intro c hc hf
    have := hu c hc
    simpa [hf] using this
  · rintro ⟨u, v, hs, hu, hv⟩
    refine ⟨u, v, hs, ?_, hv⟩
    intro c hc
    cases full with
    | false => simp
    | true => simpa using hu c hc rfl

/-- on a subject without `/` the two matching modes agree (so a basename
pattern means the same as the full-path pattern applied to the last component) -/
theorem mode_irrelevant_without_slash (ts : List Tok) (s : List Char) (h : '/' ∉ s) :
    matchToks true ts s = matchToks false ts s := by
  induction ts generalizing s with
  | nil => simp [matchToks]
  | cons t ts ih =>
    cases t with
    | lit c =>
      cases s with
      | nil => simp [matchToks]
      | cons x s => simp only [matchToks]; rw [ih s (fun hm => h (by simp [hm]))]
    | any1 =>
      cases s with
      | nil => simp [matchToks]
      | cons x s =>
        have hx : x ≠ '/' := fun e => h (by simp [e])
        simp only [matchToks, charOk]
        rw [ih s (fun hm => h (by simp [hm]))]
        simp [hx]
    | cls neg items =>
      cases s with
      | nil => simp [matchToks]
      | cons x s => simp only [matchToks]; rw [ih s (fun hm => h (by simp [hm]))]
    | star =>
      simp only [matchToks]
      apply starLoop_congr _ _ _ _ (fun c => c ≠ '/')
      · intro c hc; simp [charOk, hc]
      · intro s' hs'; exact ih s' (fun hm => hs' _ hm rfl)
      · intro c hc e; exact h (e ▸ hc)
    | starstar =>
      simp only [matchToks]
      rw [ih s h, afterSlash_no_slash _ s h, afterSlash_no_slash _ s h]

/-- a pattern containing `/` is a full-path pattern; otherwise `*.…` is an
extension pattern and anything else (not `RE:`) a basename pattern -/
theorem identify_slash_full (p : List Char) :
    ('/' ∈ p → identify p = .full) ∧
    ('/' ∉ p → startsWith reP p = false → startsWith extP p = true → identify p = .ext) ∧
    ('/' ∉ p → startsWith reP p = false → startsWith extP p = false → identify p = .base) := by
  refine ⟨?_, ?_, ?_⟩
  · intro h; simp [identify, h]
  · intro h h1 h2; simp [identify, h, h1, h2]
  · intro h h1 h2; simp [identify, h, h1, h2]

/-! ### non-vacuity -/

-- hypotheses of `group_size_irrelevant_partial`: satisfied with two matching extension patterns
example : extUnambiguous [wB, wAB, ⟨['*', '.', '*'], .ext, [.star]⟩] ['d', '/', 'x', '.', 'b'] = true ∧
    firstInTypeOrder [wB, wAB, ⟨['*', '.', '*'], .ext, [.star]⟩] ['d', '/', 'x', '.', 'b'] = some wB := by decide +kernel
-- … and violated exactly in the witness situation
example : extUnambiguous [wAB, wB] ['x', '.', 'a', '.', 'b'] = false := by decide +kernel
-- exception hypotheses
example : noEmptySrc [wAB, wB] = true ∧ (∃ p ∈ [wAB, wB], cpMatches p ['x', '.', 'b'] = true) := by decide +kernel
example : exceptionMatchO 99 [wB] [wAB] [] ['x', '.', 'a', '.', 'b'] = none ∧
    exceptionMatchO 99 [wB] [wAB] [wB] ['x', '.', 'a', '.', 'b'] = some ['!', '!', '*', '.', 'b'] := by decide +kernel
-- the live variant on the historical witness: `*.a.b` is reported for both groupings
example : globsterMatchO 1 [wAB, wB] ['x', '.', 'a', '.', 'b'] = some wAB ∧
    globsterMatchO 2 [wAB, wB] ['x', '.', 'a', '.', 'b'] = some wAB := by decide +kernel
-- basename_dir_irrelevant
example : wB.kind ≠ .full ∧ '/' ∉ ['x', '.', 'b'] ∧ cpMatches wB (['d', '/', 'e'] ++ '/' :: ['x', '.', 'b']) = true := by decide +kernel
-- the lexer on a full-path pattern: `./**/a*/[!b-c]?`
example : compile ['.', '/', '*', '*', '/', 'a', '*', '/', '[', '!', 'b', '-', 'c', ']', '?'] =
    some ⟨['.', '/', '*', '*', '/', 'a', '*', '/', '[', '!', 'b', '-', 'c', ']', '?'], .full,
      [.starstar, .lit 'a', .star, .lit '/', .cls true [('b', 'c')], .any1]⟩ := by decide +kernel
example : matchToks true [.starstar, .lit 'a', .star, .lit '/', .cls true [('b', 'c')], .any1]
    ['x', '/', 'y', '/', 'a', 'b', '/', 'd', 'e'] = true := by decide +kernel
example : matchToks true [.star, .lit 'c'] ['a', '/', 'c'] = false ∧
    matchToks false [.star, .lit 'c'] ['a', '/', 'c'] = true := by decide +kernel

end BreezyVerif.C48
