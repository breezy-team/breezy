import BreezyVerif.Lemmas.C29CK
import BreezyVerif.Lemmas.C29Misc
import BreezyVerif.Lemmas.C29Req
/-!
C29 — smart protocol messages survive the wire unchanged.

For every decoder `D ∈ {LengthPrefixedBodyDecoder (LP), ChunkedBodyDecoder (CK),
ProtocolThreeDecoder (V3), SmartServerRequestProtocolOne/Two (Req)}`:

* `*_feed_append`: `accept_bytes(a); accept_bytes(b)` leaves the decoder in exactly
  the state `accept_bytes(a ++ b)` does — for EVERY state (not only reachable
  ones) and all byte strings, hence
* `*_segmentation_independent`: any two ways of cutting the same byte stream
  into (at least one) reads give the same state, and
* `*_roundtrip`: decoding `encode m ++ rest`, cut into reads arbitrarily, ends
  finished with exactly `m` decoded and `unused_data = rest`.

All statements are unbounded (any sizes, any number of reads).
-/
namespace BreezyVerif.C29

/-- generic corollary of an append law: the state only depends on the concatenation -/
theorem segmentation_of_append {S : Type} (feed : S → Bytes → S)
    (happ : ∀ s a b, feed (feed s a) b = feed s (a ++ b))
    (s : S) (segs₁ segs₂ : List Bytes) (h₁ : segs₁ ≠ []) (h₂ : segs₂ ≠ [])
    (h : segs₁.flatten = segs₂.flatten) :
    feedAll feed s segs₁ = feedAll feed s segs₂ := by
  rw [feedAll_eq_feed feed happ s h₁, feedAll_eq_feed feed happ s h₂, h]

/-! ## LengthPrefixedBodyDecoder -/

theorem lp_feed_append (s : LP) (a b : Bytes) : (s.feed a).feed b = s.feed (a ++ b) :=
  LP.feed_append s a b

theorem lp_segmentation_independent (s : LP) (segs₁ segs₂ : List Bytes)
    (h₁ : segs₁ ≠ []) (h₂ : segs₂ ≠ []) (h : segs₁.flatten = segs₂.flatten) :
    feedAll LP.feed s segs₁ = feedAll LP.feed s segs₂ :=
  segmentation_of_append LP.feed LP.feed_append s _ _ h₁ h₂ h

/-- `_encode_bulk_data(body)` followed by any bytes `rest`, delivered in any
reads: the decoder finishes with exactly `body` and `unused_data = rest`. -/
theorem lp_roundtrip (body rest : Bytes) (segs : List Bytes) (hne : segs ≠ [])
    (h : segs.flatten = lpEncode body ++ rest) :
    feedAll LP.feed LP.init segs = .done body rest := by
  rw [feedAll_eq_feed _ LP.feed_append _ hne, h, LP.feed_init_encode]

/-- `read_pending_data()` between reads does not change what is decoded: the bytes
returned before plus the bytes returned after equal what an undrained decoder returns -/
theorem lp_drain_commutes (s : LP) (x : Bytes) :
    (LP.drain (LP.feed (LP.drain s).2 x)).2 = (LP.drain (LP.feed s x)).2 ∧
    (LP.drain s).1 ++ (LP.drain (LP.feed (LP.drain s).2 x)).1 = (LP.drain (LP.feed s x)).1 := by
  cases s with
  | expectingLength buf => simp [LP.drain]
  | readingBody l bd =>
    simp only [LP.drain, LP.feed, LP.bodyStep, LP.trailerStep]
    by_cases h1 : l ≤ x.length
    · by_cases h2 : doneMarker.isPrefixOf (x.drop l) = true <;> simp [h1, h2]
    · simp [h1]
  | readingTrailer bd t =>
    simp only [LP.drain, LP.feed, LP.trailerStep]
    by_cases h2 : doneMarker.isPrefixOf (t ++ x) = true <;> simp [h2]
  | done bd u => simp [LP.drain, LP.feed]
  | failed => simp [LP.drain, LP.feed]

example : feedAll LP.feed LP.init [[51], [10, 97], [98, 99, 100, 111], [110, 101, 10, 88]]
    = .done [97, 98, 99] [88] := by decide +kernel

/-! ## ChunkedBodyDecoder -/

theorem ck_feed_append (s : CK) (a b : Bytes) : (s.feed a).feed b = s.feed (a ++ b) :=
  CK.feed_append s a b

theorem ck_segmentation_independent (s : CK) (segs₁ segs₂ : List Bytes)
    (h₁ : segs₁ ≠ []) (h₂ : segs₂ ≠ []) (h : segs₁.flatten = segs₂.flatten) :
    feedAll CK.feed s segs₁ = feedAll CK.feed s segs₂ :=
  segmentation_of_append CK.feed CK.feed_append s _ _ h₁ h₂ h

/-- `_send_stream` of any chunks, optionally ended by a
`FailedSmartServerResponse(args)` (an error raised mid-stream), followed by any
`rest`, delivered in any reads: the decoder yields exactly those chunks, then the
failure, and `unused_data = rest`. -/
theorem ck_roundtrip (chunks : List Bytes) (err : Option (List Bytes)) (rest : Bytes)
    (segs : List Bytes) (hne : segs ≠ []) (h : segs.flatten = ckEncode chunks err ++ rest) :
    feedAll CK.feed CK.init segs = .done (ckExpected chunks err) rest := by
  rw [feedAll_eq_feed _ CK.feed_append _ hne, h, CK.feed_init_encode]

example : feedAll CK.feed CK.init
    [[99, 104, 117, 110, 107], [101, 100, 10, 50, 10, 97], [98, 69, 82, 82, 10, 49, 10, 120, 69],
     [78, 68, 10, 33]]
    = .done [.data [97, 98], .failure [[120]]] [33] := by decide +kernel

/-! ## ProtocolThreeDecoder -/

theorem v3_feed_append (s : V3) (a b : Bytes) : (s.feed a).feed b = s.feed (a ++ b) :=
  V3.feed_append s a b

theorem v3_segmentation_independent (s : V3) (segs₁ segs₂ : List Bytes)
    (h₁ : segs₁ ≠ []) (h₂ : segs₂ ≠ []) (h : segs₁.flatten = segs₂.flatten) :
    feedAll V3.feed s segs₁ = feedAll V3.feed s segs₂ :=
  segmentation_of_append V3.feed V3.feed_append s _ _ h₁ h₂ h

/-- Server side (the medium has consumed the version marker): headers, any
sequence of parts (`o?`, `b…`, `s…`) and the final `e`, followed by any `rest`,
in any reads: the handler receives exactly those parts in order, then
`end_received`, and `unused_data = rest`.  Each length must fit `struct.pack("!L")`. -/
theorem v3_roundtrip_server (headers : Bytes) (parts : List Part) (rest : Bytes)
    (hh : headers.length < 4294967296) (hp : V3.partsOk parts = true)
    (segs : List Bytes) (hne : segs ≠ []) (h : segs.flatten = v3EncodeBody headers parts ++ rest) :
    feedAll V3.feed (V3.init false) segs
      = .done (.headers headers :: (parts.map Part.ev ++ [.end_])) rest := by
  rw [feedAll_eq_feed _ V3.feed_append _ hne, h]
  exact V3.proc_headers_encode _ _ _ _ hh hp

/-- Client side (`expect_version_marker=True`): the same for a whole message
including the version marker. -/
theorem v3_roundtrip_client (headers : Bytes) (parts : List Part) (rest : Bytes)
    (hh : headers.length < 4294967296) (hp : V3.partsOk parts = true)
    (segs : List Bytes) (hne : segs ≠ []) (h : segs.flatten = v3Encode headers parts ++ rest) :
    feedAll V3.feed (V3.init true) segs
      = .done (.headers headers :: (parts.map Part.ev ++ [.end_])) rest := by
  rw [feedAll_eq_feed _ V3.feed_append _ hne, h]
  exact V3.proc_version_encode _ _ _ hh hp

example : V3.partsOk [.byte 83, .struct [108, 101], .bytes [1, 2, 3]] = true := by decide +kernel

/-- the bencoded argument list written by `_write_structure(args)` decodes to `args` -/
theorem v3_args_bencode_roundtrip (args : List Bytes) :
    bdecodeArgs (bencodeArgs args) = some args := by
  simp only [bencodeArgs, bdecodeArgs]
  exact bdecodeItems_encode args

/-! ### conventional response on top of the v3 framing -/

/-- what `ConventionalResponseHandler` should hold after a response -/
def respExpected (ok : Bool) (args : Bytes) : RespBody → Resp
  | .none_ => { status := some (if ok then 83 else 69), args := some args, ended := true }
  | .body b => { status := some (if ok then 83 else 69), args := some args, parts := [b],
                 bodyStarted := true, ended := true }
  | .stream cs none => { status := some (if ok then 83 else 69), args := some args, parts := cs,
                         bodyStarted := !cs.isEmpty, ended := true }
  | .stream cs (some e) => { status := some (if ok then 83 else 69), args := some args, parts := cs,
                             bodyStarted := true, streamStatus := some 69, errArgs := some e,
                             ended := true }

/-- the input family on which the real handler fails (see `resp_stream_error_first_witness`) -/
def errorBeforeFirstChunk : RespBody → Bool
  | .stream [] (some _) => true
  | _ => false

/-- expected handler state for the handler with the proposed fix: as `respExpected`,
and a stream that failed before its first chunk delivers its error too -/
def respExpectedFixed (ok : Bool) (args : Bytes) : RespBody → Resp
  | .stream [] (some e) => { status := some (if ok then 83 else 69), args := some args,
                             streamStatus := some 69, errArgs := some e, ended := true }
  | b => respExpected ok args b

theorem respExpectedFixed_eq (ok : Bool) (args : Bytes) {body : RespBody}
    (h : errorBeforeFirstChunk body = false) :
    respExpectedFixed ok args body = respExpected ok args body := by
  unfold respExpectedFixed
  split
  · cases h
  · rfl

/-- Both handlers at once: status, args, body / streamed chunks and a mid-stream error reach
the response handler unchanged; only a stream that fails before its first chunk needs the
fix (`fx = true`). -/
theorem resp_handler_roundtrip (fx ok : Bool) (headers args : Bytes) (body : RespBody)
    (h : fx = true ∨ errorBeforeFirstChunk body = false) :
    Resp.run fx {} (.headers headers :: ((respParts ok args body).map Part.ev ++ [.end_]))
      = .ok (respExpectedFixed ok args body) := by
  rw [respParts.eq_def, List.map_append, List.append_assoc, Resp.run_start]
  cases body with
  | none_ => rfl
  | body b => rfl
  | stream cs err =>
    simp only
    rw [List.map_append, map_ev_bytes, List.append_assoc, Resp.run_append, Resp.run_bytes]
    -- only a stream that fails before its first chunk consults `fx`
    cases cs with
    | cons c cs => cases err <;> rfl
    | nil =>
      cases err with
      | none => rfl
      | some e =>
        rcases h with rfl | h
        · rfl
        · cases h

/-- PARTIAL (the code as found, `fx = false`): status, args, body / streamed chunks and a
mid-stream error reach the response handler unchanged — except when the stream fails
before its first chunk (excluded by `hex`; that family is a real defect of the code,
witnessed below). -/
theorem resp_handler_roundtrip_partial (ok : Bool) (headers args : Bytes) (body : RespBody)
    (hex : errorBeforeFirstChunk body = false) :
    Resp.run false {} (.headers headers :: ((respParts ok args body).map Part.ev ++ [.end_]))
      = .ok (respExpected ok args body) :=
  (resp_handler_roundtrip false ok headers args body (Or.inr hex)).trans
    (congrArg _ (respExpectedFixed_eq ok args hex))

example : errorBeforeFirstChunk (.stream [[1, 2]] (some [108, 101])) = false := by decide +kernel

/-- WITNESS (finding F15, code as found): a successful response whose body stream fails
before yielding a chunk is written as `oS s(args) oE s(err) e`; the response handler
takes the `oE` for a second status byte and raises instead of delivering `err`. -/
theorem resp_stream_error_first_witness :
    Resp.run false {} (.headers [100, 101] ::
        ((respParts true [108, 101] (.stream [] (some [108, 101]))).map Part.ev ++ [.end_]))
      = .error .unexpectedByte := by
  simp [respParts, Resp.run, Resp.step, Part.ev]

/-- With the proposed fix (`fx = true`) the round trip holds for EVERY conventional
response, including a body stream that fails before its first chunk. -/
theorem resp_handler_roundtrip_fixed (ok : Bool) (headers args : Bytes) (body : RespBody) :
    Resp.run true {} (.headers headers :: ((respParts ok args body).map Part.ev ++ [.end_]))
      = .ok (respExpectedFixed ok args body) :=
  resp_handler_roundtrip true ok headers args body (Or.inl rfl)

/-! ## protocol 1 / 2 -/

/-- `_decode_tuple(_encode_tuple(args)) == args` for every non-empty tuple whose
elements do not contain the separator byte `\x01` -/
theorem tuple_roundtrip (args : List Bytes) (h : tupleOk args = true) :
    decodeTuple (encodeTuple args) = .ok args := by
  unfold decodeTuple encodeTuple
  have h1 : (joinSoh args ++ [10]).isEmpty = false := by
    cases joinSoh args <;> rfl
  simp only [h1, Bool.false_eq_true, if_false, List.getLast?_append, List.getLast?_singleton,
    Option.some_or, if_true, List.dropLast_concat]
  rw [splitSoh_joinSoh h]

example : tupleOk [[104, 105], [], [10, 0, 255]] = true := by decide +kernel

/-- the two excluded families really do not round-trip (inherent to the v1/v2 wire format) -/
theorem tuple_empty_witness : decodeTuple (encodeTuple []) = .ok [[]] := by decide +kernel
theorem tuple_separator_witness : decodeTuple (encodeTuple [[97, 1, 98]]) = .ok [[97], [98]] := by
  decide +kernel

theorem req_feed_append (w : List Bytes → Bool) (s : Req) (a b : Bytes) :
    (s.feed w a).feed w b = s.feed w (a ++ b) :=
  Req.feed_append w s a b

/-- A version 1 (or, after the marker, version 2) request — argument tuple plus
an optional length-prefixed body — followed by any `rest`, in any reads: the
server protocol dispatches exactly `args`, hands the command exactly `body`, and
keeps `rest` as `unused_data` for the next request.  `w` says whether the verb
reads a body. -/
theorem req_roundtrip (w : List Bytes → Bool) (args : List Bytes) (body : Option Bytes)
    (rest : Bytes) (hok : Req.argsOk args = true) (hw : w args = body.isSome)
    (segs : List Bytes) (hne : segs ≠ []) (h : segs.flatten = reqEncode args body ++ rest) :
    feedAll (Req.feed w) (.line []) segs = .done args body rest := by
  rw [feedAll_eq_feed _ (Req.feed_append w) _ hne, h, Req.feed_init_encode w args body rest hok hw]

example : Req.argsOk [[103, 101, 116], [47, 97]] = true := by decide +kernel

/-! ## readv offsets -/

/-- `_deserialise_offsets(_serialise_offsets(l)) == l` for EVERY list of (start, length)
pairs (any length, unbounded numbers) -/
theorem offsets_roundtrip (l : List (Nat × Nat)) :
    deserialiseOffsets (serialiseOffsets l) = some l := by
  unfold deserialiseOffsets
  induction l with
  | nil => simp [serialiseOffsets, splitByte]
  | cons p rest ih =>
    cases rest with
    | nil =>
      rw [serialiseOffsets_single, splitByte_of_notMem (offsetLine_no_nl p)]
      simp [offsetLine_ne_nil, parseOffsetLine_offsetLine]
    | cons q rest' =>
      rw [serialiseOffsets_cons_cons, splitByte_append _ (offsetLine_no_nl p)]
      simp only [List.filter_cons, offsetLine_ne_nil, Bool.not_false, if_true, List.mapM_cons,
        parseOffsetLine_offsetLine]
      rw [ih]
      rfl

example : deserialiseOffsets (serialiseOffsets [(0, 1), (4096, 65536), (1000000000, 0)])
    = some [(0, 1), (4096, 65536), (1000000000, 0)] := offsets_roundtrip _

/-- rejected: a line without / with two commas, a non-number -/
example : deserialiseOffsets [49, 10, 50, 44, 51] = none ∧ deserialiseOffsets [49, 44, 50, 44, 51] = none ∧
    deserialiseOffsets [49, 44, 120] = none ∧ deserialiseOffsets [10, 49, 44, 50, 10, 10] = some [(1, 2)] := by
  decide +kernel

/-! ## conventional request on top of the v3 framing (`ConventionalRequestHandler`) -/

/-- the calls `ConventionalRequestHandler` should have made on its request handler after a request -/
def rqExpected (args : Bytes) (body : RespBody) : Rq :=
  { expecting := .nothing,
    calls := [RqCall.args args] ++
      (match body with
       | .none_ => []
       | .body b => [RqCall.body b]
       | .stream cs err => cs.map RqCall.body ++
          (match err with | none => [] | some e => [RqCall.postBodyError e])) ++ [RqCall.end_],
    finished := true, responses := 1 }

/-- Every conventional request — `call`, `call_with_body_bytes`, `call_with_body_readv_array`
(a body of serialised offsets), `call_with_body_stream` with any number of chunks, complete
or cut short by an error — reaches the server's request handler unchanged: `args_received`
with the argument structure, one `accept_body` per body part in order, the error structure of
an aborted stream through `post_body_error_received`, then `end_received`; exactly one
response is sent.  `w`: the verb waits for a body (a verb that answers in `do()` gets no body). -/
theorem rq_handler_roundtrip (w : Bool) (headers args : Bytes) (body : RespBody)
    (hw : w = true ∨ body = .none_) :
    Rq.run w {} (.headers headers :: ((reqParts args body).map Part.ev ++ [.end_]))
      = .ok (rqExpected args body) := by
  rcases hw with rfl | rfl
  · cases body with
    | none_ => rfl
    | body b => rfl
    | stream cs err =>
      rw [reqParts.eq_def, stream_events]
      -- `args_received` leaves the handler expecting the body
      show Rq.run true { expecting := .body, calls := [.args args] } (cs.map Ev.bytes ++ _) = _
      rw [Rq.run_append, Rq.run_bytes _ _ _ rfl]
      cases err with
      | some e => rfl
      | none => simp only [rqExpected, List.append_nil]; rfl
  · cases w <;> rfl

example : Rq.run true {} (.headers [100, 101] ::
      ((reqParts [108, 101] (.stream [[1], [2, 3]] (some [108, 101]))).map Part.ev ++ [.end_]))
    = .ok { expecting := .nothing, finished := true, responses := 1,
            calls := [.args [108, 101], .body [1], .body [2, 3], .postBodyError [108, 101], .end_] } := by
  simp [reqParts, Rq.run, Rq.step, Part.ev]

/-- a body sent to a verb that answered in `do()` is a protocol error, not silently dropped -/
example : Rq.run false {} (.headers [] :: ((reqParts [108, 101] (.body [1])).map Part.ev ++ [.end_]))
    = .error .unexpectedBytes := by simp [reqParts, Rq.run, Rq.step, Part.ev]

/-- what the command finally executes with: exactly the bytes of the body parts sent -/
theorem rq_executed_body (args : Bytes) (body : RespBody) :
    executedBody (rqExpected args body).calls = some (match body with
      | .none_ => []
      | .body b => b
      | .stream cs _ => cs.flatten) := by
  cases body with
  | none_ => simp [executedBody, rqExpected]
  | body b => simp [executedBody, rqExpected]
  | stream cs err =>
    have : ∀ l : List Bytes, (l.map RqCall.body).flatMap (fun c => match c with | .body b => b | _ => [])
        = l.flatten := by
      intro l; induction l with
      | nil => rfl
      | cons a l ih => simp [List.flatMap_cons, ih]
    cases err <;> (simp [executedBody, rqExpected, List.flatMap_append]; try exact this cs)

/-- WITNESS (known finding F16, `v3-request-stream-error-ignored`): the error of an aborted
body stream reaches `post_body_error_received` (`rq_handler_roundtrip`), which is a no-op in
`SmartServerRequestHandler`: `end_received` then runs the command with the truncated body,
exactly as for a complete stream. -/
theorem req_stream_error_executed_witness :
    executedBody (rqExpected [108, 101] (.stream [[97]] (some [108, 101]))).calls = some [97] ∧
    executedBody (rqExpected [108, 101] (.stream [[97]] none)).calls = some [97] := by decide +kernel

/-! ### bytes on the wire → handler state (framing and handler composed) -/

/-- Server side, end to end: the bytes `ProtocolThreeRequester` writes for a conventional
request (after the version marker, which the medium consumes), followed by any `rest`,
delivered in ANY reads: the decoder finishes, `unused_data = rest` (kept for the next
request), and the request handler has received exactly the request. -/
theorem v3_request_roundtrip (w : Bool) (headers args : Bytes) (body : RespBody) (rest : Bytes)
    (hw : w = true ∨ body = .none_)
    (hh : headers.length < 4294967296) (hp : V3.partsOk (reqParts args body) = true)
    (segs : List Bytes) (hne : segs ≠ [])
    (h : segs.flatten = v3EncodeBody headers (reqParts args body) ++ rest) :
    (feedAll V3.feed (V3.init false) segs).finished = true ∧
    (feedAll V3.feed (V3.init false) segs).unused = rest ∧
    Rq.run w {} (feedAll V3.feed (V3.init false) segs).events = .ok (rqExpected args body) := by
  rw [v3_roundtrip_server headers _ rest hh hp segs hne h]
  exact ⟨rfl, rfl, rq_handler_roundtrip w headers args body hw⟩

/-- Client side, end to end (handler with the F15 fix, the code in /repo): the bytes
`ProtocolThreeResponder.send_response` writes, followed by any `rest`, in ANY reads:
decoder finished, `unused_data = rest`, the response handler holds exactly the response. -/
theorem v3_response_roundtrip_fixed (ok : Bool) (headers args : Bytes) (body : RespBody) (rest : Bytes)
    (hh : headers.length < 4294967296) (hp : V3.partsOk (respParts ok args body) = true)
    (segs : List Bytes) (hne : segs ≠ [])
    (h : segs.flatten = v3Encode headers (respParts ok args body) ++ rest) :
    (feedAll V3.feed (V3.init true) segs).finished = true ∧
    (feedAll V3.feed (V3.init true) segs).unused = rest ∧
    Resp.run true {} (feedAll V3.feed (V3.init true) segs).events
      = .ok (respExpectedFixed ok args body) := by
  rw [v3_roundtrip_client headers _ rest hh hp segs hne h]
  exact ⟨rfl, rfl, resp_handler_roundtrip_fixed ok headers args body⟩

/-- the same for the handler as found (before the F15 fix) — PARTIAL: excluding a stream
that fails before its first chunk (`resp_stream_error_first_witness`) -/
theorem v3_response_roundtrip_partial (ok : Bool) (headers args : Bytes) (body : RespBody) (rest : Bytes)
    (hex : errorBeforeFirstChunk body = false)
    (hh : headers.length < 4294967296) (hp : V3.partsOk (respParts ok args body) = true)
    (segs : List Bytes) (hne : segs ≠ [])
    (h : segs.flatten = v3Encode headers (respParts ok args body) ++ rest) :
    (feedAll V3.feed (V3.init true) segs).finished = true ∧
    (feedAll V3.feed (V3.init true) segs).unused = rest ∧
    Resp.run false {} (feedAll V3.feed (V3.init true) segs).events
      = .ok (respExpected ok args body) := by
  rw [v3_roundtrip_client headers _ rest hh hp segs hne h]
  exact ⟨rfl, rfl, resp_handler_roundtrip_partial ok headers args body hex⟩

example : V3.partsOk (reqParts [108, 51, 58, 103, 101, 116, 101] (.stream [[1, 2], []] (some [108, 49, 58, 101, 101])))
    = true := by decide +kernel
example : V3.partsOk (respParts true [108, 50, 58, 111, 107, 101] (.stream [] (some [108, 49, 58, 101, 101]))) = true := by
  decide +kernel

/-! ## protocol 2: the client's parsing of a response -/

/-- what the client should obtain from `_send_response(ok, args, body)` -/
def v2Expected (ok : Bool) (args : List Bytes)
    (body : Option (Sum Bytes (List Bytes × Option (List Bytes)))) : V2Resp :=
  ⟨ok, args, if ok then (match body with
      | none => .none_
      | some (.inl b) => .bytes b
      | some (.inr (cs, err)) => .stream (ckExpected cs err)) else .none_⟩

/-- how the caller reads on (`expect_body`, then `read_body_bytes` or `read_streamed_body`) -/
def v2KindOf (ok : Bool) (body : Option (Sum Bytes (List Bytes × Option (List Bytes)))) : V2Kind :=
  if ok then (match body with
    | none => .none_
    | some (.inl _) => .bytes
    | some (.inr _) => .stream) else .none_

/-- Protocol 2, server → client: the bytes `SmartServerRequestProtocolTwo._send_response`
writes — version marker, `success`/`failed`, the response tuple, then nothing, a
length-prefixed body or a chunked stream (optionally ended by a failure) — followed by
any `rest`: the client obtains exactly the status, the tuple, the body / the chunks and the
failure, and stops exactly at the end of the message (`rest` is left for the next
response).  A failed response carries no body. -/
theorem v2_response_roundtrip (ok : Bool) (args : List Bytes)
    (body : Option (Sum Bytes (List Bytes × Option (List Bytes)))) (rest : Bytes)
    (hargs : Req.argsOk args = true) (hf : ok = false → body = none) :
    v2Decode (v2KindOf ok body) (v2RespEncode ok args body ++ rest)
      = .ok (v2Expected ok args body, rest) := by
  simp only [Req.argsOk, Bool.and_eq_true] at hargs
  have hsplit := Req.splitLine_encodeTuple hargs.2
  unfold v2Decode v2RespEncode
  rw [response2_eq]
  simp only [List.append_assoc, List.cons_append, List.nil_append]
  rw [splitLine_of_notMem _ response2Line_no_nl]
  simp only [ne_eq, not_true_eq_false, if_false]
  cases ok with
  | false =>
    have hb := hf rfl
    subst hb
    simp only [Bool.false_eq_true, if_false]
    rw [splitLine_of_notMem _ failedLine_no_nl]
    simp only [hsplit, if_true, splitSoh_joinSoh hargs.1, List.nil_append, v2Expected,
      Bool.false_eq_true, if_false]
  | true =>
    simp only [if_true]
    rw [splitLine_of_notMem _ successLine_no_nl]
    simp only [hsplit, success_ne_failed, if_false, not_true_eq_false,
      splitSoh_joinSoh hargs.1, v2KindOf, v2Expected, if_true]
    cases body with
    | none => simp
    | some b =>
      cases b with
      | inl b => simp only [LP.feed_init_encode]
      | inr p =>
        obtain ⟨cs, err⟩ := p
        simp only [CK.feed_init_encode]

example : v2Decode .stream (v2RespEncode true [[111, 107]] (some (.inr ([[1, 2]], some [[66]]))) ++ [98, 122])
    = .ok (⟨true, [[111, 107]], .stream [.data [1, 2], .failure [[66]]]⟩, [98, 122]) :=
  v2_response_roundtrip true [[111, 107]] (some (.inr ([[1, 2]], some [[66]]))) [98, 122] (by decide) (by simp)

/-- a wrong marker / status line is rejected -/
example : (match v2Decode .none_ [98, 122, 114, 10] with | .error .badVersion => true | _ => false) = true ∧
    (match v2Decode .none_ (response2 ++ [111, 107, 10, 120, 10]) with | .error .badStatus => true | _ => false)
      = true := by decide +kernel

end BreezyVerif.C29
