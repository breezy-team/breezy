import BreezyVerif.Lemmas.C41
/-!
C41 — testaments are deterministic and sensitive to every attested field.

All theorems quantify over *every* revision record (ids, messages, trees and
property maps of any size, any characters), for each of the three classes
`Testament` (`.v1`), `StrictTestament` (`.strict`), `StrictTestament3`
(`.strict3`).

* determinism: the text does not depend on the storage order of inventory
  entries, revision properties or parents (`testament_storage_order_independent`);
* sensitivity: the text determines everything it attests *after the
  normalisations the code applies* (`testament_injective_partial`), hence any
  change of an attested value changes the text (`testament_sensitive_partial`,
  `testament_sensitive_scalars`), and on records that avoid the normalised
  families the raw fields themselves (`testament_sensitive_raw_partial`);
* the normalisations are real collisions of the unchanged code
  (`…_witness`): message / property line boundaries, `\` vs `/` in paths and
  symlink targets, sub-second timestamps, parent order, and the executable bit
  in the base class.  They are why the positive theorems carry `_partial`.
-/
namespace BreezyVerif.C41

/-- **Determinism / storage-order independence.**  Two records with the same
scalar fields whose parents, inventory entries and revision properties are
permutations of each other (any storage order, any dict order) produce the
same result — the same text or the same exception — in every class.
Hypotheses: paths and property names are unique (they are keys). -/
theorem testament_storage_order_independent (v : Variant) (r r' : Rev)
    (hid : r.revisionId = r'.revisionId) (hc : r.committer = r'.committer)
    (hts : r.timestampMs = r'.timestampMs) (htz : r.timezone = r'.timezone)
    (hm : r.message = r'.message)
    (hpar : r.parents.Perm r'.parents)
    (hent : r.entries.Perm r'.entries) (hprops : r.props.Perm r'.props)
    (hpaths : (r.entries.map Entry.path).Nodup) (hnames : (r.props.map Prod.fst).Nodup) :
    text v r = text v r' ∧ textLines v r = textLines v r' := by
  have s1 := sortStrs_perm hpar
  have s2 := sortEntries_perm hent hpaths
  have s3 := sortProps_perm hprops hnames
  have hnil : (r.props = []) = (r'.props = []) := by
    rw [← sortProps_nil_iff, s3, sortProps_nil_iff]
  have hcheck : check r = check r' := by
    unfold check; rw [hid, hc, s1, s2, s3]
  have hrender : render v r = render v r' := by
    unfold render revpropsLines timestampOf timezoneOf
    rw [hid, hc, hts, htz, hm, s1, s2, s3]
    simp only [hnil]
  have h := text_congr id hid hcheck hrender
  exact ⟨h.1, h.2.1⟩

example : ([1, 2, 3] : List Nat).Perm [3, 1, 2] := by decide

/-- **Parent order.**  The same merge recorded with its parents in any other
stored order (which parent is the left-hand one) has the same testament - long
form, line list and, for every digest function, short form - or raises the same
exception, in every class -/
theorem testament_parent_order_independent (sha : Str → Str) (v : Variant) (r : Rev) (ps : List Str)
    (hpar : r.parents.Perm ps) :
    text v r = text v { r with parents := ps } ∧ textLines v r = textLines v { r with parents := ps } ∧
    shortText sha v r = shortText sha v { r with parents := ps } := by
  have s1 := sortStrs_perm hpar
  refine text_congr sha (r := r) (r' := { r with parents := ps }) rfl ?_ ?_
  · unfold check; simp only [s1]
  · unfold render timestampOf timezoneOf; simp only [s1]

example : (["rev-b".toList, "rev-a".toList] : List Str).Perm ["rev-a".toList, "rev-b".toList] ∧
    (["rev-b".toList, "rev-a".toList] : List Str) ≠ ["rev-a".toList, "rev-b".toList] := by decide


/-- contrapositive: a change of anything attested changes the text -/
theorem testament_sensitive_partial (v : Variant) (r r' : Rev) (t t' : Str)
    (hw : RevWF v r = true) (hw' : RevWF v r' = true)
    (h : text v r = .ok t) (h' : text v r' = .ok t')
    (hne : attested v r ≠ attested v r') : t ≠ t' := by
  intro e
  subst e
  exact hne (testament_injective_partial v r r' t hw hw' h h')

/-- the scalar fields are attested verbatim: changing the revision id, the
committer, the whole-second timestamp or the timezone changes the text -/
theorem testament_sensitive_scalars (v : Variant) (r r' : Rev) (t t' : Str)
    (hw : RevWF v r = true) (hw' : RevWF v r' = true)
    (h : text v r = .ok t) (h' : text v r' = .ok t')
    (hne : r.revisionId ≠ r'.revisionId ∨ r.committer ≠ r'.committer ∨
      timestampOf r ≠ timestampOf r' ∨ timezoneOf r ≠ timezoneOf r') : t ≠ t' := by
  apply testament_sensitive_partial v r r' t t' hw hw' h h'
  intro e
  rcases hne with x | x | x | x
  · exact x (congrArg Attested.revisionId e)
  · exact x (congrArg Attested.committer e)
  · exact x (congrArg Attested.timestamp e)
  · exact x (congrArg Attested.timezone e)

/-- the record avoids the normalised families: parents stored in sorted order,
whole-second timestamp, no `\` in paths and symlink targets, no path `.`,
message and property values canonical for `splitlines` (`msgCanon`: the only
line boundary is `\n`, none at the end) -/
def Canon (r : Rev) : Bool :=
  decide (sortStrs r.parents = r.parents) &&
  decide (r.timestampMs % 1000 = 0) &&
  r.entries.all (fun e => !e.path.contains '\\' && !e.target.contains '\\' &&
    e.path != ['.'] && (e.kind != .symlink || e.target != [])) &&
  msgCanon r.message &&
  r.props.all (fun nv => msgCanon nv.2)

example : msgCanon "two\n\nlines, an empty one between".toList = true ∧ msgCanon [] = true ∧
    msgCanon "a\n".toList = false ∧ msgCanon "a\rb".toList = false := by
  rw [String.toList_ofList, String.toList_ofList, String.toList_ofList]
  decide +kernel

theorem Canon_iff {r : Rev} : Canon r = true ↔
    sortStrs r.parents = r.parents ∧ r.timestampMs % 1000 = 0 ∧
    (∀ e ∈ r.entries, e.path.contains '\\' = false ∧ e.target.contains '\\' = false ∧ e.path ≠ ['.'] ∧
      (e.kind = .symlink → e.target ≠ [])) ∧
    msgCanon r.message = true ∧ ∀ nv ∈ r.props, msgCanon nv.2 = true := by
  simp [Canon, and_assoc, Decidable.imp_iff_not_or]

/-- an entry that avoids the normalised families (one conjunct of `Canon`) is
determined, in the fields the base class attests, by its normalised form -/
theorem raw_of_normEntry {v : Variant} {a b : Entry}
    (ha : a.path.contains '\\' = false ∧ a.target.contains '\\' = false ∧ a.path ≠ ['.'] ∧
      (a.kind = .symlink → a.target ≠ []))
    (hb : b.path.contains '\\' = false ∧ b.target.contains '\\' = false ∧ b.path ≠ ['.'] ∧
      (b.kind = .symlink → b.target ≠ []))
    (h : normEntry v a = normEntry v b) :
    (a.path, a.kind, a.fileId, (if a.kind = .file then a.sha1 else []),
        (if a.kind = .symlink then a.target else [])) =
      (b.path, b.kind, b.fileId, (if b.kind = .file then b.sha1 else []),
        (if b.kind = .symlink then b.target else [])) := by
  obtain ⟨a1, a2, a3, a4⟩ := ha
  obtain ⟨b1, b2, b3, b4⟩ := hb
  simp only [normEntry, Entry.mk.injEq] at h
  obtain ⟨np, nk, nf, ns, nt, -, -⟩ := h
  rw [normPath_of_noBs a1, normPath_of_noBs b1] at np
  simp only [Prod.mk.injEq]
  refine ⟨dotRoot_inj a3 b3 np, nk, nf, ns, ?_⟩
  rw [← nk] at nt b4 ⊢
  by_cases hk : a.kind = .symlink
  · rw [if_pos hk, if_pos hk, normPath_of_noBs a2, normPath_of_noBs b2,
      dotRoot_of_ne_nil (a4 hk), dotRoot_of_ne_nil (b4 hk)] at nt
    rw [if_pos hk, if_pos hk, nt]
  · rw [if_neg hk, if_neg hk]

/-- **Raw-field sensitivity** on canonical records (partial only because the
base class does not attest the executable bit or the last-changed revision:
those are covered by `testament_injective_partial` for the strict classes).
When both records avoid the normalised families (`Canon`), equal texts force
equal raw parent lists, equal millisecond timestamps, equal RAW messages, equal
RAW revision properties (as name-sorted lists) and, entry by entry in
`list_files` order, equal raw paths, kinds, file ids, sha1s (files) and raw
symlink targets (symlinks). -/
theorem testament_sensitive_raw_partial (v : Variant) (r r' : Rev) (t : Str)
    (hw : RevWF v r = true) (hw' : RevWF v r' = true)
    (hcn : Canon r = true) (hcn' : Canon r' = true)
    (h : text v r = .ok t) (h' : text v r' = .ok t) :
    r.parents = r'.parents ∧ r.timestampMs = r'.timestampMs ∧
    r.message = r'.message ∧ sortProps r.props = sortProps r'.props ∧
    (sortEntries r.entries).map (fun e => (e.path, e.kind, e.fileId,
        (if e.kind = .file then e.sha1 else []), (if e.kind = .symlink then e.target else []))) =
      (sortEntries r'.entries).map (fun e => (e.path, e.kind, e.fileId,
        (if e.kind = .file then e.sha1 else []), (if e.kind = .symlink then e.target else []))) := by
  have ha := testament_injective_partial v r r' t hw hw' h h'
  obtain ⟨hp, hts, hent, hmsg, hprops⟩ := Canon_iff.mp hcn
  obtain ⟨hp', hts', hent', hmsg', hprops'⟩ := Canon_iff.mp hcn'
  have e5 : sortStrs r.parents = sortStrs r'.parents := congrArg Attested.parents ha
  have e3 : timestampOf r = timestampOf r' := congrArg Attested.timestamp ha
  have e6 : splitlines r.message = splitlines r'.message := congrArg Attested.message ha
  have e7 : (sortEntries r.entries).map (normEntry v) = (sortEntries r'.entries).map (normEntry v) :=
    congrArg Attested.entries ha
  have e8 : (sortProps r.props).map (fun nv => (nv.1, splitlines nv.2)) =
      (sortProps r'.props).map (fun nv => (nv.1, splitlines nv.2)) := congrArg Attested.props ha
  refine ⟨by rw [← hp, ← hp', e5], ?_, splitlines_injective_canon _ _ hmsg hmsg' e6, ?_, ?_⟩
  · -- both timestamps are the whole seconds the text shows
    unfold timestampOf at e3
    rw [← Int.tdiv_mul_cancel (Int.dvd_of_emod_eq_zero hts),
      ← Int.tdiv_mul_cancel (Int.dvd_of_emod_eq_zero hts'), e3]
  · have := map_eq_map_of (g := id) (fun a ha' b hb' hab => by
      simp only [Prod.mk.injEq] at hab
      exact Prod.ext hab.1 (splitlines_injective_canon _ _ (hprops a (List.mem_mergeSort.mp ha'))
        (hprops' b (List.mem_mergeSort.mp hb')) hab.2)) e8
    simpa using this
  · exact map_eq_map_of (fun a ha' b hb' => raw_of_normEntry (hent a (List.mem_mergeSort.mp ha'))
      (hent' b (List.mem_mergeSort.mp hb'))) e7

/-! ### the short form (`as_short_text()`, the property's point of observation) -/

/-- the short form attests everything the long form attests … -/
theorem short_text_injective_partial (sha : Str → Str) (hinj : Function.Injective sha) (v : Variant)
    (r r' : Rev) (s : Str) (hw : RevWF v r = true) (hw' : RevWF v r' = true)
    (h : shortText sha v r = .ok s) (h' : shortText sha v r' = .ok s) : attested v r = attested v r' := by
  obtain ⟨t, ht, ht'⟩ := short_text_determines_text sha hinj v r r' s h h'
  exact testament_injective_partial v r r' t hw hw' ht ht'

/-- … and changes whenever anything attested changes -/
theorem short_text_sensitive_partial (sha : Str → Str) (hinj : Function.Injective sha) (v : Variant)
    (r r' : Rev) (s s' : Str) (hw : RevWF v r = true) (hw' : RevWF v r' = true)
    (h : shortText sha v r = .ok s) (h' : shortText sha v r' = .ok s')
    (hne : attested v r ≠ attested v r') : s ≠ s' := by
  intro e
  subst e
  exact hne (short_text_injective_partial sha hinj v r r' s hw hw' h h')

/-- the short form is as deterministic as the long form (any `sha`) -/
theorem short_text_storage_order_independent (sha : Str → Str) (v : Variant) (r r' : Rev)
    (hid : r.revisionId = r'.revisionId) (ht : text v r = text v r') :
    shortText sha v r = shortText sha v r' := by
  unfold shortText
  rw [ht, hid]

example : Function.Injective (fun s : Str => 'h' :: s) := fun _ _ h => by simpa using h

/-- `_escape_path` identifies exactly the paths that agree after `\`→`/`
(and `""`→`"."` in `StrictTestament3`) -/
theorem escape_inj_iff (v : Variant) (p p' : Str) :
    escapePath v p = escapePath v p' ↔
      replBackslash (dotRoot v p) = replBackslash (dotRoot v p') := by
  constructor
  · intro h
    unfold escapePath at h
    have hh : escSpace (replBackslash (dotRoot v p)) ++ ' ' :: [] =
        escSpace (replBackslash (dotRoot v p')) ++ ' ' :: [] := by rw [h]
    exact (escSpace_delim (d := ' ') (by decide) (replBackslash_noBs _)
      (replBackslash_noBs _) (fun x => absurd rfl x) (fun x => absurd rfl x) hh).1
  · intro h; unfold escapePath; rw [h]


/-! ### the normalisations are collisions of the real format (findings) -/

/-- any two messages with the same `splitlines` give the same testament -/
theorem message_line_boundaries_collision (v : Variant) (r : Rev) (m' : Str)
    (h : splitlines r.message = splitlines m') : text v r = text v { r with message := m' } := by
  unfold text check render timestampOf timezoneOf
  simp only [h]

theorem message_trailing_newline_witness (v : Variant) (r : Rev) (h : r.message = "a".toList) :
    r.message ≠ "a\n".toList ∧ text v r = text v { r with message := "a\n".toList } :=
  ⟨by rw [h]; decide, message_line_boundaries_collision v r _ (by rw [h]; decide)⟩

/-- `\n` vs U+2028 LINE SEPARATOR (stored faithfully by 2a and pack-0.92) -/
theorem message_separator_witness (v : Variant) (r : Rev) (h : r.message = "a\nb".toList) :
    r.message ≠ ['a', Char.ofNat 0x2028, 'b'] ∧
    text v r = text v { r with message := ['a', Char.ofNat 0x2028, 'b'] } :=
  ⟨by rw [h]; decide, message_line_boundaries_collision v r _ (by rw [h]; decide)⟩

/-- timestamps that differ by less than a second are not distinguished -/
theorem timestamp_subsecond_witness (v : Variant) (r : Rev) (h : r.timestampMs = 1200) :
    r.timestampMs ≠ 1700 ∧ text v r = text v { r with timestampMs := 1700 } := by
  refine ⟨by rw [h]; decide, ?_⟩
  unfold text check render timestampOf timezoneOf
  simp only [h]
  rfl

/-- the order of the parents (which one is the left-hand parent) is not attested -/
theorem parents_order_witness (v : Variant) (r : Rev) (a b : Str) (hab : a ≠ b)
    (h : r.parents = [a, b]) :
    r.parents ≠ [b, a] ∧ text v r = text v { r with parents := [b, a] } := by
  refine ⟨by rw [h]; simp [hab], ?_⟩
  unfold text check render timestampOf timezoneOf
  have : sortStrs r.parents = sortStrs [b, a] := sortStrs_perm (by rw [h]; exact List.Perm.swap b a [])
  simp only [this]

/-- the text reads the entries only through their errors and their lines, in `list_files` order -/
theorem text_congr_entries (v : Variant) (r : Rev) (es : List Entry)
    (hc : (sortEntries r.entries).findSome? entryErr = (sortEntries es).findSome? entryErr)
    (hl : (sortEntries r.entries).map (entryLine v) = (sortEntries es).map (entryLine v)) :
    text v r = text v { r with entries := es } := by
  unfold text check render timestampOf timezoneOf
  simp only [hc, hl]

/-- the base class `Testament` does not attest the executable bit -/
theorem v1_exec_witness (r : Rev) (e : Entry) (h : r.entries = [e]) :
    text .v1 r = text .v1 { r with entries := [{ e with executable := !e.executable }] } := by
  apply text_congr_entries <;> simp only [h, sortEntries, List.mergeSort_singleton]
  · rfl
  · rfl

def wDir : Entry :=
  { path := "d".toList, kind := .directory, fileId := "d-id".toList, sha1 := [], target := [],
    revision := "r0".toList, executable := false }

def wFile (path : Str) : Entry :=
  { path := path, kind := .file, fileId := "f-id".toList,
    sha1 := "da39a3ee5e6b4b0d3255bfef95601890afd80709".toList, target := [],
    revision := "r1".toList, executable := false }

/-- an entry's error and line read its symlink target through emptiness, `hasLb` and
`_escape_path` only -/
theorem entry_congr_target (v : Variant) (e : Entry) (t : Str) (hn : e.target = [] ↔ t = [])
    (hb : hasLb e.target = hasLb t) (hp : escapePath v e.target = escapePath v t) :
    entryErr e = entryErr { e with target := t } ∧ entryLine v e = entryLine v { e with target := t } := by
  simp only [entryErr, entryLine, contentPart, strictPart, hn, hb, hp, and_self]

/-- the text reads an entry's path through `hasLb` and `_escape_path` only (here for the
second of two entries) -/
theorem text_congr_path (v : Variant) (r : Rev) (d e : Entry) (p : Str) (h : r.entries = [d, e])
    (s1 : sortEntries [d, e] = [d, e])
    (s2 : sortEntries [d, { e with path := p }] = [d, { e with path := p }])
    (hb : hasLb e.path = hasLb p) (hp : escapePath v e.path = escapePath v p) :
    text v r = text v { r with entries := [d, { e with path := p }] } := by
  apply text_congr_entries <;> rw [h, s1, s2]
  · simp only [List.findSome?_cons, entryErr, hb]
  · simp only [List.map_cons, entryLine, contentPart, strictPart, hp]

/-- a file `f` inside directory `d` and a file literally named `d\f` next to
`d` give the same testament in every class -/
theorem path_backslash_witness (v : Variant) (r : Rev) (h : r.entries = [wDir, wFile "d/f".toList]) :
    text v r = text v { r with entries := [wDir, wFile "d\\f".toList] } := by
  have key := text_congr_path v r wDir (wFile "d/f".toList) "d\\f".toList h
    (List.mergeSort_of_pairwise (by decide +kernel)) (List.mergeSort_of_pairwise (by decide +kernel))
    (by decide +kernel) (by cases v <;> decide +kernel)
  simpa only [wFile] using key

/-- `a\b` and `a/b` as symlink targets are not distinguished -/
theorem symlink_target_backslash_witness (v : Variant) (r : Rev) (e : Entry)
    (hk : e.kind = .symlink) (ht : e.target = "a\\b".toList) (h : r.entries = [e]) :
    e.target ≠ "a/b".toList ∧
    text v r = text v { r with entries := [{ e with target := "a/b".toList }] } := by
  refine ⟨by rw [ht]; decide +kernel, ?_⟩
  obtain ⟨he, hl⟩ := entry_congr_target v e "a/b".toList (by rw [ht]; decide +kernel)
    (by rw [ht]; decide +kernel) (by rw [ht]; cases v <;> decide +kernel)
  apply text_congr_entries <;> simp only [h, sortEntries, List.mergeSort_singleton]
  · rw [List.findSome?_cons, List.findSome?_cons, he]
  · rw [List.map_cons, List.map_cons, hl]

/-- revision property values are attested only up to `splitlines` -/
theorem revprop_line_boundaries_witness (v : Variant) (r : Rev) (n val val' : Str)
    (hs : splitlines val = splitlines val') (h : r.props = [(n, val)]) :
    text v r = text v { r with props := [(n, val')] } := by
  unfold text check render timestampOf timezoneOf revpropsLines
  simp only [h, sortProps, List.mergeSort_singleton, List.findSome?_cons, propLines, hs]
  rfl

/-- a small non-trivial record: two parents, a directory, an executable file
inside it, a symlink with a space in its target, one property -/
def rec0 : Rev :=
  { revisionId := "r1".toList, committer := "C <c@x>".toList, timestampMs := 2000, timezone := some 3600,
    parents := ["a".toList, "b".toList], message := "a\nb".toList,
    entries := [
      { path := "d".toList, kind := .directory, fileId := "d-id".toList, sha1 := [], target := [],
        revision := "r0".toList, executable := false },
      { path := "d/f".toList, kind := .file, fileId := "f-id".toList,
        sha1 := "da39a3ee5e6b4b0d3255bfef95601890afd80709".toList, target := [],
        revision := "r1".toList, executable := true },
      { path := "l".toList, kind := .symlink, fileId := "l-id".toList, sha1 := [],
        target := "d/f x".toList, revision := "r1".toList, executable := false } ],
    props := [("k".toList, "v".toList)] }

/-- the hypotheses of the theorems above are satisfiable by a non-trivial record -/
theorem rec0_ok : check rec0 = none ∧ (∀ v, RevWF v rec0 = true) ∧ Canon rec0 = true ∧
    (rec0.entries.map Entry.path).Nodup ∧ (rec0.props.map Prod.fst).Nodup := by
  have s1 : sortStrs rec0.parents = rec0.parents := List.mergeSort_of_pairwise (by decide +kernel)
  have s2 : sortEntries rec0.entries = rec0.entries := List.mergeSort_of_pairwise (by decide +kernel)
  have s3 : sortProps rec0.props = rec0.props := List.mergeSort_of_pairwise (by decide +kernel)
  refine ⟨?_, fun v => ?_, ?_, by decide +kernel, by decide +kernel⟩
  · unfold check; rw [s1, s2, s3]; decide +kernel
  · -- the literals are read once for the three classes
    unfold rec0
    repeat rw [String.toList_ofList]
    cases v <;> decide +kernel
  · unfold Canon; rw [s1]; decide +kernel

example : ∀ v, ∃ t, text v rec0 = .ok t := fun v => ⟨_, by unfold text; rw [rec0_ok.1]⟩

/-- and the result is not insensitive for a trivial reason: changing the committer
of `rec0` is a change of `attested` -/
example : ∀ v, attested v rec0 ≠ attested v { rec0 with committer := "D".toList } := by
  intro v h
  have := congrArg Attested.committer h
  simp only [attested] at this
  exact absurd this (by decide)

end BreezyVerif.C41
