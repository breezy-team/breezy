import BreezyVerif.Lemmas.C51Plan
import BreezyVerif.Lemmas.C51T
/-!
C51 — theorems.  All parent maps (any size, with ghosts), all onto / stop
revisions, all topological orders `topo_sort` may return, any `generate_revid`.

`g` is the revision graph, `order` the output of `topo_sort` on the todo set,
`Reach g [] [k] a` (Lemmas/C33) says `a` is `k` or an ancestor of `k`.
-/
namespace BreezyVerif.C51
open BreezyVerif.C33

/-- `plan_domain`: with `skip_full_merged=False`, `start=None` and `stop` either
`None` or the last revision in topological order (the `rebase` command's case),
the plan has exactly one entry per revision of `order`, in that order. -/
theorem plan_domain (g : PMap) (gen : Key → Key) (todoS order : List Key) (stop : Option Key)
    (onto : Key) (plan : Plan) (hnd : order.Nodup)
    (hstop : ∀ s, stop = some s → order.getLast? = some s)
    (h : simplePlan g gen todoS order none stop onto false = .ok plan) :
    plan.map (·.old) = order := by
  obtain ⟨sk, hl⟩ := simplePlan_loop hnd hstop h
  obtain ⟨added, ha, _, hdom, _⟩ := planLoop_adds g gen onto false order ([], []) (plan, sk) hl
  rw [show plan = added from ha]
  exact hdom rfl

/-- `plan_new_ids`: for ANY start / stop and BOTH settings of `skip_full_merged`,
every entry's new id is `generate_revid` of its old id and differs from it, and
its old id is a revision of `order` -/
theorem plan_new_ids (g : PMap) (gen : Key → Key) (todoS order : List Key) (start stop : Option Key)
    (onto : Key) (skip : Bool) (plan : Plan)
    (h : simplePlan g gen todoS order start stop onto skip = .ok plan) :
    ∀ e ∈ plan, e.new = gen e.old ∧ e.new ≠ e.old ∧ e.old ∈ order := by
  obtain ⟨i, n, _, _, hsub, hadd⟩ := simplePlan_adds h
  exact fun e he => ⟨(hadd e he).1, by rw [(hadd e he).1]; exact (hadd e he).2,
    (hsub.trans (sublist_drop_take order i n)).subset (List.mem_map.mpr ⟨e, he, rfl⟩)⟩

/-- `plan_ids_distinct`: the old ids of a plan are pairwise distinct and in the
order of `order`; if `generate_revid` is injective on `order`, the new ids are
pairwise distinct as well (any start / stop / skip) -/
theorem plan_ids_distinct (g : PMap) (gen : Key → Key) (todoS order : List Key) (start stop : Option Key)
    (onto : Key) (skip : Bool) (plan : Plan) (hnd : order.Nodup)
    (h : simplePlan g gen todoS order start stop onto skip = .ok plan) :
    (plan.map (·.old)).Sublist order ∧ (plan.map (·.old)).Nodup ∧
    ((∀ a ∈ order, ∀ b ∈ order, gen a = gen b → a = b) → (plan.map (·.new)).Nodup) := by
  obtain ⟨i, n, _, _, hsub, hadd⟩ := simplePlan_adds h
  have hs : (plan.map (·.old)).Sublist order := hsub.trans (sublist_drop_take order i n)
  have hn : (plan.map (·.old)).Nodup := hs.nodup hnd
  refine ⟨hs, hn, fun hinj => ?_⟩
  have : plan.map (·.new) = (plan.map (·.old)).map gen := by
    rw [List.map_map]
    exact List.map_congr_left fun e he => (hadd e he).1
  rw [this]
  unfold List.Nodup at hn ⊢
  rw [List.pairwise_map]
  exact hn.imp_of_mem (fun ha hb hne hab => hne (hinj _ (hs.subset ha) _ (hs.subset hb) hab))

/-- `plan_domain_todo`: if `order` is a topological order of the present revisions of
`find_difference(tip, onto)[0]` and `stop` is `None` or the tip, the plan
rewrites exactly the revisions that are in the history of `tip` but not in the
history of `onto`.  (That the tip is the last revision of `order` is derived —
`tip_is_last` — not assumed.) -/
theorem plan_domain_todo (g : PMap) (gen : Key → Key) (todoS order : List Key) (stop : Option Key)
    (tip onto : Key) (plan : Plan) (hnd : order.Nodup)
    (hstop : stop = none ∨ stop = some tip)
    (hmem : ∀ k, k ∈ order ↔ (k ∈ todoSet g tip onto ∧ present g k = true))
    (htopo : topoFrom g order = true)
    (h : simplePlan g gen todoS order none stop onto false = .ok plan) (k : Key) :
    k ∈ plan.map (·.old) ↔
      (Reach g [] [tip] k ∧ ¬ Reach g [] [onto] k ∧ ∃ ps, parentsOf g k = some ps) := by
  rw [plan_domain g gen todoS order stop onto plan hnd (stop_is_last hnd hmem htopo hstop h) h, hmem]
  simp only [mem_todoSet, anc_spec, present_iff, and_assoc]

/-- `plan_parents_closed`: for BOTH settings of `skip_full_merged`, with
`start=None`, `stop` = `None` or the tip, and `order` a topological order of the
present revisions of `find_difference(tip, onto)[0]`: walking the plan in its
own order, every new parent is the new base `onto`, the new id of a revision
rewritten EARLIER, or a ghost parent of the old revision (which cannot be
rewritten; an id that merely is absent from the graph — such as the new id of a
LATER entry — does not qualify).  In particular no entry refers to a skipped
(fully merged) merge revision: its children are planned onto the parent that
stands in for it. -/
theorem plan_parents_closed (g : PMap) (gen : Key → Key) (todoS order : List Key)
    (stop : Option Key) (tip onto : Key) (skip : Bool) (plan : Plan) (hnd : order.Nodup)
    (hstop : stop = none ∨ stop = some tip)
    (hmem : ∀ k, k ∈ order ↔ (k ∈ todoSet g tip onto ∧ present g k = true))
    (htopo : topoFrom g order = true)
    (h : simplePlan g gen todoS order none stop onto skip = .ok plan) :
    PlanClosed g onto [] plan := by
  obtain ⟨sk, hl⟩ := simplePlan_loop hnd (stop_is_last hnd hmem htopo hstop h) h
  exact planLoop_closed g gen tip onto skip order (plan, sk) hmem htopo hl

/-- `plan_range_domain`: for ANY start / stop (given or `None`), without
skipping, the plan has exactly one entry per revision of the slice of `order`
from the start revision to the stop revision (both inclusive), in that order. -/
theorem plan_range_domain (g : PMap) (gen : Key → Key) (todoS order : List Key) (start stop : Option Key)
    (onto : Key) (plan : Plan)
    (h : simplePlan g gen todoS order start stop onto false = .ok plan) :
    ∃ startK stopK i j, (start = some startK ∨ (start = none ∧ order.head? = some startK)) ∧
      (stop = some stopK ∨ (stop = none ∧ order.getLast? = some stopK)) ∧
      indexOf? order startK = some i ∧ indexOf? order stopK = some j ∧
      plan.map (·.old) = (order.drop i).take (j + 1 - i) := by
  obtain ⟨stopK, startK, i, j, hs, hst, hi, hj, sk, hl⟩ := simplePlan_slice h
  refine ⟨startK, stopK, i, j, ?_, hs, hi, hj, ?_⟩
  · rcases hst with h1 | ⟨h1, h2, _⟩
    · exact Or.inl h1
    · exact Or.inr ⟨h1, h2⟩
  · obtain ⟨added, ha, _, hdom, _⟩ := planLoop_adds g gen onto false _ ([], []) (plan, sk) hl
    rw [show plan = added from ha]
    exact hdom rfl

/-- `plan_range_closed`: for ANY start / stop and BOTH settings of
`skip_full_merged`, if `order` is a topological order: walking the plan in its
own order, every new parent is the new base `onto`, the new id of a revision
rewritten earlier, or a parent of the old revision that lies OUTSIDE the range
asked for (and is not merged into `onto`) — references to revisions that are not
rewritten are preserved, nothing inside the range is referred to by its old id. -/
theorem plan_range_closed (g : PMap) (gen : Key → Key) (todoS order : List Key) (start stop : Option Key)
    (onto : Key) (skip : Bool) (plan : Plan) (htopo : topoFrom g order = true)
    (h : simplePlan g gen todoS order start stop onto skip = .ok plan) :
    ∃ i n, PlanClosedS g onto ((order.drop i).take n) [] plan ∧
      (plan.map (·.old)).Sublist ((order.drop i).take n) := by
  obtain ⟨i, n, sk, hl, hsub, _⟩ := simplePlan_adds h
  exact ⟨i, n, planLoop_closedS g gen onto skip _ (plan, sk) (topoFrom_sublist (sublist_drop_take order i _) htopo) hl, hsub⟩

/-- `plan_skip_exact`: the command's case (`start=None`, `stop` = `None` or the
tip, `order` a topological order of the branch's own present revisions), BOTH
settings of `skip_full_merged`.  Take any revision `k` of `order` and let `st1`
be the loop state after the revisions before it.  Then `k` is LEFT OUT of the
plan if and only if skipping is on, `k` is a merge (at least two parents) and
its new parents computed at that point collapse to a single one; in that case
that single parent — which stands in for `k` in its children — is the new base
or the new id of an entry already planned (an earlier one).  So a merge with
two surviving parents is never skipped, and a non-merge never is. -/
theorem plan_skip_exact (g : PMap) (gen : Key → Key) (todoS order : List Key)
    (stop : Option Key) (tip onto : Key) (skip : Bool) (plan : Plan) (hnd : order.Nodup)
    (hstop : stop = none ∨ stop = some tip)
    (hmem : ∀ k, k ∈ order ↔ (k ∈ todoSet g tip onto ∧ present g k = true))
    (htopo : topoFrom g order = true)
    (h : simplePlan g gen todoS order none stop onto skip = .ok plan)
    (pre post : List Key) (k : Key) (hsplit : order = pre ++ k :: post) :
    ∃ st1 p0 rest later, planLoop g gen onto skip ([], []) pre = .ok st1 ∧ plan = st1.1 ++ later ∧
      parentsOf g k = some (p0 :: rest) ∧
      (k ∉ plan.map (·.old) ↔
        (skip = true ∧ rest ≠ [] ∧ (newParents g onto st1.1 st1.2 p0 rest).2 = [])) ∧
      (k ∉ plan.map (·.old) →
        (newParents g onto st1.1 st1.2 p0 rest).1 = onto ∨
        ∃ e ∈ st1.1, e.new = (newParents g onto st1.1 st1.2 p0 rest).1) := by
  obtain ⟨sk, hl⟩ := simplePlan_loop hnd (stop_is_last hnd hmem htopo hstop h) h
  subst hsplit
  exact planLoop_skip_exact g gen onto skip plan sk pre post k hnd hl

/-- F12 graph: `1 ← 2 ← 3 (onto)`, `1 ← 4 ← 5 = merge(4, 2) ← 6`;
`order = [4, 5, 6]` -/
def f12G : PMap := [(0, []), (1, [0]), (2, [1]), (3, [2]), (4, [1]), (5, [4, 2]), (6, [5])]

/-- `plan_skip_fixed` (the former counter-example DESIGN §7-F12, fixed in /repo by
eb8d299): with `skip_full_merged=True` the merge `5` is skipped and its child `6`
is now planned onto `104`, the NEW id of `4` that stands in for the skipped merge
— a revision rewritten earlier, not the old merge revision `5`.  With `False`
the merge is rewritten and `6` follows it.  The hypotheses of
`plan_parents_closed` hold on this input. -/
theorem plan_skip_fixed :
    (simplePlan f12G (· + 100) [4, 5, 6] [4, 5, 6] none (some 6) 3 true).toOption =
        some [⟨4, 104, [3]⟩, ⟨6, 106, [104]⟩] ∧
      (simplePlan f12G (· + 100) [4, 5, 6] [4, 5, 6] none (some 6) 3 false).toOption =
        some [⟨4, 104, [3]⟩, ⟨5, 105, [104]⟩, ⟨6, 106, [105]⟩] ∧
      (planLoop f12G (· + 100) 3 true ([], []) [4, 5, 6]).toOption =
        some ([⟨4, 104, [3]⟩, ⟨6, 106, [104]⟩], [(5, 104)]) ∧
      (∀ k, k ∈ [4, 5, 6] ↔ (k ∈ todoSet f12G 6 3 ∧ present f12G k = true)) ∧
      topoFrom f12G [4, 5, 6] = true := by
  refine ⟨by decide, by decide, by decide, ?_, by decide⟩
  intro k
  have h : todoSet f12G 6 3 = [6, 5, 4] := by decide
  rw [h]
  constructor
  · intro hk
    simp only [List.mem_cons, List.not_mem_nil, or_false] at hk
    rcases hk with rfl | rfl | rfl <;> decide
  · rintro ⟨hk, _⟩
    simp only [List.mem_cons, List.not_mem_nil, or_false] at hk ⊢
    rcases hk with rfl | rfl | rfl <;> simp

/-- `marshal_roundtrip`: `unmarshall_rebase_plan(marshall_rebase_plan(info, plan))
== (info, plan)` for every revno, every revid without newline, and every plan
(any number of entries and parents) whose ids contain no space / newline and
whose old ids are distinct (a dict). -/
theorem marshal_roundtrip (p : WPlan) (hrev : NL ∉ p.revid)
    (hids : ∀ e ∈ p.entries, (SP ∉ e.old ∧ NL ∉ e.old) ∧ (SP ∉ e.new ∧ NL ∉ e.new) ∧
      ∀ q ∈ e.parents, SP ∉ q ∧ NL ∉ q)
    (hnd : (p.entries.map (·.old)).Nodup) :
    unmarshal (marshal p) = .ok p := by
  have hhdr : NL ∉ header := by decide +kernel
  have hl1 : NL ∉ toDec p.revno ++ SP :: p.revid := by
    intro h
    rcases List.mem_append.mp h with h | h
    · exact nl_not_mem_toDec _ h
    · rcases List.mem_cons.mp h with h | h
      · simp [NL, SP] at h
      · exact hrev h
  have hlines : ∀ e ∈ p.entries, NL ∉ entryLine e := fun e he =>
    nl_not_mem_entryLine e (hids e he).1.2 (hids e he).2.1.2 (fun q hq => ((hids e he).2.2 q hq).2)
  unfold unmarshal marshal
  have hshape : header ++ [NL] ++ (toDec p.revno ++ SP :: p.revid ++ [NL]) ++
      p.entries.flatMap (fun e => entryLine e ++ [NL]) =
      header ++ NL :: ((toDec p.revno ++ SP :: p.revid) ++ NL ::
        p.entries.flatMap (fun e => entryLine e ++ [NL])) := by
    simp [List.append_assoc]
  rw [hshape, split_append_sep hhdr, split_append_sep hl1, split_body p.entries hlines]
  simp only [ne_eq, not_true_eq_false, if_false]
  rw [split1_append_sep (sp_not_mem_toDec _)]
  simp only [parseDec_toDec]
  rw [parseLines_entries p.entries []
    (fun e he => ⟨(hids e he).1.1, (hids e he).2.1.1, fun q hq => ((hids e he).2.2 q hq).1⟩)
    (by simpa using hnd)]
  simp

/-- `todo_is_unrewritten`: `rebase_todo` lists exactly the old ids whose new
revision is not yet in the repository -/
theorem todo_is_unrewritten (revs : List Key) (plan : Plan) (k : Key) :
    k ∈ rebaseTodo revs plan ↔ ∃ e ∈ plan, e.old = k ∧ e.new ∉ revs := by
  unfold rebaseTodo
  simp only [List.mem_map, List.mem_filter, decide_eq_true_eq]
  constructor
  · rintro ⟨e, ⟨he, hn⟩, hk⟩; exact ⟨e, he, hk, hn⟩
  · rintro ⟨e, he, hk, hn⟩; exact ⟨e, ⟨he, hn⟩, hk⟩

/-- PARTIAL: only the last step of `generate_transpose_plan` is proved here —
the renamed revisions themselves never appear in the returned plan.  That every
descendant is rewritten with substituted parents is covered by the
correspondence run and the oracle, not by a theorem (the worklist loop is
modelled with fuel). -/
theorem transpose_excludes_renames_partial (ancestry : List (Key × Option (List Key)))
    (renames : List (Key × Key)) (g : PMap) (gen : Key → Key) (fuel : Nat) (plan : Plan)
    (h : transposePlan ancestry renames g gen fuel = .ok plan) :
    ∀ e ∈ plan, e.old ∉ renames.map (·.1) := by
  unfold transposePlan at h
  simp only at h
  split at h
  · cases h
  · split at h
    · cases h
    · cases h
      intro e he hm
      simp only [List.mem_filter, Bool.not_eq_true', List.any_eq_false, beq_iff_eq] at he
      obtain ⟨rv, hrv, heq⟩ := List.mem_map.mp hm
      exact he.2 rv hrv heq

/-- `transpose_no_stale_parent`: for every ancestry (any size, ghosts, merges reached several times through
different rewritten parents), every set of renames with distinct keys and every `generate_revid`, provided the
replacement ids (rename targets, generated ids) are fresh — not revisions of the ancestry, not renamed revisions —
and whatever the fuel: in the plan `generate_transpose_plan` returns, a rewritten revision never keeps as a parent
an OLD revision that is itself replaced (renamed, or rewritten by this plan) unless that revision's replacement
`nw` (its rename target, else its generated id) is among the parents as well.  With parents that are listed once
this says: every replaced parent has been substituted.  (Worklist invariant `TInv`, Lemmas/C51T.) -/
theorem transpose_no_stale_parent (ancestry : List (Key × Option (List Key))) (renames : List (Key × Key))
    (g : PMap) (gen : Key → Key) (fuel : Nat) (plan : Plan)
    (hk : (rks renames).Nodup)
    (hfresh : ∀ k, nw renames gen k ∉ tNodes ancestry renames)
    (h : transposePlan ancestry renames g gen fuel = .ok plan) :
    ∀ e ∈ plan, ∀ p ∈ e.parents, (p ∈ rks renames ∨ p ∈ plan.map (·.old)) → nw renames gen p ∈ e.parents := by
  obtain ⟨rm, Pf, hf, rfl⟩ := transposePlan_inv hk hfresh h
  intro e he p hp hrep
  simp only [List.mem_filter, Bool.not_eq_true', List.any_eq_false, beq_iff_eq] at he
  have hene : e.old ∉ rks renames := by
    intro hm
    obtain ⟨rv, hrv, h1⟩ := List.mem_map.mp hm
    exact he.2 rv hrv h1
  -- a replaced parent has an entry in the final map, so it was processed: the invariant applies to it
  have hpin : p ∈ rm.map (·.old) := by
    rcases hrep with h1 | h1
    · exact hf.rk p h1
    · obtain ⟨e', he', h2⟩ := List.mem_map.mp h1
      exact List.mem_map.mpr ⟨e', (List.mem_filter.mp he').1, h2⟩
  obtain ⟨e', he', h2⟩ := List.mem_map.mp hpin
  have hpP : p ∈ Pf := (hf.queued e' he').elim (fun h3 => h2 ▸ h3) fun h3 => nomatch h3
  exact hf.closed e he.1 hene p hpP hp

/-- the triangle `4 = merge(1, 3)`, `3 ← 2 ← 1`, with `1` renamed to `9`: the merge is reached twice (through `1` and
through its rewritten second parent `3`) and ends with BOTH parents substituted; the hypotheses of
`transpose_no_stale_parent` hold on this input -/
theorem transpose_triangle_witness :
    (transposePlan [(4, some [1, 3]), (3, some [2]), (2, some [1]), (1, some [0]), (0, some [])] [(1, 9)] [(9, [0])]
        (· + 100) 50).toOption = some [⟨4, 104, [9, 103]⟩, ⟨2, 102, [9]⟩, ⟨3, 103, [102]⟩] ∧
    (rks [(1, 9)]).Nodup ∧
    (tNodes [(4, some [1, 3]), (3, some [2]), (2, some [1]), (1, some [0]), (0, some [])] [(1, 9)]).all (· < 9) = true := by
  decide

/-! ### non-vacuity -/

/-- the freshness hypothesis of `transpose_no_stale_parent` on the triangle: nodes are below 9, replacement ids are 9 or ≥ 100 -/
example : ∀ k, nw [(1, 9)] (· + 100) k ∉
    tNodes [(4, some [1, 3]), (3, some [2]), (2, some [1]), (1, some [0]), (0, some [])] [(1, 9)] := by
  intro k hm
  have h9 : ∀ x ∈ tNodes [(4, some [1, 3]), (3, some [2]), (2, some [1]), (1, some [0]), (0, some [])] [(1, 9)], x < 9 := by
    decide
  have hlt := h9 _ hm
  unfold nw at hlt
  by_cases hk : k = 1
  · subst hk; simp at hlt
  · have : ((1 : Nat) == k) = false := by simpa using fun e : 1 = k => hk e.symm
    simp only [List.find?_cons, this, List.find?_nil] at hlt
    exact Nat.not_lt.mpr (Nat.le_trans (by decide : 9 ≤ 100) (Nat.le_add_left 100 k)) hlt


example : [4, 5, 6].Nodup ∧ (∀ s, some 6 = some s → [4, 5, 6].getLast? = some s) ∧
    ((some 6 : Option Key) = none ∨ some 6 = some 6) := by decide
/-- an explicit start revision: the merge `5` keeps its old left parent `4`, which lies outside the range `[5, 6]` -/
example : (simplePlan f12G (· + 100) [4, 5, 6] [4, 5, 6] (some 5) (some 6) 3 false).toOption =
    some [⟨5, 105, [3, 4]⟩, ⟨6, 106, [105]⟩] ∧ (4 ∉ ([4, 5, 6].drop 1).take 2) ∧ mergedInto f12G 4 3 = false := by decide
/-- `plan_skip_exact` on the F12 graph: at `5` (after `[4]`) the new parents collapse to `[104]`: left out, stand-in `104` -/
example : (planLoop f12G (· + 100) 3 true ([], []) [4]).toOption = some ([⟨4, 104, [3]⟩], []) ∧
    newParents f12G 3 [⟨4, 104, [3]⟩] [] 4 [2] = (104, []) ∧
    (∀ a ∈ [4, 5, 6], ∀ b ∈ [4, 5, 6], a + 100 = b + 100 → a = b) := by decide
example : todoSet f12G 6 3 = [6, 5, 4] ∧ topoFrom f12G [4, 5, 6] = true := by decide +kernel
example : rebaseTodo [104] [⟨4, 104, [3]⟩, ⟨5, 105, [104]⟩] = [5] := by decide
/-- a plan with two entries, 0–2 parents, revid containing a space -/
def exW : WPlan := ⟨12, [98, 32, 99], [⟨[97], [65], [[120], [121]]⟩, ⟨[98], [66], []⟩]⟩
example : NL ∉ exW.revid ∧ (exW.entries.map (·.old)).Nodup ∧
    (∀ e ∈ exW.entries, (SP ∉ e.old ∧ NL ∉ e.old) ∧ (SP ∉ e.new ∧ NL ∉ e.new) ∧
      ∀ q ∈ e.parents, SP ∉ q ∧ NL ∉ q) := by decide
example : (unmarshal (marshal exW)).toOption = some exW := by decide +kernel
example : (transposePlan [(3, some [2]), (2, some [1]), (1, some [0])] [(2, 9)] [(9, [1])] (· + 100) 50).toOption =
    some [⟨3, 103, [9]⟩] := by decide

end BreezyVerif.C51
