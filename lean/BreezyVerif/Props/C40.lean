import BreezyVerif.Lemmas.C40
import BreezyVerif.Lemmas.C40B
import BreezyVerif.Lemmas.C40F
/-!
C40 — theorems.  Repositories (any parent map, ghosts included), base and target
revisions, directives, patches and byte strings are universally quantified;
nothing is bounded.
-/
namespace BreezyVerif.C40

open BreezyVerif.C03 (Rev FileId TextKey Entry RevRec Inv Repo get hasRev graph reach anc invOrEmpty
  Exclusion streamEntries testament agree agreeOn complete noOrphanInv)
open BreezyVerif.C33 (Reach)

/-- a written v4 bundle holds exactly the source's records of the bundled revisions -/
theorem bundle_contents (sel : TextSel) (src : Repo) (base target : Rev) (b : Bundle)
    (hw : writeV4 sel src base target = .ok b) (k : Rev) :
    (get b.revs k = if k ∈ bundleRevs src base target then get src.revs k else none) ∧
    (get b.invs k = if k ∈ bundleRevs src base target then get src.invs k else none) ∧
    (k ∈ bundleRevs src base target → (get src.invs k).isSome = true) :=
  ⟨bundle_revs_get hw k, bundle_invs_get hw k, (writeV4_ok hw).1 k⟩

/-- installing never changes a record the repository already holds -/
theorem bundle_install_monotone (b : Bundle) (tgt : Repo) :
    (∀ k v, get tgt.revs k = some v → get (installV4 b tgt).1.revs k = some v) ∧
    (∀ k v, get tgt.invs k = some v → get (installV4 b tgt).1.invs k = some v) ∧
    (∀ k v, get tgt.texts k = some v → get (installV4 b tgt).1.texts k = some v) :=
  ⟨fun _ _ h => C03.get_append_some h, fun _ _ h => C03.get_append_some h, fun _ _ h => C03.get_append_some h⟩

/-- **Faithful install (format 4).**  Write the bundle for `(base, target)` from
`src`, install it into any repository `tgt` that holds the base's ancestry, agrees
with the source on the ids both hold and is complete: afterwards every
source-present ancestor of the target is in the repository, with the source's
revision record and inventory, hence with the same testament. -/
theorem bundle_install_faithful (sel : TextSel) (src tgt : Repo) (base target : Rev) (b : Bundle)
    (hb : holdsBase src tgt base = true) (ha : agree src tgt = true) (hc : complete tgt = true)
    (hw : writeV4 sel src base target = .ok b) (k : Rev) (hk : k ∈ anc src target)
    (hsi : (get src.invs k).isSome = true) :
    hasRev (installV4 b tgt).1 k = true ∧
    get (installV4 b tgt).1.revs k = get src.revs k ∧
    get (installV4 b tgt).1.invs k = get src.invs k ∧
    testament (installV4 b tgt).1 k = testament src k :=
  faithful_of_copied (copied_installV4 hw) hb ha hc hk hsi

/-- the install returns the target whenever the bundle carries it -/
theorem install_returns_target (sel : TextSel) (src tgt : Repo) (base target : Rev) (b : Bundle)
    (hw : writeV4 sel src base target = .ok b) (ht : target ∈ bundleRevs src base target) :
    (installV4 b tgt).2 = some target := by
  obtain ⟨rec, hrec⟩ := (C03.hasRev_iff ..).mp
    ((C03.mem_anc ..).mp ((bundle_revs_spec ..).mp ht).1).2
  show (b.revs.getLast?).map (·.1) = some target
  rw [(writeV4_ok hw).2.2.1]
  unfold targetLast
  rw [if_pos ht, List.filterMap_append]
  simp [hrec]

/-- **Complete install (format 4).**  Under the hypotheses of `bundle_install_faithful`
and the source condition of the text selection (`selOK`: CHK — boundary parents are
chosen by revision presence or the source stores no inventory of an absent revision;
XML — the revision that last changed an entry is a source-present ancestor whose own
inventory has that text key), the repository after the install is complete again:
every revision has its inventory and every text its inventory names.  This is the
statement about `fileids_altered_by_revision_ids`: what it leaves out is already held. -/
theorem bundle_install_complete (sel : TextSel) (src tgt : Repo) (base target : Rev) (b : Bundle)
    (hb : holdsBase src tgt base = true) (ha : agree src tgt = true) (hc : complete tgt = true)
    (hs : selOK sel src = true) (hw : writeV4 sel src base target = .ok b) :
    complete (installV4 b tgt).1 = true :=
  (copied_installV4 hw).consistent (bundle_streamOK sel src tgt base target hb ha hc hs) ha hc

/-- … and every file text of every source-present ancestor of the target is there with
the source's content (the part of the testament's meaning that lives in the texts) -/
theorem bundle_install_texts_faithful (sel : TextSel) (src tgt : Repo) (base target : Rev) (b : Bundle)
    (hb : holdsBase src tgt base = true) (ha : agree src tgt = true) (hc : complete tgt = true)
    (hs : selOK sel src = true) (hw : writeV4 sel src base target = .ok b)
    (k : Rev) (hk : k ∈ anc src target) (i : Inv) (hi : get src.invs k = some i) (e : Entry) (he : e ∈ i) :
    ∃ c, get (installV4 b tgt).1.texts e.key = some c ∧ ∀ c', get src.texts e.key = some c' → c' = c :=
  (copied_installV4 hw).texts_faithful (covers_bundle hb) (bundle_streamOK sel src tgt base target hb ha hc hs)
    ha hc k hk i hi e he

/-- why `selOK` is needed for CHK bundles as the code selects texts (`asFound`): the
source stores the inventory of a ghost parent (1) that shares an entry with the bundled
revision (2); the entry counts as uninteresting, its text is not bundled, and a
repository that holds the (empty) base ends up without it -/
theorem bundle_orphan_inventory_witness :
    let src : Repo := { revs := [(2, ⟨[1], 20⟩)], invs := [(1, [⟨1, 1, 1, 100⟩]), (2, [⟨1, 1, 1, 100⟩])],
                        texts := [((1, 1), 100)] }
    let tgt : Repo := { revs := [], invs := [], texts := [] }
    holdsBase src tgt 0 = true ∧ agree src tgt = true ∧ complete tgt = true ∧
    selOK (.chk .asFound) src = false ∧ selOK (.chk .revisionPresent) src = true ∧
    (match writeV4 (.chk .asFound) src 0 2, writeV4 (.chk .revisionPresent) src 0 2 with
      | .ok b, .ok b' => (b.texts, complete (installV4 b tgt).1, complete (installV4 b' tgt).1) == ([], false, true)
      | _, _ => false) = true := by
  decide +kernel

/-- **Faithful install (formats 0.8 / 0.9).**  Same statement for the patch-based
bundle: if writing and installing succeed, every source-present ancestor of the
target is in the repository with the source's revision record, inventory and
testament. -/
theorem bundle09_install_faithful (src tgt t' : Repo) (base target : Rev)
    (hb : holdsBase src tgt base = true) (ha : agree src tgt = true) (hc : complete tgt = true)
    (hw : roundtrip09 src tgt base target = .ok t') (k : Rev) (hk : k ∈ anc src target)
    (hsi : (get src.invs k).isSome = true) :
    hasRev t' k = true ∧ get t'.revs k = get src.revs k ∧ get t'.invs k = get src.invs k ∧
    testament t' k = testament src k :=
  faithful_of_copied (copied_install09 hc hw) hb ha hc hk hsi

/-- **Complete install (formats 0.8 / 0.9).**  The patch-based formats carry every text
of every bundled tree: no condition on the source beyond what writing needs -/
theorem bundle09_install_complete (src tgt t' : Repo) (base target : Rev)
    (ha : agree src tgt = true) (hc : complete tgt = true)
    (hw : roundtrip09 src tgt base target = .ok t') : complete t' = true :=
  (copied_install09 hc hw).consistent (streamOK_install09 src tgt base target ha hc) ha hc

/-- splitting into lines loses nothing (both splitters) -/
theorem split_join (b : Bytes) : joinLines (splitLines b) = b ∧ joinLines (splitNL b) = b :=
  ⟨joinLines_splitLines b, joinLines_splitNL b⟩

/-- the round-trip law of the stanza codec (bzrformats; assumed, checked at run time) -/
def CodecLaw {α : Type} (c : Codec α) : Prop :=
  ∀ (f : α) (rest : List Line), c.dec (c.enc f ++ blank :: rest) = some (f, rest)

/-- the documented domain: no line of the patch starts with `# Begin bundle` -/
def patchOk (split : Bytes → List Line) (p : Option Bytes) : Bool :=
  match p with
  | none => true
  | some x => noMarker (split x)

theorem toLines_eq {α : Type} (c : Codec α) (d : Directive α) :
    toLines c d = header2 :: (c.enc d.fields ++ blank :: payload splitLines d.patch d.bundle) := by
  unfold toLines payload
  cases d.patch <;> cases d.bundle <;> simp

/-- header, stanza, blank line and a payload built with any line splitter that loses nothing are read
back; of the codec only the law at the stanza written is needed (rio's `Stanza.add` refuses a tag
outside `[-a-zA-Z0-9_]+`, so the law at every `Key.other` stanza is more than rio offers) -/
theorem fromLines_payload {α : Type} (c : Codec α) (split : Bytes → List Line)
    (hj : ∀ x, joinLines (split x) = x) (d : Directive α)
    (hc : ∀ rest, c.dec (c.enc d.fields ++ blank :: rest) = some (d.fields, rest))
    (hd : patchOk split d.patch = true) :
    fromLines c (header2 :: (c.enc d.fields ++ blank :: payload split d.patch d.bundle)) = .ok d := by
  have h1 : isPrefix headerPrefix header2 = true := by decide
  have h2 : lookupFormat header2 = some .two := by decide
  have hs := sections_payload split hj d.patch d.bundle fun x hx => by rw [hx] at hd; exact hd
  unfold fromLines
  simp [List.dropWhile, h1, h2, hc, hs]

/-- **Round trip (line list).**  `from_lines(to_lines(d)) = d` for every directive
whose patch has no line starting with the bundle marker. -/
theorem directive_roundtrip {α : Type} (c : Codec α) (hc : CodecLaw c) (d : Directive α)
    (hd : patchOk splitLines d.patch = true) :
    fromLines c (toLines c d) = .ok d := by
  rw [toLines_eq]
  exact fromLines_payload c splitLines joinLines_splitLines d (hc d.fields) hd

theorem splitNL_payload (p b : Option Bytes) (hp : ∀ x y, p = some x → b = some y → endsNL x = true) :
    splitNL (joinLines (payload splitLines p b)) = payload splitNL p b := by
  have hj : ∀ x, (splitLines x).flatten = x := joinLines_splitLines
  cases p with
  | none =>
    cases b with
    | none => rfl
    | some b =>
      simp only [payload, List.nil_append, joinLines, List.flatten_cons, hj]
      exact splitNL_line_append (by decide) _
  | some p =>
    cases b with
    | none =>
      simp only [payload, List.append_nil, joinLines, List.flatten_cons, hj]
      exact splitNL_line_append (by decide) _
    | some b =>
      simp only [payload, List.cons_append, joinLines, List.flatten_cons, List.flatten_append, hj]
      rw [splitNL_line_append (by decide), splitNL_append _ _ (hp p b rfl rfl), splitNL_line_append (by decide)]

/-- **Round trip (through a file).**  Writing `b"".join(to_lines(d))` and parsing
the file object line by line gives `d` back, provided the stanza lines are
physical lines, no `\n`-line of the patch starts with the bundle marker, and a
patch that is followed by a bundle is empty or ends with a newline
(`directive_file_nonl_witness` shows what happens otherwise). -/
theorem directive_roundtrip_file {α : Type} (c : Codec α) (hc : CodecLaw c) (d : Directive α)
    (hl : ∀ l ∈ c.enc d.fields, isLine l = true)
    (hd : patchOk splitNL d.patch = true)
    (hp : ∀ x y, d.patch = some x → d.bundle = some y → endsNL x = true) :
    fromLines c (splitNL (joinLines (toLines c d))) = .ok d := by
  have hlines : ∀ l ∈ header2 :: (c.enc d.fields ++ [blank]), isLine l = true := by
    intro l hl'
    rcases List.mem_cons.mp hl' with rfl | h
    · decide
    · rcases List.mem_append.mp h with h | h
      · exact hl l h
      · rw [List.mem_singleton.mp h]; decide
  -- the serialised text splits back into header, stanza lines, blank and the re-split payload
  have key : splitNL (joinLines (toLines c d)) =
      header2 :: (c.enc d.fields ++ blank :: payload splitNL d.patch d.bundle) := by
    have e1 : joinLines (toLines c d) = joinLines (header2 :: (c.enc d.fields ++ [blank])) ++
        joinLines (payload splitLines d.patch d.bundle) := by
      rw [toLines_eq]; simp [joinLines]
    rw [e1, splitNL_joinLines_append _ hlines, splitNL_payload _ _ hp]
    simp
  rw [key]
  exact fromLines_payload c splitNL joinLines_splitNL d (hc d.fields) hd

/-- the driver's block codec satisfies the law on blocks that contain no blank line -/
theorem blockCodec_law (f : List Line) (hf : ∀ l ∈ f, isBlank l = false) (rest : List Line) :
    blockCodec.dec (blockCodec.enc f ++ blank :: rest) = some (f, rest) := by
  obtain ⟨h1, h2⟩ := Lib.span_append (p := fun l => !isBlank l) (l₁ := f) (l₂ := blank :: rest)
    (fun a ha => by simp [hf a ha]) (by simp; decide)
  show (match (f ++ blank :: rest).dropWhile (fun l => !isBlank l) with
    | [] => none
    | _ :: r => some ((f ++ blank :: rest).takeWhile (fun l => !isBlank l), r)) = some (f, rest)
  rw [h1, h2]

/-- why the domain condition is needed: a patch line that starts with the bundle
marker is taken for the start of the bundle (`+`-prefixed diff lines never do) -/
theorem directive_marker_witness :
    (match fromLines blockCodec (toLines blockCodec ⟨[], some beginBundle, none⟩) with
      | .ok d => d.patch == some [] && d.bundle == some []
      | .error _ => false) = true := by
  decide +kernel

/-- **Finding** (family `directive-file-roundtrip-patch-without-final-newline-before-bundle`):
a patch whose last line has no newline, followed by a bundle.  As a line list the
directive round-trips; written to a file and read back the bundle marker no longer
starts a line: the marker and the whole bundle are appended to the patch and the
bundle is lost. -/
theorem directive_file_nonl_witness :
    let d : Directive (List Line) := ⟨[], some [43, 97], some [81, 10]⟩
    (match fromLines blockCodec (toLines blockCodec d),
        fromLines blockCodec (splitNL (joinLines (toLines blockCodec d))) with
      | .ok d1, .ok d2 => d1 == d && d2 == ⟨[], some ([43, 97] ++ beginBundle ++ [81, 10]), none⟩
      | _, _ => false) = true := by
  decide +kernel

/-! ## the directive's fields (stanza built by `_to_lines`, read by `_from_lines`; timestamp codec) -/

/-- **Round trip of all fields (line list).**  For every stanza line codec satisfying the
round-trip law (bzrformats' rio_patch; assumed, checked per case) and every directive with a
testament sha1 (not needed for the tolerant variant of `_from_lines`), a merge source (public
branch or bundle) and a date in the timestamp's domain, whose patch has no line starting with
the bundle marker: `to_lines` succeeds and `from_lines` gives back revision id, testament
sha1, time, timezone, target and source branch, message, base revision id, patch and bundle. -/
theorem directive_fields_roundtrip (tolerant : Bool) (rio : Codec Stanza) (hc : CodecLaw rio) (d : Directive Fields)
    (hf : fieldsOKV tolerant d = true) (hd : patchOk splitLines d.patch = true) :
    ∃ lines, toLinesF rio d = .ok lines ∧ fromLinesFV tolerant rio lines = .ok d :=
  fields_roundtrip tolerant rio d hf id fun st => directive_roundtrip rio hc ⟨st, d.patch, d.bundle⟩ hd

/-- **… and through a file**, under the additional conditions of `directive_roundtrip_file` -/
theorem directive_fields_roundtrip_file (tolerant : Bool) (rio : Codec Stanza) (hc : CodecLaw rio)
    (d : Directive Fields)
    (hf : fieldsOKV tolerant d = true) (hl : ∀ st, ∀ l ∈ rio.enc st, isLine l = true)
    (hd : patchOk splitNL d.patch = true)
    (hp : ∀ x y, d.patch = some x → d.bundle = some y → endsNL x = true) :
    ∃ lines, toLinesF rio d = .ok lines ∧ fromLinesFV tolerant rio (splitNL (joinLines lines)) = .ok d :=
  fields_roundtrip tolerant rio d hf (fun ls => splitNL (joinLines ls)) fun st =>
    directive_roundtrip_file rio hc ⟨st, d.patch, d.bundle⟩ (hl st) hd hp

/-- by design ("we always give the epoch in utc"): at time 0 the timezone is not kept -/
theorem directive_epoch_timezone_witness :
    (match formatPatchDate 0 3600 with
      | .ok s => parsePatchDate s == .ok (0, 0)
      | .error _ => false) = true := by
  decide +kernel

/-- **Finding** (family `directive-without-testament-sha1-does-not-parse`): `_to_lines` leaves
out a `testament_sha1` that is None, but `_from_lines` calls the constructor without the
keyword it requires: the directive serialises and then cannot be parsed (TypeError) -/
theorem directive_no_testament_witness :
    (match toPairs ⟨['r'], none, 86400, 0, ['t'], some ['s'], none, ['b']⟩ with
      | .ok st => fromPairs st false == .error .typeError
      | .error _ => false) = true := by
  decide +kernel

/-- the offset's sign belongs to hours and minutes (fix b80d98c) -/
example : parsePatchDate "2019-01-01 00:00:00 -0330".toList = .ok (1546313400, -12600) := by decide +kernel
example : dateOK 1500000000 (-12600) = true ∧ dateOK 0 0 = true ∧ dateOK 0 3600 = false := by decide +kernel
example : fieldsOKV false ⟨⟨['r'], some ['s'], 86400, 3600, ['t'], none, none, ['b']⟩, none, some [81, 10]⟩ = true ∧
    fieldsOKV true ⟨⟨['r'], none, 86400, 0, ['t'], some ['u'], none, ['b']⟩, none, none⟩ = true := by decide +kernel

/-- the verifier accepts the patch the directive was made with -/
theorem verify_refl (p : Bytes) : verifyPatch p p = true := by simp [verifyPatch]

/-- **Tampering is detected, general form.**  Whatever is done to a verified patch — any
number of replacements, insertions, deletions, anywhere — if the sequence of bytes other
than space, CR and LF changes, the verification fails. -/
theorem tamper_detected_general (calcd s s' : Bytes) (hv : verifyPatch calcd s = true)
    (hne : nonws s' ≠ nonws s) : verifyPatch calcd s' = false := by
  cases h : verifyPatch calcd s' with
  | false => rfl
  | true => exact absurd ((verify_nonws h).trans (verify_nonws hv).symm) hne

/-- **Tampering is detected.**  The verifier compares the regenerated diff with
the stored patch modulo line endings and trailing spaces only: replacing any
byte of a verified patch by a different byte (neither of them space, CR or LF)
makes the verification fail.  (That a changed *tree* changes the regenerated
diff, and that a changed bundle changes a sha-1, is assumed, not proved.) -/
theorem tamper_detected (calcd pre post : Bytes) (x y : UInt8) (hxy : x ≠ y)
    (hx : isWs x = false) (hy : isWs y = false)
    (hv : verifyPatch calcd (pre ++ x :: post) = true) :
    verifyPatch calcd (pre ++ y :: post) = false := by
  apply tamper_detected_general calcd _ _ hv
  rw [nonws_insert pre post x hx, nonws_insert pre post y hy]
  exact fun h => hxy (List.cons.inj (List.append_cancel_left h)).1.symm

/-- the general form, for a change in the NUMBER of bytes other than space, CR and LF -/
theorem tamper_detected_length {calcd s s' : Bytes} (hv : verifyPatch calcd s = true)
    (hne : (nonws s').length ≠ (nonws s).length) : verifyPatch calcd s' = false :=
  tamper_detected_general calcd s s' hv fun h => hne (congrArg List.length h)

/-- inserting a byte other than space, CR, LF anywhere is detected -/
theorem tamper_insert_detected (calcd pre post : Bytes) (y : UInt8) (hy : isWs y = false)
    (hv : verifyPatch calcd (pre ++ post) = true) : verifyPatch calcd (pre ++ y :: post) = false :=
  tamper_detected_length hv (by rw [nonws_insert_length pre post y hy]; omega)

/-- deleting a byte other than space, CR, LF anywhere is detected -/
theorem tamper_delete_detected (calcd pre post : Bytes) (x : UInt8) (hx : isWs x = false)
    (hv : verifyPatch calcd (pre ++ x :: post) = true) : verifyPatch calcd (pre ++ post) = false :=
  tamper_detected_length hv (by rw [nonws_insert_length pre post x hx]; omega)

/-- replacing a space, CR or LF by any other byte (or the other way round) is detected -/
theorem tamper_ws_swap_detected (calcd pre post : Bytes) (x y : UInt8) (hx : isWs x = true) (hy : isWs y = false) :
    (verifyPatch calcd (pre ++ x :: post) = true → verifyPatch calcd (pre ++ y :: post) = false) ∧
    (verifyPatch calcd (pre ++ y :: post) = true → verifyPatch calcd (pre ++ x :: post) = false) := by
  have hlen := nonws_insert_length pre post y hy
  rw [← nonws_insert_ws pre post x hx] at hlen
  exact ⟨fun hv => tamper_detected_length hv (by omega), fun hv => tamper_detected_length hv (by omega)⟩

/-- by design, differences in line endings and trailing spaces are *not* detected -/
theorem verify_whitespace_witness :
    verifyPatch [43, 97, 10] [43, 97, 32, 32, 13, 10] = true ∧ verifyPatch [43, 97, 10] [43, 97, 13] = true := by
  decide

/-! ## non-vacuity -/

/-- a merge history: 1 ← 2 ← 4, 1 ← 3 ← 4; file 1 changed in 2, file 2 added in 3 -/
def eSrc : Repo :=
  { revs := [(1, ⟨[], 10⟩), (2, ⟨[1], 20⟩), (3, ⟨[1], 30⟩), (4, ⟨[2, 3], 40⟩)]
    invs := [(1, [⟨1, 1, 1, 100⟩]), (2, [⟨1, 1, 2, 200⟩]), (3, [⟨1, 1, 1, 100⟩, ⟨2, 2, 3, 300⟩]),
             (4, [⟨1, 1, 2, 200⟩, ⟨2, 2, 3, 300⟩])]
    texts := [((1, 1), 100), ((1, 2), 200), ((2, 3), 300)] }

/-- a repository that holds the ancestry of 2 -/
def eTgt : Repo :=
  { revs := [(1, ⟨[], 10⟩), (2, ⟨[1], 20⟩)]
    invs := [(1, [⟨1, 1, 1, 100⟩]), (2, [⟨1, 1, 2, 200⟩])]
    texts := [((1, 1), 100), ((1, 2), 200)] }

example : bundleRevs eSrc 2 4 = [4, 3] ∧ holdsBase eSrc eTgt 2 = true ∧ agree eSrc eTgt = true ∧
    complete eTgt = true ∧
    (match writeV4 (.chk .asFound) eSrc 2 4 with
      | .ok b => (b.revs.map (·.1), b.invs.map (·.1), b.texts.map (·.1), (installV4 b eTgt).2,
          complete (installV4 b eTgt).1) == ([3, 4], [4, 3], [(2, 3), (2, 3)], some 4, true)
      | .error _ => false) = true := by
  decide +kernel

example : (match writeV4 .xml eSrc 2 4, roundtrip09 eSrc eTgt 2 4 with
      | .ok b, .ok t => testament (installV4 b eTgt).1 4 == testament eSrc 4 && testament t 4 == testament eSrc 4
          && complete t
      | _, _ => false) = true := by
  decide +kernel

example : selOK (.chk .asFound) eSrc = true ∧ selOK .xml eSrc = true ∧ selOK (.chk .revisionPresent) eSrc = true := by
  decide +kernel

example : nonws [43, 97, 32, 10] ≠ nonws [43, 98, 10] := by decide

example : patchOk splitLines (some [43, 35, 32, 66, 10]) = true ∧ isLine blank = true ∧
    endsNL [43, 97, 10] = true ∧ isWs 97 = false := by decide

/-! ## revision property lines of the 0.8 / 0.9 bundle footer -/

theorem splitSep_propLine (k v : PStr) (h : hasSep k = false) : splitSep (propLine k v) = some (k, v) := by
  induction k with
  | nil => simp [propLine, splitSep]
  | cons c r ih =>
    cases r with
    | nil =>
      simp only [propLine, List.cons_append, List.nil_append, splitSep]
      simp
    | cons d r' =>
      simp only [hasSep, Bool.or_eq_false_iff] at h
      have ih' := ih h.2
      simp only [propLine, List.cons_append] at ih' ⊢
      simp only [splitSep, h.1, ih']
      simp

/-- **Every revision property survives the footer**: a property whose key has
no `": "`, blank or newline (the keys `Revision` accepts) is read back with
exactly its value — whatever the value contains, further `": "` included. -/
theorem prop_line_roundtrip (k v : PStr) (hk : keyOk k = true) (hs : hasSep k = false) :
    parsePropLine (propLine k v) = some (k, v) := by
  unfold parsePropLine
  simp only [splitSep_propLine k v hs, hk, if_true]

theorem keyOk_noSep (k : PStr) (hk : keyOk k = true) : hasSep k = false := by
  have hb : ' ' ∉ k := by
    intro h
    simp [keyOk, h] at hk
  clear hk
  induction k with
  | nil => rfl
  | cons c r ih =>
    cases r with
    | nil => rfl
    | cons d r' =>
      have hd : d ≠ ' ' := by
        intro e
        exact hb (by simp [e])
      have hr : ' ' ∉ d :: r' := fun h => hb (List.mem_cons_of_mem _ h)
      simp [hasSep, ih hr, hd]

/-- hence for every key `Revision` accepts, every value -/
theorem prop_line_roundtrip_valid (k v : PStr) (hk : keyOk k = true) :
    parsePropLine (propLine k v) = some (k, v) :=
  prop_line_roundtrip k v hk (keyOk_noSep k hk)

/-- whole property lists: `from_revision` then `as_revision` gives back the pairs -/
theorem prop_lines_roundtrip (ps : List (PStr × PStr)) (hk : ∀ p ∈ ps, keyOk p.1 = true) :
    (ps.map fun p => propLine p.1 p.2).mapM parsePropLine = some ps := by
  induction ps with
  | nil => rfl
  | cons p t ih =>
    have h1 := prop_line_roundtrip_valid p.1 p.2 (hk p (by simp))
    have h2 := ih (fun q hq => hk q (by simp [hq]))
    simp only [List.map_cons, List.mapM_cons, h1, h2]
    rfl

-- non-vacuity: a value with two further separators and one ending in a colon
example : parsePropLine (propLine "review-note".toList "see: ticket 12: handle".toList)
      = some ("review-note".toList, "see: ticket 12: handle".toList)
    ∧ parsePropLine (propLine "k".toList "ends:".toList) = some ("k".toList, "ends:".toList)
    ∧ parsePropLine "empty:".toList = some ("empty".toList, [])
    ∧ parsePropLine "no separator".toList = none := by decide +kernel

end BreezyVerif.C40
