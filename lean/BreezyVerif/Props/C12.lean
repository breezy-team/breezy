import BreezyVerif.Model.C12
import Std.Data.String.ToNat
/-!
C12 — tree-changing commands never silently discard uncommitted work:
per-file decision theorems (every combination of the attributes the code reads).
-/
namespace BreezyVerif.C12

def fixedFlags : Flags := { keepWhenNoBasis := true }
def pinnedFlags : Flags := { keepWhenNoBasis := false }

/-- the `keep_content` decision on a user-edited file, when keeping is possible at all (backups on,
or nothing to put in its place): the content is kept, unless its file id is absent from the basis
and the code variant then only keeps what the target does not have at all -/
theorem keepContent_of_userEdited (fl : Flags) (i : RevertIn) (hu : userEdited i = true)
    (hk : i.backups = true ∨ i.targetKind = none)
    (hx : fl.keepWhenNoBasis = true ∨ i.basisPresent = true ∨ (i.targetKind = none ∧ i.targetVersioned = false)) :
    keepContent fl i = true := by
  simp only [userEdited, Bool.and_eq_true, Bool.or_eq_true, Bool.not_eq_true', decide_eq_true_eq] at hu
  obtain ⟨⟨hw, hm⟩, hb⟩ := hu
  have h1 : (i.backups || i.targetKind.isNone) = true := by
    rcases hk with h | h <;> simp only [h, Bool.true_or, Option.isNone_none, Bool.or_true]
  simp only [keepContent, hw, h1, hm, decide_true, Bool.and_self, Bool.not_false, if_true]
  cases hbp : i.basisPresent with
  | true =>
    rcases hb with h | h
    · rw [hbp] at h; cases h
    · simp only [h, Bool.not_true, Bool.not_false, Bool.false_eq_true, if_false]
  | false =>
    rcases hx with h | h | ⟨h, h'⟩
    · simp only [h, Bool.not_false, if_true]
    · rw [hbp] at h; cases h
    · simp only [h, h', Bool.not_false, if_true, Option.isNone_none, Bool.and_self, ite_self]

/-- revert deletes a working file's bytes exactly when its content changed, there is a working file
and the `keep_content` decision is "no" -/
theorem revertFate_gone_iff (fl : Flags) (i : RevertIn) :
    revertFate fl i = .gone ↔
      i.changedContent = true ∧ i.wtKind.isSome = true ∧ keepContent fl i = false := by
  unfold revertFate revertAction
  generalize keepContent fl i = k
  cases i.changedContent <;> cases i.wtKind <;> cases k <;> cases i.targetKind <;> simp

theorem revertFate_ne_gone_of_keep {fl : Flags} {i : RevertIn} (hk : keepContent fl i = true) :
    revertFate fl i ≠ .gone := fun h => by
  rw [((revertFate_gone_iff fl i).mp h).2.2] at hk; cases hk

/-- **revert keeps user content** (variant that keeps content absent from the basis):
a working file that differs from the basis — or that the basis does not have —
and that was not written by a merge is never deleted by a revert with backups:
its bytes stay in place or move to a numbered backup.  All inputs. -/
theorem revert_keeps_user_content (i : RevertIn) (hu : userEdited i = true) (hb : i.backups = true) :
    revertFate fixedFlags i ≠ .gone :=
  revertFate_ne_gone_of_keep (keepContent_of_userEdited fixedFlags i hu (.inl hb) (.inl rfl))

example : userEdited { changedContent := true, wtKind := some .file, backups := true, targetKind := some .file,
                       targetVersioned := true, mergeModifiedIsWt := false, basisPresent := false, basisIsWt := false } = true := by decide

/-- **partial, pinned source**: the same holds for the code as pinned when the basis
has the file, or the target has nothing at all for it. -/
theorem revert_keeps_user_content_partial (i : RevertIn) (hu : userEdited i = true) (hb : i.backups = true)
    (hx : i.basisPresent = true ∨ (i.targetKind = none ∧ i.targetVersioned = false)) :
    revertFate pinnedFlags i ≠ .gone :=
  revertFate_ne_gone_of_keep (keepContent_of_userEdited pinnedFlags i hu (.inl hb) (.inr hx))

/-- **witness (pinned source)**: `revert -r OLD f` with backups, where the working
file `f` is user-edited, its file id is absent from the basis and OLD has it as a
file: the content is deleted, no backup is made. -/
theorem revert_no_basis_witness :
    let i : RevertIn := { changedContent := true, wtKind := some .file, backups := true, targetKind := some .file,
                          targetVersioned := true, mergeModifiedIsWt := false, basisPresent := false, basisIsWt := false }
    userEdited i = true ∧ revertFate pinnedFlags i = .gone ∧ revertFate fixedFlags i = .backup := by
  decide

/-- without backups, content that the target does not have at all is still kept in
place (it only becomes unversioned): `--no-backup` discards modifications, not added files -/
theorem revert_no_backup_keeps_added (fl : Flags) (i : RevertIn) (hu : userEdited i = true)
    (ht : i.targetKind = none) (hv : i.targetVersioned = false) :
    revertFate fl i = .kept := by
  have hk := keepContent_of_userEdited fl i hu (.inr ht) (.inr (.inr ⟨ht, hv⟩))
  unfold revertFate revertAction
  rw [hk, ht]
  cases i.changedContent <;> cases i.wtKind <;> rfl

/-- content written by a merge and not edited since, or equal to the basis, is not "user content" -/
theorem revert_deletes_only_unedited_or_on_request (i : RevertIn) (h : revertFate fixedFlags i = .gone) :
    userEdited i = false ∨ i.backups = false := by
  have hk := ((revertFate_gone_iff _ _).mp h).2.2
  cases hu : userEdited i with
  | false => exact .inl rfl
  | true =>
    cases hb : i.backups with
    | false => exact .inr rfl
    | true => rw [keepContent_of_userEdited fixedFlags i hu (.inl hb) (.inl rfl)] at hk; cases hk

/-- **scope of the revert clause (what the code does not keep)**: only regular files are ever kept
or backed up.  A working-tree symlink or directory whose entry changed is handed to
`tt.delete_contents` whatever the other inputs are - backups on, target absent, not in the basis:
a retargeted symlink is not "content" for `_alter_files`.  (What is inside a directory is decided
per file and by the conflict resolution of the transform, which the oracle observes.) -/
theorem revert_nonfile_never_kept (fl : Flags) (i : RevertIn) (k : Kind) (hk : i.wtKind = some k) (hn : k ≠ .file)
    (hc : i.changedContent = true) : revertFate fl i = .gone := by
  refine (revertFate_gone_iff fl i).mpr ⟨hc, by rw [hk]; rfl, ?_⟩
  cases k <;> first | exact absurd rfl hn | simp [keepContent, hk]

example : revertFate fixedFlags { changedContent := true, wtKind := some .symlink, backups := true, targetKind := some .file,
                                  targetVersioned := true, mergeModifiedIsWt := false, basisPresent := true, basisIsWt := false } = .gone := by
  decide

/-- the loop only returns a name that does not exist -/
theorem firstFree_sound {α : Type} [DecidableEq α] (cand : Nat → α) (taken : List α) (fuel k r : Nat)
    (h : firstFree cand taken fuel k = some r) : cand r ∉ taken ∧ k ≤ r ∧ ∀ j, k ≤ j → j < r → cand j ∈ taken := by
  induction fuel generalizing k with
  | zero => simp [firstFree] at h
  | succ n ih =>
    unfold firstFree at h
    split at h
    · rename_i hc
      obtain ⟨h1, h2, h3⟩ := ih (k + 1) h
      refine ⟨h1, Nat.le_of_succ_le h2, ?_⟩
      intro j hj1 hj2
      by_cases hjk : j = k
      · subst hjk; simpa using hc
      · exact h3 j (Nat.lt_of_le_of_ne hj1 (Ne.symm hjk)) hj2
    · rename_i hc
      cases h
      exact ⟨by simpa using hc, Nat.le_refl _, fun j h1 h2 => absurd h2 (Nat.not_lt.mpr h1)⟩

/-- membership of later candidates is what the loop looks at -/
theorem firstFree_congr {α : Type} [DecidableEq α] (cand : Nat → α) (t1 t2 : List α) (fuel k : Nat)
    (h : ∀ j, k ≤ j → (cand j ∈ t1 ↔ cand j ∈ t2)) : firstFree cand t1 fuel k = firstFree cand t2 fuel k := by
  induction fuel generalizing k with
  | zero => rfl
  | succ n ih =>
    unfold firstFree
    have hk := h k (Nat.le_refl _)
    by_cases hc : cand k ∈ t1
    · have hc2 := hk.mp hc
      simp only [List.contains_eq_mem, hc, hc2, decide_true, if_true]
      exact ih (k + 1) (fun j hj => h j (Nat.le_of_succ_le hj))
    · have hc2 : cand k ∉ t2 := fun x => hc (hk.mpr x)
      simp [hc, hc2]

/-- **the loop always finds a name**: with distinct candidates, `taken.length + 1`
steps suffice whatever exists already (pigeonhole) -/
theorem firstFree_total {α : Type} [DecidableEq α] (cand : Nat → α) (hinj : ∀ a b, cand a = cand b → a = b)
    (taken : List α) (fuel k : Nat) (hf : taken.length < fuel) : (firstFree cand taken fuel k).isSome = true := by
  induction fuel generalizing taken k with
  | zero => exact absurd hf (Nat.not_lt_zero _)
  | succ n ih =>
    unfold firstFree
    by_cases hc : cand k ∈ taken
    · simp only [List.contains_eq_mem, hc, decide_true, if_true]
      -- drop `cand k`: later candidates are different, so the loop cannot tell
      have hcongr := firstFree_congr cand taken (taken.erase (cand k)) n (k + 1) (by
        intro j hj
        have hne : cand j ≠ cand k := fun e => Nat.ne_of_gt hj (hinj _ _ e)
        exact (List.mem_erase_of_ne hne).symm)
      rw [hcongr]
      apply ih
      rw [List.length_erase_of_mem hc]
      exact Nat.sub_one_lt_of_le (List.length_pos_of_mem hc) (Nat.le_of_lt_succ hf)
    · simp [hc]

/-- the candidates `base.~k~` are pairwise different -/
theorem backupCand_injective (base : String) (a b : Nat) (h : backupCand base a = backupCand base b) : a = b := by
  unfold backupCand at h
  have h1 := congrArg String.toList h
  simp only [String.toList_append] at h1
  have h2 := List.append_cancel_right h1
  have h3 := List.append_cancel_left h2
  have h4 : toString a = toString b := String.toList_inj.mp h3
  exact Nat.repr_injective h4

/-- **backup names are fresh**: `available_backup_name` returns `base.~k~` for the
least `k ≥ 1` that is not taken; it never returns an existing name and never fails. -/
theorem backup_name_fresh (base : String) (taken : List String) :
    ∃ n, availableBackupName base taken = some n ∧ n ∉ taken := by
  unfold availableBackupName
  have ht := firstFree_total (backupCand base) (backupCand_injective base) taken (taken.length + 1) 1 (Nat.lt_succ_self _)
  cases hr : firstFree (backupCand base) taken (taken.length + 1) 1 with
  | none => simp [hr] at ht
  | some r =>
    exact ⟨backupCand base r, by simp, (firstFree_sound _ _ _ _ _ hr).1⟩

example : availableBackupName "f" ["f.~1~", "f.~2~", "f"] = some "f.~3~" := by decide +kernel

theorem names_renamed {β : Type} (d : Listing β) (name b : String) :
    names (d.map (fun e => if e.1 = name then (b, e.2) else e)) = (names d).map (fun n => if n = name then b else n) := by
  simp only [names, List.map_map]
  apply List.map_congr_left
  intro e _
  by_cases h : e.1 = name <;> simp [h]

/-- **the backup rename clobbers nothing and loses nothing**: if the directory has an entry `name`
holding `c`, `renameToBackup` succeeds with a name `b` that no entry of the directory had (so no
existing file - in particular no older `name.~k~` - is overwritten), `c` is stored under `b`
afterwards, no entry is called `name` any more, every other entry is exactly as before, nothing
new appears, the list of stored contents is unchanged, and distinct names stay distinct.  All
listings, all names: no bound. -/
theorem rename_to_backup_spec {β : Type} (d : Listing β) (name : String) (c : β) (h : (name, c) ∈ d) :
    ∃ b d', renameToBackup d name = some (b, d') ∧ b ∉ names d ∧ b ≠ name ∧ (b, c) ∈ d' ∧ name ∉ names d' ∧
      (∀ e ∈ d, e.1 ≠ name → e ∈ d') ∧ (∀ e ∈ d', e.1 ≠ b → e ∈ d) ∧ contents d' = contents d ∧
      ((names d).Nodup → (names d').Nodup) := by
  obtain ⟨b, hb, hfresh⟩ := backup_name_fresh name (names d)
  have hname : name ∈ names d := List.mem_map.mpr ⟨(name, c), h, rfl⟩
  have hne : b ≠ name := fun e => hfresh (e ▸ hname)
  refine ⟨b, d.map (fun e => if e.1 = name then (b, e.2) else e), by simp [renameToBackup, hb], hfresh, hne, ?_, ?_, ?_, ?_, ?_, ?_⟩
  · exact List.mem_map.mpr ⟨(name, c), h, by simp⟩
  · rw [names_renamed]
    intro hm
    obtain ⟨n, _, hn⟩ := List.mem_map.mp hm
    by_cases hnn : n = name
    · exact hne (by simpa [hnn] using hn)
    · exact hnn (by simpa [hnn] using hn)
  · intro e he hen
    exact List.mem_map.mpr ⟨e, he, by simp [hen]⟩
  · intro e he heb
    obtain ⟨e0, he0, hee⟩ := List.mem_map.mp he
    by_cases h0 : e0.1 = name
    · simp [h0] at hee; subst hee; exact absurd rfl heb
    · simp [h0] at hee; subst hee; exact he0
  · simp only [contents, List.map_map]
    apply List.map_congr_left
    intro e _
    by_cases h0 : e.1 = name <;> simp [h0]
  · intro hnd
    rw [names_renamed]
    rw [List.Nodup, List.pairwise_map]
    apply List.Pairwise.imp_of_mem _ hnd
    intro x y hx hy hxy
    by_cases h1 : x = name <;> by_cases h2 : y = name
    · subst h1 h2; exact absurd rfl hxy
    · simp only [h1, h2, if_true, if_false]; intro e; exact hfresh (e ▸ hy)
    · simp only [h1, h2, if_true, if_false]; intro e; exact hfresh (e ▸ hx)
    · simpa [h1, h2] using hxy

/-- **revert's backup-and-replace keeps the old bytes**: the old contents end up under a name that
did not exist before, the new contents under the old name, every sibling (older numbered backups
included) is untouched, and the contents stored in the directory afterwards are exactly the old
ones plus the new one. -/
theorem backup_and_replace_spec {β : Type} (d : Listing β) (name : String) (c new : β) (h : (name, c) ∈ d) :
    ∃ b d', backupAndReplace d name new = some d' ∧ b ∉ names d ∧ (b, c) ∈ d' ∧ (name, new) ∈ d' ∧
      (∀ e ∈ d, e.1 ≠ name → e ∈ d') ∧ contents d' = new :: contents d ∧
      ((names d).Nodup → (names d').Nodup) := by
  obtain ⟨b, d1, h1, h2, _, h4, h5, h6, _, h8, h9⟩ := rename_to_backup_spec d name c h
  refine ⟨b, (name, new) :: d1, by simp [backupAndReplace, h1], h2, List.mem_cons_of_mem _ h4, List.mem_cons_self, ?_, ?_, ?_⟩
  · intro e he hen; exact List.mem_cons_of_mem _ (h6 e he hen)
  · simp [contents] at h8 ⊢; exact h8
  · intro hnd
    have := h9 hnd
    simp only [names, List.map_cons, List.nodup_cons] at this ⊢
    exact ⟨h5, this⟩

example : backupAndReplace [("f", "old"), ("f.~1~", "older"), ("g", "x")] "f" "new"
    = some [("f", "new"), ("f.~2~", "old"), ("f.~1~", "older"), ("g", "x")] := by decide +kernel

/-- **revert keeps the user's bytes in the directory** (decision and backup action composed):
for a user-edited working file `name` holding `c`, a revert with backups leaves `c` stored in the
directory - under `name` or under a fresh backup name - and leaves every sibling entry as it was,
whatever the other inputs of the decision are. -/
theorem revert_dir_keeps_user_bytes {β : Type} (i : RevertIn) (d : Listing β) (name : String) (c new : β)
    (hu : userEdited i = true) (hb : i.backups = true) (h : (name, c) ∈ d) :
    ∃ d', revertDir fixedFlags i d name new = some d' ∧ c ∈ contents d' ∧ (∀ e ∈ d, e.1 ≠ name → e ∈ d') := by
  have hf := revert_keeps_user_content i hu hb
  unfold revertDir
  unfold revertFate at hf
  cases ha : revertAction fixedFlags i with
  | nothing => exact ⟨d, rfl, List.mem_map.mpr ⟨(name, c), h, rfl⟩, fun e he _ => he⟩
  | keepInPlace => exact ⟨d, rfl, List.mem_map.mpr ⟨(name, c), h, rfl⟩, fun e he _ => he⟩
  | deleteContents => simp [ha] at hf
  | backupAndReplace =>
    obtain ⟨b, d', h1, _, h3, _, h5, _, _⟩ := backup_and_replace_spec d name c new h
    exact ⟨d', h1, List.mem_map.mpr ⟨(b, c), h3, rfl⟩, h5⟩

def editedIn : RevertIn :=
  { changedContent := true, wtKind := some .file, backups := true, targetKind := some .file,
    targetVersioned := true, mergeModifiedIsWt := false, basisPresent := true, basisIsWt := false }

example : userEdited editedIn = true ∧
    revertDir fixedFlags editedIn [("f", "edited"), ("f.~1~", "older")] "f" "target"
      = some [("f", "target"), ("f.~2~", "edited"), ("f.~1~", "older")] := by
  decide +kernel

/-- what revert deletes from a directory is only the entry it was asked about, and only when the
decision says so: siblings are never touched, by any action, for any flags -/
theorem revert_dir_siblings_untouched {β : Type} (fl : Flags) (i : RevertIn) (d d' : Listing β) (name : String) (new : β)
    (h : revertDir fl i d name new = some d') : ∀ e ∈ d, e.1 ≠ name → e ∈ d' := by
  intro e he hen
  unfold revertDir at h
  cases ha : revertAction fl i <;> simp only [ha] at h
  · cases h; exact he
  · cases h
    have : e ∈ d.filter (fun e => e.1 ≠ name) := List.mem_filter.mpr ⟨he, by simpa using hen⟩
    split
    · exact List.mem_cons_of_mem _ this
    · exact this
  · unfold backupAndReplace renameToBackup at h
    cases hb : availableBackupName name (names d) with
    | none => simp [hb] at h
    | some b =>
      simp [hb] at h
      subst h
      exact List.mem_cons_of_mem _ (List.mem_map.mpr ⟨e, he, by simp [hen]⟩)
  · cases h; exact he

/-- without `keep` and `force`, a file that is not in the basis or whose content changed is in
`files_to_backup` -/
theorem toBackup_of_unsafe (i : RemoveIn) (hk : i.keep = false) (hf : i.force = false)
    (hu : i.inBasis = false ∨ i.changedContent = true) : toBackup i = true := by
  unfold toBackup
  rw [hk, hf]
  rcases hu with h | h <;> simp [h]

/-- **remove keeps the bytes of unsafe files in the directory**: without `force`, a selected file that
is unknown / newly added or changed is still stored in its directory afterwards (in place with
`keep`, else under a fresh backup name), and no sibling is touched. -/
theorem remove_dir_keeps_unsafe_bytes {β : Type} (i : RemoveIn) (d : Listing β) (name : String) (c : β)
    (hf : i.force = false) (hu : i.inBasis = false ∨ i.changedContent = true) (h : (name, c) ∈ d) :
    ∃ d', removeDir i d name = some d' ∧ c ∈ contents d' ∧ (∀ e ∈ d, e.1 ≠ name → e ∈ d') := by
  unfold removeDir
  by_cases hk : i.keep = true
  · exact ⟨d, by simp [hk], List.mem_map.mpr ⟨(name, c), h, rfl⟩, fun e he _ => he⟩
  · have htb := toBackup_of_unsafe i (Bool.not_eq_true _ ▸ hk) hf hu
    obtain ⟨b, d', h1, _, _, h4, _, h6, _, _, _⟩ := rename_to_backup_spec d name c h
    exact ⟨d', by simp [hk, htb, h1], List.mem_map.mpr ⟨(b, c), h4, rfl⟩, h6⟩

example : removeDir { keep := false, force := false, role := .selected, wtVersioned := false, inBasis := false, changedContent := false }
    [("u", "unknown"), ("u.~1~", "x")] "u" = some [("u.~2~", "unknown"), ("u.~1~", "x")] := by decide +kernel

/-- when `remove` deletes a file: never with `keep`; a selected path when neither test asks for a
backup; an unversioned file below a selected directory only with `force` -/
theorem removeFateV_gone {fl : RemoveFlags} {i : RemoveIn} (h : removeFateV fl i = .gone) :
    i.keep = false ∧
      ((i.role = .selected ∧ toBackup i = false ∧
          (fl.backupUnversioned && !i.wtVersioned && !i.force) = false) ∨
        (i.role = .nestedUnversioned ∧ i.force = true)) := by
  revert h
  unfold removeFateV
  generalize toBackup i = tb
  generalize (fl.backupUnversioned && !i.wtVersioned && !i.force) = ub
  cases i.keep with
  | true => intro h; cases h
  | false =>
    cases i.role with
    | selected => cases tb <;> cases ub <;> simp
    | nestedUnversioned => cases i.force <;> simp

/-- **remove is safe**: without `force`, a file that is unknown / newly added (not in
the basis), or whose content differs from the basis, is never deleted — it is kept
or renamed to a numbered backup; with `keep_files` nothing is touched. -/
theorem remove_safe (i : RemoveIn) (hf : i.force = false) (hu : i.inBasis = false ∨ i.changedContent = true) :
    removeFate i ≠ .gone := fun h => by
  obtain ⟨hk, ⟨_, htb, _⟩ | ⟨_, hf'⟩⟩ := removeFateV_gone h
  · rw [toBackup_of_unsafe i hk hf hu] at htb; cases htb
  · rw [hf] at hf'; cases hf'

theorem remove_keep (i : RemoveIn) (hk : i.keep = true) : removeFate i = .kept := by
  simp [removeFate, removeFateV, hk]

example : removeFate { keep := false, force := false, role := .selected, wtVersioned := false, inBasis := false, changedContent := false } = .backup := by decide

/-- what `remove` deletes without `force` is in the basis and unchanged -/
theorem remove_deletes_only_clean (i : RemoveIn) (hf : i.force = false) (h : removeFate i = .gone) :
    i.inBasis = true ∧ i.changedContent = false ∧ i.role = .selected := by
  obtain ⟨hk, ⟨hr, htb, _⟩ | ⟨_, hf'⟩⟩ := removeFateV_gone h
  · rw [toBackup, hk, hf] at htb
    cases hib : i.inBasis <;> cases hch : i.changedContent <;> simp [hib, hch] at htb
    exact ⟨rfl, rfl, hr⟩
  · rw [hf] at hf'; cases hf'

/-- **witness (finding, bzr trees)**: the safety of `remove` rests on the attributes `iter_changes`
reports.  For an unknown file at a path that is removed in the working tree but still in the basis
(`brz rm f; echo new > f; brz rm f`) no record names the working path, so `remove` reads it as
"in the basis, unchanged" - and for these inputs the decision is to delete: the unknown file is
lost without `--force` (reproduced on the real command by the oracle, family
`bzr-remove-deletes-unknown-file-at-removed-path`).  `remove_safe` does not apply: its hypothesis is
about the attributes the code reads, and they misdescribe this state. -/
theorem remove_trusts_reported_attributes_witness :
    removeFate { keep := false, force := false, role := .selected, wtVersioned := false, inBasis := true, changedContent := false } = .gone ∧
    removeFate { keep := false, force := false, role := .selected, wtVersioned := false, inBasis := false, changedContent := false } = .backup := by
  decide

/-- **remove never deletes an unversioned file without force (variant with the guard in the deletion
step)**: whatever the `iter_changes` records say - in particular when no record names the path -
a selected path that is not versioned in the working tree is kept or backed up. -/
theorem remove_never_deletes_unversioned_fixed (i : RemoveIn) (hf : i.force = false) (hv : i.wtVersioned = false) :
    removeFateV { backupUnversioned := true } i ≠ .gone := fun h => by
  obtain ⟨_, ⟨_, _, hub⟩ | ⟨_, hf'⟩⟩ := removeFateV_gone h
  · rw [hv, hf] at hub; cases hub
  · rw [hf] at hf'; cases hf'

/-- for paths that are versioned in the working tree the two variants decide alike -/
theorem remove_variants_agree_on_versioned (fl : RemoveFlags) (i : RemoveIn) (hv : i.wtVersioned = true) :
    removeFateV fl i = removeFate i := by
  obtain ⟨k, f, r, wv, ib, ch⟩ := i
  obtain ⟨b⟩ := fl
  simp only [removeFate, removeFateV] at *
  subst hv
  cases b <;> simp

/-- **merge keeps local changes**: a THIS text that differs from BASE is never lost — it
stays, is written to `name.THIS`, or the file holds the clean three-way merge -/
theorem merge_keeps_local (i : MergeIn) (h : i.thisChanged = true) :
    mergeFate i = .kept ∨ mergeFate i = .helper ∨ mergeFate i = .merged := by
  obtain ⟨a, b, c, d, e⟩ := i
  simp only [mergeFate] at *
  subst h
  cases b <;> cases c <;> cases d <;> cases e <;> simp

/-- helper files are written exactly when both sides changed the text differently and the
changes overlap -/
theorem merge_helper_iff (i : MergeIn) :
    mergeFate i = .helper ↔ (i.thisChanged = true ∧ i.otherDeleted = false ∧ i.otherChanged = true ∧
                             i.sameChange = false ∧ i.textConflict = true) := by
  unfold mergeFate
  cases i.thisChanged
  · cases (i.otherChanged || i.otherDeleted) <;> simp
  · cases i.otherDeleted
    · cases i.otherChanged
      · simp
      · cases i.sameChange
        · cases i.textConflict <;> simp
        · simp
    · simp

/-- a path is recorded as "written by merge" only if the merge wrote its contents; a file the
incoming revision merely renames or moves is not recorded -/
theorem merge_records_only_written (r : RecordIn) (h : r.otherChangedContent = false) (ha : r.otherAdded = false) :
    mergeRecords r = false := by
  simp [mergeRecords, h, ha]

/-- **two-step sequence**: a locally edited file that a merge-like command (pull, update, merge,
switch) only renames or moves keeps being user content — a later revert with backups does not
delete it (it is moved to a numbered backup or kept), whatever the other inputs are -/
theorem move_only_merge_then_revert_keeps (r : RecordIn) (e : Bool) (i : RevertIn)
    (hr : r.otherChangedContent = false) (ha : r.otherAdded = false)
    (hf : i.wtKind = some .file) (hd : i.basisPresent = false ∨ i.basisIsWt = false) (hb : i.backups = true) :
    revertFate fixedFlags (afterMerge r e i) ≠ .gone := by
  apply revert_keeps_user_content
  · obtain ⟨cc, wk, bk, tk, tv, mm, bp, bi⟩ := i
    simp only [afterMerge, userEdited, mergeRecords] at *
    subst hf
    rcases hd with h | h <;> simp [hr, ha, h]
  · simpa [afterMerge] using hb

example : revertFate fixedFlags (afterMerge { otherChangedContent := false, otherAdded := false, onlyMoved := true } false
    { changedContent := true, wtKind := some .file, backups := true, targetKind := some .file, targetVersioned := true,
      mergeModifiedIsWt := true, basisPresent := true, basisIsWt := false }) = .backup := by decide

/-- content the merge did write and that was not edited since is not backed up by revert (it is
not user content any more): the exemption of the property -/
theorem merge_written_then_revert_may_discard :
    revertFate fixedFlags (afterMerge { otherChangedContent := true, otherAdded := false, onlyMoved := false } false
      { changedContent := true, wtKind := some .file, backups := true, targetKind := some .file, targetVersioned := true,
        mergeModifiedIsWt := false, basisPresent := true, basisIsWt := false }) = .gone := by decide

end BreezyVerif.C12
