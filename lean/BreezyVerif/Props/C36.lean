import BreezyVerif.Model.C36
import BreezyVerif.Lemmas.C36Esc
import BreezyVerif.Lemmas.C36Utf8
import BreezyVerif.Lemmas.C36Url
import BreezyVerif.Lemmas.C36Cfg
/-!
C36 — git identifier mappings round-trip: theorems.

All statements are for every input (no bound on lengths).  A Python `bytes`
value is a `List Nat` whose entries are `< 256` (`isBytes`); theorems that need
this say so, and `…_bytes` corollaries quantify over `List UInt8` directly.
-/
namespace BreezyVerif.C36

/-- `unescape_file_id(escape_file_id(b)) == b` for every byte string -/
theorem unescape_escape (b : NBytes) : unescapeFileId (escapeFileId b) = some b := by
  induction b with
  | nil => rfl
  | cons x f ih => rw [escapeFileId_cons, unescape_escapeOne, ih]; rfl

/-- `escape_file_id` is injective -/
theorem escape_injective (a b : NBytes) (h : escapeFileId a = escapeFileId b) : a = b := by
  have := unescape_escape a
  rw [h, unescape_escape] at this
  exact (Option.some.inj this).symm

/-- on the image of `escape_file_id` (strings without a raw space or form feed)
`unescape_file_id` is also a right inverse: whenever it accepts `y`, escaping
the result gives `y` back -/
theorem escape_image (y x : NBytes) (h : unescapeFileId y = some x) (h1 : 0x20 ∉ y) (h2 : 0x0c ∉ y) :
    escapeFileId x = y := by
  revert h
  fun_induction unescapeFileId y generalizing x <;> intro h
  case case1 => cases h; rfl
  case case3 | case7 => cases h
  case case2 c rest hc ih =>
    obtain ⟨t, ht, rfl⟩ := Option.map_eq_some_iff.mp h
    simp only [List.mem_cons, not_or] at h1 h2
    rw [escapeFileId_cons, ih t h1.2 h2.2 ht, escapeOne, if_neg hc, if_neg (Ne.symm h1.1), if_neg (Ne.symm h2.1)]
    rfl
  -- the three escapes `__`, `_s`, `_c`
  all_goals
    rename_i ih
    obtain ⟨t, ht, rfl⟩ := Option.map_eq_some_iff.mp h
    rw [escapeFileId_cons, ih t (fun hm => h1 (.tail _ (.tail _ hm))) (fun hm => h2 (.tail _ (.tail _ hm))) ht]
    cases Decidable.not_not.mp ‹¬_ ≠ 95›
    rfl

example : unescapeFileId [0x5f, 0x73, 0x61, 0x5f, 0x5f] = some [0x20, 0x61, 0x5f] ∧
    (0x20 ∉ [0x5f, 0x73, 0x61, 0x5f, 0x5f]) ∧ (0x0c ∉ [0x5f, 0x73, 0x61, 0x5f, 0x5f]) := by decide

theorem encode_decode_surrogateescape_bytes (b : Bytes) :
    encodeUtf8 true (decodeSE (b.map UInt8.toNat)) = some (b.map UInt8.toNat) :=
  encode_decode_surrogateescape _ (isBytes_map_toNat b)

example : isBytes [0x61, 0xff, 0xc3, 0xa9, 0xe2, 0x82] = true := by decide

example : encodeUtf8 false [0x61, 0xe9, 0x20ac, 0x1f600] =
    some [0x61, 0xc3, 0xa9, 0xe2, 0x82, 0xac, 0xf0, 0x9f, 0x98, 0x80] := by decide

theorem parseFileId_generateFileId (p : NBytes) : parseFileId (generateFileId p) = some (decodeSE p) := by
  unfold generateFileId
  by_cases h : p = []
  · subst h; simp [parseFileId, decodeSE_nil]
  · have hpre : fileIdPrefix.isPrefixOf (fileIdPrefix ++ escapeFileId p) = true := by
      simp [fileIdPrefix, List.isPrefixOf]
    have hroot : fileIdPrefix ++ escapeFileId p ≠ rootId := by simp [fileIdPrefix, rootId]
    simp only [h, if_false, parseFileId, hroot, hpre, not_true_eq_false, List.drop_left', unescape_escape,
      Option.map_some]

/-- a git path (any byte string) survives `generate_file_id` / `parse_file_id`:
the parsed `str`, encoded the way breezy-git encodes paths, is the original path -/
theorem parse_generate_path (p : NBytes) (hp : isBytes p = true) :
    (parseFileId (generateFileId p)).bind (encodeUtf8 true) = some p := by
  rw [parseFileId_generateFileId]
  exact encode_decode_surrogateescape p hp

theorem parse_generate_path_bytes (p : Bytes) :
    (parseFileId (generateFileId (p.map UInt8.toNat))).bind (encodeUtf8 true) = some (p.map UInt8.toNat) :=
  parse_generate_path _ (isBytes_map_toNat p)

/-- the `str` form of a git path (`decode_git_path(p)`, what breezy-git passes
around) survives `generate_file_id` / `parse_file_id` unchanged -/
theorem parse_generate_str (p : NBytes) (hp : isBytes p = true) :
    (generateFileIdStr (decodeSE p)).bind parseFileId = some (decodeSE p) := by
  rw [generateFileIdStr, encode_decode_surrogateescape p hp]
  exact parseFileId_generateFileId p

/-- excluded input family, stated as a theorem: a `str` that is *not* the
decoding of any byte path — two lone surrogates spelling the UTF-8 bytes of
`é` — is accepted by `generate_file_id` but parsed back as a different string -/
theorem parse_generate_str_witness :
    (generateFileIdStr [0xDCC3, 0xDCA9]).bind parseFileId = some [0xE9] := by
  have h1 : generateFileIdStr [0xDCC3, 0xDCA9] = some (generateFileId [0xC3, 0xA9]) := by decide
  have hstep : decodeStep [0xC3, 0xA9] = some (0xE9, []) := by decide
  rw [h1, Option.bind_some, parseFileId_generateFileId, decodeSE_of_step hstep, decodeSE_nil]

theorem mappingBzrToForeign_ok {pfx revid sha : NBytes} :
    mappingBzrToForeign pfx revid = .ok sha ↔ revid = pfx ++ 58 :: sha := by
  -- the prefix that is checked and dropped is `pfx` with its colon
  have := @prefixed_iff _ _ _ (pfx ++ [58]) revid (· = sha)
  simp only [List.length_append, List.length_singleton, List.append_assoc, List.singleton_append,
    exists_eq_right] at this
  rw [← this, mappingBzrToForeign]
  by_cases hp : (pfx ++ [58]).isPrefixOf revid = true <;> simp [hp]

theorem registryBzrToForeign_ok {revid sha pfx : NBytes} :
    registryBzrToForeign revid = .ok (sha, some pfx) ↔ pfx ∈ knownMappings ∧ revid = pfx ++ 58 :: sha := by
  constructor
  · intro h
    unfold registryBzrToForeign at h
    split at h
    · cases h
    split at h
    · cases h
    split at h
    · cases h
    split at h
    · rename_i hmem
      cases hm : mappingBzrToForeign _ revid with
      | error e => rw [hm] at h; cases h
      | ok sha' =>
        rw [hm] at h
        cases h
        exact ⟨hmem, mappingBzrToForeign_ok.mp hm⟩
    · cases h
  · rintro ⟨hp, rfl⟩
    have hpfx : 58 ∉ pfx ∧ pfx ++ 58 :: sha ≠ nullRevision ∧ gitDash.isPrefixOf (pfx ++ 58 :: sha) = true := by
      simp only [knownMappings, List.mem_cons, List.not_mem_nil, or_false] at hp
      rcases hp with rfl | rfl <;>
        exact ⟨by decide, by simp [pfxV1, pfxExp, nullRevision], by simp [pfxV1, pfxExp, gitDash, List.isPrefixOf]⟩
    simp only [registryBzrToForeign, hpfx.2.1, if_false, hpfx.2.2, not_true_eq_false,
      splitOnFirst_append' 58 pfx sha hpfx.1, hp, if_true, mappingBzrToForeign_ok.mpr rfl]

/-- every SHA (any byte string) comes back from the revision id made of it, with
the mapping that made it; the all-zero SHA ↔ `null:` -/
theorem revid_roundtrip (pfx sha : NBytes) (hp : pfx ∈ knownMappings) :
    registryBzrToForeign (foreignToBzr pfx sha) = .ok (sha, if sha = zeroSha then none else some pfx) := by
  unfold foreignToBzr
  by_cases hz : sha = zeroSha
  · simp [hz, registryBzrToForeign]
  · simp only [hz, if_false]
    exact registryBzrToForeign_ok.mpr ⟨hp, rfl⟩

example : pfxV1 ∈ knownMappings := by decide

/-- conversely, a revision id the registry accepts with a non-zero SHA is
exactly the revision id its mapping generates for that SHA -/
theorem revid_roundtrip_rev (revid sha pfx : NBytes)
    (h : registryBzrToForeign revid = .ok (sha, some pfx)) (hz : sha ≠ zeroSha) :
    foreignToBzr pfx sha = revid := by
  rw [foreignToBzr, if_neg hz, (registryBzrToForeign_ok.mp h).2]

/-- excluded input family: a hand-made revision id carrying the all-zero SHA is
accepted, but the mapping generates `null:` for that SHA, not this id -/
theorem revid_zero_witness :
    registryBzrToForeign (pfxV1 ++ 58 :: zeroSha) = .ok (zeroSha, some pfxV1) ∧
      foreignToBzr pfxV1 zeroSha ≠ pfxV1 ++ 58 :: zeroSha := ⟨by rfl, by decide⟩

theorem refToBranchName_ok {ref : NBytes} {name : Str} :
    refToBranchName (some ref) = .ok (some name) ↔
      (ref = headRef ∧ name = []) ∨ ∃ e, ref = headsPrefix ++ e ∧ decodeStrict e = some name := by
  rw [← prefixed_iff]
  simp only [refToBranchName]
  by_cases h0 : ref = headRef
  · -- `HEAD` is answered before the prefix is looked at, and does not start with it
    have hh : headsPrefix.isPrefixOf headRef = false := by decide
    subst h0
    simp only [if_true, hh, Bool.false_eq_true, false_and, or_false, true_and, Except.ok.injEq, Option.some.injEq]
    exact eq_comm
  · by_cases hp : headsPrefix.isPrefixOf ref = true
    · cases decodeStrict (ref.drop headsPrefix.length) <;> simp [hp, h0]
    · simp [hp, h0]

theorem refToBranchName_some_ok {r : NBytes} {b : Option Str} (h : refToBranchName (some r) = .ok b) :
    ∃ n, b = some n := by
  unfold refToBranchName at h
  simp only at h
  repeat' split at h
  all_goals first
    | (simp only [Except.ok.injEq] at h; exact ⟨_, h.symm⟩)
    | (simp at h; done)

/-- a branch name that does not itself start with `refs/` comes back from its
ref (`""` ↔ `HEAD`), whenever it can be encoded at all -/
theorem branch_ref_roundtrip (name : Str) (r : NBytes) (hn : refsSlash.isPrefixOf name = false)
    (h : branchNameToRef name = some r) : refToBranchName (some r) = .ok (some name) := by
  unfold branchNameToRef at h
  by_cases h0 : name = []
  · simp only [h0, if_true, Option.some.injEq] at h
    subst h; subst h0; rfl
  · simp only [h0, if_false, hn, Bool.false_eq_true, not_false_eq_true, if_true, Option.map_eq_some_iff] at h
    obtain ⟨e, he, rfl⟩ := h
    exact refToBranchName_ok.mpr (.inr ⟨e, rfl, decode_encode_strict _ _ he⟩)

example : refsSlash.isPrefixOf [0x61, 0x2f, 0xe9] = false ∧
    branchNameToRef [0x61, 0x2f, 0xe9] = some (headsPrefix ++ [0x61, 0x2f, 0xc3, 0xa9]) := by decide

/-- a ref that maps to a branch name is what that branch name maps to, except
for the two documented degenerate spellings (`refs/heads/` alone, and a branch
name that itself starts with `refs/`) -/
theorem ref_branch_roundtrip (ref : NBytes) (name : Str)
    (h : refToBranchName (some ref) = .ok (some name)) (h0 : name ≠ [] ∨ ref = headRef)
    (hn : refsSlash.isPrefixOf name = false) : branchNameToRef name = some ref := by
  rcases refToBranchName_ok.mp h with ⟨rfl, rfl⟩ | ⟨e, rfl, he⟩
  · rfl
  · have hne : name ≠ [] := h0.resolve_right (by simp [headsPrefix, headRef])
    simp only [branchNameToRef, hne, if_false, hn, Bool.false_eq_true, not_false_eq_true, if_true,
      encode_decode_strict _ _ he, Option.map_some]
/-- excluded input family (documented behaviour of `branch_name_to_ref`): a
"branch name" that starts with `refs/` is taken to be a ref already and does not
come back through `ref_to_branch_name` -/
theorem branch_ref_refs_witness :
    branchNameToRef (refsSlash ++ [116, 47, 120]) = some (refsSlash ++ [116, 47, 120]) ∧
      refToBranchName (some (refsSlash ++ [116, 47, 120])) = .error .value := ⟨by decide, by rfl⟩

theorem refToTagName_ok {ref : NBytes} {name : Str} :
    refToTagName ref = .ok name ↔ ∃ e, ref = tagsPrefix ++ e ∧ decodeStrict e = some name := by
  rw [← prefixed_iff, refToTagName]
  by_cases hp : tagsPrefix.isPrefixOf ref = true
  · cases decodeStrict (ref.drop tagsPrefix.length) <;> simp [hp]
  · simp [hp]

/-- every tag name that can be encoded comes back from its ref -/
theorem tag_ref_roundtrip (name : Str) (r : NBytes) (h : tagNameToRef name = some r) :
    refToTagName r = .ok name := by
  obtain ⟨e, he, rfl⟩ := Option.map_eq_some_iff.mp h
  exact refToTagName_ok.mpr ⟨e, rfl, decode_encode_strict _ _ he⟩

/-- every ref that maps to a tag name is what that tag name maps to -/
theorem ref_tag_roundtrip (ref : NBytes) (name : Str) (h : refToTagName ref = .ok name) :
    tagNameToRef name = some ref := by
  obtain ⟨e, rfl, he⟩ := refToTagName_ok.mp h
  rw [tagNameToRef, encode_decode_strict _ _ he]
  rfl

/-- the parameter part of the round trip, for any location without a comma in
its last path segment (commas elsewhere in the URL do not matter:
`split_segment_parameters` only looks at the last segment) -/
theorem addRefParams_roundtrip (loc' : Str) (branch : Option Str) (ref : Option NBytes) (u : Str)
    (hcf : lastSegCommaFree loc' = true) (hb : ∀ r, ref = some r → isBytes r = true)
    (h : addRefParams loc' branch ref = .ok u) :
    bzrUrlToGitUrl u = .ok (loc', cleanBR (normBR branch ref)) := by
  obtain ⟨hc, hc2⟩ := (lastSegCommaFree_iff loc').1 hcf
  unfold addRefParams at h
  cases hn : normBR branch ref with
  | mk b' r' =>
    rw [hn] at h
    rcases r' with _ | r
    · rcases b' with _ | b
      · cases h
        exact bzrUrlToGitUrl_plain hc
      · by_cases hb0 : b = []
        · subst hb0
          cases h
          exact bzrUrlToGitUrl_plain hc
        · simp only [hb0, if_false] at h
          cases he : escapeStr b with
          | none => rw [he] at h; cases h
          | some e =>
            simp only [he, joinSegParam_simple _ _ _ hc] at h
            cases h
            simpa [cleanBR, hb0] using bzrUrlToGitUrl_branch hc2 he
    · obtain ⟨rfl, hr⟩ := normBR_some hn
      simp only [joinSegParam_simple _ _ _ hc] at h
      cases h
      exact bzrUrlToGitUrl_ref hc2 (hb r hr)
/-- **URL round trip.**  For every location that `git_url_to_bzr_url` treats as
`loc'` (normalised git URL, or a non-URL location kept as it is) without a comma,
every branch name and every ref (any bytes): splitting the produced breezy URL
gives back the location and the branch/ref in the normal form `normBR`. -/
theorem url_roundtrip (loc loc' : Str) (branch : Option Str) (ref : Option NBytes) (u : Str)
    (hloc : normLoc loc = .url loc' ∨ (normLoc loc = .unchanged ∧ loc' = loc)) (hc : lastSegCommaFree loc' = true)
    (hb : ∀ r, ref = some r → isBytes r = true)
    (h : gitUrlToBzrUrl loc branch ref = .ok u) :
    bzrUrlToGitUrl u = .ok (loc', cleanBR (normBR branch ref)) := by
  rw [gitUrlToBzrUrl_eq_addRefParams loc loc' branch ref hloc (gitUrlToBzrUrl_one_none h)] at h
  exact addRefParams_roundtrip loc' branch ref u hc hb h

example : normLoc [104, 116, 116, 112, 115, 58, 47, 47, 104, 47, 114] =
      .url [104, 116, 116, 112, 115, 58, 47, 47, 104, 47, 114] ∧
    gitUrlToBzrUrl [104, 116, 116, 112, 115, 58, 47, 47, 104, 47, 114] (some [97, 47, 98]) none =
      .ok ([104, 116, 116, 112, 115, 58, 47, 47, 104, 47, 114] ++ [44] ++ kBranch ++ [61, 97, 37, 50, 70, 98]) :=
  ⟨by decide, by rfl⟩

/-- the ref designated by what comes back is the ref designated by what went in
(`branch X` ≡ `refs/heads/X`, nothing ≡ `HEAD`), for every ref satisfying `refOk` -/
theorem effRef_normBR (branch : Option Str) (ref : Option NBytes)
    (hx : branch = none ∨ ref = none) (hok : refOk ref = true) :
    effRef (cleanBR (normBR branch ref)).1 (cleanBR (normBR branch ref)).2 = effRef branch ref := by
  cases ref with
  | none =>
    rcases branch with _ | b
    · rfl
    · by_cases hb : b = [] <;> simp [normBR, cleanBR, effRef, hb]
  | some r =>
    obtain rfl : branch = none := hx.resolve_right nofun
    by_cases h1 : r = headRef ∨ r = []
    · rw [normBR_head _ h1]
      rcases h1 with rfl | rfl <;> rfl
    · cases hrb : refToBranchName (some r) with
      | error e => rw [normBR_error _ h1 hrb]; rfl
      | ok b =>
        obtain ⟨n, rfl⟩ := refToBranchName_some_ok hrb
        have hok' : n ≠ [] ∧ refsSlash.isPrefixOf n = false := by
          simpa [refOk, hrb, not_or.mp h1] using hok
        simp [normBR_ok _ h1 hrb, cleanBR, effRef, hok'.1, not_or.mp h1,
          ref_branch_roundtrip r n hrb (.inl hok'.1) hok'.2]

example : refOk (some (headsPrefix ++ [97, 47, 98])) = true ∧ refOk (some (tagsPrefix ++ [118])) = true ∧
    refOk (some headsPrefix) = false := by
  refine ⟨?_, by rfl, ?_⟩
  · rw [refOk, refToBranchName_ok.mpr (.inr ⟨_, rfl, decodeStrict_ascii [97, 47, 98] (by decide)⟩)]; decide
  · rw [refOk, show refToBranchName (some headsPrefix) = .ok (some []) from
      refToBranchName_ok.mpr (.inr ⟨[], rfl, decodeStrict_nil⟩)]; decide

/-- **URL round trip, ref level.**  The breezy URL made from a location and a
branch or ref designates, after splitting, the same location and the same git ref. -/
theorem url_roundtrip_eff (loc loc' : Str) (branch : Option Str) (ref : Option NBytes) (u : Str)
    (hloc : normLoc loc = .url loc' ∨ (normLoc loc = .unchanged ∧ loc' = loc)) (hc : lastSegCommaFree loc' = true)
    (hb : ∀ r, ref = some r → isBytes r = true) (hok : refOk ref = true)
    (h : gitUrlToBzrUrl loc branch ref = .ok u) :
    ∃ b' r', bzrUrlToGitUrl u = .ok (loc', b', r') ∧ effRef b' r' = effRef branch ref :=
  ⟨_, _, url_roundtrip loc loc' branch ref u hloc hc hb h, effRef_normBR _ _ (gitUrlToBzrUrl_one_none h) hok⟩

/-- the code as found (F1) is not an inverse: the `ref` parameter written by
`git_url_to_bzr_url` is not read back, and a branch name comes back %-escaped -/
theorem url_roundtrip_legacy_witness :
    let h := [104, 116, 116, 112, 115, 58, 47, 47, 104, 47, 114]   -- "https://h/r"
    (∃ u, gitUrlToBzrUrl h none (some (tagsPrefix ++ [118])) = .ok u ∧
        bzrUrlToGitUrlLegacy u = .ok (h, none, none) ∧
        bzrUrlToGitUrl u = .ok (h, none, some (tagsPrefix ++ [118]))) ∧
    (∃ u, gitUrlToBzrUrl h (some [97, 47, 98]) none = .ok u ∧
        bzrUrlToGitUrlLegacy u = .ok (h, some [97, 37, 50, 70, 98], none) ∧
        bzrUrlToGitUrl u = .ok (h, some [97, 47, 98], none)) := by
  refine ⟨⟨_, rfl, by rfl, ?_⟩, ⟨_, rfl, by rfl, ?_⟩⟩
  · exact url_roundtrip [104, 116, 116, 112, 115, 58, 47, 47, 104, 47, 114]
      [104, 116, 116, 112, 115, 58, 47, 47, 104, 47, 114] none (some (tagsPrefix ++ [118])) _
      (.inl (by decide)) (by decide) (by rintro _ ⟨⟩; decide) rfl
  · exact url_roundtrip [104, 116, 116, 112, 115, 58, 47, 47, 104, 47, 114] _ (some [97, 47, 98]) none _
      (.inl (by decide)) (by decide) nofun rfl

/-- the normal form of a branch/ref pair is a fixed point of the normalisation -/
theorem normBR_idem (branch : Option Str) (ref : Option NBytes) :
    cleanBR (normBR (cleanBR (normBR branch ref)).1 (cleanBR (normBR branch ref)).2) =
      cleanBR (normBR branch ref) := by
  rcases cleanBR_normBR_cases branch ref with h | ⟨n, hn, h⟩ | ⟨r, e, h1, hrb, h⟩ <;> rw [h]
  · rfl
  · simp [normBR, cleanBR, hn]
  · rw [normBR_error none h1 hrb]; rfl

/-- one of the two components of a normal form is always absent -/
theorem normBR_one_none (branch : Option Str) (ref : Option NBytes) :
    (cleanBR (normBR branch ref)).1 = none ∨ (cleanBR (normBR branch ref)).2 = none := by
  rcases cleanBR_normBR_cases branch ref with h | ⟨n, hn, h⟩ | ⟨r, e, h1, hrb, h⟩ <;> rw [h]
  · exact .inl rfl
  · exact .inr rfl
  · exact .inl rfl

/-- **URL round trip, breezy → git → breezy.**  Every canonical breezy URL `u`
(what `git_url_to_bzr_url` makes of a normalised location without a comma in
its last segment and any branch name or ref) is a fixed point: splitting it
with `bzr_url_to_git_url` and handing the three results back to
`git_url_to_bzr_url` returns `u` itself. -/
theorem url_roundtrip_rev (loc' : Str) (branch : Option Str) (ref : Option NBytes) (u : Str)
    (hnorm : normLoc loc' = .url loc' ∨ normLoc loc' = .unchanged) (hc : lastSegCommaFree loc' = true)
    (hb : ∀ r, ref = some r → isBytes r = true)
    (h : gitUrlToBzrUrl loc' branch ref = .ok u) :
    ∃ l b r, bzrUrlToGitUrl u = .ok (l, b, r) ∧ gitUrlToBzrUrl l b r = .ok u := by
  have hloc : _ ∨ (_ ∧ loc' = loc') := hnorm.imp_right (⟨·, rfl⟩)
  exact ⟨loc', (cleanBR (normBR branch ref)).1, (cleanBR (normBR branch ref)).2,
    url_roundtrip loc' loc' branch ref u hloc hc hb h,
    (gitUrlToBzrUrl_congr hloc (normBR_one_none branch ref) (gitUrlToBzrUrl_one_none h)
      (normBR_idem branch ref)).trans h⟩

example : gitUrlToBzrUrl [104, 116, 116, 112, 115, 58, 47, 47, 104, 47, 97, 44, 98, 47, 114] (some [120, 44, 121]) none =
    .ok ([104, 116, 116, 112, 115, 58, 47, 47, 104, 47, 97, 44, 98, 47, 114] ++ [44] ++ kBranch ++
      [61, 120, 37, 50, 67, 121]) := by rfl

/-- excluded family of `hc`: a comma in the *last* segment of the location is
read as the start of segment parameters — `git_url_to_bzr_url("https://h/r,a=b",
branch="x")` is accepted, but the location that comes back is `https://h/r` -/
theorem url_trailing_comma_witness :
    let loc := [104, 116, 116, 112, 115, 58, 47, 47, 104, 47, 114, 44, 97, 61, 98]
    lastSegCommaFree loc = false ∧ normLoc loc = .url loc ∧
      ∃ u, gitUrlToBzrUrl loc (some [120]) none = .ok u ∧
        (splitSegParams u).map (·.1) = some [104, 116, 116, 112, 115, 58, 47, 47, 104, 47, 114] := by
  refine ⟨by decide, by decide, _, rfl, by decide⟩

/-- excluded families of `refOk`, at URL level: the ref `refs/heads/refs/x`
becomes the branch parameter `refs%2Fx`, which designates the ref `refs/x`; the
ref `refs/heads/` becomes no parameter at all, which designates `HEAD` -/
theorem url_refOk_witness :
    let h := [104, 116, 116, 112, 115, 58, 47, 47, 104, 47, 114]   -- "https://h/r"
    let r1 := headsPrefix ++ refsSlash ++ [120]                       -- "refs/heads/refs/x"
    refOk (some r1) = false ∧ refOk (some headsPrefix) = false ∧
    (∃ u b r, gitUrlToBzrUrl h none (some r1) = .ok u ∧ bzrUrlToGitUrl u = .ok (h, b, r) ∧
        effRef b r = some (refsSlash ++ [120]) ∧ effRef none (some r1) = some r1) ∧
    (∃ u b r, gitUrlToBzrUrl h none (some headsPrefix) = .ok u ∧ bzrUrlToGitUrl u = .ok (h, b, r) ∧
        effRef b r = some headRef ∧ effRef none (some headsPrefix) = some headsPrefix) := by
  have hloc : normLoc [104, 116, 116, 112, 115, 58, 47, 47, 104, 47, 114] =
      .url [104, 116, 116, 112, 115, 58, 47, 47, 104, 47, 114] := by decide
  have hd1 : refToBranchName (some (headsPrefix ++ refsSlash ++ [120])) = .ok (some (refsSlash ++ [120])) :=
    refToBranchName_ok.mpr (.inr ⟨_, List.append_assoc .., decodeStrict_ascii _ (by decide)⟩)
  have hd2 : refToBranchName (some headsPrefix) = .ok (some []) := refToBranchName_ok.mpr (.inr ⟨[], rfl, decodeStrict_nil⟩)
  have hn1 := normBR_ok none (by decide) hd1
  have hn2 := normBR_ok none (by decide) hd2
  refine ⟨?_, ?_, ?_, ?_⟩
  · rw [refOk, hd1]; decide
  · rw [refOk, hd2]; decide
  · obtain ⟨u, hu⟩ : ∃ u, gitUrlToBzrUrl [104, 116, 116, 112, 115, 58, 47, 47, 104, 47, 114] none
        (some (headsPrefix ++ refsSlash ++ [120])) = .ok u := by
      rw [gitUrlToBzrUrl_eq_addRefParams _ _ _ _ (.inl hloc) (.inl rfl)]
      simp only [addRefParams, hn1]
      exact ⟨_, rfl⟩
    have hr := url_roundtrip _ _ none _ u (.inl hloc) (by decide) (by rintro _ ⟨⟩; decide) hu
    rw [hn1] at hr
    exact ⟨u, _, _, hu, hr, by decide, by decide⟩
  · have hu : gitUrlToBzrUrl [104, 116, 116, 112, 115, 58, 47, 47, 104, 47, 114] none (some headsPrefix) =
        .ok [104, 116, 116, 112, 115, 58, 47, 47, 104, 47, 114] := by
      rw [gitUrlToBzrUrl_eq_addRefParams _ _ _ _ (.inl hloc) (.inl rfl)]
      simp only [addRefParams, hn2]
      rfl
    have hr := url_roundtrip _ _ none _ _ (.inl hloc) (by decide) (by rintro _ ⟨⟩; decide) hu
    rw [hn2] at hr
    exact ⟨_, _, _, hu, hr, by decide, by decide⟩

/-- **set_parent then get_parent.**  For a branch with a name: after
`set_parent(loc)`, where `loc` splits into `(t, b, r)`, `get_parent` returns the
breezy URL of `t` with the git ref that `(b, r)` designates. -/
theorem parent_location_roundtrip (c c' : Cfg) (name loc t : Str) (b : Option Str) (r : Option NBytes)
    (hname : name ≠ []) (hsplit : bzrUrlToGitUrl loc = .ok (t, b, r))
    (hset : setParent c name loc = .ok c') :
    ∃ m, effRef b r = some m ∧
      getParentLocation c' name = (gitUrlToBzrUrl t none (some m)).map some := by
  obtain ⟨nm, te, _, hnm, hte, rfl, hc'⟩ := setParent_ok hsplit hset
  rw [if_neg hname] at hc'
  obtain ⟨m, hm, rfl⟩ := hc'
  refine ⟨m, hm, ?_⟩
  simp only [getParentLocation, hnm, getParentWith, getOrigin, cfgGet_set, Prod.mk.injEq, keys_ne,
    keys_ne.1.symm, false_and, and_false, if_false, if_true, decode_encode_strict _ _ hte]
  rfl

/-- **the unnamed branch.**  A branch without a name (detached `HEAD`) has no
`[branch "<name>"]` section to keep a merge ref in: after `set_parent(loc)`,
where `loc` splits into `(t, b, r)`, `get_parent` returns the breezy URL of `t`
alone — the branch / ref of `loc` is not kept. -/
theorem parent_location_unnamed (c c' : Cfg) (loc t : Str) (b : Option Str) (r : Option NBytes)
    (hsplit : bzrUrlToGitUrl loc = .ok (t, b, r)) (hset : setParent c [] loc = .ok c')
    (hm : cfgGet c (bBranch, [], bMerge) = none) :
    getParentLocation c' [] = (gitUrlToBzrUrl t none (some headRef)).map some := by
  obtain ⟨nm, te, _, hnm, hte, rfl, hc'⟩ := setParent_ok hsplit hset
  cases hnm
  rw [if_pos rfl] at hc'
  subst hc'
  simp only [getParentLocation, show encodeUtf8 false [] = some [] from rfl, getParentWith, getOrigin, cfgGet_set,
    Prod.mk.injEq, keys_ne, false_and, and_false, if_false, if_true, hm, decode_encode_strict _ _ hte]
  rfl

/-- **the getter as found (F14).**  It looks for the merge ref in `[branch "<remote>"]`, a section
`set_parent` does not write: unless the branch is called like its remote, or that section has a
merge entry of its own, `get_parent` returns the URL of `t` alone whatever branch or ref was set. -/
theorem parent_location_legacy (c c' : Cfg) (name loc t : Str) (nm : NBytes) (b : Option Str) (r : Option NBytes)
    (hnm : encodeUtf8 false name = some nm) (hne : nm ≠ getOrigin c nm)
    (hm : cfgGet c (bBranch, getOrigin c nm, bMerge) = none)
    (hsplit : bzrUrlToGitUrl loc = .ok (t, b, r)) (hset : setParent c name loc = .ok c') :
    getParentLocationLegacy c' name = (gitUrlToBzrUrlLegacy t none (some headRef)).map some := by
  obtain ⟨nm', te, _, hnm', hte, rfl, hc'⟩ := setParent_ok hsplit hset
  cases hnm.symm.trans hnm'
  unfold getOrigin at hne hm
  split at hc'
  · subst hc'
    simp only [getParentLocationLegacy, hnm, getParentWith, getOrigin, cfgGet_set, Prod.mk.injEq, keys_ne,
      false_and, and_false, if_false, if_true, hm, decode_encode_strict _ _ hte]
    rfl
  · obtain ⟨m, -, rfl⟩ := hc'
    simp only [getParentLocationLegacy, hnm, getParentWith, getOrigin, cfgGet_set, Prod.mk.injEq, keys_ne,
      keys_ne.1.symm, hne, false_and, and_false, true_and, if_false, if_true, hm, decode_encode_strict _ _ hte]
    rfl
/-- `https://h/r,branch=foo` splits into the location, the branch `foo` and no ref -/
theorem bzrUrlToGitUrl_branch_foo :
    bzrUrlToGitUrl ([104, 116, 116, 112, 115, 58, 47, 47, 104, 47, 114] ++ [44] ++ kBranch ++ [61, 102, 111, 111]) =
      .ok ([104, 116, 116, 112, 115, 58, 47, 47, 104, 47, 114], some [102, 111, 111], none) :=
  url_roundtrip [104, 116, 116, 112, 115, 58, 47, 47, 104, 47, 114] _ (some [102, 111, 111]) none _
    (.inl (by decide)) (by decide) nofun rfl

/-- excluded family of `hname`, as the code behaves: on an unnamed branch
`set_parent("https://h/r,branch=foo")` is followed by `get_parent() ==
"https://h/r"` -/
theorem parent_location_unnamed_witness :
    ∃ c', setParent [] []
        ([104, 116, 116, 112, 115, 58, 47, 47, 104, 47, 114] ++ [44] ++ kBranch ++ [61, 102, 111, 111]) = .ok c' ∧
      getParentLocation c' [] = .ok (some [104, 116, 116, 112, 115, 58, 47, 47, 104, 47, 114]) := by
  obtain ⟨c', hset⟩ : ∃ c', setParent [] [] ([104, 116, 116, 112, 115, 58, 47, 47, 104, 47, 114] ++ [44] ++ kBranch ++
      [61, 102, 111, 111]) = .ok c' := ⟨_, by simp only [setParent, bzrUrlToGitUrl_branch_foo]; rfl⟩
  exact ⟨c', hset, (parent_location_unnamed [] c' _ _ _ _ bzrUrlToGitUrl_branch_foo hset rfl).trans rfl⟩

theorem normBR_effRef (branch : Option Str) (ref : Option NBytes) (m : NBytes) (hx : branch = none ∨ ref = none)
    (hbr : ∀ n, branch = some n → refsSlash.isPrefixOf n = false) (hm : effRef branch ref = some m) :
    cleanBR (normBR none (some m)) = cleanBR (normBR branch ref) := by
  cases ref with
  | some r =>
    obtain rfl : branch = none := hx.resolve_right nofun
    by_cases hr : r = []
    · subst hr; cases hm; rfl
    · obtain rfl : r = m := by simpa [effRef, hr] using hm
      rfl
  | none =>
    rcases branch with _ | b
    · cases hm; rfl
    · by_cases hb : b = []
      · subst hb; cases hm; rfl
      · have hm' : branchNameToRef b = some m := by simpa [effRef, hb] using hm
        have hr := branch_ref_roundtrip b m (hbr b rfl) hm'
        have hne : ¬(m = headRef ∨ m = []) := by
          rintro (rfl | rfl)
          · cases hr; exact hb rfl
          · cases hr
        rw [normBR_ok none hne hr]
        simp [normBR, cleanBR, hb]

/-- the ref stored by `set_parent` re-normalises to the same branch/ref -/
theorem normBR_renorm (branch : Option Str) (ref : Option NBytes) (m : NBytes)
    (hx : branch = none ∨ ref = none) (hok : refOk ref = true)
    (hbr : ∀ n, branch = some n → refsSlash.isPrefixOf n = false)
    (hm : effRef (cleanBR (normBR branch ref)).1 (cleanBR (normBR branch ref)).2 = some m) :
    cleanBR (normBR none (some m)) = cleanBR (normBR branch ref) :=
  normBR_effRef branch ref m hx hbr ((effRef_normBR branch ref hx hok).symm.trans hm)

/-- **Parent location round trip.**  For a branch with a name and every
canonical breezy URL `u` (made by `git_url_to_bzr_url` from a normalised,
comma-free location and any branch name not starting with `refs/` or any ref
satisfying `refOk`): `set_parent(u)` followed by `get_parent()` returns `u`. -/
theorem parent_location_roundtrip_url (c c' : Cfg) (name loc' : Str) (branch : Option Str)
    (ref : Option NBytes) (u : Str) (hname : name ≠ [])
    (hnorm : normLoc loc' = .url loc' ∨ normLoc loc' = .unchanged) (hc : lastSegCommaFree loc' = true)
    (hb : ∀ r, ref = some r → isBytes r = true) (hok : refOk ref = true)
    (hbr : ∀ n, branch = some n → refsSlash.isPrefixOf n = false)
    (h : gitUrlToBzrUrl loc' branch ref = .ok u) (hset : setParent c name u = .ok c') :
    getParentLocation c' name = .ok (some u) := by
  have hx := gitUrlToBzrUrl_one_none h
  have hloc : _ ∨ (_ ∧ loc' = loc') := hnorm.imp_right (⟨·, rfl⟩)
  have hs := url_roundtrip loc' loc' branch ref u hloc hc hb h
  obtain ⟨m, hm, hget⟩ := parent_location_roundtrip c c' name u loc' _ _ hname hs hset
  rw [hget, gitUrlToBzrUrl_congr hloc (.inl rfl) hx (normBR_renorm branch ref m hx hok hbr hm), h]
  rfl

/-- non-vacuity: `https://h/a,b/r` has a comma, but not in its last segment -/
example : normLoc [104, 116, 116, 112, 115, 58, 47, 47, 104, 47, 97, 44, 98, 47, 114] =
    .url [104, 116, 116, 112, 115, 58, 47, 47, 104, 47, 97, 44, 98, 47, 114] ∧
    lastSegCommaFree [104, 116, 116, 112, 115, 58, 47, 47, 104, 47, 97, 44, 98, 47, 114] = true ∧
    refsSlash.isPrefixOf [97, 47, 98] = false := by decide

/-- the code as found (F14) reads the merge ref from `[branch "<remote>"]`:
after `set_parent("https://h/r,branch=foo")` on branch `master` the correct
getter returns that URL, the getter as found returns `https://h/r` -/
theorem parent_location_legacy_witness :
    ∃ c', setParent [] [109, 97, 115, 116, 101, 114]
        ([104, 116, 116, 112, 115, 58, 47, 47, 104, 47, 114] ++ [44] ++ kBranch ++ [61, 102, 111, 111]) = .ok c' ∧
      getParentLocation c' [109, 97, 115, 116, 101, 114] =
        .ok (some ([104, 116, 116, 112, 115, 58, 47, 47, 104, 47, 114] ++ [44] ++ kBranch ++ [61, 102, 111, 111])) ∧
      getParentLocationLegacy c' [109, 97, 115, 116, 101, 114] =
        .ok (some [104, 116, 116, 112, 115, 58, 47, 47, 104, 47, 114]) := by
  obtain ⟨c', hset⟩ : ∃ c', setParent [] [109, 97, 115, 116, 101, 114] ([104, 116, 116, 112, 115, 58, 47, 47, 104, 47, 114] ++
      [44] ++ kBranch ++ [61, 102, 111, 111]) = .ok c' := ⟨_, by simp only [setParent, bzrUrlToGitUrl_branch_foo]; rfl⟩
  refine ⟨c', hset, ?_, ?_⟩
  · exact parent_location_roundtrip_url [] _ _ [104, 116, 116, 112, 115, 58, 47, 47, 104, 47, 114] (some [102, 111, 111])
      none _ (by decide) (.inl (by decide)) (by decide) nofun rfl (fun n hn => by cases hn; decide) rfl hset
  · exact (parent_location_legacy [] c' _ _ _ [109, 97, 115, 116, 101, 114] _ _ rfl (by decide) rfl bzrUrlToGitUrl_branch_foo hset).trans rfl

/-- **a value survives `write_to_file` + `from_file`.**  Every byte string that
`cfgValueSafe` admits — no carriage return; and, unless it is quoted anyway
(leading/trailing blank or a `#`), no `;` and no vertical tab / form feed at
either end — is read back by dulwich's `_parse_string` exactly as
`_format_string` was given it. -/
theorem cfg_value_roundtrip (v : NBytes) (hs : cfgValueSafe v = true) : cfgReread v = some v := by
  unfold cfgReread cfgParse cfgFormat
  by_cases hq : cfgNeedsQuote v = true
  · have h13 : 13 ∉ v := by simpa [cfgValueSafe, hq] using hs
    rw [if_pos hq, trimWs_wrap (34 :: cfgEscape v ++ [34]) (by intro c hc; simp at hc; subst hc; decide)
      (by intro c hc; rw [List.getLast?_append] at hc; cases hc; decide)]
    have : cfgParseGo false false [] (34 :: cfgEscape v ++ [34]) = cfgParseGo true false [] (cfgEscape v ++ [34]) := by
      simp [cfgParseGo]
    rw [this]
    exact go_quoted v h13
  · rw [if_neg hq]
    simp only [cfgValueSafe, hq, Bool.false_or, Bool.and_eq_true, Bool.not_eq_eq_eq_not, Bool.not_true,
      bne_iff_ne, ne_eq, List.contains_eq_mem, decide_eq_false_iff_not] at hs
    obtain ⟨h13, ⟨⟨⟨h59, hh11⟩, hh12⟩, hl11⟩, hl12⟩ := hs
    simp only [cfgNeedsQuote, Bool.or_eq_true, beq_iff_eq, not_or, List.contains_eq_mem, decide_eq_true_eq] at hq
    obtain ⟨⟨⟨⟨hh32, -⟩, hl32⟩, -⟩, h35⟩ := hq
    have hhead : ∀ c, (cfgEscape v).head? = some c → isWs c = false := fun c hc =>
      isWs_false_of (cfgEscape_head_ws hc) hh32 hh11 hh12
    have hlast : ∀ c, (cfgEscape v).getLast? = some c → isWs c = false := fun c hc =>
      isWs_false_of (cfgEscape_last_ws hc) hl32 hl11 hl12
    rw [trimWs_wrap _ hhead hlast]
    simpa using go_unquoted v [] h13 h35 h59 hl32 (fun _ => rfl)
example : cfgValueSafe [114, 101, 102, 115, 47, 104, 101, 97, 100, 115, 47, 97, 32, 34, 92, 98] = true ∧
    cfgValueSafe [32, 97, 59, 35] = true ∧ cfgValueSafe [] = true := by decide

/-- excluded families, as dulwich behaves today: an unquoted `;` starts a
comment (`refs/heads/a;b` comes back as `refs/heads/a`), a carriage return comes
back as backslash + `r`, a leading form feed is stripped -/
theorem cfg_value_witness :
    cfgReread [97, 59, 98] = some [97] ∧ cfgValueSafe [97, 59, 98] = false ∧
    cfgReread [97, 13, 98] = some [97, 92, 114, 98] ∧ cfgValueSafe [97, 13, 98] = false ∧
    cfgReread [12, 97] = some [97] ∧ cfgValueSafe [12, 97] = false := by decide

/-- the whole configuration is read back as written when every value is safe -/
theorem cfg_file_roundtrip : ∀ (c : Cfg), c.all (fun kv => cfgValueSafe kv.2) = true → cfgRereadAll c = some c
  | [], _ => rfl
  | (k, v) :: rest, h => by
    simp only [List.all_cons, Bool.and_eq_true] at h
    simp only [cfgRereadAll, cfg_value_roundtrip v h.1, cfg_file_roundtrip rest h.2]

/-- `_unescape_subsection(_escape_subsection(n)) == n` for every section name
(the branch name in `[branch "<name>"]`) -/
theorem subsection_roundtrip : ∀ (n : NBytes), subsecUnescape (subsecEscape n) = n
  | [] => rfl
  | x :: rest => by
    have ih := subsection_roundtrip rest
    rw [subsecEscape_cons]
    by_cases h1 : x = 92
    · subst h1; simp [subsecUnescape, ih]
    · by_cases h2 : x = 34
      · subst h2; simp [subsecUnescape, ih]
      · simp only [h1, h2, if_false, List.singleton_append, subsecUnescape_cons_ne h1, ih]

/-- **Parent location round trip through the configuration file.**  As
`parent_location_roundtrip_url`, with the configuration `set_parent` produced
written by `ConfigFile.write_to_file` and read again by `from_file` before
`get_parent` looks at it: whenever every stored value is one dulwich reads back
unchanged (`cfgValueSafe`: in particular no `;` in the URL or the ref). -/
theorem parent_location_roundtrip_file (c c' : Cfg) (name loc' : Str) (branch : Option Str)
    (ref : Option NBytes) (u : Str) (hname : name ≠ [])
    (hnorm : normLoc loc' = .url loc' ∨ normLoc loc' = .unchanged) (hc : lastSegCommaFree loc' = true)
    (hb : ∀ r, ref = some r → isBytes r = true) (hok : refOk ref = true)
    (hbr : ∀ n, branch = some n → refsSlash.isPrefixOf n = false)
    (h : gitUrlToBzrUrl loc' branch ref = .ok u) (hset : setParent c name u = .ok c')
    (hsafe : c'.all (fun kv => cfgValueSafe kv.2) = true) :
    (cfgRereadAll c').map (fun c'' => getParentLocation c'' name) = some (.ok (some u)) := by
  rw [cfg_file_roundtrip c' hsafe]
  simp only [Option.map_some, Option.some.injEq]
  exact parent_location_roundtrip_url c c' name loc' branch ref u hname hnorm hc hb hok hbr h hset

/-- the file-level hypothesis is needed: the merge ref `set_parent` stores for
the branch `a;b` is cut at the `;` when the file is read again, and is then the
ref of the branch `a` -/
theorem parent_location_semicolon_witness :
    cfgRereadAll [((bBranch, [109], bMerge), headsPrefix ++ [97, 59, 98])] =
        some [((bBranch, [109], bMerge), headsPrefix ++ [97])] ∧
      refToBranchName (some (headsPrefix ++ [97, 59, 98])) = .ok (some [97, 59, 98]) ∧
      refToBranchName (some (headsPrefix ++ [97])) = .ok (some [97]) :=
  ⟨by decide, branch_ref_roundtrip [97, 59, 98] _ (by decide) (by decide),
    branch_ref_roundtrip [97] _ (by decide) (by decide)⟩

end BreezyVerif.C36
