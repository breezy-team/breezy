import BreezyVerif.Lemmas.C25Rbd
import BreezyVerif.Lemmas.C25Touch
import BreezyVerif.Lemmas.C25Steps
import BreezyVerif.Lemmas.C25Inv
import BreezyVerif.Props.C22
/-!
C25 — theorems.  All view lists, all graphs (`wf` = topologically numbered),
all tips; no bound on sizes.
-/
namespace BreezyVerif.C25
open BreezyVerif.C22

/-- **`reverse_by_depth` always terminates** when called at depth 0 (the only
way `log.py` calls it): the fuel `rbdFuel` is never exhausted. -/
theorem rbd_total (l : List V) : ∃ r, reverseByDepth l = some r :=
  ⟨_, reverseByDepth_eq l⟩

/-- **`reverse_by_depth` is a permutation** of the revisions that have a revno
(those without one are dropped together with the fake revisions). -/
theorem rbd_perm (l r : List V) (h : reverseByDepth l = some r) :
    r.Perm (l.filter fun v => !v.revno.isEmpty) := by
  cases (reverseByDepth_eq l).symm.trans h
  exact (rbdS_perm l).filter _

theorem rbd_length (l r : List V) (h : reverseByDepth l = some r) :
    r.length = (l.filter fun v => !v.revno.isEmpty).length :=
  (rbd_perm l r h).length_eq

/-- **The top-level (depth 0) revisions come out in exactly the opposite order.** -/
theorem rbd_depth0_reversed (l r : List V) (h : reverseByDepth l = some r) :
    r.filter (fun v => v.depth == 0) =
      ((l.filter fun v => !v.revno.isEmpty).filter fun v => v.depth == 0).reverse := by
  cases (reverseByDepth_eq l).symm.trans h
  have comm : ∀ x : List V, (x.filter fun v => !v.revno.isEmpty).filter (fun v => v.depth == 0)
      = (x.filter fun v => v.depth == 0).filter fun v => !v.revno.isEmpty := by
    intro x
    simp only [List.filter_filter]
    congr 1; funext a; exact Bool.and_comm _ _
  rw [comm, rbdS_filter 0 l (fun _ _ => Nat.zero_le _), List.filter_reverse, comm l]

example : reverseByDepth [⟨5, [3], 0⟩, ⟨4, [1, 1, 2], 1⟩, ⟨3, [1, 2, 1], 2⟩, ⟨2, [1, 1, 1], 1⟩, ⟨1, [2], 0⟩, ⟨0, [1], 0⟩]
    = some [⟨0, [1], 0⟩, ⟨1, [2], 0⟩, ⟨5, [3], 0⟩, ⟨2, [1, 1, 1], 1⟩, ⟨4, [1, 1, 2], 1⟩, ⟨3, [1, 2, 1], 2⟩] := by decide +kernel

theorem minDepth_le : ∀ (l : List V) (v : V), v ∈ l → minDepth l ≤ v.depth
  | [], _, h => by cases h
  | [a], v, h => by
    rw [List.mem_singleton.mp h]; exact Nat.le_refl _
  | a :: b :: l, v, h => by
    have ih := minDepth_le (b :: l)
    show min a.depth (minDepth (b :: l)) ≤ v.depth
    rcases List.mem_cons.mp h with rfl | h
    · exact Nat.min_le_left _ _
    · exact Nat.le_trans (Nat.min_le_right _ _) (ih v h)

/-- **`_rebase_merge_depth` only shifts all depths by one common amount** that
no depth is smaller than; revisions, revnos and order are untouched. -/
theorem rebase_shape (l : List V) :
    ∃ m, (∀ v ∈ l, m ≤ v.depth) ∧
      rebaseMergeDepth l = l.map fun v => { v with depth := v.depth - m } := by
  have hid : l = l.map fun v => ({ v with depth := v.depth - 0 } : V) := by
    have : (fun v : V => ({ v with depth := v.depth - 0 } : V)) = id := by funext v; rfl
    rw [this, List.map_id]
  unfold rebaseMergeDepth
  split
  · split
    · dsimp only
      split
      · exact ⟨minDepth l, minDepth_le l, rfl⟩
      · exact ⟨0, fun _ _ => Nat.zero_le _, hid⟩
    · exact ⟨0, fun _ _ => Nat.zero_le _, hid⟩
  · exact ⟨0, fun _ _ => Nat.zero_le _, hid⟩

example : rebaseMergeDepth [⟨4, [1, 1, 2], 1⟩, ⟨3, [1, 2, 1], 2⟩] = [⟨4, [1, 1, 2], 0⟩, ⟨3, [1, 2, 1], 1⟩] := by decide +kernel

theorem adjustDepths_zero : ∀ l : List V, adjustDepths (some 0) l = l
  | [] => rfl
  | v :: l => by
    simp [adjustDepths, adjustDepths_zero l]

theorem adjustDepths_head_zero (v : V) (l : List V) (h : v.depth = 0) :
    adjustDepths none (v :: l) = v :: l := by
  simp [adjustDepths, h, adjustDepths_zero l]

/-- the complete merge-sorted view of a branch, as `_graph_view_revisions` produces it -/
theorem graphView_full (b : Branch) (t : Nat) (hw : wf b.g = true) (htip : b.tip = some t)
    (ht : t < b.g.length) (rebase : Bool) :
    ∃ ms, mergeSort b.g t = some ms ∧ graphView b none none rebase false = .ok (ms.map ofMS) := by
  obtain ⟨ms, hms⟩ := mergeSort_total b.g t hw ht
  obtain ⟨e, rest, hcons, _, hdepth⟩ := mergeSort_tip_first b.g t ms hw ht hms
  refine ⟨ms, hms, ?_⟩
  have hfilter : filterStartNonAncestors b.g ms = ms := by
    rw [hcons]; simp [filterStartNonAncestors, hdepth]
  have hiter : b.iterMergeSorted none none .withMerges false = .ok ms := by
    simp [Branch.iterMergeSorted, Branch.mergeSorted, htip, hms, applyStop, hfilter, bind, Except.bind,
      pure, Except.pure]
  unfold graphView
  simp only [Option.isNone_none, Bool.and_true, Bool.false_eq_true, if_false, Option.map_none, hiter, liftE]
  cases rebase
  · rfl
  · simp only [if_true]
    rw [hcons, List.map_cons, adjustDepths_head_zero _ _ (by simpa [ofMS] using hdepth)]

/-- **A full log lists every revision of the tip's ancestry exactly once, with
its merge-sorted dotted revno and depth.** -/
theorem view_complete_once (b : Branch) (t : Nat) (hw : wf b.g = true) (htip : b.tip = some t)
    (ht : t < b.g.length) :
    ∃ ms, mergeSort b.g t = some ms ∧ logRequest b none none false 0 0 false = .ok (ms.map ofMS) ∧
      ((ms.map ofMS).map (·.rev)).Nodup ∧ (∀ x, x ∈ (ms.map ofMS).map (·.rev) ↔ Reach b.g t x) ∧
      ((ms.map ofMS).map (·.revno)).Nodup := by
  obtain ⟨ms, hms, hgv⟩ := graphView_full b t hw htip ht true
  refine ⟨ms, hms, ?_, ?_, ?_, ?_⟩
  · simp [logRequest, revisionLimits, calcView, generateAll, htip, hgv, levelLimit]
  · have := mergeSort_nodup b.g t ms hw ht hms
    simpa [List.map_map, Function.comp_def, ofMS] using this
  · intro x
    have := mergeSort_covers b.g t ms hw ht hms x
    simpa [List.map_map, Function.comp_def, ofMS] using this
  · have := dotted_injective b.g t ms hw ht hms
    simpa [List.map_map, Function.comp_def, ofMS] using this

/-- **The forward log is `_rebase_merge_depth ∘ reverse_by_depth` of the reverse log.** -/
theorem forward_is_rbd_of_reverse (b : Branch) (t : Nat) (hw : wf b.g = true) (htip : b.tip = some t)
    (ht : t < b.g.length) :
    ∃ rev r, logRequest b none none false 0 0 false = .ok rev ∧ reverseByDepth rev = some r ∧
      logRequest b none none true 0 0 false = .ok (rebaseMergeDepth r) := by
  obtain ⟨ms, hms, hrev, _⟩ := view_complete_once b t hw htip ht
  obtain ⟨ms', hms', hgv⟩ := graphView_full b t hw htip ht false
  rw [hms] at hms'; cases hms'
  obtain ⟨r, hr⟩ := rbd_total (ms.map ofMS)
  refine ⟨_, r, hrev, hr, ?_⟩
  simp [logRequest, revisionLimits, calcView, generateAll, htip, hgv, levelLimit, hr]

/-- the left-hand history, newest first, numbered from the tip's revno downwards, all at depth 0 -/
def mainlineViews (b : Branch) : List V :=
  (b.history.zipIdx).map fun (r, i) => (⟨r, [b.lastRevno - i], 0⟩ : V)

theorem mainlineViews_revs (b : Branch) : (mainlineViews b).map (·.rev) = b.history := by
  unfold mainlineViews
  rw [List.map_map]
  have : ((fun v : V => v.rev) ∘ fun (x : Nat × Nat) => (⟨x.1, [b.lastRevno - x.2], 0⟩ : V)) = Prod.fst := by
    funext x; rfl
  rw [this]
  exact List.zipIdx_map_fst ..

/-- every entry of `mainlineViews`: depth 0, a one-number revno, and that number names the revision -/
theorem mainlineViews_numbered (b : Branch) (v : V) (hv : v ∈ mainlineViews b) :
    v.depth = 0 ∧ ∃ k : Nat, v.revno = [k] ∧ 1 ≤ k ∧ k ≤ b.lastRevno ∧ b.getRevId k = .ok (.rev v.rev) ∧
      b.history.reverse[k - 1]? = some v.rev := by
  unfold mainlineViews at hv
  rw [List.mem_map] at hv
  obtain ⟨⟨r, i⟩, hmem, rfl⟩ := hv
  have hget : b.history[i]? = some r := List.mem_zipIdx_iff_getElem?.mp hmem
  have hi : i < b.history.length := (List.getElem?_eq_some_iff.mp hget).1
  obtain ⟨h1, h2, h3, h4, h5⟩ : 1 ≤ b.lastRevno - i ∧ b.lastRevno - i ≤ b.lastRevno ∧
      b.lastRevno - (b.lastRevno - i) = i ∧ b.lastRevno - i - 1 < b.history.length ∧
      b.history.length - 1 - (b.lastRevno - i - 1) = i := by
    unfold Branch.lastRevno; omega
  refine ⟨rfl, b.lastRevno - i, rfl, h1, h2, ?_, ?_⟩
  · exact getRevId_pos b _ h1 h2 r (by rw [h3]; exact hget)
  · rw [List.getElem?_reverse h4, h5]; exact hget

/-- with levels=1 and no range the view is the mainline, whatever the delayed-graph-generation switch -/
theorem calcView_level1 (b : Branch) (fwd excl d : Bool) :
    calcView b none none fwd false d excl =
      if excl then .error (.command "--exclude-common-ancestry requires two different revisions")
      else match b.tip with
        | none => .ok ([], false)
        | some _ => .ok (if fwd then (mainlineViews b).reverse else mainlineViews b, false) := by
  have hlin : linearView b none none excl = some (mainlineViews b) := rfl
  unfold calcView
  cases excl
  · cases b.tip <;> simp [hlin]
  · rfl

/-- levels=1 keeps a view that is at depth 0 throughout -/
theorem levelLimit_one_of_depth0 (l : List V) (hl : ∀ v ∈ l, v.depth = 0) : levelLimit 1 0 l = l := by
  simp only [levelLimit, beq_self_eq_true, if_true]
  rw [List.filter_eq_self]
  intro v hv
  simp [hl v hv]

/-- **levels=1 lists exactly the left-hand history**, in both directions, every revision once at depth 0,
numbered from the tip's revno downwards — and that number is the revision's revno (`get_rev_id`). -/
theorem level1_is_lefthand (b : Branch) (t : Nat) (htip : b.tip = some t) (fwd : Bool) :
    logRequest b none none fwd 1 0 false = .ok (if fwd then (mainlineViews b).reverse else mainlineViews b) ∧
      (mainlineViews b).map (·.rev) = b.history ∧
      ∀ v ∈ mainlineViews b, v.depth = 0 ∧ ∃ k : Nat, v.revno = [k] ∧ b.getRevId k = .ok (.rev v.rev) := by
  have hL0 : ∀ v ∈ mainlineViews b, v.depth = 0 := fun v hv => (mainlineViews_numbered b v hv).1
  refine ⟨?_, mainlineViews_revs b, ?_⟩
  · cases fwd
    · simp [logRequest, revisionLimits, calcView_level1, htip, levelLimit_one_of_depth0 _ hL0]
    · simp [logRequest, revisionLimits, calcView_level1, htip,
        levelLimit_one_of_depth0 _ (fun v hv => hL0 v (List.mem_reverse.mp hv))]
  · intro v hv
    obtain ⟨h0, k, hk, _, _, hg, _⟩ := mainlineViews_numbered b v hv
    exact ⟨h0, k, hk, hg⟩

example : logRequest { g := [[], [0], [0], [1, 2]], tip := some 3 } none none false 1 0 false
    = .ok [⟨3, [3], 0⟩, ⟨1, [2], 0⟩, ⟨0, [1], 0⟩] := by decide +kernel

/-- **The levels=1 numbers are the numbers of the complete log**: every revision listed by levels=1 appears in
the merge-sorted numbering (`get_revision_id_to_revno_map`) with the same one-number revno, and no other
revision has a one-number revno there. -/
theorem level1_numbers_agree_with_full (b : Branch) (t : Nat) (hw : wf b.g = true) (htip : b.tip = some t)
    (ht : t < b.g.length) (hc : mainlineClean b = true) :
    ∃ m, b.revnoMap = .ok m ∧ (∀ v ∈ mainlineViews b, (v.rev, v.revno) ∈ m) ∧
      (∀ k x, (x, [k]) ∈ m → (⟨x, [k], 0⟩ : V) ∈ mainlineViews b) := by
  obtain ⟨m, hm, _, hfwd, hconv⟩ := mainline_revno b t hw htip ht hc
  have hL : b.lastRevno = b.history.length := rfl
  refine ⟨m, hm, ?_, ?_⟩
  · intro v hv
    obtain ⟨_, k, hk, h1, _, _, hrev⟩ := mainlineViews_numbered b v hv
    have := hfwd (k - 1) v.rev hrev
    have hk1 : k - 1 + 1 = k := by omega
    rw [hk1] at this
    rw [hk]; exact this
  · intro k x hx
    obtain ⟨h1, hrev⟩ := hconv k x hx
    have hklt : k - 1 < b.history.length := by
      rcases Nat.lt_or_ge (k - 1) b.history.reverse.length with h | h
      · simpa using h
      · rw [List.getElem?_eq_none h] at hrev; cases hrev
    rw [List.getElem?_reverse hklt] at hrev
    unfold mainlineViews
    rw [List.mem_map]
    refine ⟨(x, b.history.length - 1 - (k - 1)), List.mem_zipIdx_iff_getElem?.mpr hrev, ?_⟩
    have : b.lastRevno - (b.history.length - 1 - (k - 1)) = k := by omega
    simp only [this]

/-- **A levels=1 range lists exactly the left-hand ancestry of the end down to and including the start**
(the start being a left-hand ancestor of the end, other than the end itself), in both directions, all at
depth 0, each with its revno in the branch. -/
theorem level1_range (b : Branch) (t s e : Nat) (htip : b.tip = some t) (fwd : Bool) (hne : s ≠ e)
    (hlim : revisionLimits b (some (b.lazyRevno (.rev s), .rev s)) (some (b.lazyRevno (.rev e), .rev e)) = .ok ())
    (hs : (lefthand b.g (e + 1) e).contains s = true) :
    let seg : List V := ((lefthand b.g (e + 1) e).takeWhile (· != s) ++ [s]).map fun r => ⟨r, revnoStr b r, 0⟩
    logRequest b (some s) (some e) fwd 1 0 false = .ok (if fwd then seg.reverse else seg) := by
  intro seg
  have hlin : linearView b (some s) (some e) false = some seg := by
    unfold linearView
    simp only [hs, if_true, seg, Bool.false_eq_true, if_false, List.map_append, List.map_cons, List.map_nil]
  have hseg0 : ∀ v ∈ seg, v.depth = 0 := by
    intro v hv
    simp only [seg, List.mem_map] at hv
    obtain ⟨_, _, rfl⟩ := hv
    rfl
  have hse : (some s == some e) = false := by simpa using hne
  unfold logRequest
  simp only [Option.map_some, hlim]
  cases fwd
  · simp [calcView, htip, hse, hlin, levelLimit_one_of_depth0 _ hseg0]
  · simp [calcView, htip, hse, hlin, levelLimit_one_of_depth0 _ (fun v hv => hseg0 v (List.mem_reverse.mp hv))]

example :
    let b : Branch := { g := [[], [0], [0], [1, 2], [3], [4]], tip := some 5 }
    revisionLimits b (some (b.lazyRevno (.rev 1), .rev 1)) (some (b.lazyRevno (.rev 4), .rev 4)) = .ok () ∧
    (lefthand b.g (4 + 1) 4).contains 1 = true ∧
    logRequest b (some 1) (some 4) false 1 0 false = .ok [⟨4, [4], 0⟩, ⟨3, [3], 0⟩, ⟨1, [2], 0⟩] := by decide +kernel

/-- **levels=k is the depth filter of the complete log** (same request otherwise). -/
theorem levels_is_filter (b : Branch) (start stop : Option Nat) (fwd excl : Bool) (k : Nat) (hk : 2 ≤ k)
    (l : List V) (h : logRequest b start stop fwd 0 0 excl = .ok l) :
    logRequest b start stop fwd k 0 excl = .ok (l.filter fun v => decide (v.depth < k)) := by
  have hk1 : (k != 1) = true := by simp; omega
  have hk0 : (k == 0) = false := by simp; omega
  have h01 : ((0 : Nat) != 1) = true := rfl
  unfold logRequest at h ⊢
  simp only [hk1]
  simp only [h01] at h
  generalize revisionLimits b _ _ = R at h ⊢
  cases R with
  | error e => cases h
  | ok u =>
    simp only at h ⊢
    generalize calcView b start stop fwd true _ excl = C at h ⊢
    cases C with
    | error e => cases h
    | ok p =>
      obtain ⟨l0, flag⟩ := p
      cases flag
      · simp only [Except.ok.injEq] at h ⊢
        subst h
        simp [levelLimit, hk0]
      · simp at h

/-- **a limit yields a prefix of the unlimited listing of the same view** -/
theorem limit_is_prefix (levels limit : Nat) (l : List V) :
    levelLimit levels limit l = if limit == 0 then levelLimit levels 0 l else (levelLimit levels 0 l).take limit := by
  unfold levelLimit
  split <;> simp_all

theorem levelLimit_take (levels limit : Nat) (l : List V) (hl : limit ≠ 0) :
    levelLimit levels limit l = (levelLimit levels 0 l).take limit := by
  have : (limit == 0) = false := by simpa using hl
  simp [levelLimit, this]

/-- **A limit lists the prefix of the unlimited listing of the same request** — at request level, for every
request with a range (start or end given; any direction, levels, exclude_common_ancestry) and for every
levels=1 request.  (For an unrestricted log with merges the limit also switches on delayed graph
generation; there the equality is checked by the oracle on every run, not proved.) -/
theorem limit_is_prefix_request (b : Branch) (start stop : Option Nat) (fwd : Bool) (levels limit : Nat)
    (excl : Bool) (h : (start.isSome || stop.isSome || levels == 1) = true) (hl : limit ≠ 0) :
    logRequest b start stop fwd levels limit excl =
      (logRequest b start stop fwd levels 0 excl).map (fun l : List V => l.take limit) := by
  have hl' : (limit != 0) = true := by simpa using hl
  have key : ∀ (R : Except LErr Unit) (C : Except LErr (List V × Bool)),
      (match R with
        | .error e => (.error e : Except LErr (List V))
        | .ok () => match C with
          | .error e => .error e
          | .ok (l, false) => .ok (levelLimit levels limit l)
          | .ok (_, true) => .error .unsupported) =
      (match R with
        | .error e => (.error e : Except LErr (List V))
        | .ok () => match C with
          | .error e => .error e
          | .ok (l, false) => .ok (levelLimit levels 0 l)
          | .ok (_, true) => .error .unsupported).map (fun l : List V => l.take limit) := by
    intro R C
    cases R with
    | error e => rfl
    | ok u =>
      cases C with
      | error e => rfl
      | ok p =>
        obtain ⟨l, flag⟩ := p
        cases flag
        · simp only [Except.map, levelLimit_take levels limit l hl]
        · rfl
  by_cases hr : (start.isSome || stop.isSome) = true
  · have h1 : (limit != 0 || start.isSome || stop.isSome) = true := by
      rw [Bool.or_assoc, hr, Bool.or_true]
    have h0 : ((0 : Nat) != 0 || start.isSome || stop.isSome) = true := by
      rw [Bool.or_assoc, hr, Bool.or_true]
    unfold logRequest
    simp only [h1, h0]
    exact key _ _
  · have hr' : (start.isSome || stop.isSome) = false := by simpa using hr
    have hlv : levels = 1 := by
      rw [hr', Bool.false_or] at h
      simpa using h
    have hs : start = none := by
      cases start with
      | none => rfl
      | some _ => simp at hr'
    have he : stop = none := by
      cases stop with
      | none => rfl
      | some _ => simp [hs] at hr'
    subst hlv hs he
    unfold logRequest
    have hg : ((1 : Nat) != 1) = false := rfl
    simp only [hg, calcView_level1]
    exact key _ _

example : logRequest { g := [[], [0], [0], [1, 2], [3]], tip := some 4 } (some 1) none false 0 2 false
    = .ok [⟨4, [4], 0⟩, ⟨3, [3], 0⟩] ∧
    logRequest { g := [[], [0], [0], [1, 2], [3]], tip := some 4 } (some 1) none false 0 0 false
    = .ok [⟨4, [4], 0⟩, ⟨3, [3], 0⟩, ⟨2, [1, 1, 1], 1⟩, ⟨1, [2], 0⟩] := by decide +kernel

theorem adjustDepths_ids : ∀ (adj : Option Nat) (l : List V),
    (adjustDepths adj l).map (fun v => (v.rev, v.revno)) = l.map fun v => (v.rev, v.revno)
  | _, [] => rfl
  | adj, v :: l => by
    unfold adjustDepths
    simp only []
    split <;> simp [adjustDepths_ids _ l]

/-- a graph view is the merge-sorted iteration of the range, with the depths rebased on request -/
theorem graphView_ok (b : Branch) (start stop : Option Nat) (rebase excl : Bool) (l : List V)
    (h : graphView b start stop rebase excl = .ok l) :
    ∃ a, b.iterMergeSorted (stop.map RevId.rev) (start.map RevId.rev)
        (if excl then .withMergesNoCommon else .withMerges) false = .ok a ∧
      l = if rebase then adjustDepths none (a.map ofMS) else a.map ofMS := by
  unfold graphView at h
  split at h
  · cases h
  · cases hit : b.iterMergeSorted (stop.map RevId.rev) (start.map RevId.rev)
        (if excl then .withMergesNoCommon else .withMerges) false with
    | error e =>
      rw [hit] at h
      cases e <;> simp [liftE] at h
    | ok a =>
      rw [hit] at h
      simp only [liftE, Except.ok.injEq] at h
      exact ⟨a, rfl, h.symm⟩

/-- **every graph view — with or without depth rebasing, any range, any stop rule — lists a sub-sequence of
the merge-sorted list with the merge-sorted revnos** (nothing invented, duplicated, reordered or renumbered;
rebasing touches depths only) -/
theorem graph_view_sublist_any (b : Branch) (start stop : Option Nat) (rebase excl : Bool) (ms : List MS)
    (l : List V) (hms : b.mergeSorted = .ok ms) (h : graphView b start stop rebase excl = .ok l) :
    List.Sublist (l.map fun v => (v.rev, v.revno)) (ms.map fun e => (e.rev, e.revno)) := by
  obtain ⟨a, hit, rfl⟩ := graphView_ok b start stop rebase excl l h
  have hsub := iter_sublist b _ _ _ false ms a hms hit
  simp only [Bool.false_eq_true, if_false] at hsub
  have hids : (if rebase then adjustDepths none (a.map ofMS) else a.map ofMS).map (fun v => (v.rev, v.revno))
      = a.map fun e => (e.rev, e.revno) := by
    cases rebase
    · simp only [Bool.false_eq_true, if_false, List.map_map]; rfl
    · simp only [if_true, adjustDepths_ids, List.map_map]; rfl
  rw [hids]
  exact hsub.map _

/-- every graph view is a sub-sequence of the merge-sorted list -/
theorem graph_view_sublist (b : Branch) (start stop : Option Nat) (excl : Bool) (ms : List MS) (l : List V)
    (hms : b.mergeSorted = .ok ms) (h : graphView b start stop false excl = .ok l) :
    List.Sublist l (ms.map ofMS) := by
  obtain ⟨a, hit, rfl⟩ := graphView_ok b start stop false excl l h
  have := iter_sublist b _ _ _ false ms a hms hit
  simp only [Bool.false_eq_true, if_false] at this ⊢
  exact this.map _

theorem mem_stack1 (stack : List (Option V)) (v : V) : some v ∈ pushStack stack v := by
  unfold pushStack
  split <;> simp

theorem stack1_subset (stack : List (Option V)) (v x : V) (h : some x ∈ pushStack stack v) :
    some x ∈ stack ∨ x = v := by
  unfold pushStack at h
  split at h
  · rcases List.mem_append.mp h with h | h
    · exact Or.inl h
    · right; simpa using h
  · rcases List.mem_append.mp h with h | h
    · exact Or.inl (List.mem_of_mem_take (List.dropLast_subset _ h))
    · right; simpa using h

/-- **Stack discipline.**  After a revision of depth `d` (not deeper than the
stack, as in every merge-sorted view) the stack has exactly `d + 1` slots: the
slots below `d` — the nearest enclosing merges — are untouched, slot `d` is the
revision itself, and everything deeper (merges that have ended) is gone. -/
theorem pushStack_discipline (stack : List (Option V)) (v : V) (h : v.depth ≤ stack.length) :
    (pushStack stack v).length = v.depth + 1 ∧
    (pushStack stack v).take v.depth = stack.take v.depth ∧
    (pushStack stack v)[v.depth]? = some (some v) := by
  have hl : (stack.take v.depth).length = v.depth := by
    rw [List.length_take]; exact Nat.min_eq_left h
  rw [pushStack_eq stack v h]
  refine ⟨by rw [List.length_append, hl]; rfl, List.take_left' hl, ?_⟩
  rw [List.getElem?_append_right (Nat.le_of_eq hl), hl, Nat.sub_self]
  rfl

/-- marking entries as listed keeps the stack's length -/
theorem touch_mark_length (inc : Bool) (s : List (Option V)) :
    (s.map fun n => match n with
      | some x => if inc || x.depth == 0 then none else some x
      | none => none).length = s.length := by simp

/-- **With merges included, every revision of the view that modified the file is listed.** -/
theorem touching_contains_modified (modified : List Nat) : ∀ (l : List V) (stack : List (Option V)) (v : V),
    v ∈ l → modified.contains v.rev = true → v ∈ touchLoop modified true stack l
  | [], _, _, h, _ => by cases h
  | x :: l, stack, v, h, hm => by
    rw [touchLoop_cons]
    rcases List.mem_cons.mp h with rfl | h
    · rw [if_pos hm]
      exact List.mem_append_left _ (List.mem_filterMap.mpr ⟨some v, mem_stack1 stack v, rfl⟩)
    · split
      · exact List.mem_append_right _ (touching_contains_modified modified l _ v h hm)
      · exact touching_contains_modified modified l _ v h hm

/-- **Nothing is invented**: whatever is listed comes from the view (or was on the initial stack). -/
theorem touching_subset (modified : List Nat) (inc : Bool) : ∀ (l : List V) (stack : List (Option V)) (x : V),
    x ∈ touchLoop modified inc stack l → x ∈ l ∨ some x ∈ stack
  | [], _, _, h => by simp [touchLoop] at h
  | v :: l, stack, x, h => by
    rw [touchLoop_cons] at h
    have pushed : some x ∈ pushStack stack v → x ∈ v :: l ∨ some x ∈ stack := fun hn =>
      (stack1_subset stack v x hn).elim Or.inr fun e => Or.inl (e ▸ List.mem_cons_self ..)
    have later : x ∈ l ∨ some x ∈ pushStack stack v → x ∈ v :: l ∨ some x ∈ stack := fun h1 =>
      h1.elim (fun h2 => Or.inl (List.mem_cons_of_mem _ h2)) pushed
    split at h
    · rcases List.mem_append.mp h with h | h
      · obtain ⟨n, hn, hx⟩ := List.mem_filterMap.mp h
        cases (Option.filter_eq_some_iff.mp hx).1
        exact pushed hn
      · refine later ((touching_subset modified inc l _ x h).imp_right fun h1 => ?_)
        obtain ⟨n, hn, hx⟩ := List.mem_map.mp h1
        cases (Option.filter_eq_some_iff.mp hx).1
        exact hn
    · exact later (touching_subset modified inc l _ x h)

theorem touching_members (modified : List Nat) (inc : Bool) (l : List V) (x : V)
    (h : x ∈ touching modified inc l) : x ∈ l := by
  rcases touching_subset modified inc l [none] x h with h | h
  · exact h
  · simp at h

/-- **`reverse_by_depth` is an involution on well-nested lists** (forests in pre-order: every list that starts
at depth 0 and whose depths go up by at most one per step, in particular every merge-sorted view of a whole
branch): applied to its own result it gives the list back.  Together with `rbd_perm` and
`rbd_depth0_reversed` (at every level: `rbd_core`) this pins the grouping: a revision keeps the revisions it
encloses right behind it. -/
theorem rbd_involution (l : List V) (hwn : wellNested l = true) (hrev : ∀ v ∈ l, v.revno ≠ []) :
    ∃ r, reverseByDepth l = some r ∧ reverseByDepth r = some l ∧ r.Perm l := by
  have hkeep : ∀ x : List V, x.Perm l → x.filter (fun v => !v.revno.isEmpty) = x := by
    intro x hx
    rw [List.filter_eq_self]
    intro v hv
    have := hrev v (hx.mem_iff.mp hv)
    cases hr : v.revno with
    | nil => exact absurd hr this
    | cons _ _ => rfl
  refine ⟨rbdS l, ?_, ?_, rbdS_perm l⟩
  · rw [reverseByDepth_eq, hkeep _ (rbdS_perm l)]
  · rw [reverseByDepth_eq, rbdS_invol _ 0 l (fun _ _ => Nat.zero_le _) (need_zero_lt_fuel l) hwn, hkeep l (.refl l)]

example : wellNested [⟨5, [3], 0⟩, ⟨4, [1, 1, 2], 1⟩, ⟨3, [1, 2, 1], 2⟩, ⟨2, [1, 1, 1], 1⟩, ⟨1, [2], 0⟩, ⟨0, [1], 0⟩] = true := by
  decide +kernel
-- the hypothesis matters: a sub-range that starts inside a merge is not a forest, and not a fixed point of rbd ∘ rbd
example : wellNested [⟨3, [1, 2, 1], 2⟩, ⟨2, [1, 1, 1], 1⟩, ⟨1, [2], 0⟩] = false ∧
    (reverseByDepth [⟨3, [1, 2, 1], 2⟩, ⟨2, [1, 1, 1], 1⟩, ⟨1, [2], 0⟩]).bind reverseByDepth
      ≠ some [⟨3, [1, 2, 1], 2⟩, ⟨2, [1, 1, 1], 1⟩, ⟨1, [2], 0⟩] := by decide +kernel

/-- **Every merge-sorted view of a whole branch is a forest in pre-order.** -/
theorem mergeSort_wellNested (g : Graph) (tip : Nat) (ms : List MS) (hw : wf g = true) (ht : tip < g.length)
    (h : mergeSort g tip = some ms) : wellNested (ms.map ofMS) = true := by
  have hs := mergeSort_stepwise_core g ((wf_iff g).mp hw) tip ht ms h
  obtain ⟨e, rest, hcons, _, hdepth⟩ := mergeSort_tip_first g tip ms hw ht h
  apply wellNested_of_stepwise _ 0 _ (fun _ _ => Nat.zero_le _) (need_zero_lt_fuel _)
  rw [hcons] at hs ⊢
  simp only [List.map_cons, stepwise, Bool.and_eq_true, decide_eq_true_eq] at hs ⊢
  exact ⟨by simp [ofMS, hdepth], hs.2⟩

/-- **Forward and reverse logs of a whole branch are each other's reverse-by-depth**: the forward log is
`_rebase_merge_depth` of the reverse-by-depth `r` of the reverse log, and the reverse-by-depth of `r` is the
reverse log again. -/
theorem forward_reverse_involution (b : Branch) (t : Nat) (hw : wf b.g = true) (htip : b.tip = some t)
    (ht : t < b.g.length) :
    ∃ rev r, logRequest b none none false 0 0 false = .ok rev ∧ reverseByDepth rev = some r ∧
      logRequest b none none true 0 0 false = .ok (rebaseMergeDepth r) ∧ reverseByDepth r = some rev := by
  obtain ⟨ms, hms, hrev, _⟩ := view_complete_once b t hw htip ht
  obtain ⟨rev', r', hrev', hr', hfwd⟩ := forward_is_rbd_of_reverse b t hw htip ht
  rw [hrev] at hrev'
  cases hrev'
  have hne : ∀ v ∈ ms.map ofMS, v.revno ≠ [] := by
    intro v hv
    obtain ⟨e, he, rfl⟩ := List.mem_map.mp hv
    exact mergeSort_revno_ne_nil b.g ((wf_iff _).mp hw) t ht ms hms e he
  obtain ⟨r, h1, h2, _⟩ := rbd_involution (ms.map ofMS) (mergeSort_wellNested b.g t ms hw ht hms) hne
  rw [hr'] at h1
  cases h1
  exact ⟨_, _, hrev, hr', hfwd, h2⟩

/-- **Every merge-sorted list is stepwise**: the tip is at depth 0 and from one revision to the next (older)
one the merge depth goes up by at most one (it may drop by any amount). -/
theorem mergeSort_stepwise (g : Graph) (tip : Nat) (ms : List MS) (hw : wf g = true) (ht : tip < g.length)
    (h : mergeSort g tip = some ms) : stepwise 1 (ms.map ofMS) = true :=
  mergeSort_stepwise_core g ((wf_iff g).mp hw) tip ht ms h

/-- **The merge stack computes the specification.**  On every view whose depths go up by at most one per step,
for both values of `include_merges`, `_filter_revisions_touching_path` lists exactly the revisions that
modified the file or enclose (merge) a revision that did — in view order, each once per occurrence. -/
theorem touching_eq_spec (modified : List Nat) (inc : Bool) (l : List V) (h : stepwise 1 l = true) :
    touching modified inc l = enclosingExpected modified inc l := by
  have := touchLoop_spec modified inc l [none] h
  rw [touching, this]
  simp [emitP]

-- non-vacuity: a view that drops two levels in one step (the shape the seeded change S1 broke)
example : stepwise 1 [⟨4, [3], 0⟩, ⟨3, [1, 1, 2], 1⟩, ⟨2, [1, 2, 1], 2⟩, ⟨1, [2], 0⟩, ⟨0, [1], 0⟩] = true := by decide +kernel
example : touching [2] false [⟨4, [3], 0⟩, ⟨3, [1, 1, 2], 1⟩, ⟨2, [1, 2, 1], 2⟩, ⟨1, [2], 0⟩, ⟨0, [1], 0⟩]
    = [⟨4, [3], 0⟩] := by decide +kernel
-- the hypothesis matters: when the depth jumps by two the stack algorithm loses the enclosing revision
example : stepwise 1 [⟨2, [3], 0⟩, ⟨1, [1, 2, 1], 2⟩] = false ∧
    touching [1] true [⟨2, [3], 0⟩, ⟨1, [1, 2, 1], 2⟩] ≠ enclosingExpected [1] true [⟨2, [3], 0⟩, ⟨1, [1, 2, 1], 2⟩] := by
  decide +kernel

/-- **Per-file log of a whole branch**: the filter applied to the complete view of a branch (the only way
`_log_revision_iterator_using_per_file_graph` calls it without a range) is the specification. -/
theorem touching_full_view (b : Branch) (t : Nat) (hw : wf b.g = true) (htip : b.tip = some t)
    (ht : t < b.g.length) (modified : List Nat) (inc : Bool) :
    ∃ view, logRequest b none none false 0 0 false = .ok view ∧
      touching modified inc view = enclosingExpected modified inc view := by
  obtain ⟨ms, hms, hlog, _⟩ := view_complete_once b t hw htip ht
  exact ⟨_, hlog, touching_eq_spec modified inc _ (mergeSort_stepwise b.g t ms hw ht hms)⟩

theorem enclosingExpected_sublist (modified : List Nat) (inc : Bool) : ∀ l : List V,
    List.Sublist (enclosingExpected modified inc l) l
  | [] => List.Sublist.slnil
  | v :: l => by
    unfold enclosingExpected
    split
    · exact (enclosingExpected_sublist modified inc l).cons_cons v
    · exact (enclosingExpected_sublist modified inc l).cons v

/-- a revision of the view that modified the file is in the specification (with merges: any; without: depth 0) -/
theorem enclosingExpected_contains (modified : List Nat) (inc : Bool) : ∀ (l : List V) (v : V), v ∈ l →
    modified.contains v.rev = true → (inc || v.depth == 0) = true → v ∈ enclosingExpected modified inc l
  | [], _, h, _, _ => by cases h
  | x :: l, v, h, hm, hp => by
    unfold enclosingExpected
    rcases List.mem_cons.mp h with rfl | h
    · rw [hm, hp]; simp
    · have := enclosingExpected_contains modified inc l v h hm hp
      split
      · exact List.mem_cons_of_mem _ this
      · exact this

/-- whatever the specification lists modified the file or is followed, at greater depth throughout, by a
revision that did; and it passes the merge test -/
theorem enclosingExpected_reason (modified : List Nat) (inc : Bool) : ∀ (l : List V) (x : V),
    x ∈ enclosingExpected modified inc l →
      ∃ pre post, l = pre ++ x :: post ∧
        (modified.contains x.rev || groupHasMod modified x.depth post) = true ∧ (inc || x.depth == 0) = true
  | [], _, h => by simp [enclosingExpected] at h
  | v :: l, x, h => by
    unfold enclosingExpected at h
    split at h
    · rename_i hc
      rcases List.mem_cons.mp h with rfl | h
      · simp only [Bool.and_eq_true] at hc
        exact ⟨[], l, rfl, hc.1, hc.2⟩
      · obtain ⟨pre, post, hl, h1, h2⟩ := enclosingExpected_reason modified inc l x h
        exact ⟨v :: pre, post, by rw [hl]; rfl, h1, h2⟩
    · obtain ⟨pre, post, hl, h1, h2⟩ := enclosingExpected_reason modified inc l x h
      exact ⟨v :: pre, post, by rw [hl]; rfl, h1, h2⟩

/-- **Mainline revisions that modified the file are listed** — with and without merges (levels=1 uses
`include_merges = False`). -/
theorem touching_lists_modified (modified : List Nat) (inc : Bool) (l : List V) (h : stepwise 1 l = true) (v : V)
    (hv : v ∈ l) (hm : modified.contains v.rev = true) (hp : (inc || v.depth == 0) = true) :
    v ∈ touching modified inc l := by
  rw [touching_eq_spec modified inc l h]
  exact enclosingExpected_contains modified inc l v hv hm hp

/-- **Nothing else is listed**: a listed revision modified the file or encloses a revision that did. -/
theorem touching_listed_reason (modified : List Nat) (inc : Bool) (l : List V) (h : stepwise 1 l = true) (x : V)
    (hx : x ∈ touching modified inc l) :
    ∃ pre post, l = pre ++ x :: post ∧
      (modified.contains x.rev || groupHasMod modified x.depth post) = true ∧ (inc || x.depth == 0) = true := by
  rw [touching_eq_spec modified inc l h] at hx
  exact enclosingExpected_reason modified inc l x hx

/-- the listing keeps the order of the view -/
theorem touching_sublist (modified : List Nat) (inc : Bool) (l : List V) (h : stepwise 1 l = true) :
    List.Sublist (touching modified inc l) l := by
  rw [touching_eq_spec modified inc l h]
  exact enclosingExpected_sublist modified inc l

example : touching [2] true [⟨3, [3], 0⟩, ⟨2, [1, 1, 1], 1⟩, ⟨1, [2], 0⟩, ⟨0, [1], 0⟩]
    = [⟨3, [3], 0⟩, ⟨2, [1, 1, 1], 1⟩] := by decide +kernel

end BreezyVerif.C25
