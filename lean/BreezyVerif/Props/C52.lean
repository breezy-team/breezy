import BreezyVerif.Lemmas.C52
import BreezyVerif.Lemmas.C52U
/-!
C52 — every reconfiguration and every format conversion preserves the
observation of a location (branch tip, history, tags, working tree content and
pending changes), for every location state, every target and every path
through the layout graph (no bound on its length), whether the operation
succeeds, is refused, or fails half-way; a successful `to_X` yields layout X;
`upgrade` runs the converters that reach the target formats and keeps what is
observed.
-/
namespace BreezyVerif.C52

/-- **One transition, forced or not** (`to_branch`, `to_tree`, `to_checkout`,
`to_lightweight_checkout`, `to_standalone`, `to_use_shared`): the format tag is
unchanged; tip and history are unchanged or become those of the branch at the
bind location; every tag definition survives (local tags are merged into the
referenced branch, which only adds definitions) and no definition appears from
nowhere; a working tree that is kept keeps its content and pending changes; a
tree is only removed when it has no pending changes, unless forced; a tree that
is created is the clean tree of the tip.  Holds for the state reached on
success, on refusal and on a failure in mid-`apply`. -/
theorem reconfigure_keeps_any (v : Variant) (t : Target) (force : Bool) (l : Loc) (hinv : NoConflict l.tags l.refTags) :
    KeepsF force l (reconfigure v t force l).1 := by
  obtain ⟨f, hf, ⟨_, hr⟩ | ⟨_, hr⟩⟩ := reconfigure_eq v t force l <;> rw [hr]
  · exact keepsF_refl force l hinv
  · exact applyFlags_keepsF v l f force hinv (factory_flags l t f hf).1

/-- **One transition, not forced**: in addition tip and history are unchanged —
`_check` refuses to replace the branch by a reference to a branch with another tip. -/
theorem convert_preserves_obs (v : Variant) (t : Target) (l : Loc) (hinv : RefInv l) : Keeps l (reconfigure v t false l).1 := by
  have htip : (reconfigure v t false l).1.tip = l.tip ∧ (reconfigure v t false l).1.hist = l.hist := by
    obtain ⟨f, hf, ⟨_, hr⟩ | ⟨_, hr⟩⟩ := reconfigure_eq v t false l <;> rw [hr]
    · exact ⟨rfl, rfl⟩
    · exact applyFlags_tip v l f hinv (factory_flags l t f hf).2
  exact ⟨htip.1, htip.2, reconfigure_keeps_any v t false l hinv.2⟩

theorem runAll_keeps (v : Variant) (ts : List Target) (l : Loc) (hi : TreeInv l) (hr : RefInv l) :
    Keeps l (runAll v false ts l) := by
  induction ts generalizing l with
  | nil => exact keeps_refl l hr.2
  | cons t ts ih =>
    have hk := convert_preserves_obs v t l hr
    exact keeps_trans hi hk (ih _ (keeps_treeInv l _ hk hi) (keeps_refInv l _ hk hr))

/-- **Any path through the layout graph.**  Starting from a location whose
clean tree (if it has one and it is clean) is the tree of its tip, after any
sequence of reconfigurations — each attempted whatever happened to the one
before — tip, history and format are unchanged; every tag keeps its definition
and every tag at the end was a tag of the location or of the branch at the bind
location; pending changes are never lost (a tree with pending changes is still
there, untouched); and whenever the location has a working tree at the start
and at the end, its content and pending-change state are the same. -/
theorem reconfigure_composes (v : Variant) (ts : List Target) (l : Loc) (hi : TreeInv l) (hr : RefInv l) :
    let l' := runAll v false ts l
    l'.tip = l.tip ∧ l'.hist = l.hist ∧ l'.format = l.format ∧
    TagsSub l.tags l'.tags ∧ TagsFrom l.tags l.refTags l'.tags ∧ TagsFrom l.tags l.refTags l'.refTags ∧
    (l.tree = true → l.dirty = true → l'.tree = true ∧ l'.treeCode = l.treeCode ∧ l'.dirty = true) ∧
    (l.tree = true → l'.tree = true → l'.treeCode = l.treeCode ∧ l'.dirty = l.dirty) ∧
    (l'.tree = true → l.tree = false → l'.dirty = false ∧ l'.treeCode = cleanCode l.tip) := by
  obtain ⟨h1, h2, _, h3, ⟨_, _, t1, _, t3, t4, _⟩, a1, a2, a3⟩ := runAll_keeps v ts l hi hr
  refine ⟨h1, h2, h3, t1, t3, t4, fun ht hd => ?_, a1, fun ht' ht => h1 ▸ (a3 ht ht')⟩
  cases ht' : (runAll v false ts l).tree
  · exact absurd ((a2 ht ht').resolve_right (by decide)) (by simp [hd])
  · exact ⟨rfl, (a1 ht ht').1, (a1 ht ht').2.trans hd⟩

/-- **Any path, forced or not**: tip and history at the end are those at the
start or those of the branch at the bind location (never anything else), the
format tag stays, every tag keeps its definition and none appears from nowhere. -/
theorem forced_path_tip (v : Variant) (force : Bool) (ts : List Target) (l : Loc) (hinv : NoConflict l.tags l.refTags) :
    let l' := runAll v force ts l
    TipKeeps l l' ∧ l'.format = l.format ∧ TagsSub l.tags l'.tags ∧ TagsFrom l.tags l.refTags l'.tags := by
  suffices h : TipKeeps l (runAll v force ts l) ∧ (runAll v force ts l).format = l.format ∧ RefKeeps l (runAll v force ts l) from
    ⟨h.1, h.2.1, h.2.2.2.2.1, h.2.2.2.2.2.2.1⟩
  induction ts generalizing l with
  | nil => exact ⟨Or.inl ⟨rfl, rfl⟩, rfl, refKeeps_refl l hinv⟩
  | cons t ts ih =>
    obtain ⟨k1, k2, k3, _⟩ := reconfigure_keeps_any v t force l hinv
    exact obs_trans ⟨k1, k2, k3⟩ (ih _ k3.2.2.2.2.2.2)

/-- a forced path from a location that is in sync with its bind location keeps tip and history -/
theorem forced_synced_preserves (v : Variant) (ts : List Target) (l : Loc) (hr : RefInv l) (hs : l.refTip = l.tip) :
    (runAll v true ts l).tip = l.tip ∧ (runAll v true ts l).hist = l.hist := by
  have h := (forced_path_tip v true ts l hr.2).1
  unfold TipKeeps at h
  rcases h with h | h
  · exact h
  · exact ⟨h.1.trans hs, h.2.trans (hr.1 hs)⟩

/-- **The layout asked for is the layout obtained**: a `to_X` that succeeds (forced or not) leaves layout X. -/
theorem reconfigure_ok_layout (v : Variant) (t : Target) (force : Bool) (l : Loc) (h : (reconfigure v t force l).2 = none) :
    layoutIs t (reconfigure v t force l).1 = true := by
  obtain ⟨f, hf, ⟨_, hr⟩ | ⟨_, hr⟩⟩ := reconfigure_eq v t force l <;> rw [hr] at h ⊢
  · cases h
  · rw [applyFlags_ok v l f force h]
    exact final_layout l t f hf

/-- `AlreadyBranch` / `AlreadyTree` / … is raised exactly when the location has the layout asked for -/
theorem already_iff_layout (v : Variant) (t : Target) (force : Bool) (l : Loc) :
    (reconfigure v t force l).2 = some .already ↔ layoutIs t l = true := by
  obtain ⟨f, hf, ⟨ha, hr⟩ | ⟨ha, hr⟩⟩ := reconfigure_eq v t force l <;> rw [hr]
  · exact ⟨fun _ => (factory_any_iff l t f hf).mp ha, fun _ => rfl⟩
  · refine ⟨fun h => absurd h (applyFlags_err v l f force).1, fun h => ?_⟩
    rw [(factory_any_iff l t f hf).mpr h] at ha
    cases ha

/-- an error other than NoBindLocation / NoSharedRepository leaves the location exactly as it was -/
theorem refusal_changes_nothing (v : Variant) (t : Target) (force : Bool) (l : Loc) (e : Err) (h : (reconfigure v t force l).2 = some e)
    (he : e = .already ∨ e = .notSupported ∨ e = .uncommittedChanges ∨ e = .unsyncedBranches) :
    (reconfigure v t force l).1 = l := by
  obtain ⟨f, _, ⟨_, hr⟩ | ⟨_, hr⟩⟩ := reconfigure_eq v t force l <;> rw [hr] at h ⊢
  · have herr := applyFlags_err v l f force
    rcases he with rfl | rfl | rfl | rfl
    · exact absurd h herr.1
    · exact absurd h herr.2.1
    · exact herr.2.2 (.inl h)
    · exact herr.2.2 (.inr h)

/-- why `_check` matters: with `force` a tree with pending changes is removed -/
theorem force_destroys_witness :
    let l : Loc := { tree := true, dirty := true, branch := .unbound, repo := .own, sharedAbove := false, bindKnown := false,
                     format := 0, tip := 1, hist := 1, tags := [], treeCode := 0, refTip := 1, refHist := 1, refTags := [] }
    (reconfigure ⟨false⟩ .branch true l).1.tree = false ∧ (reconfigure ⟨false⟩ .branch true l).2 = none ∧
    (reconfigure ⟨false⟩ .branch false l) = (l, some .uncommittedChanges) := by decide

/-- … and a branch is replaced by a reference to a branch with ANOTHER tip: the tip moves (refused when not forced) -/
theorem force_moves_tip_witness :
    let l : Loc := { tree := true, dirty := false, branch := .bound, repo := .shared, sharedAbove := true, bindKnown := true,
                     format := 0, tip := 1, hist := 1, tags := [(0, 1)], treeCode := 0, refTip := 2, refHist := 2, refTags := [(1, 1)] }
    (reconfigure ⟨false⟩ .lightweightCheckout true l).2 = none ∧ (reconfigure ⟨false⟩ .lightweightCheckout true l).1.tip = 2 ∧
    (reconfigure ⟨false⟩ .lightweightCheckout true l).1.tags = [(1, 1), (0, 1)] ∧
    (reconfigure ⟨false⟩ .lightweightCheckout false l) = (l, some .unsyncedBranches) := by decide

/-- two definitions of one tag: `merge_to` keeps the referenced branch's, the local definition is dropped silently
(this is what `NoConflict` excludes) -/
theorem tag_conflict_witness :
    let l : Loc := { tree := true, dirty := false, branch := .unbound, repo := .own, sharedAbove := false, bindKnown := true,
                     format := 0, tip := 1, hist := 1, tags := [(0, 1)], treeCode := 0, refTip := 1, refHist := 1, refTags := [(0, 2)] }
    (reconfigure ⟨false⟩ .lightweightCheckout false l).2 = none ∧ lookupTag l.tags 0 = some 1 ∧
    lookupTag (reconfigure ⟨false⟩ .lightweightCheckout false l).1.tags 0 = some 2 := by decide

/-- the variant of `_check` that compares the tag dictionaries refuses exactly that (nothing changes) -/
theorem tagcheck_refuses_conflict (l : Loc) (hc : hasConflict l.tags l.refTags = true) (hb : l.branch ≠ .reference) :
    (reconfigure ⟨true⟩ .lightweightCheckout false l).1 = l ∧ (reconfigure ⟨true⟩ .lightweightCheckout false l).2 ≠ none := by
  obtain ⟨f, hf, hr⟩ := reconfigure_eq ⟨true⟩ .lightweightCheckout false l
  have hf' : f.createReference = true ∧ f.any = true := by
    simp [factory, plan] at hf
    subst hf
    simp [Flags.any, hb]
  rcases hr with ⟨ha, _⟩ | ⟨_, hr⟩
  · rw [hf'.2] at ha; cases ha
  · rw [hr]; exact applyFlags_tagCheck l f hf'.1 hb hc

/-- a failure in the middle of `apply` leaves the earlier steps done: a branch
without a remembered location asked to become a checkout gets its working tree
and then fails with NoBindLocation -/
theorem partial_apply_witness :
    let l : Loc := { tree := false, dirty := false, branch := .unbound, repo := .own, sharedAbove := false, bindKnown := false,
                     format := 0, tip := 1, hist := 1, tags := [], treeCode := 0, refTip := 1, refHist := 1, refTags := [] }
    (reconfigure ⟨false⟩ .checkout false l).2 = some .noBindLocation ∧ (reconfigure ⟨false⟩ .checkout false l).1.tree = true ∧
    (reconfigure ⟨false⟩ .checkout false l).1.branch = .unbound := by decide

/-! non-vacuity: a dirty bound checkout in a shared repository whose master has one more tag walks through five layouts
and keeps everything; the same with a CLEAN tree (`TreeInv` holds non-trivially: tree code = clean code of the tip) that
is destroyed and re-created on the way -/
def exDirty : Loc :=
  { tree := true, dirty := true, branch := .bound, repo := .shared, sharedAbove := true, bindKnown := true,
    format := 0, tip := 5, hist := 5, tags := [(0, 3)], treeCode := 0, refTip := 5, refHist := 5, refTags := [(0, 3), (1, 4)] }

def exClean : Loc := { exDirty with dirty := false, treeCode := cleanCode 5 }

example :
    TreeInv exDirty ∧ RefInv exDirty ∧
    (runAll ⟨false⟩ false [.lightweightCheckout, .tree, .standalone, .checkout, .useShared, .branch] exDirty).branch = .unbound ∧
    (runAll ⟨false⟩ false [.lightweightCheckout, .tree, .standalone, .checkout, .useShared, .branch] exDirty).tree = true ∧
    (runAll ⟨false⟩ false [.lightweightCheckout, .tree, .standalone, .checkout, .useShared, .branch] exDirty).tags = [(0, 3), (1, 4)] := by
  refine ⟨by intro _ h; simp [exDirty] at h, ⟨fun _ => rfl, ?_⟩, by decide, by decide, by decide⟩
  intro n v w h1 h2
  simp only [exDirty, lookupTag] at h1 h2
  split at h1 <;> simp_all

example :
    TreeInv exClean ∧ exClean.tree = true ∧ exClean.dirty = false ∧
    (runAll ⟨false⟩ false [.branch, .lightweightCheckout, .tree] exClean).tree = true ∧
    obs (runAll ⟨false⟩ false [.branch, .lightweightCheckout, .tree] exClean) = { obs exClean with tags := [(0, 3), (1, 4)] } := by
  refine ⟨fun _ _ => rfl, rfl, rfl, by decide, by decide⟩

example : (reconfigure ⟨false⟩ .tree false exDirty).2 = none ∧ layoutIs .tree exDirty = false := by decide

/-- **Upgrade keeps what is observed**: whatever the component formats and the
target, after `upgrade` (complete, up to date, or stopped by
BadConversionTarget) the branch's `last_revision_info`, its tags, its
remembered locations, the working tree's parents (basis + pending merges) and
inventory and the repository's revisions are what they were. -/
theorem upgrade_preserves_obs (tg : UTarget) (u : ULoc) : uobs (upgrade tg u).1 = uobs u := by
  unfold upgrade
  split
  · rfl
  · exact (upgradeLoop_spec 4 tg u).1

/-- **Upgrade reaches the target** in at most two passes of the converter, without
error, from every supported combination: branch formats 5–8 not newer than the
target's, working tree formats 3–6 with a dirstate target (4–6) not older than
the tree (or target 5 / 6 from any dirstate tree). -/
theorem upgrade_reaches_target (tg : UTarget) (u : ULoc) (h : Supported tg u) (hn : needsConversion tg u = true) :
    (upgrade tg u).2.2 = none ∧ needsConversion tg (upgrade tg u).1 = false ∧ (upgrade tg u).2.1.length ≤ 2 := by
  obtain ⟨hs1, h31⟩ := upgradePass_supported tg u h
  have he1 := (upgradePass_fmts tg u h).1
  have he2 := (upgradePass_fmts tg _ hs1).1
  -- after the first pass no tree of format 3 is left, so the second converts whatever still needs it
  have hd2 := upgradePass_done tg _ hs1 h31
  unfold upgrade
  simp only [hn, Bool.not_true, Bool.false_eq_true, if_false]
  rw [upgradeLoop_step 3 tg u hn he1]
  cases hn1 : needsConversion tg (upgradePass tg u).1
  · rw [upgradeLoop_stop 3 tg _ hn1]
    simp [hn1]
  · rw [upgradeLoop_step 2 tg _ hn1 he2, upgradeLoop_stop 2 tg _ hd2]
    simp [hd2]

/-- UpToDateFormat is raised exactly when no component needs converting (and nothing is touched) -/
theorem upgrade_uptodate_iff (tg : UTarget) (u : ULoc) :
    (upgrade tg u).2.2 = some .upToDate ↔ needsConversion tg u = false := by
  unfold upgrade
  cases hn : needsConversion tg u
  · simp
  · simp only [Bool.not_true, Bool.false_eq_true, if_false]
    exact ⟨fun h => absurd h (upgradeLoop_spec 4 tg u).2, fun h => nomatch h⟩

/-- the knit-era location (branch 5, tree 3) needs TWO passes: the tree object is not re-opened after `3to4` -/
theorem knit_two_pass_witness :
    let u : ULoc := { repo := some 1, revs := 9,
                      branch := some { fmt := 5, revHistory := [1, 2, 3], lastRev := (0, 0), parent := some 1, bound := none,
                                       push := none, tags := [] },
                      tree := some { fmt := 3, lastRevision := 3, pendingMerges := [8], dsParents := [], inv := 7 } }
    Supported ⟨2, 7, 6⟩ u ∧
    (upgrade ⟨2, 7, 6⟩ u).2.1 = [[.repoCopy, .b5to6, .b6to7, .t3to4], [.t4or5to6]] ∧
    ((upgrade ⟨2, 7, 6⟩ u).1.branch.map (·.info)) = some (3, 3) ∧
    ((upgrade ⟨2, 7, 6⟩ u).1.tree.map (·.parents)) = some [3, 8] := by
  refine ⟨by decide, by decide, by decide, by decide⟩

/-- a branch newer than the target's: BadConversionTarget, after the repository has already been converted -/
theorem branch_downgrade_witness :
    let u : ULoc := { repo := some 1, revs := 9,
                      branch := some { fmt := 8, revHistory := [], lastRev := (3, 3), parent := none, bound := none,
                                       push := none, tags := [(0, 1)] },
                      tree := none }
    (upgrade ⟨2, 7, 6⟩ u).2.2 = some .badConversionTarget ∧ (upgrade ⟨2, 7, 6⟩ u).1.repo = some 2 ∧
    uobs (upgrade ⟨2, 7, 6⟩ u).1 = uobs u := by decide

end BreezyVerif.C52
