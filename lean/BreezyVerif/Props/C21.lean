import BreezyVerif.Model.C21
import BreezyVerif.Lemmas.C21F
/-!
C21 — theorems.  Every well-formed revision graph (any size, merges, several
roots, ghosts), every pair of tips (`null:` included), every stop revision,
overwrite flag, append-only setting, bound master, and every finite sequence of
pull/push operations over any number of branches.

`wf g` (the graph is listed children-first, i.e. it is a DAG) is the only
hypothesis on graphs; `requested src stop = some (s, rn)` names the revision
`_update_revisions` is asked to move to (`stop_revision`, or the source tip).
-/
namespace BreezyVerif.C21

/-! ### ancestry is a partial order -/

example : wf [(4, [2, 3, 100]), (3, [1]), (2, [1]), (1, [])] = true := by decide +kernel
example : isAnc [(4, [2, 3, 100]), (3, [1]), (2, [1]), (1, [])] (some 1) (some 4) = true ∧
    isAnc [(4, [2, 3, 100]), (3, [1]), (2, [1]), (1, [])] (some 2) (some 3) = false := by decide +kernel

/-! ### classification -/

/-- `_revision_relations` never reaches its `AssertionError` branch: on a DAG
the heads of two revisions are always one of `{b}`, `{a, b}`, `{a}`. -/
theorem relations_total (g : Graph) (hwf : wf g = true) (a b : Tip) :
    revisionRelations (heads g [a, b]) a b ≠ .invalid := by
  cases h1 : isAnc g a b
  · cases h2 : isAnc g b a
    · rw [relation_diverged g a b h1 h2]; simp
    · rw [relation_descends g a b h1 h2]; simp
  · rw [relation_contained g hwf a b h1]; simp

/-- The target already contains the requested revision (it is the tip or an
ancestor of the tip): nothing changes and no error is raised. -/
theorem update_contained (g : Graph) (hwf : wf g = true) (src tgt : Br) (stop : Option Tip)
    (s : Tip) (rn : Option Nat) (hreq : requested src stop = some (s, rn))
    (hp : tipPresent g s = true) (h : isAnc g s tgt.tip = true) :
    updateRevisions g src tgt stop false = .ok tgt := by
  rw [update_eq_spec g hwf, hreq]
  simp [updateSpec, hp, h]

/-- Neither contains the other: `DivergedBranches`. (The tip is unchanged
because an error carries no new state: see `update_error_unchanged`.) -/
theorem update_diverged (g : Graph) (hwf : wf g = true) (src tgt : Br) (stop : Option Tip)
    (s : Tip) (rn : Option Nat) (hreq : requested src stop = some (s, rn))
    (hp : tipPresent g s = true) (h1 : isAnc g s tgt.tip = false) (h2 : isAnc g tgt.tip s = false) :
    updateRevisions g src tgt stop false = .error .diverged := by
  rw [update_eq_spec g hwf, hreq]
  simp [updateSpec, hp, h1, h2]

/-- The requested revision properly descends from the tip: the tip moves to it
and the recorded revno is the length of its left-hand history — provided that
length exists (no ghost on the left-hand side), both branches record correct
revnos and the target is not append-only (for which see `append_only`). -/
theorem update_descends (g : Graph) (hwf : wf g = true) (src tgt : Br) (stop : Option Tip)
    (s : Tip) (rn : Option Nat) (hreq : requested src stop = some (s, rn))
    (hp : tipPresent g s = true) (h1 : isAnc g tgt.tip s = true) (hne : s ≠ tgt.tip)
    (hao : tgt.appendOnly = false) (hs : revnoOK g src = true) (ht : revnoOK g tgt = true)
    (n : Nat) (hn : revnoOf g s = some n) :
    updateRevisions g src tgt stop false = .ok { tgt with tip := s, revno := n } := by
  have h2 : isAnc g s tgt.tip = false := by
    cases hh : isAnc g s tgt.tip
    · rfl
    · exact absurd (isAnc_antisymm g hwf _ _ hh h1) hne
  exact update_moves g hwf src tgt stop s rn false hreq hp (fun _ => ⟨h2, h1⟩) hs ht n hn
    (fun k => setLast_free g tgt k s hao)

/-- With overwrite the tip becomes the requested revision whatever the
relation between the two (same side conditions as `update_descends`). -/
theorem overwrite_sets (g : Graph) (hwf : wf g = true) (src tgt : Br) (stop : Option Tip)
    (s : Tip) (rn : Option Nat) (hreq : requested src stop = some (s, rn))
    (hp : tipPresent g s = true)
    (hao : tgt.appendOnly = false) (hs : revnoOK g src = true) (ht : revnoOK g tgt = true)
    (n : Nat) (hn : revnoOf g s = some n) :
    updateRevisions g src tgt stop true = .ok { tgt with tip := s, revno := n } := by
  exact update_moves g hwf src tgt stop s rn true hreq hp nofun hs ht n hn
    (fun k => setLast_free g tgt k s hao)

-- non-vacuity of the hypotheses of the four classification theorems
def exG : Graph := [(4, [2, 3, 100]), (3, [1]), (2, [1]), (1, [])]
def exSrc : Br := { tip := some 4, revno := 3 }
def exTgt : Br := { tip := some 2, revno := 2 }
example : wf exG = true ∧ tipPresent exG (some 4) = true ∧
    isAnc exG exTgt.tip (some 4) = true ∧ revnoOK exG exSrc = true ∧ revnoOK exG exTgt = true ∧
    isAnc exG (some 3) exTgt.tip = false ∧ isAnc exG exTgt.tip (some 3) = false := by decide +kernel
example : requested exSrc none = some (some 4, some 3) := rfl
example : revnoOf exG (some 4) = some 3 := rfl
example : updateRevisions exG exSrc exTgt none false = .ok { tip := some 4, revno := 3 } := rfl
example : updateRevisions exG exSrc exTgt (some (some 3)) false = .error .diverged := rfl
example : updateRevisions exG exSrc exTgt (some (some 1)) false = .ok exTgt := rfl
example : updateRevisions exG exSrc exTgt (some (some 3)) true = .ok { tip := some 3, revno := 2 } := rfl

/-! ### errors leave the target alone -/

/-- Whatever exception a pull or push ends with, the target branch's tip,
revno and settings are exactly what they were (a bound target's master may
already have been updated: the master is updated first). -/
theorem update_error_unchanged (g : Graph) (src tgt : Br) (m : Option Br) (stop : Option Tip) (ow : Bool) :
    ((pullOp g src tgt m stop ow).err ≠ none → (pullOp g src tgt m stop ow).tgt = tgt) ∧
    ((pushOp g src tgt m stop ow).err ≠ none → (pushOp g src tgt m stop ow).tgt = tgt) :=
  ⟨bound2_err_unchanged _ tgt m, bound2_err_unchanged _ tgt m⟩

/-! ### the title: history is never dropped -/

/-- Without overwrite, whatever `_update_revisions` accepts has the old tip as
an ancestor (or is the old tip): for ALL stop revisions, source states,
append-only settings, with or without ghosts. -/
theorem no_overwrite_never_drops (g : Graph) (hwf : wf g = true) (src tgt : Br) (stop : Option Tip)
    (t' : Br) (h : updateRevisions g src tgt stop false = .ok t') :
    isAnc g tgt.tip t'.tip = true := by
  rcases update_ok_inv g src tgt stop false t' h with rfl | ⟨s, rn, n, _, _, hc, _, hset⟩
  · exact isAnc_refl g _
  · rw [setLast_ok g tgt n s t' hset]
    exact check_false g hwf s tgt.tip (hc rfl)

/-- Same for whole pull / push operations, for the target and for the master
of a bound target. -/
theorem push_pull_never_drop (g : Graph) (hwf : wf g = true) (src tgt : Br) (m : Option Br)
    (stop : Option Tip) :
    (isAnc g tgt.tip (pullOp g src tgt m stop false).tgt.tip = true ∧
      ∀ mb, m = some mb → ∃ mb', (pullOp g src tgt m stop false).master = some mb' ∧
        isAnc g mb.tip mb'.tip = true) ∧
    (isAnc g tgt.tip (pushOp g src tgt m stop false).tgt.tip = true ∧
      ∀ mb, m = some mb → ∃ mb', (pushOp g src tgt m stop false).master = some mb' ∧
        isAnc g mb.tip mb'.tip = true) :=
  have h := applyOp_pres (fun b b' => isAnc g b.tip b'.tip = true) (fun _ => isAnc_refl g _) g src stop false
    (fun b b' => no_overwrite_never_drops g hwf src b stop b')
  ⟨h true tgt m, h false tgt m⟩

/-! ### revno = length of the left-hand history -/

/-- If source and target record correct revnos, so does the target after any
accepted update (any stop revision, overwrite or not, append-only or not). -/
theorem revno_is_lefthand_length (g : Graph) (hwf : wf g = true) (src tgt : Br) (stop : Option Tip)
    (ow : Bool) (hs : revnoOK g src = true) (ht : revnoOK g tgt = true)
    (t' : Br) (h : updateRevisions g src tgt stop ow = .ok t') : revnoOK g t' = true := by
  rcases update_ok_inv g src tgt stop ow t' h with rfl | ⟨s, rn, n, hreq, hp, _, hn, hset⟩
  · exact ht
  · rw [setLast_ok g tgt n s t' hset, revnoOK_iff]
    exact update_revno_correct g hwf src tgt stop s rn n hreq hp hs ht hn

example : revnoOK exG exSrc = true := by decide +kernel

/-! ### append-only -/

/-- With append-only enabled, an update (overwrite or not) that moves the tip
only moves it to a revision whose left-hand chain contains the old tip. -/
theorem append_only (g : Graph) (hwf : wf g = true) (src tgt : Br) (stop : Option Tip) (ow : Bool)
    (hao : tgt.appendOnly = true) (t' : Br) (h : updateRevisions g src tgt stop ow = .ok t') :
    t' = tgt ∨ tgt.tip = none ∨ ∃ o r, tgt.tip = some o ∧ t'.tip = some r ∧ o ∈ lhChain g r := by
  rcases update_ok_inv g src tgt stop ow t' h with rfl | ⟨s, rn, n, _, _, _, _, hset⟩
  · exact Or.inl rfl
  · right
    rcases setLast_append_only g tgt n s t' hao hset with h0 | ⟨o, r, h1, h2, h3⟩
    · exact Or.inl h0
    · exact Or.inr ⟨o, r, h1, by rw [setLast_ok g tgt n s t' hset]; exact h2, h3⟩

-- an append-only target rejects an overwrite to a sibling and accepts a left-hand descendant
example : updateRevisions exG exSrc { tip := some 2, revno := 2, appendOnly := true } (some (some 3)) true
    = .error .appendOnly := rfl
example : updateRevisions exG exSrc { tip := some 3, revno := 2, appendOnly := true } none false
    = .error .appendOnly := rfl
example : updateRevisions exG exSrc { tip := some 2, revno := 2, appendOnly := true } none false
    = .ok { tip := some 4, revno := 3, appendOnly := true } := rfl

/-! ### sequences of operations over any number of branches -/

/-- **Invariant.** Starting from branches that all record correct revnos,
every state reachable by any finite sequence of pulls and pushes (any stop
revisions, overwrite flags, bound masters, append-only settings; failing
operations included) records, for every branch, a revno equal to the length of
its tip's left-hand history. -/
theorem run_revno_invariant (g : Graph) (hwf : wf g = true) (ops : List Op) :
    ∀ (s : List Br), (∀ b ∈ s, revnoOK g b = true) → ∀ b ∈ run g s ops, revnoOK g b = true := by
  intro s h b' hb'
  obtain ⟨b, hb, hR⟩ := (run_pointwise (fun b b' => revnoOK g b = true → revnoOK g b' = true) (revnoOK g · = true)
    (fun _ h => h) (fun _ _ _ h1 h2 h => h2 (h1 h)) (fun _ _ h hR => hR h) g ops
    (fun op _ src stop b b' hs hb ht => revno_is_lefthand_length g hwf src b stop op.ow hs ht b' hb) s h).of_mem b' hb'
  exact hR (h b hb)

/-- **No history is ever dropped.** After any finite sequence of pulls and
pushes none of which overwrites, every branch's tip has that branch's original
tip as an ancestor (or is still the original tip) — whichever operations
failed, whatever masters were involved. -/
theorem run_never_drops (g : Graph) (hwf : wf g = true) (ops : List Op) :
    (∀ op ∈ ops, op.ow = false) → ∀ (s : List Br) (i : Nat) (b : Br), s[i]? = some b →
      ∃ b', (run g s ops)[i]? = some b' ∧ isAnc g b.tip b'.tip = true :=
  fun hno s => (run_pointwise (fun b b' => isAnc g b.tip b'.tip = true) (fun _ => True) (fun _ => isAnc_refl g _)
    (fun _ _ _ => isAnc_trans g hwf _ _ _) (fun _ _ _ _ => trivial) g ops
    (fun op hop src stop b b' _ h => no_overwrite_never_drops g hwf src b stop b' (hno op hop ▸ h)) s
    (fun _ _ => trivial)).2

example : (run exG [exSrc, exTgt, { tip := some 3, revno := 2 }]
    [.pull 0 1 none none false, .push 2 1 none none false, .pull 0 2 (some 1) none true]).map (·.tip)
    = [some 4, some 4, some 4] := rfl

/-! ### append-only targets: the positive half, and operation sequences -/

/-- The requested revision has the target's tip **on its left-hand history**
(or the target has no tip yet): the update is accepted and the tip moves to it
with the right revno — whatever the append-only setting of the target.  This is
the positive counterpart of `append_only` (and `update_descends` for
append-only targets). -/
theorem update_descends_append_only (g : Graph) (hwf : wf g = true) (src tgt : Br) (stop : Option Tip)
    (s : Tip) (rn : Option Nat) (hreq : requested src stop = some (s, rn))
    (hp : tipPresent g s = true) (hne : s ≠ tgt.tip)
    (hchain : tgt.tip = none ∨ ∃ o r l, tgt.tip = some o ∧ s = some r ∧ lefthand g r = some l ∧ o ∈ l)
    (hs : revnoOK g src = true) (ht : revnoOK g tgt = true)
    (n : Nat) (hn : revnoOf g s = some n) :
    updateRevisions g src tgt stop false = .ok { tgt with tip := s, revno := n } := by
  have h1 : isAnc g tgt.tip s = true := by
    rcases hchain with h0 | ⟨o, r, l, ho, hr, hl, hol⟩
    · rw [h0]; rfl
    · rw [ho, hr, isAnc_some]; exact lefthand_sub_anc g r l hl o hol
  have h2 : isAnc g s tgt.tip = false := by
    cases hh : isAnc g s tgt.tip
    · rfl
    · exact absurd (isAnc_antisymm g hwf _ _ hh h1) hne
  exact update_moves g hwf src tgt stop s rn false hreq hp (fun _ => ⟨h2, h1⟩) hs ht n hn
    (fun k => setLast_accepts g tgt k s (fun _ => hchain))

/-- the same with overwrite: an append-only target accepts an overwrite exactly
along its left-hand history -/
theorem overwrite_sets_append_only (g : Graph) (hwf : wf g = true) (src tgt : Br) (stop : Option Tip)
    (s : Tip) (rn : Option Nat) (hreq : requested src stop = some (s, rn))
    (hp : tipPresent g s = true)
    (hchain : tgt.tip = none ∨ ∃ o r l, tgt.tip = some o ∧ s = some r ∧ lefthand g r = some l ∧ o ∈ l)
    (hs : revnoOK g src = true) (ht : revnoOK g tgt = true)
    (n : Nat) (hn : revnoOf g s = some n) :
    updateRevisions g src tgt stop true = .ok { tgt with tip := s, revno := n } := by
  exact update_moves g hwf src tgt stop s rn true hreq hp nofun hs ht n hn
    (fun k => setLast_accepts g tgt k s (fun _ => hchain))

-- non-vacuity: an append-only target at 2 accepts 4 (left-hand history 4, 2, 1)
example : lefthand exG 4 = some [4, 2, 1] := rfl
example : updateRevisions exG exSrc { tip := some 2, revno := 2, appendOnly := true } (some (some 4)) false
    = .ok { tip := some 4, revno := 3, appendOnly := true } := rfl

/-- **Append-only along operation sequences.**  After ANY finite sequence of
pulls and pushes (any stop revisions, with or without overwrite, the branch as
target or as master of a bound target, failing operations included) a branch
that was append-only is still append-only, and its tip is the original tip, or
there was no tip, or the original tip lies on the left-hand chain of the final
tip.  Since this holds from every state it holds between any two points of a
run: no operation ever moves the tip of an append-only branch to a revision
whose left-hand history lacks the previous tip. -/
theorem run_append_only (g : Graph) (hwf : wf g = true) (ops : List Op) (s : List Br) (i : Nat) (b : Br)
    (hb : s[i]? = some b) (hao : b.appendOnly = true) :
    ∃ b', (run g s ops)[i]? = some b' ∧ b'.appendOnly = true ∧
      (b'.tip = b.tip ∨ b.tip = none ∨ ∃ o r, b.tip = some o ∧ b'.tip = some r ∧ o ∈ lhChain g r) := by
  obtain ⟨b', hb', h1, h2⟩ := run_aoStep g hwf ops s i b hb
  exact ⟨b', hb', h1.trans hao, h2 hao⟩

/-- the single-operation form, for the target and the master of a bound target -/
theorem op_append_only (g : Graph) (isPull : Bool) (src tgt : Br) (m : Option Br) (stop : Option Tip) (ow : Bool) :
    AoStep g tgt (applyOp g isPull src tgt m stop ow).tgt ∧
      ∀ mb, m = some mb → ∃ mb', (applyOp g isPull src tgt m stop ow).master = some mb' ∧ AoStep g mb mb' :=
  applyOp_pres (AoStep g) (AoStep.refl g) g src stop ow (update_aoStep g src · stop ow) isPull tgt m

-- an append-only master (index 1) keeps its tip on the left-hand chain through a run that overwrites
example : (run exG [exSrc, { tip := some 2, revno := 2, appendOnly := true }, { tip := some 3, revno := 2 }]
    [.pull 2 1 none none true, .push 0 2 (some 1) none true, .pull 2 1 none (some (some 1)) true]).map (·.tip)
    = [some 4, some 4, some 4] := rfl

/-! ### bound targets: the classification for the pair (master, target) -/

/-- without overwrite and with the requested revision present, a bound pull and
a bound push are `_update_revisions` on the master and then on the target -/
theorem bound_eq_update (g : Graph) (hwf : wf g = true) (isPull : Bool) (src tgt m : Br) (stop : Option Tip)
    (s : Tip) (rn : Option Nat) (hreq : requested src stop = some (s, rn)) (hp : tipPresent g s = true) :
    applyOp g isPull src tgt (some m) stop false =
      bound2 (fun b => updateRevisions g src b stop false) tgt (some m) := by
  cases isPull
  · have : (fun b => basicPush g src b stop false) = (fun b => updateRevisions g src b stop false) :=
      funext (fun b => basicPush_eq_update g hwf src b stop s rn hreq hp)
    simp only [applyOp, pushOp, Bool.false_eq_true, if_false, this]
  · rfl

/-- The requested revision and the **master's** tip have diverged: the whole
operation is refused with `DivergedBranches`; neither the master nor the target
changes (the target is not even looked at). -/
theorem bound_master_diverged (g : Graph) (hwf : wf g = true) (isPull : Bool) (src tgt m : Br)
    (stop : Option Tip) (s : Tip) (rn : Option Nat) (hreq : requested src stop = some (s, rn))
    (hp : tipPresent g s = true) (h1 : isAnc g s m.tip = false) (h2 : isAnc g m.tip s = false) :
    applyOp g isPull src tgt (some m) stop false = ⟨some .diverged, tgt, some m⟩ := by
  rw [bound_eq_update g hwf isPull src tgt m stop s rn hreq hp]
  simp [bound2, update_diverged g hwf src m stop s rn hreq hp h1 h2]

/-- Master and target both contain the requested revision: nothing changes, no error. -/
theorem bound_both_contained (g : Graph) (hwf : wf g = true) (isPull : Bool) (src tgt m : Br)
    (stop : Option Tip) (s : Tip) (rn : Option Nat) (hreq : requested src stop = some (s, rn))
    (hp : tipPresent g s = true) (hm : isAnc g s m.tip = true) (ht : isAnc g s tgt.tip = true) :
    applyOp g isPull src tgt (some m) stop false = ⟨none, tgt, some m⟩ := by
  rw [bound_eq_update g hwf isPull src tgt m stop s rn hreq hp]
  simp [bound2, update_contained g hwf src m stop s rn hreq hp hm,
    update_contained g hwf src tgt stop s rn hreq hp ht]

/-- The requested revision descends from the master's tip and from the
target's tip: both move to it, both with the right revno (master first). -/
theorem bound_both_descend (g : Graph) (hwf : wf g = true) (isPull : Bool) (src tgt m : Br)
    (stop : Option Tip) (s : Tip) (rn : Option Nat) (hreq : requested src stop = some (s, rn))
    (hp : tipPresent g s = true)
    (hm1 : isAnc g m.tip s = true) (hmne : s ≠ m.tip) (hmao : m.appendOnly = false) (hmr : revnoOK g m = true)
    (ht1 : isAnc g tgt.tip s = true) (htne : s ≠ tgt.tip) (htao : tgt.appendOnly = false)
    (htr : revnoOK g tgt = true) (hs : revnoOK g src = true) (n : Nat) (hn : revnoOf g s = some n) :
    applyOp g isPull src tgt (some m) stop false =
      ⟨none, { tgt with tip := s, revno := n }, some { m with tip := s, revno := n }⟩ := by
  rw [bound_eq_update g hwf isPull src tgt m stop s rn hreq hp]
  simp [bound2, update_descends g hwf src m stop s rn hreq hp hm1 hmne hmao hs hmr n hn,
    update_descends g hwf src tgt stop s rn hreq hp ht1 htne htao hs htr n hn]

/-- **Master out of step with the target.**  The requested revision descends
from the master's tip but has diverged from the target's tip: the master HAS
MOVED to it when `DivergedBranches` is raised for the target; the target is
unchanged.  (The statement speaks about the target tip only; C23 reports the
moved master as a finding for checkouts.) -/
theorem bound_master_moves_target_diverged (g : Graph) (hwf : wf g = true) (isPull : Bool) (src tgt m : Br)
    (stop : Option Tip) (s : Tip) (rn : Option Nat) (hreq : requested src stop = some (s, rn))
    (hp : tipPresent g s = true)
    (hm1 : isAnc g m.tip s = true) (hmne : s ≠ m.tip) (hmao : m.appendOnly = false) (hmr : revnoOK g m = true)
    (ht1 : isAnc g s tgt.tip = false) (ht2 : isAnc g tgt.tip s = false)
    (hs : revnoOK g src = true) (n : Nat) (hn : revnoOf g s = some n) :
    applyOp g isPull src tgt (some m) stop false =
      ⟨some .diverged, tgt, some { m with tip := s, revno := n }⟩ := by
  rw [bound_eq_update g hwf isPull src tgt m stop s rn hreq hp]
  simp [bound2, update_descends g hwf src m stop s rn hreq hp hm1 hmne hmao hs hmr n hn,
    update_diverged g hwf src tgt stop s rn hreq hp ht1 ht2]

/-- **Master in step with the target** (same tip, revno and setting): whatever
the operation does (any stop revision, overwrite or not), master and target end
equal again — both moved to the same (tip, revno), or both untouched with the
error raised for the master. -/
theorem bound_in_step_stays (g : Graph) (isPull : Bool) (src tgt : Br) (stop : Option Tip) (ow : Bool) :
    ((applyOp g isPull src tgt (some tgt) stop ow).err = none →
      (applyOp g isPull src tgt (some tgt) stop ow).master = some (applyOp g isPull src tgt (some tgt) stop ow).tgt) ∧
    ((applyOp g isPull src tgt (some tgt) stop ow).err ≠ none →
      (applyOp g isPull src tgt (some tgt) stop ow).tgt = tgt ∧
      (applyOp g isPull src tgt (some tgt) stop ow).master = some tgt) := by
  cases isPull
  · simp only [applyOp, pushOp, bound2, Bool.false_eq_true, if_false]
    cases h : basicPush g src tgt stop ow <;> simp
  · simp only [applyOp, pullOp, bound2, if_true]
    cases h : updateRevisions g src tgt stop ow <;> simp

-- non-vacuity: master at 1, target at 3, requested revision 2 (sibling of 3): the master moves, the target refuses
example : applyOp exG true exSrc { tip := some 3, revno := 2 } (some { tip := some 1, revno := 1 }) (some (some 2)) false
    = ⟨some .diverged, { tip := some 3, revno := 2 }, some { tip := some 2, revno := 2 }⟩ := rfl
example : applyOp exG false exSrc { tip := some 1, revno := 1 } (some { tip := some 3, revno := 2 }) (some (some 2)) false
    = ⟨some .diverged, { tip := some 1, revno := 1 }, some { tip := some 3, revno := 2 }⟩ := rfl
example : applyOp exG true exSrc exTgt (some { tip := some 1, revno := 1 }) none false
    = ⟨none, { tip := some 4, revno := 3 }, some { tip := some 4, revno := 3 }⟩ := rfl

/-! ### `pull(local=True)` and pulling from the master itself -/

/-- `local=True` and `source is the master` never touch the master; `local=True`
on an unbound target is refused with nothing changed; in every case a pull
without overwrite leaves the old target tip an ancestor of the new one, and a
failing pull leaves the target as it was. -/
theorem pull_local_or_from_master (g : Graph) (hwf : wf g = true) (src tgt : Br) (m : Option Br)
    (stop : Option Tip) (ow lo sm : Bool) :
    ((lo = true ∨ sm = true) → (pullOpX g src tgt m stop ow lo sm).master = m) ∧
    (lo = true → m = none → pullOpX g src tgt m stop ow lo sm = ⟨some .localRequiresBound, tgt, none⟩) ∧
    (ow = false → isAnc g tgt.tip (pullOpX g src tgt m stop ow lo sm).tgt.tip = true) ∧
    ((pullOpX g src tgt m stop ow lo sm).err ≠ none → (pullOpX g src tgt m stop ow lo sm).tgt = tgt) := by
  refine ⟨?_, ?_, ?_, ?_⟩
  · intro h
    unfold pullOpX
    cases m with
    | none =>
      cases lo
      · have : sm = true := by simpa using h
        simp [this, pullOp, bound2]
        cases updateRevisions g src tgt stop ow <;> rfl
      · simp
    | some mb =>
      have : (lo || sm) = true := by rcases h with h | h <;> simp [h]
      simp only [Option.isNone_some, Bool.and_false, Bool.false_eq_true, if_false, this, Option.isSome_some,
        Bool.and_self, if_true]
      cases updateRevisions g src tgt stop ow <;> rfl
  · intro h1 h2
    subst h1 h2
    simp [pullOpX]
  · intro how
    subst how
    unfold pullOpX
    by_cases c1 : (lo && m.isNone) = true
    · rw [if_pos c1]; exact isAnc_refl g _
    rw [if_neg c1]
    by_cases c2 : ((lo || sm) && m.isSome) = true
    · rw [if_pos c2]
      cases h : updateRevisions g src tgt stop false with
      | ok t => exact no_overwrite_never_drops g hwf src tgt stop t h
      | error e => exact isAnc_refl g _
    · rw [if_neg c2]
      exact (push_pull_never_drop g hwf src tgt m stop).1.1
  · unfold pullOpX
    by_cases c1 : (lo && m.isNone) = true
    · rw [if_pos c1]; exact fun _ => rfl
    rw [if_neg c1]
    by_cases c2 : ((lo || sm) && m.isSome) = true
    · rw [if_pos c2]
      cases updateRevisions g src tgt stop ow with
      | ok t => exact fun h => absurd rfl h
      | error e => exact fun _ => rfl
    · rw [if_neg c2]
      exact (update_error_unchanged g src tgt m stop ow).1

example : pullOpX exG exSrc exTgt (some { tip := some 1, revno := 1 }) none false true false
    = ⟨none, { tip := some 4, revno := 3 }, some { tip := some 1, revno := 1 }⟩ := rfl
example : pullOpX exG exSrc exTgt none none false true false = ⟨some .localRequiresBound, exTgt, none⟩ := rfl

/-! ### git -/

/-- `breezy/git/branch.py:_update_tip` decides exactly like the generic
`_update_revisions` (which goes through `heads`): same new tip, same
divergence error; the only additional failure of the bzr side is
`GhostRevisionsHaveNoRevno` (git has no ghosts and stores no revno). -/
theorem git_agrees_with_bzr (g : Graph) (hwf : wf g = true) (src tgt : Br) (s : Tip) (ow : Bool)
    (hp : tipPresent g s = true) (hao : tgt.appendOnly = false) :
    match updateTipGit g tgt.tip s ow with
    | .ok t =>
      (∀ t', updateRevisions g src tgt (some s) ow = .ok t' → t'.tip = t) ∧
      (∀ e, updateRevisions g src tgt (some s) ow = .error e → e = .ghostRevno)
    | .error e => updateRevisions g src tgt (some s) ow = .error e := by
  rw [update_eq_spec g hwf]
  have key : ∀ (r : Except Err Br),
      r = (match distTip (seed tgt ++ seed src) g s with
        | none => .error .ghostRevno
        | some n => setLast g tgt n s) →
      (∀ t', r = .ok t' → t'.tip = s) ∧ (∀ e, r = .error e → e = .ghostRevno) := by
    intro r hr
    cases hd : distTip (seed tgt ++ seed src) g s with
    | none => rw [hd] at hr; subst hr; simp
    | some n =>
      rw [hd] at hr; subst hr
      simp only [setLast_free g tgt n s hao]
      simp
  cases ow with
  | false =>
    cases h1 : isAnc g s tgt.tip with
    | true => simp [requested, updateSpec, updateTipGit, hp, h1]
    | false =>
      cases h2 : isAnc g tgt.tip s with
      | false => simp [requested, updateSpec, updateTipGit, hp, h1, h2]
      | true =>
        simp only [requested, updateSpec, updateTipGit, hp, h1, h2, Bool.not_true, Bool.not_false,
          Bool.false_eq_true, if_false, Bool.and_false]
        exact key _ rfl
  | true =>
    simp only [requested, updateSpec, updateTipGit, hp, Bool.not_true, Bool.false_and, Bool.false_eq_true,
      if_false]
    exact key _ rfl

example : updateTipGit exG (some 2) (some 3) false = .error .diverged := rfl
example : updateTipGit exG (some 2) (some 4) false = .ok (some 4) := rfl

end BreezyVerif.C21
