import BreezyVerif.Lemmas.C39Bytes
import BreezyVerif.Lemmas.C39Group3
/-!
C39 — theorems.  For all texts `a b` (lists of byte-string lines, or byte strings
split after every newline), all grouped opcode lists `gs` satisfying the
decidable predicate `validGroups a b gs` — in particular (`grouped_validGroups`)
difflib's grouping, for every context size, of any matching-block list
satisfying `validBlocks a b ks`, which is what is checked at run time on the
real matcher's output — all hunk lists, all old texts.  No bound on sizes other
than the i32 range of the header numbers.
Two of the theorems stand where the lemmas after them need them: `apply_ok_iff` in
`Lemmas/C39Sound`, `no_newline_marker_roundtrip` in `Lemmas/C39Text`.
-/
namespace BreezyVerif.C39

/-- the hunks breezy builds from valid grouped opcodes turn the old text into the new text -/
theorem apply_mkhunks (a b : List Line) (gs : List Group) (hv : validGroups a b gs = true) :
    ∃ hs, mkHunks a b gs = some hs ∧ applyHunks a hs = .ok b := by
  obtain ⟨hs, hm, happ, -⟩ := groups_spec a b gs 0 0 hv
  refine ⟨fixFirst a b hs, by simp [mkHunks, hm], ?_⟩
  unfold applyHunks
  rw [applyFrom_fixFirst]
  simpa using happ

/-- parsing the text `internal_diff` writes gives back exactly the hunks it was
written from (covers `\ No newline at end of file`, empty old/new text with the
`-0,0` / `+0,0` work-around, any context size) -/
theorem parse_diff_text (a b : List Line) (gs : List Group) (hv : validGroups a b gs = true)
    (hla : a.length < 2147483647) (hlb : b.length < 2147483647)
    (hs : List Hunk) (hm : mkHunks a b gs = some hs) (hne : hs ≠ []) :
    parsePatch (diffLines hs) = .ok hs :=
  parsePatch_diffLines _ hne (mkHunks_wf a b gs hv hla hlb hs hm)

/-- end to end on the text: breezy's patcher applied to breezy's diff gives the new text;
and there is no diff exactly when the groups are empty, in which case the texts are equal -/
theorem diff_text_applies (a b : List Line) (gs : List Group) (hv : validGroups a b gs = true)
    (hla : a.length < 2147483647) (hlb : b.length < 2147483647) :
    ∃ hs, mkHunks a b gs = some hs ∧
      (hs ≠ [] → iterPatched a (diffLines hs) = .ok b) ∧ (hs = [] → a = b) := by
  obtain ⟨hs, hm, happ⟩ := apply_mkhunks a b gs hv
  refine ⟨hs, hm, ?_, ?_⟩
  · intro hne
    unfold iterPatched
    rw [parse_diff_text a b gs hv hla hlb hs hm hne]
    simp only [happ]
  · intro he
    subst he
    simpa [applyHunks, applyFrom] using happ

/-- a parsed / built patch re-serialised with `Patch.as_bytes()` parses to the same hunks -/
theorem serialise_parse_hunks (hs : List Hunk) (hwf : ∀ h ∈ hs, wfHunk h = true) :
    parsePatch (patchLines hs) = .ok hs := by
  rw [patchLines, ← List.append_nil (_ ++ _)]
  refine parsePatch_printed headerShort (fun h => ⟨_, _, _, headerShort_eq h⟩) hs [] (Or.inl rfl) ?_ hwf
  intro h hh
  have hw := hwf h hh
  simp only [wfHunk, Bool.decide_and, Bool.and_eq_true, decide_eq_true_eq] at hw
  rw [hunkFromHeader_short h hw.2.2.1]
  intro t ht
  simpa [tailOk, ht] using hw.2.2.2

/-- in particular for breezy's own diff: text → hunks → `as_bytes()` → the same hunks -/
theorem diff_reserialises (a b : List Line) (gs : List Group) (hv : validGroups a b gs = true)
    (hla : a.length < 2147483647) (hlb : b.length < 2147483647)
    (hs : List Hunk) (hm : mkHunks a b gs = some hs) (hne : hs ≠ []) :
    parsePatch (patchLines hs) = parsePatch (diffLines hs) := by
  rw [parse_diff_text a b gs hv hla hlb hs hm hne]
  exact serialise_parse_hunks _ (fun h hh => ((mkHunks_wf a b gs hv hla hlb hs hm) h hh).1)

/-- difflib's `get_grouped_opcodes(n)` applied to `get_opcodes()` of valid matching blocks
(strictly increasing, in range, equal content; adjacent blocks allowed) is a valid
grouped-opcode list, for every context size `n` (0 included) -/
theorem grouped_validGroups (a b : List Line) (ks : List Block) (n : Nat) (hv : validBlocks a b ks = true) :
    validGroups a b (grouped n (opcodes a.length b.length ks)) = true :=
  grouped_valid_of_chain a b n _ (opcodesFrom_chain a b ks 0 0 hv)

/-- hence the whole pipeline from the matcher's blocks: the diff exists, applies back, and
parses to the hunks it was written from -/
theorem diff_of_blocks_applies (a b : List Line) (ks : List Block) (n : Nat) (hv : validBlocks a b ks = true)
    (hla : a.length < 2147483647) (hlb : b.length < 2147483647) :
    ∃ hs, mkHunks a b (grouped n (opcodes a.length b.length ks)) = some hs ∧
      (hs ≠ [] → iterPatched a (diffLines hs) = .ok b) ∧ (hs = [] → a = b) :=
  diff_text_applies a b _ (grouped_validGroups a b ks n hv) hla hlb

/-- `Patch.stats_values()` of breezy's diff equals the changed line counts: the inserted
lines are exactly the lines of `b` outside the matching blocks, the removed lines exactly
the lines of `a` outside them, and there is one hunk per opcode group -/
theorem stats_eq_counts (a b : List Line) (ks : List Block) (n : Nat) (hv : validBlocks a b ks = true)
    (hs : List Hunk) (hm : mkHunks a b (grouped n (opcodes a.length b.length ks)) = some hs) :
    (stats hs).1 + (ks.map (·.n)).sum = b.length ∧ (stats hs).2.1 + (ks.map (·.n)).sum = a.length ∧
    (stats hs).2.2 = (grouped n (opcodes a.length b.length ks)).length := by
  rw [stats_eq]
  have hl := mkHunks_lines a b _ hs hm
  obtain ⟨o1, o2⟩ := chain_counts a b _ 0 0 _ _ (opcodesFrom_chain a b ks 0 0 hv)
  rw [opcodesFrom_eqLen a b ks 0 0 hv] at o1 o2
  have s1 := grouped_sum (fun o => insCount (opLines a b o)) (fun o h => (insCount_equal a b o h).1) n
    (opcodes a.length b.length ks)
  have s2 := grouped_sum (fun o => remCount (opLines a b o)) (fun o h => (insCount_equal a b o h).2) n
    (opcodes a.length b.length ks)
  refine ⟨?_, ?_, by simpa using congrArg List.length hl⟩
  · rw [(totals_eq hs).1, hl, List.map_map]
    simp only [Function.comp_def, (insCount_flatMap _ _).1]
    rw [s1]; exact o1
  · rw [(totals_eq hs).2, hl, List.map_map]
    simp only [Function.comp_def, (insCount_flatMap _ _).2]
    rw [s2]; exact o2

/-- the parsed diff has the same statistics (parsing gives back the same hunks) -/
theorem stats_of_parsed_diff (a b : List Line) (ks : List Block) (n : Nat) (hv : validBlocks a b ks = true)
    (hla : a.length < 2147483647) (hlb : b.length < 2147483647)
    (hs : List Hunk) (hm : mkHunks a b (grouped n (opcodes a.length b.length ks)) = some hs) (hne : hs ≠ []) :
    ∃ hs', parsePatch (diffLines hs) = .ok hs' ∧
      (stats hs').1 + (ks.map (·.n)).sum = b.length ∧ (stats hs').2.1 + (ks.map (·.n)).sum = a.length :=
  ⟨hs, parse_diff_text a b _ (grouped_validGroups a b ks n hv) hla hlb hs hm hne,
    (stats_eq_counts a b ks n hv hs hm).1, (stats_eq_counts a b ks n hv hs hm).2.1⟩

/-- for arbitrary valid grouped opcodes (any matcher): insert/remove statistics balance
the text lengths and the hunk count is the group count -/
theorem stats_balance (a b : List Line) (gs : List Group) (hv : validGroups a b gs = true)
    (hla : a.length < 2147483647) (hlb : b.length < 2147483647)
    (hs : List Hunk) (hm : mkHunks a b gs = some hs) :
    (stats hs).1 + a.length = (stats hs).2.1 + b.length ∧ (stats hs).2.2 = gs.length := by
  obtain ⟨hs', hm', happ⟩ := apply_mkhunks a b gs hv
  obtain rfl := Option.some.inj (hm'.symm.trans hm)
  have := applyFrom_length 1 a hs' b happ
  rw [stats_eq]
  exact ⟨by dsimp only; omega, by simpa using congrArg List.length (mkHunks_lines a b gs hs' hm)⟩

/-- a text that does not carry the hunk's context/removed lines at the hunk's
position is never patched: the result is `PatchConflict`, and its line number is
the position reached when the hunk starts (the end of the text if it ends before
that) plus the number of old-side lines that still matched — i.e. the first old
line that differs or is missing -/
theorem apply_conflict_on_mismatch (ln : Nat) (rest : List Line) (h : Hunk) (hs : List Hunk)
    (hmis : ¬ (oldSide h.lines <+: rest.drop (h.origPos - ln))) :
    applyFrom ln rest (h :: hs) =
      .error (.conflict (ln + min (h.origPos - ln) rest.length +
        lcp (oldSide h.lines) (rest.drop (h.origPos - ln)))) := by
  rw [applyFrom_cons, if_neg hmis]
  by_cases hk : h.origPos - ln ≤ rest.length
  · rw [if_pos hk, Nat.min_eq_left hk]
  · have hd : rest.drop (h.origPos - ln) = [] := List.drop_eq_nil_of_le (by omega)
    have : lcp (oldSide h.lines) [] = 0 := by cases oldSide h.lines <;> rfl
    rw [if_neg hk, hd, this, Nat.min_eq_right (by omega)]
    rfl

/-- at top level, for a hunk that starts inside the text: the reported line is the
1-based number of the first old line that differs from the hunk's old side -/
theorem apply_conflict_first_differing_line (orig : List Line) (h : Hunk) (hs : List Hunk)
    (hpos : 1 ≤ h.origPos) (hin : h.origPos - 1 ≤ orig.length)
    (hmis : ¬ (oldSide h.lines <+: orig.drop (h.origPos - 1))) :
    applyHunks orig (h :: hs) =
      .error (.conflict (h.origPos + lcp (oldSide h.lines) (orig.drop (h.origPos - 1)))) := by
  unfold applyHunks
  rw [apply_conflict_on_mismatch 1 orig h hs hmis, Nat.min_eq_left hin]
  congr 3; omega

/-- the applier is total and every failure is a `PatchConflict` whose line number names
an existing old line or the line just after the end of the old text -/
theorem apply_ok_or_conflict (orig : List Line) (hs : List Hunk) :
    (∃ out, applyHunks orig hs = .ok out) ∨
    (∃ k, applyHunks orig hs = .error (.conflict k) ∧ 1 ≤ k ∧ k ≤ orig.length + 1) := by
  cases h : applyHunks orig hs with
  | ok out => exact Or.inl ⟨out, rfl⟩
  | error e =>
    cases e with
    | conflict k =>
      have := applyFrom_conflict_range 1 orig hs k h
      exact Or.inr ⟨k, rfl, by omega, by omega⟩

/-- a diff written to a byte stream and read back line by line is the same list of
lines, provided the text lines contain no newline except as their last byte -/
theorem diff_bytes_roundtrip (hs : List Hunk) (hc : ∀ h ∈ hs, ∀ l ∈ h.lines, cleanLine (content l) = true) :
    splitNL (diffLines hs).flatten = diffLines hs := by
  have := splitNL_flatten (diffLines hs) [] (termLine_diffLines hs hc)
  simpa [splitNL] using this

/-- end to end on byte strings: split both files after every newline, diff, write the
diff to a byte stream, read it back line by line, patch the old file's lines: the
concatenated output is the new file -/
theorem diff_bytes_applies (A B : Bytes) (gs : List Group) (hv : validGroups (splitNL A) (splitNL B) gs = true)
    (hla : (splitNL A).length < 2147483647) (hlb : (splitNL B).length < 2147483647) :
    ∃ hs, mkHunks (splitNL A) (splitNL B) gs = some hs ∧
      (hs ≠ [] → ∃ out, iterPatched (splitNL A) (splitNL (diffLines hs).flatten) = .ok out ∧ out.flatten = B) ∧
      (hs = [] → A = B) := by
  obtain ⟨hs, hm, h1, h2⟩ := diff_text_applies (splitNL A) (splitNL B) gs hv hla hlb
  refine ⟨hs, hm, ?_, ?_⟩
  · intro hne
    refine ⟨splitNL B, ?_, flatten_splitNL B⟩
    rw [diff_bytes_roundtrip hs ?_]
    · exact h1 hne
    · intro h hh l hl
      rcases mkHunks_mem _ _ gs hs hm h hh l hl with hm' | hm'
      · exact (splitNL_clean A _ hm').2
      · exact (splitNL_clean B _ hm').2
  · intro he
    have := h2 he
    rw [← flatten_splitNL A, ← flatten_splitNL B, this]

/-! non-vacuity -/

/-- `a b` ↦ `a c` with one group `equal 0..1, replace 1..2` is a valid input -/
example : validGroups [[97, 10], [98, 10]] [[97, 10], [99, 10]]
    [[⟨.equal, 0, 1, 0, 1⟩, ⟨.replace, 1, 2, 1, 2⟩]] = true := by decide
/-- empty old text, and a last line without newline -/
example : validGroups [] [[120]] [[⟨.insert, 0, 0, 0, 1⟩]] = true := by decide
example : wfHunk ⟨1, 2, 1, 2, none, [.ctx [97, 10], .rem [98, 10], .ins [99]]⟩ = true := by decide
example : carriable [32, 97] = true ∧ carriable noNl = false := by decide
example : ¬ (oldSide [HLine.ctx [97, 10]] <+: ([[120, 10]] : List Line).drop (1 - 1)) := by decide
/-- matching blocks of `a b` / `a c`, and what the grouping makes of them -/
example : validBlocks [[97, 10], [98, 10]] [[97, 10], [99, 10]] [⟨0, 0, 1⟩] = true := by decide
example : grouped 3 (opcodes 2 2 [⟨0, 0, 1⟩]) = [[⟨.equal, 0, 1, 0, 1⟩, ⟨.replace, 1, 2, 1, 2⟩]] := by decide
/-- the hunk's context line is present one line late: conflict at line 2 (the first differing line) -/
example : applyHunks [[120, 10], [97, 10], [98, 10]] [⟨2, 1, 2, 1, none, [.ctx [98, 10]]⟩] = .error (.conflict 2) := by
  decide
/-- text ends inside / before the hunk -/
example : applyHunks [[97, 10]] [⟨1, 2, 1, 2, none, [.ctx [97, 10], .ctx [98, 10]]⟩] = .error (.conflict 2) := by decide
example : applyHunks [[97, 10]] [⟨5, 1, 5, 1, none, [.ctx [98, 10]]⟩] = .error (.conflict 2) := by decide
example : splitNL [97, 10, 10, 98] = [[97, 10], [10], [98]] := by decide
example : cleanLine [97, 10] = true ∧ cleanLine [97, 10, 98] = false := by decide

end BreezyVerif.C39
