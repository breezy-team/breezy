import BreezyVerif.Lemmas.C32V
/-
C32 — operations through a smart server match local operations.

`remote_step_refines_local`: for EVERY state, every source graph, every set of
extra revisions the server chooses to add to a get_parent_map answer and every
modelled operation, the remote step (verb calls through the wire codecs, the
server executing them on the stored state) returns the same result and leaves
the same state as the local step.  Hypotheses: the revision ids that travel in
the line-oriented get_parent_map response are wire-safe (`RevOK`: non-empty, no
blank, no newline, not starting with "missing:") — for the stored graph, the
server's extras and the requested keys.

Part 2 (Model/C32S.lean): lock-scope sessions on ONE long-lived object with the
client-side caches as state.  `remote_session_step_spec` / `remote_session_run_spec`
(cache coherence is an invariant of every operation; the cached remote run = the
cache-free specification), `local_session_*` (the same for the local object),
`remote_session_refines_local` (the refinement), `session_caches_scoped`,
`seeded_variant_invisible_without_lock_scope` + `stale_tip_cache_witness` (why the
sequences must stay inside one lock scope), the as-found tag-cache findings
(`…_partial`, two witnesses), and the link to the single-operation model.
-/
namespace BreezyVerif.C32

open BreezyVerif.C33 (toDec parseDec parseDec_toDec)

/-- **refinement, fixed client**: every modelled operation through the smart
server = the same operation locally (result and state) -/
theorem remote_step_refines_local (src : Graph) (ex : List RevId) (st : St) (op : Op)
    (hg : GraphOK st.revs) (hex : ∀ k ∈ ex, RevOK k) (hop : OpOK op) :
    remoteStep true src ex st op = localStep src st op := by
  cases op with
  | tipSet n r =>
    simp only [remoteStep, localStep]
    rw [rLocked_eq src st ex _ (fun s => { s with tip := (n, r) })]
    · rfl
    · intro t s hl
      simp only [serve]
      rw [withToken_held hl]
      simp [parseDec_toDec]
  | confSet name v =>
    simp only [remoteStep, localStep]
    rw [rLocked_eq src st ex _ (fun s => { s with conf := dset s.conf name v })]
    · rfl
    · intro t s hl
      simp only [serve]
      rw [withToken_held hl]
  | tagSet name r =>
    simp only [remoteStep, localStep, rLock_eq]
    cases h : primLock st none with
    | error e => rfl
    | ok p =>
      obtain ⟨t, s1⟩ := p
      have hl := (primLock_none_ok h).1
      simp only [serve, withToken_held hl, rUnlock_eq, if_true]
  | tagDel name =>
    simp only [remoteStep, localStep, rLock_eq]
    cases h : primLock st none with
    | error e => rfl
    | ok p =>
      obtain ⟨t, s1⟩ := p
      have hl := (primLock_none_ok h).1
      simp only [serve]
      cases hlk : lookup name s1.tags with
      | none =>
        simp only [rUnlock_eq]
      | some v =>
        simp only [withToken_held hl, rUnlock_eq, if_true]
  | tagDict => simp [remoteStep, localStep, serve]
  | confGet name =>
    simp only [remoteStep, localStep, serve]
    cases lookup name st.conf <;> rfl
  | lockLeave =>
    simp only [remoteStep, localStep, rLock_eq]
  | relockRelease good =>
    simp only [remoteStep, localStep, rLock_eq, rUnlock_eq]
  | tipSetTok good n r =>
    simp only [remoteStep, localStep, rLock_eq]
    cases h : primLock st (some ((presented st good).getD st.nextTok)) with
    | error e => rfl
    | ok p =>
      obtain ⟨t, s1⟩ := p
      obtain ⟨hl, _, _⟩ := primLock_some_ok h
      simp [serve, withToken_held hl, parseDec_toDec]
  | parentMap keys =>
    simp only [remoteStep, localStep]
    rw [remoteParentMap_eq src st ex keys hg hex hop]
  | tip =>
    simp [remoteStep, localStep, serve, parseDec_toDec]
  | fetch r =>
    simp only [remoteStep, localStep, serve]

/-- **as found** (`RemoteRepository._get_parent_map_rpc` drops the null: entry):
refinement holds for every operation except get_parent_map requests naming
null: together with another key.  PARTIAL — see `parent_map_null_dropped_witness`. -/
theorem remote_step_refines_local_partial (src : Graph) (ex : List RevId) (st : St) (op : Op)
    (hg : GraphOK st.revs) (hex : ∀ k ∈ ex, RevOK k) (hop : OpOK op) (hn : NullAlone op) :
    remoteStep false src ex st op = localStep src st op := by
  rw [← remote_step_refines_local src ex st op hg hex hop]
  cases op with
  | parentMap keys =>
    simp only [remoteStep]
    rw [remoteParentMap_as_found src st ex keys hn]
  | _ => rfl

/-- the failing input: with revision a1 stored, get_parent_map([a1, null:]) is
{a1: (null:,), null: ()} locally and {a1: (null:,)} through the server -/
theorem parent_map_null_dropped_witness :
    let st : St := { St.init with revs := [([97, 49], [])] }
    let op := Op.parentMap [[97, 49], nullRev]
    (localStep [] st op).1 = .pmap [([97, 49], [nullRev]), (nullRev, [])]
      ∧ (remoteStep false [] [] st op).1 = .pmap [([97, 49], [nullRev])]
      ∧ (remoteStep true [] [] st op).1 = .pmap [([97, 49], [nullRev]), (nullRev, [])] := by
  decide

/-- **refinement for whole scripts**: any sequence of modelled operations gives
the same list of results and the same final state through the smart server as
locally -/
theorem remote_run_refines_local (src : Graph) (ex : List RevId) (hs : GraphOK src)
    (hex : ∀ k ∈ ex, RevOK k) :
    ∀ (ops : List Op) (st : St), GraphOK st.revs → (∀ op ∈ ops, OpOK op) →
      runWith (remoteStep true src ex) st ops = runWith (localStep src) st ops
  | [], st, _, _ => rfl
  | op :: ops, st, hg, hops => by
    simp only [runWith]
    rw [remote_step_refines_local src ex st op hg hex (hops op (by simp))]
    rw [remote_run_refines_local src ex hs hex ops (localStep src st op).2
      (localStep_graphOK src hs st op hg) (fun o ho => hops o (List.mem_cons_of_mem _ ho))]

/-- non-vacuity: a wire-safe graph, a wire-safe request, and a run that exercises locks and tokens -/
example : GraphOK [([97, 49], []), ([114, 50], [[97, 49]])] := by decide

example : OpOK (.parentMap [[97, 49], nullRev]) := by
  unfold OpOK
  decide

example :
    (runWith (localStep [([97, 49], [])]) St.init
      [.fetch [97, 49], .lockLeave, .tipSet 1 [97, 49], .tipSetTok true 1 [97, 49], .relockRelease true, .tip]).1
    = [.ok, .token, .err .lockContention, .ok, .ok, .info 1 [97, 49]] := by decide

/-- **cache transparency, local object**: from a coherent object every operation of a `BzrBranch`-like
object (cached tip / tags) returns what the cache-free specification returns, leaves the same stored state
and lock state, and the object is coherent again -/
theorem local_session_step_spec (src : Graph) (o : Obj) (st : St) (op : SOp) (hc : Coherent o st) (hl : LocalObj o) :
    (lsStep src o st op).1 = (specStep src o.lk st op).1
      ∧ (lsStep src o st op).2.1.lk = (specStep src o.lk st op).2.1
      ∧ (lsStep src o st op).2.2 = (specStep src o.lk st op).2.2
      ∧ Coherent (lsStep src o st op).2.1 (lsStep src o st op).2.2
      ∧ LocalObj (lsStep src o st op).2.1 :=
  sessStep_spec src (lsBody src) LocalObj localObj_stable o st op hc hl (lsBody_lk src op)
    (fun o' st' hc' hl' _ => lsBody_spec src op o' st' hc' hl')

/-- **cache transparency, remote object** (one step of the cache-invalidation invariant): for EVERY
coherent object, stored state, source graph and operation, the `RemoteBranch` step — RPC verbs through the
wire codecs, `pull` delegated to the VFS branch object with its own caches — returns the specification's
result, leaves the specification's stored state and lock state, and ALL FOUR caches (own tip / tags, VFS
branch's tip / tags) are coherent with the new stored state again.  Hypotheses: the client primes / clears
the VFS branch's tip cache after `set_last_revision_info` (`tipCoherent`, as /repo does), resets the leave flag
on `lock_write()` without a token (`leaveReset`, as /repo does), and either keeps both tag caches coherent or the
operation brings no source tags while the VFS branch's tags cache is empty. -/
theorem remote_session_step_spec (v : Variant) (src : Graph) (ex : List RevId) (o : Obj) (st : St) (op : SOp)
    (hv : v.tipCoherent = true) (hl : v.leaveReset = true)
    (ht : (v.tagsOwn = true ∧ v.tagsReal = true) ∨ NoSrcTags op)
    (hc : Coherent o st) (hi : TagsInv v o) :
    (rsStep v src ex o st op).1 = (specStep src o.lk st op).1
      ∧ (rsStep v src ex o st op).2.1.lk = (specStep src o.lk st op).2.1
      ∧ (rsStep v src ex o st op).2.2 = (specStep src o.lk st op).2.2
      ∧ Coherent (rsStep v src ex o st op).2.1 (rsStep v src ex o st op).2.2
      ∧ TagsInv v (rsStep v src ex o st op).2.1 := by
  unfold rsStep
  rw [rLock_fun_eq, rUnlock_fun_eq, hl]
  apply sessStep_spec src (rsBody v src ex) (TagsInv v) (tagsInv_stable v) o st op hc hi (rsBody_lk v src ex op)
  exact fun o' st' hc' hi' hw => rsBody_spec v src ex op o' st' hc' hw hv ht hi'

/-- whole sessions of the local object = the specification (induction over the script) -/
theorem local_session_run_spec (src : Graph) :
    ∀ (ops : List SOp) (o : Obj) (st : St), Coherent o st → LocalObj o →
      (runSess (lsStep src) o st ops).1 = (runSpec src o.lk st ops).1
        ∧ (runSess (lsStep src) o st ops).2.1.lk = (runSpec src o.lk st ops).2.1
        ∧ (runSess (lsStep src) o st ops).2.2 = (runSpec src o.lk st ops).2.2
        ∧ Coherent (runSess (lsStep src) o st ops).2.1 (runSess (lsStep src) o st ops).2.2
  | ops, o, st, hc, hl =>
    let ⟨h1, h2, h3, h4, _⟩ := runSess_spec src (lsStep src) (fun o st => Coherent o st ∧ LocalObj o) (fun _ => True)
      (fun o st op hi _ => local_session_step_spec src o st op hi.1 hi.2) ops o st ⟨hc, hl⟩ (fun _ _ => trivial)
    ⟨h1, h2, h3, h4⟩

/-- **cache-invalidation invariant, by induction over the operations**: along ANY script (arbitrary
nesting of lock scopes, VFS-delegated pulls, tip and tag writes over RPC, reads) the remote object stays
coherent with the stored state, and the whole run returns the specification's results and final state -/
theorem remote_session_run_spec (v : Variant) (src : Graph) (ex : List RevId) (hv : v.tipCoherent = true)
    (hl : v.leaveReset = true) :
    ∀ (ops : List SOp) (o : Obj) (st : St), Coherent o st → TagsInv v o →
      ((v.tagsOwn = true ∧ v.tagsReal = true) ∨ ∀ op ∈ ops, NoSrcTags op) →
      (runSess (rsStep v src ex) o st ops).1 = (runSpec src o.lk st ops).1
        ∧ (runSess (rsStep v src ex) o st ops).2.1.lk = (runSpec src o.lk st ops).2.1
        ∧ (runSess (rsStep v src ex) o st ops).2.2 = (runSpec src o.lk st ops).2.2
        ∧ Coherent (runSess (rsStep v src ex) o st ops).2.1 (runSess (rsStep v src ex) o st ops).2.2
  | ops, o, st, hc, hi, ht =>
    let ⟨h1, h2, h3, h4, _⟩ := runSess_spec src (rsStep v src ex) (fun o st => Coherent o st ∧ TagsInv v o)
      (fun op => (v.tagsOwn = true ∧ v.tagsReal = true) ∨ NoSrcTags op)
      (fun o st op hi hop => remote_session_step_spec v src ex o st op hv hl hop hi.1 hi.2) ops o st ⟨hc, hi⟩
      (fun op hop => ht.imp_right fun h => h op hop)
    ⟨h1, h2, h3, h4⟩

/-- refinement of whole sessions for any client variant that keeps the tip caches coherent and resets the leave
flag: the tag caches must be kept coherent too, or else no pull of the script may bring source tags (and the VFS
branch's tags cache starts empty) -/
theorem remote_session_refines_local_of (v : Variant) (hv : v.tipCoherent = true) (hlr : v.leaveReset = true)
    (src : Graph) (ex : List RevId) (ops : List SOp) (ro lo : Obj) (st : St)
    (hr : Coherent ro st) (hl : Coherent lo st) (hlo : LocalObj lo) (hk : ro.lk = lo.lk) (hi : TagsInv v ro)
    (ht : (v.tagsOwn = true ∧ v.tagsReal = true) ∨ ∀ op ∈ ops, NoSrcTags op) :
    let x := runSess (rsStep v src ex) ro st ops
    let y := runSess (lsStep src) lo st ops
    x.1 = y.1 ∧ x.2.2 = y.2.2 ∧ x.2.1.lk = y.2.1.lk := by
  obtain ⟨a1, a2, a3, _⟩ := remote_session_run_spec v src ex hv hlr ops ro st hr hi ht
  obtain ⟨b1, b2, b3, _⟩ := local_session_run_spec src ops lo st hl hlo
  exact ⟨a1.trans (hk ▸ b1.symm), a3.trans (hk ▸ b3.symm), a2.trans (hk ▸ b2.symm)⟩

/-- **refinement of whole sessions** (the property, for the modelled operations): any script run on ONE
long-lived `RemoteBranch` object — whatever its lock scopes — returns the same list of results, leaves the
same stored branch / repository state and the same logical lock state as the script run on a local object.
Client with coherent tip AND tag caches (`Variant.fixed`). -/
theorem remote_session_refines_local (src : Graph) (ex : List RevId) (ops : List SOp) (ro lo : Obj) (st : St)
    (hr : Coherent ro st) (hl : Coherent lo st) (hlo : LocalObj lo) (hk : ro.lk = lo.lk) :
    (runSess (rsStep Variant.fixed src ex) ro st ops).1 = (runSess (lsStep src) lo st ops).1
      ∧ (runSess (rsStep Variant.fixed src ex) ro st ops).2.2 = (runSess (lsStep src) lo st ops).2.2
      ∧ (runSess (rsStep Variant.fixed src ex) ro st ops).2.1.lk = (runSess (lsStep src) lo st ops).2.1.lk :=
  remote_session_refines_local_of _ rfl rfl src ex ops ro lo st hr hl hlo hk (Or.inl ⟨rfl, rfl⟩) (Or.inl ⟨rfl, rfl⟩)

/-- **as found** (`RemoteBranch` does not keep the tag caches coherent): PARTIAL — refinement holds for
every script whose pulls bring no source tags.  What is missing is exactly the family of
`stale_tags_cache_witness` / `stale_vfs_tags_cache_witness`. -/
theorem remote_session_refines_local_partial (src : Graph) (ex : List RevId) (ops : List SOp) (ro lo : Obj) (st : St)
    (hr : Coherent ro st) (hl : Coherent lo st) (hlo : LocalObj lo) (hk : ro.lk = lo.lk)
    (hn : ro.realTagsC = none) (hops : ∀ op ∈ ops, NoSrcTags op) :
    (runSess (rsStep Variant.asFound src ex) ro st ops).1 = (runSess (lsStep src) lo st ops).1
      ∧ (runSess (rsStep Variant.asFound src ex) ro st ops).2.2 = (runSess (lsStep src) lo st ops).2.2
      ∧ (runSess (rsStep Variant.asFound src ex) ro st ops).2.1.lk = (runSess (lsStep src) lo st ops).2.1.lk :=
  remote_session_refines_local_of _ rfl rfl src ex ops ro lo st hr hl hlo hk (Or.inr hn) (Or.inr hops)

/-- caches live only inside lock scopes: for ANY client variant (also the broken ones) and any script, an
object that is not locked holds no cached tip / tags, its own or its VFS branch's — which is why stale
caches can only be observed by operation sequences INSIDE one lock scope -/
theorem session_caches_scoped (v : Variant) (src : Graph) (ex : List RevId) :
    ∀ (ops : List SOp) (o : Obj) (st : St), Scoped o → Scoped (runSess (rsStep v src ex) o st ops).2.1 :=
  runSess_scoped _ (sessStep_scoped _ _ _ (rsBody v src ex) (rsBody_lk v src ex))

/-- the same for the local object -/
theorem local_session_caches_scoped (src : Graph) :
    ∀ (ops : List SOp) (o : Obj) (st : St), Scoped o → Scoped (runSess (lsStep src) o st ops).2.1 :=
  runSess_scoped _ (sessStep_scoped _ _ _ (lsBody src) (lsBody_lk src))

/-- **the property for the modelled session operations, without any hypothesis**: for every stored state,
source graph and script, a freshly opened RemoteBranch object driven through the script gives the same results,
the same stored state and the same lock state as a freshly opened local object -/
theorem fresh_remote_session_refines_local (src : Graph) (ex : List RevId) (st : St) (ops : List SOp) :
    (runSess (rsStep Variant.fixed src ex) {} st ops).1 = (runSess (lsStep src) {} st ops).1
      ∧ (runSess (rsStep Variant.fixed src ex) {} st ops).2.2 = (runSess (lsStep src) {} st ops).2.2
      ∧ (runSess (rsStep Variant.fixed src ex) {} st ops).2.1.lk = (runSess (lsStep src) {} st ops).2.1.lk :=
  remote_session_refines_local src ex ops {} {} st (coherent_fresh st) (coherent_fresh st) ⟨rfl, rfl, rfl⟩ rfl

/-- the same as found, for scripts whose pulls bring no source tags -/
theorem fresh_remote_session_refines_local_partial (src : Graph) (ex : List RevId) (st : St) (ops : List SOp)
    (hops : ∀ op ∈ ops, NoSrcTags op) :
    (runSess (rsStep Variant.asFound src ex) {} st ops).1 = (runSess (lsStep src) {} st ops).1
      ∧ (runSess (rsStep Variant.asFound src ex) {} st ops).2.2 = (runSess (lsStep src) {} st ops).2.2
      ∧ (runSess (rsStep Variant.asFound src ex) {} st ops).2.1.lk = (runSess (lsStep src) {} st ops).2.1.lk :=
  remote_session_refines_local_partial src ex ops {} {} st (coherent_fresh st) (coherent_fresh st) ⟨rfl, rfl, rfl⟩ rfl
    rfl hops

/-- no single operation issued on an unlocked object can tell two clients apart that differ in cache
maintenance only (same `leaveReset`): the operation has its own lock cycle and the unlock drops every cache -/
theorem rsStep_unlocked_variant (v1 v2 : Variant) (src : Graph) (ex : List RevId) (o : Obj) (st : St) (op : SOp)
    (hl : v1.leaveReset = v2.leaveReset) (hu : o.lk.mode = .unlocked) :
    rsStep v1 src ex o st op = rsStep v2 src ex o st op := by
  unfold rsStep
  rw [hl]
  exact sessStep_unlocked_mod_caches _ _ _ _ _ o st op hu
    (fun op o' st' => ⟨rsBody_lk v1 src ex op o' st', rsBody_lk v2 src ex op o' st'⟩)
    (rsBody_mod_caches v1 v2 src ex)

/-- **why single operations cannot see it**: a client whose `set_last_revision_info` does not clear /
prime the VFS branch's caches (`Variant.seeded`) is step-for-step IDENTICAL (result, object, stored state) to
the correct client on every operation issued on an unlocked object — each operation then has its own lock
cycle and the unlock drops every cache.  Only a sequence inside one lock scope can tell them apart
(`stale_tip_cache_witness`). -/
theorem seeded_variant_invisible_without_lock_scope (src : Graph) (ex : List RevId) (o : Obj) (st : St) (op : SOp)
    (hu : o.lk.mode = .unlocked) :
    rsStep Variant.seeded src ex o st op = rsStep Variant.fixed src ex o st op :=
  rsStep_unlocked_variant _ _ src ex o st op rfl hu

/-- **a stale VFS-branch tip cache is observable** (the input family the generator must contain): in ONE
write-lock scope — pull a2 (the VFS branch caches the tip), set the tip to a3 over RPC, pull the rival x3 —
the local run and the correct client refuse the last pull (diverged, tip stays a3); the client that does not
prime the VFS branch's cache accepts it and the stored tip becomes x3 -/
theorem stale_tip_cache_witness :
    (runSess (lsStep wSrc) {} St.init wScript).1
        = [.token, .moved (0, nullRev) (2, wA2) 0, .moved (2, wA2) (3, wA3) 0, .err .diverged, .ok]
      ∧ (runSess (lsStep wSrc) {} St.init wScript).2.2.tip = (3, wA3)
      ∧ (runSess (rsStep Variant.fixed wSrc []) {} St.init wScript).1
        = [.token, .moved (0, nullRev) (2, wA2) 0, .moved (2, wA2) (3, wA3) 0, .err .diverged, .ok]
      ∧ (runSess (rsStep Variant.seeded wSrc []) {} St.init wScript).1
        = [.token, .moved (0, nullRev) (2, wA2) 0, .moved (2, wA2) (3, wA3) 0, .moved (2, wA2) (3, wX3) 0, .ok]
      ∧ (runSess (rsStep Variant.seeded wSrc []) {} St.init wScript).2.2.tip = (3, wX3) := by
  decide

/-- **finding, own tags cache** (as found in /repo): lock, read the tags, pull a source with tag v1 (merged
by the VFS branch), set a tag: the RemoteBranch writes its stale dictionary back and v1 is lost -/
theorem stale_tags_cache_witness :
    let ops : List SOp := [.lockW, .tagDict, .pull false 1 wA1 [(tV1, wA1)], .tagSet tMine wA1, .unlock]
    (runSess (lsStep wSrc) {} St.init ops).2.2.tags = [(tV1, wA1), (tMine, wA1)]
      ∧ (runSess (rsStep Variant.fixed wSrc []) {} St.init ops).2.2.tags = [(tV1, wA1), (tMine, wA1)]
      ∧ (runSess (rsStep Variant.asFound wSrc []) {} St.init ops).2.2.tags = [(tMine, wA1)] := by
  decide

/-- **finding, VFS branch's tags cache** (as found in /repo): lock, pull a tagged source (the VFS branch
caches the tags), set a tag over RPC, pull again with a new source tag: the VFS branch merges into its stale
dictionary and the tag set over RPC is lost -/
theorem stale_vfs_tags_cache_witness :
    let ops : List SOp := [.lockW, .pull false 1 wA1 [(tV1, wA1)], .tagSet tMine wA1,
      .pull false 1 wA1 [(tV1, wA1), (tV2, wA1)], .unlock]
    (runSess (lsStep wSrc) {} St.init ops).2.2.tags = [(tV1, wA1), (tMine, wA1), (tV2, wA1)]
      ∧ (runSess (rsStep Variant.fixed wSrc []) {} St.init ops).2.2.tags = [(tV1, wA1), (tMine, wA1), (tV2, wA1)]
      ∧ (runSess (rsStep Variant.asFound wSrc []) {} St.init ops).2.2.tags = [(tV1, wA1), (tV2, wA1)] := by
  decide

/-- **no orphaned physical lock** (invariant, by induction over the operations): along ANY script on one
long-lived RemoteBranch — lock scopes with and without tokens, borrowed locks, `dont_leave_lock_in_place()`, a
second holder object taking and releasing the physical lock, VFS pulls, tip and tag writes — that does not call
`leave_lock_in_place()`, every physical lock has a holder that will release it: it is free, or held by the
second holder, or held by the object in a scope whose last unlock releases it.  Nothing is assumed about the
leave flag the object carries over from earlier lock cycles. -/
theorem remote_session_no_orphaned_lock (src : Graph) (ex : List RevId) (ops : List SOp) (o : Obj) (st : St)
    (hc : Coherent o st) (hn : NoOrphan o.lk st) (hops : ∀ op ∈ ops, NoLeave op) :
    NoOrphan (runSess (rsStep Variant.fixed src ex) o st ops).2.1.lk (runSess (rsStep Variant.fixed src ex) o st ops).2.2 := by
  obtain ⟨_, a2, a3, _⟩ := remote_session_run_spec Variant.fixed src ex rfl rfl ops o st hc (Or.inl ⟨rfl, rfl⟩)
    (Or.inl ⟨rfl, rfl⟩)
  rw [a2, a3]
  exact runSpec_noOrphan src ops o.lk st hops hn

/-- **after the last unlock the physical lock is released, whatever earlier lock cycles did**: when such a
script ends with the object unlocked and the second holder not holding, the stored branch is not locked -/
theorem physical_lock_free_when_nobody_holds (src : Graph) (ex : List RevId) (ops : List SOp) (o : Obj) (st : St)
    (hc : Coherent o st) (hn : NoOrphan o.lk st) (hops : ∀ op ∈ ops, NoLeave op)
    (hu : (runSess (rsStep Variant.fixed src ex) o st ops).2.1.lk.mode = .unlocked)
    (ho : (runSess (rsStep Variant.fixed src ex) o st ops).2.2.owner = none) :
    (runSess (rsStep Variant.fixed src ex) o st ops).2.2.lock = none := by
  rcases remote_session_no_orphaned_lock src ex ops o st hc hn hops with h | h | h
  · exact h
  · rw [ho] at h; simp at h
  · rw [hu] at h; cases h.1

/-- a successful `lock_write()` WITHOUT a token on an unlocked object clears the leave flag — whatever value
earlier lock cycles (token locks, `leave_lock_in_place()`) left in it, for ANY object and stored state — and
holds the physical lock with the object's own token (`leaveReset`: as /repo does) -/
theorem untokened_lock_clears_leave_flag (v : Variant) (src : Graph) (ex : List RevId) (o : Obj) (st : St)
    (hl : v.leaveReset = true) (hu : o.lk.mode = .unlocked)
    (hok : (rsStep v src ex o st .lockW).1 = .token) :
    (rsStep v src ex o st .lockW).2.1.lk.leave = false
      ∧ (rsStep v src ex o st .lockW).2.1.lk.mode = .w
      ∧ (rsStep v src ex o st .lockW).2.1.lk.count = 1
      ∧ (rsStep v src ex o st .lockW).2.2.lock = (rsStep v src ex o st .lockW).2.1.lk.token
      ∧ (rsStep v src ex o st .lockW).2.1.lk.token.isSome = true := by
  revert hok
  simp only [rsStep, sessStep, acquire, hu, hl, rLock_eq, if_true, primLock]
  cases hlk : st.lock with
  | some x => simp
  | none => simp

/-- … and the last unlock of a write lock whose leave flag is clear sends `Branch.unlock`: the physical lock
is released (any client variant, any coherent object) -/
theorem last_unlock_releases (v : Variant) (src : Graph) (ex : List RevId) (o : Obj) (st : St)
    (hc : Coherent o st) (hm : o.lk.mode = .w) (hcnt : o.lk.count = 1) (hlv : o.lk.leave = false) :
    (rsStep v src ex o st .unlock).1 = .ok
      ∧ (rsStep v src ex o st .unlock).2.2.lock = none
      ∧ (rsStep v src ex o st .unlock).2.1.lk.mode = .unlocked := by
  obtain ⟨hs, hl⟩ := hc.2.2.2.2 hm
  obtain ⟨t, htk⟩ := Option.isSome_iff_exists.mp hs
  simp only [rsStep, sessStep, release, hm, hcnt, htk, hlv, rUnlock_eq, primRelease]
  simp [hl, htk, Obj.clear]

/-- **a stale leave flag is observable** (the input family the generator must contain): the second holder
locks, the object borrows the lock with the token and unlocks (the lock correctly stays), the holder releases,
the object takes and releases a lock of its own, the holder locks again.  Locally and with the correct client
the last step succeeds and the lock was free after step 6; the client that does not reset `_leave_lock` never
sent `Branch.unlock`: the branch is still locked with the object's token and the holder gets LockContention -/
theorem stale_leave_flag_witness :
    (runSess (lsStep []) {} St.init leaveScript).1 = [.token, .token, .ok, .ok, .token, .ok, .token]
      ∧ (runSess (rsStep Variant.fixed [] []) {} St.init leaveScript).1 = [.token, .token, .ok, .ok, .token, .ok, .token]
      ∧ (runSess (rsStep Variant.leaveSeeded [] []) {} St.init leaveScript).1
          = [.token, .token, .ok, .ok, .token, .ok, .err .lockContention]
      ∧ (runSess (rsStep Variant.fixed [] []) {} St.init (leaveScript.take 6)).2.2.lock = none
      ∧ (runSess (rsStep Variant.leaveSeeded [] []) {} St.init (leaveScript.take 6)).2.2.lock = some 1 := by
  decide

example : NoOrphan {} St.init ∧ (∀ op ∈ leaveScript, NoLeave op) := by decide

example :
    let r := runSess (rsStep Variant.fixed [] []) { lk := { leave := true } } St.init [.lockW]
    Coherent r.2.1 r.2.2 ∧ r.2.1.lk.mode = .w ∧ r.2.1.lk.count = 1 ∧ r.2.1.lk.leave = false := by decide

/-- the session specification extends the single-operation model of part 1: on an unlocked object an
operation of the session model is the corresponding `localStep` (here the write operation `tagSet` …) -/
theorem spec_unlocked_eq_localStep_tagSet (src : Graph) (st : St) (name : Bytes) (r : RevId) :
    ((specStep src {} st (.tagSet name r)).1, (specStep src {} st (.tagSet name r)).2.2)
      = localStep src st (.tagSet name r) := by
  simp only [specStep, withLkS, acquire, SOp.needsWrite, if_true, localStep, specBody]
  cases h : primLock st none with
  | error e => rfl
  | ok p =>
    obtain ⟨t, s1⟩ := p
    simp only [release]
    cases h2 : primRelease { s1 with tags := dset s1.tags name r } t with
    | error e => simp
    | ok s3 => simp

/-- … and the reads -/
theorem spec_unlocked_eq_localStep_reads (src : Graph) (st : St) :
    ((specStep src {} st .tip).1, (specStep src {} st .tip).2.2) = localStep src st .tip
      ∧ ((specStep src {} st .tagDict).1, (specStep src {} st .tagDict).2.2) = localStep src st .tagDict := by
  constructor <;> rfl

/-! non-vacuity: a fresh object is coherent, scoped and local; a state reached inside a lock scope with all
four caches filled is coherent; the partial theorem's hypothesis holds for a script with pulls and a tip
write; `TagsInv` holds as found for a fresh object -/
example : Coherent {} St.init ∧ Scoped {} ∧ LocalObj {} ∧ TagsInv Variant.asFound {} := by decide

example :
    let r := runSess (rsStep Variant.fixed wSrc []) {} St.init
      [.lockW, .pull false 1 wA1 [(tV1, wA1)], .tip, .tagDict]
    Coherent r.2.1 r.2.2 ∧ r.2.1.tipC = some (1, wA1) ∧ r.2.1.realTipC = some (1, wA1)
      ∧ r.2.1.tagsC = some [(tV1, wA1)] ∧ r.2.1.realTagsC = some [(tV1, wA1)] ∧ r.2.1.lk.mode = .w := by decide

example : ∀ op ∈ wScript, NoSrcTags op := by decide

example : (runSpec wSrc {} St.init wScript).1
    = [.token, .moved (0, nullRev) (2, wA2) 0, .moved (2, wA2) (3, wA3) 0, .err .diverged, .ok] := by decide

end BreezyVerif.C32
