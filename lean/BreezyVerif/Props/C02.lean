import BreezyVerif.Lemmas.C02Lin
import BreezyVerif.Lemmas.C02Dom
import BreezyVerif.Lemmas.C02Book
import BreezyVerif.Lemmas.C02Indep
/-
C02 — per-file last-changed revisions and per-file parents.

All theorems are about `build h`, the repository obtained by recording the
commits of an arbitrary history `h` (newest first; any length, any number of
parents per commit, any trees); the well-formedness hypothesis, where one is
needed (`inventory_records_tree`, `linear_characterisation` and
`perfile_independence` need none), is `hist h`: every commit has a
revision id that is neither recorded nor named as a parent so far (nor by the
commit itself), and its tree has one entry per file id.  Parents need NOT be
recorded: an absent parent is a ghost, for which the code (and the model) use
the empty tree.  `hist` is decidable; `exHist` and `exGhost` below satisfy it.
-/
namespace BreezyVerif.C02

/-- **Stored per-file parents are exactly the heads.**  For every text key
`(f, r)` the stored parent list equals — as a list, i.e. including its order —
the heads, in the per-file graph of the *final* repository, of the versions of
`f` present in `r`'s parent revisions (basis first). -/
theorem perfile_parents_are_heads (h : List Commit) (hh : hist h) :
    ∀ r ∈ build h, ∀ t ∈ r.texts,
      t.2 = heads (textsOf (build h)) t.1 (candidates (build h) r.parents t.1) :=
  parents_heads_build h hh

/-- no recorded per-file parent is a per-file ancestor of another one -/
theorem perfile_parents_antichain (h : List Commit) (hh : hist h) :
    ∀ r ∈ build h, ∀ t ∈ r.texts, ∀ p ∈ t.2, ∀ q ∈ t.2, q ≠ p →
      p ∉ fanc (textsOf (build h)) t.1 q := by
  intro r hr t ht p hp q hq hne
  rw [perfile_parents_are_heads h hh r hr t ht] at hp hq
  exact heads_not_anc hp (heads_subset hq) hne

/-- every recorded per-file parent is the version of the file present in one of
the revision's parents; every such version that is not recorded is a per-file
ancestor of another one -/
theorem perfile_parents_from_parents (h : List Commit) (hh : hist h) :
    ∀ r ∈ build h, ∀ t ∈ r.texts,
      (∀ p ∈ t.2, ∃ q ∈ r.parents, ∃ e, entryIn (build h) t.1 q = some e ∧ e.rev = p) ∧
      (∀ q ∈ r.parents, ∀ e, entryIn (build h) t.1 q = some e → e.rev ∉ t.2 →
        ∃ q' ∈ r.parents, ∃ e', entryIn (build h) t.1 q' = some e' ∧ e'.rev ≠ e.rev ∧
          e.rev ∈ fanc (textsOf (build h)) t.1 e'.rev) := by
  intro r hr t ht
  have hp := perfile_parents_are_heads h hh r hr t ht
  refine ⟨fun p hp' => candidates_entry (heads_subset (hp ▸ hp')), ?_⟩
  intro q hq e he hn
  rw [hp, mem_heads_iff] at hn
  have hc := mem_candidates_of_entry hq he
  have : ∃ c ∈ candidates (build h) r.parents t.1, c ≠ e.rev ∧
      e.rev ∈ fanc (textsOf (build h)) t.1 c := by
    apply Classical.byContradiction
    intro hno
    exact hn ⟨hc, fun c hc' hne hx => hno ⟨c, hc', hne, hx⟩⟩
  obtain ⟨c, hc', hne, hx⟩ := this
  obtain ⟨q', hq', e', he', hr'⟩ := candidates_entry hc'
  exact ⟨q', hq', e', he', hr' ▸ hne, hr' ▸ hx⟩

/-- **Last-changed is sound.**  The revision an entry names is the revision
itself or one of its ancestors, the inventory of that revision holds the very
same entry (identical kind, parent, name, executable bit, content), and the
text key `(f, last-changed)` is stored. -/
theorem lastchanged_sound (h : List Commit) (hh : hist h) :
    ∀ r ∈ build h, ∀ f e, r.inv.lookup f = some e →
      (e.rev = r.id ∨ e.rev ∈ ranc (build h) r.id) ∧
      entryIn (build h) f e.rev = some e ∧
      ∃ ps, ((f, e.rev), ps) ∈ textsOf (build h) := by
  intro r hr f e hl
  have w := build_WF h hh
  exact ⟨w.anc r hr f e hl, w.sound r hr f e hl, w.key r hr f e hl⟩

/-- the inventory of a commit holds exactly the committed tree's attributes -/
theorem inventory_records_tree (h : List Commit) (c : Commit) (f : FileId) :
    (entryIn (build (c :: h)) f c.id).map (·.attr) = c.tree.lookup f := by
  have : entryIn (build (c :: h)) f c.id = (mkRec (build h) c).inv.lookup f :=
    entryIn_cons_self (mkRec (build h) c) (build h) f
  rw [this, mkRec_inv_attr]

/-- **Last-changed is fresh exactly when something changed.**  The entry of `f`
recorded by commit `c` names `c` itself iff it is *not* the case that the
versions of `f` in `c`'s parents have a single per-file head whose attributes
equal the committed ones (no parent version, ≥ 2 heads, or a real change). -/
theorem lastchanged_fresh (h : List Commit) (c : Commit) (hh : hist (c :: h)) (f : FileId)
    (e : Entry) (he : entryIn (build (c :: h)) f c.id = some e) :
    e.rev = c.id ↔
      ¬ ∃ x, heads (textsOf (build h)) f (candidates (build h) c.parents f) = [x] ∧
        (entryIn (build h) f x).map (·.attr) = some e.attr := by
  rcases recorded_cases (build_WF h hh.1) (fun hx => hh.2.1 (id_mem_mentioned hx))
    (build_cons_entry he).1 with ⟨h1, h2, h3, _⟩ | ⟨h1, _, _, h4⟩
  · exact iff_of_false h1 fun hn => hn ⟨e.rev, h2, by rw [h3]; rfl⟩
  · exact iff_of_true h1 h4

/-- a text key `(f, c)` is stored iff the entry of `f` in `c` names `c` -/
theorem text_key_iff_fresh (h : List Commit) (c : Commit) (hh : hist (c :: h)) (f : FileId)
    (e : Entry) (he : entryIn (build (c :: h)) f c.id = some e) :
    (∃ ps, ((f, c.id), ps) ∈ textsOf (build (c :: h))) ↔ e.rev = c.id := by
  have w := build_WF h hh.1
  have hid : c.id ∉ ids (build h) := fun hx => hh.2.1 (id_mem_mentioned hx)
  have hl := (build_cons_entry he).1
  constructor
  · rintro ⟨ps, hps⟩
    have hps' : ((f, c.id), ps) ∈ textsOf (mkRec (build h) c :: build h) := hps
    rw [textsOf_cons] at hps'
    rcases List.mem_append.mp hps' with h1 | h1
    · simp only [List.mem_map] at h1
      obtain ⟨t, ht, hte⟩ := h1
      have htf : t.1 = f := by
        have := congrArg (fun k => k.1.1) hte
        simpa using this
      obtain ⟨_, e', hm, hrev⟩ := mkRec_texts_mem w hid ht
      rw [htf] at hm
      have := Lib.lookup_of_mem (inv_keys_nodup (c :: h) hh _ List.mem_cons_self) hm
      rw [hl] at this
      cases this
      exact hrev
    · exact absurd (textsOf_key_mem h1) hid
  · intro hr
    have w' := build_WF (c :: h) hh
    have hm : mkRec (build h) c ∈ build (c :: h) := List.mem_cons_self
    obtain ⟨ps, hps⟩ := w'.key _ hm f e hl
    exact ⟨ps, hr ▸ hps⟩

/-- **Linear histories.**  When every commit has exactly its predecessor as
parent, the last-changed revision of `f` in the newest commit is the latest
revision in which `f`'s attributes differ from the previous revision's (or in
which `f` first appears). -/
theorem linear_characterisation (c : Commit) (rest : List Commit)
    (hl : linear (c :: rest) = true) (f : FileId) :
    (entryIn (build (c :: rest)) f c.id).map (·.rev) = linLast (c :: rest) f := by
  have : entryIn (build (c :: rest)) f c.id = (mkRec (build rest) c).inv.lookup f :=
    entryIn_cons_self (mkRec (build rest) c) (build rest) f
  rw [this]
  exact linear_build rest c hl f

/-- **The consistency check passes.**  The text-parent verifier
(`_do_generate_text_key_index` + `_check_file_version_parents`) run on the
repository of any history reports no wrong parents, no unreferenced text
versions and no invalid text references; in fact the index it computes is the
stored per-file graph. -/
theorem check_passes (h : List Commit) (hh : hist h) :
    expIndex (build h) = textsOf (build h) ∧ wrongParents (build h) = [] ∧
      unreferenced (build h) = [] ∧ invalidRefs (build h) = [] := by
  have hx := expIndex_build h hh
  have w := build_WF h hh
  refine ⟨hx, ?_, ?_, ?_⟩
  · simp only [wrongParents, hx, List.map_eq_nil_iff, List.filter_eq_nil_iff]
    intro k hk
    have : (textsOf (build h)).lookup k.1 = some k.2 :=
      Lib.lookup_of_mem (textKeys_nodup h hh) hk
    simp [this]
  · simp only [unreferenced, hx, List.filter_eq_nil_iff]
    intro k hk
    simp [hk]
  · simp only [invalidRefs, List.filter_eq_nil_iff, List.mem_flatMap, List.mem_map]
    rintro k ⟨r, hr, t, ht, rfl⟩
    have hl : r.inv.lookup t.1 = some t.2 :=
      Lib.lookup_of_mem (inv_keys_nodup h hh r hr) ht
    simp [w.sound r hr t.1 t.2 hl]


/-- revision ancestry of the repository of any history is a strict partial
order (ghost parents included as leaves) -/
theorem revision_ancestry_strict (h : List Commit) (hh : hist h) :
    (∀ x y z, x ∈ ranc (build h) z → y ∈ ranc (build h) x → y ∈ ranc (build h) z) ∧
      ∀ x, x ∉ ranc (build h) x :=
  ⟨fun _ _ _ hx hy => ranc_trans (build_Fresh h hh) hx hy, ranc_irrefl (build_Fresh h hh)⟩

/-- **Per-file ancestry is contained in revision ancestry**: whatever the
per-file graph calls an ancestor of the text `(f, x)` is a revision-graph
ancestor of `x`.  So the `heads` of the other theorems are anchored to the
revision DAG, not only to the graph the commit builder wrote itself. -/
theorem fanc_sub_ranc (h : List Commit) (hh : hist h) (f : FileId) (x y : Rev) :
    y ∈ fanc (textsOf (build h)) f x → y ∈ ranc (build h) x :=
  fanc_sub_ranc_build h hh f x y

/-- every stored per-file parent of a text `(f, r)` is a strict revision-graph
ancestor of `r` -/
theorem perfile_parents_are_ancestors (h : List Commit) (hh : hist h) :
    ∀ r ∈ build h, ∀ t ∈ r.texts, ∀ p ∈ t.2, p ∈ ranc (build h) r.id := by
  intro r hr t ht p hp
  have hk : ((t.1, r.id), t.2) ∈ textsOf (build h) := by
    simp only [textsOf, List.mem_flatMap, List.mem_map]
    exact ⟨r, hr, t, ht, rfl⟩
  exact text_edge_ranc h hh (t.1, r.id) t.2 hk p hp

/-- per-file ancestry is a strict partial order -/
theorem perfile_ancestry_strict (h : List Commit) (hh : hist h) (f : FileId) :
    (∀ x y z, x ∈ fanc (textsOf (build h)) f z → y ∈ fanc (textsOf (build h)) f x →
      y ∈ fanc (textsOf (build h)) f z) ∧
      ∀ x, x ∉ fanc (textsOf (build h)) f x :=
  ⟨fun x y z => fanc_trans_build h hh f x y z, fanc_irrefl_build h hh f⟩

/-- **Single parent inside any DAG.**  For a commit with exactly one parent `p`
(present or ghost; whatever the rest of the history looks like) the entry of
`f` names the new revision iff the attributes of `f` differ from those in `p`
(or `p` does not hold `f`). -/
theorem lastchanged_single_parent (h : List Commit) (c : Commit) (hh : hist (c :: h)) (p : Rev)
    (hp : c.parents = [p]) (f : FileId) (e : Entry)
    (he : entryIn (build (c :: h)) f c.id = some e) :
    e.rev = c.id ↔ (entryIn (build h) f p).map (·.attr) ≠ some e.attr := by
  have w := build_WF h hh.1
  rcases recorded_cases w (fun hx => hh.2.1 (id_mem_mentioned hx))
    (build_cons_entry he).1 with ⟨h1, _, _, q, hq, hqe⟩ | ⟨h1, _, _, h4⟩
  · obtain rfl : q = p := by simpa [hp] using hq
    exact iff_of_false h1 fun hn => hn (by rw [hqe]; rfl)
  · -- if `p` held `f` with the committed attributes, its entry's revision would be the single head
    refine iff_of_true h1 fun hpa => h4 ?_
    cases hep : entryIn (build h) f p with
    | none => rw [hep] at hpa; cases hpa
    | some ep =>
      obtain ⟨r, hr, _, hlr⟩ := entryIn_mem hep
      refine ⟨ep.rev, ?_, by rw [w.sound r hr f ep hlr, ← hep]; exact hpa⟩
      have : candidates (build h) c.parents f = [ep.rev] := by
        simp [candidates, candEntries, hp, hep, dedup]
      rw [this, heads_singleton]

/-- **A carried-over last-changed revision dominates every parent's version**
(the DAG reading of "most recent revision in which the file changed").  When
the entry of `f` recorded by commit `c` names an older revision `x`, then (1)
some parent of `c` holds that very entry, and (2) the version of `f` in *every*
parent of `c` is either `x` or a strict per-file **and** revision-graph
ancestor of `x`: no parent knows a change of `f` that `x` does not include.
(`lastchanged_fresh` gives the converse: if that is the case and the attributes
are those of `x`, the entry is carried over.) -/
theorem lastchanged_carried_dominates (h : List Commit) (c : Commit) (hh : hist (c :: h))
    (f : FileId) (e : Entry) (he : entryIn (build (c :: h)) f c.id = some e)
    (hne : e.rev ≠ c.id) :
    (∃ q ∈ c.parents, entryIn (build h) f q = some e) ∧
      ∀ q ∈ c.parents, ∀ e', entryIn (build h) f q = some e' →
        e'.rev = e.rev ∨
          (e'.rev ∈ fanc (textsOf (build h)) f e.rev ∧ e'.rev ∈ ranc (build h) e.rev) := by
  rcases recorded_cases (build_WF h hh.1) (fun hx => hh.2.1 (id_mem_mentioned hx))
    (build_cons_entry he).1 with ⟨_, h2, _, h4⟩ | ⟨h1, _⟩
  · refine ⟨h4, fun q' hq' e' he' => ?_⟩
    by_cases heq : e'.rev = e.rev
    · exact .inl heq
    · have hd := single_head_dominates
        (fun a b c hab hbc => fanc_trans_build h hh.1 f b a c hbc hab)
        (fanc_irrefl_build h hh.1 f) h2 e'.rev (mem_candidates_of_entry hq' he') heq
      exact .inr ⟨hd, fanc_sub_ranc_build h hh.1 f _ _ hd⟩
  · exact absurd h1 hne

/-- **`merged_ids` / `parent_entries` / `changes` / `unchanged_merged` compute
`recordOne`.**  For a file id `f` that the committed tree holds with attributes
`a`, the literal transcription of the code's bookkeeping (`codeRecordOne`: only
ids that `iter_changes` reports or whose entry in a later parent is not
identical to the basis entry are processed, candidates `merged_ids.get(f,
[basis revision])`, carry-over source `parent_entries[f].get(heads[0])`, the
synthetic change of `unchanged_merged`, otherwise the basis entry is kept)
produces exactly the entry and text parents of `recordOne` — provided
`iter_changes` reports `f` iff its attributes differ from the basis entry's
(`differs`; the harness checks this hypothesis on every real commit). -/
theorem bookkeeping_refines (h : List Commit) (hh : hist h) (c : Commit) (f : FileId) (a : Attr) :
    codeRecordOne (build h) c f a (differs (build h) c f a)
      = .entry (recordOne (build h) c f a).1 (recordOne (build h) c f a).2 :=
  codeRecordOne_eq (build_WF h hh) c f a

/-- whole histories: recording every commit through the literal bookkeeping,
with reported-id sets that satisfy "reported iff differs" (`repsOk`), builds
the same repository as `build` -/
theorem bookkeeping_refines_history (hs : List (Commit × List FileId))
    (hh : hist (hs.map (·.1))) (hr : repsOk hs = true) :
    buildB hs = some (build (hs.map (·.1))) :=
  buildB_eq hs hh hr

/-- **File ids are recorded independently.**  Restricting every committed tree
of a history to a set `k` of file ids restricts every recorded inventory and the
stored per-file graph to `k` and changes nothing else: last-changed revisions
and per-file parents of the kept ids are the same.  (No hypothesis.  Used for
the non-rich-root formats, where the root directory is not a text key: the
history without the root is recorded like the history with it.) -/
theorem perfile_independence (k : FileId → Bool) (h : List Commit) :
    build (h.map (keepCommit k)) = (build h).map (keepRec k) :=
  build_keep k h

/-! ### non-vacuity -/

private def root : FileId × Attr := (1, ⟨0, 0, .dir⟩)

/-- r1 adds a file; r2 and r3 change it in parallel; r4 merges them keeping r2's
content (two per-file heads → new version); r5 merges r3 again (single head r4,
unchanged → carried over); newest first -/
def exHist : List Commit :=
  [ ⟨5, [4, 3], [root, (2, ⟨1, 1, .file false 6⟩)]⟩,
    ⟨4, [2, 3], [root, (2, ⟨1, 1, .file false 6⟩)]⟩,
    ⟨3, [1], [root, (2, ⟨1, 1, .file true 5⟩)]⟩,
    ⟨2, [1], [root, (2, ⟨1, 1, .file false 6⟩)]⟩,
    ⟨1, [], [root, (2, ⟨1, 1, .file false 5⟩)]⟩ ]

example : hist exHist := by decide +kernel
example : textsOf (build exHist)
    = [((2, 4), [2, 3]), ((2, 3), [1]), ((2, 2), [1]), ((1, 1), []), ((2, 1), [])] := by decide +kernel
example : (entryIn (build exHist) 2 5).map (·.rev) = some 4 := by decide +kernel
example : linear (exHist.drop 3) = true ∧ linLast (exHist.drop 3) 2 = some 2 := by decide +kernel
-- single parent inside the DAG: r3 has the single parent r1 and changes the file
example : (exHist.drop 2).head?.map (·.parents) = some [1] ∧
    (entryIn (build (exHist.drop 2)) 2 3).map (·.rev) = some 3 := by decide +kernel
-- carried over in a merge: r5 names r4 for the file; the other parent's version r3 is a
-- per-file and a revision ancestor of r4
example : (entryIn (build exHist) 2 5).map (·.rev) = some 4 ∧
    (entryIn (build (exHist.drop 1)) 2 3).map (·.rev) = some 3 ∧
    3 ∈ fanc (textsOf (build (exHist.drop 1))) 2 4 ∧ 3 ∈ ranc (build (exHist.drop 1)) 4 := by decide +kernel
-- the bookkeeping hypothesis is satisfiable with non-trivial report sets: in r5 nothing
-- differs from the basis r4 (the file is in `merged_ids`: unchanged_merged), in r4 nothing
-- differs from the basis r2 either, r3 and r2 report the file, r1 reports everything
def exReps : List (Commit × List FileId) :=
  exHist.zip [[], [], [2], [2], [1, 2]]
example : hist (exReps.map (·.1)) ∧ repsOk exReps = true := by decide +kernel
example : (buildB exReps).map textsOf = some (textsOf (build exHist)) := by decide +kernel

-- leaving the root (file id 1) out: the file's history is unchanged
example : textsOf (build (exHist.map (keepCommit (· != 1))))
    = [((2, 4), [2, 3]), ((2, 3), [1]), ((2, 2), [1]), ((2, 1), [])] := by decide +kernel

/-- ghost parents: r2's basis `8` is a ghost (everything is new against the empty
tree), r3 merges r1 and r2 with a third, ghost, parent `9`; r4 is a child of r3 -/
def exGhost : List Commit :=
  [ ⟨4, [3], [root, (2, ⟨1, 1, .file false 7⟩)]⟩,
    ⟨3, [1, 2, 9], [root, (2, ⟨1, 1, .file false 7⟩)]⟩,
    ⟨2, [8], [root, (2, ⟨1, 1, .file false 6⟩)]⟩,
    ⟨1, [], [root, (2, ⟨1, 1, .file false 5⟩)]⟩ ]

example : hist exGhost := by decide +kernel
example : textsOf (build exGhost)
    = [((1, 3), [1, 2]), ((2, 3), [1, 2]), ((1, 2), []), ((2, 2), []), ((1, 1), []), ((2, 1), [])] := by
  decide +kernel
example : (entryIn (build exGhost) 2 4).map (·.rev) = some 3 ∧ 9 ∈ ranc (build exGhost) 4 := by decide +kernel
-- taking a named ghost id later is what `hist` excludes
example : ¬ hist (⟨9, [4], [root]⟩ :: exGhost) := by decide +kernel

end BreezyVerif.C02
