import BreezyVerif.Lemmas.C24
import BreezyVerif.Lemmas.C24Bencode
import BreezyVerif.Lemmas.C24Git
/-!
C24 — theorems.  Tag dictionaries are arbitrary finite maps (association lists
with unique keys, `Nodup` of the key list being the explicit hypothesis where it
is needed) over *any* key and value types with decidable equality; selectors
are arbitrary predicates; nothing is bounded.

`srcSel sel src n` is the source's definition of `n` if `n` passes the selector,
`specVal`/`specUpd` (Lemmas/C24.lean) spell out the statement per tag name.
-/
namespace BreezyVerif.C24

section reconcile
variable {κ ν : Type} [DecidableEq κ] [DecidableEq ν]

/-- Complete pointwise characterisation of the resulting dictionary. -/
theorem reconcile_result_pointwise (src dst : Dict κ ν) (ow : Bool) (sel : Option (κ → Bool))
    (hn : (dkeys src).Nodup) (n : κ) :
    dget (reconcile src dst ow sel).result n = specVal (srcSel sel src n) (dget dst n) ow := by
  rw [reconcile_eq, specVal_eq_or]
  exact (mergeLoop_get _ _ sel (specUpd_none · ow) src hn _ n).1

/-- Complete pointwise characterisation of the reported updates. -/
theorem reconcile_updates_pointwise (src dst : Dict κ ν) (ow : Bool) (sel : Option (κ → Bool))
    (hn : (dkeys src).Nodup) (n : κ) :
    dget (reconcile src dst ow sel).updates n = specUpd (srcSel sel src n) (dget dst n) ow := by
  rw [reconcile_eq, (mergeLoop_get _ _ sel (specUpd_none · ow) src hn _ n).2]
  exact Option.or_none

/-- The reported conflicts are exactly the selected names defined differently on
both sides, when overwrite is off — as `(name, source value, destination value)`. -/
theorem reconcile_conflicts_exact (src dst : Dict κ ν) (ow : Bool) (sel : Option (κ → Bool))
    (hn : (dkeys src).Nodup) (c : κ × ν × ν) :
    c ∈ (reconcile src dst ow sel).conflicts ↔
      (ow = false ∧ srcSel sel src c.1 = some c.2.1 ∧ dget dst c.1 = some c.2.2 ∧ c.2.1 ≠ c.2.2) := by
  rw [reconcile_eq, mergeLoop_conflicts _ _ sel src hn]
  simp only [List.not_mem_nil, false_or, Bool.and_eq_true, Bool.not_eq_true', bne_iff_ne]
  exact ⟨fun ⟨h1, h2, h3, h4⟩ => ⟨h3, h1, h2, h4⟩, fun ⟨h1, h2, h3, h4⟩ => ⟨h2, h3, h1, h4⟩⟩

/-- every tag only in the source (and selected) is added, and reported as an update -/
theorem reconcile_source_only_added (src dst : Dict κ ν) (ow : Bool) (sel : Option (κ → Bool))
    (hn : (dkeys src).Nodup) (n : κ) (v : ν)
    (hsel : selected sel n = true) (hs : dget src n = some v) (hd : dget dst n = none) :
    dget (reconcile src dst ow sel).result n = some v
      ∧ dget (reconcile src dst ow sel).updates n = some v := by
  rw [reconcile_result_pointwise _ _ _ _ hn, reconcile_updates_pointwise _ _ _ _ hn]
  simp [srcSel, hsel, hs, hd, specVal, specUpd]

/-- every tag not (selectably) in the source is kept with the destination's
value — in particular every tag only in the destination — and is not reported -/
theorem reconcile_dest_only_kept (src dst : Dict κ ν) (ow : Bool) (sel : Option (κ → Bool))
    (hn : (dkeys src).Nodup) (n : κ) (hs : srcSel sel src n = none) :
    dget (reconcile src dst ow sel).result n = dget dst n
      ∧ dget (reconcile src dst ow sel).updates n = none
      ∧ ∀ v w, (n, v, w) ∉ (reconcile src dst ow sel).conflicts := by
  rw [reconcile_result_pointwise _ _ _ _ hn, reconcile_updates_pointwise _ _ _ _ hn]
  refine ⟨by simp [hs, specVal_none], by simp [hs, specUpd_none], ?_⟩
  intro v w h
  rw [reconcile_conflicts_exact _ _ _ _ hn] at h
  simp [hs] at h

/-- identical definitions are unchanged and not reported -/
theorem reconcile_same_unchanged (src dst : Dict κ ν) (ow : Bool) (sel : Option (κ → Bool))
    (hn : (dkeys src).Nodup) (n : κ) (v : ν) (hs : dget src n = some v) (hd : dget dst n = some v) :
    dget (reconcile src dst ow sel).result n = some v
      ∧ dget (reconcile src dst ow sel).updates n = none
      ∧ ∀ x w, (n, x, w) ∉ (reconcile src dst ow sel).conflicts := by
  rw [reconcile_result_pointwise _ _ _ _ hn, reconcile_updates_pointwise _ _ _ _ hn]
  refine ⟨?_, ?_, ?_⟩
  · cases h : selected sel n <;> simp [srcSel, h, hs, hd, specVal]
  · cases h : selected sel n <;> simp [srcSel, h, hs, hd, specUpd]
  · intro x w hc
    rw [reconcile_conflicts_exact _ _ _ _ hn] at hc
    obtain ⟨_, h1, h2, h3⟩ := hc
    cases h : selected sel n <;> simp [srcSel, h, hs, hd] at h1 h2
    exact h3 (h1.symm.trans h2)

/-- differing definitions without overwrite: the destination value is kept, the
conflict `(name, source, dest)` is reported, nothing is listed as updated -/
theorem reconcile_conflict_keeps_dest (src dst : Dict κ ν) (sel : Option (κ → Bool))
    (hn : (dkeys src).Nodup) (n : κ) (v w : ν) (hsel : selected sel n = true)
    (hs : dget src n = some v) (hd : dget dst n = some w) (hne : v ≠ w) :
    dget (reconcile src dst false sel).result n = some w
      ∧ (n, v, w) ∈ (reconcile src dst false sel).conflicts
      ∧ dget (reconcile src dst false sel).updates n = none := by
  rw [reconcile_result_pointwise _ _ _ _ hn, reconcile_updates_pointwise _ _ _ _ hn,
    reconcile_conflicts_exact _ _ _ _ hn]
  simp [srcSel, hsel, hs, hd, hne, specVal, specUpd]

/-- differing definitions with overwrite: the source value wins, is reported as
an update and no conflict is reported for the name -/
theorem reconcile_overwrite_takes_source (src dst : Dict κ ν) (sel : Option (κ → Bool))
    (hn : (dkeys src).Nodup) (n : κ) (v w : ν) (hsel : selected sel n = true)
    (hs : dget src n = some v) (hd : dget dst n = some w) (hne : v ≠ w) :
    dget (reconcile src dst true sel).result n = some v
      ∧ dget (reconcile src dst true sel).updates n = some v
      ∧ (reconcile src dst true sel).conflicts = [] := by
  rw [reconcile_result_pointwise _ _ _ _ hn, reconcile_updates_pointwise _ _ _ _ hn]
  refine ⟨by simp [srcSel, hsel, hs, hd, hne, specVal], by simp [srcSel, hsel, hs, hd, hne, specUpd], ?_⟩
  apply List.eq_nil_iff_forall_not_mem.mpr
  intro c hc
  rw [reconcile_conflicts_exact _ _ _ _ hn] at hc
  simp at hc

/-- `updates` is exactly the set of names whose value changed, with the new value -/
theorem updates_exact (src dst : Dict κ ν) (ow : Bool) (sel : Option (κ → Bool))
    (hn : (dkeys src).Nodup) (n : κ) :
    dget (reconcile src dst ow sel).updates n
      = if dget (reconcile src dst ow sel).result n = dget dst n then none
        else dget (reconcile src dst ow sel).result n := by
  rw [reconcile_result_pointwise _ _ _ _ hn, reconcile_updates_pointwise _ _ _ _ hn]
  unfold specVal specUpd
  cases srcSel sel src n with
  | none => simp
  | some v =>
    cases dget dst n with
    | none => simp
    | some w =>
      by_cases h : v = w
      · simp [h]
      · cases ow <;> simp [h]

/-- a name rejected by the selector is left exactly as it is in the destination -/
theorem selector_respected (src dst : Dict κ ν) (ow : Bool) (f : κ → Bool)
    (hn : (dkeys src).Nodup) (n : κ) (hf : f n = false) :
    dget (reconcile src dst ow (some f)).result n = dget dst n
      ∧ dget (reconcile src dst ow (some f)).updates n = none
      ∧ ∀ v w, (n, v, w) ∉ (reconcile src dst ow (some f)).conflicts :=
  reconcile_dest_only_kept src dst ow (some f) hn n (by simp [srcSel, selected, hf])

/-- the resulting key set: destination names plus selected source names -/
theorem reconcile_keys (src dst : Dict κ ν) (ow : Bool) (sel : Option (κ → Bool))
    (hn : (dkeys src).Nodup) (n : κ) :
    n ∈ dkeys (reconcile src dst ow sel).result ↔
      n ∈ dkeys dst ∨ (selected sel n = true ∧ n ∈ dkeys src) := by
  rw [← dget_isSome_iff, ← dget_isSome_iff, ← dget_isSome_iff, reconcile_result_pointwise _ _ _ _ hn]
  unfold specVal srcSel
  cases hsel : selected sel n <;> cases hs : dget src n <;> cases hd : dget dst n <;> simp
  rename_i v w
  by_cases e : v = w <;> cases ow <;> simp [e]

/-- no tag of the destination is ever lost -/
theorem reconcile_never_loses (src dst : Dict κ ν) (ow : Bool) (sel : Option (κ → Bool))
    (hn : (dkeys src).Nodup) (n : κ) (h : n ∈ dkeys dst) :
    n ∈ dkeys (reconcile src dst ow sel).result :=
  (reconcile_keys src dst ow sel hn n).mpr (Or.inl h)

/-- the result is again a dictionary (unique keys) -/
theorem reconcile_result_nodup (src dst : Dict κ ν) (ow : Bool) (sel : Option (κ → Bool))
    (hd : (dkeys dst).Nodup) : (dkeys (reconcile src dst ow sel).result).Nodup := by
  rw [reconcile_eq]
  exact (mergeLoop_nodup _ _ sel src _).1 hd

/-- `_merge_to` skips the write when `result == dest_dict`; what is stored is
the reconciled dictionary in every case (as a map) -/
theorem mergeTo_stored (dst src : Dict κ ν) (ow : Bool) (sel : Option (κ → Bool))
    (hd : (dkeys dst).Nodup) (n : κ) :
    dget (mergeTo dst src ow sel).1 n = dget (reconcile src dst ow sel).result n := by
  unfold mergeTo
  simp only
  split
  · rfl
  · rename_i h
    exact (dictNe_false _ _ (reconcile_result_nodup src dst ow sel hd) (by simpa using h) n).symm

/-- nothing happens when source and target are the same branch, the source does
not support tags, or the source has no tags -/
theorem merge_noop (same sup : Bool) (src tgt : Dict κ ν) (m : Option (Dict κ ν)) (ow ign : Bool)
    (sel : Option (κ → Bool)) (h : same = true ∨ sup = false ∨ src = []) :
    merge same sup src tgt m ow ign sel = ⟨tgt, m, [], []⟩ := by
  unfold merge
  have : (same || !sup || src.isEmpty) = true := by
    rcases h with h | h | h <;> simp [h]
  simp [this]

/-- the target branch's tags after `merge`: the reconciliation of source and target -/
theorem merge_target_pointwise (src tgt : Dict κ ν) (m : Option (Dict κ ν)) (ow ign : Bool)
    (sel : Option (κ → Bool)) (hs : (dkeys src).Nodup) (ht : (dkeys tgt).Nodup) (hne : src ≠ [])
    (n : κ) :
    dget (merge false true src tgt m ow ign sel).target n
      = specVal (srcSel sel src n) (dget tgt n) ow := by
  rw [← reconcile_result_pointwise src tgt ow sel hs, ← mergeTo_stored tgt src ow sel ht,
    merge_active _ _ _ _ _ _ hne]
  split <;> rfl

/-- the master branch's tags after `merge`: reconciled with the *source* (not
with the target) unless `ignore_master`; untouched otherwise -/
theorem merge_master_pointwise (src tgt : Dict κ ν) (m : Dict κ ν) (ow : Bool)
    (sel : Option (κ → Bool)) (hs : (dkeys src).Nodup) (hm : (dkeys m).Nodup) (hne : src ≠ []) :
    (∃ m', (merge false true src tgt (some m) ow false sel).master = some m'
        ∧ ∀ n, dget m' n = specVal (srcSel sel src n) (dget m n) ow)
      ∧ (merge false true src tgt (some m) ow true sel).master = some m
      ∧ (merge false true src tgt none ow false sel).master = none := by
  rw [merge_active _ _ _ _ _ _ hne, merge_active _ _ _ _ _ _ hne, merge_active _ _ _ _ _ _ hne]
  exact ⟨⟨_, rfl, fun n => by
    rw [← reconcile_result_pointwise src m ow sel hs, mergeTo_stored m src ow sel hm]⟩, rfl, rfl⟩

/-- the reported conflict set is the union of the target's and the master's conflicts -/
theorem merge_conflicts_exact (src tgt : Dict κ ν) (m : Option (Dict κ ν)) (ow ign : Bool)
    (sel : Option (κ → Bool)) (hne : src ≠ []) (c : κ × ν × ν) :
    c ∈ (merge false true src tgt m ow ign sel).conflicts ↔
      c ∈ (reconcile src tgt ow sel).conflicts
        ∨ ∃ md, m = some md ∧ ign = false ∧ c ∈ (reconcile src md ow sel).conflicts := by
  rw [merge_active _ _ _ _ _ _ hne]
  cases ign <;> cases m <;> simp [mergeTo, List.mem_eraseDups]

/-- the reported updates: the master's update for a name if there is one, else the target's -/
theorem merge_updates_pointwise (src tgt m : Dict κ ν) (ow : Bool) (sel : Option (κ → Bool))
    (hs : (dkeys src).Nodup) (hne : src ≠ []) (n : κ) :
    dget (merge false true src tgt (some m) ow false sel).updates n
        = (match specUpd (srcSel sel src n) (dget m n) ow with
           | some x => some x
           | none => specUpd (srcSel sel src n) (dget tgt n) ow)
      ∧ dget (merge false true src tgt none ow false sel).updates n
        = specUpd (srcSel sel src n) (dget tgt n) ow := by
  simp only [merge_active _ _ _ _ _ _ hne, mergeTo, Bool.false_eq_true, if_false]
  refine ⟨?_, reconcile_updates_pointwise _ _ _ _ hs n⟩
  have hu : (dkeys (reconcile src m ow sel).updates).Nodup := by
    rw [reconcile_eq]
    exact (mergeLoop_nodup _ _ sel src _).2 List.nodup_nil
  rw [dget_dupdate _ _ hu,
    reconcile_updates_pointwise _ _ _ _ hs, reconcile_updates_pointwise _ _ _ _ hs]
  cases specUpd (srcSel sel src n) (dget m n) ow <;> rfl

example : (reconcile [(1, 10), (2, 20), (3, 30), (5, 50)] [(2, 21), (3, 30), (4, 40)] false
    (some fun n => n != 5)).result = [(2, 21), (3, 30), (4, 40), (1, 10)] := by decide +kernel
example : (reconcile [(1, 10), (2, 20), (3, 30), (5, 50)] [(2, 21), (3, 30), (4, 40)] false
    (some fun n => n != 5)).conflicts = [(2, 20, 21)] := by decide +kernel
example : (reconcile [(1, 10), (2, 20), (3, 30)] [(2, 21), (3, 30), (4, 40)] true none).updates
    = [(1, 10), (2, 20)] := by decide +kernel
example : (dkeys [(1, 10), (2, 20), (3, 30), (5, 50)]).Nodup := by decide +kernel

end reconcile

/-! ### local git destinations

`cls` says how the destination git repository sees a revision id (a commit it
has / not a git revision id at all = ghost / a git revision id whose commit it
does not have = absent); it is an arbitrary function, `refs` are the
destination's raw tag refs (they may contain broken refs, which `get_tag_dict`
does not show), `strict` selects whether `set_tag` refuses absent commits.
Everything is for all dictionaries, selectors, classifications — unbounded. -/
section git
variable {κ ν : Type} [DecidableEq κ] [DecidableEq ν]

/-- `LocalGitTagDict._set_tag_dict(to)`, raw refs afterwards: a tag named in
`to` holds the new value if `set_tag` could write it and keeps its previous ref
otherwise (the ghost is skipped — it does not end the loop); every tag ref not
named in `to` is deleted, no other. -/
theorem gitSetTagDict_pointwise (strict : Bool) (cls : ν → RevClass) (refs to : Dict κ ν)
    (hn : (dkeys to).Nodup) (n : κ) :
    dget (gitSetTagDict strict cls refs to) n
      = match dget to n with
        | some v => if setTagWrites strict (cls v) then some v else dget refs n
        | none => none := by
  unfold gitSetTagDict
  simp only [dget_foldl_ddel, gitSet_fold_extra, gitSet_fold_refs strict cls to hn,
    ← dget_eq_none_iff to n]
  cases ht : dget to n with
  | some v => simp
  | none =>
    by_cases hr : n ∈ dkeys refs
    · simp [hr]
    · simp [hr, (dget_eq_none_iff refs n).mpr hr]

/-- Complete pointwise characterisation of what is readable in a local git
destination after `merge_to` from a non-git source (`MemoryTags`, `BasicTags`),
including the write-skipping `result != dest_dict`. -/
theorem git_merge_read_pointwise (strict : Bool) (cls : ν → RevClass) (refs src : Dict κ ν) (ow : Bool)
    (sel : Option (κ → Bool)) (hr : (dkeys refs).Nodup) (hs : (dkeys src).Nodup) (n : κ) :
    dget (gitRead cls (gitMergeTo strict cls refs src ow sel).1) n
      = gitSpec strict cls (srcSel sel src n) (dget (gitRead cls refs) n) ow := by
  have hd := gitRead_nodup cls refs hr
  have hR := reconcile_result_pointwise src (gitRead cls refs) ow sel hs n
  have hRn := reconcile_result_nodup src (gitRead cls refs) ow sel hd
  unfold gitMergeTo
  simp only
  split
  · -- written
    rw [gitRead_get cls _ (gitSetTagDict_nodup strict cls refs _ hr),
      gitSetTagDict_pointwise strict cls refs _ hRn, hR]
    unfold gitSpec
    cases hsv : specVal (srcSel sel src n) (dget (gitRead cls refs) n) ow with
    | none => simp
    | some v =>
      simp only
      rw [gitRead_get cls refs hr]
      cases hc : cls v <;> cases strict <;> simp [setTagWrites, hc, RevClass.isCommit, Option.filter]
  · -- not written: the reconciled dictionary equals the destination's
    rename_i hne
    have heq := dictNe_false _ _ hRn (by simpa using hne) n
    rw [hR] at heq
    unfold gitSpec
    rw [heq]
    cases hd' : dget (gitRead cls refs) n with
    | none => rfl
    | some v => simp only [gitRead_commit cls refs n v hd']

/-- what a merge onto a git store reports: `updates` lists every selected source
definition that is new to, or (with overwrite) differs from, the destination's
*readable* tags — whether or not the repository could hold it (a ghost is listed
although it is skipped) — and `conflicts` is exactly the set of selected names
whose readable destination definition differs, when overwrite is off -/
theorem git_merge_reports (strict : Bool) (cls : ν → RevClass) (refs src : Dict κ ν) (ow : Bool)
    (sel : Option (κ → Bool)) (hs : (dkeys src).Nodup) (n : κ) (c : κ × ν × ν) :
    dget (gitMergeTo strict cls refs src ow sel).2.1 n
        = specUpd (srcSel sel src n) (dget (gitRead cls refs) n) ow
      ∧ (c ∈ (gitMergeTo strict cls refs src ow sel).2.2 ↔
          (ow = false ∧ srcSel sel src c.1 = some c.2.1
            ∧ dget (gitRead cls refs) c.1 = some c.2.2 ∧ c.2.1 ≠ c.2.2)) :=
  ⟨reconcile_updates_pointwise src (gitRead cls refs) ow sel hs n,
   reconcile_conflicts_exact src (gitRead cls refs) ow sel hs c⟩

/-- when every selected source value is a commit of the destination repository,
a git destination obeys the statement exactly (added / kept / unchanged /
conflict keeps destination / overwrite takes source) -/
theorem git_merge_follows_statement (strict : Bool) (cls : ν → RevClass) (refs src : Dict κ ν)
    (ow : Bool) (sel : Option (κ → Bool)) (hr : (dkeys refs).Nodup) (hs : (dkeys src).Nodup)
    (hc : ∀ n v, srcSel sel src n = some v → cls v = .commit) (n : κ) :
    dget (gitRead cls (gitMergeTo strict cls refs src ow sel).1) n
      = specVal (srcSel sel src n) (dget (gitRead cls refs) n) ow := by
  rw [git_merge_read_pointwise strict cls refs src ow sel hr hs]
  cases hsv : specVal (srcSel sel src n) (dget (gitRead cls refs) n) ow with
  | none => simp [gitSpec, hsv]
  | some v =>
    have : cls v = .commit := (specVal_mem hsv).elim (hc n v) (gitRead_commit cls refs n v)
    simp [gitSpec, hsv, this]

/-- a source tag that is selected, new to the destination and a commit the
destination has is added — whatever else (ghosts included) is in the source -/
theorem git_merge_source_only_added (strict : Bool) (cls : ν → RevClass) (refs src : Dict κ ν)
    (ow : Bool) (sel : Option (κ → Bool)) (hr : (dkeys refs).Nodup) (hs : (dkeys src).Nodup)
    (n : κ) (v : ν) (h1 : srcSel sel src n = some v) (h2 : dget (gitRead cls refs) n = none)
    (hc : cls v = .commit) :
    dget (gitRead cls (gitMergeTo strict cls refs src ow sel).1) n = some v := by
  rw [git_merge_read_pointwise strict cls refs src ow sel hr hs]
  simp [gitSpec, specVal, h1, h2, hc]

/-- every tag only in the destination (or not selected) is kept — whatever else
(ghosts included) is in the source -/
theorem git_merge_dest_only_kept (strict : Bool) (cls : ν → RevClass) (refs src : Dict κ ν)
    (ow : Bool) (sel : Option (κ → Bool)) (hr : (dkeys refs).Nodup) (hs : (dkeys src).Nodup)
    (n : κ) (h1 : srcSel sel src n = none) :
    dget (gitRead cls (gitMergeTo strict cls refs src ow sel).1) n = dget (gitRead cls refs) n := by
  rw [git_merge_read_pointwise strict cls refs src ow sel hr hs, h1]
  cases hd : dget (gitRead cls refs) n with
  | none => simp [gitSpec, specVal]
  | some v => simp [gitSpec, specVal, gitRead_commit cls refs n v hd]

/-- a source definition the destination cannot hold (a ghost) leaves the
destination's definition of that name — or its absence — exactly as it was -/
theorem git_merge_ghost_leaves_dest (strict : Bool) (cls : ν → RevClass) (refs src : Dict κ ν)
    (ow : Bool) (sel : Option (κ → Bool)) (hr : (dkeys refs).Nodup) (hs : (dkeys src).Nodup)
    (n : κ) (v : ν) (h1 : srcSel sel src n = some v) (hg : cls v = .ghost) :
    dget (gitRead cls (gitMergeTo strict cls refs src ow sel).1) n = dget (gitRead cls refs) n := by
  rw [git_merge_read_pointwise strict cls refs src ow sel hr hs, h1]
  cases hd : dget (gitRead cls refs) n with
  | none => simp [gitSpec, specVal, hg]
  | some w =>
    have hw := gitRead_commit cls refs n w hd
    have e : v ≠ w := fun e => by rw [e, hw] at hg; cases hg
    cases ow <;> simp [gitSpec, specVal, e, hg, hw]

/-- No readable destination tag is ever lost, provided `set_tag` is strict or no
selected source value is an absent commit.  (Full statement — without the
proviso — is false for the non-strict `set_tag`: `git_merge_absent_loses_witness`.) -/
theorem git_merge_never_loses_partial (strict : Bool) (cls : ν → RevClass) (refs src : Dict κ ν)
    (ow : Bool) (sel : Option (κ → Bool)) (hr : (dkeys refs).Nodup) (hs : (dkeys src).Nodup)
    (hp : strict = true ∨ ∀ n v, srcSel sel src n = some v → cls v ≠ .absent)
    (n : κ) (h : (dget (gitRead cls refs) n).isSome) :
    (dget (gitRead cls (gitMergeTo strict cls refs src ow sel).1) n).isSome := by
  rw [git_merge_read_pointwise strict cls refs src ow sel hr hs]
  cases hd : dget (gitRead cls refs) n with
  | none => simp [hd] at h
  | some w =>
    have hw := gitRead_commit cls refs n w hd
    cases hs' : srcSel sel src n with
    | none => simp [gitSpec, specVal, hw]
    | some v =>
      by_cases e : v = w
      · simp [gitSpec, specVal, e, hw]
      · cases ow
        · simp [gitSpec, specVal, e, hw]
        · -- the source value is written over the destination's: lost only if it is an absent
          -- commit and `set_tag` does not refuse those
          cases hcv : cls v
          · simp [gitSpec, specVal, e, hcv]
          · simp [gitSpec, specVal, e, hcv]
          · rcases hp with hp | hp
            · simp [gitSpec, specVal, e, hcv, hp]
            · exact absurd hcv (hp n v hs')

/-- the non-strict `set_tag` loses a destination tag: overwriting `t ↦ 1` with
the absent commit `2` leaves a broken ref, nothing readable under `t` -/
theorem git_merge_absent_loses_witness :
    let cls : Nat → RevClass := fun v => if v = 2 then .absent else .commit
    dget (gitRead cls [(7, 1)]) 7 = some 1
      ∧ dget (gitRead cls (gitMergeTo false cls [(7, 1)] [(7, 2)] true none).1) 7 = none
      ∧ dget (gitRead cls (gitMergeTo true cls [(7, 1)] [(7, 2)] true none).1) 7 = some 1 := by
  decide +kernel

/-- raw target refs afterwards, per tag name -/
theorem g2g_refs_pointwise (cls : ν → RevClass) (refs src : Dict κ ν) (ow : Bool)
    (sel : Option (κ → Bool)) (hs : (dkeys src).Nodup) (n : κ) :
    dget (gitToGit cls refs src ow sel).refs n
      = g2gSpec cls (srcSel sel src n) (dget refs n) ow := by
  show dget (gitToGit cls refs src ow sel).toRec.result n = _
  rw [gitToGit_eq, g2gSpec_eq_or]
  exact (mergeLoop_get _ _ sel (g2gUpd_none cls · ow) src hs _ n).1

/-- reported updates: exactly the refs that were written, with the new value -/
theorem g2g_updates_pointwise (cls : ν → RevClass) (refs src : Dict κ ν) (ow : Bool)
    (sel : Option (κ → Bool)) (hs : (dkeys src).Nodup) (n : κ) :
    dget (gitToGit cls refs src ow sel).updates n
      = g2gUpd cls (srcSel sel src n) (dget refs n) ow := by
  show dget (gitToGit cls refs src ow sel).toRec.updates n = _
  rw [gitToGit_eq, (mergeLoop_get _ _ sel (g2gUpd_none cls · ow) src hs _ n).2]
  exact Option.or_none

/-- reported conflicts: the selected names whose (readable) target definition
differs, when overwrite is off -/
theorem g2g_conflicts_exact (cls : ν → RevClass) (refs src : Dict κ ν) (ow : Bool)
    (sel : Option (κ → Bool)) (hs : (dkeys src).Nodup) (c : κ × ν × ν) :
    c ∈ (gitToGit cls refs src ow sel).conflicts ↔
      (ow = false ∧ srcSel sel src c.1 = some c.2.1 ∧ dget refs c.1 = some c.2.2
        ∧ c.2.1 ≠ c.2.2 ∧ (cls c.2.2).isCommit = true) := by
  show c ∈ (gitToGit cls refs src ow sel).toRec.conflicts ↔ _
  rw [gitToGit_eq, mergeLoop_conflicts _ _ sel src hs]
  simp only [List.not_mem_nil, false_or, Bool.and_eq_true, Bool.not_eq_true', bne_iff_ne]
  exact ⟨fun ⟨h1, h2, ⟨h3, h4⟩, h5⟩ => ⟨h3, h1, h2, h4, h5⟩,
    fun ⟨h1, h2, h3, h4, h5⟩ => ⟨h2, h3, ⟨h1, h4⟩, h5⟩⟩

/-- when the target has no broken refs, git → local git leaves readable exactly
what the strict git specification says: the statement for commits the target
has, the destination's definition for commits it does not have -/
theorem g2g_read_pointwise (cls : ν → RevClass) (refs src : Dict κ ν) (ow : Bool)
    (sel : Option (κ → Bool)) (hr : (dkeys refs).Nodup) (hs : (dkeys src).Nodup)
    (hg : ∀ v, cls v ≠ .ghost)
    (hb : ∀ n w, dget refs n = some w → cls w = .commit) (n : κ) :
    dget (gitRead cls (gitToGit cls refs src ow sel).refs) n
      = gitSpec true cls (srcSel sel src n) (dget (gitRead cls refs) n) ow := by
  rw [gitRead_get cls _ (g2g_refs_nodup cls refs src ow sel hr), gitRead_get cls refs hr,
    g2g_refs_pointwise cls refs src ow sel hs]
  unfold gitSpec g2gSpec specVal
  cases hs' : srcSel sel src n with
  | none =>
    cases hd : dget refs n with
    | none => simp
    | some w => simp [Option.filter, hb n w hd, RevClass.isCommit]
  | some v =>
    have hgv := hg v
    cases hd : dget refs n with
    | none =>
      cases hcv : cls v <;> simp_all [Option.filter, RevClass.isCommit]
    | some w =>
      have hw := hb n w hd
      by_cases e : v = w
      · subst e; simp [Option.filter, hw, RevClass.isCommit]
      · cases ow <;> cases hcv : cls v <;> simp_all [Option.filter, RevClass.isCommit]

/-- git → local git never loses a readable target tag -/
theorem g2g_never_loses (cls : ν → RevClass) (refs src : Dict κ ν) (ow : Bool)
    (sel : Option (κ → Bool)) (hr : (dkeys refs).Nodup) (hs : (dkeys src).Nodup) (n : κ)
    (h : (dget (gitRead cls refs) n).isSome) :
    (dget (gitRead cls (gitToGit cls refs src ow sel).refs) n).isSome := by
  rw [gitRead_get cls _ (g2g_refs_nodup cls refs src ow sel hr),
    g2g_refs_pointwise cls refs src ow sel hs, g2gSpec_eq_or]
  rw [gitRead_get cls refs hr] at h
  cases hu : g2gUpd cls (srcSel sel src n) (dget refs n) ow with
  | none => exact h
  | some v => simp [Option.filter, g2gUpd_commit hu]

-- non-vacuity of the hypotheses: a classification with ghosts and absent commits, a
-- destination with a broken ref, a source whose selected values are all commits
example :
    let cls : Nat → RevClass := fun v => if v = 0 then .ghost else if v = 2 then .absent else .commit
    ∀ n v, srcSel (some fun k => k != 4) [(1, 1), (4, 0), (3, 3)] n = some v → cls v = .commit := by
  exact srcSel_forall (by decide +kernel)
example :
    let cls : Nat → RevClass := fun v => if v = 0 then .ghost else if v = 2 then .absent else .commit
    ∀ n v, srcSel none [(1, 1), (4, 0), (3, 3)] n = some v → cls v ≠ .absent := by
  exact srcSel_forall (by decide +kernel)
example :
    let cls : Nat → RevClass := fun v => if v = 2 then .absent else .commit
    (∀ v, cls v ≠ .ghost) ∧ ∀ n w, dget [(9, 1), (5, 3)] n = some w → cls w = .commit := by
  exact ⟨fun v => by by_cases h : v = 2 <;> simp [h], dget_forall (by decide +kernel)⟩

-- non-vacuity: a ghost in the middle of the source; the tags after it are still
-- added, the destination-only tag 9 survives, the broken ref 8 is cleaned up
example :
    let cls : Nat → RevClass := fun v => if v = 0 then .ghost else if v = 2 then .absent else .commit
    gitMergeTo true cls [(9, 1), (8, 2)] [(1, 1), (2, 0), (3, 3)] false none
      = ([(9, 1), (1, 1), (3, 3)], [(1, 1), (2, 0), (3, 3)], []) := by decide +kernel
example :
    let cls : Nat → RevClass := fun v => if v = 0 then .ghost else if v = 2 then .absent else .commit
    (gitToGit cls [(9, 1), (5, 1)] [(1, 1), (4, 2), (5, 3), (3, 3)] false none).refs
        = [(9, 1), (5, 1), (1, 1), (3, 3)]
      ∧ (gitToGit cls [(9, 1), (5, 1)] [(1, 1), (4, 2), (5, 3), (3, 3)] false none).conflicts
        = [(5, 3, 1)] := by decide +kernel
example : (dkeys [(9, 1), (8, 2)]).Nodup ∧ (dkeys [(1, 1), (2, 0), (3, 3)]).Nodup := by decide +kernel

end git

/-- the stored order is the sorted order; as a map nothing changes -/
theorem sortKV_same_map (d : Dict Bytes Bytes) (hn : (dkeys d).Nodup) (k : Bytes) :
    dget (sortKV d) k = dget d k := by
  have hs := Sorted.nodup _ (sortKV_sorted d hn)
  cases h : dget d k with
  | none =>
    rw [dget_eq_none_iff] at h ⊢
    exact fun hm => h ((dkeys_sortKV k d).mp hm)
  | some v =>
    exact dget_of_mem _ hs k v ((mem_sortKV (k, v) d).mpr (dget_some_mem d k v h))

/-- bencode round trip for every dictionary of byte strings with unique keys:
decoding the encoding gives back the items, in key order -/
theorem bencode_dict_roundtrip (d : Dict Bytes Bytes) (hn : (dkeys d).Nodup) :
    decode (encDict d) = .ok (sortKV d) := by
  unfold decode encDict
  simp only
  have hlen := encItems_length (sortKV d)
  rw [decItems_enc (sortKV d) (sortKV_sorted d hn) _ (by simp; omega) none (by simp) []]

/-- `_deserialize_tag_dict (_serialize_tag_dict d) = d` for every tag dictionary
whose names are valid UTF-8 (i.e. every Python `str` without lone surrogates),
values arbitrary byte strings: same names, same values (`sortKV_same_map`),
stored in sorted order -/
theorem tags_roundtrip (d : Dict Bytes Bytes) (hn : (dkeys d).Nodup)
    (hu : ∀ k ∈ dkeys d, validUTF8 k = true) :
    deserialize (serialize d) = .ok (sortKV d) := by
  unfold deserialize serialize
  have hne : (encDict d).isEmpty = false := by simp [encDict]
  rw [hne, bencode_dict_roundtrip d hn]
  have : (sortKV d).all (fun e => validUTF8 e.1) = true := by
    rw [List.all_eq_true]
    intro e he
    exact hu e.1 ((dkeys_sortKV e.1 d).mp (by simp only [dkeys, List.mem_map]; exact ⟨e, he, rfl⟩))
  simp [this]

/-- two tag dictionaries with the same stored bytes are the same map: nothing
is lost or merged by the serialisation -/
theorem serialize_injective (d1 d2 : Dict Bytes Bytes) (h1 : (dkeys d1).Nodup) (h2 : (dkeys d2).Nodup)
    (h : serialize d1 = serialize d2) (k : Bytes) : dget d1 k = dget d2 k := by
  have e1 := bencode_dict_roundtrip d1 h1
  have e2 := bencode_dict_roundtrip d2 h2
  unfold serialize at h
  rw [h, e2] at e1
  have : sortKV d2 = sortKV d1 := by injection e1
  rw [← sortKV_same_map d1 h1, ← sortKV_same_map d2 h2, this]

/-- `BasicTags.set_tag(k, v)` = read, `d[k] = v`, write: reading the file again
gives `v` for `k` and every other tag exactly as before -/
theorem set_tag_roundtrip (d : Dict Bytes Bytes) (hn : (dkeys d).Nodup)
    (hu : ∀ n ∈ dkeys d, validUTF8 n = true) (k v : Bytes) (hk : validUTF8 k = true) :
    ∃ d', deserialize (serialize (dset d k v)) = .ok d'
      ∧ ∀ n, dget d' n = if k = n then some v else dget d n := by
  have hn' := dset_nodup d k v hn
  have hu' : ∀ n ∈ dkeys (dset d k v), validUTF8 n = true := fun n hm =>
    ((mem_dkeys_dset d k n v).mp hm).elim (· ▸ hk) (hu n)
  refine ⟨_, tags_roundtrip _ hn' hu', ?_⟩
  intro n
  rw [sortKV_same_map _ hn']
  by_cases e : k = n
  · subst e; simp [dget_dset_self]
  · simp [e, dget_dset_ne _ _ _ _ e]

/-- `BasicTags.delete_tag(k)` = read, `del d[k]`, write: reading the file again
gives no tag `k` and every other tag exactly as before -/
theorem delete_tag_roundtrip (d : Dict Bytes Bytes) (hn : (dkeys d).Nodup)
    (hu : ∀ n ∈ dkeys d, validUTF8 n = true) (k : Bytes) :
    ∃ d', deserialize (serialize (ddel d k)) = .ok d'
      ∧ ∀ n, dget d' n = if n = k then none else dget d n := by
  have hn' := ddel_nodup d k hn
  have hu' : ∀ n ∈ dkeys (ddel d k), validUTF8 n = true :=
    fun n hm => hu n ((dkeys_filter_sublist d _).subset hm)
  refine ⟨_, tags_roundtrip _ hn' hu', ?_⟩
  intro n
  rw [sortKV_same_map _ hn', dget_ddel]

/-- the empty file is the empty dictionary (initial state of a branch) -/
theorem deserialize_empty : deserialize [] = .ok [] := rfl

-- non-vacuity: "é" ↦ "r1", "a" ↦ "", both hypotheses hold and the order changes
example : (dkeys [([0xC3, 0xA9], [114, 49]), ([97], ([] : Bytes))]).Nodup := by decide +kernel
example : ∀ k ∈ dkeys [([0xC3, 0xA9], [114, 49]), ([97], ([] : Bytes))], validUTF8 k = true := by decide +kernel
example : serialize [([0xC3, 0xA9], [114, 49]), ([97], [])]
    = [100, 49, 58, 97, 48, 58, 50, 58, 0xC3, 0xA9, 50, 58, 114, 49, 101] := by decide +kernel
example : validUTF8 [0xED, 0xA0, 0x80] = false ∧ validUTF8 [0xC0, 0x80] = false
    ∧ validUTF8 [0xF4, 0x90, 0x80, 0x80] = false ∧ validUTF8 [0xF0, 0x9F, 0x98, 0x80] = true := by decide +kernel
example : deserialize [100, 49, 58, 98, 48, 58, 49, 58, 97, 48, 58, 101] = .error .malformed := by rfl

end BreezyVerif.C24
