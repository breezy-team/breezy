import BreezyVerif.Lemmas.C03Seq
import BreezyVerif.Lemmas.C03Stacked
/-
C03 — theorems.  All repositories, histories (any DAG or even cyclic parent
map, any number of ghosts), requested revisions and flags are universally
quantified; nothing is bounded.  `x` = which parents the stream source leaves
out (as found / repaired), `ext` = the target stores parent inventories,
`fg` = `find_ghosts`.
-/
namespace BreezyVerif.C03

open BreezyVerif.C33 (PMap parentsOf bfs Reach)

/-- the ancestry walk always terminates within its fuel -/
theorem anc_total (g : PMap) (start : List Rev) : (bfs g start []).isSome = true := by
  obtain ⟨s, hs, _⟩ := C33.bfs_inv g start []
  simp [hs]

/-- `anc` is exactly: reachable from `rev` through parents of revisions the source has, and present in the source -/
theorem anc_spec (src : Repo) (rev k : Rev) :
    k ∈ anc src rev ↔ Reach (graph src) [] [rev] k ∧ hasRev src k = true := mem_anc src rev k

/-- what the revision search returns: the source ancestry minus everything that
is (in the source) an ancestor-or-self of a revision the target has;
with `find_ghosts`: the source ancestry the target lacks -/
theorem missing_spec (src tgt : Repo) (rev k : Rev) :
    (k ∈ missing false src tgt rev ↔
      k ∈ anc src rev ∧ ¬ Reach (graph src) [] ((anc src rev).filter (hasRev tgt)) k) ∧
    (k ∈ missing true src tgt rev ↔ k ∈ anc src rev ∧ hasRev tgt k = false) :=
  ⟨mem_missing_false .., mem_missing_true ..⟩

/-- for an ancestry-closed target the search returns exactly the source ancestry the target lacks -/
theorem missing_closed (src tgt : Repo) (hc : closed tgt src = true) (fg : Bool) (rev k : Rev) :
    k ∈ missing fg src tgt rev ↔ k ∈ anc src rev ∧ hasRev tgt k = false :=
  mem_missing_closed hc fg rev k

/-- fetch never removes or changes anything the target had -/
theorem fetch_monotone (x : Exclusion) (ext fg : Bool) (src tgt t' : Repo) (rev : Rev)
    (h : fetch x ext fg src tgt rev = .ok t') :
    (∀ k v, get tgt.revs k = some v → get t'.revs k = some v) ∧
    (∀ k v, get tgt.invs k = some v → get t'.invs k = some v) ∧
    (∀ k v, get tgt.texts k = some v → get t'.texts k = some v) :=
  (fetch_copied h).monotone

/-- completeness: after fetching `rev` into an ancestry-closed target, the target
holds `rev` and every ancestor the source holds (ghosts of the source excepted) -/
theorem fetch_complete (x : Exclusion) (ext fg : Bool) (src tgt t' : Repo) (rev : Rev)
    (hc : fg = true ∨ closed tgt src = true)
    (h : fetch x ext fg src tgt rev = .ok t') :
    (hasRev src rev = true → hasRev t' rev = true) ∧ ∀ k ∈ anc src rev, hasRev t' k = true := by
  have key := (fetch_copied h).holdsAnc (covers_missing hc rev)
  exact ⟨fun hs => key rev (rev_mem_anc hs), key⟩

/-- `find_ghosts=True` is complete for every target -/
theorem fetch_find_ghosts_complete (x : Exclusion) (ext : Bool) (src tgt t' : Repo) (rev : Rev)
    (h : fetch x ext true src tgt rev = .ok t') : ∀ k ∈ anc src rev, hasRev t' k = true :=
  (fetch_complete x ext true src tgt t' rev (Or.inl rfl) h).2

/-- faithfulness of records: every revision of the source ancestry that the
target holds afterwards has the source's revision record and the source's inventory -/
theorem fetch_faithful (x : Exclusion) (ext fg : Bool) (src tgt t' : Repo) (rev : Rev)
    (ha : agree src tgt = true) (hcomp : complete tgt = true)
    (h : fetch x ext fg src tgt rev = .ok t') (k : Rev) (hk : k ∈ anc src rev)
    (hkt : hasRev t' k = true) :
    get t'.revs k = get src.revs k ∧ ∀ i, get src.invs k = some i → get t'.invs k = some i :=
  (fetch_copied h).faithful ha hcomp k hk hkt

/-- … hence equal testaments (byte-identical testament text is a function of this data, C41) -/
theorem fetch_testament (x : Exclusion) (ext fg : Bool) (src tgt t' : Repo) (rev : Rev)
    (ha : agree src tgt = true) (hcomp : complete tgt = true)
    (h : fetch x ext fg src tgt rev = .ok t') (k : Rev) (hk : k ∈ anc src rev)
    (hkt : hasRev t' k = true) (hsi : (get src.invs k).isSome = true) :
    testament t' k = testament src k :=
  testament_eq (fetch_faithful x ext fg src tgt t' rev ha hcomp h k hk hkt) hsi

/-- faithfulness of tree content: for every revision of the source ancestry now
in the target, every entry of its inventory has its text in the target, equal
to the source's text -/
theorem fetch_texts_faithful (x : Exclusion) (ext fg : Bool) (src tgt t' : Repo) (rev : Rev)
    (hc : fg = true ∨ closed tgt src = true) (ha : agree src tgt = true) (hcomp : complete tgt = true)
    (hx : x = .revisionPresent ∨ noOrphanInv src = true)
    (h : fetch x ext fg src tgt rev = .ok t') (k : Rev) (hk : k ∈ anc src rev)
    (i : Inv) (hi : get src.invs k = some i) (e : Entry) (he : e ∈ i) :
    ∃ c, get t'.texts e.key = some c ∧ ∀ c', get src.texts e.key = some c' → c' = c :=
  have hcv := covers_missing hc rev
  (fetch_copied h).texts_faithful hcv (streamOK_filtered hcv ha hcomp hx) ha hcomp k hk i hi e he

/-- fetching the same revision again finds nothing missing and changes nothing -/
theorem fetch_idempotent (x : Exclusion) (ext fg : Bool) (src tgt t' : Repo) (rev : Rev)
    (h : fetch x ext fg src tgt rev = .ok t') :
    missing fg src t' rev = [] ∧ fetch x ext fg src t' rev = .ok t' := by
  have hguard := (fetch_ok h).1
  have hcp := fetch_copied h
  have hempty : missing fg src t' rev = [] := by
    apply List.eq_nil_iff_forall_not_mem.mpr
    intro k hk
    have hnt := missing_not_in_target hk
    -- `k` was sent, or the first search stopped behind a revision the target held and still holds
    rcases anc_cases (fg := fg) (tgt := tgt) (missing_sub_anc hk) with hm | ⟨_, ht⟩ | ⟨hfg, hr⟩
    · rw [hcp.hasRev.mpr (Or.inr ⟨hm, ((mem_anc ..).mp (missing_sub_anc hk)).2⟩)] at hnt
      cases hnt
    · rw [hcp.monotone.hasRev ht] at hnt
      cases hnt
    · subst hfg
      refine ((mem_missing_false ..).mp hk).2 (reach_mono (fun j hj => ?_) hr)
      rw [List.mem_filter] at hj ⊢
      exact ⟨hj.1, hcp.monotone.hasRev hj.2⟩
  refine ⟨hempty, ?_⟩
  rw [fetch_eq_fetchWithE, hempty]
  exact guard_iff.mpr ⟨hguard.imp_right fun ⟨hfg, ht⟩ => ⟨hfg, hcp.monotone.hasRev ht⟩,
    fetchWith_nil ext src t'⟩

/-- consistency: a complete (checkable) closed target stays complete — every
revision has its inventory and every text the inventory names -/
theorem fetch_consistent (x : Exclusion) (ext fg : Bool) (src tgt t' : Repo) (rev : Rev)
    (hc : fg = true ∨ closed tgt src = true) (ha : agree src tgt = true) (hcomp : complete tgt = true)
    (hx : x = .revisionPresent ∨ noOrphanInv src = true)
    (h : fetch x ext fg src tgt rev = .ok t') : complete t' = true :=
  (fetch_copied h).consistent (streamOK_filtered (covers_missing hc rev) ha hcomp hx) ha hcomp

/-! ### why the hypotheses are needed: witnesses on concrete repositories -/

/-- source: 1 ← 2 ← 3, and 3 also has parent 2; target holds 3 with 2 as a ghost
… built so that the target is not closed -/
def wSrc : Repo :=
  { revs := [(1, ⟨[], 10⟩), (2, ⟨[1], 20⟩), (3, ⟨[2], 30⟩), (4, ⟨[3, 2], 40⟩)]
    invs := [(1, [⟨1, 1, 1, 100⟩]), (2, [⟨1, 1, 2, 200⟩]), (3, [⟨1, 1, 1, 100⟩]), (4, [⟨1, 1, 2, 200⟩])]
    texts := [((1, 1), 100), ((1, 2), 200)] }

/-- the target has 3 and 1; revision 2 (a parent of 3 … no: of 4) is absent -/
def wTgt : Repo :=
  { revs := [(1, ⟨[], 10⟩), (3, ⟨[2], 30⟩)]
    invs := [(1, [⟨1, 1, 1, 100⟩]), (3, [⟨1, 1, 1, 100⟩])]
    texts := [((1, 1), 100)] }

/-- Without closure (the target holds 3 whose parent 2 is a ghost there, the
source has 2) a plain fetch of 4 does not fill 2, and — because the stream leaves
out what parent 2's inventory has — the copied revision 4 lacks its text
`(1, 2)`: neither completeness nor consistency holds.  `find_ghosts` repairs it. -/
theorem fetch_ghost_not_filled_witness :
    closed wTgt wSrc = false ∧ agree wSrc wTgt = true ∧ complete wTgt = true ∧ noOrphanInv wSrc = true ∧
    (fetchResult .revisionPresent false false wSrc wTgt 4).map
        (fun t' => (hasRev t' 4, hasRev t' 2, get t'.texts (1, 2), complete t')) = some (true, false, none, false) ∧
    (fetchResult .revisionPresent false true wSrc wTgt 4).map
        (fun t' => (hasRev t' 2, complete t')) = some (true, true) := by
  decide +kernel

/-- source with a stored parent inventory of a ghost: revision 3 is absent, its inventory present -/
def oSrc : Repo :=
  { revs := [(1, ⟨[], 10⟩), (4, ⟨[1, 3], 40⟩)]
    invs := [(1, [⟨1, 1, 1, 100⟩, ⟨2, 2, 1, 300⟩]), (3, [⟨1, 1, 3, 500⟩, ⟨2, 2, 1, 300⟩]),
             (4, [⟨1, 1, 4, 400⟩, ⟨2, 2, 1, 300⟩])]
    texts := [((1, 1), 100), ((2, 1), 300), ((1, 4), 400)] }

/-- The defect found at the pinned commit (`Exclusion.asFound`): fetching into an
EMPTY (hence closed, complete) target from a source that holds the inventory of
a ghost parent gives revisions without their texts; with the repaired exclusion
the same fetch is complete. -/
theorem fetch_orphan_inventory_witness :
    closed emptyRepo oSrc = true ∧ agree oSrc emptyRepo = true ∧ complete emptyRepo = true ∧
    noOrphanInv oSrc = false ∧
    (fetchResult .asFound true false oSrc emptyRepo 4).map
        (fun t' => (hasRev t' 1, get t'.texts (2, 1), complete t')) = some (true, none, false) ∧
    (fetchResult .revisionPresent true false oSrc emptyRepo 4).map complete = some true := by
  decide +kernel

/-! ### non-vacuity: the hypotheses hold on a non-trivial case and the fetch copies something -/

/-- a merge history with a ghost (9), a target that already holds part of it -/
def eSrc : Repo :=
  { revs := [(1, ⟨[], 10⟩), (2, ⟨[1], 20⟩), (3, ⟨[1, 9], 30⟩), (4, ⟨[2, 3], 40⟩)]
    invs := [(1, [⟨1, 1, 1, 100⟩]), (2, [⟨1, 1, 2, 200⟩]), (3, [⟨1, 1, 1, 100⟩, ⟨2, 2, 3, 300⟩]),
             (4, [⟨1, 1, 2, 200⟩, ⟨2, 2, 3, 300⟩])]
    texts := [((1, 1), 100), ((1, 2), 200), ((2, 3), 300)] }

def eTgt : Repo :=
  { revs := [(1, ⟨[], 10⟩), (2, ⟨[1], 20⟩)]
    invs := [(1, [⟨1, 1, 1, 100⟩]), (2, [⟨1, 1, 2, 200⟩])]
    texts := [((1, 1), 100), ((1, 2), 200)] }

example : closed eTgt eSrc = true ∧ agree eSrc eTgt = true ∧ complete eTgt = true ∧ noOrphanInv eSrc = true ∧
    missing false eSrc eTgt 4 = [4, 3] ∧ anc eSrc 4 = [4, 2, 3, 1] ∧
    (fetchResult .asFound true false eSrc eTgt 4).map (fun t' => (complete t', get t'.texts (2, 3))) =
      some (true, some 300) ∧
    (testament eSrc 4).isSome = true := by
  decide +kernel

example : (fetchResult .asFound true false eSrc eTgt 4).bind (fun t' => testament t' 4) = testament eSrc 4 := by
  rfl

example : fetchError .asFound true false eSrc eTgt 9 = some .noSuchRevision := by decide +kernel

/-! ## histories of any length: the batched walk (`_walk_to_common_revisions_batch_size = n ≥ 1`) -/

/-- the batched walk always terminates within its fuel -/
theorem walkB_total (g : PMap) (has : Rev → Bool) (n : Nat) (hn : 0 < n) (start : Rev) :
    (walkB g has n start).isSome = true := by
  obtain ⟨w, hw, _⟩ := walkB_some (g := g) (has := has) (start := start) hn
  simp [hw]

/-- whatever the batch size, the search returns only source-present ancestors the target lacks -/
theorem missingB_sound (n : Nat) (hn : 0 < n) (fg : Bool) (src tgt : Repo) (rev k : Rev)
    (h : k ∈ missingB n fg src tgt rev) : k ∈ anc src rev ∧ hasRev tgt k = false :=
  ⟨missingB_sub_anc hn h, missingB_not_in_target hn h⟩

/-- whatever the batch size, an ancestor that is not returned is held by the target
(`find_ghosts`) or lies behind (or is) a revision of the ancestry that the target holds -/
theorem missingB_behind (n : Nat) (hn : 0 < n) (fg : Bool) (src tgt : Repo) (rev k : Rev) (hk : k ∈ anc src rev) :
    k ∈ missingB n fg src tgt rev ∨ (fg = true ∧ hasRev tgt k = true) ∨
      (fg = false ∧ Reach (graph src) [] ((anc src rev).filter (hasRev tgt)) k) :=
  anc_casesB hn hk

/-- for an ancestry-closed target every batch size returns exactly the source ancestry the target lacks -/
theorem missingB_closed (n : Nat) (hn : 0 < n) (src tgt : Repo) (hc : closed tgt src = true) (fg : Bool) (rev k : Rev) :
    k ∈ missingB n fg src tgt rev ↔ k ∈ anc src rev ∧ hasRev tgt k = false :=
  (searchOK_missingB hn fg src tgt rev).mem_iff hc k

/-- a search for a revision the target holds returns nothing, whatever the batch size -/
theorem missingB_held_nil (n : Nat) (hn : 0 < n) (src tgt : Repo) (rev : Rev) (ht : hasRev tgt rev = true) :
    missingB n false src tgt rev = [] := missingB_nil_of_held hn ht

/-- source 1 ← 4, 1 ← 5, {5, 4} ← 6; the target holds 5 without its parent 1 -/
def bSrc : Repo :=
  { revs := [(1, ⟨[], 10⟩), (4, ⟨[1], 40⟩), (5, ⟨[1], 50⟩), (6, ⟨[5, 4], 60⟩)]
    invs := [(1, [⟨1, 1, 1, 100⟩]), (4, [⟨1, 1, 4, 400⟩]), (5, [⟨1, 1, 5, 500⟩]), (6, [⟨1, 1, 6, 600⟩])]
    texts := [((1, 1), 100), ((1, 4), 400), ((1, 5), 500), ((1, 6), 600)] }

def bTgt : Repo :=
  { revs := [(5, ⟨[1], 50⟩)], invs := [(5, [⟨1, 1, 5, 500⟩])], texts := [((1, 5), 500)] }

/-- With more than one batch the result depends on the layering: for a target
that is not ancestry-closed a small batch fills the ghost (revision 1 is reached
through 4 after 5 was stopped), one big batch does not (1 had been seen when 5
was checked).  Both answers satisfy `missingB_sound` / `missingB_behind`. -/
theorem missingB_batch_matters_witness :
    closed bTgt bSrc = false ∧
    missingB 1 false bSrc bTgt 6 = [6, 4, 1] ∧ missingB 50 false bSrc bTgt 6 = [6, 4] ∧
    missing false bSrc bTgt 6 = [6, 4] := by
  decide +kernel

/-- `fetchB` (either kind of copy) never removes or changes anything the target had -/
theorem fetchB_monotone (n : Nat) (s : StreamKind) (ext fg : Bool) (src tgt t' : Repo) (rev : Rev)
    (h : fetchB n s ext fg src tgt rev = .ok t') :
    (∀ k v, get tgt.revs k = some v → get t'.revs k = some v) ∧
    (∀ k v, get tgt.invs k = some v → get t'.invs k = some v) ∧
    (∀ k v, get tgt.texts k = some v → get t'.texts k = some v) :=
  (fetchB_copied h).monotone

/-- completeness for every history length, batch size and kind of copy -/
theorem fetchB_complete (n : Nat) (hn : 0 < n) (s : StreamKind) (ext fg : Bool) (src tgt t' : Repo) (rev : Rev)
    (hc : fg = true ∨ closed tgt src = true)
    (h : fetchB n s ext fg src tgt rev = .ok t') :
    (hasRev src rev = true → hasRev t' rev = true) ∧ ∀ k ∈ anc src rev, hasRev t' k = true := by
  have key := (fetchB_copied h).holdsAnc (covers_missingB hn hc rev)
  exact ⟨fun hs => key rev (rev_mem_anc hs), key⟩

/-- faithfulness of records for every history length, batch size and kind of copy -/
theorem fetchB_faithful (n : Nat) (hn : 0 < n) (s : StreamKind) (ext fg : Bool) (src tgt t' : Repo) (rev : Rev)
    (ha : agree src tgt = true) (hcomp : complete tgt = true)
    (h : fetchB n s ext fg src tgt rev = .ok t') (k : Rev) (hk : k ∈ anc src rev)
    (hkt : hasRev t' k = true) :
    get t'.revs k = get src.revs k ∧ ∀ i, get src.invs k = some i → get t'.invs k = some i :=
  (fetchB_copied h).faithful ha hcomp k hk hkt

/-- … hence equal testament data -/
theorem fetchB_testament (n : Nat) (hn : 0 < n) (s : StreamKind) (ext fg : Bool) (src tgt t' : Repo) (rev : Rev)
    (ha : agree src tgt = true) (hcomp : complete tgt = true)
    (h : fetchB n s ext fg src tgt rev = .ok t') (k : Rev) (hk : k ∈ anc src rev)
    (hkt : hasRev t' k = true) (hsi : (get src.invs k).isSome = true) :
    testament t' k = testament src k :=
  testament_eq (fetchB_faithful n hn s ext fg src tgt t' rev ha hcomp h k hk hkt) hsi

/-- faithfulness of tree content for every history length and batch size, for the
stream sources (`filtered x`) and for `InterDifferingSerializer` (`perRevision`,
acyclic histories: `kindOK`) -/
theorem fetchB_texts_faithful (n : Nat) (hn : 0 < n) (s : StreamKind) (ext fg : Bool) (src tgt t' : Repo) (rev : Rev)
    (hc : fg = true ∨ closed tgt src = true) (ha : agree src tgt = true) (hcomp : complete tgt = true)
    (d : Rev → Nat) (hx : kindOK s d src = true)
    (h : fetchB n s ext fg src tgt rev = .ok t') (k : Rev) (hk : k ∈ anc src rev)
    (i : Inv) (hi : get src.invs k = some i) (e : Entry) (he : e ∈ i) :
    ∃ c, get t'.texts e.key = some c ∧ ∀ c', get src.texts e.key = some c' → c' = c :=
  have hcv := covers_missingB hn hc rev
  (fetchB_copied h).texts_faithful hcv (streamOK_kind hcv ha hcomp d hx) ha hcomp k hk i hi e he

/-- consistency for every history length, batch size and kind of copy -/
theorem fetchB_consistent (n : Nat) (hn : 0 < n) (s : StreamKind) (ext fg : Bool) (src tgt t' : Repo) (rev : Rev)
    (hc : fg = true ∨ closed tgt src = true) (ha : agree src tgt = true) (hcomp : complete tgt = true)
    (d : Rev → Nat) (hx : kindOK s d src = true)
    (h : fetchB n s ext fg src tgt rev = .ok t') : complete t' = true :=
  (fetchB_copied h).consistent (streamOK_kind (covers_missingB hn hc rev) ha hcomp d hx) ha hcomp

/-- source 1 ← 2 ← 3 where 2 ← 3 is also a cycle 3 ← 2: with a cyclic parent map
the per-revision selection sends neither copy of a text two revisions share -/
def cSrc : Repo :=
  { revs := [(2, ⟨[3], 20⟩), (3, ⟨[2], 30⟩)]
    invs := [(2, [⟨1, 1, 2, 200⟩]), (3, [⟨1, 1, 2, 200⟩])]
    texts := [((1, 2), 200)] }

/-- why `perRevision` needs an acyclic history (the stream sources do not): in a
cyclic parent map every revision's entry is "already in a parent", nothing is
sent, and the copied revisions lack their text -/
theorem perRevision_cyclic_witness :
    closed emptyRepo cSrc = true ∧ noOrphanInv cSrc = true ∧ complete cSrc = true ∧
    (match fetchB 50 .perRevision false false cSrc emptyRepo 3 with
      | .ok t' => (hasRev t' 3, get t'.texts (1, 2), complete t') | .error _ => (false, none, true)) =
      (true, none, false) ∧
    (match fetchB 50 (.filtered .asFound) false false cSrc emptyRepo 3 with
      | .ok t' => complete t' | .error _ => false) = true := by
  decide +kernel

/-- Idempotence for every batch size: once the requested revision has arrived, a
second identical fetch finds nothing missing and changes nothing.  (That the
revision arrives follows from `fetchB_complete` for closed targets and from
`fetchB_idempotent_acyclic` for every acyclic history; in a cyclic parent map a
target holding a "descendant" of `rev` can make the walk stop before copying it.) -/
theorem fetchB_idempotent (n : Nat) (hn : 0 < n) (s : StreamKind) (ext fg : Bool) (src tgt t' : Repo) (rev : Rev)
    (h : fetchB n s ext fg src tgt rev = .ok t') (hrev : hasRev src rev = true → hasRev t' rev = true) :
    missingB n fg src t' rev = [] ∧ fetchB n s ext fg src t' rev = .ok t' :=
  fetchB_again hn h hrev

/-- for every acyclic history (`d` = any numbering decreasing towards the parents)
and every target: the requested revision arrives and a second fetch is a no-op -/
theorem fetchB_idempotent_acyclic (n : Nat) (hn : 0 < n) (s : StreamKind) (ext fg : Bool) (src tgt t' : Repo)
    (rev : Rev) (d : Rev → Nat) (hacyc : acyclicBy d src = true)
    (h : fetchB n s ext fg src tgt rev = .ok t') :
    (hasRev src rev = true → hasRev t' rev = true) ∧
    missingB n fg src t' rev = [] ∧ fetchB n s ext fg src t' rev = .ok t' :=
  ⟨fetchB_rev_arrives hn d hacyc h, fetchB_again hn h (fetchB_rev_arrives hn d hacyc h)⟩

/-! ## the hypotheses are invariants: sequences of fetches -/

/-- a fetch preserves ancestry-closure of the target w.r.t. its source -/
theorem fetchB_preserves_closed (n : Nat) (hn : 0 < n) (s : StreamKind) (ext fg : Bool) (src tgt t' : Repo) (rev : Rev)
    (hd : distinctRevs src = true) (hc : closed tgt src = true)
    (h : fetchB n s ext fg src tgt rev = .ok t') : closed t' src = true :=
  fetchWith_closed (searchOK_missingB hn fg src tgt rev) hd hc (fetchB_ok h).2

/-- a fetch preserves "ids identify content" -/
theorem fetchB_preserves_agree (n : Nat) (s : StreamKind) (ext fg : Bool) (src tgt t' : Repo) (rev : Rev)
    (ha : agree src tgt = true) (h : fetchB n s ext fg src tgt rev = .ok t') : agree src t' = true :=
  fetchWith_agree ha (fetchB_ok h).2

/-- the same two facts for the one-batch model `fetch` -/
theorem fetch_preserves_closed (x : Exclusion) (ext fg : Bool) (src tgt t' : Repo) (rev : Rev)
    (hd : distinctRevs src = true) (hc : closed tgt src = true)
    (h : fetch x ext fg src tgt rev = .ok t') : closed t' src = true :=
  fetchWith_closed (searchOK_missing fg src tgt rev) hd hc (fetch_ok h).2

theorem fetch_preserves_agree (x : Exclusion) (ext fg : Bool) (src tgt t' : Repo) (rev : Rev)
    (ha : agree src tgt = true) (h : fetch x ext fg src tgt rev = .ok t') : agree src t' = true :=
  fetchWith_agree ha (fetch_ok h).2

/-- Closure, agreement and completeness are invariants of any sequence of fetches
`(rev, find_ghosts)` from one source (failed fetches included), and nothing the
target held is ever removed or changed. -/
theorem fetchSeq_invariant (n : Nat) (hn : 0 < n) (s : StreamKind) (ext : Bool) (src t : Repo)
    (d : Rev → Nat) (hx : kindOK s d src = true) (hd : distinctRevs src = true)
    (hc : closed t src = true) (ha : agree src t = true) (hcomp : complete t = true)
    (ops : List (Rev × Bool)) :
    closed (fetchSeq n s ext src t ops) src = true ∧ agree src (fetchSeq n s ext src t ops) = true ∧
    complete (fetchSeq n s ext src t ops) = true ∧
    (∀ k v, get t.revs k = some v → get (fetchSeq n s ext src t ops).revs k = some v) :=
  have h := fetchSeq_inv hn d hx hd ops t ⟨hc, ha, hcomp⟩
  ⟨h.1, h.2.1, h.2.2, (fetchSeq_monotone ops t).1⟩

/-- End to end, without any hypothesis on the target: a repository filled from
empty by ANY sequence of fetches (any revisions, any `find_ghosts` flags, any
batch size, any history length, either kind of copy) from a consistent source
holds, for every requested revision the source has, the revision and every
source-present ancestor with the source's revision record, the source's
inventory, and every text the inventory names, equal to the source's text. -/
theorem fetchSeq_from_empty (n : Nat) (hn : 0 < n) (s : StreamKind) (ext : Bool) (src : Repo)
    (d : Rev → Nat) (hx : kindOK s d src = true) (hd : distinctRevs src = true)
    (hcs : complete src = true) (ops : List (Rev × Bool))
    (rev : Rev) (fg : Bool) (hop : (rev, fg) ∈ ops) (hs : hasRev src rev = true) (k : Rev) (hk : k ∈ anc src rev) :
    get (fetchSeq n s ext src emptyRepo ops).revs k = get src.revs k ∧ (get src.revs k).isSome = true ∧
    ∀ i, get src.invs k = some i → get (fetchSeq n s ext src emptyRepo ops).invs k = some i ∧
      ∀ e ∈ i, ∃ c, get (fetchSeq n s ext src emptyRepo ops).texts e.key = some c ∧
        ∀ c', get src.texts e.key = some c' → c' = c :=
  fetchSeq_holds hn d hx hd hcs ops emptyRepo (seqInv_empty src) (rev, fg) hop hs k hk

/-- Per-file history: after a fetch, the text of every entry of every inventory
of the source ancestry has, in the target, the per-file parents it has in the source. -/
theorem fetchBH_perfile_faithful (n : Nat) (hn : 0 < n) (s : StreamKind) (ext fg : Bool) (src tgt t' : RepoH) (rev : Rev)
    (hc : fg = true ∨ closed tgt.repo src.repo = true) (ha : agree src.repo tgt.repo = true)
    (hcomp : complete tgt.repo = true) (d : Rev → Nat) (hx : kindOK s d src.repo = true)
    (hap : agreeOn src.tpar tgt.tpar = true) (htp : textsHaveParents tgt = true) (hsp : textsHaveParents src = true)
    (h : fetchBH n s ext fg src tgt rev = .ok t') (k : Rev) (hk : k ∈ anc src.repo rev)
    (i : Inv) (hi : get src.repo.invs k = some i) (e : Entry) (he : e ∈ i) :
    ∃ ps, get t'.tpar e.key = some ps ∧ ∀ ps', get src.tpar e.key = some ps' → ps' = ps :=
  have hcv := covers_missingB hn hc rev
  fetchWithH_perfile hcv (streamOK_kind hcv ha hcomp d hx) ha hcomp hap htp hsp (guard_iff.mp h).2 k hk i hi e he

/-! ### non-vacuity of the new hypotheses -/

def eSrcH : RepoH := ⟨eSrc, [((1, 1), []), ((1, 2), [1]), ((2, 3), [])]⟩
def eTgtH : RepoH := ⟨eTgt, [((1, 1), []), ((1, 2), [1])]⟩

example : distinctRevs eSrc = true ∧ complete eSrc = true ∧ acyclicBy (fun k => if k = 9 then 0 else k) eSrc = true ∧
    kindOK .perRevision (fun k => if k = 9 then 0 else k) eSrc = true ∧ kindOK (.filtered .asFound) id eSrc = true ∧
    agreeOn eSrcH.tpar eTgtH.tpar = true ∧ textsHaveParents eTgtH = true ∧ textsHaveParents eSrcH = true ∧
    missingB 2 false eSrc eTgt 4 = [4, 3] ∧
    (match fetchBH 2 (.filtered .asFound) true false eSrcH eTgtH 4 with
      | .ok t' => (complete t'.repo, get t'.tpar (2, 3), get t'.tpar (1, 2))
      | .error _ => (false, none, none)) = (true, some [], some [1]) := by
  decide +kernel

/-- a sequence from empty: fetch 2, a revision nobody has, then 4 with `find_ghosts` -/
example : (fetchSeq 2 (.filtered .asFound) true eSrc emptyRepo [(2, false), (7, false), (4, true)]).revs.map (·.1) = [2, 1, 4, 3] ∧
    complete (fetchSeq 2 (.filtered .asFound) true eSrc emptyRepo [(2, false), (7, false), (4, true)]) = true ∧
    complete (fetchSeq 1 .perRevision false eSrc emptyRepo [(2, false), (7, false), (4, true)]) = true := by
  decide +kernel

/-! ## a source stacked on a fallback, served over the smart server -/

/-- Fetching from a stacked source is fetching from the union: the chain of
streams (`RemoteStreamSource.missing_parents_chain`: the stacked repository's
server recreates the search in its own graph, the client refines the search by
what it saw and what that REFERENCES, the fallback's server recreates the
refined search) delivers exactly the revisions the search stands for in the
union graph - for every search (start keys, exclude keys), every history, and
every split into a stacked part and a self-contained fallback. -/
theorem stacked_chain_eq_union (st fb : Repo) (hd : disjointRevs st fb = true) (hc : fallbackClosed st fb = true)
    (start excl : List Rev) (k : Rev) :
    (k ∈ (chainRevs .allParents st fb start excl).1 ∨ k ∈ (chainRevs .allParents st fb start excl).2) ↔
      k ∈ served (unionRepo st fb) start excl :=
  chain_mem_iff st fb hd hc start excl k

/-- … and the revision records and inventories the chain inserts are those a fetch of the same revisions from the union inserts -/
theorem stacked_chain_records_eq_union (st fb tgt : Repo) (hd : disjointRevs st fb = true)
    (hai : agreeOn st.invs fb.invs = true)
    (m1 m2 m : List Rev) (hm1 : ∀ k ∈ m1, hasRev st k = true ∧ (get st.invs k).isSome = true)
    (hm2 : ∀ k ∈ m2, hasRev fb k = true ∧ (get fb.invs k).isSome = true)
    (hm : ∀ k, k ∈ m ↔ k ∈ m1 ∨ k ∈ m2) (k : Rev) :
    get (chainCopy st fb tgt m1 m2).revs k = get (copyE (unionRepo st fb) tgt m []).revs k ∧
    get (chainCopy st fb tgt m1 m2).invs k = get (copyE (unionRepo st fb) tgt m []).invs k :=
  chainCopy_eq_union st fb tgt hd hai m1 m2 m hm1 hm2 hm k

/-- trunk 1 ← 2 ← 3 (fallback); feature 4 = [1], 5 = merge [4, 3], 6 = [5] (stacked on trunk) -/
def sFb : Repo :=
  { revs := [(1, ⟨[], 10⟩), (2, ⟨[1], 20⟩), (3, ⟨[2], 30⟩)]
    invs := [(1, []), (2, []), (3, [])], texts := [] }

def sSt : Repo :=
  { revs := [(4, ⟨[1], 40⟩), (5, ⟨[4, 3], 50⟩), (6, ⟨[5], 60⟩)]
    invs := [(4, []), (5, []), (6, []), (3, []), (1, [])], texts := [] }

/-- Why the client must record ALL parents of the streamed revisions: if it
records only the left-hand one, a merge in the stacked part whose right-hand
parent lives only in the fallback (feature merges trunk) makes the chain miss
the trunk-only revisions 2 and 3, although the search stands for them. -/
theorem chain_left_parent_only_witness :
    disjointRevs sSt sFb = true ∧ fallbackClosed sSt sFb = true ∧ agreeOn sSt.invs sFb.invs = true ∧
    served (unionRepo sSt sFb) [6] [] = [6, 5, 4, 3, 1, 2] ∧
    chainRevs .allParents sSt sFb [6] [] = ([6, 5, 4], [3, 1, 2]) ∧
    chainRevs .leftHandOnly sSt sFb [6] [] = ([6, 5, 4], [1]) := by
  decide +kernel

end BreezyVerif.C03
