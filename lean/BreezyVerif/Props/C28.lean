import BreezyVerif.Lemmas.C28Tree
/-!
C28 — reentrant locking takes and releases the physical lock exactly once.

Every theorem quantifies over ALL operation sequences (`List Op`, no length
bound), all tokens and both initial on-disk situations, by induction over the
sequence through the invariants of `Lemmas/C28.lean` (`CL.Inv`, `LF.Inv`,
`Repo.Inv`, `Branch.Inv`, each established at `init` and preserved by every
step).  `Balanced log held` says the log of physical calls is a prefix of
`(acquire release)*` ending with the lock `held`.

The three families below are read off `Reentrant` (`Lemmas/C28.lean`), the shape every layer has.
`*_refused_unchanged`: a call that raises leaves the object exactly as it was;
`*_ok_count`: a call that returns changes the nesting count by exactly one;
`*_edge`: the physical lock (for the repository: the fallback repositories) is
acquired exactly on the 0→1 edge of the count and released exactly on the 1→0
edge, and not touched otherwise.

For `BzrBranch` the unguarded code (`Branch.step`) violates "unlocking more often than locking
is refused without changing the lock state": `branch_over_unlock_witness`.
-/
namespace BreezyVerif.C28

/-- For every operation sequence: the physical log is balanced, the physical
lock is held iff the count is positive iff `is_locked()`. -/
theorem cl_physical_balanced (ext rb : Bool) (ops : List Op) :
    let s := (CL.init ext rb).run ops
    Balanced s.phys.log (decide (0 < s.count)) ∧
    (s.phys.held.isSome = true ↔ 0 < s.count) ∧ (s.isLocked = true ↔ 0 < s.count) := by
  intro s
  have h : s.Inv := CL.inv_run (CL.inv_init ext rb) ops
  obtain ⟨h1, h2, h3⟩ := h
  have hh : s.phys.held.isSome = true ↔ 0 < s.count := h1 ▸ h2
  exact ⟨isSome_eq_decide hh ▸ h3, hh, h2⟩

theorem cl_refused_unchanged (s : CL) (o : Op) (e : Err)
    (hr : (s.step o).2 = .error e) : (s.step o).1 = s := by
  cases o <;> simp only [CL.step, CL.lockRead, CL.lockWrite, CL.unlock] at hr ⊢ <;>
    (repeat' split at hr) <;> simp_all

theorem cl_ok_count (s : CL) (h : s.Inv) (o : Op) (t : Option Nat)
    (hr : (s.step o).2 = .ok t) :
    if o = .unlock then (s.step o).1.count + 1 = s.count else (s.step o).1.count = s.count + 1 :=
  (CL.step_reentrant h o).count hr

/-- the physical lock is taken exactly when the first lock is taken, released
exactly when the last one is released, and not touched otherwise -/
theorem cl_edge (s : CL) (h : s.Inv) (o : Op) :
    (s.count = 0 → 0 < (s.step o).1.count →
      ∃ e, e ≠ Ev.rel ∧ (s.step o).1.phys.log = s.phys.log ++ [e]) ∧
    (0 < s.count → (s.step o).1.count = 0 → (s.step o).1.phys.log = s.phys.log ++ [.rel]) ∧
    ((s.count = 0 ↔ (s.step o).1.count = 0) → (s.step o).1.phys.log = s.phys.log) :=
  (CL.step_reentrant h o).edge

/-- a write lock requested while read-locked is refused, nothing changes -/
theorem cl_write_after_read_refused (s : CL) (h : s.Inv) (hm : s.mode = some .r) (tok : Option Nat) :
    s.step (.lockWrite tok) = (s, .error .readOnly) := by
  have hc : 0 < s.count := h.mode_count.mp (by simp [hm])
  have : ¬ s.count = 0 := by omega
  simp [CL.step, CL.lockWrite, this, hm]

/-- unlocking more often than locking is refused, nothing changes -/
theorem cl_over_unlock_refused (s : CL) (hc : s.count = 0) :
    s.step .unlock = (s, .error .notHeld) := by
  simp [CL.step, CL.unlock, hc]

theorem lf_physical_balanced (ext rb : Bool) (ops : List Op) :
    let s := (LF.init ext rb).run ops
    Balanced s.phys.log (decide (0 < s.count)) ∧
    (s.phys.held.isSome = true ↔ 0 < s.count) ∧ (s.isLocked = true ↔ 0 < s.count) := by
  intro s
  have h : s.Inv := LF.inv_run (LF.inv_init ext rb) ops
  obtain ⟨h1, _, h2, h3⟩ := h
  rw [h1] at h2
  exact ⟨isSome_eq_decide h2 ▸ h3, h2, LF.isLocked_iff s⟩

theorem lf_refused_unchanged (s : LF) (h : s.Inv) (o : Op) (e : Err)
    (hr : (s.step o).2 = .error e) : (s.step o).1 = s :=
  (LF.step_reentrant h o).unchanged hr

theorem lf_ok_count (s : LF) (h : s.Inv) (o : Op) (t : Option Nat)
    (hr : (s.step o).2 = .ok t) :
    if o = .unlock then (s.step o).1.count + 1 = s.count else (s.step o).1.count = s.count + 1 :=
  (LF.step_reentrant h o).count hr

theorem lf_edge (s : LF) (h : s.Inv) (o : Op) :
    (s.count = 0 → 0 < (s.step o).1.count →
      ∃ e, e ≠ Ev.rel ∧ (s.step o).1.phys.log = s.phys.log ++ [e]) ∧
    (0 < s.count → (s.step o).1.count = 0 → (s.step o).1.phys.log = s.phys.log ++ [.rel]) ∧
    ((s.count = 0 ↔ (s.step o).1.count = 0) → (s.step o).1.phys.log = s.phys.log) :=
  (LF.step_reentrant h o).edge

theorem lf_write_after_read_refused (s : LF) (hm : s.mode = some .r) (tok : Option Nat) :
    s.step (.lockWrite tok) = (s, .error .readOnly) := by
  simp [LF.step, LF.lockWrite, hm]

theorem lf_over_unlock_refused (s : LF) (h : s.Inv) (hc : s.count = 0) :
    s.step .unlock = (s, .error .notHeld) := by
  rcases LF.unlock_spec h with ⟨_, e⟩ | ⟨hp, _⟩
  · simp [LF.step, e]
  · omega

/-- For every operation sequence on a PackRepository: the control files'
physical log and the fallback repositories' log are balanced, the fallbacks are
locked (once) exactly while the repository is locked. -/
theorem repo_physical_balanced (ext rb : Bool) (ops : List Op) :
    let s := (Repo.init ext rb).run ops
    Balanced s.cf.phys.log s.cf.phys.held.isSome ∧
    (s.cf.phys.held.isSome = true ↔ 0 < s.cf.count) ∧
    (s.isLocked = true ↔ 0 < s.depth) ∧
    (0 < s.depth → s.fb = 1 ∧ Balanced s.fbLog true) ∧
    (s.depth = 0 → s.fb = 0 ∧ Balanced s.fbLog false) := by
  intro s
  have h : s.Inv := Repo.inv_run (Repo.inv_init ext rb) ops
  exact ⟨h.cf.bal, h.cf.held_iff, Repo.isLocked_iff s, h.fallbacks⟩

theorem repo_refused_unchanged (s : Repo) (h : s.Inv) (o : Op) (e : Err)
    (hr : (s.step o).2 = .error e) : (s.step o).1 = s :=
  (Repo.step_reentrant h o).unchanged hr

theorem repo_ok_count (s : Repo) (h : s.Inv) (o : Op) (t : Option Nat)
    (hr : (s.step o).2 = .ok t) :
    if o = .unlock then (s.step o).1.depth + 1 = s.depth else (s.step o).1.depth = s.depth + 1 :=
  (Repo.step_reentrant h o).count hr

/-- the fallback repositories are locked exactly when the repository's first
lock is taken and unlocked exactly when its last lock is released -/
theorem repo_edge (s : Repo) (h : s.Inv) (o : Op) :
    (s.depth = 0 → 0 < (s.step o).1.depth → (s.step o).1.fbLog = s.fbLog ++ [.acqR]) ∧
    (0 < s.depth → (s.step o).1.depth = 0 → (s.step o).1.fbLog = s.fbLog ++ [.rel]) ∧
    ((s.depth = 0 ↔ (s.step o).1.depth = 0) → (s.step o).1.fbLog = s.fbLog) :=
  have ⟨h1, h2, h3⟩ := (Repo.step_reentrant h o).edge
  ⟨fun h0 h' => (h1 h0 h').2, fun h0 h' => (h2 h0 h').2, fun h0 => congrArg Prod.snd (h3 h0)⟩

theorem repo_write_after_read_refused (s : Repo) (h : s.Inv) (hw : s.wcount = 0) (hc : 0 < s.cf.count)
    (tok : Option Nat) : s.step (.lockWrite tok) = (s, .error .readOnly) := by
  simp only [Repo.step]
  rcases Repo.lockWrite_spec s tok with ⟨_, _, e⟩ | ⟨_, e⟩ | ⟨hd, e⟩
  · exact e
  · omega
  · simp only [Repo.depth] at hd; omega

theorem repo_over_unlock_refused (s : Repo) (h : s.Inv) (hd : s.depth = 0) :
    s.step .unlock = (s, .error .notHeld) := by
  simp only [Repo.step]
  rcases Repo.unlock_spec h with ⟨_, e⟩ | ⟨_, e⟩ | ⟨_, _, _, _, _, _, e⟩
  · exact e
  · simp only [Repo.depth] at hd; omega
  · simp only [Repo.depth] at hd; omega

/-- For every interleaving of operations on a branch and directly on its
repository: the branch's physical log, the repository's control-files log and
the fallback log are all balanced. -/
theorem branch_physical_balanced (ext rbB rbR : Bool) (ops : List SOp) :
    let s := (Branch.init ext rbB rbR).run ops
    Balanced s.cf.phys.log s.cf.phys.held.isSome ∧
    (s.cf.phys.held.isSome = true ↔ 0 < s.cf.count) ∧
    (s.isLocked = true ↔ 0 < s.cf.count) ∧
    Balanced s.repo.cf.phys.log s.repo.cf.phys.held.isSome ∧
    (0 < s.repo.depth → s.repo.fb = 1 ∧ Balanced s.repo.fbLog true) ∧
    (s.repo.depth = 0 → s.repo.fb = 0 ∧ Balanced s.repo.fbLog false) := by
  intro s
  have h : s.Inv := Branch.inv_run (Branch.inv_init ext rbB rbR) ops
  exact ⟨h.cf.bal, h.cf.held_iff, LF.isLocked_iff s.cf, h.repo.cf.bal, h.repo.fallbacks⟩

/-- FINDING.  A refused `branch.unlock()` changes the lock state: with the
repository read-locked once by another holder and the branch unlocked,
`unlock` raises `LockNotHeld` *and* releases the repository's lock (and its
fallbacks). -/
theorem branch_over_unlock_witness :
    let s := (Branch.init false).run [.repo .lockRead]
    s.isLocked = false ∧ s.repo.isLocked = true ∧ s.repo.fb = 1 ∧
    (s.step (.branch .unlock)).2 = .error .notHeld ∧
    (s.step (.branch .unlock)).1.repo.isLocked = false ∧
    (s.step (.branch .unlock)).1.repo.fb = 0 := by decide

theorem branch_write_after_read_refused (s : Branch) (h : s.Inv) (hm : s.cf.mode = some .r)
    (tok : Option Nat) : s.step (.branch (.lockWrite tok)) = (s, .error .readOnly) := by
  have hc : 0 < s.cf.count := h.cf.mode_count.mp (by simp [hm])
  have hl : s.isLocked = true := by simp [Branch.isLocked, LF.isLocked]; omega
  have e := lf_write_after_read_refused s.cf hm tok
  simp only [LF.step] at e
  simp [Branch.step, Branch.lockWrite, hl, e, Branch.finishLock]

/-- over-unlock of a branch whose repository is not locked either is refused
and changes nothing (the case the finding excludes: repository locked by
another holder) -/
theorem branch_over_unlock_refused_partial (s : Branch) (h : s.Inv) (hc : s.cf.count = 0)
    (hd : s.repo.depth = 0) : s.step (.branch .unlock) = (s, .error .notHeld) := by
  have e1 := lf_over_unlock_refused s.cf h.cf hc
  have e2 := repo_over_unlock_refused s.repo h.repo hd
  simp only [LF.step, Repo.step] at e1 e2
  simp [Branch.step, Branch.unlock, e1, e2, LF.isLocked, hc]

/-- A refused call leaves the lock state (everything but the logs) of the
whole branch/repository stack unchanged — PARTIAL: except for `unlock` of an
unlocked branch whose repository is locked by another holder
(`branch_over_unlock_witness`); `Consistent` excludes callers that unlocked the
repository behind a locked branch's back. -/
theorem branch_refused_unchanged_partial (s : Branch) (h : s.Inv) (hcons : s.Consistent) (o : SOp)
    (e : Err) (hr : (s.step o).2 = .error e)
    (hex : ¬ (o = .branch .unlock ∧ s.cf.count = 0 ∧ 0 < s.repo.depth)) :
    (s.step o).1.core = s.core := by
  cases o with
  | repo o =>
    simp only [Branch.step] at hr ⊢
    rw [repo_refused_unchanged s.repo h.repo o e hr]
  | branch o =>
    have hcf := LF.step_reentrant h.cf o
    have hrp := Repo.step_reentrant h.repo o
    by_cases ho : o = .unlock
    · subst ho
      simp only [Branch.step, Branch.unlock, LF.step, Repo.step] at hr hcf hrp ⊢
      generalize s.cf.unlock = x at hr hcf ⊢
      generalize s.repo.unlock = y at hr hrp ⊢
      obtain ⟨cf', rc⟩ := x
      obtain ⟨repo', rr⟩ := y
      dsimp only at hcf hrp
      cases hcf with
      | first _ hu => exact absurd trivial hu
      | nested _ hu => exact absurd trivial hu
      | refused _ hs h0 =>
        -- the control files refuse at count 0; the repository is then unlocked too (`hex`) and refuses as well
        subst hs
        have hc := h0 trivial
        have hn : s.cf.isLocked = false := Bool.eq_false_iff.mpr fun hx => by
          have := (LF.isLocked_iff s.cf).mp hx; omega
        have hd : s.repo.depth = 0 := Nat.eq_zero_of_not_pos fun hp => hex ⟨rfl, hc, hp⟩
        simp only [hn, Bool.not_false, if_true]
        cases hrp with
        | first _ hu => exact absurd trivial hu
        | nested _ hu => exact absurd trivial hu
        | refused _ hs' _ => subst hs'; rfl
        | last _ _ h1 => omega
        | inner _ _ h1 => omega
      | last _ _ h1 h0 =>
        -- the last unlock reaches the repository, which the branch holds (`hcons`), so nothing is refused
        exfalso
        have hn : cf'.isLocked = false := Bool.eq_false_iff.mpr fun hx => by
          have := (LF.isLocked_iff cf').mp hx; omega
        obtain ⟨t', rfl⟩ := hrp.unlock_granted trivial (hcons (by omega))
        simp only [hn, Bool.not_false, if_true] at hr
        cases hr
      | inner _ _ h1 h0 =>
        exfalso
        have hn : cf'.isLocked = true := (LF.isLocked_iff cf').mpr (by omega)
        simp only [hn, Bool.not_true, Bool.false_eq_true, if_false] at hr
        cases hr
    · rcases Branch.step_lock_cases h ho with ⟨_, e'⟩ | ⟨_, _, e'⟩ | ⟨_, _, r', _, hcore, e'⟩ | ⟨_, _, _, _, _, e'⟩ <;>
        rw [e'] at hr ⊢
      · rw [hcf.unchanged hr]
      · simp only [Branch.core, hcore]
      · cases hr

/-- A granted branch call changes the branch's count by exactly one; the
repository is locked (once more) exactly by the branch's first lock, released
exactly by its last unlock, and not touched by nested calls. -/
theorem branch_ok_edge (s : Branch) (h : s.Inv) (o : Op) (t : Option Nat)
    (hr : (s.step (.branch o)).2 = .ok t) :
    (if o = .unlock then (s.step (.branch o)).1.cf.count + 1 = s.cf.count
      else (s.step (.branch o)).1.cf.count = s.cf.count + 1) ∧
    (s.cf.count = 0 → (s.step (.branch o)).1.repo.depth = s.repo.depth + 1) ∧
    ((s.step (.branch o)).1.cf.count = 0 → (s.step (.branch o)).1.repo.depth + 1 = s.repo.depth) ∧
    (0 < s.cf.count → 0 < (s.step (.branch o)).1.cf.count → (s.step (.branch o)).1.repo = s.repo) :=
  (Branch.step_reentrant h o hr).ok_edge

/-! ### the guarded variant (`Branch.stepG`: the proposed fix) — no exception left -/

theorem branchG_physical_balanced (ext rbB rbR : Bool) (ops : List SOp) :
    let s := (Branch.init ext rbB rbR).runG ops
    Balanced s.cf.phys.log s.cf.phys.held.isSome ∧
    (s.cf.phys.held.isSome = true ↔ 0 < s.cf.count) ∧
    Balanced s.repo.cf.phys.log s.repo.cf.phys.held.isSome ∧
    (0 < s.repo.depth → s.repo.fb = 1 ∧ Balanced s.repo.fbLog true) ∧
    (s.repo.depth = 0 → s.repo.fb = 0 ∧ Balanced s.repo.fbLog false) := by
  intro s
  have h : s.Inv := List.foldlRecOn (motive := Branch.Inv) ops _ (Branch.inv_init ext rbB rbR) fun _ h o _ => Branch.inv_stepG h o
  exact ⟨h.cf.bal, h.cf.held_iff, h.repo.cf.bal, h.repo.fallbacks⟩

/-- with the guard every refused call leaves the lock state of the whole stack
unchanged — the full statement -/
theorem branchG_refused_unchanged (s : Branch) (h : s.Inv) (hcons : s.Consistent) (o : SOp)
    (e : Err) (hr : (s.stepG o).2 = .error e) : (s.stepG o).1.core = s.core := by
  by_cases hg : o = .branch .unlock ∧ s.cf.count = 0
  · rw [hg.1, branchG_over_unlock_refused s hg.2]
  · rw [Branch.stepG_eq s o hg] at hr ⊢
    exact branch_refused_unchanged_partial s h hcons o e hr (fun hx => hg ⟨hx.1, hx.2.1⟩)

theorem branchG_ok_edge (s : Branch) (h : s.Inv) (o : Op) (t : Option Nat)
    (hr : (s.stepG (.branch o)).2 = .ok t) :
    (if o = .unlock then (s.stepG (.branch o)).1.cf.count + 1 = s.cf.count
      else (s.stepG (.branch o)).1.cf.count = s.cf.count + 1) ∧
    (s.cf.count = 0 → (s.stepG (.branch o)).1.repo.depth = s.repo.depth + 1) ∧
    ((s.stepG (.branch o)).1.cf.count = 0 → (s.stepG (.branch o)).1.repo.depth + 1 = s.repo.depth) ∧
    (0 < s.cf.count → 0 < (s.stepG (.branch o)).1.cf.count → (s.stepG (.branch o)).1.repo = s.repo) := by
  by_cases hg : SOp.branch o = .branch .unlock ∧ s.cf.count = 0
  · have ho : o = .unlock := by injection hg.1
    subst ho
    rw [branchG_over_unlock_refused s hg.2] at hr; cases hr
  · rw [Branch.stepG_eq s _ hg] at hr ⊢
    exact branch_ok_edge s h o t hr

/-- the witness of the finding does not exist in the guarded variant -/
example : ((Branch.init false).run [.repo .lockRead]).stepG (.branch .unlock) =
    ((Branch.init false).run [.repo .lockRead], .error .notHeld) := by decide

/-- Every step of the guarded stack other than a `repository.unlock()` issued directly
by a caller preserves "a locked branch holds its repository". -/
theorem branchG_consistent_step (s : Branch) (h : s.Inv) (hcons : s.Consistent) (o : SOp)
    (ho : o ≠ .repo .unlock) : (s.stepG o).1.Consistent := by
  cases hres : (s.stepG o).2 with
  | error e =>
    have hcore := branchG_refused_unchanged s h hcons o e hres
    obtain ⟨h1, h2⟩ := Branch.lcore_counts (Branch.lcore_of_core hcore)
    intro hpos
    have := hcons (by omega)
    omega
  | ok t =>
    cases o with
    | branch o =>
      obtain ⟨_, h2, _, h4⟩ := branchG_ok_edge s h o t hres
      intro hpos
      by_cases hc : s.cf.count = 0
      · have := h2 hc; omega
      · rw [h4 (by omega) hpos]; exact hcons (by omega)
    | repo o =>
      rw [Branch.stepG_repo] at hres ⊢
      have hd := repo_ok_count s.repo h.repo o t hres
      have hne : o ≠ .unlock := fun hx => ho (by rw [hx])
      simp only [hne, if_false] at hd
      intro _
      show 0 < (s.repo.step o).1.depth
      omega

theorem branchG_consistent_run (s : Branch) (h : s.Inv) (hcons : s.Consistent) (ops : List SOp)
    (hops : ∀ o ∈ ops, o ≠ SOp.repo .unlock) : (s.runG ops).Inv ∧ (s.runG ops).Consistent :=
  List.foldlRecOn (motive := fun s : Branch => s.Inv ∧ s.Consistent) ops _ ⟨h, hcons⟩ fun s h o ho =>
    ⟨Branch.inv_stepG h.1 o, branchG_consistent_step s h.1 h.2 o (hops o ho)⟩

/-- `branchG_refused_unchanged` without the `Consistent` hypothesis: after ANY sequence of
branch and repository calls that contains no direct `repository.unlock()`, from any
initial situation, a refused call leaves the lock state of the whole stack unchanged. -/
theorem branchG_refused_unchanged_run (ext rbB rbR : Bool) (ops : List SOp)
    (hops : ∀ o ∈ ops, o ≠ SOp.repo .unlock) (o : SOp) (e : Err)
    (hr : (((Branch.init ext rbB rbR).runG ops).stepG o).2 = .error e) :
    (((Branch.init ext rbB rbR).runG ops).stepG o).1.core = ((Branch.init ext rbB rbR).runG ops).core := by
  have hinit : (Branch.init ext rbB rbR).Consistent := by
    intro h; simp [Branch.init, LF.init] at h
  obtain ⟨hi, hc⟩ := branchG_consistent_run _ (Branch.inv_init ext rbB rbR) hinit ops hops
  exact branchG_refused_unchanged _ hi hc o e hr

/-- the hypothesis is needed: a caller's `repository.unlock()` behind a locked branch's back breaks it -/
example : ¬ ((Branch.init false).runG [.branch .lockRead, .repo .unlock]).Consistent := by
  intro h
  have := h (by decide)
  revert this
  decide

/-- a sequence satisfying the hypothesis of `branchG_refused_unchanged_run` in which calls are
refused (write after read, read on a refusing physical lock) and locks are nested -/
example : (∀ o ∈ [SOp.branch .lockRead, .repo .lockRead, .branch (.lockWrite none), .branch .unlock],
      o ≠ SOp.repo .unlock) ∧
    (((Branch.init false).runG [.branch .lockRead, .repo .lockRead]).stepG (.branch (.lockWrite none))).2
      = .error .readOnly ∧
    ((Branch.init false true false).stepG (.branch .lockRead)).2 = .error .contention ∧
    ((Branch.init false true false).stepG (.branch .lockRead)).1.repo.fbLog = [.acqR, .rel] := by
  refine ⟨by decide, by decide, by decide, by decide⟩

/-! ### bzr working trees over the (guarded) branch — `Tree.step` is the code in /repo -/

/-- For every interleaving of calls on a working tree, on its branch and on its
repository, from every initial situation: the physical logs of all three
control-files locks and of the fallback repositories are balanced, and each
`is_locked()` agrees with its count. -/
theorem tree_physical_balanced (ext rbT rbB rbR pin : Bool) (ops : List TOp) :
    let s := (Tree.init ext rbT rbB rbR pin).run ops
    Balanced s.ds.log s.ds.held.isSome ∧ (s.ds.held.isSome = true ↔ 0 < s.cf.count) ∧
    Balanced s.cf.phys.log s.cf.phys.held.isSome ∧
    (s.cf.phys.held.isSome = true ↔ 0 < s.cf.count) ∧
    (s.isLocked = true ↔ 0 < s.cf.count) ∧
    Balanced s.branch.cf.phys.log s.branch.cf.phys.held.isSome ∧
    (s.branch.cf.phys.held.isSome = true ↔ 0 < s.branch.cf.count) ∧
    Balanced s.branch.repo.cf.phys.log s.branch.repo.cf.phys.held.isSome ∧
    (0 < s.branch.repo.depth → s.branch.repo.fb = 1 ∧ Balanced s.branch.repo.fbLog true) ∧
    (s.branch.repo.depth = 0 → s.branch.repo.fb = 0 ∧ Balanced s.branch.repo.fbLog false) := by
  intro s
  have h : s.Inv := Tree.inv_run (Tree.inv_init ext rbT rbB rbR pin) ops
  exact ⟨h.ds_bal, h.ds_held, h.cf.bal, h.cf.held_iff, LF.isLocked_iff s.cf, h.branch.cf.bal,
    h.branch.cf.held_iff, h.branch.repo.cf.bal, h.branch.repo.fallbacks⟩

/-- FINDING (committed known finding `tree-over-unlock-releases-branch`).  A refused
`tree.unlock()` changes the lock state: with the branch read-locked once by another
holder and the tree unlocked, `unlock` raises `LockNotHeld` *and* releases the branch's
lock, the repository's lock and the fallbacks. -/
theorem tree_over_unlock_witness :
    let s := (Tree.init false).run [.branch .lockRead]
    s.isLocked = false ∧ s.branch.isLocked = true ∧ s.branch.repo.fb = 1 ∧
    (s.step (.tree .unlock)).2 = .error .notHeld ∧
    (s.step (.tree .unlock)).1.branch.isLocked = false ∧
    (s.step (.tree .unlock)).1.branch.repo.isLocked = false ∧
    (s.step (.tree .unlock)).1.branch.repo.fb = 0 := by decide

/-- control files: a granted call moves the count by one, and touches the physical lock
exactly on the edges -/
theorem lf_ok_edge (s : LF) (h : s.Inv) (o : Op) (t : Option Nat) (hr : (s.step o).2 = .ok t) :
    (if o = .unlock then (s.step o).1.count + 1 = s.count else (s.step o).1.count = s.count + 1) ∧
    (s.count = 0 → ∃ e, e ≠ Ev.rel ∧ (s.step o).1.phys.log = s.phys.log ++ [e]) ∧
    ((s.step o).1.count = 0 → (s.step o).1.phys.log = s.phys.log ++ [.rel]) ∧
    (0 < s.count → 0 < (s.step o).1.count → (s.step o).1.phys.log = s.phys.log) :=
  (hr ▸ LF.step_reentrant h o).ok_edge

/-- A granted tree call is exactly one granted call on the tree's own control files
(`lf_ok_edge`: count ± 1, physical lock touched on the edges only) plus exactly one
granted call of the same direction on the branch (`branchG_ok_edge`): every tree lock
holds one branch lock, every tree unlock gives one back. -/
theorem tree_ok_edge (s : Tree) (h : s.Inv) (o : TreeOp) (t : Option Nat)
    (hr : (s.step (.tree o)).2 = .ok t) :
    (if o = .unlock then (s.step (.tree o)).1.cf.count + 1 = s.cf.count ∧
        (s.step (.tree o)).1.branch.cf.count + 1 = s.branch.cf.count
      else (s.step (.tree o)).1.cf.count = s.cf.count + 1 ∧
        (s.step (.tree o)).1.branch.cf.count = s.branch.cf.count + 1) ∧
    (s.cf.count = 0 → ∃ e, e ≠ Ev.rel ∧ (s.step (.tree o)).1.cf.phys.log = s.cf.phys.log ++ [e]) ∧
    ((s.step (.tree o)).1.cf.count = 0 → (s.step (.tree o)).1.cf.phys.log = s.cf.phys.log ++ [.rel]) ∧
    (0 < s.cf.count → 0 < (s.step (.tree o)).1.cf.count →
      (s.step (.tree o)).1.cf.phys.log = s.cf.phys.log) := by
  obtain ⟨tb, tc, hb, hc, hs1, hs2⟩ := Tree.step_ok o hr
  rw [hs1, hs2]
  obtain ⟨c1, c2, c3, c4⟩ := lf_ok_edge s.cf h.cf o.cfOp tc hc
  obtain ⟨b1, _⟩ := branchG_ok_edge s.branch h.branch o.branchOp tb hb
  refine ⟨?_, c2, c3, c4⟩
  cases o <;> simp only [TreeOp.cfOp, TreeOp.branchOp, reduceCtorEq, if_false, if_true] at c1 b1 ⊢ <;>
    exact ⟨c1, b1⟩

/-- a refused call on the tree, its branch or its repository leaves the lock state
(`lcore`: everything but the logs and the stale `_token_from_lock`) of the whole stack
unchanged — PARTIAL: except for `unlock` of an unlocked tree whose branch is locked by
another holder (`tree_over_unlock_witness`).  Lock calls that fail half way (branch
locked, own control files refuse) give the branch lock back. -/
theorem tree_refused_unchanged_partial (s : Tree) (h : s.Inv) (hcons : s.Consistent) (o : TOp)
    (e : Err) (hr : (s.step o).2 = .error e)
    (hex : ¬ (o = .tree .unlock ∧ s.cf.count = 0 ∧ 0 < s.branch.cf.count)) :
    (s.step o).1.lcore = s.lcore := by
  have hbr : ∀ (bo : Op) (e : Err), (s.branch.stepG (.branch bo)).2 = .error e →
      (s.branch.stepG (.branch bo)).1.core = s.branch.core :=
    fun bo e he => branchG_refused_unchanged s.branch h.branch hcons.branch (.branch bo) e he
  cases o with
  | branch o =>
    simp only [Tree.step] at hr ⊢
    simp only [Tree.lcore, Branch.lcore_of_core (hbr o e hr)]
  | repo o =>
    simp only [Tree.step] at hr ⊢
    have := branchG_refused_unchanged s.branch h.branch hcons.branch (.repo o) e hr
    simp only [Tree.lcore, Branch.lcore_of_core this]
  | tree o =>
    by_cases hu : o = .unlock
    · subst hu
      obtain ⟨h1, h2, h3⟩ := Tree.unlock_state s
      have hres := Tree.unlock_result s
      simp only [Tree.step] at hr ⊢
      rcases LF.unlock_spec h.cf with ⟨hc, eu⟩ | ⟨hc, cf', eu, hcc, _⟩
      · have hb0 : s.branch.cf.count = 0 := by
          cases hb : s.branch.cf.count with
          | zero => rfl
          | succ n => exact absurd ⟨rfl, hc, by omega⟩ hex
        have hne : (s.cf.count = 1 && s.ds.held.isSome) = false := by simp [hc]
        simp only [Tree.lcore, h1, h2, h3, eu, branchG_over_unlock_refused s.branch hb0, hne, Bool.false_eq_true,
          if_false]
      · exfalso
        obtain ⟨b, eb, _⟩ := Branch.unlock_ok h.branch hcons.branch (by have := hcons.tree; omega)
        rw [hres, eb, eu] at hr
        cases hr
    · rw [Tree.step_lock_eq s o hu] at hr ⊢
      have hbo : o.branchOp ≠ .unlock := by cases o <;> first | exact absurd rfl hu | decide
      have hco : o.cfOp ≠ .unlock := by cases o <;> first | exact absurd rfl hu | decide
      exact Tree.lockVia_refused h _ hbo _ _ hco (hbr _) hr

/-- a write lock (`lock_write` or `lock_tree_write`) requested on a read-locked tree is
refused with `ReadOnlyError` (and, by `tree_refused_unchanged_partial`, changes nothing) -/
theorem tree_write_after_read_refused (s : Tree) (h : s.Inv) (hcons : s.Consistent)
    (hm : s.cf.mode = some .r) (o : TreeOp) (ho : o = .lockWrite ∨ o = .lockTreeWrite) :
    (s.step (.tree o)).2 = .error .readOnly ∧ (s.step (.tree o)).1.lcore = s.lcore := by
  have hc : 0 < s.cf.count := h.cf.mode_count.mp (by simp [hm])
  have hbc : 0 < s.branch.cf.count := by have := hcons.tree; omega
  have hself : (s.cf.lockWrite none).2 = .error .readOnly := by
    have := lf_write_after_read_refused s.cf hm none
    simp only [LF.step] at this
    rw [this]
  have hu : o ≠ .unlock := by rcases ho with rfl | rfl <;> decide
  have hbo : o.branchOp ≠ .unlock := by rcases ho with rfl | rfl <;> decide
  have hcf : (fun cf : LF => cf.step o.cfOp) = (fun cf : LF => cf.lockWrite none) := by
    rcases ho with rfl | rfl <;> rfl
  have hres : (s.step (.tree o)).2 = .error .readOnly := by
    rw [Tree.step_lock_eq s o hu, hcf]
    rcases hb : s.branch.stepG (.branch o.branchOp) with ⟨b, rb⟩
    cases rb with
    | ok tb => exact Tree.lockVia_self_refused h _ hbo _ _ hb hself
    | error e' =>
      -- the branch is locked already, so its call is that of its control files: `lock_read` is granted,
      -- `lock_write` is granted or refused with `ReadOnlyError`
      have he : (s.branch.cf.step o.branchOp).2 = .error e' := by
        rw [Branch.stepG_nested h.branch hbo hbc] at hb
        exact (Prod.mk.inj hb).2
      have : e' = .readOnly := by
        rcases ho with rfl | rfl <;> simp only [TreeOp.branchOp, LF.step] at he
        · rcases LF.lockWrite_none_locked h.branch.cf hbc with ⟨cf', t', ew⟩ | ew <;> rw [ew] at he <;> cases he
          rfl
        · rw [LF.lockRead_nested h.branch.cf hbc] at he
          cases he
      subst this
      simp only [Tree.lockVia, hb]
  refine ⟨hres, tree_refused_unchanged_partial s h hcons (.tree o) .readOnly hres ?_⟩
  exact fun hx => hu (TOp.tree.inj hx.1)

/-- `Tree.Consistent` (every tree lock holds a branch lock, a locked branch holds its
repository) is preserved by EVERY step of the stack except a caller's own direct
`branch.unlock()` / `repository.unlock()` — including the over-unlock of the finding. -/
theorem tree_consistent_step (s : Tree) (h : s.Inv) (hcons : s.Consistent) (o : TOp)
    (ho : o ≠ .repo .unlock ∧ o ≠ .branch .unlock) : (s.step o).1.Consistent := by
  have hbstep : ∀ bo : SOp, bo ≠ .repo .unlock → (s.branch.stepG bo).1.Consistent :=
    fun bo hbo => branchG_consistent_step s.branch h.branch hcons.branch bo hbo
  cases o with
  | repo o =>
    have hne : SOp.repo o ≠ .repo .unlock := fun hx => ho.1 (by injection hx with hx; rw [hx])
    refine ⟨?_, hbstep _ hne⟩
    show s.cf.count ≤ (s.branch.stepG (.repo o)).1.cf.count
    rw [Branch.stepG_repo]
    exact hcons.tree
  | branch o =>
    have hne : o ≠ .unlock := fun hx => ho.2 (by rw [hx])
    refine ⟨?_, hbstep _ (by intro hx; cases hx)⟩
    show s.cf.count ≤ (s.branch.stepG (.branch o)).1.cf.count
    have ht := hcons.tree
    cases hres : (s.branch.stepG (.branch o)).2 with
    | error e =>
      have hcore := branchG_refused_unchanged s.branch h.branch hcons.branch (.branch o) e hres
      have := (Branch.lcore_counts (Branch.lcore_of_core hcore)).1
      omega
    | ok t =>
      obtain ⟨h1, _⟩ := branchG_ok_edge s.branch h.branch o t hres
      simp only [hne, if_false] at h1
      omega
  | tree o =>
    cases hres : (s.step (.tree o)).2 with
    | ok t =>
      obtain ⟨tb, tc, hb, hc, hs1, hs2⟩ := Tree.step_ok o hres
      obtain ⟨c1, _⟩ := tree_ok_edge s h o t hres
      have ht := hcons.tree
      refine ⟨?_, ?_⟩
      · cases o <;> simp only [reduceCtorEq, if_false, if_true] at c1 <;> omega
      · rw [hs2]; exact hbstep _ (by intro hx; cases hx)
    | error e =>
      by_cases hu : o = .unlock
      · subst hu
        -- `unlock`: the state is always (cf.unlock, branch.unlock), whatever is raised
        obtain ⟨h1, h2, _⟩ := Tree.unlock_state s
        refine ⟨?_, by simp only [Tree.step]; rw [h2]; exact hbstep _ (by intro hx; cases hx)⟩
        show (s.step (.tree .unlock)).1.cf.count ≤ (s.step (.tree .unlock)).1.branch.cf.count
        simp only [Tree.step]
        rw [h1, h2]
        have ht := hcons.tree
        rcases LF.unlock_spec h.cf with ⟨hc0, eu⟩ | ⟨hc, cf', eu, hcc, _⟩
        · rw [eu]; simp only; omega
        · obtain ⟨b, eb, hbc⟩ := Branch.unlock_ok h.branch hcons.branch (by omega)
          rw [eu, eb]; simp only; omega
      · have hl := tree_refused_unchanged_partial s h hcons (.tree o) e hres
          (by rintro ⟨hx, _⟩; injection hx with hx; exact hu hx)
        obtain ⟨hc, hb, _⟩ := Tree.lcore_parts hl
        obtain ⟨hb1, hb2⟩ := Branch.lcore_counts hb
        have ht := hcons.tree
        refine ⟨by omega, ?_⟩
        intro hpos
        have := hcons.branch (by omega)
        omega

theorem tree_consistent_run (s : Tree) (h : s.Inv) (hcons : s.Consistent) (ops : List TOp)
    (hops : ∀ o ∈ ops, o ≠ TOp.repo .unlock ∧ o ≠ TOp.branch .unlock) :
    (s.run ops).Inv ∧ (s.run ops).Consistent :=
  List.foldlRecOn (motive := fun s : Tree => s.Inv ∧ s.Consistent) ops _ ⟨h, hcons⟩ fun s h o ho =>
    ⟨Tree.inv_step h.1 o, tree_consistent_step s h.1 h.2 o (hops o ho)⟩

/-- `tree_refused_unchanged_partial` without the `Consistent` hypothesis: after ANY
sequence of tree, branch and repository calls that contains no direct `branch.unlock()`
/ `repository.unlock()` of a caller, from any initial situation, a refused call leaves the
lock state of the whole stack unchanged — except the over-unlock of the finding. -/
theorem tree_refused_unchanged_run (ext rbT rbB rbR pin : Bool) (ops : List TOp)
    (hops : ∀ o ∈ ops, o ≠ TOp.repo .unlock ∧ o ≠ TOp.branch .unlock) (o : TOp) (e : Err)
    (hr : (((Tree.init ext rbT rbB rbR pin).run ops).step o).2 = .error e)
    (hex : ¬ (o = .tree .unlock ∧ ((Tree.init ext rbT rbB rbR pin).run ops).cf.count = 0 ∧
      0 < ((Tree.init ext rbT rbB rbR pin).run ops).branch.cf.count)) :
    (((Tree.init ext rbT rbB rbR pin).run ops).step o).1.lcore = ((Tree.init ext rbT rbB rbR pin).run ops).lcore := by
  have hinit : (Tree.init ext rbT rbB rbR pin).Consistent :=
    ⟨by simp [Tree.init, LF.init], by intro h; simp [Tree.init, Branch.init, LF.init] at h⟩
  obtain ⟨hi, hc⟩ := tree_consistent_run _ (Tree.inv_init ext rbT rbB rbR pin) hinit ops hops
  exact tree_refused_unchanged_partial _ hi hc o e hr hex

/-- a sequence satisfying the hypothesis, with nested tree locks of all three kinds, a direct
branch lock, and a refused call -/
example : (∀ o ∈ [TOp.tree .lockTreeWrite, .tree .lockRead, .branch .lockRead, .tree .unlock],
      o ≠ TOp.repo .unlock ∧ o ≠ TOp.branch .unlock) ∧
    (((Tree.init false).run [.tree .lockTreeWrite, .tree .lockRead, .branch .lockRead, .tree .unlock]).step
      (.tree .lockWrite)).2 = .error .readOnly := by
  refine ⟨by decide, by decide⟩

/-- THE DIRSTATE ROLL-BACK.  A first write lock of a dirstate tree (`lock_write` or
`lock_tree_write`, tree count 0) whose dirstate FILE is pinned by another reader (a second
working-tree object or process holds a read lock on it), with the branch call and the
tree's own control-files `lock_write()` granted: the call raises `LockContention`; the
lock state of the WHOLE stack (tree control files, dirstate, branch, repository) is
unchanged; and the control files' physical lock — taken before the dirstate was tried —
has been RELEASED again: not held, count 0, its log grown by exactly `acquire, release`. -/
theorem tree_dirstate_refused_rollback (s : Tree) (h : s.Inv) (hcons : s.Consistent) (o : TreeOp)
    (ho : o = .lockWrite ∨ o = .lockTreeWrite) (hc0 : s.cf.count = 0) (hpin : s.ds.pinned = true)
    (tb tc : Option Nat) (hb : (s.branch.stepG (.branch o.branchOp)).2 = .ok tb)
    (hc : (s.cf.lockWrite none).2 = .ok tc) :
    (s.step (.tree o)).2 = .error .contention ∧
    (s.step (.tree o)).1.lcore = s.lcore ∧
    (s.step (.tree o)).1.cf.count = 0 ∧
    (s.step (.tree o)).1.cf.phys.held = none ∧
    (s.step (.tree o)).1.ds = s.ds ∧
    (∃ ev, ev ≠ Ev.rel ∧ (s.step (.tree o)).1.cf.phys.log = s.cf.phys.log ++ [ev] ++ [.rel]) := by
  have hu : o ≠ .unlock := by rcases ho with rfl | rfl <;> decide
  have hbo : o.branchOp ≠ .unlock := by rcases ho with rfl | rfl <;> decide
  have hm : o.dsMode = .w := by rcases ho with rfl | rfl <;> rfl
  have hcf : (fun cf : LF => cf.step o.cfOp) = (fun cf : LF => cf.lockWrite none) := by
    rcases ho with rfl | rfl <;> rfl
  have hstep := Tree.step_lock_eq s o hu
  rw [hm, hcf] at hstep
  obtain ⟨r1, r2, r3, r4, r5⟩ := Tree.lockVia_ds_refused h o.branchOp hbo hc0 hpin
    (b := (s.branch.stepG (.branch o.branchOp)).1) (tb := tb) (Prod.ext rfl hb)
    (cf' := (s.cf.lockWrite none).1) (tc := tc) (Prod.ext rfl hc)
  rw [← hstep] at r1 r2 r3 r4 r5
  refine ⟨r1, ?_, r3, r4, r2, r5⟩
  exact tree_refused_unchanged_partial s h hcons (.tree o) .contention r1
    (by rintro ⟨hx, _⟩; injection hx with hx; exact hu hx)

/-- the hypotheses hold in reachable states: a fresh tree with a pinned dirstate, and one whose
branch somebody else holds; `lock_read` of a pinned tree is granted -/
example : ((Tree.init false (pin := true)).step (.tree .lockWrite)).2 = .error .contention ∧
    ((Tree.init false (pin := true)).step (.tree .lockWrite)).1.cf.phys.log = [.acqW, .rel] ∧
    ((Tree.init false (pin := true)).step (.tree .lockWrite)).1.branch.cf.phys.log = [.acqW, .rel] ∧
    ((Tree.init false (pin := true)).step (.tree .lockWrite)).1.lcore = (Tree.init false (pin := true)).lcore ∧
    ((Tree.init false (pin := true)).step (.tree .lockRead)).2 = .ok none := by decide

example : (((Tree.init false (pin := true)).run [.branch .lockRead]).step (.tree .lockTreeWrite)).2
      = .error .contention ∧
    (((Tree.init false (pin := true)).run [.branch .lockRead]).step (.tree .lockTreeWrite)).1.branch.cf.count = 1 ∧
    (((Tree.init false (pin := true)).run [.branch .lockRead]).step (.tree .lockTreeWrite)).1.cf.phys.held = none := by
  decide

/-! #### the guarded tree (`Tree.stepG`: the fix that had to be reverted) — no exception left -/

theorem treeG_refused_unchanged (s : Tree) (h : s.Inv) (hcons : s.Consistent) (o : TOp)
    (e : Err) (hr : (s.stepG o).2 = .error e) : (s.stepG o).1.lcore = s.lcore := by
  by_cases hg : o = .tree .unlock ∧ s.cf.count = 0
  · rw [hg.1, treeG_over_unlock_refused s hg.2]
  · rw [Tree.stepG_eq s o hg] at hr ⊢
    exact tree_refused_unchanged_partial s h hcons o e hr (fun hx => hg ⟨hx.1, hx.2.1⟩)

theorem treeG_physical_balanced (ext rbT rbB rbR pin : Bool) (ops : List TOp) :
    let s := (Tree.init ext rbT rbB rbR pin).runG ops
    Balanced s.cf.phys.log s.cf.phys.held.isSome ∧
    (s.cf.phys.held.isSome = true ↔ 0 < s.cf.count) ∧
    Balanced s.branch.cf.phys.log s.branch.cf.phys.held.isSome ∧
    (s.branch.cf.phys.held.isSome = true ↔ 0 < s.branch.cf.count) := by
  intro s
  have h : s.Inv := Tree.inv_runG (Tree.inv_init ext rbT rbB rbR pin) ops
  exact ⟨h.cf.bal, h.cf.held_iff, h.branch.cf.bal, h.branch.cf.held_iff⟩

/-- the witness of the finding does not exist in the guarded variant -/
example : ((Tree.init false).run [.branch .lockRead]).stepG (.tree .unlock) =
    ((Tree.init false).run [.branch .lockRead], .error .notHeld) := by decide

/-- hypotheses of `tree_refused_unchanged_partial` / `tree_write_after_read_refused` hold, and calls
are refused, in reachable states: a read-locked tree over a branch somebody else write-locked first
(the roll-back path: `branch.lock_write()` is granted, the tree's control files refuse, the branch
lock is given back), and a tree whose own lock refuses `lock_read()` -/
example : ((Tree.init false).run [.branch (.lockWrite none), .tree .lockRead]).cf.mode = some .r ∧
    (((Tree.init false).run [.branch (.lockWrite none), .tree .lockRead]).step (.tree .lockWrite)).2
      = .error .readOnly ∧
    (((Tree.init false).run [.branch (.lockWrite none), .tree .lockRead]).step (.tree .lockWrite)).1.branch.cf.count
      = 2 := by decide

example : ((Tree.init false).run [.branch (.lockWrite none), .tree .lockRead]).Consistent :=
  ⟨by decide, fun _ => by decide⟩

example : ((Tree.init false true).step (.tree .lockRead)).2 = .error .contention ∧
    ((Tree.init false true).step (.tree .lockRead)).1.branch.cf.phys.log = [.acqR, .rel] ∧
    ((Tree.init false true).step (.tree .lockRead)).1.lcore = (Tree.init false true).lcore := by decide

/-- with no write group active the write-group-aware step IS the plain repository step
(every `repo_*` theorem applies), and no group appears by itself -/
theorem repow_no_group (fx : Bool) (s : RepoW) (hw : s.wg = false) (o : Op) :
    s.step fx (.op o) = ({ s with repo := (s.repo.step o).1 }, (s.repo.step o).2) := by
  cases o <;> simp [RepoW.step, RepoW.unlock, hw, Repo.step]

/-- FINDING (code as found, `fx = false`).  The last `unlock()` of a write-locked
`PackRepository` while a write group is active aborts the group and returns `None`
(the `BzrError` is discarded by `only_raises`); the repository is unlocked, but its
fallback repositories — locked on the 0→1 edge — are NOT released on this 1→0 edge. -/
theorem repo_unlock_in_write_group_witness :
    let s := (RepoW.init false).run false [.op (.lockWrite none), .startWG]
    s.repo.isLocked = true ∧ s.repo.fb = 1 ∧ s.wg = true ∧
    (s.step false (.op .unlock)).2 = .ok none ∧
    (s.step false (.op .unlock)).1.repo.isLocked = false ∧
    (s.step false (.op .unlock)).1.repo.fb = 1 ∧
    (s.step false (.op .unlock)).1.repo.fbLog = [.acqR] := by decide

/-- a write group is only ever active under a write lock -/
def RepoW.Inv (s : RepoW) : Prop := s.repo.Inv ∧ (s.wg = true → 0 < s.repo.wcount)

/-- With the proposed fix (`fx = true`): in EVERY state satisfying the invariant in which
the last write lock is released inside a write group, the call returns, the group is
gone, the repository is unlocked, the fallbacks are released exactly once, and the
invariant holds again. -/
theorem repowF_unlock_in_write_group (s : RepoW) (h : s.repo.Inv) (hw : s.repo.wcount = 1)
    (hg : s.wg = true) :
    (s.step true (.op .unlock)).2 = .ok none ∧ (s.step true (.op .unlock)).1.wg = false ∧
    (s.step true (.op .unlock)).1.repo.depth = 0 ∧ (s.step true (.op .unlock)).1.repo.fb = 0 ∧
    (s.step true (.op .unlock)).1.repo.fbLog = s.repo.fbLog ++ [.rel] ∧
    (s.step true (.op .unlock)).1.repo.Inv := by
  have hc : s.repo.cf.count = 0 := by
    rcases h.excl with h0 | h0
    · omega
    · exact h0
  have hd : 0 < s.repo.depth := by simp only [Repo.depth]; omega
  have hfb := h.fb_pos hd
  have hbal := (h.fb_bal_pos hd).release
  have hl : ({ s.repo with wcount := 0 } : Repo).isLocked = false := by
    simp [Repo.isLocked, LF.isLocked, hc]
  simp only [RepoW.step, RepoW.unlock, hw, hg, Bool.and_self, decide_true, if_true, hl, Bool.not_false]
  refine ⟨trivial, trivial, by simp [Repo.depth, hc], by simp [hfb], trivial, ?_⟩
  exact ⟨h.cf, Or.inl rfl, by intro h0; simp [Repo.depth, hc] at h0, fun _ => by simp [hfb],
    by intro h0; simp [Repo.depth, hc] at h0, fun _ => hbal⟩

/-- with the fix the invariant (balanced logs, fallbacks locked exactly while the
repository is) survives every sequence of lock calls AND write-group calls -/
theorem repowF_inv_step (s : RepoW) (h : s.Inv) (o : WOp) : (s.step true o).1.Inv := by
  obtain ⟨hi, hwg⟩ := h
  cases o with
  | startWG =>
    simp only [RepoW.step]
    split
    · exact ⟨hi, hwg⟩
    · next hw =>
      split
      · exact ⟨hi, hwg⟩
      · exact ⟨hi, fun _ => by show 0 < s.repo.wcount; omega⟩
  | abortWG =>
    simp only [RepoW.step]
    split
    · exact ⟨hi, hwg⟩
    · exact ⟨hi, by intro h0; cases h0⟩
  | op o =>
    by_cases hg : s.wg = true
    · have hpos := hwg hg
      cases o with
      | unlock =>
        by_cases h1 : s.repo.wcount = 1
        · obtain ⟨_, h2, _, _, _, h6⟩ := repowF_unlock_in_write_group s hi h1 hg
          exact ⟨h6, by intro h0; rw [h2] at h0; cases h0⟩
        · have hne : (s.repo.wcount = 1 && s.wg) = false := by simp [h1]
          simp only [RepoW.step, RepoW.unlock, hne, Bool.false_eq_true, if_false]
          refine ⟨Repo.inv_step hi .unlock, fun _ => ?_⟩
          rcases Repo.unlock_spec hi with ⟨hd, _⟩ | ⟨_, e⟩ | ⟨hw0, _⟩
          · simp only [Repo.depth] at hd; omega
          · have h2 : 1 < s.repo.wcount := by omega
            rw [e]; simp only [h2, if_true]; omega
          · omega
      | lockRead =>
        simp only [RepoW.step]
        refine ⟨Repo.inv_step hi .lockRead, fun _ => ?_⟩
        rcases Repo.lockRead_spec hi with ⟨_, e⟩ | ⟨hd, _⟩ | ⟨hw0, _⟩
        · simp only [Repo.step, e]; omega
        · simp only [Repo.depth] at hd; omega
        · omega
      | lockWrite tok =>
        simp only [RepoW.step]
        refine ⟨Repo.inv_step hi (.lockWrite tok), fun _ => ?_⟩
        rcases Repo.lockWrite_spec s.repo tok with ⟨hw0, _⟩ | ⟨_, e⟩ | ⟨hd, _⟩
        · omega
        · simp only [Repo.step, e]; omega
        · simp only [Repo.depth] at hd; omega
    · have hg' : s.wg = false := by simpa using hg
      rw [repow_no_group true s hg' o]
      exact ⟨Repo.inv_step hi o, by intro h0; simp only [hg'] at h0; cases h0⟩

theorem repowF_physical_balanced (ext rb : Bool) (ops : List WOp) :
    let s := (RepoW.init ext rb).run true ops
    Balanced s.repo.cf.phys.log s.repo.cf.phys.held.isSome ∧
    (s.repo.isLocked = true ↔ 0 < s.repo.depth) ∧
    (0 < s.repo.depth → s.repo.fb = 1 ∧ Balanced s.repo.fbLog true) ∧
    (s.repo.depth = 0 → s.repo.fb = 0 ∧ Balanced s.repo.fbLog false) ∧
    (s.wg = true → 0 < s.repo.wcount) := by
  intro s
  have h : s.Inv := List.foldlRecOn (motive := RepoW.Inv) ops _ ⟨Repo.inv_init ext rb, nofun⟩ fun s h o _ => repowF_inv_step s h o
  exact ⟨h.1.cf.bal, Repo.isLocked_iff _, h.1.fallbacks.1, h.1.fallbacks.2, h.2⟩

/-- hypotheses of `repowF_unlock_in_write_group` hold in a reachable state -/
example : ((RepoW.init false).run true [.op (.lockWrite none), .startWG]).repo.wcount = 1 ∧
    ((RepoW.init false).run true [.op (.lockWrite none), .startWG]).wg = true ∧
    ((RepoW.init false).run true [.op (.lockWrite none), .startWG, .op .unlock]).repo.fbLog = [.acqR, .rel] := by
  decide

/-- without a failing store the step IS the guarded branch step (every `branchG_*` theorem applies) -/
theorem branchS_no_failure (fx : Bool) (s : BranchS) (hs : s.saveFails = false) (o : SOp) :
    s.step fx o = ({ s with b := (s.b.stepG o).1 }, (s.b.stepG o).2) := by
  cases o with
  | repo o => rfl
  | branch o =>
    cases o with
    | lockRead => rfl
    | lockWrite t => rfl
    | unlock =>
      simp only [BranchS.step, Branch.stepG, hs, Bool.and_false, Bool.false_and, Bool.false_eq_true, if_false]
      split <;> first | rfl | (cases s; simp_all)

/-- with the proposed fix a failing store changes nothing about the locks: the step IS
the guarded branch step, whatever the store does -/
theorem branchS_fixed_eq (s : BranchS) (o : SOp) :
    s.step true o = ({ s with b := (s.b.stepG o).1 }, (s.b.stepG o).2) := by
  cases o with
  | repo o => rfl
  | branch o =>
    cases o with
    | lockRead => rfl
    | lockWrite t => rfl
    | unlock =>
      simp only [BranchS.step, Branch.stepG, Bool.not_true, Bool.and_false, Bool.false_eq_true, if_false]
      split <;> first | rfl | (cases s; simp_all)

/-- FINDING (code as found, `fx = false`).  The matching last `unlock()` of a branch whose
config store fails in `save_changes()` returns `None` (the exception is discarded by
`only_raises`) and releases nothing: branch, repository and the physical lock stay held. -/
theorem branch_unlock_save_failure_witness :
    let s := (BranchS.init false true).run false [.branch (.lockWrite none)]
    s.b.cf.count = 1 ∧ s.b.cf.phys.held = some .w ∧
    (s.step false (.branch .unlock)).2 = .ok none ∧
    (s.step false (.branch .unlock)).1 = s ∧
    (s.step true (.branch .unlock)).1.b.isLocked = false ∧
    (s.step true (.branch .unlock)).1.b.cf.phys.held = none ∧
    (s.step true (.branch .unlock)).1.b.repo.isLocked = false := by decide

/-! ### non-vacuity: reachable, non-trivial states satisfy the hypotheses -/

/-- `CL.Inv` / `mode = r` (hypotheses of `cl_write_after_read_refused`, `cl_edge`, `cl_ok_count`)
hold in a nested read-locked state -/
example : ((CL.init false).run [.lockRead, .lockRead]).mode = some .r ∧
    ((CL.init false).run [.lockRead, .lockRead]).count = 2 := by decide

example : ((CL.init false).run [.lockRead, .lockRead]).Inv := CL.inv_run (CL.inv_init false) _

/-- a refused call really occurs (`cl_refused_unchanged`): token mismatch while write-locked -/
example : (((CL.init false).run [.lockWrite none]).step (.lockWrite (some 9))).2 = .error .tokenMismatch := by
  decide

/-- `lf_write_after_read_refused`: a read-locked LockableFiles -/
example : ((LF.init true).run [.lockRead, .lockRead, .unlock]).mode = some .r := by decide

/-- `lf_over_unlock_refused`: count 0 after balanced use, log `R U W U` -/
example : ((LF.init false).run [.lockRead, .unlock, .lockWrite none, .unlock]).count = 0 ∧
    ((LF.init false).run [.lockRead, .unlock, .lockWrite none, .unlock]).phys.log =
      [.acqR, .rel, .acqW, .rel] := by decide

/-- `repo_write_after_read_refused`: a read-locked repository (`wcount = 0`, control files count 2) -/
example : ((Repo.init false).run [.lockRead, .lockRead]).wcount = 0 ∧
    ((Repo.init false).run [.lockRead, .lockRead]).cf.count = 2 ∧
    ((Repo.init false).run [.lockRead, .lockRead]).fbLog = [.acqR] := by decide

/-- `repo_over_unlock_refused`: depth 0 after write/read nesting, fallbacks `R U` -/
example : ((Repo.init false).run [.lockWrite none, .lockRead, .unlock, .unlock]).depth = 0 ∧
    ((Repo.init false).run [.lockWrite none, .lockRead, .unlock, .unlock]).fbLog = [.acqR, .rel] := by
  decide

/-- `branch_refused_unchanged_partial`: hypotheses hold, and a call is refused, in a state where the
branch is write-locked (token mismatch), and in one where the failed first lock is rolled back -/
example : ((Branch.init false).run [.branch (.lockWrite none)]).Consistent ∧
    (((Branch.init false).run [.branch (.lockWrite none)]).step (.branch (.lockWrite (some 9)))).2 =
      .error .tokenMismatch := by
  refine ⟨?_, by decide⟩
  intro _; decide

example : ((Branch.init true).step (.branch (.lockWrite none))).2 = .error .contention ∧
    ((Branch.init true).step (.branch (.lockWrite none))).1.repo.fbLog = [.acqR, .rel] ∧
    ((Branch.init true).step (.branch (.lockWrite none))).1.core = (Branch.init true).core := by decide

/-- `branch_over_unlock_refused_partial`: branch and repository both unlocked -/
example : (Branch.init false).cf.count = 0 ∧ (Branch.init false).repo.depth = 0 := by decide

/-- `branch_write_after_read_refused` / `branch_ok_edge`: a read-locked branch holds its repository -/
example : ((Branch.init false).run [.branch .lockRead]).cf.mode = some .r ∧
    ((Branch.init false).run [.branch .lockRead]).repo.depth = 1 := by decide

end BreezyVerif.C28
