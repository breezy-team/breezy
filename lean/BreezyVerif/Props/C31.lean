import BreezyVerif.Lemmas.C31D
import BreezyVerif.Lemmas.C31E
/-
C31 — smart server clients cannot reach files outside the served directory.

Everything is stated for ALL client paths (byte strings of any length), all
root client paths, all served directories, every transport base reached by
cloning, and every userdir filter that maps canonical escaped paths to
canonical escaped paths (proved for `_expand_userdirs` over an arbitrary
expander with that property, and for the posix `expanduser` over any table of
canonical home directories).

"inside" means: the absolute location the operating system finally resolves
(`locate`: userdir filter → chroot combination → LocalTransport unescape →
lexical `..` resolution by the OS) has the served directory as a prefix.
-/
namespace BreezyVerif.C31

example : joinpathRoot [97, 47, 47, 46, 46, 47, 46, 46, 47, 98] = .ok [47, 98] := by decide +kernel
example : joinpathRoot [97, 47, 46, 46, 47, 46, 46] = .error .aboveRoot := by decide +kernel

/-- `translate_client_path` returns "." or "./s₁/…/sₙ" where the sᵢ are the
escaped forms of clean segments (so no sᵢ is ".." and none contains "/") -/
theorem translate_shape (root cp r : Bytes) (h : translate root cp = .ok r) :
    r = [DOT] ∨ ∃ segs : List Seg, (∀ s ∈ segs, Clean s) ∧ r = DOT :: SL :: joinSl (segs.map escape) := by
  obtain rfl | ⟨rel, hj, rfl⟩ := translate_ok h
  · exact Or.inl rfl
  · obtain ⟨segs, rfl, hs⟩ := joinpath_clean _ _ hj
    refine Or.inr ⟨segs, hs, ?_⟩
    simp only [escape, isSafe_DOT, isSafe_SL, if_true]
    rw [escape_joinSl]

/-- the result of `translate_client_path` is a canonical escaped string -/
theorem translate_canon (root cp r : Bytes) (h : translate root cp = .ok r) : Canon r := by
  obtain rfl | ⟨rel, _, rfl⟩ := translate_ok h
  · exact .safe DOT [] isSafe_DOT .nil
  · exact canon_escape _

/-- so is the result of the fixed `VfsRequest.translate_client_path` (unescape first) -/
theorem vfsTranslate_fixed_canon {root cp r : Bytes} (h : vfsTranslate true root cp = .ok r) :
    Canon r := by
  unfold vfsTranslate at h
  simp only [if_true] at h
  split at h
  · cases h
  · cases hu : unescape cp with
    | error e => rw [hu] at h; cases h
    | ok u => rw [hu] at h; exact translate_canon root u r h

/-- a canonical escaped relpath, on any transport cloned at canonical segments,
behind any filter preserving canonical strings, is resolved inside the served
directory -/
theorem locate_canon_inside (cfg : Cfg) (cloneStk : List Seg) (rel : Bytes) (loc : List Seg)
    (hf : ∀ p, Canon p → Canon (cfg.filter p))
    (hs : ∀ s ∈ cloneStk, GoodSeg Canon s) (hr : Canon rel)
    (h : locate cfg cloneStk rel = .ok loc) : inside cfg.rootDir loc :=
  locate_inside canonClass cfg cloneStk rel loc hf hs hr h

/-- **containment for every non-VFS verb**: for every client path and root
client path, `transport_from_client_path` either raises or yields a transport
such that every operation with a canonical relpath `rel` below it (in
particular "" and ".bzr/…") lands inside the served directory -/
theorem translate_inside (cfg : Cfg) (root cp r rel : Bytes) (loc : List Seg)
    (hf : ∀ p, Canon p → Canon (cfg.filter p))
    (ht : translate root cp = .ok r) (hrel : Canon rel)
    (h : locate cfg (combine [] r) rel = .ok loc) : inside cfg.rootDir loc :=
  locate_canon_inside cfg (combine [] r) rel loc hf
    (combine_good canonClass (by simp) (translate_canon root cp r ht)) hrel h

/-- **containment for every VFS verb with the fixed `VfsRequest.translate_client_path`**
(unescape first): the translated path lands inside the served directory — this
covers %2E%2E, %2F, doubly encoded forms, '~' and NUL -/
theorem vfs_translate_then_chroot_inside (cfg : Cfg) (root cp r : Bytes) (loc : List Seg)
    (hf : ∀ p, Canon p → Canon (cfg.filter p))
    (ht : vfsTranslate true root cp = .ok r)
    (h : locate cfg [] r = .ok loc) : inside cfg.rootDir loc :=
  locate_canon_inside cfg [] r loc hf (by simp) (vfsTranslate_fixed_canon ht) h

/-- **as found** (`VfsRequest.translate_client_path` unescapes after the
normalising join): containment holds for every client path that contains no
'%' at all.  PARTIAL: the excluded family (client paths with percent escapes)
contains real breakouts, see `vfs_as_found_escape_witness`. -/
theorem vfs_as_found_inside_partial (cfg : Cfg) (root cp r : Bytes) (loc : List Seg)
    (hfc : ∀ p, Canon p → Canon (cfg.filter p)) (hfn : ∀ p, NoPct p → NoPct (cfg.filter p))
    (hcp : PCT ∉ cp)
    (ht : vfsTranslate false root cp = .ok r)
    (h : locate cfg [] r = .ok loc) : inside cfg.rootDir loc := by
  unfold vfsTranslate at ht
  simp only [Bool.false_eq_true, if_false] at ht
  cases hx : translate root cp with
  | error e => rw [hx] at ht; cases ht
  | ok x =>
    rw [hx] at ht
    simp only [] at ht
    have hcx := translate_canon root cp x hx
    rcases unescape_ok ht with rfl | ⟨_, rfl⟩
    · -- decoded: the result contains no '%'
      have hn : NoPct (pctDecode x) := by
        obtain rfl | ⟨rel, hj, rfl⟩ := translate_ok hx
        · unfold NoPct; decide
        · rw [pctDecode_escape]
          intro hm
          cases hm with
          | tail _ hm' =>
            rcases joinpath_bytes hj PCT hm' with e | e
            · exact absurd e (by decide)
            · have := List.mem_of_mem_drop e
              unfold addSlash at this
              split at this
              · exact hcp this
              · cases this with
                | tail _ t => exact hcp t
      exact locate_inside noPctClass cfg [] _ loc hfn (by simp) hn h
    · exact locate_inside canonClass cfg [] _ loc hfc (by simp) hcx h

/-- the client path `..%2Fcanary` given to a VFS verb of the as-found code is
translated to `./..%2Fcanary`, which the chroot transport passes on unchanged
and the local transport decodes to `../canary`: with the served directory
/srv/root the file touched is /srv/canary -/
theorem vfs_as_found_escape_witness :
    let cfg : Cfg := { rootDir := [[115, 114, 118], [114, 111, 111, 116]], basePath := none, filter := id }
    let cp : Bytes := [46, 46, 37, 50, 70, 99, 97, 110, 97, 114, 121]
    vfsTranslate false [SL] cp = .ok (DOT :: SL :: cp)
      ∧ locate cfg [] (DOT :: SL :: cp) = .ok [[115, 114, 118], [99, 97, 110, 97, 114, 121]]
      ∧ ¬ inside cfg.rootDir [[115, 114, 118], [99, 97, 110, 97, 114, 121]] := by
  decide +kernel

/-- the same client path is refused by the fixed variant -/
example : vfsTranslate true [SL] [46, 46, 37, 50, 70, 99, 97, 110, 97, 114, 121] = .error .aboveRoot := by
  decide +kernel

/-- a single chroot layer decodes `%%32E%%32E/canary` to `%2E%2E/canary`, which
the local transport decodes once more to `../canary` -/
theorem chroot_double_decode_witness :
    let cfg : Cfg := { rootDir := [[115, 114, 118], [114, 111, 111, 116]], basePath := none, filter := id }
    let cp : Bytes := [37, 37, 51, 50, 69, 37, 37, 51, 50, 69, 47, 99, 97, 110, 97, 114, 121]
    vfsTranslate false [SL] cp = .ok (DOT :: SL :: cp)
      ∧ locate cfg [] (DOT :: SL :: cp) = .ok [[115, 114, 118], [99, 97, 110, 97, 114, 121]] := by
  decide +kernel

/-- `_expand_userdirs` returns the path unchanged, or the part of the expanded
path (with a trailing "/") that follows the base path -/
theorem userdir_inside_or_untouched (expander : Bytes → Bytes) (base path : Bytes) :
    expandUserdirs expander base path = path
      ∨ (path.head? = some TILDE
          ∧ base ++ expandUserdirs expander base path = withSlash (expander path)) := by
  unfold expandUserdirs
  split
  · rename_i ht
    simp only []
    split
    · rename_i hp
      right
      obtain ⟨t, ht'⟩ := List.isPrefixOf_iff_prefix.mp hp
      refine ⟨ht, ?_⟩
      rw [← ht']
      simp
    · exact Or.inl rfl
  · exact Or.inl rfl

/-- `_expand_userdirs` maps canonical escaped paths to canonical escaped paths
whenever the expander does (any base path) -/
theorem userdir_filter_canon (expander : Bytes → Bytes) (he : ∀ p, Canon p → Canon (expander p))
    (base p : Bytes) (hp : Canon p) : Canon (expandUserdirs expander base p) :=
  canonClass.expandUserdirs he base hp

/-- posix `expanduser` over any table whose home directories (trailing slashes
stripped) are canonical preserves canonical strings -/
theorem expanduser_canon (tbl : List (Bytes × Bytes)) (ht : ∀ e ∈ tbl, Canon (rstripSl e.2))
    (p : Bytes) (hp : Canon p) : Canon (expanduser tbl p) :=
  canonClass.expanduser ht hp

/-- non-vacuity of the filter hypothesis: the userdir filter of a server whose
only user lives in /srv/root/home/u, base path /srv/root/ -/
example : ∀ p, Canon p →
    Canon (expandUserdirs (expanduser [([], [47, 115, 114, 118, 47, 114, 111, 111, 116, 47, 104, 111, 109, 101, 47, 117])])
      [47, 115, 114, 118, 47, 114, 111, 111, 116, 47] p) := fun p hp =>
  userdir_filter_canon _ (fun q hq => expanduser_canon _ (by
    intro e he
    simp only [List.mem_singleton] at he
    subst he
    have : rstripSl [47, 115, 114, 118, 47, 114, 111, 111, 116, 47, 104, 111, 109, 101, 47, 117]
        = escape [47, 115, 114, 118, 47, 114, 111, 111, 116, 47, 104, 111, 109, 101, 47, 117] := by decide +kernel
    rw [this]
    exact canon_escape _) q hq) _ p hp

example : expandUserdirs (expanduser [([], [47, 115, 47, 104])]) [47, 115, 47] [126, 47, 120]
    = [104, 47, 120, 47] := by decide +kernel


/-! ### home directories that are not canonical escaped strings

`_expand_userdirs` hands the part of the expanded OS path below the base path to
the chroot as if it were a URL path (it is not escaped).  Containment survives
for every home directory in which each "%" starts an upper-case escape of a byte
outside `A-Za-z0-9-._~/` (`isMild`; in particular every home directory without a
"%" — spaces, non-ASCII bytes, ... are fine), and fails otherwise. -/

/-- `_expand_userdirs` over posix `expanduser` maps mild paths to mild paths
when every home directory of the table is mild -/
theorem userdir_filter_mild (tbl : List (Bytes × Bytes))
    (ht : ∀ e ∈ tbl, isMild (rstripSl e.2) = true) (base p : Bytes) (hp : Mild p) :
    Mild (expandUserdirs (expanduser tbl) base p) :=
  mildClass.expandUserdirs (fun _ hq => mildClass.expanduser (fun e he => mild_of_isMild _ (ht e he)) hq) base hp

/-- **containment behind the userdir filter for arbitrary mild home directories**:
with `_expand_userdirs` over `expanduser` installed, every operation with a
canonical relpath on a transport cloned at canonical segments lands inside the
served directory — for every user table whose home directories are mild, every
base path and every served directory -/
theorem userdir_locate_inside (rootDir : List Seg) (base : Bytes) (tbl : List (Bytes × Bytes))
    (cloneStk : List Seg) (rel : Bytes) (loc : List Seg)
    (ht : ∀ e ∈ tbl, isMild (rstripSl e.2) = true)
    (hs : ∀ s ∈ cloneStk, GoodSeg Canon s) (hr : Canon rel)
    (h : locate { rootDir := rootDir, basePath := some base,
                  filter := expandUserdirs (expanduser tbl) base } cloneStk rel = .ok loc) :
    inside rootDir loc :=
  locate_inside mildClass _ cloneStk rel loc
    (fun p hp => userdir_filter_mild tbl ht base p hp)
    (fun s h' => goodSeg_mild_of_canon (hs s h')) (mild_of_canon hr) h

/-- the same for a whole request: any client path, any root client path, VFS
(`vfs = true`, unescape first) or non-VFS translation -/
theorem translate_userdir_inside (rootDir : List Seg) (base : Bytes) (tbl : List (Bytes × Bytes))
    (vfs : Bool) (root cp r rel : Bytes) (loc : List Seg)
    (ht : ∀ e ∈ tbl, isMild (rstripSl e.2) = true)
    (htr : (if vfs then vfsTranslate true root cp else translate root cp) = .ok r) (hrel : Canon rel)
    (h : locate { rootDir := rootDir, basePath := some base,
                  filter := expandUserdirs (expanduser tbl) base } (combine [] r) rel = .ok loc) :
    inside rootDir loc := by
  have hc : Canon r := by
    cases vfs with
    | false => exact translate_canon root cp r (by simpa using htr)
    | true => exact vfsTranslate_fixed_canon htr
  exact userdir_locate_inside rootDir base tbl (combine [] r) rel loc ht
    (combine_good canonClass (by simp) hc) hrel h

/-- non-vacuity: a home directory with a space (not a canonical escaped string) is mild -/
example : ∀ e ∈ [(([] : Bytes), ([47, 115, 114, 118, 47, 114, 111, 111, 116, 47, 104, 111, 109, 101, 47, 109, 121, 32, 117, 115, 101, 114] : Bytes))],
    isMild (rstripSl e.2) = true := by decide +kernel

example :
    locate { rootDir := [[115, 114, 118], [114, 111, 111, 116]],
             basePath := some [47, 115, 114, 118, 47, 114, 111, 111, 116, 47],
             filter := expandUserdirs (expanduser [([], [47, 115, 114, 118, 47, 114, 111, 111, 116, 47, 104, 111, 109, 101, 47, 109, 121, 32, 117, 115, 101, 114])])
               [47, 115, 114, 118, 47, 114, 111, 111, 116, 47] } [] [46, 47, 126, 47, 102]
      = .ok [[115, 114, 118], [114, 111, 111, 116], [104, 111, 109, 101], [109, 121, 32, 117, 115, 101, 114], [102]] := by
  decide +kernel

/-- a home directory that is NOT mild: the current user's home is the directory
literally named `..%2Fevil` inside the served directory /srv/root (base path
/srv/root/).  The VFS client path `~/f` is translated to `./~/f`, expanded to
`..%2Fevil/f/`, kept by the chroot and decoded by the local transport to
`../evil/f`: the file touched is /srv/evil/f -/
theorem userdir_percent_home_witness :
    let home : Bytes := [47, 115, 114, 118, 47, 114, 111, 111, 116, 47, 46, 46, 37, 50, 70, 101, 118, 105, 108]
    let base : Bytes := [47, 115, 114, 118, 47, 114, 111, 111, 116, 47]
    let cfg : Cfg := { rootDir := [[115, 114, 118], [114, 111, 111, 116]], basePath := some base,
                       filter := expandUserdirs (expanduser [([], home)]) base }
    isMild (rstripSl home) = false
      ∧ vfsTranslate true [SL] [126, 47, 102] = .ok [46, 47, 126, 47, 102]
      ∧ locate cfg [] [46, 47, 126, 47, 102] = .ok [[115, 114, 118], [101, 118, 105, 108], [102]]
      ∧ ¬ inside cfg.rootDir [[115, 114, 118], [101, 118, 105, 108], [102]] := by
  decide +kernel

/-- the PROPOSED FIX of `_expand_userdirs` (unescape, expand, escape the remainder) maps canonical
paths to canonical paths for EVERY expander — no condition on the home directories is left -/
theorem userdir_fixed_canon (expander : Bytes → Bytes) (base p : Bytes) (hp : Canon p) :
    Canon (expandUserdirsFx expander base p) := by
  unfold expandUserdirsFx
  split
  · cases unescape p with
    | error e => exact hp
    | ok fs =>
      simp only []
      split
      · exact canon_escape _
      · exact hp
  · exact hp

/-- with the proposed fix containment behind the userdir filter holds for every expander, i.e. for
arbitrary home directories (compare `userdir_percent_home_witness`) -/
theorem userdir_fixed_locate_inside (rootDir : List Seg) (base : Bytes) (expander : Bytes → Bytes)
    (cloneStk : List Seg) (rel : Bytes) (loc : List Seg)
    (hs : ∀ s ∈ cloneStk, GoodSeg Canon s) (hr : Canon rel)
    (h : locate { rootDir := rootDir, basePath := some base,
                  filter := expandUserdirsFx expander base } cloneStk rel = .ok loc) :
    inside rootDir loc :=
  locate_canon_inside _ cloneStk rel loc (fun p hp => userdir_fixed_canon expander base p hp) hs hr h

/-- the home directory of `userdir_percent_home_witness` under the proposed fix: `~/f` stays inside -/
example :
    locate { rootDir := [[115, 114, 118], [114, 111, 111, 116]], basePath := some [47, 115, 114, 118, 47, 114, 111, 111, 116, 47],
             filter := expandUserdirsFx (expanduser [([], [47, 115, 114, 118, 47, 114, 111, 111, 116, 47, 46, 46, 37, 50, 70, 101, 118, 105, 108])])
               [47, 115, 114, 118, 47, 114, 111, 111, 116, 47] } [] [46, 47, 126, 47, 102]
      = .ok [[115, 114, 118], [114, 111, 111, 116], [46, 46, 37, 50, 70, 101, 118, 105, 108], [102]] := by
  decide +kernel

/-- the jail accepts a URL iff no jail is installed or the URL is an allowed
base without its last character or has an allowed base as a prefix -/
theorem jail_rejects_outside (allowed : Option (List Bytes)) (url : Bytes) :
    jailAllows allowed url = true ↔
      allowed = none ∨ ∃ bases, allowed = some bases ∧ ∃ b ∈ bases, url = b.dropLast ∨ b <+: url := by
  cases allowed with
  | none => simp [jailAllows]
  | some bases =>
    simp only [jailAllows, List.any_eq_true, isChildUrl, Bool.or_eq_true, beq_iff_eq,
      List.isPrefixOf_iff_prefix, reduceCtorEq, Option.some.injEq, false_or, exists_eq_left']

/-- for an allowed base "p/" the accepted URLs are exactly p itself and the
URLs that extend p at a "/" boundary: a sibling such as "p2/…" is refused -/
theorem jail_segment_boundary (p url : Bytes) :
    jailAllows (some [p ++ [SL]]) url = true ↔ url = p ∨ ∃ rest, url = p ++ SL :: rest := by
  simp only [jailAllows, List.any_cons, List.any_nil, Bool.or_false]
  exact isChildUrl_iff p url


/-! ### from the URL the jail admits to the location that is opened

`_pre_open_hook` looks at `transport.base`.  For a transport built from a URL
(`get_transport_from_url(prefix ++ p)`, the only way a request can name a
location that is not a clone of its backing transport) `.base` has the dot
segments resolved while operations use the path as written (`urlBase`,
`urlBackingRel`, `urlLocate` in the model).  The link between "admitted" and
"inside" therefore needs the URL to be in normal form (`normalisedUrl`:
canonical escaping — no `%2F`, `%2E`, `%41`, `%%32E`, lower-case hex — and no
".." segment; "." and empty segments are harmless), and fails without it. -/

/-- the default jail root (the backing transport itself, `cloneBase [] = ""`)
admits every URL that has its prefix -/
theorem jail_default_allows_all (pfx x : Bytes) :
    jailAllows (some [pfx ++ cloneBase []]) (pfx ++ x) = true := by
  simp [jailAllows, isChildUrl, cloneBase]

/-- **default jail**: every operation with a normal-form relpath through a
transport built from a normal-form URL lands inside the served directory —
all URL paths, all relpaths, with or without a userdir filter (any filter that
maps canonical paths to mild ones, e.g. `_expand_userdirs` over mild homes) -/
theorem jail_url_inside_served (cfg : Cfg) (p rel : Bytes) (loc : List Seg)
    (hf : ∀ q, Canon q → Mild (cfg.filter q))
    (hp : normalisedUrl p = true) (hr : normalisedUrl rel = true)
    (h : urlLocate cfg p rel = .ok loc) : inside cfg.rootDir loc := by
  obtain ⟨hcb, hnd⟩ := rawJoin_normal hp hr
  obtain ⟨u, ho, rfl⟩ := urlLocate_ok h
  unfold urlBackingRel at ho
  cases hb : cfg.basePath with
  | none =>
    rw [hb] at ho
    rcases osRel_locate_nodotdot canonClass (root := cfg.rootDir) hcb hnd ho with e | ⟨_, e⟩
    · rw [e]; exact List.prefix_append _ _
    · rw [e]; exact List.prefix_append _ _
  | some b =>
    rw [hb] at ho
    simp only [] at ho
    exact osRel_inside mildClass (combine_good mildClass (stk := []) (by simp) (hf _ hcb)) ho

/-- `_expand_userdirs` leaves every path that does not start with "~" alone (so hypothesis `hid`
of `jail_allows_inside` holds for every URL path not starting with "~") -/
theorem userdir_untouched_without_tilde (expander : Bytes → Bytes) (base p : Bytes)
    (h : p.head? ≠ some TILDE) : expandUserdirs expander base p = p := by
  unfold expandUserdirs
  simp [h]

/-- **the jail**: let the jail root be the transport cloned at the segments `J`
(its `.base` is `pfx ++ cloneBase J`, its directory is the served directory
followed by the decoded segments).  If `_pre_open_hook` admits the `.base` of
the transport built from the URL `pfx ++ p`, and `p` is in normal form, then
every operation with a normal-form relpath through that transport lands
inside the jail root's directory.  For ALL prefixes, jail roots, URL paths and
relpaths.  `hid`: no userdir filter, or the filter leaves this path alone
(`_expand_userdirs` does for every path not starting with "~").  `hu`: the jail
segments contain no escapes, or the path decodes to valid UTF-8 (otherwise
`unescape` hands the path back undecoded, see `jail_invalid_utf8_sibling_witness`). -/
theorem jail_allows_inside (cfg : Cfg) (pfx : Bytes) (J : List Seg) (p rel : Bytes) (loc : List Seg)
    (hJ : ∀ s ∈ J, goodJailSeg s = true)
    (hp : normalisedUrl p = true) (hr : normalisedUrl rel = true)
    (hid : cfg.basePath = none ∨ cfg.filter (rawJoin p rel) = rawJoin p rel)
    (hu : (∀ s ∈ J, pctDecode s = s) ∨ validUtf8 (pctDecode (urlBackingRel cfg p rel)) = true)
    (ha : jailAllows (some [pfx ++ cloneBase J]) (pfx ++ urlBase p) = true)
    (h : urlLocate cfg p rel = .ok loc) :
    inside (cfg.rootDir ++ J.reverse.map pctDecode) loc := by
  obtain ⟨hcp, hnp⟩ := normalisedUrl_spec hp
  obtain ⟨hcb, hnd⟩ := rawJoin_normal hp hr
  have hJ' : ∀ s ∈ J, JailSeg s := fun s hs => jailSeg_of_good (hJ s hs)
  -- the jail base is a segment prefix of the kept segments of the URL path
  have hpre : J.reverse <+: segsK p := by
    have h1 : isChildUrl (pfx ++ cloneBase J) (pfx ++ urlBase p) = true := by
      simpa [jailAllows] using ha
    have h2 := jail_prefix_segs hJ' (isChildUrl_cloneBase h1)
    rwa [segsK_snoc_sl, segsK_urlBase canonClass hcp hnp] at h2
  -- what reaches the local transport: canonical, no "..", same kept segments
  have hbk : Canon (urlBackingRel cfg p rel) ∧ (∀ s ∈ splitSl (urlBackingRel cfg p rel), s ≠ dotdot)
      ∧ segsK (urlBackingRel cfg p rel) = segsK p ++ segsK rel := by
    unfold urlBackingRel
    cases hb : cfg.basePath with
    | none => exact ⟨hcb, hnd, segsK_rawJoin p rel⟩
    | some b =>
      simp only []
      have hx : cfg.filter (rawJoin p rel) = rawJoin p rel := by
        rcases hid with e | e
        · rw [hb] at e; cases e
        · exact e
      rw [hx]
      obtain ⟨e1, e2, e3⟩ := stkPath_combine_nodotdot canonClass hcb hnd
      exact ⟨e2, e3, by rw [e1, segsK_rawJoin]⟩
  obtain ⟨hm, hn, hk⟩ := hbk
  obtain ⟨u, ho, rfl⟩ := urlLocate_ok h
  unfold inside
  rcases osRel_locate_nodotdot canonClass (root := cfg.rootDir) hm hn ho with e | ⟨hv, e⟩
  · rw [e, hk, List.map_append]
    exact (List.prefix_append_right_inj _).mpr ((hpre.map pctDecode).trans (List.prefix_append _ _))
  · rw [e, hk]
    rcases hu with hd | hd
    · have : J.reverse.map pctDecode = J.reverse := by
        rw [List.map_congr_left (g := id) (fun s hs => hd s (List.mem_reverse.mp hs))]
        simp
      rw [this]
      exact (List.prefix_append_right_inj _).mpr (hpre.trans (List.prefix_append _ _))
    · rw [hd] at hv; cases hv

/-- non-vacuity of `jail_allows_inside`: served directory /srv/root, jail root
cloned at "a", URL path `a/x%20y/`, relpath `.bzr/branch-format`: admitted, and
resolved to /srv/root/a/x y/.bzr/branch-format -/
example :
    let cfg : Cfg := { rootDir := [[115, 114, 118], [114, 111, 111, 116]], basePath := none, filter := id }
    let pfx : Bytes := [99, 58, 47, 47, 47]
    let p : Bytes := [97, 47, 120, 37, 50, 48, 121, 47]
    let rel : Bytes := [46, 98, 122, 114, 47, 98, 114, 97, 110, 99, 104, 45, 102, 111, 114, 109, 97, 116]
    (∀ s ∈ [[97]], goodJailSeg s = true) ∧ normalisedUrl p = true ∧ normalisedUrl rel = true
      ∧ jailAllows (some [pfx ++ cloneBase [[97]]]) (pfx ++ urlBase p) = true
      ∧ urlLocate cfg p rel = .ok [[115, 114, 118], [114, 111, 111, 116], [97], [120, 32, 121], [46, 98, 122, 114],
          [98, 114, 97, 110, 99, 104, 45, 102, 111, 114, 109, 97, 116]] := by
  decide +kernel

/-- the same jail refuses the sibling URL `ab/` and the parent `../` is admitted only by
the default jail -/
example : jailAllows (some [[99, 58, 47, 47, 47] ++ cloneBase [[97]]]) ([99, 58, 47, 47, 47] ++ urlBase [97, 98, 47]) = false := by
  decide +kernel

/-- F45 family jail-url-encoded-slash-dotdot: the URL path `..%2F` (chroot only).
`.base` is `..%2F/` — admitted by the default jail — while the operation on `.bzr`
hands `..%2F/.bzr` to the local transport, which decodes it to `..//.bzr`:
the location is /srv/.bzr, outside the served directory /srv/root -/
theorem jail_unnormalised_encoded_slash_witness :
    let cfg : Cfg := { rootDir := [[115, 114, 118], [114, 111, 111, 116]], basePath := none, filter := id }
    let pfx : Bytes := [99, 58, 47, 47, 47]
    let p : Bytes := [46, 46, 37, 50, 70]
    normalisedUrl p = false
      ∧ jailAllows (some [pfx ++ cloneBase []]) (pfx ++ urlBase p) = true
      ∧ urlLocate cfg p [46, 98, 122, 114] = .ok [[115, 114, 118], [46, 98, 122, 114]]
      ∧ ¬ inside cfg.rootDir [[115, 114, 118], [46, 98, 122, 114]] := by
  decide +kernel

/-- F45 family jail-url-double-encoded-dotdot: the URL path `%%32E%%32E/` with a
userdir filter layer above the chroot: the chroot layer turns `%%32E%%32E/.bzr`
into `%2E%2E/.bzr`, the local transport decodes that to `../.bzr` -/
theorem jail_unnormalised_double_encoded_witness :
    let cfg : Cfg := { rootDir := [[115, 114, 118], [114, 111, 111, 116]], basePath := some [47], filter := id }
    let pfx : Bytes := [99, 58, 47, 47, 47]
    let p : Bytes := [37, 37, 51, 50, 69, 37, 37, 51, 50, 69, 47]
    normalisedUrl p = false
      ∧ jailAllows (some [pfx ++ cloneBase []]) (pfx ++ urlBase p) = true
      ∧ urlLocate cfg p [46, 98, 122, 114] = .ok [[115, 114, 118], [46, 98, 122, 114]]
      ∧ ¬ inside cfg.rootDir [[115, 114, 118], [46, 98, 122, 114]] := by
  decide +kernel

/-- F45 family jail-url-dotdot-unnormalised: the URL path `../` (chroot only):
`.base` is the root of the chroot, the operation uses `../.bzr` as written -/
theorem jail_unnormalised_dotdot_witness :
    let cfg : Cfg := { rootDir := [[115, 114, 118], [114, 111, 111, 116]], basePath := none, filter := id }
    let pfx : Bytes := [99, 58, 47, 47, 47]
    let p : Bytes := [46, 46, 47]
    normalisedUrl p = false
      ∧ urlBase p = []
      ∧ jailAllows (some [pfx ++ cloneBase []]) (pfx ++ urlBase p) = true
      ∧ urlLocate cfg p [46, 98, 122, 114] = .ok [[115, 114, 118], [46, 98, 122, 114]]
      ∧ ¬ inside cfg.rootDir [[115, 114, 118], [46, 98, 122, 114]] := by
  decide +kernel

/-- why `hu` is needed: jail root cloned at `a%20b` (directory "a b"), URL path
`a%20b/%FF/` in normal form and admitted; the decoded bytes are not UTF-8, so
`unescape` hands the path back undecoded and the location is the SIBLING
directory literally named `a%20b` — inside the served directory, outside the
jail root's directory -/
theorem jail_invalid_utf8_sibling_witness :
    let cfg : Cfg := { rootDir := [[115, 114, 118], [114, 111, 111, 116]], basePath := none, filter := id }
    let pfx : Bytes := [99, 58, 47, 47, 47]
    let J : List Seg := [[97, 37, 50, 48, 98]]
    let p : Bytes := [97, 37, 50, 48, 98, 47, 37, 70, 70, 47]
    (∀ s ∈ J, goodJailSeg s = true) ∧ normalisedUrl p = true
      ∧ jailAllows (some [pfx ++ cloneBase J]) (pfx ++ urlBase p) = true
      ∧ urlLocate cfg p [102] = .ok [[115, 114, 118], [114, 111, 111, 116], [97, 37, 50, 48, 98], [37, 70, 70], [102]]
      ∧ ¬ inside (cfg.rootDir ++ J.reverse.map pctDecode)
            [[115, 114, 118], [114, 111, 111, 116], [97, 37, 50, 48, 98], [37, 70, 70], [102]] := by
  decide +kernel

example : jailAllows (some [[114, 47]]) [114, 50, 47] = false := by decide +kernel
example : jailAllows (some [[114, 47]]) [114, 47, 120, 47] = true := by decide +kernel
example : jailAllows (some []) [114, 47] = false := by decide +kernel

/-! ## the jail while several connections are served concurrently

`jail_info` is a `threading.local` (`JailTL`: one slot per connection-handler thread).
Traces are arbitrary interleavings of `setup_jail` / `teardown_jail` / control-directory opens
of any number of threads. -/

/-- whatever other threads do (any number of setups / teardowns / opens, in any order), this
thread's jail is what it was -/
theorem jail_other_threads_never_change_mine (st : JailTL) (ops : List JOp) (t : Tid)
    (h : ∀ op ∈ ops, op.tid ≠ t) : (JailTL.final st ops) t = st t :=
  JailTL.final_other st ops t h

/-- NON-INTERFERENCE between connections: in every interleaved trace, the verdicts of the jail
on thread `t`'s opens are exactly the verdicts it gets when its own operations run alone -/
theorem jail_verdicts_are_per_connection (ops : List JOp) (t : Tid) :
    (runTL JailTL.init ops).filter (fun r => r.1 == t)
      = runTL JailTL.init (ops.filter (fun o => o.tid == t)) :=
  runTL_projection _ _ ops t rfl

/-- DURING A REQUEST the jail holds: after `setup_jail` on thread `t` with roots `roots`, and
before `t` itself tears it down or sets it up again (`mid`: anything by other threads, opens
by `t`), an open by `t` passes the hook iff `_pre_open_hook` admits it for `roots` — whatever
happened before (`pre`) and whatever else is going on. -/
theorem jail_holds_during_request (pre mid post : List JOp) (t : Tid) (roots : List Bytes) (url : Bytes)
    (hmid : ∀ op ∈ mid, op.tid ≠ t ∨ op.writes = false) :
    runTL JailTL.init (pre ++ .setup t roots :: (mid ++ .open_ t url :: post))
      = runTL JailTL.init (pre ++ .setup t roots :: mid)
        ++ (t, jailAllows (some roots) url)
        :: runTL (JailTL.final JailTL.init (pre ++ .setup t roots :: mid)) post := by
  have e : pre ++ JOp.setup t roots :: (mid ++ JOp.open_ t url :: post)
      = (pre ++ JOp.setup t roots :: mid) ++ (JOp.open_ t url :: post) := by simp
  rw [e, runTL_append]
  congr 1
  have hs : (JailTL.final JailTL.init (pre ++ JOp.setup t roots :: mid)) t = some roots := by
    rw [JailTL.final_append]
    simp only [JailTL.final]
    rw [JailTL.final_nowrite _ mid t hmid]
    simp [JailTL.step, JailTL.set]
  simp only [runTL, hs]

/-- SHARED-STATE VARIANT (a plain object instead of `threading.local`): connection 1's complete
request (`setup`, `teardown`) in the middle of connection 0's request leaves connection 0
unjailed — the URL outside the served directory passes the hook; with per-thread state it is
refused. -/
theorem jail_shared_state_witness :
    let root : Bytes := [99, 58, 47, 47, 47]                        -- "c:///"
    let outside : Bytes := [102, 105, 108, 101, 58, 47, 47, 47, 120, 47]  -- "file:///x/"
    let trace := [JOp.setup 0 [root], .setup 1 [root], .open_ 1 root, .teardown 1, .open_ 0 outside, .teardown 0]
    runShared none trace = [(1, true), (0, true)] ∧ runTL JailTL.init trace = [(1, true), (0, false)] := by
  decide +kernel

example : (∀ op ∈ [JOp.setup 1 [], .open_ 0 [1], .teardown 1], op.tid ≠ 0 ∨ op.writes = false) := by decide +kernel

end BreezyVerif.C31
