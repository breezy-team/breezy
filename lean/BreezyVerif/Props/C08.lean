import BreezyVerif.Lemmas.C08
import BreezyVerif.Lemmas.C08Seq
/-
C08 — theorems.  All repositories, fallbacks, histories and operations are
universally quantified (no bound on sizes).
-/
namespace BreezyVerif.C08

open BreezyVerif.C03

/-- `stackable` implies the invariant the code maintains by design -/
theorem stackable_weaken (s : Stacked) (h : stackable s = true) : stackableW s = true :=
  stackableW_iff.mpr fun k rec hm => (stackableRev_iff.mp (stackable_iff.mp h k rec hm)).1

theorem present_readable (s : Stacked) (hst : stackableW s = true) (hfb : complete s.fb = true)
    (hag : invsAgree s = true) (htopo : topo s.st = true) (p : Rev) :
    presentRev s p = true → readable (both s) p = true := by
  -- by induction on the revision number: a revision of the fallback is readable; the texts a
  -- local revision does not store are those of entries of a present parent, which is smaller
  induction p using Nat.strongRecOn with
  | _ n ih =>
    intro hpres
    rcases presentRev_iff.mp hpres with hl | hf
    · obtain ⟨rec, hk⟩ := (hasRev_iff ..).mp hl
      obtain ⟨inv, hinv, htexts⟩ := stackableW_rev hst hk
      refine readable_iff.mpr ⟨inv, by rw [both_invs_get, hinv], fun e he => ?_⟩
      rcases htexts e he with hpe | hc
      · obtain ⟨p, hp, hpres, ip, hip, hep⟩ := mem_parentEntries.mp hpe
        obtain ⟨ip', hip', hall⟩ :=
          readable_iff.mp (ih p (topo_iff.mp htopo n rec (get_mem hk) p hp) hpres)
        rw [both_invs_get, hip] at hip'
        cases hip'
        exact hall e hep
      · exact both_texts_isSome s e.key (Or.inl hc)
    · exact readable_of_fallback hfb hag hf

/-- the weak invariant is all that reading needs: every locally stored revision and
every present parent of it can be read through the stack and its fallback -/
theorem stackableW_readable (s : Stacked) (hst : stackableW s = true) (hfb : complete s.fb = true)
    (hag : invsAgree s = true) (htopo : topo s.st = true) (k : Rev) (rec : RevRec)
    (hk : get s.st.revs k = some rec) :
    readable (both s) k = true ∧ ∀ p ∈ rec.parents, presentRev s p = true → readable (both s) p = true :=
  ⟨present_readable s hst hfb hag htopo k (presentRev_iff.mpr (Or.inl ((hasRev_iff ..).mpr ⟨rec, hk⟩))),
    fun p _ => present_readable s hst hfb hag htopo p⟩

/-- `stackable` ⇒ every locally stored revision, and every parent of it that is a
revision of the stack or of the fallback, can be read (inventory and every file
text) from the stacked repository together with its fallback — so every
revision tree and every delta to a parent is computable.
Hypotheses: the fallback is complete by itself, both hold equal copies of
inventories they share, parents have smaller numbers (acyclic history). -/
theorem stackable_readable (s : Stacked) (hst : stackable s = true) (hfb : complete s.fb = true)
    (hag : invsAgree s = true) (htopo : topo s.st = true) (k : Rev) (rec : RevRec)
    (hk : get s.st.revs k = some rec) :
    readable (both s) k = true ∧ ∀ p ∈ rec.parents, presentRev s p = true → readable (both s) p = true :=
  stackableW_readable s (stackable_weaken s hst) hfb hag htopo k rec hk

/-- a commit to a stacked branch is refused exactly when some parent's inventory is
neither stored locally (after the new inventory was added) nor in the fallback -/
theorem commit_refused_iff (s : Stacked) (k : Rev) (rec : RevRec) (inv : Inv) (nt : List (TextKey × Nat)) :
    commitStacked s k rec inv nt = .error .cannotFillParentInventories ↔
      ∃ p ∈ rec.parents, get (s.st.invs ++ [(k, inv)]) p = none ∧ get s.fb.invs p = none := by
  unfold commitStacked
  simp only
  rcases fallbackParentInvs_spec
    ⟨⟨s.st.revs ++ [(k, rec)], s.st.invs ++ [(k, inv)], s.st.texts ++ nt⟩, s.fb⟩ rec.parents with
    ⟨hn, hp⟩ | ⟨fill, hf, _, hall⟩
  · rw [hn]
    exact iff_of_true rfl hp
  · rw [hf]
    refine iff_of_false (fun h => nomatch h) fun ⟨p, hp, h1, h2⟩ => ?_
    have := (hall p hp h1).1
    rw [h2] at this
    cases this

/-- a commit to a stacked branch keeps the invariant (when it is not refused):
`_ensure_fallback_inventories` supplies the parent inventories.  `k` is a fresh
revision id that is not its own parent; `commitCovers`: the commit writes the
text of every entry it introduces. -/
theorem commit_to_stacked_preserves (s s' : Stacked) (k : Rev) (rec : RevRec) (inv : Inv)
    (nt : List (TextKey × Nat)) (hst : stackable s = true)
    (hfresh : presentRev s k = false ∧ get s.st.invs k = none) (hself : k ∉ rec.parents)
    (hcov : commitCovers s rec inv nt = true)
    (h : commitStacked s k rec inv nt = .ok s') : stackable s' = true := by
  obtain ⟨_, hrevs, htexts, fill, hinvs, _, hfill⟩ := commitStacked_ok h
  have hg : Grows s s' := commit_grows h
  have hk_inv : get s'.st.invs k = some inv := by
    rw [hinvs]
    apply get_append_some
    rw [get_append_none hfresh.2, get_singleton, if_pos rfl]
  -- every parent's inventory is local afterwards, and it is the one read through the stack before
  have hparent : ∀ p ∈ rec.parents, (get s'.st.invs p).isSome = true ∧
      ∀ ip, get (both s).invs p = some ip → get s'.st.invs p = some ip := by
    intro p hp
    rw [both_invs_get]
    cases hl : get s.st.invs p with
    | some il => exact ⟨by rw [hg.invs hl]; rfl, fun ip hip => by cases hip; exact hg.invs hl⟩
    | none =>
      have h1 : get (s.st.invs ++ [(k, inv)]) p = none := by
        rw [get_append_none hl, get_singleton, if_neg fun e : k = p => hself (e ▸ hp)]
      obtain ⟨hs, hf⟩ := hfill p hp h1
      have : get s'.st.invs p = get s.fb.invs p := by rw [hinvs, get_append_none h1, hf]
      exact ⟨this ▸ hs, fun ip hip => this.trans hip⟩
  refine stackable_iff.mpr fun k' rec' hmem => ?_
  rw [hrevs] at hmem
  rcases List.mem_append.mp hmem with hold | hnew
  · refine stackableRev_mono hg (fun p _ hp' => ?_) (stackable_iff.mp hst k' rec' hold)
    refine ((commit_presentRev h).mp hp').imp_right fun hpk => ?_
    rw [hpk, hk_inv]
    rfl
  · cases List.mem_singleton.mp hnew
    refine stackableRev_iff.mpr ⟨stackableRevW_iff.mpr ⟨inv, hk_inv, fun e he => ?_⟩,
      fun p hp _ => (hparent p hp).1⟩
    have := List.all_eq_true.mp hcov e he
    simp only [Bool.or_eq_true, decide_eq_true_eq] at this
    refine this.imp (fun h1 => ?_) fun h1 => htexts ▸ h1
    obtain ⟨p, hp, hep⟩ := List.mem_flatMap.mp h1
    obtain ⟨hp1, hp2⟩ := List.mem_filter.mp hp
    obtain ⟨ip, hip, heip⟩ := mem_invOrEmpty hep
    exact mem_parentEntries.mpr ⟨p, hp1, hg.present hp2, ip, (hparent p hp1).2 ip hip, heip⟩

/-- fetch / push into a stacked repository keeps the weak invariant WITHOUT any
assumption about which parent inventories the source can supply (`srcSupplies`
dropped): an entry the stream's filter drops is shared with a parent whose
inventory the source holds, and that inventory is either already local, sent, or
filled in by `get_missing_parent_inventories`. -/
theorem fetch_into_stacked_preservesW (x : Exclusion) (fg : Bool) (src : Repo) (s s' : Stacked) (rev : Rev)
    (hst : stackableW s = true) (hc : fg = true ∨ closed (both s) src = true)
    (hag : agreeOn src.invs s.st.invs = true)
    (hloc : exclusionLocal x src (missing fg src (both s) rev) = true)
    (h : fetchStacked x fg src s rev = .ok s') : stackableW s' = true := by
  refine stackableW_iff.mpr fun k rec hmem => ?_
  rcases mem_fetch_revs h hmem with hold | ⟨hm, hsr⟩
  · exact stackableRevW_mono (fetch_grows h) (stackableW_iff.mp hst k rec hold)
  · exact fetch_sent_stackableRevW h hst hc hag hloc hm hsr

/-- fetch / push into a stacked repository keeps the invariant.  Hypotheses: the stack
(with its fallback) is ancestry-closed w.r.t. the source or ghosts are asked for; the
source and the local store hold equal copies of inventories they share; the source can
supply the inventory of every parent of a sent revision that is a revision of the stack
or its fallback (`srcSuppliesM`, implied by `srcSupplies`); `exclusionLocal`. -/
theorem fetch_into_stacked_preserves (x : Exclusion) (fg : Bool) (src : Repo) (s s' : Stacked) (rev : Rev)
    (hst : stackable s = true) (hc : fg = true ∨ closed (both s) src = true)
    (hag : agreeOn src.invs s.st.invs = true)
    (hsup : srcSuppliesM src s (missing fg src (both s) rev) = true)
    (hloc : exclusionLocal x src (missing fg src (both s) rev) = true)
    (h : fetchStacked x fg src s rev = .ok s') : stackable s' = true := by
  have hstW := stackable_weaken s hst
  have hW := fetch_into_stacked_preservesW x fg src s s' rev hstW hc hag hloc h
  refine stackable_iff.mpr fun k rec hmem => ?_
  -- beyond the weak invariant: a present parent was sent (its inventory came with it), or it
  -- was present before: its inventory was local, or the source supplies it (`srcSuppliesM`)
  refine stackableRev_iff.mpr ⟨stackableW_iff.mp hW k rec hmem, fun p hp hpp => ?_⟩
  rcases (fetch_presentRev h).mp hpp with hps | hpM
  · rcases mem_fetch_revs h hmem with hold | ⟨hm, hsr⟩
    · obtain ⟨ip, hip⟩ := Option.isSome_iff_exists.mp
        ((stackableRev_iff.mp (stackable_iff.mp hst k rec hold)).2 p hp hps)
      rw [(fetch_grows h).invs hip]
      rfl
    · have hpk := mem_parentsL_graph.mpr ⟨rec, hsr, hp⟩
      obtain ⟨ip, hip⟩ := srcSuppliesM_parent hsup hm hpk hps
      rw [fetch_parent_inv h hstW hag hm hpk hip]
      rfl
  · obtain ⟨i, _, hil⟩ := fetch_sent_inv h hag hpM
    rw [hil]
    rfl

/-- `srcSupplies` (the source knows every revision of the stack and the fallback) implies
the hypothesis the theorem needs -/
theorem srcSupplies_imp (src : Repo) (s : Stacked) (m : List Rev) (h : srcSupplies src s = true) :
    srcSuppliesM src s m = true := by
  unfold srcSuppliesM
  rw [List.all_eq_true]
  intro k _
  rw [List.all_eq_true]
  intro p _
  cases hpp : presentRev s p with
  | false => rfl
  | true =>
    obtain ⟨v, hv⟩ : ∃ v, (p, v) ∈ s.st.revs ++ s.fb.revs := by
      rcases presentRev_iff.mp hpp with hl | hl
      · obtain ⟨v, hv⟩ := (hasRev_iff ..).mp hl
        exact ⟨v, List.mem_append_left _ (get_mem hv)⟩
      · obtain ⟨v, hv⟩ := (hasRev_iff ..).mp hl
        exact ⟨v, List.mem_append_right _ (get_mem hv)⟩
    exact List.all_eq_true.mp h (p, v) hv

/-- a repack changes no lookup … -/
theorem pack_preserves_lookups (s : Stacked) :
    (∀ k, get (pack s).st.revs k = get s.st.revs k) ∧ (∀ k, get (pack s).st.invs k = get s.st.invs k) ∧
    (∀ k, get (pack s).st.texts k = get s.st.texts k) ∧ (pack s).fb = s.fb :=
  ⟨fun k => get_dedupKeys _ k, fun k => get_dedupKeys _ k, fun k => get_dedupKeys _ k, rfl⟩

/-- … and therefore keeps the stacking invariant (pack / autopack of a stacked
repository: the inventories without a local revision survive) -/
theorem pack_preserves_stackable (s : Stacked) (hst : stackable s = true) : stackable (pack s) = true := by
  refine stackable_iff.mpr fun k rec hmem => ?_
  exact stackableRev_mono (pack_grows s) (fun p _ h => Or.inl ((pack_presentRev s p).symm.trans h))
    (stackable_iff.mp hst k rec (mem_dedupKeys hmem))

/-- the repack does not look at the fallback at all: whatever the fallback holds (for
instance after the branch has been landed on the trunk it is stacked on), the packed
local store is the same, and every lookup is preserved -/
theorem pack_independent_of_fallback (st fb fb' : Repo) :
    (pack ⟨st, fb⟩).st = (pack ⟨st, fb'⟩).st ∧
    (∀ k, get (pack ⟨st, fb'⟩).st.revs k = get st.revs k) ∧
    (∀ k, get (pack ⟨st, fb'⟩).st.invs k = get st.invs k) ∧
    (∀ k, get (pack ⟨st, fb'⟩).st.texts k = get st.texts k) :=
  ⟨rfl, (pack_preserves_lookups ⟨st, fb'⟩).1, (pack_preserves_lookups ⟨st, fb'⟩).2.1,
    (pack_preserves_lookups ⟨st, fb'⟩).2.2.1⟩

/-- the invariant depends on the fallback only through which revisions count as present:
a change of the fallback that makes no further revision present (landing the stacked
branch's own revisions on the trunk) keeps it -/
theorem stackable_fallback_change (s : Stacked) (fb' : Repo)
    (h : ∀ p, presentRev ⟨s.st, fb'⟩ p = presentRev s p) : stackable ⟨s.st, fb'⟩ = stackable s := by
  have hf : presentRev ⟨s.st, fb'⟩ = presentRev s := funext h
  unfold stackable stackableRev parentEntries
  simp only [hf]

/-- `_check_new_inventories` accepts every write group that leaves the weak invariant in
place: by induction on the revision number, an entry without a local text is inherited
from a parent that is not new (a parent-only inventory holds it) or from a smaller new
revision -/
theorem check_accepts_stackableW (s : Stacked) (new : List Rev) (hst : stackableW s = true)
    (htopo : topo s.st = true) (hnew : new.all (hasRev s.st) = true) : checkNew s.st new = true := by
  have main : ∀ k, k ∈ new → ∀ rec, get s.st.revs k = some rec →
      ∃ inv, get s.st.invs k = some inv ∧
        ∀ e ∈ inv, e ∈ parentOnlyEntries s.st new ∨ (get s.st.texts e.key).isSome = true := by
    intro k
    induction k using Nat.strongRecOn with
    | _ k ih =>
      intro hknew rec hk
      obtain ⟨inv, hinv, htexts⟩ := stackableW_rev hst hk
      refine ⟨inv, hinv, fun e he => (htexts e he).elim (fun hpe => ?_) Or.inr⟩
      obtain ⟨p, hp, _, ip, hip, hep⟩ := mem_parentEntries.mp hpe
      by_cases hpn : p ∈ new
      · obtain ⟨prec, hprec⟩ := (hasRev_iff ..).mp (List.all_eq_true.mp hnew p hpn)
        obtain ⟨ip', hip', hall⟩ := ih p (topo_iff.mp htopo k rec (get_mem hk) p hp) hpn prec hprec
        rw [hip] at hip'
        cases hip'
        exact hall e hep
      · -- `parentOnlyEntries st new` is `C03.excluded .asFound st new`: the inventories of the boundary parents
        refine Or.inl (List.mem_flatMap.mpr ⟨p, mem_boundary.mpr ⟨⟨k, hknew, rec, hk, hp⟩, hpn⟩, ?_⟩)
        rw [invOrEmpty_of_get hip]
        exact hep
  refine checkNew_iff.mpr fun k hk => ?_
  obtain ⟨rec, hrec⟩ := (hasRev_iff ..).mp (List.all_eq_true.mp hnew k hk)
  exact main k hk rec hrec

/-- the refusal is sound: a write group that leaves the repository `stackable` is
never refused by `_check_new_inventories` (any number of new revisions, which
may be each other's parents) -/
theorem check_accepts_stackable (s : Stacked) (new : List Rev) (hst : stackable s = true)
    (htopo : topo s.st = true) (hnew : new.all (hasRev s.st) = true) : checkNew s.st new = true :=
  check_accepts_stackableW s new (stackable_weaken s hst) htopo hnew

/-- for the one revision a write group adds (a commit), once the inventories of its
present parents are stored locally, the refusal accepts the write group exactly
when the revision satisfies the stacking invariant -/
theorem refusal_iff_stackable (s : Stacked) (k : Rev) (rec : RevRec)
    (hk : get s.st.revs k = some rec) (hself : k ∉ rec.parents) (horph : invsHaveRevs s = true)
    (hfilled : rec.parents.all (fun p => !presentRev s p || (get s.st.invs p).isSome) = true) :
    checkNew s.st [k] = true ↔ stackableRev s k rec = true := by
  have hent : ∀ e, e ∈ parentOnlyEntries s.st [k] ↔ e ∈ parentEntries s rec := by
    intro e
    unfold parentOnlyEntries parentEntries
    simp only [List.flatMap_cons, List.flatMap_nil, List.append_nil, List.mem_flatMap, List.mem_filter,
      List.mem_singleton, Bool.not_eq_true', decide_eq_false_iff_not]
    constructor
    · rintro ⟨p, ⟨hp, _⟩, hep⟩
      obtain ⟨rec', hrec', hpr⟩ := mem_parentsL_graph.mp hp
      rw [hk] at hrec'; cases hrec'
      obtain ⟨ip, hip, _⟩ := mem_invOrEmpty hep
      exact ⟨p, ⟨hpr, invsHaveRevs_iff.mp horph p ip (get_mem hip)⟩, hep⟩
    · rintro ⟨p, ⟨hp, _⟩, hep⟩
      exact ⟨p, ⟨mem_parentsL_graph.mpr ⟨rec, hk, hp⟩, fun h => hself (h ▸ hp)⟩, hep⟩
  have hfilled' : ∀ p ∈ rec.parents, presentRev s p = true → (get s.st.invs p).isSome = true := by
    intro p hp hpp
    simpa [hpp] using List.all_eq_true.mp hfilled p hp
  rw [checkNew_iff, stackableRev_iff, stackableRevW_iff]
  simp only [List.mem_singleton, forall_eq, hent]
  exact ⟨fun h => ⟨h, hfilled'⟩, fun h => h.1⟩

/-! ### any history: sequences of operations

`good` = `stackable ∧ topo ∧ invsAgree ∧ invsHaveRevs` is an invariant of every
sequence of fetches / pushes (from any sources), commits and packs in which every
operation satisfies its precondition (`stepOk`: `fetchOk` / `commitOk`, decidable,
evaluated by the driver for every real case) in the state it is applied to.  The
fallback is any repository without orphan inventories; it never changes. -/

/-- one operation keeps the whole invariant and leaves the fallback alone -/
theorem step_preserves_good (s : Stacked) (o : Op) (hno : noOrphanInv s.fb = true)
    (hg : good s = true) (hok : stepOk s o = true) :
    good (step s o) = true ∧ (step s o).fb = s.fb := by
  obtain ⟨hst, htopo, hag, hhr⟩ := good_iff.mp hg
  cases o with
  | fetch x fg src rev =>
    simp only [stepOk, fetchOk, Bool.and_eq_true, Bool.or_eq_true] at hok
    obtain ⟨⟨⟨⟨⟨⟨hc, hagS⟩, hagF⟩, hsup⟩, hloc⟩, htS⟩, hnoS⟩ := hok
    simp only [step]
    cases h : fetchStacked x fg src s rev with
    | error e => exact ⟨hg, rfl⟩
    | ok s' =>
      exact ⟨good_iff.mpr ⟨fetch_into_stacked_preserves x fg src s s' rev hst hc hagS hsup hloc h,
        fetch_preserves_topo h htopo htS, fetch_preserves_invsAgree h hag hagF,
        fetch_preserves_invsHaveRevs h hhr hc hnoS⟩, (fetchStacked_ok h).2⟩
  | commit k rec inv nt =>
    simp only [stepOk, commitOk, Bool.and_eq_true, Bool.not_eq_true', Option.isNone_iff_eq_none] at hok
    obtain ⟨⟨⟨⟨hfr, hfi⟩, hff⟩, hlt⟩, hcov⟩ := hok
    simp only [step]
    cases h : commitStacked s k rec inv nt with
    | error e => exact ⟨hg, rfl⟩
    | ok s' =>
      have hself : k ∉ rec.parents := fun hk =>
        Nat.lt_irrefl k (of_decide_eq_true (List.all_eq_true.mp hlt k hk))
      exact ⟨good_iff.mpr ⟨commit_to_stacked_preserves s s' k rec inv nt hst ⟨hfr, hfi⟩ hself hcov h,
        commit_preserves_topo h htopo hlt, commit_preserves_invsAgree h hag hff,
        commit_preserves_invsHaveRevs h hhr hno⟩, (commitStacked_ok h).1⟩
  | pack =>
    exact ⟨good_iff.mpr ⟨pack_preserves_stackable s hst, pack_preserves_topo s htopo,
      pack_preserves_invsAgree s hag, pack_preserves_invsHaveRevs s hhr⟩, rfl⟩

/-- **any history**: every sequence of fetches, pushes, commits and packs whose
operations satisfy their preconditions keeps the invariant (induction over the
sequence; no bound on its length, the sources may differ from step to step) -/
theorem run_preserves_good : ∀ (ops : List Op) (s : Stacked), noOrphanInv s.fb = true →
    good s = true → runOk s ops = true → good (run s ops) = true ∧ (run s ops).fb = s.fb
  | [], s, _, hg, _ => ⟨hg, rfl⟩
  | o :: os, s, hno, hg, hok => by
    simp only [runOk, Bool.and_eq_true] at hok
    obtain ⟨h1, h2⟩ := step_preserves_good s o hno hg hok.1
    obtain ⟨h3, h4⟩ := run_preserves_good os (step s o) (by rw [h2]; exact hno) h1 hok.2
    exact ⟨h3, by show (run (step s o) os).fb = s.fb; rw [h4, h2]⟩

/-- a freshly created stacked repository satisfies the invariant, whatever its fallback -/
theorem empty_good (fb : Repo) : good (emptyOn fb) = true := by
  simp [good, emptyOn, emptyRepo, stackable, topo, invsAgree, agreeOn, invsHaveRevs]

/-- **the property for any history**: starting from an empty repository stacked on a
complete fallback, after ANY sequence of fetches, pushes, commits and packs (each
satisfying its precondition when applied) every locally stored revision, and every
present parent of it, can be read — inventory and every file text — through the
stacked repository together with its fallback, and the invariant `stackable`
(parent inventories and differing texts stored locally) holds. -/
theorem reachable_readable (fb : Repo) (ops : List Op) (hfb : complete fb = true)
    (hno : noOrphanInv fb = true) (hok : runOk (emptyOn fb) ops = true) (k : Rev) (rec : RevRec)
    (hk : get (run (emptyOn fb) ops).st.revs k = some rec) :
    stackable (run (emptyOn fb) ops) = true ∧ readable (both (run (emptyOn fb) ops)) k = true ∧
      ∀ p ∈ rec.parents, presentRev (run (emptyOn fb) ops) p = true →
        readable (both (run (emptyOn fb) ops)) p = true := by
  obtain ⟨hg, hfb'⟩ := run_preserves_good ops (emptyOn fb) hno (empty_good fb) hok
  obtain ⟨hst, htopo, hag, _⟩ := good_iff.mp hg
  exact ⟨hst, stackable_readable _ hst (hfb'.symm ▸ hfb) hag htopo k rec hk⟩

/-- **push never leaves the tip unreconstructable**: after a successful fetch / push
of `rev` (a revision of the source) into a stacked repository satisfying the
invariant, `rev` is a revision of the stack or its fallback and its tree can be read
through them. -/
theorem push_tip_readable (x : Exclusion) (fg : Bool) (src : Repo) (s s' : Stacked) (rev : Rev)
    (hfb : complete s.fb = true) (hno : noOrphanInv s.fb = true) (hg : good s = true)
    (hok : fetchOk x fg src s rev = true) (hrev : hasRev src rev = true)
    (h : fetchStacked x fg src s rev = .ok s') :
    presentRev s' rev = true ∧ readable (both s') rev = true := by
  have hstep : step s (.fetch x fg src rev) = s' := by simp only [step, h]
  obtain ⟨hg', hfb'⟩ := step_preserves_good s (.fetch x fg src rev) hno hg hok
  rw [hstep] at hg' hfb'
  obtain ⟨hst, htopo, hag, _⟩ := good_iff.mp hg'
  have hc : complete s'.fb = true := hfb'.symm ▸ hfb
  simp only [fetchOk, Bool.and_eq_true, Bool.or_eq_true] at hok
  have hpres : presentRev s' rev = true := fetch_anc_present h hok.1.1.1.1.1.1 (rev_mem_anc hrev)
  exact ⟨hpres, present_readable s' (stackable_weaken s' hst) hc hag htopo rev hpres⟩

/-- a source in which revision 1 — a revision of the fallback — is a ghost: it holds only
revision 2 (parent 1), which rewrites file 1 -/
def gSrc : Repo :=
  { revs := [(2, ⟨[1], 20⟩)], invs := [(2, [⟨1, 1, 2, 200⟩])], texts := [((1, 2), 200)] }

def gStack : Stacked :=
  emptyOn { revs := [(1, ⟨[], 10⟩)], invs := [(1, [⟨1, 1, 1, 100⟩])], texts := [((1, 1), 100)] }

/-- `srcSuppliesM` cannot be dropped from `fetch_into_stacked_preserves`: a fetch from a
source that does not hold a parent the fallback holds succeeds (the real sink accepts
it too — `get_missing_parent_inventories(check_for_missing_texts=True)` only insists
on parent inventories when texts are missing; reproduced by the harness), every other
hypothesis holds, the weak invariant holds and the new revision can be read, but the
inventory of the present parent is NOT stored locally: `stackable` is false. -/
theorem srcSupplies_needed_witness :
    (match fetchStacked .revisionPresent false gSrc gStack 2 with
      | .ok s' => !stackable s' && stackableW s' && readable (both s') 2 && hasRev s'.st 2
      | .error _ => false) = true ∧
    stackable gStack = true ∧ closed (both gStack) gSrc = true ∧ agreeOn gSrc.invs gStack.st.invs = true ∧
    exclusionLocal .revisionPresent gSrc (missing false gSrc (both gStack) 2) = true ∧
    srcSuppliesM gSrc gStack (missing false gSrc (both gStack) 2) = false := by decide +kernel

/-- two branches in the fallback: 1 ← 2 (2 rewrites file 1) and 1 ← 3 (3 adds file 2);
the write group adds 5 (parent 3) and 6 (parents 2 and the ghost 4) whose inventory
still carries file 1 as revision 1 left it; the inventories of 3 and 2 are filled in -/
def mStack : Stacked :=
  { st := { revs := [(5, ⟨[3], 50⟩), (6, ⟨[2, 4], 60⟩)],
            invs := [(5, [⟨1, 1, 1, 100⟩, ⟨2, 2, 5, 500⟩]), (6, [⟨1, 1, 1, 100⟩]),
                     (3, [⟨1, 1, 1, 100⟩, ⟨2, 2, 3, 300⟩]), (2, [⟨1, 1, 2, 200⟩])],
            texts := [((2, 5), 500)] }
    fb := { revs := [(1, ⟨[], 10⟩), (2, ⟨[1], 20⟩), (3, ⟨[1], 30⟩)],
            invs := [(1, [⟨1, 1, 1, 100⟩]), (2, [⟨1, 1, 2, 200⟩]), (3, [⟨1, 1, 1, 100⟩, ⟨2, 2, 3, 300⟩])],
            texts := [((1, 1), 100), ((1, 2), 200), ((2, 3), 300)] } }

/-- the multi-revision converse of `refusal_iff_stackable` is FALSE: one set of
parent-only inventories is computed for the whole write group, so revision 6's entry
for file 1 is excused by the inventory of 3 — a parent of revision 5, not of 6.
`_check_new_inventories` accepts, every present parent's inventory is stored locally
(`hfilled` of `refusal_iff_stackable` holds for both revisions), yet revision 6
violates the stacking invariant (the text (1, 1) is not stored locally); the tree of
6 can still be read through the fallback. -/
theorem refusal_multi_witness :
    checkNew mStack.st [5, 6] = true ∧ stackable mStack = false ∧ stackableW mStack = false ∧
    invsHaveRevs mStack = true ∧ topo mStack.st = true ∧
    mStack.st.revs.all (fun kv => kv.2.parents.all fun p =>
      !presentRev mStack p || (get mStack.st.invs p).isSome) = true ∧
    stackableRev mStack 5 ⟨[3], 50⟩ = true ∧ stackableRev mStack 6 ⟨[2, 4], 60⟩ = false ∧
    readable (both mStack) 6 = true := by decide +kernel

/-- the stack used by the witness: revision 2 (parent 1) stored locally with its text, revision 1 in
the fallback, but the inventory of 1 NOT stored locally -/
def wStack : Stacked :=
  { st := { revs := [(2, ⟨[1], 20⟩)], invs := [(2, [⟨1, 1, 1, 100⟩, ⟨2, 2, 2, 200⟩])],
            texts := [((2, 2), 200), ((1, 1), 100)] }
    fb := { revs := [(1, ⟨[], 10⟩)], invs := [(1, [⟨1, 1, 1, 100⟩])], texts := [((1, 1), 100)] } }

/-- `_check_new_inventories` alone does not enforce the whole invariant: it accepts a
write group whose revision lacks the inventory of a parent that lives in the
fallback.  That half is enforced before, by `get_missing_parent_inventories`
(fetch) and `_ensure_fallback_inventories` (commit) — which is why the
correspondence check sabotages those too. -/
theorem refusal_alone_witness :
    checkNew wStack.st [2] = true ∧ stackable wStack = false ∧ invsHaveRevs wStack = true := by
  decide +kernel

/-- fallback 1 ← 2; stacked: 3 (parent 2) changes file 1, keeps file 2 -/
def eStack : Stacked :=
  { st := { revs := [(3, ⟨[2], 30⟩)],
            invs := [(3, [⟨1, 1, 3, 300⟩, ⟨2, 2, 1, 110⟩]), (2, [⟨1, 1, 2, 200⟩, ⟨2, 2, 1, 110⟩])],
            texts := [((1, 3), 300)] }
    fb := { revs := [(1, ⟨[], 10⟩), (2, ⟨[1], 20⟩)],
            invs := [(1, [⟨1, 1, 1, 100⟩, ⟨2, 2, 1, 110⟩]), (2, [⟨1, 1, 2, 200⟩, ⟨2, 2, 1, 110⟩])],
            texts := [((1, 1), 100), ((2, 1), 110), ((1, 2), 200)] } }

example : stackable eStack = true ∧ complete eStack.fb = true ∧ invsAgree eStack = true ∧ topo eStack.st = true ∧
    invsHaveRevs eStack = true ∧ readable (both eStack) 3 = true ∧ readable eStack.st 3 = false ∧
    checkNew eStack.st [3] = true ∧ [3].all (hasRev eStack.st) = true := by decide +kernel

/-- eStack after its revision 3 has been landed on the fallback -/
def lStack : Stacked :=
  land eStack [(3, ⟨[2], 30⟩)] [(3, [⟨1, 1, 3, 300⟩, ⟨2, 2, 1, 110⟩])] [((1, 3), 300)]

/-- a repack that leaves out the texts the fallback also holds breaks the invariant once
the branch has been landed: before the landing it changes nothing, after it revision 3
loses the text it introduces — the stack is no longer `stackable` (nor `stackableW`),
although everything can still be read through the fallback. -/
theorem pack_minus_fallback_witness :
    stackable eStack = true ∧ stackable (packMinusFallback eStack) = true ∧
    stackable lStack = true ∧ stackable (pack lStack) = true ∧
    stackable (packMinusFallback lStack) = false ∧ stackableW (packMinusFallback lStack) = false ∧
    get (packMinusFallback lStack).st.texts (1, 3) = none ∧ get lStack.st.texts (1, 3) = some 300 ∧
    readable (both (packMinusFallback lStack)) 3 = true := by decide +kernel

/-- a commit of 4 on top of 3 that merges fallback revision 1 -/
example : commitCovers eStack ⟨[3, 1], 40⟩ [⟨1, 1, 4, 400⟩, ⟨2, 2, 1, 110⟩] [((1, 4), 400)] = true ∧
    presentRev eStack 4 = false ∧
    (match commitStacked eStack 4 ⟨[3, 1], 40⟩ [⟨1, 1, 4, 400⟩, ⟨2, 2, 1, 110⟩] [((1, 4), 400)] with
      | .ok s' => stackable s' && (get s'.st.invs 1).isSome
      | .error _ => false) = true := by decide +kernel

/-- a source holding the whole history 1 ← 2 ← 3 ← 5 (5 also merges 4 = a ghost) -/
def eSrc : Repo :=
  { revs := [(1, ⟨[], 10⟩), (2, ⟨[1], 20⟩), (3, ⟨[2], 30⟩), (5, ⟨[3, 4], 50⟩)]
    invs := [(1, [⟨1, 1, 1, 100⟩, ⟨2, 2, 1, 110⟩]), (2, [⟨1, 1, 2, 200⟩, ⟨2, 2, 1, 110⟩]),
             (3, [⟨1, 1, 3, 300⟩, ⟨2, 2, 1, 110⟩]), (5, [⟨1, 1, 3, 300⟩, ⟨2, 2, 5, 510⟩])]
    texts := [((1, 1), 100), ((2, 1), 110), ((1, 2), 200), ((1, 3), 300), ((2, 5), 510)] }

/-- a stack that holds nothing yet, on the fallback 1 ← 2 -/
def eEmpty : Stacked := { eStack with st := ⟨[], [], []⟩ }

example : stackable eEmpty = true ∧ closed (both eEmpty) eSrc = true ∧ agreeOn eSrc.invs eEmpty.st.invs = true ∧
    srcSuppliesM eSrc eEmpty (missing false eSrc (both eEmpty) 5) = true ∧ exclusionLocal .revisionPresent eSrc (missing false eSrc (both eEmpty) 5) = true ∧
    missing false eSrc (both eEmpty) 5 = [5, 3] ∧
    (match fetchStacked .revisionPresent false eSrc eEmpty 5 with
      | .ok s' => stackable s' && (get s'.st.invs 2).isSome && (get s'.st.texts (2, 1)).isNone &&
                  readable (both s') 3 && !readable s'.st 3
      | .error _ => false) = true := by decide +kernel

/-- … and one that names a parent nobody has is refused -/
example : (match commitStacked eStack 4 ⟨[3, 9], 40⟩ [] [] with
      | .ok _ => false
      | .error _ => true) = true := by decide +kernel

/-- `run_preserves_good` / `reachable_readable`: a fetch of 5 (merging the ghost 4) into the empty
stack, a commit of 6 merging fallback revision 1, and a pack — every precondition holds -/
def eOps : List Op :=
  [.fetch .revisionPresent false eSrc 5,
   .commit 6 ⟨[5, 1], 60⟩ [⟨1, 1, 6, 600⟩, ⟨2, 2, 5, 510⟩] [((1, 6), 600)],
   .pack]

example : complete eStack.fb = true ∧ noOrphanInv eStack.fb = true ∧ runOk (emptyOn eStack.fb) eOps = true ∧
    ((run (emptyOn eStack.fb) eOps).st.revs.map (·.1)) = [5, 3, 6] ∧
    ((run (emptyOn eStack.fb) eOps).st.invs.map (·.1)) = [5, 3, 2, 6, 1] ∧
    readable (both (run (emptyOn eStack.fb) eOps)) 6 = true ∧
    readable (run (emptyOn eStack.fb) eOps).st 3 = false := by decide +kernel

/-- `push_tip_readable` -/
example : good eEmpty = true ∧ fetchOk .revisionPresent false eSrc eEmpty 5 = true ∧ hasRev eSrc 5 = true := by
  decide +kernel

end BreezyVerif.C08
