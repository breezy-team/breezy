import BreezyVerif.Lemmas.C20Select
/-!
C20 — theorems.  Conflict lists of any length over the ten conflict classes,
attribute values arbitrary texts (any characters, including newlines, tabs,
`": "`, NUL, non-ASCII), optional attributes present or absent; selections by
arbitrary path lists against an arbitrary path→id map; nothing is bounded.

The only excluded inputs are values with a line ending in CR (`crSafe`,
decidable): for those the property FAILS on the real code — see
`conflicts_roundtrip_witness` — hence the `_partial` names.
-/
namespace BreezyVerif.C20

/-- rio text layer: whatever `_put_rio` writes for stanzas with valid tags and
CR-safe values, the reader returns exactly (any number of stanzas, values with
any number of lines) -/
theorem stanza_text_roundtrip_partial (header : Str) (ss : List Stanza) (h : ∀ s ∈ ss, StanzaOk s) :
    getRio header (some (putRio header ss)) = .ok ss := by
  unfold getRio putRio
  simp only [afterHeader_unlines]
  exact readStanzas_body ss h

theorem getConflicts_putRio (ss : List Stanza) (h : ∀ s ∈ ss, StanzaOk s) :
    getConflicts (some (putRio conflictHeader ss)) = ss.mapM fromStanza := by
  -- `rw`, not `unfold`: the latter makes the kernel evaluate the header test on the header's characters
  rw [getConflicts, stanza_text_roundtrip_partial _ _ h]

/-- `Conflict.factory(**c.as_stanza().as_dict())` rebuilds every well-formed conflict
(all ten classes, all combinations of optional attributes) -/
theorem from_as_stanza (c : Conflict) (h : c.wf = true) :
    ∃ s, asStanza c = some s ∧ fromStanza s = .ok c :=
  ⟨c.stanza, asStanza_of_wf c h, fromStanza_stanza c h⟩

/-- `set_conflicts(cs)`, re-open, `conflicts()` returns `cs`: same length, order,
classes and attributes -/
theorem conflicts_roundtrip_partial (cs : List Conflict) (h : ∀ c ∈ cs, c.wf = true ∧ c.crSafe) :
    ∃ file, setConflicts cs = some file ∧ getConflicts (some file) = .ok cs := by
  refine ⟨putRio conflictHeader (cs.map Conflict.stanza), ?_, ?_⟩
  · simp [setConflicts, mapM_asStanza cs fun c hc => (h c hc).1]
  · rw [getConflicts_putRio _ (by simpa using fun c hc => stanza_ok c (h c hc).2)]
    exact mapM_ok fromStanza Conflict.stanza cs fun c hc => fromStanza_stanza c (h c hc).1

/-- the excluded family is a real failure of the modelled code: the text
conflict on path `"a\r"` is stored and read back as a conflict on path `"a"` -/
theorem conflicts_roundtrip_witness :
    ∃ c c' : Conflict, c.wf = true ∧ c ≠ c' ∧
      ∃ file, setConflicts [c] = some file ∧ getConflicts (some file) = .ok [c'] :=
  ⟨⟨.text, ['a', '\r'], some ['i'], none, none, none⟩, ⟨.text, ['a'], some ['i'], none, none, none⟩,
    by decide, by decide, _, rfl, ok_of_toOption (by decide +kernel)⟩

/-- the file ids, in the tree, of the given paths -/
def treeIds (tree : List (Str × Str)) (paths : List Str) : List Str :=
  paths.filterMap fun p => (tree.find? fun e => e.1 == p).map (·.2)

theorem selectConflicts_eq (tree : List (Str × Str)) (paths : List Str) (recurse : Bool) (cs : List Conflict) :
    selectConflicts tree paths recurse cs
      = (cs.filter (fun c => !isSelected paths (treeIds tree paths) recurse c),
         cs.filter (fun c => isSelected paths (treeIds tree paths) recurse c)) := by
  simp only [selectConflicts, treeIds, selectLoop_eq, List.nil_append]

/-- `select_conflicts` returns an order-preserving partition of the list -/
theorem select_partition (tree : List (Str × Str)) (paths : List Str) (recurse : Bool) (cs : List Conflict) :
    let r := selectConflicts tree paths recurse cs
    r.1 = cs.filter (fun c => !isSelected paths (treeIds tree paths) recurse c)
      ∧ r.2 = cs.filter (fun c => isSelected paths (treeIds tree paths) recurse c)
      ∧ r.1.Sublist cs ∧ r.2.Sublist cs ∧ r.1.length + r.2.length = cs.length
      ∧ ∀ c, c ∈ cs ↔ (c ∈ r.1 ∨ c ∈ r.2) := by
  simp only [selectConflicts_eq]
  refine ⟨trivial, trivial, List.filter_sublist, List.filter_sublist, ?_, ?_⟩
  · induction cs with
    | nil => rfl
    | cons c t ih =>
      simp only [List.filter_cons]
      cases isSelected paths _ recurse c <;> simp <;> omega
  · intro c
    simp only [List.mem_filter]
    cases isSelected paths _ recurse c <;> simp

/-- a conflict is selected iff its path or conflict_path is one of the paths, or
(with `recurse`) inside one of them, or its file id / conflict file id is the id
of one of the paths -/
theorem select_characterisation (tree : List (Str × Str)) (paths : List Str) (recurse : Bool)
    (cs : List Conflict) (c : Conflict) :
    c ∈ (selectConflicts tree paths recurse cs).2 ↔
      c ∈ cs ∧
        ((c.path ∈ paths ∨ (recurse = true ∧ ∃ d ∈ paths, isInside d c.path = true))
          ∨ (∃ cp, c.conflictPath = some cp ∧
              (cp ∈ paths ∨ (recurse = true ∧ ∃ d ∈ paths, isInside d cp = true)))
          ∨ (∃ i, c.fileId = some i ∧ i ∈ treeIds tree paths)
          ∨ (∃ i, c.conflictFileId = some i ∧ i ∈ treeIds tree paths)) := by
  rw [selectConflicts_eq, List.mem_filter, isSelected_iff]

/-- `set_merge_modified(hashes)`, re-open, `merge_modified()`: exactly the
recorded (path, hash) pairs whose path is versioned and whose hash is the
file's current sha1 — in particular every such record is read back identically -/
theorem merge_modified_roundtrip_partial (tree : List TFile) (hashes : List (Str × Str))
    (hid : (tree.map (·.fileId)).Nodup) (hp : (hashes.map Prod.fst).Nodup)
    (ht : ∀ f ∈ tree, crSafe f.fileId) (hh : ∀ ph ∈ hashes, crSafe ph.2) :
    getMergeModified tree (some (setMergeModified tree hashes)) = .ok (hashes.filter (mmKeep tree)) := by
  rw [getMergeModified, show setMergeModified tree hashes = putRio mergeHeader (mmStanzas tree hashes) from rfl,
    stanza_text_roundtrip_partial mergeHeader _ (mmStanzas_ok tree hashes ht hh)]
  simp only
  rw [mmLoop_spec tree hid hashes hp [] (by simp)]
  simp

/-- the excluded family of `merge_modified_roundtrip_partial` is a real failure of
the modelled code: a recorded hash that is the file's sha1 followed by CR is NOT
the file's current sha1 (so the record should be dropped), but is read back as
that sha1 and reported.  (File ids with CR cannot occur: the working tree
refuses them at `add` — exercised as an excluded input.) -/
theorem merge_modified_witness :
    ∃ (tree : List TFile) (hashes : List (Str × Str)),
      (tree.map (·.fileId)).Nodup ∧ (hashes.map Prod.fst).Nodup ∧ (∀ f ∈ tree, crSafe f.fileId) ∧
      hashes.filter (mmKeep tree) = [] ∧
      getMergeModified tree (some (setMergeModified tree hashes)) = .ok [(['a'], ['7', 'd'])] :=
  ⟨[⟨['a'], ['i'], some ['7', 'd']⟩], [(['a'], ['7', 'd', '\r'])], by decide, by decide, by decide, by decide,
    ok_of_toOption (by decide +kernel)⟩

/-- `merge_modified()` never invents a record: whatever it reports after
`set_merge_modified(hashes)` is one of the stored (path, hash) pairs, and its
path is versioned with exactly that current sha1 (so directories, symlinks and
files missing on disk — `sha = none` — are never reported) -/
theorem merge_modified_sound_partial (tree : List TFile) (hashes : List (Str × Str))
    (hid : (tree.map (·.fileId)).Nodup) (hp : (hashes.map Prod.fst).Nodup)
    (ht : ∀ f ∈ tree, crSafe f.fileId) (hh : ∀ ph ∈ hashes, crSafe ph.2) :
    ∃ d, getMergeModified tree (some (setMergeModified tree hashes)) = .ok d ∧
      ∀ ph ∈ d, ph ∈ hashes ∧ ∃ f ∈ tree, f.path = ph.1 ∧ f.sha = some ph.2 := by
  refine ⟨_, merge_modified_roundtrip_partial tree hashes hid hp ht hh, ?_⟩
  intro ph hph
  obtain ⟨hmem, hk⟩ := List.mem_filter.mp hph
  refine ⟨hmem, ?_⟩
  unfold mmKeep at hk
  split at hk
  · rename_i f hf
    refine ⟨f, List.mem_of_find?_eq_some hf, ?_, ?_⟩
    · have := List.find?_some hf; simpa using this
    · exact (of_decide_eq_true hk).symm
  · cases hk

/-- `resolve(action="done")` is the general loop with an action every class handles -/
theorem resolveDone_eq_resolveWith (tree : List (Str × Str)) (paths : Option (List Str)) (recurse : Bool)
    (file : Option Str) :
    resolveDone tree paths recurse file = resolveWith (fun _ => true) tree paths recurse file := by
  unfold resolveDone resolveWith
  cases getConflicts file with
  | error e => rfl
  | ok cs =>
    have hnil : ∀ l : List Conflict, l.filter (fun c => !(fun _ => true) c) = [] := by
      intro l; simp
    cases paths <;> simp only [hnil, List.append_nil]

/-- `resolve` with ANY action: the tree afterwards lists the not-selected
conflicts followed by those selected conflicts whose class does not implement
the action (`NotImplementedError`), each in its original order — no conflict is
dropped unless it was selected and handled, none is duplicated or altered -/
theorem resolve_with_partial (handles : Conflict → Bool) (tree : List (Str × Str)) (paths : List Str)
    (recurse : Bool) (cs : List Conflict) (h : ∀ c ∈ cs, c.wf = true ∧ c.crSafe) :
    ∃ file, setConflicts cs = some file ∧
      (∃ file', resolveWith handles tree (some paths) recurse (some file) = .ok (some file') ∧
        getConflicts (some file') = .ok
          (cs.filter (fun c => !isSelected paths (treeIds tree paths) recurse c)
            ++ (cs.filter fun c => isSelected paths (treeIds tree paths) recurse c).filter fun c => !handles c))
      ∧ (∃ file', resolveWith handles tree none recurse (some file) = .ok (some file') ∧
        getConflicts (some file') = .ok (cs.filter fun c => !handles c)) := by
  obtain ⟨file, h1, h2⟩ := conflicts_roundtrip_partial cs h
  -- whatever part of the list is written back, it is read back as it is
  have hsub : ∀ ks : List Conflict, (∀ c ∈ ks, c ∈ cs) → ∃ file',
      (.ok (setConflicts ks) : Except Err (Option Str)) = .ok (some file') ∧ getConflicts (some file') = .ok ks := by
    intro ks hks
    obtain ⟨file', h3, h4⟩ := conflicts_roundtrip_partial ks fun c hc => h c (hks c hc)
    exact ⟨file', by rw [h3], h4⟩
  refine ⟨file, h1, ?_, ?_⟩ <;> rw [resolveWith, h2]
  · simp only [selectConflicts_eq]
    exact hsub _ fun c hc => by
      simp only [List.mem_append, List.mem_filter] at hc
      exact hc.elim (·.1) (·.1.1)
  · exact hsub _ fun c hc => (List.mem_filter.mp hc).1

/-- resolving (action `done`) the conflicts selected by `paths` leaves exactly
the not-selected conflicts on the tree, in their order; resolving everything
leaves none -/
theorem resolve_removes_exactly_partial (tree : List (Str × Str)) (paths : List Str) (recurse : Bool)
    (cs : List Conflict) (h : ∀ c ∈ cs, c.wf = true ∧ c.crSafe) :
    ∃ file, setConflicts cs = some file ∧
      (∃ file', resolveDone tree (some paths) recurse (some file) = .ok (some file') ∧
        getConflicts (some file') = .ok (cs.filter fun c => !isSelected paths (treeIds tree paths) recurse c))
      ∧ (∃ file', resolveDone tree none recurse (some file) = .ok (some file') ∧
        getConflicts (some file') = .ok []) := by
  obtain ⟨file, h1, ⟨f1, h2, h3⟩, ⟨f2, h4, h5⟩⟩ := resolve_with_partial (fun _ => true) tree paths recurse cs h
  simp only [← resolveDone_eq_resolveWith] at h2 h4
  have hnil (l : List Conflict) : l.filter (fun _ => false) = [] := by simp
  exact ⟨file, h1, ⟨f1, h2, by simpa [hnil] using h3⟩, ⟨f2, h4, by simpa [hnil] using h5⟩⟩

/-- with an action no class implements nothing is lost: the stored list is a
permutation of the original one -/
theorem resolve_unhandled_keeps_all_partial (tree : List (Str × Str)) (paths : List Str)
    (recurse : Bool) (cs : List Conflict) (h : ∀ c ∈ cs, c.wf = true ∧ c.crSafe) :
    ∃ file file' cs', setConflicts cs = some file ∧
      resolveWith (fun _ => false) tree (some paths) recurse (some file) = .ok (some file') ∧
      getConflicts (some file') = .ok cs' ∧ cs'.Perm cs := by
  obtain ⟨file, h1, ⟨file', h2, h3⟩, _⟩ := resolve_with_partial (fun _ => false) tree paths recurse cs h
  refine ⟨file, file', _, h1, h2, h3, ?_⟩
  have hself : ∀ l : List Conflict, l.filter (fun c => !(fun _ => false) c) = l := by
    intro l; simp
  rw [hself]
  have := List.filter_append_perm (fun c => isSelected paths (treeIds tree paths) recurse c) cs
  refine List.Perm.trans (List.perm_append_comm) ?_
  simpa using this

/-- `resolve` with an empty path list selects nothing: every conflict is kept, in order -/
theorem select_no_paths (tree : List (Str × Str)) (recurse : Bool) (cs : List Conflict) :
    selectConflicts tree [] recurse cs = (cs, []) := by
  have hs : ∀ c, isSelected [] (treeIds tree []) recurse c = false := by
    intro c
    rw [← Bool.not_eq_true, isSelected_iff]
    simp [treeIds]
  simp [selectConflicts_eq, hs]

/-- selecting again, with the same paths, among the conflicts that were kept
selects nothing more: `resolve PATHS` twice removes what `resolve PATHS` once removes -/
theorem select_idempotent (tree : List (Str × Str)) (paths : List Str) (recurse : Bool) (cs : List Conflict) :
    selectConflicts tree paths recurse (selectConflicts tree paths recurse cs).1
      = ((selectConflicts tree paths recurse cs).1, []) := by
  simp only [selectConflicts_eq, List.filter_filter, Prod.mk.injEq, List.filter_eq_nil_iff]
  refine ⟨by simp, fun c _ => ?_⟩
  cases isSelected paths (treeIds tree paths) recurse c <;> simp

/-- the ids looked up for a larger path list include those of a smaller one -/
theorem treeIds_mono (tree : List (Str × Str)) (paths paths' : List Str) (h : ∀ p ∈ paths, p ∈ paths') :
    ∀ i ∈ treeIds tree paths, i ∈ treeIds tree paths' := by
  intro i hi
  unfold treeIds at *
  simp only [List.mem_filterMap] at *
  obtain ⟨p, hp, he⟩ := hi
  exact ⟨p, h p hp, he⟩

theorem select_mono (tree : List (Str × Str)) (paths paths' : List Str) (recurse : Bool) (cs : List Conflict)
    (h : ∀ p ∈ paths, p ∈ paths') :
    (∀ c ∈ (selectConflicts tree paths recurse cs).2, c ∈ (selectConflicts tree paths' recurse cs).2)
      ∧ ∀ c ∈ (selectConflicts tree paths' recurse cs).1, c ∈ (selectConflicts tree paths recurse cs).1 := by
  have hmono := fun c => isSelected_mono (recurse := recurse) c h (treeIds_mono tree paths paths' h) id
  simp only [selectConflicts_eq, List.mem_filter]
  refine ⟨fun c hc => ⟨hc.1, hmono c hc.2⟩, fun c hc => ⟨hc.1, ?_⟩⟩
  cases hsel : isSelected paths (treeIds tree paths) recurse c
  · rfl
  · simp [hmono c hsel] at hc

/-- recursion only adds: whatever is selected without `recurse` is selected with it -/
theorem select_recurse_superset (tree : List (Str × Str)) (paths : List Str) (cs : List Conflict) :
    ∀ c ∈ (selectConflicts tree paths false cs).2, c ∈ (selectConflicts tree paths true cs).2 := by
  simp only [selectConflicts_eq, List.mem_filter]
  exact fun c hc => ⟨hc.1, isSelected_mono c (fun _ h => h) (fun _ h => h) (fun _ => rfl) hc.2⟩


-- non-vacuity: a list with a multi-line path, a tab, `": "`, non-ASCII and all optional attributes
example :
    let cs : List Conflict :=
      [⟨.text, "dir/a\nb: c\t".toList, some "é-id".toList, none, none, none⟩,
       ⟨.path, "p".toList, none, some "<deleted>".toList, none, none⟩,
       ⟨.dupEntry, "a.moved".toList, some "i".toList, some "a".toList, some "Moved existing file to".toList, some "j".toList⟩,
       ⟨.missParent, "d".toList, none, none, some "Created directory".toList, none⟩]
    ∀ c ∈ cs, c.wf = true ∧ c.crSafe := by decide +kernel
example : ¬ crSafe ['a', '\r'] ∧ ¬ crSafe "a\r\nb".toList ∧ crSafe "a\rb".toList := by decide +kernel
-- non-vacuity of the merge-hash theorems: a file, a directory (no sha1), a multi-line hash, an unversioned path
example :
    let tree : List TFile := [⟨"a".toList, "a-id".toList, some "7d".toList⟩, ⟨"dir".toList, "d-id".toList, none⟩]
    let hashes : List (Str × Str) := [("a".toList, "7d".toList), ("dir".toList, "7d".toList), ("zz".toList, "x\ny: z".toList)]
    (tree.map (·.fileId)).Nodup ∧ (hashes.map Prod.fst).Nodup ∧ (∀ f ∈ tree, crSafe f.fileId)
      ∧ (∀ ph ∈ hashes, crSafe ph.2) ∧ hashes.filter (mmKeep tree) = [("a".toList, "7d".toList)] := by decide +kernel
example : StanzaOk [(tFileId, "x\ny".toList), (tHash, "00ff".toList)] := by
  refine ⟨by simp, ?_⟩; decide
example : isInside "a".toList "a/b".toList = true ∧ isInside "a".toList "ab".toList = false
    ∧ isInside [] "a".toList = true ∧ isInside "a//b".toList "a/b/c".toList = true := by decide +kernel
example : (selectConflicts [("a".toList, "i".toList)] ["a".toList] false
    [⟨.text, "a/b".toList, none, none, none, none⟩, ⟨.text, "x".toList, some "i".toList, none, none, none⟩,
     ⟨.text, "a".toList, none, none, none, none⟩]).1 = [⟨.text, "a/b".toList, none, none, none, none⟩] := by decide +kernel

-- non-vacuity of the selection algebra: a selection that grows with the path list and with `recurse`
example :
    let tree : List (Str × Str) := [("a".toList, "i".toList), ("b".toList, "j".toList)]
    let cs : List Conflict := [⟨.text, "a/x".toList, none, none, none, none⟩, ⟨.text, "q".toList, some "j".toList, none, none, none⟩,
      ⟨.text, "z".toList, none, none, none, none⟩]
    (selectConflicts tree ["a".toList] false cs).2 = [] ∧ (selectConflicts tree ["a".toList] true cs).2.length = 1
      ∧ (selectConflicts tree ["a".toList, "b".toList] true cs).2.length = 2 := by decide +kernel

end BreezyVerif.C20
