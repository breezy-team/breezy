import BreezyVerif.Lemmas.C15Merge
import BreezyVerif.Lemmas.C15Tree
/-!
C15 — shelving removes exactly the selected changes, the shelf stores exactly
those, unshelving onto the unchanged result restores the tree; selected and
unselected hunks partition the text change; shelf ids are fresh, monotone and
never renumbered, and every shelf keeps what was shelved under its id until it
is deleted.  `shelve_unshelve_restores` is the tree-level statement for the
repaired code (an accepted selection is closed, both trees are trees, reading
the shelf back and merging it restores every entry); `unclosed_accepted_witness`
and `missing_unversioned_witness` exhibit the two inputs on which /repo HEAD
violates the property.  All statements are for every tree (a function
`Id → Option Entry`, no bound on the number of ids), every selection and every
text segmentation; the hypotheses are the decidable predicates of
`Lemmas/C15.lean` (`norm`, `shapeOk`, `execSafe`, `recOk`).
-/
namespace BreezyVerif.C15
open BreezyVerif.C18 (threeWay Winner)

/-! ### change sets are complete -/

/-- two entries are equal iff no atom of `Delta` differs and no chunk differs: the atoms cover every attribute -/
theorem delta_empty_iff (x y : Option Entry) :
    ((delta x y).isEmpty = true ∧ (contentMask x y).all (!·) = true) ↔ x = y := by
  cases x with
  | none => cases y <;> simp [delta, Delta.isEmpty, contentMask]
  | some x =>
    cases y with
    | none => simp [delta, Delta.isEmpty, contentMask]
    | some y =>
      obtain ⟨p, n, k, c, e⟩ := x
      obtain ⟨p', n', k', c', e'⟩ := y
      by_cases hl : c.length = c'.length
      · simp [delta, Delta.isEmpty, contentMask, chunkMask_all_false_iff c c' hl, hl]
        grind
      · simp [delta, Delta.isEmpty, hl]
        intro _ _ _ h
        exact absurd (congrArg List.length h) hl

/-! ### per id: what shelving does to the change set -/

/-- the working tree keeps exactly the unselected changes (relative to the
basis) and differs from the tree before by exactly the selected ones -/
theorem shelveWork_delta (v : Variant) (s : Sel) (b w : Option Entry)
    (hb : norm b = true) (hw : norm w = true) (hs : shapeOk s b w = true) (hx : execSafe v b w = true) :
    delta b (shelveWork v s b w) = (delta b w).remove s ∧
    delta (shelveWork v s b w) w = (delta b w).restrict s := by
  cases b with
  | none =>
    cases w with
    | none => simp [shelveWork, delta, Delta.remove, Delta.restrict]
    | some we => cases hsw : s.whole <;> simp [shelveWork, delta, Delta.remove, Delta.restrict, hsw]
  | some be =>
    cases w with
    | none =>
      have h1 := recreatedExec_eq v be hb (by simpa [execSafe] using hx)
      have h2 := norm_exec be hb
      cases hsw : s.whole <;> cases hk : s.kept <;>
        simp [shelveWork, delta, Delta.remove, Delta.restrict, hsw, hk, h1, h2]
    | some we =>
      have h1 := recreatedExec_eq v be hb (execSafe_some v be we hx).1
      obtain ⟨p, n, k, c, e⟩ := be
      obtain ⟨p', n', k', c', e'⟩ := we
      cases hc : s.content with
      | none =>
        cases hr : s.rename <;> simp [shelveWork, delta, Delta.remove, Delta.restrict, CSel.any, hc, hr]
      | whole =>
        -- a chmod is a change of its own only between two files: other kinds carry no bit
        have hee : (k == k' && e != e') = (k == .file && k' == .file && e != e') := by
          cases k <;> cases k' <;> simp_all [norm] <;> rfl
        cases hff : (k == .file && k' == .file) <;> cases hr : s.rename <;>
          simp [shelveWork, delta, Delta.remove, Delta.restrict, CSel.any, hc, hr, hff, h1, hee]
      | chunks bits =>
        simp [shapeOk, CSel.shapeOk, hc] at hs
        obtain ⟨⟨⟨rfl, rfl⟩, hl1⟩, hl2⟩ := hs
        cases hr : s.rename <;>
          simp [shelveWork, delta, Delta.remove, Delta.restrict, CSel.any, hc, hr, pickChunks_length bits c c' hl1 hl2, hl2]

/-- the stored tree carries exactly the selected changes (relative to the
basis) and differs from the tree before by exactly the unselected ones -/
theorem shelveShelf_delta (v : Variant) (s : Sel) (b w : Option Entry)
    (hb : norm b = true) (hw : norm w = true) (hs : shapeOk s b w = true) (hx : execSafe v b w = true) :
    delta b (shelveShelf v s b w) = (delta b w).restrict s ∧
    delta (shelveShelf v s b w) w = (delta b w).remove s := by
  rw [shelveShelf_eq_shelveWork, delta_comm b w, delta_comm b, delta_comm _ w]
  exact (shelveWork_delta v _ w b hw hb (shapeOk_comm s b w hs) (execSafe_comm v b w ▸ hx)).symm

/-- hunks: of the chunks that differ between basis and working tree, the working
tree keeps the unselected ones and loses the selected ones; the stored tree
carries the selected ones — for every selection of hunks (none, all, any subset) -/
theorem shelve_chunks (v : Variant) (s : Sel) (b w : Option Entry)
    (hsh : sameShape b w = true) (hs : shapeOk s b w = true) :
    let n := (contentMask b w).length
    contentMask b (shelveWork v s b w) = maskAndNot (contentMask b w) (s.content.bits n) ∧
    contentMask (shelveWork v s b w) w = maskAnd (contentMask b w) (s.content.bits n) ∧
    contentMask b (shelveShelf v s b w) = maskAnd (contentMask b w) (s.content.bits n) ∧
    contentMask (shelveShelf v s b w) w = maskAndNot (contentMask b w) (s.content.bits n) := by
  cases b with
  | none => simp [sameShape] at hsh
  | some be =>
    cases w with
    | none => simp [sameShape] at hsh
    | some we =>
      simp only [sameShape, Bool.and_eq_true, beq_iff_eq] at hsh
      obtain ⟨-, hl⟩ := hsh
      simp only [contentMask, chunkMask_length _ _ hl]
      obtain ⟨hbits, r, t, hr, ht, hrc, htc⟩ : (s.content.bits be.content.length).length = be.content.length ∧
          ∃ r t, shelveWork v s (some be) (some we) = some r ∧ shelveShelf v s (some be) (some we) = some t ∧
          r.content = pickChunks (s.content.bits be.content.length) be.content we.content ∧
          t.content = pickChunks (s.content.bits be.content.length) we.content be.content := by
        cases hc : s.content with
        | chunks bits => simp_all [shapeOk, CSel.shapeOk, shelveWork, shelveShelf, CSel.bits]
        | _ => simp [shelveWork, shelveShelf, hc, CSel.bits, pickChunks_replicate _ _ _ _ rfl hl.symm,
            pickChunks_replicate _ _ _ _ hl.symm rfl]
      simp only [hr, ht, hrc, htc, chunkMask_pick _ _ _ hbits hl, and_self]

/-- selected ⊎ unselected hunks: re-applying the selected hunks (as stored in the
shelf text) to the text left in the working tree gives the original text,
removing both gives the basis text, and the chunk-wise three-way merge of the
two over the basis is the original text — for every text segmentation and
every subset of hunks -/
theorem hunk_partition (bits : List Bool) (b w : List Nat)
    (h1 : bits.length = b.length) (h2 : b.length = w.length) :
    pickChunks bits (pickChunks bits w b) (pickChunks bits b w) = w ∧
    pickChunks bits (pickChunks bits b w) (pickChunks bits w b) = b ∧
    mergeChunks b (pickChunks bits b w) (pickChunks bits w b) = some w :=
  ⟨pick_partition bits b w h1 h2, pick_partition bits w b (h1.trans h2) h2.symm, mergeChunks_pick bits b w h1 h2⟩

example : pickChunks [false, true, false, true, false] [1, 2, 3, 4, 5] [1, 20, 3, 40, 5] = [1, 2, 3, 2 * 2, 5] := by decide

/-- **Shelving removes exactly the selected changes.**  For every id: the
changes of the new working tree against the basis are the unselected ones, the
new working tree differs from the old one by exactly the selected ones, and —
when the selection is accepted (`shelve` = ok, i.e. the remaining tree is
well-formed) — these are the trees `shelve` returns; the stored tree carries
exactly the selected changes.  (`shelve_nothing`, `shelve_all` and
`shelve_all_eq_basis` show `hacc` / `hcl` for the two extreme selections of any
pair of well-formed trees; `shelve_values` gives the attribute VALUES.) -/
theorem shelve_removes_exactly (v : Variant) (ids : List Id) (s : TSel) (b w : Tree) (h : TreeOk v s b w)
    (hacc : wf ids (workTree v s b w) = true) (hpc : v.pathCheck = true ∨ reoccupied ids s b w = [])
    (hcl : wf ids (shelfTree v s b w) = true ∨
      (v.closedCheck = false ∧ hasNonDirParent ids (shelfTree v s b w) = false)) :
    shelve v ids s b w = .ok (workTree v s b w, shelfTree v s b w) ∧
    ∀ i, delta (b i) (workTree v s b w i) = (delta (b i) (w i)).remove (s i) ∧
         delta (workTree v s b w i) (w i) = (delta (b i) (w i)).restrict (s i) ∧
         delta (b i) (shelfTree v s b w i) = (delta (b i) (w i)).restrict (s i) ∧
         delta (shelfTree v s b w i) (w i) = (delta (b i) (w i)).remove (s i) := by
  refine ⟨shelve_accepts v ids s b w hacc hpc hcl, fun i => ?_⟩
  obtain ⟨hb, hw, hs, hx⟩ := h i
  have h1 := shelveWork_delta v (s i) (b i) (w i) hb hw hs hx
  exact ⟨h1.1, h1.2, shelveShelf_delta v (s i) (b i) (w i) hb hw hs hx⟩

/-- **Unshelving restores.**  Merging the stored tree into the unchanged result
of shelving, over the basis, gives back the working tree as it was — every id,
every attribute, no conflict — whatever the recorded executable bits are when
the merge reads them from disk (`freshExec`), and otherwise when they agree
with the disk (`recOk`). -/
theorem unshelve_restores (v : Variant) (s : TSel) (b w : Tree) (rec : Id → Bool) (h : TreeOk v s b w)
    (hr : ∀ i, recOk v (rec i) (workTree v s b w i) = true) :
    unshelve v b (workTree v s b w) rec (shelfTree v s b w) = w ∧
    ∀ i, conflictsAt v b (workTree v s b w) rec (shelfTree v s b w) i = [] := by
  have hm := fun i => mergeEntry_restores v (rec i) (s i) (b i) (w i) (h i).1 (h i).2.1 (h i).2.2.1 (h i).2.2.2 (hr i)
  exact ⟨funext fun i => by simp [unshelve, workTree, shelfTree, hm], fun i => by simp [conflictsAt, workTree, shelfTree, hm]⟩

theorem unshelveTree_restores (v : Variant) (ids : List Id) (s : TSel) (b w : Tree) (rec : Id → Bool)
    (h : TreeOk v s b w) (hr : ∀ i, recOk v (rec i) (workTree v s b w i) = true)
    (hc : closed v ids s b w = true) :
    unshelveTree v ids b (workTree v s b w) rec (shelfTree v s b w) = some w ∧
    ∀ i, conflictsAt v b (workTree v s b w) rec (shelfTree v s b w) i = [] := by
  have h := unshelve_restores v s b w rec h hr
  simp only [closed, Bool.and_eq_true] at hc
  exact ⟨by simp [unshelveTree, hc.2, h.1], h.2⟩

/-- **Unshelving restores, tree level, repaired code.**  For a closed selection
(the remaining tree and the stored tree are trees) the shelf can be read back
and merging it into the unchanged result gives back the working tree — every
id, every attribute, no conflict; no hypothesis on executable bits or on the
recorded bits is left. -/
theorem unshelve_restores_fixed (ids : List Id) (s : TSel) (b w : Tree) (rec : Id → Bool)
    (hn : ∀ i, norm (b i) = true ∧ norm (w i) = true ∧ shapeOk (s i) (b i) (w i) = true)
    (hc : closed .fixed ids s b w = true) :
    unshelveTree .fixed ids b (workTree .fixed s b w) rec (shelfTree .fixed s b w) = some w ∧
    ∀ i, conflictsAt .fixed b (workTree .fixed s b w) rec (shelfTree .fixed s b w) i = [] := by
  refine unshelveTree_restores .fixed ids s b w rec (fun i => ⟨(hn i).1, (hn i).2.1, (hn i).2.2, ?_⟩) (fun i => ?_) hc
  · cases b i <;> cases w i <;> rfl
  · cases workTree Variant.fixed s b w i <;> rfl

/-- a variant with the closedness check accepts only closed selections, and returns the two trees -/
theorem shelve_ok_closed (v : Variant) (ids : List Id) (s : TSel) (b w : Tree) (hv : v.closedCheck = true)
    (r : Tree × Tree) (h : shelve v ids s b w = .ok r) :
    closed v ids s b w = true ∧ r = (workTree v s b w, shelfTree v s b w) := by
  simp only [shelve, hv, Bool.true_and, Bool.not_true, Bool.false_and, Bool.false_eq_true, if_false] at h
  split at h
  · cases h
  · split at h
    · cases h
    · split at h
      · cases h; simp_all [closed]
      · cases h

/-- **Shelve, then unshelve, restores (repaired code, every tree, every selection).**
Whenever `shelve` accepts a selection, the remaining tree and the stored tree
are trees, and reading the shelf back and merging it into the unchanged result
gives back the working tree without conflicts. -/
theorem shelve_unshelve_restores (ids : List Id) (s : TSel) (b w : Tree) (rec : Id → Bool)
    (hn : ∀ i, norm (b i) = true ∧ norm (w i) = true ∧ shapeOk (s i) (b i) (w i) = true)
    (w' st : Tree) (h : shelve .fixed ids s b w = .ok (w', st)) :
    wf ids w' = true ∧ wf ids st = true ∧ unshelveTree .fixed ids b w' rec st = some w ∧
    ∀ i, conflictsAt .fixed b w' rec st i = [] := by
  obtain ⟨hc, hr⟩ := shelve_ok_closed .fixed ids s b w rfl _ h
  simp only [Prod.mk.injEq] at hr
  obtain ⟨rfl, rfl⟩ := hr
  have := unshelve_restores_fixed ids s b w rec hn hc
  simp only [closed, Bool.and_eq_true] at hc
  exact ⟨hc.1, hc.2, this.1, this.2⟩

/-- **Shelving nothing changes nothing**: accepted for every tree, the working
tree stays as it is and the stored tree is the basis -/
theorem shelve_nothing (v : Variant) (ids : List Id) (b w : Tree) (hw : wf ids w = true)
    (hb : wf ids b = true) :
    shelve v ids (fun _ => Sel.nothing) b w = .ok (w, b) := by
  have h1 : workTree v (fun _ => Sel.nothing) b w = w := funext fun i => shelveWork_nothing v (b i) (w i)
  have h2 : shelfTree v (fun _ => Sel.nothing) b w = b := funext fun i => shelveShelf_nothing v (b i) (w i)
  rw [shelve_accepts v ids _ b w (h1.symm ▸ hw) (.inr (by simp [reoccupied, Sel.nothing])) (.inl (h2.symm ▸ hb)), h1, h2]

/-- **Shelving everything**: accepted for every pair of trees; the working tree
becomes the basis and the stored tree the old working tree, up to the one
change that is not shelvable (a chmod of a file that stays a file travels
with the working tree) -/
theorem shelve_all (v : Variant) (ids : List Id) (s : TSel) (b w : Tree) (hv : v.keepExec = true)
    (hs : ∀ i, (s i).isAll = true) (hn : ∀ i, norm (b i) = true ∧ norm (w i) = true)
    (hb : wf ids b = true) (hw : wf ids w = true) (hpc : v.pathCheck = true ∨ reoccupied ids s b w = []) :
    shelve v ids s b w = .ok (fun i => withExecOf (b i) (w i), fun i => withExecOf (w i) (b i)) := by
  have h1 : workTree v s b w = fun i => withExecOf (b i) (w i) :=
    funext fun i => shelveWork_all v (s i) (b i) (w i) hv (hs i) (hn i).1
  have h2 : shelfTree v s b w = fun i => withExecOf (w i) (b i) :=
    funext fun i => shelveShelf_all v (s i) (b i) (w i) hv (hs i) (hn i).2
  have h3 := wf_congr ids _ b fun i => withExecOf_skel (b i) (w i)
  have h4 := wf_congr ids _ w fun i => withExecOf_skel (w i) (b i)
  rw [shelve_accepts v ids s b w (by rw [h1, h3, hb]) hpc (.inl (by rw [h2, h4, hw])), h1, h2]

/-- no file that stays a file has an uncommitted chmod -/
def execAgree (b w : Tree) : Prop :=
  ∀ i be we, b i = some be → w i = some we → be.kind = .file → we.kind = .file → be.exec = we.exec

/-- ... so without a pending chmod, shelving everything leaves exactly the basis and stores exactly the working tree -/
theorem shelve_all_eq_basis (v : Variant) (ids : List Id) (s : TSel) (b w : Tree) (hv : v.keepExec = true)
    (hs : ∀ i, (s i).isAll = true) (hn : ∀ i, norm (b i) = true ∧ norm (w i) = true)
    (hb : wf ids b = true) (hw : wf ids w = true) (hpc : v.pathCheck = true ∨ reoccupied ids s b w = [])
    (hx : execAgree b w) : shelve v ids s b w = .ok (b, w) := by
  rw [shelve_all v ids s b w hv hs hn hb hw hpc]
  have e1 : (fun i => withExecOf (b i) (w i)) = b :=
    funext fun i => withExecOf_eq_self _ _ fun be we hb hw k1 k2 => (hx i be we hb hw k1 k2).symm
  have e2 : (fun i => withExecOf (w i) (b i)) = w :=
    funext fun i => withExecOf_eq_self _ _ fun we be hw hb k1 k2 => hx i be we hb hw k2 k1
  rw [e1, e2]

example :
    let b := wtree [(0, ⟨none, 0, .dir, [], false⟩), (1, ⟨some 0, 1, .file, [7], false⟩)]
    let w := wtree [(0, ⟨none, 0, .dir, [], false⟩), (1, ⟨some 0, 2, .file, [8], false⟩), (2, ⟨some 0, 1, .dir, [], false⟩)]
    let s : TSel := fun _ => ⟨true, true, .whole, false⟩
    wf [0, 1, 2] b = true ∧ wf [0, 1, 2] w = true ∧ (s 1).isAll = true ∧ reoccupied [0, 1, 2] s b w = [] ∧
    (match shelve .fixed [0, 1, 2] s b w with | .ok (w', st) => w' 1 == b 1 && w' 2 == none && st 1 == w 1 | _ => false) = true := by
  decide

/-- **what shelving leaves and stores, value by value** (the `delta` theorems say
WHICH atoms differ; this one pins every attribute): an unselected addition /
deletion stays, a selected one is undone in the tree and stored whole; for an id
present on both sides the position is the basis's iff the rename is selected,
kind and content are the basis's iff the content change is selected (hunk by
hunk for a hunk selection), the executable bit stays with the side whose file
survives; the stored entry is the mirror image -/
theorem shelve_values (v : Variant) (s : Sel) (b w : Option Entry) (hv : v.keepExec = true)
    (hb : norm b = true) (hw : norm w = true) (hs : shapeOk s b w = true) :
    match b, w with
    | none, none => shelveWork v s b w = none ∧ shelveShelf v s b w = none
    | none, some we =>
      if s.whole then shelveWork v s b w = none ∧ shelveShelf v s b w = some we
      else shelveWork v s b w = some we ∧ shelveShelf v s b w = none
    | some be, none =>
      if s.whole then shelveWork v s b w = some be ∧ shelveShelf v s b w = none
      else shelveWork v s b w = none ∧ shelveShelf v s b w = some be
    | some be, some we =>
      ∃ r t, shelveWork v s b w = some r ∧ shelveShelf v s b w = some t ∧
        r.parent = (if s.rename then be.parent else we.parent) ∧ r.name = (if s.rename then be.name else we.name) ∧
        t.parent = (if s.rename then we.parent else be.parent) ∧ t.name = (if s.rename then we.name else be.name) ∧
        match s.content with
        | .none => r.kind = we.kind ∧ r.content = we.content ∧ r.exec = we.exec ∧
            t.kind = be.kind ∧ t.content = be.content ∧ t.exec = be.exec
        | .whole => r.kind = be.kind ∧ r.content = be.content ∧ t.kind = we.kind ∧ t.content = we.content ∧
            r.exec = (if be.kind = .file ∧ we.kind = .file then we.exec else be.exec) ∧
            t.exec = (if be.kind = .file ∧ we.kind = .file then be.exec else we.exec)
        | .chunks bits => r.kind = .file ∧ r.content = pickChunks bits be.content we.content ∧ r.exec = we.exec ∧
            t.kind = .file ∧ t.content = pickChunks bits we.content be.content ∧ t.exec = be.exec := by
  cases b with
  | none =>
    cases w with
    | none => simp [shelveWork, shelveShelf]
    | some we =>
      have := recreatedExec_eq v we hw (.inl hv)
      cases hsw : s.whole <;> simp [shelveWork, shelveShelf, hsw, this]
  | some be =>
    have h1 := recreatedExec_eq v be hb (.inl hv)
    cases w with
    | none =>
      have := norm_exec be hb
      cases hsw : s.whole <;> cases hk : s.kept <;> simp [shelveWork, shelveShelf, hsw, hk, h1, this]
    | some we =>
      have h2 := recreatedExec_eq v we hw (.inl hv)
      cases hc : s.content with
      | none => simp [shelveWork, shelveShelf, hc]
      | whole => simp [shelveWork, shelveShelf, hc, h1, h2]
      | chunks bits =>
        simp [shapeOk, CSel.shapeOk, hc] at hs
        simp [shelveWork, shelveShelf, hc, hs]

/-- a missing file's versioning comes back iff its deletion was NOT shelved -/
theorem missing_restored_iff (v : Variant) (s : TSel) (b w : Tree) (miss : Id → Bool) (i : Id)
    (hm : miss i = true → w i = none ∧ (b i).isSome = true) :
    unshelveMissing b (shelfTree v s b w) (shelveMissing s miss) i = miss i ↔
      ¬ (miss i = true ∧ (s i).whole = true) := by
  cases hmi : miss i with
  | false => simp [unshelveMissing, shelveMissing, hmi]
  | true =>
    obtain ⟨hw, hb⟩ := hm hmi
    cases hbi : b i with
    | none => simp [hbi] at hb
    | some be =>
      cases hsw : (s i).whole <;>
        simp [unshelveMissing, shelveMissing, hmi, hsw, shelfTree, shelveShelf, hw, hbi]

/-- `rm t; shelve; unshelve`: the file is gone again but no longer versioned
(reproduced on /repo by the check, family missing-file-unversioned-by-unshelve) -/
theorem missing_unversioned_witness :
    let b := wtree [(0, ⟨none, 0, .dir, [], false⟩), (1, ⟨some 0, 1, .file, [7], false⟩)]
    let w := wtree [(0, ⟨none, 0, .dir, [], false⟩)]
    let miss : Id → Bool := fun i => i == 1
    let s : TSel := fun i => if i = 1 then ⟨true, false, .none, false⟩ else Sel.nothing
    (match shelve .fixed [0, 1] s b w with
     | .ok (w', st) =>
       w' 1 == b 1 && !shelveMissing s miss 1 &&
       (match unshelveTree .fixed [0, 1] b w' (fun _ => false) st with
        | some u => u 0 == w 0 && u 1 == w 1
        | none => false) &&
       unshelveMissing b st (shelveMissing s miss) 1 != miss 1
     | _ => false) = true := by
  decide

/-! ### the defects of the current code (witnesses; reproduced on the real code by the check) -/

/-- current code: shelving the addition of an executable file and unshelving it
gives the file back without its executable bit; shelving the deletion of an
executable file re-creates it without the bit (a change nobody made) -/
theorem exec_dropped_witness :
    let b : Option Entry := none
    let w : Option Entry := some ⟨some 0, 1, .file, [7], true⟩
    let s : Sel := ⟨true, false, .none, false⟩
    (mergeEntry .current false b (shelveWork .current s b w) (shelveShelf .current s b w)).entry
      = some ⟨some 0, 1, .file, [7], false⟩ ∧
    shelveWork .current s w b = some ⟨some 0, 1, .file, [7], false⟩ ∧
    mergeEntry .fixed false b (shelveWork .fixed s b w) (shelveShelf .fixed s b w) = ⟨w, []⟩ := by decide

/-- current code: a file whose text change is shelved while an uncommitted chmod +x
stays in the tree loses the executable bit on unshelve when the working tree's
recorded bit is stale (`rec = false`) -/
theorem stale_exec_witness :
    let b : Option Entry := some ⟨some 0, 1, .file, [7], false⟩
    let w : Option Entry := some ⟨some 0, 1, .file, [8], true⟩
    let s : Sel := ⟨false, false, .whole, false⟩
    shelveWork .current s b w = some ⟨some 0, 1, .file, [7], true⟩ ∧
    (mergeEntry .current false b (shelveWork .current s b w) (shelveShelf .current s b w)).entry
      = some ⟨some 0, 1, .file, [8], false⟩ ∧
    mergeEntry .fixed false b (shelveWork .fixed s b w) (shelveShelf .fixed s b w) = ⟨w, []⟩ := by decide

/-- current code: a file was removed and a new file added under its name; shelving
both changes (a closed selection: the remaining tree is the basis) is not
carried out; with the path check it is -/
theorem reoccupied_witness :
    let b := wtree [(0, ⟨none, 0, .dir, [], false⟩), (1, ⟨some 0, 1, .file, [7], false⟩)]
    let w := wtree [(0, ⟨none, 0, .dir, [], false⟩), (2, ⟨some 0, 1, .file, [8], false⟩)]
    let s : TSel := fun i => if i = 1 ∨ i = 2 then ⟨true, false, .none, false⟩ else Sel.nothing
    closed .current [0, 1, 2] s b w = true ∧
    (match shelve .current [0, 1, 2] s b w with | .error .reoccupied => true | _ => false) = true ∧
    (match shelve .fixed [0, 1, 2] s b w with | .ok _ => true | _ => false) = true := by decide

/-- /repo HEAD: a file is added in an added directory and only the file's
addition is shelved.  The selection is accepted and the file leaves the tree,
but the stored tree is not a tree (the file's parent is absent) and cannot be
read back; the repaired code refuses the selection (reproduced on /repo by the
check, family unclosed-selection-accepted) -/
theorem unclosed_accepted_witness :
    let b := wtree [(0, ⟨none, 0, .dir, [], false⟩)]
    let w := wtree [(0, ⟨none, 0, .dir, [], false⟩), (1, ⟨some 0, 1, .dir, [], false⟩), (2, ⟨some 1, 2, .file, [7], false⟩)]
    let s : TSel := fun i => if i = 2 then ⟨true, false, .none, false⟩ else Sel.nothing
    (match shelve .head [0, 1, 2] s b w with
     | .ok (w', st) => wf [0, 1, 2] w' && !wf [0, 1, 2] st && w' 2 == none &&
         (unshelveTree .head [0, 1, 2] b w' (fun _ => false) st).isNone
     | _ => false) = true ∧
    (match shelve .fixed [0, 1, 2] s b w with | .error .unclosed => true | _ => false) = true := by decide

/-- deleting a shelf does not renumber: every other id stays, exactly the deleted one goes -/
theorem Mgr.delete_keeps_others (a : List Nat) (k : Nat) (hnd : a.Nodup) (a' : List Nat)
    (h : step a (.delete k) = some a') : ∀ x, x ∈ a' ↔ (x ∈ a ∧ x ≠ k) := by
  intro x
  simp only [step] at h
  split at h
  · simp only [Option.some.injEq] at h
    subst h
    rw [hnd.mem_erase_iff]
    exact and_comm
  · simp at h

/-- **Shelf ids are unique**: along every sequence of shelve / delete operations
(failed deletions included) no id is ever active twice -/
theorem Mgr.shelf_ids_unique (a : List Nat) (ops : List Op) (hnd : a.Nodup) : (run a ops).Nodup := by
  induction ops generalizing a with
  | nil => simpa [run]
  | cons op ops ih =>
    simp only [run]
    cases hs : step a op with
    | none => exact ih a hnd
    | some a' => exact ih a' (step_nodup a op hnd a' hs)

/-- **Shelves survive until deleted**: along every sequence of shelve / delete
operations (failed deletions included) a shelf that is not deleted keeps its
id and what was shelved under it -/
theorem Mgr.survives (sh : Shelves) (ops : List OpC) (k p : Nat) (h : lookup sh k = some p)
    (hnd : OpC.delete k ∉ ops) : lookup (runC sh ops) k = some p := by
  induction ops generalizing sh with
  | nil => simpa [runC]
  | cons op ops ih =>
    simp only [List.mem_cons, not_or] at hnd
    simp only [runC]
    cases hs : stepC sh op with
    | none => exact ih sh h hnd.2
    | some sh' => exact ih sh' (stepC_keeps sh op k p h (fun e => hnd.1 e.symm) sh' hs) hnd.2

example : Mgr.lookup (Mgr.runC [(2, 20), (1, 10)] [.new 30, .delete 2, .new 40, .delete 9]) 1 = some 10 ∧
    Mgr.runC [(2, 20), (1, 10)] [.new 30, .delete 2, .new 40, .delete 9] = [(4, 40), (3, 30), (1, 10)] := by decide

/-- ids are allocated monotonically while a shelf stays: a new id exceeds every id still active -/
theorem Mgr.new_after_new (a : List Nat) : nextId a < nextId (nextId a :: a) := by
  simp [nextId, maxId]

/-- but an id is reused once the newest shelf has been deleted (uniqueness is among the active shelves only) -/
theorem Mgr.id_reuse_witness : run [1, 2] [.new, .delete 3, .new] = [3, 1, 2] ∧ nextId [1, 2] = 3 := by decide

/-- file names: only `shelf-<n>` prefixes count, `shelf-0…` and foreign names do not, trailing text is ignored -/
example : Mgr.activeOfNames ["shelf-1", "shelf-02", "shelf-12x", "xshelf-3", "shelf-", "README"] = [1, 12] := by decide

example : Mgr.run [] [.new, .new, .delete 1, .new, .delete 7] = [3, 2] := by decide

/-! ### non-vacuity of the hypotheses -/

/-- a rename + a two-hunk edit + an uncommitted chmod of one file, one hunk and the rename selected -/
example :
    let b : Option Entry := some ⟨some 0, 1, .file, [1, 2, 3, 4, 5], false⟩
    let w : Option Entry := some ⟨some 9, 6, .file, [1, 20, 3, 40, 5], true⟩
    let s : Sel := ⟨false, true, .chunks [false, true, false, false, false], false⟩
    norm b = true ∧ norm w = true ∧ shapeOk s b w = true ∧ execSafe .current b w = false ∧ execSafe .fixed b w = true ∧
    shelveWork .fixed s b w = some ⟨some 0, 1, .file, [1, 2, 3, 40, 5], true⟩ ∧
    shelveShelf .fixed s b w = some ⟨some 9, 6, .file, [1, 20, 3, 4, 5], false⟩ ∧
    recOk .current true (shelveWork .current s b w) = true ∧
    mergeEntry .fixed false b (shelveWork .fixed s b w) (shelveShelf .fixed s b w) = ⟨w, []⟩ := by decide

example : wf [0, 1, 2] (wtree [(0, ⟨none, 0, .dir, [], false⟩), (1, ⟨some 0, 1, .dir, [], false⟩),
    (2, ⟨some 1, 1, .file, [7], false⟩)]) = true := by decide

end BreezyVerif.C15
