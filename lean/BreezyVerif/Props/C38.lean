import BreezyVerif.Lemmas.C38
import BreezyVerif.Lemmas.C38B
/-
C38 — all git SHA-map cache backends answer identically.

`dict` (the in-memory backend) is the specification: three finite maps plus the
rows of `lookup_git_sha`, later adds override.  The laws of the specification
are proved for every state and every add; the agreement of the `sqlite` and
`index` policies with it is proved for every update sequence that satisfies an
explicit hypothesis (`okSeq okSqlite`, `okSeq okIndex`), and witnesses show
that the hypotheses are necessary — the unchanged code really disagrees on
sequences outside them (reported as findings by the check).
-/
namespace BreezyVerif.C38

/-- **lookup after add**: in every state, after any `add_object`, the added
entry is among `lookup_git_sha(sha)` and the matching id lookup returns the
added sha — whatever was recorded before (later adds override). -/
theorem dict_model_laws (st : St) (o : Op) :
    o.entry ∈ gitSha (step .dict st o) o.sha ∧
    (match o with
     | .commit r s _ _ => commitId (step .dict st o) r = some s
     | .blob s f r => blobId (step .dict st o) (f, r) = some s
     | .tree s f r => treeId .dict (step .dict st o) (f, r) = .found s) := by
  constructor
  · have hmem : o.row ∈ (step .dict st o).git := by
      cases o <;> simp only [step] <;> exact mem_upsertRow _ _
    unfold gitSha
    rw [List.mem_map]
    exact ⟨o.row, List.mem_filter.2 ⟨hmem, by simp [Op.row]⟩, rfl⟩
  · cases o with
    | commit r s t tm => simp [step, commitId, alGet_alSet_same]
    | blob s f r => simp [step, blobId, alGet_alSet_same]
    | tree s f r => simp [step, treeId, alGet_alSet_same]

/-- the override rule spelled out: the second of two adds for one key wins -/
theorem dict_override (st : St) (s1 s2 f r : B) :
    blobId (step .dict (step .dict st (.blob s1 f r)) (.blob s2 f r)) (f, r) = some s2 ∧
    ∀ t1 t2 tm1 tm2 rv, commitId (step .dict (step .dict st (.commit rv s1 t1 tm1)) (.commit rv s2 t2 tm2)) rv = some s2 := by
  refine ⟨(dict_model_laws _ (.blob s2 f r)).2, ?_⟩
  intro t1 t2 tm1 tm2 rv
  exact (dict_model_laws _ (.commit rv s2 t2 tm2)).2

/-- **frame**: an add changes nothing for other shas and other keys -/
theorem dict_frame (st : St) (o : Op) :
    (∀ sha, sha ≠ o.sha → gitSha (step .dict st o) sha = gitSha st sha) ∧
    (∀ k, (∀ s f r, o = .blob s f r → (f, r) ≠ k) → blobId (step .dict st o) k = blobId st k) ∧
    (∀ k, (∀ s f r, o = .tree s f r → (f, r) ≠ k) → treeId .dict (step .dict st o) k = treeId .dict st k) ∧
    (∀ rv, (∀ r s t tm, o = .commit r s t tm → r ≠ rv) → commitId (step .dict st o) rv = commitId st rv) := by
  refine ⟨?_, ?_, ?_, ?_⟩
  · intro sha hne
    have : (step .dict st o).git = upsertRow o.row st.git := by cases o <;> rfl
    unfold gitSha
    rw [this, upsertRow_filter_other o.row sha (fun h => hne h.symm) st.git]
  · intro k hk
    cases o with
    | blob s f r => simp only [step, blobId]; exact alGet_alSet_other _ _ _ (hk s f r rfl) _
    | commit => rfl
    | tree => rfl
  · intro k hk
    cases o with
    | tree s f r => simp only [step, treeId]; rw [alGet_alSet_other _ _ _ (hk s f r rfl) _]
    | commit => rfl
    | blob => rfl
  · intro rv hk
    cases o with
    | commit r s t tm => simp only [step, commitId]; exact alGet_alSet_other _ _ _ (hk r s t tm rfl) _
    | blob => rfl
    | tree => rfl

/-- `missing_revisions(s) = s \ known`, for every state and every argument
(duplicates and unknown ids included) -/
theorem missing_spec (st : St) (xs : List B) (x : B) :
    x ∈ missing st xs ↔ x ∈ xs ∧ x ∉ revids st := by
  unfold missing
  rw [List.mem_eraseDups, List.mem_filter]
  simp

/-- **agreement (partial: under the stated hypotheses).**  For every start
state and every update sequence: if along the sequence no add meets a recorded
row with the same sha but another entry and no key is re-bound (`okIndex`), the
index policy reaches exactly the state of the specification; if no key is
re-bound and no tree sha is shared by two tree keys (`okSqlite`), so does the
sqlite policy.  Nothing is claimed outside the hypotheses — see the witnesses. -/
theorem backends_agree_partial (st : St) (ops : List Op) :
    (okSeq okIndex st ops = true → run .index st ops = run .dict st ops) ∧
    (okSeq okSqlite st ops = true → run .sqlite st ops = run .dict st ops) :=
  ⟨run_eq_of_okSeq .index okIndex step_index_eq_dict ops st,
   run_eq_of_okSeq .sqlite okSqlite step_sqlite_eq_dict ops st⟩

/-- consequently every query has the same answer (the index backend abstains
from `lookup_tree_id`) -/
theorem agree_queries_partial (b : Backend) (st : St) (ops : List Op)
    (h : (b = .index ∧ okSeq okIndex st ops = true) ∨ (b = .sqlite ∧ okSeq okSqlite st ops = true)) :
    (∀ sha, gitSha (run b st ops) sha = gitSha (run .dict st ops) sha) ∧
    (∀ k, blobId (run b st ops) k = blobId (run .dict st ops) k) ∧
    (∀ r, commitId (run b st ops) r = commitId (run .dict st ops) r) ∧
    revids (run b st ops) = revids (run .dict st ops) ∧
    sha1s (run b st ops) = sha1s (run .dict st ops) ∧
    (∀ xs, missing (run b st ops) xs = missing (run .dict st ops) xs) ∧
    (∀ k, b = .sqlite → treeId b (run b st ops) k = treeId .dict (run .dict st ops) k) := by
  have heq : run b st ops = run .dict st ops := by
    rcases h with ⟨rfl, h⟩ | ⟨rfl, h⟩
    · exact (backends_agree_partial st ops).1 h
    · exact (backends_agree_partial st ops).2 h
  rw [heq]
  refine ⟨fun _ => rfl, fun _ => rfl, fun _ => rfl, rfl, rfl, fun _ => rfl, ?_⟩
  intro k hb
  subst hb
  rfl

/-- the first revision of a native history (a text, the root tree, the commit):
it satisfies both hypotheses; appending a copy of the text under a second file
id keeps `okSqlite` and breaks `okIndex` (the two `example`s below) -/
def exOps : List Op :=
  [.blob [1] [10] [20], .tree [2] [11] [20], .commit [20] [3] [2] none]

example : okSeq okIndex St.empty exOps = true ∧ okSeq okSqlite St.empty exOps = true := by decide

example : okSeq okSqlite St.empty (exOps ++ [.blob [1] [12] [20]]) = true ∧
    okSeq okIndex St.empty (exOps ++ [.blob [1] [12] [20]]) = false := by decide

/-- **witness**: the same blob under two file ids — the index policy answers
`lookup_git_sha` with the first entry only -/
theorem index_shared_sha_witness :
    gitSha (run .index St.empty [.blob [1] [10] [20], .blob [1] [12] [20]]) [1] = [.blob [10] [20]] ∧
    gitSha (run .dict St.empty [.blob [1] [10] [20], .blob [1] [12] [20]]) [1] = [.blob [10] [20], .blob [12] [20]] ∧
    gitSha (run .sqlite St.empty [.blob [1] [10] [20], .blob [1] [12] [20]]) [1] = [.blob [10] [20], .blob [12] [20]] := by
  decide

/-- **witness**: an unchanged root tree recorded for a second revision — the
sqlite policy forgets the first key -/
theorem sqlite_tree_sha_witness :
    treeId .sqlite (run .sqlite St.empty [.tree [2] [11] [20], .tree [2] [11] [21]]) ([11], [20]) = .missing ∧
    treeId .dict (run .dict St.empty [.tree [2] [11] [20], .tree [2] [11] [21]]) ([11], [20]) = .found [2] ∧
    gitSha (run .sqlite St.empty [.tree [2] [11] [20], .tree [2] [11] [21]]) [2] = [.tree [11] [21]] ∧
    gitSha (run .dict St.empty [.tree [2] [11] [20], .tree [2] [11] [21]]) [2] = [.tree [11] [20], .tree [11] [21]] := by
  decide

/-- `_add_node` then `_get_entry`: the key is bound afterwards — to the value
it already had, else to the new one -/
theorem addNode_get (s s' : IdxStore) (k : IKey) (v : B) (h : s.addNode k v = some s') :
    s'.get k = some (match s.get k with | some v' => v' | none => v) := by
  rw [get_addNode s s' k v h, if_pos rfl]
  cases s.get k <;> rfl

/-- **reopen.**  After the write group is committed, a new `IndexGitShaMap` on
the same directory — whatever order the directory listing gives the index
files in — answers every `_get_entry` as the live one did, provided no key
occurs twice (the invariant `_add_node` maintains). -/
theorem reopen_id (s : IdxStore) (hb : s.builder = none) (hn : s.allKeys.Nodup)
    (files' : List Layer) (hp : s.files.Perm files') (k : IKey) :
    (IdxStore.reopen files').get k = s.get k := by
  rw [IdxStore.allKeys_eq] at hn
  simp only [IdxStore.get_eq, IdxStore.reopen, hb, Option.getD_none, List.append_nil] at hn ⊢
  exact alGet_perm _ _ (hp.flatMap_right id) hn k

/-- with a file name not used before, committing a write group keeps every
earlier file (this is what `IdxStore.commitWriteGroup` in the model assumes) -/
theorem commitNamed_fresh (files : NamedFiles) (name : B) (b : Layer)
    (h : ∀ f ∈ files, f.1 ≠ name) : commitNamed files name b = (name, b) :: files := by
  unfold commitNamed
  congr 1
  rw [List.filter_eq_self]
  intro f hf
  simpa using h f hf

/-- **witness**: a write group that feeds the name hash with the same shas as an
earlier one (the same revision converted again: every node already exists, the
builder stays empty) replaces the earlier file — the entries are gone after
reopen -/
theorem name_clash_witness :
    namedGet [([7], [(([1], [2], [3]), [9])])] ([1], [2], [3]) = some [9] ∧
    namedGet (commitNamed [([7], [(([1], [2], [3]), [9])])] [7] []) ([1], [2], [3]) = none := by
  decide

/-- non-vacuity: two committed files and the hypotheses of `reopen_id` -/
def exStore : IdxStore :=
  { files := [[(([1], [2], [3]), [9])], [(([4], [2], [3]), [8]), (([5], [2], [3]), [7])]], builder := none }

example : exStore.allKeys.Nodup := by decide

example : (IdxStore.reopen exStore.files.reverse).get ([4], [2], [3]) = some [8] := by decide

def exGroups : List (List Op) :=
  [[.blob [1] [10] [20], .tree [2] [11] [20], .commit [20] (List.replicate 40 7) [2] none],
   [.blob [1] [12] [21], .commit [21] (List.replicate 40 8) [2] (some [5])]]

/-- **write-group scripts.**  Starting from an empty directory, ANY sequence of
write groups (start_write_group, every `add_object` of every session through
`IndexCacheUpdater`, commit_write_group) succeeds, leaves no builder open and
never stores a key twice — the hypotheses of `reopen_id` always hold — and the
store answers the three kinds of keys exactly as the flat index policy
(`run .index`, the model the correspondence check compares with the real
backend) does: the `git` node of a sha is the encoded FIRST entry recorded for
it, the `blob` node is `lookup_blob_id`, the first 40 bytes of the `commit` node
are `lookup_commit`. -/
theorem index_store_refines (gs : List (List Op)) (hw : ∀ g ∈ gs, ∀ o ∈ g, o.wf = true) :
    ∃ s, IdxStore.empty.runGroups gs = some s ∧ s.builder = none ∧ s.allKeys.Nodup ∧
      (∀ sha, s.get (gitKey sha) = (firstRow (run .index St.empty gs.flatten) sha).map (fun r => encEntry r.2)) ∧
      (∀ f r, s.get (blobKey f r) = blobId (run .index St.empty gs.flatten) (f, r)) ∧
      (∀ r, (s.get (commitKey r)).map commitShaOf = commitId (run .index St.empty gs.flatten) r) := by
  obtain ⟨s, h, hb, hn, hR⟩ := runGroups_inv IdxStore.empty St.empty gs hw rfl (by simp [IdxStore.empty, IdxStore.allKeys, keysOf])
    refines_empty
  exact ⟨s, h, hb, hn, hR.git, hR.blob, hR.commit⟩

/-- **reopen, at the level of the queries.**  After any sequence of write
groups, a new `IndexGitShaMap` on the directory — with the index files in ANY
order — gives `lookup_git_sha` / `lookup_blob_id` / `lookup_commit` the same
node values as before, namely those of the flat policy model. -/
theorem index_reopen_answers (gs : List (List Op)) (hw : ∀ g ∈ gs, ∀ o ∈ g, o.wf = true) :
    ∃ s, IdxStore.empty.runGroups gs = some s ∧
      ∀ files', s.files.Perm files' →
        (∀ sha, (IdxStore.reopen files').get (gitKey sha) =
          (firstRow (run .index St.empty gs.flatten) sha).map (fun r => encEntry r.2)) ∧
        (∀ f r, (IdxStore.reopen files').get (blobKey f r) = blobId (run .index St.empty gs.flatten) (f, r)) ∧
        (∀ r, ((IdxStore.reopen files').get (commitKey r)).map commitShaOf =
          commitId (run .index St.empty gs.flatten) r) := by
  obtain ⟨s, h, hb, hn, hg, hbl, hc⟩ := index_store_refines gs hw
  refine ⟨s, h, fun files' hp => ⟨fun sha => ?_, fun f r => ?_, fun r => ?_⟩⟩
  · rw [reopen_id s hb hn files' hp]; exact hg sha
  · rw [reopen_id s hb hn files' hp]; exact hbl f r
  · rw [reopen_id s hb hn files' hp]; exact hc r

example : (∀ g ∈ exGroups, ∀ o ∈ g, o.wf = true) ∧
    ((IdxStore.empty.runGroups exGroups).map (fun s => (s.files.length, s.get (gitKey [1]), s.get (blobKey [12] [21]))))
      = some (2, some (encEntry (.blob [10] [20])), some [1]) := by decide

/-- in every state the index policy reaches, `lookup_git_sha` has at most the one
entry of the first row recorded for the sha (so the `git` node above is the whole answer) -/
theorem index_gitSha_first (ops : List Op) (sha : B) :
    gitSha (run .index St.empty ops) sha = ((firstRow (run .index St.empty ops) sha).toList).map (·.2) := by
  unfold gitSha firstRow
  rw [filter_of_nodup_keys _ sha (run_index_nodup St.empty ops (by simp [St.empty]))]

/-- the first add that meets a recorded row with the same sha but another entry
makes `lookup_git_sha` of that sha differ between the index policy and the
specification, whatever was added before (as long as the earlier adds satisfied
`okIndex`): the clause of `okIndex` about shas is necessary, not only sufficient -/
theorem index_shared_sha_differs (pre : List Op) (o : Op) (hpre : okSeq okIndex St.empty pre = true)
    (r : Row) (hr : r ∈ (run .dict St.empty pre).git) (hs : r.1 = o.sha) (hne : r ≠ o.row) :
    gitSha (run .index St.empty (pre ++ [o])) o.sha ≠ gitSha (run .dict St.empty (pre ++ [o])) o.sha := by
  have heq : run .index St.empty pre = run .dict St.empty pre := (backends_agree_partial St.empty pre).1 hpre
  have hnd : ((run .dict St.empty pre).git.map (·.1)).Nodup := by
    rw [← heq]; exact run_index_nodup St.empty pre (by simp [St.empty])
  have hrun : ∀ b, run b St.empty (pre ++ [o]) = step b (run b St.empty pre) o := by
    intro b; simp [run, List.foldl_append]
  rw [hrun, hrun, heq]
  -- dict: the new entry is there
  have hd := (dict_model_laws (run .dict St.empty pre) o).1
  -- index: the rows are unchanged, and hold only r for this sha
  have hany : (run .dict St.empty pre).git.any (fun x => x.1 == o.row.1) = true := by
    rw [List.any_eq_true]; exact ⟨r, hr, by simp [hs, Op.row]⟩
  have hgit : (step .index (run .dict St.empty pre) o).git = (run .dict St.empty pre).git := by
    rw [step_index_git]; simp [addIfNoSha, hany]
  intro hcontra
  rw [← hcontra] at hd
  unfold gitSha at hd
  rw [hgit, List.mem_map] at hd
  obtain ⟨x, hx, hxe⟩ := hd
  rw [List.mem_filter] at hx
  -- x has sha o.sha, as r does; shas are unique, so x = r
  have hxr : x = r := by
    have h1 : x.1 = r.1 := by rw [hs]; simpa using hx.2
    exact Lib.inj_of_nodup_map (·.1) hnd hx.1 hr h1
  apply hne
  rw [← hxr]
  cases x with
  | mk xs xe =>
    simp only at hxe
    have : xs = o.sha := by simpa using hx.2
    simp [Op.row, this, hxe]

/-- likewise the clause about keys: re-binding a blob key or a revision id to
another sha makes `lookup_blob_id` / `lookup_commit` differ (the index keeps the
first binding, the specification the last) -/
theorem index_rebound_key_differs (pre : List Op) (hpre : okSeq okIndex St.empty pre = true) :
    (∀ s s' f r, blobId (run .dict St.empty pre) (f, r) = some s' → s' ≠ s →
      blobId (run .index St.empty (pre ++ [.blob s f r])) (f, r) ≠
        blobId (run .dict St.empty (pre ++ [.blob s f r])) (f, r)) ∧
    (∀ s s' rv t tm, commitId (run .dict St.empty pre) rv = some s' → s' ≠ s →
      commitId (run .index St.empty (pre ++ [.commit rv s t tm])) rv ≠
        commitId (run .dict St.empty (pre ++ [.commit rv s t tm])) rv) := by
  have heq : run .index St.empty pre = run .dict St.empty pre := (backends_agree_partial St.empty pre).1 hpre
  have hrun : ∀ b o, run b St.empty (pre ++ [o]) = step b (run b St.empty pre) o := by
    intro b o; simp [run, List.foldl_append]
  constructor
  · intro s s' f r hget hne
    rw [hrun, hrun, heq]
    simp only [step, blobId] at hget ⊢
    rw [alGet_alSet_same, alGet_alAddNew]
    simp [hget, hne]
  · intro s s' rv t tm hget hne
    rw [hrun, hrun, heq]
    simp only [step, commitId] at hget ⊢
    rw [alGet_alSet_same, alGet_alAddNew]
    simp [hget, hne]

example : okSeq okIndex St.empty exOps = true ∧
    ([1], Entry.blob [10] [20]) ∈ (run .dict St.empty exOps).git ∧
    ([1], Entry.blob [10] [20]) ≠ (Op.blob [1] [12] [20]).row := by decide

/-- for the sqlite policy: after any adds satisfying `okSqlite`, the first tree
add whose sha is already recorded for another tree key makes `lookup_tree_id` of
that older key fail, while the specification still answers it: the tree-sha
clause of `okSqlite` is necessary -/
theorem sqlite_shared_tree_sha_differs (pre : List Op) (hpre : okSeq okSqlite St.empty pre = true)
    (s f r f' r' : B) (hk : (f', r') ≠ (f, r))
    (hold : treeId .dict (run .dict St.empty pre) (f', r') = .found s) :
    treeId .sqlite (run .sqlite St.empty (pre ++ [.tree s f r])) (f', r') = .missing ∧
      treeId .dict (run .dict St.empty (pre ++ [.tree s f r])) (f', r') = .found s := by
  have heq : run .sqlite St.empty pre = run .dict St.empty pre := (backends_agree_partial St.empty pre).2 hpre
  have hrun : ∀ b, run b St.empty (pre ++ [.tree s f r]) = step b (run b St.empty pre) (.tree s f r) := by
    intro b; simp [run, List.foldl_append]
  have hn : ((run .dict St.empty pre).trees.map (·.1)).Nodup := run_dict_trees_nodup St.empty pre (by simp [St.empty])
  have hget : alGet (run .dict St.empty pre).trees (f', r') = some s := by
    simp only [treeId] at hold
    cases h : alGet (run .dict St.empty pre).trees (f', r') with
    | none => simp [h] at hold
    | some x => simp only [h, TreeAns.found.injEq] at hold; rw [hold]
  rw [hrun, hrun, heq]
  generalize run .dict St.empty pre = st at hn hget
  have hfun := alGet_entries_of_nodup st.trees (f', r') s hn hget
  constructor
  · simp only [treeId, step]
    have : alGet (treesReplace s (f, r) st.trees) (f', r') = none := by
      apply alGet_none_of_no_key
      intro e he
      rcases mem_treesReplace.1 he with rfl | ⟨hm, _, hs⟩
      · exact fun e' => hk e'.symm
      · exact fun e' => hs (hfun e hm e')
    rw [this]
  · simp only [treeId, step]
    rw [alGet_alSet_other _ _ _ (fun e => hk e.symm)]
    simp [hget]

example : okSeq okSqlite St.empty [.tree [2] [11] [20]] = true ∧
    treeId .dict (run .dict St.empty [.tree [2] [11] [20]]) ([11], [20]) = .found [2] ∧
    (([11], [20]) : FKey) ≠ ([11], [21]) := by decide

/-- `DictGitShaMap.lookup_blob_id` / `lookup_tree_id` read the shared
`_by_fileid` (`sharedId`).  For a key no tree add uses, `lookup_blob_id` is the
specification's blob map; for a key no blob add uses, `lookup_tree_id` is the
specification's tree map — for every update sequence.  (Native histories never
use one `(fileid, revision)` for both kinds.) -/
theorem dict_shared_lookup_partial (ops : List Op) (k : FKey) :
    ((∀ o ∈ ops, isTreeOp o = true → o.fkey ≠ some k) → sharedId ops k = blobId (run .dict St.empty ops) k) ∧
    ((∀ o ∈ ops, (∃ s f r, o = .blob s f r) → o.fkey ≠ some k) →
      (match sharedId ops k with | some s => TreeAns.found s | none => TreeAns.missing) =
        treeId .dict (run .dict St.empty ops) k) := by
  constructor
  · intro h
    rw [sharedId_eq_lastOf blobAdd (fun _ _ => blobAdd_some) ops k
      fun o ho hk => by
        cases o with
        | blob => rfl
        | commit => cases hk
        | tree => exact absurd hk (h _ ho rfl)]
    simp only [blobId, run_dict_lastOf blobAdd St.blobs step_dict_blobs]
    cases lastOf blobAdd ops k <;> rfl
  · intro h
    rw [sharedId_eq_lastOf treeAdd (fun _ _ => treeAdd_some) ops k
      fun o ho hk => by
        cases o with
        | tree => rfl
        | commit => cases hk
        | blob s f r => exact absurd hk (h _ ho ⟨s, f, r, rfl⟩)]
    simp only [treeId, run_dict_lastOf treeAdd St.trees step_dict_trees]
    cases lastOf treeAdd ops k <;> rfl

example : (∀ o ∈ exOps, isTreeOp o = true → o.fkey ≠ some ([10], [20])) ∧
    sharedId exOps ([10], [20]) = some [1] := by decide

/-- **witness**: a cross-kind query.  After recording a tree id the in-memory
backend answers `lookup_blob_id` of that key with the tree's sha; the
specification, the sqlite policy and the index policy all say KeyError -/
theorem dict_cross_kind_witness :
    sharedId [.tree [2] [11] [20]] ([11], [20]) = some [2] ∧
    blobId (run .dict St.empty [.tree [2] [11] [20]]) ([11], [20]) = none ∧
    blobId (run .sqlite St.empty [.tree [2] [11] [20]]) ([11], [20]) = none ∧
    blobId (run .index St.empty [.tree [2] [11] [20]]) ([11], [20]) = none := by decide

end BreezyVerif.C38
