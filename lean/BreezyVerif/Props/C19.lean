import BreezyVerif.Lemmas.C19
/-!
C19 — theorems.  All statements are over arbitrary region lists, arbitrary
lines (byte strings, any length, with or without trailing newline, including
lines that start with the sentinel or look like markers) and both option flags;
nothing is bounded.

The region computation of the external `merge3` package is an input (see
Model/C19.lean); "the three-way merge has conflicting regions" is
`regions.any Region.isConflict`.
-/
namespace BreezyVerif.C19

/-- the start marker `text_merge` uses is fresh: no BASE / OTHER / THIS line starts with it
(the `while … += b"!"` loop of the code, modelled with proved-sufficient fuel) -/
theorem marker_fresh (base other this : List Line) :
    ∀ l ∈ base ++ other ++ this, (freshMarker base other this).isPrefixOf l = false := by
  unfold freshMarker
  apply extendMarker_fresh
  intro l hl
  have := le_maxLen _ l hl
  omega

/-- **Main theorem.**  For ALL inputs — including lines that start with the
sentinel or look like markers — `text_merge` writes exactly the conventional
rendering (start marker `<<<<<<< TREE`) and its `text_conflicts` flag is exactly
"some region is a conflict".  The only hypothesis is that the regions denote
lines of the inputs.  Errors (`CantReprocessAndShowBase`, merge3's assertion)
coincide. -/
theorem text_merge_spec (o : Opts) (base this other : List Line) (regions : List Region)
    (h : FromInputs o.showBase base this other regions) (hopt : (o.showBase && o.reprocess) = false) :
    textMerge o base this other regions =
      match renderSpec o this regions with
      | .error e => .error e
      | .ok ls => .ok (ls, regions.any Region.isConflict) := by
  unfold textMerge renderSpec
  simp only [hopt, Bool.false_eq_true, if_false]
  obtain ⟨r0, hr0⟩ : ∃ r, freshMarker base other this = sentinel ++ r := extendMarker_prefix _ _ _
  have hf := marker_fresh base other this
  rw [hr0] at hf ⊢
  rcases mergeLines_agree o r0 (newlineOf this) regions (fun r hr l hl => hf l (h r hr l hl)) with
    ⟨e, h1, h2⟩ | ⟨x, x', h1, h2, h3⟩
  · rw [h1, h2]
  · rw [h1, h2]; exact congrArg Except.ok h3

theorem text_merge_ok (o : Opts) (base this other : List Line) (regions : List Region)
    (h : FromInputs o.showBase base this other regions) (ls : List Line) (flag : Bool)
    (hr : textMerge o base this other regions = .ok (ls, flag)) :
    renderSpec o this regions = .ok ls ∧ flag = regions.any Region.isConflict := by
  have hopt : (o.showBase && o.reprocess) = false := by
    cases hb : (o.showBase && o.reprocess) with
    | false => rfl
    | true => simp [textMerge, hb] at hr
  rw [text_merge_spec o base this other regions h hopt] at hr
  cases hs : renderSpec o this regions with
  | error e => simp [hs] at hr
  | ok l =>
    simp only [hs, Except.ok.injEq, Prod.mk.injEq] at hr
    exact ⟨congrArg _ hr.1, hr.2.symm⟩

theorem render_conflict_iff (o : Opts) (base this other : List Line) (regions : List Region)
    (h : FromInputs o.showBase base this other regions) (ls : List Line) (flag : Bool)
    (hr : textMerge o base this other regions = .ok (ls, flag)) :
    flag = true ↔ ∃ r ∈ regions, r.isConflict = true := by
  rw [(text_merge_ok o base this other regions h ls flag hr).2]
  exact List.any_eq_true

/-- **The title of the property.**  If no input line is itself the line `<<<<<<< TREE` (+ newline),
then a text conflict is recorded exactly when that marker line is written to the file — and with it
the `=======` and `>>>>>>> MERGE-SOURCE` lines.  (Without the hypothesis only "recorded ⇒ written"
holds: a user line that looks like the marker is copied verbatim and records nothing.) -/
theorem markers_written_iff (o : Opts) (base this other : List Line) (regions : List Region)
    (h : FromInputs o.showBase base this other regions) (ls : List Line) (flag : Bool)
    (hr : textMerge o base this other regions = .ok (ls, flag))
    (hu : ∀ l ∈ base ++ other ++ this, l ≠ withName lt7 nameA ++ newlineOf this) :
    (flag = true ↔ (withName lt7 nameA ++ newlineOf this) ∈ ls) ∧
    (flag = true → (eq7 ++ newlineOf this) ∈ ls ∧ (withName gt7 nameB ++ newlineOf this) ∈ ls) := by
  obtain ⟨hs, rfl⟩ := text_merge_ok o base this other regions h ls flag hr
  unfold renderSpec at hs
  have hm := fun hf : regions.any Region.isConflict = true =>
    let ⟨r, hr1, hr2⟩ := List.any_eq_true.mp hf
    markers_of_conflict _ _ _ regions ls hs r hr1 hr2
  refine ⟨⟨fun hf => (hm hf).1, fun hmem => ?_⟩, fun hf => (hm hf).2⟩
  -- without a conflict region every written line is an input line, so none is the marker line
  cases hf : regions.any Region.isConflict with
  | true => rfl
  | false =>
    have hc : ∀ r ∈ regions, r.isConflict = false := by
      intro r hr; simp only [List.any_eq_false] at hf; simpa using hf r hr
    rw [mergeLines_clean _ _ _ regions hc] at hs
    cases hs
    obtain ⟨r, hr1, hr2⟩ := List.mem_flatMap.mp hmem
    rw [chosen_eq_emitted o.showBase r (hc r hr1)] at hr2
    exact absurd rfl (hu _ (h r hr1 _ hr2))

/-- a conflict region always sets the flag — no hypothesis at all -/
theorem flag_of_conflict (o : Opts) (base this other : List Line) (regions : List Region)
    (ls : List Line) (flag : Bool) (hr : textMerge o base this other regions = .ok (ls, flag))
    (hc : ∃ r ∈ regions, r.isConflict = true) : flag = true := by
  unfold textMerge at hr
  split at hr
  · cases hr
  · simp only at hr
    cases hm : mergeLines (withName (freshMarker base other this) nameA) (baseMarkerOf o) (newlineOf this) regions with
    | error e => simp [hm] at hr
    | ok l =>
      simp only [hm, Except.ok.injEq, iterMerge3, Prod.mk.injEq] at hr
      rw [← hr.2]
      obtain ⟨r, hr1, hr2⟩ := hc
      exact List.any_eq_true.mpr ⟨_, (markers_of_conflict _ _ _ regions l hm r hr1 hr2).1, by simp [fix_start]⟩

/-- without conflict regions the rendering is the cleanly merged text: the
chosen side of every region, in order, and no marker line at all -/
theorem render_clean (o : Opts) (this : List Line) (regions : List Region)
    (hc : ∀ r ∈ regions, r.isConflict = false) :
    renderSpec o this regions = .ok (regions.flatMap Region.chosen) := by
  unfold renderSpec
  exact mergeLines_clean _ _ _ regions hc

/-- consequently: no conflict region ⇒ the file holds the clean merge and no conflict is recorded -/
theorem text_merge_clean (o : Opts) (base this other : List Line) (regions : List Region)
    (h : FromInputs o.showBase base this other regions) (hopt : (o.showBase && o.reprocess) = false)
    (hc : ∀ r ∈ regions, r.isConflict = false) :
    textMerge o base this other regions = .ok (regions.flatMap Region.chosen, false) := by
  rw [text_merge_spec o base this other regions h hopt, render_clean o this regions hc]
  have : regions.any Region.isConflict = false := by
    simp only [List.any_eq_false]; intro r hr; simp [hc r hr]
  simp [this]

/-- rendering is a homomorphism over region lists: regions are rendered
independently and in order -/
theorem render_append (s : Bytes) (bm : Option Bytes) (nl : Bytes) (r1 r2 : List Region) :
    mergeLines s bm nl (r1 ++ r2) =
      match mergeLines s bm nl r1, mergeLines s bm nl r2 with
      | .ok x, .ok y => .ok (x ++ y)
      | .error e, _ => .error e
      | .ok _, .error e => .error e := by
  induction r1 with
  | nil =>
    simp only [List.nil_append, mergeLines]
    cases mergeLines s bm nl r2 <;> simp
  | cons r rs ih =>
    simp only [List.cons_append, mergeLines, ih]
    cases renderRegion s bm nl r <;> cases mergeLines s bm nl rs <;> cases mergeLines s bm nl r2 <;> simp

/-- between the markers stand exactly the THIS and OTHER lines of the region … -/
theorem render_content_plain (o : Opts) (this : List Line) (hb : o.showBase = false)
    (base : Option (List Line)) (ta tb : List Line) :
    renderSpec o this [.conflict base ta tb] =
      .ok ((withName lt7 nameA ++ newlineOf this) :: ta ++ (eq7 ++ newlineOf this) :: tb
            ++ [withName gt7 nameB ++ newlineOf this]) := by
  simp [renderSpec, mergeLines, renderRegion, baseMarkerOf, hb]

/-- … and with show-base additionally the BASE lines after `||||||| BASE-REVISION` -/
theorem render_content_show_base (o : Opts) (this : List Line) (hb : o.showBase = true)
    (bl ta tb : List Line) :
    renderSpec o this [.conflict (some bl) ta tb] =
      .ok ((withName lt7 nameA ++ newlineOf this) :: ta ++ (withName bar7 nameBase ++ newlineOf this) :: bl
            ++ (eq7 ++ newlineOf this) :: tb ++ [withName gt7 nameB ++ newlineOf this]) := by
  simp [renderSpec, mergeLines, renderRegion, baseMarkerOf, hb]

/-- **Lines that start with the sentinel (finding F3) are harmless.**  A conflict-free merge in
which THIS added a line starting with the sentinel (and even one starting with
the once-extended sentinel) is written verbatim and records no conflict. -/
theorem sentinel_line_clean :
    textMerge ⟨false, false⟩ [[97, 10]] [[97, 10], sentinel ++ [32, 120, 10], sentinel ++ [33, 10]] [[97, 10], [99, 10]]
        [.unchanged [[97, 10]], .a [sentinel ++ [32, 120, 10], sentinel ++ [33, 10]], .b [[99, 10]]]
      = .ok ([[97, 10], sentinel ++ [32, 120, 10], sentinel ++ [33, 10], [99, 10]], false) ∧
    freshMarker [[97, 10]] [[97, 10], [99, 10]] [[97, 10], sentinel ++ [32, 120, 10], sentinel ++ [33, 10]]
      = sentinel ++ [33, 33] := by
  decide +kernel

/-- `split_lines` loses nothing: helper files written from the line lists hold exactly the texts -/
theorem join_splitLines (t : Bytes) : joinLines (splitLines t) = t := by
  unfold splitLines joinLines
  have := join_splitLinesAux t []
  simpa using this

/-- helper files of an entry that may be absent from BASE hold exactly the texts (`[]` for an absent BASE) -/
theorem helpers_exact_opt (o : Opts) (base : Option (List Line)) (this other : List Line) (regions : List Region)
    (c b t x : Bytes) (h : mergeFileOpt o base this other regions = .textConflict c b t x) :
    b = joinLines (baseLinesOf base) ∧ t = joinLines this ∧ x = joinLines other := by
  unfold mergeFileOpt at h
  repeat' split at h
  all_goals (cases h <;> exact ⟨rfl, rfl, rfl⟩)

/-- helper files hold exactly the BASE, THIS and OTHER texts, for every input -/
theorem helpers_exact (o : Opts) (base this other : List Line) (regions : List Region)
    (c b t x : Bytes) (h : mergeFile o base this other regions = .textConflict c b t x) :
    b = joinLines base ∧ t = joinLines this ∧ x = joinLines other :=
  helpers_exact_opt o (some base) this other regions c b t x (by rw [mergeFileOpt_some]; exact h)

/-- **File-level statement.**  For text files (no NUL) and legal options: a text conflict is recorded iff both sides changed the text
differently and the merge has a conflict region; then the file holds the marker
rendering and the helpers hold the three texts; otherwise the file holds the
cleanly merged text (THIS / OTHER when only one side changed) and there are no
helpers and no record. -/
theorem merge_file_spec (o : Opts) (base this other : List Line) (regions : List Region)
    (h : FromInputs o.showBase base this other regions) (hopt : (o.showBase && o.reprocess) = false)
    (hbin : (isBinary base || isBinary other || isBinary this) = false)
    (ls : List Line) (hs : renderSpec o this regions = .ok ls) :
    mergeFile o base this other regions =
      match C18.threeWay (joinLines base) (joinLines other) (joinLines this) with
      | .this => .clean (joinLines this)
      | .other => .clean (joinLines other)
      | .conflict =>
        if regions.any Region.isConflict then
          .textConflict (joinLines ls) (joinLines base) (joinLines this) (joinLines other)
        else .clean (joinLines ls) := by
  unfold mergeFile
  rw [text_merge_spec o base this other regions h hopt, hs]
  cases C18.threeWay (joinLines base) (joinLines other) (joinLines this) <;> simp only [hbin]
  cases regions.any Region.isConflict <;> simp

/-- resolving a text conflict: the file gets the content of the chosen helper,
all helpers and the record are gone, the file id is on the file -/
theorem resolve_text (w : Side) (s s' : Slot) (h : resolveText w s = .ok s') :
    s'.file = s.helper w ∧ s'.file.isSome ∧ s'.hBase = none ∧ s'.hThis = none ∧ s'.hOther = none ∧
      s'.record = none ∧ s'.idOn = .item := by
  unfold resolveText at h
  split at h
  · cases h
  · rename_i c hc
    cases h; simp [hc]

/-- take-this after a recorded text conflict leaves exactly the THIS text … -/
theorem resolve_take_this (c b t x : Bytes) :
    (Outcome.textConflict c b t x).slot.map (resolveText .this) =
      some (.ok ⟨some t, none, none, none, none, .item⟩) := rfl

/-- … and take-other exactly the OTHER text; helpers and record removed. -/
theorem resolve_take_other (c b t x : Bytes) :
    (Outcome.textConflict c b t x).slot.map (resolveText .other) =
      some (.ok ⟨some x, none, none, none, none, .item⟩) := rfl

/-- end to end: merge, then take-this / take-other, for every input that produces a text conflict -/
theorem merge_then_resolve (o : Opts) (base this other : List Line) (regions : List Region)
    (c b t x : Bytes) (h : mergeFile o base this other regions = .textConflict c b t x) (w : Side) :
    (mergeFile o base this other regions).slot.map (resolveText w) =
      some (.ok ⟨some (match w with | .this => joinLines this | .other => joinLines other),
                 none, none, none, none, .item⟩) := by
  obtain ⟨_, h2, h3⟩ := helpers_exact o base this other regions c b t x h
  rw [h]; subst h2 h3
  cases w <;> rfl

/-- contents conflict (both sides present, e.g. binary): take-other works … -/
theorem resolve_contents_take_other (b t x : Bytes) :
    (Outcome.contentsConflict b t x).slot.map (resolveContents .other) =
      some ⟨some x, none, none, none, none, .item⟩ := rfl

/-- … and so does take-this (the file id is handed over to the helper that is
kept, step (2) of `resolveContents`): exactly the THIS content, no helpers, no record. -/
theorem resolve_contents_take_this (b t x : Bytes) :
    (Outcome.contentsConflict b t x).slot.map (resolveContents .this) =
      some ⟨some t, none, none, none, none, .item⟩ := rfl

/-! ### placement: the final path, the helper names and path-keyed resolution

All statements are over arbitrary locations (any directory identities, any
names — including names that themselves end in `.THIS` etc.) of the file in
BASE, THIS and OTHER. -/

/-- only OTHER renamed / moved the file: it ends at OTHER's location, no path conflict -/
theorem merge_loc_other_moved (b o : Loc) : mergeLoc (some b) b o = ⟨o, false⟩ := by
  obtain ⟨bp, bn⟩ := b; obtain ⟨op, on⟩ := o
  simp [mergeLoc, pickWinner_threeWay, C18.three_way_conflict_iff]

/-- only THIS renamed / moved the file: it stays at THIS's location, no path conflict -/
theorem merge_loc_this_moved (b t : Loc) : mergeLoc (some b) t b = ⟨t, false⟩ := by
  simp [mergeLoc, pickWinner_threeWay, C18.three_way_conflict_iff]

/-- both sides moved it to the same place (or both added it there) -/
theorem merge_loc_same_move (b : Option Loc) (t : Loc) : mergeLoc b t t = ⟨t, false⟩ := by
  simp [mergeLoc, pickWinner_threeWay, C18.three_way_conflict_iff]

/-- name and directory are merged independently; each comes from THIS or OTHER, and a path conflict is
reported exactly when one of the two attributes was changed differently by both sides -/
theorem merge_loc_components (b t o : Loc) :
    ((mergeLoc (some b) t o).final.name = t.name ∨ (mergeLoc (some b) t o).final.name = o.name) ∧
    ((mergeLoc (some b) t o).final.parent = t.parent ∨ (mergeLoc (some b) t o).final.parent = o.parent) ∧
    ((mergeLoc (some b) t o).pathConflict = true ↔
      (b.name ≠ o.name ∧ t.name ≠ b.name ∧ t.name ≠ o.name) ∨
      (b.parent ≠ o.parent ∧ t.parent ≠ b.parent ∧ t.parent ≠ o.parent)) := by
  simp only [mergeLoc, Option.map_some, pickWinner_threeWay, Bool.or_eq_true, decide_eq_true_eq,
    C18.three_way_conflict_iff, ne_eq, Option.some.injEq]
  refine ⟨?_, ?_, trivial⟩ <;> split <;> simp

/-- a file added by both sides (not in BASE): it ends at OTHER's location, and a path conflict is
reported exactly when the two sides put it under different names or into different directories -/
theorem merge_loc_added (t o : Loc) :
    (mergeLoc none t o).final = o ∧ ((mergeLoc none t o).pathConflict = true ↔ t ≠ o) := by
  obtain ⟨tp, tn⟩ := t; obtain ⟨op, on⟩ := o
  simp [mergeLoc, pickWinner_threeWay, C18.three_way_conflict_iff, Decidable.imp_iff_not_or, or_comm]

/-- **Where a text conflict goes.**  Whatever the three locations (or two, for a file added by both
sides): the record carries the merged (final) path, the marker file is there, the helper files are
`final.BASE` (iff the file is in BASE), `final.THIS`, `final.OTHER` in the same directory and hold
exactly the three texts, the file id stays on the file, and the entry leaves no file under any other
name. -/
theorem entry_text_conflict_placed (o : Opts) (base : Option (Loc × List Line)) (tl ol : Loc)
    (this other : List Line) (regions : List Region) (c b t x : Bytes)
    (h : mergeFileOpt o (base.map (·.2)) this other regions = .textConflict c b t x) :
    ∃ p, mergeEntry o base tl ol this other regions = some p ∧
      p.record = some (.text, (mergeLoc (base.map (·.1)) tl ol).final) ∧
      p.get (mergeLoc (base.map (·.1)) tl ol).final = some c ∧
      p.get ((mergeLoc (base.map (·.1)) tl ol).final.suffixed sfxBase) = base.map (fun b => joinLines b.2) ∧
      p.get ((mergeLoc (base.map (·.1)) tl ol).final.suffixed sfxThis) = some (joinLines this) ∧
      p.get ((mergeLoc (base.map (·.1)) tl ol).final.suffixed sfxOther) = some (joinLines other) ∧
      p.idAt = some (mergeLoc (base.map (·.1)) tl ol).final ∧
      ∀ f ∈ p.files, f.1 = (mergeLoc (base.map (·.1)) tl ol).final ∨
        f.1 = (mergeLoc (base.map (·.1)) tl ol).final.suffixed sfxBase ∨
        f.1 = (mergeLoc (base.map (·.1)) tl ol).final.suffixed sfxThis ∨
        f.1 = (mergeLoc (base.map (·.1)) tl ol).final.suffixed sfxOther := by
  obtain ⟨hb, ht, hx⟩ := helpers_exact_opt o _ this other regions c b t x h
  subst hb ht hx
  have he : mergeEntry o base tl ol this other regions =
      place (mergeLoc (base.map (·.1)) tl ol).final (mergeLoc (base.map (·.1)) tl ol).pathConflict base.isSome
        (.textConflict c (joinLines (baseLinesOf (base.map (·.2)))) (joinLines this) (joinLines other)) := by
    simp only [mergeEntry, h]
  refine ⟨_, he, rfl, ?_, ?_, ?_, ?_, rfl, ?_⟩
  · simp [Placed.get, lookupLoc]
  · cases base <;> simp [Placed.get, lookupLoc, optFile, baseLinesOf]
  · cases base <;> simp [Placed.get, lookupLoc, optFile]
  · cases base <;> simp [Placed.get, lookupLoc, optFile]
  · exact place_files _ _ _ _ _ he

/-- a clean merge leaves exactly one file, at the merged location -/
theorem entry_clean_placed (o : Opts) (base : Option (Loc × List Line)) (tl ol : Loc) (this other : List Line)
    (regions : List Region) (c : Bytes) (h : mergeFileOpt o (base.map (·.2)) this other regions = .clean c) :
    mergeEntry o base tl ol this other regions =
      some ⟨[((mergeLoc (base.map (·.1)) tl ol).final, c)], none, some (mergeLoc (base.map (·.1)) tl ol).final,
            (mergeLoc (base.map (·.1)) tl ol).pathConflict⟩ := by
  simp only [mergeEntry, h, place]

/-- **End to end with paths.**  For every input that produces a text conflict and every way the
file was renamed / moved on either side (or added by both): resolving the recorded conflict (by its
recorded path) with take-this / take-other leaves exactly one file, at the merged location, holding
exactly the THIS / OTHER text; all helper files and the record are gone. -/
theorem entry_merge_then_resolve (o : Opts) (base : Option (Loc × List Line)) (tl ol : Loc)
    (this other : List Line) (regions : List Region) (c b t x : Bytes)
    (h : mergeFileOpt o (base.map (·.2)) this other regions = .textConflict c b t x) (w : Side) :
    (mergeEntry o base tl ol this other regions).map (resolvePlaced w) =
      some (.ok ⟨[((mergeLoc (base.map (·.1)) tl ol).final,
                    match w with | .this => joinLines this | .other => joinLines other)],
                 none, some (mergeLoc (base.map (·.1)) tl ol).final,
                 (mergeLoc (base.map (·.1)) tl ol).pathConflict⟩) := by
  obtain ⟨_, rfl, rfl⟩ := helpers_exact_opt o _ this other regions c b t x h
  simp only [mergeEntry, h]
  exact resolvePlaced_text w _ _ _ c b _ _

/-- the same for a both-sides contents conflict (binary file) -/
theorem entry_contents_then_resolve (o : Opts) (base : Option (Loc × List Line)) (tl ol : Loc)
    (this other : List Line) (regions : List Region) (b t x : Bytes)
    (h : mergeFileOpt o (base.map (·.2)) this other regions = .contentsConflict b t x) (w : Side) :
    (mergeEntry o base tl ol this other regions).map (resolvePlaced w) =
      some (.ok ⟨[((mergeLoc (base.map (·.1)) tl ol).final, match w with | .this => t | .other => x)],
                 none, some (mergeLoc (base.map (·.1)) tl ol).final, false⟩) := by
  simp only [mergeEntry, h]
  exact resolvePlaced_contents w _ _ _ b t x

/-- for a file that is in BASE the entry-level content merge is `mergeFile`, so `merge_file_spec`,
`text_merge_spec`, `markers_written_iff` … describe what `mergeEntry` places -/
theorem entry_content_is_merge_file (o : Opts) (bl : Loc) (base this other : List Line) (regions : List Region) :
    mergeFileOpt o ((some (bl, base)).map (·.2)) this other regions = mergeFile o base this other regions :=
  mergeFileOpt_some o base this other regions

/-- a file added by both sides with different texts is text-merged against an empty BASE; a recorded
conflict then has no `.BASE` helper -/
theorem entry_added_no_base_helper (o : Opts) (tl ol : Loc) (this other : List Line) (regions : List Region)
    (p : Placed) (h : mergeEntry o none tl ol this other regions = some p) :
    p.get ((mergeLoc none tl ol).final.suffixed sfxBase) = none := by
  -- the `.BASE` slot of what a conflict at the final path sees is masked when the entry is not in BASE
  have hv := view_place _ _ _ _ p h
  simp only [Option.map_none, Option.isSome_none, Bool.false_eq_true, if_false] at hv
  obtain ⟨s, -, hs⟩ := Option.map_eq_some_iff.mp hv.symm
  exact (congrArg Slot.hBase hs).symm

/-- a rename on one side, concretely: BASE `1/f`, THIS edits, OTHER edits and renames to `1/g` -/
example :
    (mergeEntry ⟨false, false⟩ (some (⟨1, [102]⟩, [[97, 10]])) ⟨1, [102]⟩ ⟨1, [103]⟩ [[98, 10]] [[99, 10]]
        [.conflict none [[98, 10]] [[99, 10]]]).map (fun p => (p.record, p.files.map (·.1), resolvePlaced .this p)) =
      some (some (.text, ⟨1, [103]⟩),
            [⟨1, [103]⟩, ⟨1, [103, 46, 66, 65, 83, 69]⟩, ⟨1, [103, 46, 84, 72, 73, 83]⟩, ⟨1, [103, 46, 79, 84, 72, 69, 82]⟩],
            .ok ⟨[(⟨1, [103]⟩, [98, 10])], none, some ⟨1, [103]⟩, false⟩) := by
  decide +kernel

/-- added by both sides under different names: path conflict, OTHER's name, helpers `.THIS` / `.OTHER` only -/
example :
    (mergeEntry ⟨false, false⟩ none ⟨1, [102]⟩ ⟨1, [103]⟩ [[98, 10]] [[99, 10]]
        [.conflict none [[98, 10]] [[99, 10]]]).map (fun p => (p.record, p.files.map (·.1), p.pathConflict)) =
      some (some (.text, ⟨1, [103]⟩),
            [⟨1, [103]⟩, ⟨1, [103, 46, 84, 72, 73, 83]⟩, ⟨1, [103, 46, 79, 84, 72, 69, 82]⟩], true) := by
  decide +kernel

/-! non-vacuity of the hypotheses -/

example : FromInputs true [[97, 10], [98, 10]] [[97, 10], [66, 10]] [[97, 10], [88]]
    [.unchanged [[97, 10]], .conflict (some [[98, 10]]) [[66, 10]] [[88]]] := by
  decide +kernel
example :
    textMerge ⟨false, true⟩ [[97, 13, 10], [98, 10]] [[97, 13, 10], [66, 10]] [[97, 13, 10], [88]]
        [.unchanged [[97, 13, 10]], .conflict (some [[98, 10]]) [[66, 10]] [[88]]]
      = .ok ([[97, 13, 10], withName lt7 nameA ++ [13, 10], [66, 10], withName bar7 nameBase ++ [13, 10], [98, 10],
              eq7 ++ [13, 10], [88], withName gt7 nameB ++ [13, 10]], true) := by
  decide +kernel
example : mergeFile ⟨true, false⟩ [[97, 10]] [[98, 10]] [[99, 10]] [.conflict none [[98, 10]] [[99, 10]]]
    = .textConflict (withName lt7 nameA ++ [10] ++ [98, 10] ++ eq7 ++ [10] ++ [99, 10] ++ withName gt7 nameB ++ [10])
        [97, 10] [98, 10] [99, 10] := by
  decide +kernel
example : (isBinary [[97, 10]] || isBinary [[99, 10]] || isBinary [[98, 10]]) = false := by decide

/-- binary detection looks at whole lines until the 1024-byte window is full: a NUL in the line that
overflows the window still counts, a NUL after it does not -/
theorem binary_window (pre : List Line) (l : Line) (rest : List Line)
    (hp : ∀ x ∈ pre, x.contains 0 = false) (hfit : (pre.map List.length).sum ≤ 1024)
    (hover : (pre.map List.length).sum + l.length > 1024) :
    isBinary (pre ++ l :: rest) = l.contains 0 := by
  have key : ∀ (off : Nat) (pre : List Line), (∀ x ∈ pre, x.contains 0 = false) →
      off + (pre.map List.length).sum ≤ 1024 → off + (pre.map List.length).sum + l.length > 1024 →
      checkTextLines off (pre ++ l :: rest) = !l.contains 0 := by
    intro off pre
    induction pre generalizing off with
    | nil =>
      intro _ _ h2
      simp only [List.nil_append, checkTextLines]
      cases hl : l.contains 0 with
      | true => simp
      | false =>
        simp only [List.map_nil, List.sum_nil, Nat.add_zero] at h2
        simp [h2]
    | cons x xs ih =>
      intro h0 h1 h2
      have hx := h0 x (by simp)
      simp only [List.map_cons, List.sum_cons] at h1 h2
      simp only [List.cons_append, checkTextLines, hx, Bool.false_eq_true, if_false]
      have : ¬ (off + x.length > 1024) := by omega
      simp only [this, if_false]
      exact ih (off + x.length) (fun y hy => h0 y (by simp [hy])) (by omega) (by omega)
  have := key 0 pre hp (by simpa using hfit) (by simpa using hover)
  simp [isBinary, this]

/-- non-vacuity of `binary_window`: a 1000-byte line, then a 30-byte line that overflows the window -/
example : (∀ x ∈ [List.replicate 1000 (97 : UInt8)], x.contains 0 = false) ∧
    ([List.replicate 1000 (97 : UInt8)].map List.length).sum ≤ 1024 ∧
    ([List.replicate 1000 (97 : UInt8)].map List.length).sum + (List.replicate 30 (98 : UInt8)).length > 1024 := by
  refine ⟨?_, ?_, ?_⟩
  · intro x hx
    rw [List.mem_singleton] at hx
    subst hx
    cases h : (List.replicate 1000 (97 : UInt8)).contains 0 with
    | false => rfl
    | true =>
      rw [List.contains_iff_mem, List.mem_replicate] at h
      exact absurd h.2 (by decide)
  · simp only [List.map_cons, List.map_nil, List.length_replicate, List.sum_cons, List.sum_nil]; omega
  · simp only [List.map_cons, List.map_nil, List.length_replicate, List.sum_cons, List.sum_nil]; omega
/-- `markers_written_iff`: its hypothesis holds for ordinary texts and fails for a text that contains the marker line -/
example : ∀ l ∈ [[97, 10]] ++ [[99, 10]] ++ [[98, 10]], l ≠ withName lt7 nameA ++ newlineOf [[98, 10]] := by decide
example : ¬ ∀ l ∈ [[97, 10]] ++ [[99, 10]] ++ [withName lt7 nameA ++ [10]], l ≠ withName lt7 nameA ++ newlineOf [withName lt7 nameA ++ [10]] := by
  decide

end BreezyVerif.C19
