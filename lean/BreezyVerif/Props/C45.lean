import BreezyVerif.Lemmas.C45
/-!
C45 — theorems about the end-of-line filters.

All statements are for **every** byte string (no length bound, all 256 byte
values), every entry of `_eol_filter_stack_map` and both values of
`sys.platform == "win32"` (`win`).  "Canonical" is the property's notion:
content that its own reader leaves unchanged (`readIn stack c = c`).
"A freshly checked-out tree reports no changes" is, in the model, the equation
`reportsChange sha stack (sha c) (writeOut stack c) = false` for an abstract hash
function `sha` (the dirstate compares the SHA-1 of the read-converted file with
the recorded one; the SHA-1 function itself is a parameter): `checkout_clean`,
`checkout_dirty_iff`, `checkout_clean_binary`; it follows from the equation
`readIn stack (writeOut stack c) = c` (`roundtrip_iff`).
-/
namespace BreezyVerif.C45

theorem toLf_of_noNul {c : Bytes} (h : hasNul c = false) : toLf c = replCrlf c := by
  simp [toLf, h]

theorem toCrlf_of_noNul {c : Bytes} (h : hasNul c = false) : toCrlf c = subUnixNl false c := by
  simp [toCrlf, h]

theorem allCrLf_toCrlf {c : Bytes} (h : hasNul c = false) : allCrLf false (toCrlf c) = true := by
  rw [toCrlf_of_noNul h]
  exact allCrLf_subUnixNl false c

/-- LF reader, CRLF writer -/
theorem toLf_toCrlf (c : Bytes) (hn : hasNul c = false) (hc : toLf c = c) :
    toLf (toCrlf c) = c := by
  rw [toLf_of_noNul hn] at hc
  rw [toCrlf_of_noNul hn, toLf_of_noNul (by rw [hasNul_subUnixNl]; exact hn)]
  exact replCrlf_subUnixNl false c ((replCrlf_fix_iff c).1 hc)

/-- CRLF reader, LF writer: exactly the texts without `\r\r\n` come back -/
theorem toCrlf_toLf_iff (c : Bytes) (hn : hasNul c = false) (hc : toCrlf c = c) :
    toCrlf (toLf c) = c ↔ noCrCrLf false c = true := by
  rw [toCrlf_of_noNul hn] at hc
  rw [toLf_of_noNul hn, toCrlf_of_noNul (by rw [hasNul_replCrlf]; exact hn)]
  exact subUnixNl_replCrlf_iff false c ((subUnixNl_fix_iff false c).1 hc)

/-- **The CRLF reader always produces canonical content** (so whatever a
commit stores under a CRLF-in-repo setting is canonical). -/
theorem toCrlf_canonical (d : Bytes) : toCrlf (toCrlf d) = toCrlf d := by
  by_cases hn : hasNul d = true
  · simp [toCrlf, hn]
  · have hn' : hasNul d = false := by simpa using hn
    rw [toCrlf_of_noNul hn', toCrlf_of_noNul (by rw [hasNul_subUnixNl]; exact hn')]
    exact (subUnixNl_fix_iff false _).2 (allCrLf_subUnixNl false d)

/-- The LF reader does not: a working file `"\r\r\n"` is stored as `"\r\n"`,
which the same reader would change again (outside C45, which speaks about
canonical content only; reported as an observation). -/
theorem toLf_not_idempotent_witness : toLf (toLf [13, 13, 10]) ≠ toLf [13, 13, 10] := by decide +kernel

/-- the round trip through one filter with reader `r` and writer `w`, on text canonical for `r` -/
theorem roundtrip_conv (r w : Conv) (c : Bytes) (hn : hasNul c = false) (hc : r.fn c = c) :
    r.fn (w.fn c) = c ↔ (r = .toCrlf ∧ w = .toLf → noCrCrLf false c = true) := by
  cases r <;> cases w <;> simp only [Conv.fn] at hc ⊢
  · simp [hc]
  · simp [toLf_toCrlf c hn hc]
  · simpa using toCrlf_toLf_iff c hn hc
  · simp [hc]

/-- **Exact characterisation of the round trip.**  For every entry of the
table, on both platforms, and every canonical text without NUL: writing the
text to the working tree and reading it back gives the same text *iff* it is
not the case that the setting stores CRLF but writes LF (`lossy`) and the text
contains `\r\r\n`. -/
theorem roundtrip_iff (win : Bool) (name : String) (stack : List Filter)
    (h : (name, stack) ∈ eolMap win) (c : Bytes) (hn : hasNul c = false)
    (hc : readIn stack c = c) :
    readIn stack (writeOut stack c) = c ↔ (lossy stack = true → noCrCrLf false c = true) := by
  rcases eolMap_stack h with rfl | ⟨r, w, rfl⟩
  · simp [readIn, writeOut, inputFile, outputBytes, lossy]
  · rw [readIn_single] at hc
    simpa [readIn_single, writeOut_single, lossy] using roundtrip_conv r w c hn hc

/-- **LF-in-repo settings (and `exact`)**: every canonical text round-trips. -/
theorem roundtrip_lf_repo (win : Bool) (name : String) (stack : List Filter)
    (h : (name, stack) ∈ eolMap win) (hlf : stack.all (·.reader = some .toLf) = true)
    (c : Bytes) (hn : hasNul c = false) (hc : readIn stack c = c) :
    readIn stack (writeOut stack c) = c := by
  rw [roundtrip_iff win name stack h c hn hc]
  intro hl
  -- a lossy stack has a filter that reads CRLF
  obtain ⟨f, hf, hfl⟩ := List.any_eq_true.mp hl
  have := List.all_eq_true.mp hlf f hf
  simp_all

/-- non-vacuity: `crlf` is an LF-in-repo entry and `"a\nb\r"` is canonical for it -/
example : ("crlf", [⟨some .toLf, some .toCrlf⟩]) ∈ eolMap false
    ∧ ([⟨some Conv.toLf, some Conv.toCrlf⟩] : List Filter).all (·.reader = some .toLf) = true
    ∧ hasNul [97, 10, 98, 13] = false
    ∧ readIn [⟨some .toLf, some .toCrlf⟩] [97, 10, 98, 13] = [97, 10, 98, 13]
    ∧ writeOut [⟨some .toLf, some .toCrlf⟩] [97, 10, 98, 13] = [97, 13, 10, 98, 13] := by decide +kernel

/-- **CRLF-in-repo settings (indeed every setting)** — partial: the canonical
text must not contain `\r\r\n`.  What is missing is exactly the family of
`crlf_repo_witness` (`roundtrip_iff` shows the hypothesis is necessary for the
settings that store CRLF and write LF). -/
theorem roundtrip_crlf_repo_partial (win : Bool) (name : String) (stack : List Filter)
    (h : (name, stack) ∈ eolMap win)
    (c : Bytes) (hn : hasNul c = false) (hc : readIn stack c = c)
    (hx : noCrCrLf false c = true) :
    readIn stack (writeOut stack c) = c :=
  (roundtrip_iff win name stack h c hn hc).2 (fun _ => hx)

/-- non-vacuity: `"a\r\nb\r"` satisfies all hypotheses for `lf-with-crlf-in-repo` -/
example : ("lf-with-crlf-in-repo", [⟨some .toCrlf, some .toLf⟩]) ∈ eolMap false
    ∧ hasNul [97, 13, 10, 98, 13] = false
    ∧ readIn [⟨some .toCrlf, some .toLf⟩] [97, 13, 10, 98, 13] = [97, 13, 10, 98, 13]
    ∧ noCrCrLf false [97, 13, 10, 98, 13] = true
    ∧ writeOut [⟨some .toCrlf, some .toLf⟩] [97, 13, 10, 98, 13] = [97, 10, 98, 13] := by decide +kernel

/-- **Witness (finding F9).**  `"a\r\r\n"` has no NUL and is canonical for
`lf-with-crlf-in-repo` (and for `native-with-crlf-in-repo` off Windows), is
written to the working tree as `"a\r\n"` and read back as `"a\r\n"`. -/
theorem crlf_repo_witness :
    let c : Bytes := [97, 13, 13, 10]
    ∀ name ∈ ["lf-with-crlf-in-repo", "native-with-crlf-in-repo"],
      ∃ stack, eolLookup false name = some stack ∧ hasNul c = false ∧ readIn stack c = c ∧
        writeOut stack c = [97, 13, 10] ∧ readIn stack (writeOut stack c) = [97, 13, 10] ∧
        readIn stack (writeOut stack c) ≠ c := by
  decide +kernel

/-- the writer of the stack, if it has exactly one filter with a writer -/
def writerOf : List Filter → Option Conv
  | [f] => f.writer
  | _ => none

/-- **Settings that write CRLF** (`crlf`, `crlf-with-crlf-in-repo`, and the
`native` ones on win32): whatever text is checked out, every `\n` in the
working tree follows a `\r`. -/
theorem crlf_settings_write_crlf (win : Bool) (name : String) (stack : List Filter)
    (h : (name, stack) ∈ eolMap win)
    (hname : name = "crlf" ∨ name = "crlf-with-crlf-in-repo" ∨
      (win = true ∧ (name = "native" ∨ name = "native-with-crlf-in-repo")))
    (c : Bytes) (hn : hasNul c = false) :
    writerOf stack = some .toCrlf ∧ allCrLf false (writeOut stack c) = true := by
  rcases hname with rfl | rfl | ⟨rfl, rfl | rfl⟩
  all_goals
    simp [eolMap, nativeOutput] at h
    subst h
    simpa [writerOf, writeOut_single, Conv.fn] using allCrLf_toCrlf hn

/-- **`*-with-crlf-in-repo` settings store CRLF**: whatever text is in the
working tree, every `\n` of what is read (and committed) follows a `\r`. -/
theorem crlf_repo_settings_store_crlf (win : Bool) (name : String) (stack : List Filter)
    (h : (name, stack) ∈ eolMap win)
    (hname : name = "native-with-crlf-in-repo" ∨ name = "lf-with-crlf-in-repo" ∨
      name = "crlf-with-crlf-in-repo")
    (d : Bytes) (hn : hasNul d = false) :
    allCrLf false (readIn stack d) = true := by
  rcases hname with rfl | rfl | rfl
  all_goals
    simp [eolMap] at h
    subst h
    simpa [readIn_single, Conv.fn] using allCrLf_toCrlf hn

/-- **Settings that write LF** (`lf`, `lf-with-crlf-in-repo`, and the `native`
ones off win32): a canonical text without `\r\r\n` is checked out without any
`\r\n`. -/
theorem lf_settings_write_lf (win : Bool) (name : String) (stack : List Filter)
    (h : (name, stack) ∈ eolMap win)
    (hname : name = "lf" ∨ name = "lf-with-crlf-in-repo" ∨
      (win = false ∧ (name = "native" ∨ name = "native-with-crlf-in-repo")))
    (c : Bytes) (hn : hasNul c = false) (hc : readIn stack c = c) (hx : noCrCrLf false c = true) :
    writerOf stack = some .toLf ∧ noCrLf false (writeOut stack c) = true := by
  have lfrepo : toLf c = c → noCrLf false (toLf c) = true := by
    intro e; rw [e]; rw [toLf_of_noNul hn] at e; exact (replCrlf_fix_iff c).1 e
  have crlfrepo : toCrlf c = c → noCrLf false (toLf c) = true := by
    intro e
    rw [toCrlf_of_noNul hn] at e
    rw [toLf_of_noNul hn]
    exact noCrLf_replCrlf false c ((subUnixNl_fix_iff false c).1 e) hx (by simp)
  rcases hname with rfl | rfl | ⟨rfl, rfl | rfl⟩
  all_goals
    simp [eolMap, nativeOutput] at h
    subst h
    rw [readIn_single] at hc
    simp_all [writerOf, writeOut_single, Conv.fn]

/-- non-vacuity for `lf_settings_write_lf` -/
example : ("lf-with-crlf-in-repo", [⟨some .toCrlf, some .toLf⟩]) ∈ eolMap true
    ∧ readIn [⟨some .toCrlf, some .toLf⟩] [97, 13, 10, 13] = [97, 13, 10, 13]
    ∧ noCrCrLf false [97, 13, 10, 13] = true
    ∧ writeOut [⟨some .toCrlf, some .toLf⟩] [97, 13, 10, 13] = [97, 10, 13] := by decide +kernel

/-- **Binary content is never converted**, by any setting, in either
direction, whatever the chunking. -/
theorem binary_untouched (win : Bool) (name : String) (stack : List Filter)
    (h : (name, stack) ∈ eolMap win) (chunks : List Bytes) (hn : hasNul chunks.flatten = true) :
    (outputBytes chunks stack).flatten = chunks.flatten ∧
    inputFile chunks.flatten stack = chunks.flatten := by
  rcases eolMap_stack h with rfl | ⟨r, w, rfl⟩
  · simp [inputFile, outputBytes]
  · simp [outputBytes_single, inputFile, Conv.apply, Conv.fn_of_hasNul _ hn]

/-- `exact` has no filter: chunks pass through untouched in both directions -/
theorem exact_identity (win : Bool) (chunks : List Bytes) (c : Bytes) :
    eolLookup win "exact" = some [] ∧ outputBytes chunks [] = chunks ∧ inputFile c [] = c := by
  cases win <;> simp [eolLookup, eolMap, outputBytes, inputFile]

/-- the converters only see the joined content: chunking is irrelevant -/
theorem output_chunking (stack : List Filter) (chunks chunks' : List Bytes)
    (h : chunks.flatten = chunks'.flatten) :
    (outputBytes chunks stack).flatten = (outputBytes chunks' stack).flatten := by
  unfold outputBytes
  generalize stack.reverse = l
  induction l generalizing chunks chunks' with
  | nil => simpa using h
  | cons f r ih =>
    simp only [List.foldl_cons]
    cases f.writer with
    | none => exact ih _ _ h
    | some w => apply ih; simp [Conv.apply, h]

/-- **Proposed repair.**  With the guarded LF writer
(`(?<!\r)\r\n` ↦ `\n`) the CRLF-in-repo settings round-trip every canonical
text, `\r\r\n` included. -/
theorem roundtrip_crlf_repo_fixed (c : Bytes) (hc : toCrlf c = c) :
    toCrlf (toLfGuarded c) = c := by
  by_cases hn : hasNul c = true
  · simp [toLfGuarded, toCrlf, hn]
  · have hn' : hasNul c = false := by simpa using hn
    rw [toCrlf_of_noNul hn'] at hc
    have h2 : hasNul (replCrlfGuarded false c) = false := by
      rw [hasNul_replCrlfGuarded]; exact hn'
    simp only [toLfGuarded, hn', Bool.false_eq_true, if_false]
    rw [toCrlf_of_noNul h2]
    exact subUnixNl_replCrlfGuarded false c ((subUnixNl_fix_iff false c).1 hc)

/-! ### the filtered SHA-1 provider, `FilteredStat`, and "reports no changes"

`ContentFilterAwareSHA1Provider.sha1` / `.stat_and_sha1` hash
`hashedText stack disk` and report `statSize stack disk`; the dirstate reports
a file as modified iff that hash differs from the recorded one
(`reportsChange`, for an *abstract* hash function `sha : Bytes → H`). -/

/-- **A file is empty iff its conversion is empty**, for every entry of the
table on both platforms: `FilteredStat`'s `st_size or base.st_size` (a filtered
size of 0 falls back to the size on disk) can therefore never pick a wrong size. -/
theorem filtered_size_zero_iff (win : Bool) (name : String) (stack : List Filter)
    (h : (name, stack) ∈ eolMap win) (d : Bytes) :
    readIn stack d = [] ↔ d = [] := by
  rcases eolMap_stack h with rfl | ⟨r, w, rfl⟩
  · rw [readIn_nil]
  · rw [readIn_single, Conv.fn_eq_nil]

/-- **`stat_and_sha1` reports the canonical size and hashes the canonical
text**, for every entry of the table, both platforms and every file content:
the `st_size` is the length of the read-converted file (the `or` fallback of
`FilteredStat` included) and the hashed text is the read-converted file. -/
theorem stat_size_canonical (win : Bool) (name : String) (stack : List Filter)
    (h : (name, stack) ∈ eolMap win) (d : Bytes) :
    statSize stack d = (readIn stack d).length ∧ hashedText stack d = readIn stack d := by
  refine ⟨?_, hashedText_eq stack d⟩
  unfold statSize filteredStatSize
  split
  · next he => rw [List.isEmpty_iff.mp he, readIn_nil]
  · split
    · next h0 =>
      -- a filtered size of 0 falls back to the disk size, which is then 0 as well
      have hnil := List.eq_nil_of_length_eq_zero h0
      rw [hnil, (filtered_size_zero_iff win name stack h d).1 hnil]
    · rfl

/-- `FilteredStat` really falls back: a stack whose reader could empty a file
would report the disk size — no table entry has such a reader
(`filtered_size_zero_iff`), this only shows the modelled `or` is not vacuous. -/
example : filteredStatSize 0 7 = 7 ∧ filteredStatSize 5 7 = 5
    ∧ statSize [⟨some .toLf, some .toCrlf⟩] [97, 13, 10] = 2
    ∧ statSize [] [97, 13, 10] = 3 ∧ statSize [⟨some .toLf, some .toCrlf⟩] [] = 0 := by decide +kernel

/-- **A fresh checkout reports no changes** (abstract hash).  For every hash
function, every entry of the table, both platforms and every canonical text `c`
without NUL (without `\r\r\n` if the setting stores CRLF and writes LF): the
file written by the checkout hashes to the recorded hash of `c`, i.e. the
dirstate does not report it as modified; and `stat_and_sha1` reports the
canonical size `len(c)`. -/
theorem checkout_clean {H : Type} [DecidableEq H] (sha : Bytes → H)
    (win : Bool) (name : String) (stack : List Filter) (h : (name, stack) ∈ eolMap win)
    (c : Bytes) (hn : hasNul c = false) (hc : readIn stack c = c)
    (hx : lossy stack = true → noCrCrLf false c = true) :
    reportsChange sha stack (sha c) (writeOut stack c) = false ∧
    statSize stack (writeOut stack c) = c.length := by
  have rt := (roundtrip_iff win name stack h c hn hc).2 hx
  refine ⟨?_, ?_⟩
  · simp [reportsChange, hashedText_eq, rt]
  · rw [(stat_size_canonical win name stack h _).1, rt]

/-- non-vacuity of `checkout_clean`: `native-with-crlf-in-repo` is lossy off
win32, `"a\r\nb\r"` satisfies every hypothesis and is checked out as `"a\nb\r"` -/
example : ("native-with-crlf-in-repo", [⟨some .toCrlf, some .toLf⟩]) ∈ eolMap false
    ∧ lossy [⟨some .toCrlf, some .toLf⟩] = true
    ∧ hasNul [97, 13, 10, 98, 13] = false
    ∧ readIn [⟨some .toCrlf, some .toLf⟩] [97, 13, 10, 98, 13] = [97, 13, 10, 98, 13]
    ∧ noCrCrLf false [97, 13, 10, 98, 13] = true
    ∧ writeOut [⟨some .toCrlf, some .toLf⟩] [97, 13, 10, 98, 13] = [97, 10, 98, 13]
    ∧ reportsChange id [⟨some .toCrlf, some .toLf⟩] [97, 13, 10, 98, 13] [97, 10, 98, 13] = false
    ∧ reportsChange id [⟨some .toCrlf, some .toLf⟩] [97, 13, 10, 98, 13] [97, 98, 13] = true := by
  decide +kernel

/-- **Exactly the lossy family is reported as modified.**  If the hash
separates the two texts involved (the recorded `c` and what the written file
reads back as), the fresh checkout of a canonical text without NUL reports a
change iff the setting stores CRLF but writes LF and the text contains
`\r\r\n`. -/
theorem checkout_dirty_iff {H : Type} [DecidableEq H] (sha : Bytes → H)
    (win : Bool) (name : String) (stack : List Filter) (h : (name, stack) ∈ eolMap win)
    (c : Bytes) (hn : hasNul c = false) (hc : readIn stack c = c)
    (hinj : sha (readIn stack (writeOut stack c)) = sha c → readIn stack (writeOut stack c) = c) :
    reportsChange sha stack (sha c) (writeOut stack c) = true ↔
      (lossy stack = true ∧ noCrCrLf false c = false) := by
  have rt := roundtrip_iff win name stack h c hn hc
  have hs : sha (readIn stack (writeOut stack c)) = sha c ↔ readIn stack (writeOut stack c) = c :=
    ⟨hinj, congrArg sha⟩
  simp only [reportsChange, hashedText_eq, bne_iff_ne, ne_eq, hs, rt]
  cases lossy stack <;> cases noCrCrLf false c <;> simp

/-- **Witness on the checkout level** (the finding, family crlf-repo-cr-cr-lf):
for every hash that separates `"a\r\n"` from `"a\r\r\n"`, the fresh checkout of
the canonical text `"a\r\r\n"` under `lf-with-crlf-in-repo` (and
`native-with-crlf-in-repo` off win32) is reported as modified. -/
theorem checkout_dirty_witness {H : Type} [DecidableEq H] (sha : Bytes → H)
    (hsep : sha [97, 13, 10] ≠ sha [97, 13, 13, 10]) :
    let c : Bytes := [97, 13, 13, 10]
    ∀ name ∈ ["lf-with-crlf-in-repo", "native-with-crlf-in-repo"],
      ∃ stack, eolLookup false name = some stack ∧ hasNul c = false ∧ readIn stack c = c ∧
        reportsChange sha stack (sha c) (writeOut stack c) = true := by
  intro c name hname
  refine ⟨[⟨some .toCrlf, some .toLf⟩], ?_, by decide +kernel, by decide +kernel, ?_⟩
  · simp only [List.mem_cons, List.mem_nil_iff, or_false] at hname
    rcases hname with rfl | rfl <;> decide +kernel
  · have e : hashedText [⟨some .toCrlf, some .toLf⟩] (writeOut [⟨some .toCrlf, some .toLf⟩] c)
        = [97, 13, 10] := by decide +kernel
    simp only [reportsChange, e, bne_iff_ne, ne_eq]
    exact hsep

/-- the identity "hash" separates the two texts: the hypothesis of
`checkout_dirty_witness` is satisfiable -/
example : (id : Bytes → Bytes) [97, 13, 10] ≠ id [97, 13, 13, 10] := by decide +kernel

/-- **Binary content is never reported as modified**: content with NUL is
written to the tree unchanged by every setting on both platforms, hashes to the
recorded hash (any hash function) and is reported with its own size. -/
theorem checkout_clean_binary {H : Type} [DecidableEq H] (sha : Bytes → H)
    (win : Bool) (name : String) (stack : List Filter) (h : (name, stack) ∈ eolMap win)
    (c : Bytes) (hn : hasNul c = true) :
    writeOut stack c = c ∧ reportsChange sha stack (sha c) (writeOut stack c) = false ∧
    statSize stack (writeOut stack c) = c.length := by
  have hb := binary_untouched win name stack h [c] (by simpa using hn)
  simp only [List.flatten_cons, List.flatten_nil, List.append_nil] at hb
  have hw : writeOut stack c = c := hb.1
  have hr : readIn stack c = c := hb.2
  refine ⟨hw, ?_, ?_⟩
  · simp [reportsChange, hashedText_eq, hw, hr]
  · rw [hw, (stat_size_canonical win name stack h c).1, hr]

/-- non-vacuity: `"a\r\n\0"` under `crlf` -/
example : ("crlf", [⟨some .toLf, some .toCrlf⟩]) ∈ eolMap true ∧ hasNul [97, 13, 10, 0] = true
    ∧ writeOut [⟨some .toLf, some .toCrlf⟩] [97, 13, 10, 0] = [97, 13, 10, 0] := by decide +kernel

/-- **A path without an `eol` preference** (no rule matches, or the section
does not set `eol`) gets the empty stack: nothing is converted, the file itself
is hashed and its own size reported, and a fresh checkout never reports a change. -/
theorem unset_pref_exact {H : Type} [DecidableEq H] (sha : Bytes → H) (win : Bool) (c : Bytes) :
    prefStack win none = some [] ∧ prefStack win (some "exact") = some [] ∧
    writeOut [] c = c ∧ hashedText [] c = c ∧ statSize [] c = c.length ∧
    reportsChange sha [] (sha c) (writeOut [] c) = false := by
  cases win <;>
    simp [prefStack, eolLookup, eolMap, writeOut, outputBytes, hashedText, statSize, reportsChange]

/-- a known key gets the table's stack, an unknown one is an error -/
theorem prefStack_some (win : Bool) (key : String) : prefStack win (some key) = eolLookup win key := rfl

/-! ### every comparison route, and the "sizes differ ⇒ contents differ" shortcut

The dirstate fast path (`reportsChange`) and the generic tree comparison
(`contentMatches`, `InterTree.file_content_matches` behind
`InterInventoryTree.iter_changes`: `extra_trees` given, the other tree not a
dirstate parent, `status -r` / `diff -r`) must take the same decision.  The
code has no size shortcut (`SizeCheck.off`); the theorems below say which size
such a shortcut may look at. -/

/-- **Both routes take the same decision**, for every hash function, stack,
recorded size / hash and file content. -/
theorem generic_path_agrees {H : Type} [DecidableEq H] (sha : Bytes → H) (stack : List Filter)
    (recSize : Nat) (recorded : H) (disk : Bytes) :
    contentMatches sha .off stack recSize recorded disk = !reportsChange sha stack recorded disk := by
  simp only [contentMatches, targetSize, reportsChange, bne, Bool.not_not]

/-- **A fresh checkout reports no changes through every route**: under the
hypotheses of `checkout_clean`, the dirstate route, the generic route without
a size shortcut and the generic route with a shortcut on the *filtered* size
all say "unchanged". -/
theorem checkout_clean_every_route {H : Type} [DecidableEq H] (sha : Bytes → H)
    (win : Bool) (name : String) (stack : List Filter) (h : (name, stack) ∈ eolMap win)
    (c : Bytes) (hn : hasNul c = false) (hc : readIn stack c = c)
    (hx : lossy stack = true → noCrCrLf false c = true) :
    reportsChange sha stack (sha c) (writeOut stack c) = false ∧
    contentMatches sha .off stack c.length (sha c) (writeOut stack c) = true ∧
    contentMatches sha .filtered stack c.length (sha c) (writeOut stack c) = true := by
  obtain ⟨h1, h2⟩ := checkout_clean sha win name stack h c hn hc hx
  have rt := (roundtrip_iff win name stack h c hn hc).2 hx
  refine ⟨h1, ?_, ?_⟩
  · simp [contentMatches, targetSize, hashedText_eq, rt]
  · simp [contentMatches, targetSize, hashedText_eq, rt, h2]

/-- **A size shortcut is sound against the FILTERED size**: for every entry
of the table, both platforms, every recorded text `c` and every file content
`d` (fresh or modified), comparing `FilteredStat`'s size with the recorded
size first never changes the decision — provided equal hashes imply equal
lengths for the two texts involved (true for every collision-free pair). -/
theorem size_check_filtered_sound {H : Type} [DecidableEq H] (sha : Bytes → H)
    (win : Bool) (name : String) (stack : List Filter) (h : (name, stack) ∈ eolMap win)
    (c d : Bytes)
    (hlen : sha (readIn stack d) = sha c → (readIn stack d).length = c.length) :
    contentMatches sha .filtered stack c.length (sha c) d =
      contentMatches sha .off stack c.length (sha c) d := by
  have hs := (stat_size_canonical win name stack h d).1
  simp only [contentMatches, targetSize, hs, hashedText_eq]
  split
  · next hne =>
    have hne' : (readIn stack d).length ≠ c.length := by simpa using hne
    exact (beq_eq_false_iff_ne.mpr fun e => hne' (hlen e)).symm
  · rfl

/-- non-vacuity: the identity "hash" satisfies `hlen`, and the filtered size
of the `crlf` checkout `"a\r\n"` of `"a\n"` is the recorded size 2 -/
example : ((id : Bytes → Bytes) (readIn [⟨some .toLf, some .toCrlf⟩] [97, 13, 10]) = id [97, 10] →
      (readIn [⟨some .toLf, some .toCrlf⟩] [97, 13, 10]).length = ([97, 10] : Bytes).length)
    ∧ targetSize [⟨some .toLf, some .toCrlf⟩] [97, 13, 10] .filtered = some 2
    ∧ targetSize [⟨some .toLf, some .toCrlf⟩] [97, 13, 10] .raw = some 3
    ∧ contentMatches id .filtered [⟨some .toLf, some .toCrlf⟩] 2 [97, 10] [97, 13, 10] = true
    ∧ contentMatches id .filtered [⟨some .toLf, some .toCrlf⟩] 2 [97, 10] [98, 13, 10] = false := by
  decide +kernel

/-- for every entry of the table the checkout has the length of the text exactly when it is the text -/
theorem length_writeOut_eq_iff (win : Bool) (name : String) (stack : List Filter)
    (h : (name, stack) ∈ eolMap win) (c : Bytes) :
    (writeOut stack c).length = c.length ↔ writeOut stack c = c := by
  rcases eolMap_stack h with rfl | ⟨r, w, rfl⟩
  · simp [writeOut, outputBytes]
  · rw [writeOut_single, length_conv_eq_iff]

/-- **A size shortcut on the RAW disk size is unsound — exactly on the
converted files.**  For every hash function, every entry of the table, both
platforms and every canonical text without NUL (without `\r\r\n` for the lossy
settings): comparing the `os.lstat` size of the freshly checked-out file with
the recorded size reports the file as different *iff* the setting's writer
changed the text at all. -/
theorem size_check_raw_dirty_iff {H : Type} [DecidableEq H] (sha : Bytes → H)
    (win : Bool) (name : String) (stack : List Filter) (h : (name, stack) ∈ eolMap win)
    (c : Bytes) (hn : hasNul c = false) (hc : readIn stack c = c)
    (hx : lossy stack = true → noCrCrLf false c = true) :
    contentMatches sha .raw stack c.length (sha c) (writeOut stack c) = false ↔
      writeOut stack c ≠ c := by
  have rt := (roundtrip_iff win name stack h c hn hc).2 hx
  have hl := length_writeOut_eq_iff win name stack h c
  simp [contentMatches, targetSize, hashedText_eq, rt, ← hl]

/-- non-vacuity of `size_check_raw_dirty_iff`: `"a\nb\r"` under `crlf` satisfies the hypotheses and is converted -/
example : ("crlf", [⟨some .toLf, some .toCrlf⟩]) ∈ eolMap false
    ∧ hasNul [97, 10, 98, 13] = false
    ∧ readIn [⟨some .toLf, some .toCrlf⟩] [97, 10, 98, 13] = [97, 10, 98, 13]
    ∧ lossy [⟨some .toLf, some .toCrlf⟩] = false
    ∧ writeOut [⟨some .toLf, some .toCrlf⟩] [97, 10, 98, 13] ≠ [97, 10, 98, 13] := by decide +kernel

/-- **Witness**: for *every* hash function, the fresh checkout of the canonical
text `"a\n"` under `crlf` (both platforms) is the 3-byte file `"a\r\n"`; a
shortcut on the raw size says "different", the comparison without shortcut and
the one on the filtered size say "same". -/
theorem size_check_raw_witness {H : Type} [DecidableEq H] (sha : Bytes → H) (win : Bool) :
    let c : Bytes := [97, 10]
    ∃ stack, eolLookup win "crlf" = some stack ∧ hasNul c = false ∧ readIn stack c = c ∧
      writeOut stack c = [97, 13, 10] ∧
      contentMatches sha .raw stack c.length (sha c) (writeOut stack c) = false ∧
      contentMatches sha .off stack c.length (sha c) (writeOut stack c) = true ∧
      contentMatches sha .filtered stack c.length (sha c) (writeOut stack c) = true := by
  intro c
  have e : writeOut [⟨some .toLf, some .toCrlf⟩] c = [97, 13, 10] := by decide +kernel
  have r : hashedText [⟨some .toLf, some .toCrlf⟩] [97, 13, 10] = c := by decide +kernel
  have s : statSize [⟨some .toLf, some .toCrlf⟩] [97, 13, 10] = 2 := by decide +kernel
  refine ⟨[⟨some .toLf, some .toCrlf⟩], by cases win <;> decide +kernel, by decide +kernel, by decide +kernel, e, ?_, ?_, ?_⟩
  · simp [contentMatches, targetSize, e, c]
  · simp [contentMatches, targetSize, e, r]
  · simp [contentMatches, targetSize, e, r, s, c]

/-- the same for the CRLF-in-repo settings that write LF off win32: `"a\r\n"` is checked out as `"a\n"` -/
theorem size_check_raw_witness_crlf_repo {H : Type} [DecidableEq H] (sha : Bytes → H) :
    let c : Bytes := [97, 13, 10]
    ∀ name ∈ ["lf-with-crlf-in-repo", "native-with-crlf-in-repo"],
      ∃ stack, eolLookup false name = some stack ∧ hasNul c = false ∧ readIn stack c = c ∧
        writeOut stack c = [97, 10] ∧
        contentMatches sha .raw stack c.length (sha c) (writeOut stack c) = false ∧
        contentMatches sha .off stack c.length (sha c) (writeOut stack c) = true := by
  intro c name hname
  have e : writeOut [⟨some .toCrlf, some .toLf⟩] c = [97, 10] := by decide +kernel
  have r : hashedText [⟨some .toCrlf, some .toLf⟩] [97, 10] = c := by decide +kernel
  refine ⟨[⟨some .toCrlf, some .toLf⟩], ?_, by decide +kernel, by decide +kernel, e, ?_, ?_⟩
  · simp only [List.mem_cons, List.mem_nil_iff, or_false] at hname
    rcases hname with rfl | rfl <;> decide +kernel
  · simp [contentMatches, targetSize, e, c]
  · simp [contentMatches, targetSize, e, r]

end BreezyVerif.C45
