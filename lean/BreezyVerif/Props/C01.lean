import BreezyVerif.Props.C10
import BreezyVerif.Lemmas.C01
import BreezyVerif.Lemmas.C01Path
import BreezyVerif.Lemmas.C01Closure
import BreezyVerif.Lemmas.C01Pipe
/-!
C01 — a commit records exactly the selected working-tree state: theorems about
the three models of `Model/C01.lean` (inventory trees in id space, git trees in
path space, the pipeline over a write group with a fault at any point), for all
trees, selections, exclusion lists and id lists — no bound on sizes.  Where the
code does not satisfy the statement the part that holds is proved (`…_partial`)
and the rest is shown by a witness (`…_witness`).
-/
namespace BreezyVerif.C01
open BreezyVerif.C10

/-- the committed inventory, extensionally: ids of the change stream carry the
effective working entry (absent when unversioned or missing), all other ids
keep their basis entry -/
theorem commitTree_get (basis eff : Tree) (S : List Id) (i : Id) :
    get (commitTree basis eff S) i = if i ∈ S then get eff i else get basis i :=
  get_commitTree eff S basis i

theorem commitFrom_ok {v : Validation} {basis : Tree} {w : WT} {S : List Id} {r : Result}
    (h : commitFrom v basis w S = .ok r) :
    valid v (commitTree basis (effective w) S) S = true ∧
    deltaConsistent (commitTree basis (effective w) S) w S = true ∧ r.ids = S ∧
    r.tree = commitTree basis (effective w) S ∧
    r.wt.inv = (w.inv.filter fun x => !(w.missing.contains x.1 && S.contains x.1)) ∧
    r.wt.missing = (w.missing.filter fun i => !S.contains i) := by
  unfold commitFrom at h
  simp only at h
  split at h
  · rename_i hw
    injection h with h
    subst h
    rw [Bool.and_eq_true] at hw
    exact ⟨hw.1, hw.2, rfl, rfl, rfl, rfl⟩
  · split at h <;> cases h

/-- **selected**: every id that reached `record_iter_changes` has its working
entry in the new revision -/
theorem commit_selected {v : Validation} {basis : Tree} {w : WT} {S : List Id} {r : Result}
    (h : commitFrom v basis w S = .ok r) {i : Id} (hi : i ∈ S) :
    get r.tree i = get (effective w) i := by
  obtain ⟨_, _, _, ht, _, _⟩ := commitFrom_ok h
  rw [ht, commitTree_get]; simp [hi]

/-- **nothing else**: every other id keeps its basis entry -/
theorem commit_unselected {v : Validation} {basis : Tree} {w : WT} {S : List Id} {r : Result}
    (h : commitFrom v basis w S = .ok r) {i : Id} (hi : i ∉ S) :
    get r.tree i = get basis i := by
  obtain ⟨_, _, _, ht, _, _⟩ := commitFrom_ok h
  rw [ht, commitTree_get]; simp [hi]

/-- a commit that succeeds recorded a well-formed inventory (the validation of
`add_inventory_by_delta`), for exactly the ids of the change stream -/
theorem commit_wf {basis : Tree} {w : WT} {S : List Id} {r : Result}
    (h : commitFrom .strict basis w S = .ok r) : wf r.tree = true ∧ r.ids = S := by
  obtain ⟨hw, _, hi, ht, _, _⟩ := commitFrom_ok h
  exact ⟨ht ▸ hw, hi⟩

/-- with the validation as found (`lax`) only the weaker `wfLax` is guaranteed
— *partial*: see `excluded_child_corrupt_witness` for an accepted ill-formed
result -/
theorem commit_wf_lax_partial {basis : Tree} {w : WT} {S : List Id} {r : Result}
    (h : commitFrom .lax basis w S = .ok r) : wfLax r.tree S = true ∧ r.ids = S := by
  obtain ⟨hw, _, hi, ht, _, _⟩ := commitFrom_ok h
  exact ⟨ht ▸ hw, hi⟩

/-- every recorded entry sits at its working-tree path in the new revision
(renames of unrecorded ancestors cannot silently relocate it) -/
theorem commit_paths_agree {v : Validation} {basis : Tree} {w : WT} {S : List Id} {r : Result}
    (h : commitFrom v basis w S = .ok r) {i : Id} (hi : i ∈ S) (he : (get (effective w) i).isSome = true) :
    pathOf r.tree i = pathOf w.inv i := by
  obtain ⟨_, hd, _, ht, _, _⟩ := commitFrom_ok h
  unfold deltaConsistent at hd
  rw [List.all_eq_true] at hd
  have := hd i hi
  rw [ht]
  cases hg : get (effective w) i with
  | none => simp [hg] at he
  | some e => simpa [hg] using this

theorem commitModel_ok {v : Validation} {basis : Tree} {w : WT} {sel : Option (List Path)} {excl : List Path}
    {r : Result} (h : commitModel v basis w sel excl = .ok r) :
    ∃ cs, reportedChanges basis w (sel.map minSel) = .ok cs ∧ commitFrom v basis w (commitIds excl cs) = .ok r := by
  unfold commitModel at h
  split at h
  · cases h
  · cases h
  · rename_i cs hcs; exact ⟨cs, hcs, h⟩

theorem reported_true {basis : Tree} {w : WT} {sel : Option (List Path)} {cs : List Change}
    (h : reportedChanges basis w sel = .ok cs) : ∀ c ∈ cs, emit basis w.inv c.id = some c := by
  intro c hc
  apply mem_changesOf_iff.mp
  cases sel with
  | none =>
    have : cs = changesOf basis w.inv := by
      simp [reportedChanges, iterChangesG] at h; exact h.symm
    exact this ▸ hc
  | some f => exact (filter_subset_complete_g true .generic basis w.inv f true cs h).1 c hc

theorem reported_complete {basis : Tree} {w : WT} {sel : Option (List Path)} {cs : List Change}
    (h : reportedChanges basis w sel = .ok cs) {i : Id} (hs : pathSelected basis w sel i)
    {c : Change} (he : emit basis w.inv i = some c) : c ∈ cs := by
  cases sel with
  | none =>
    have : cs = changesOf basis w.inv := by
      simp [reportedChanges, iterChangesG] at h; exact h.symm
    exact this ▸ mem_changesOf_iff.mpr ((emit_true he).1 ▸ he)
  | some f =>
    exact (filter_subset_complete_g true .generic basis w.inv f true cs h).2 i hs c (emit_eq_some.mp he).1
      (emit_eq_some.mp he).2

/-- **selected paths**: every id at or below a selected path (in the basis or in
the working tree) whose paths are not excluded has its working entry in the
new revision.  `hm`: a missing entry differs from its basis entry (it shows
kind `None` to the comparison). -/
theorem commit_paths_selected (v : Validation) (basis : Tree) (w : WT) (sel : Option (List Path)) (excl : List Path)
    (r : Result) (h : commitModel v basis w sel excl = .ok r)
    (hm : ∀ i ∈ w.missing, get basis i ≠ get w.inv i)
    (i : Id) (hs : pathSelected basis w (sel.map minSel) i)
    (h1 : insideOpt excl (pathOf basis i) = false) (h2 : insideOpt excl (pathOf w.inv i) = false) :
    get r.tree i = get (effective w) i := by
  obtain ⟨cs, hcs, hf⟩ := commitModel_ok h
  by_cases hin : i ∈ commitIds excl cs
  · exact commit_selected hf hin
  · rw [commit_unselected hf hin, get_effective]
    cases he : emit basis w.inv i with
    | some c =>
      exfalso
      apply hin
      rw [mem_commitIds]
      exact ⟨c, reported_complete hcs hs he, keep_of_paths (emit_eq_some.mp he).1 h1 h2, (emit_true he).1⟩
    | none =>
      have heq := emit_eq_none_iff_get.mp he
      by_cases hmi : i ∈ w.missing
      · exact absurd heq (hm i hmi)
      · simp [hmi, heq]

theorem insideOpt_nil (p : Option Path) : insideOpt [] p = false := by
  cases p <;> simp [insideOpt, insideAny]

/-- **full commit**: without selection and exclusion the new revision is the
working tree (minus missing entries) -/
theorem commit_all (v : Validation) (basis : Tree) (w : WT) (r : Result) (h : commitModel v basis w none [] = .ok r)
    (hm : ∀ i ∈ w.missing, get basis i ≠ get w.inv i) (i : Id) :
    get r.tree i = get (effective w) i :=
  commit_paths_selected v basis w none [] r h hm i trivial (insideOpt_nil _) (insideOpt_nil _)

/-- **nothing else, part 2**: an id is recorded only if it really differs
between basis and working tree and none of its paths is excluded -/
theorem commit_only_changed (v : Validation) (basis : Tree) (w : WT) (sel : Option (List Path)) (excl : List Path)
    (r : Result) (h : commitModel v basis w sel excl = .ok r) (i : Id) (hi : i ∈ r.ids) :
    ∃ c, change basis w.inv i = some c ∧ c.isChanged = true ∧ keepChange excl c = true := by
  obtain ⟨cs, hcs, hf⟩ := commitModel_ok h
  rw [(commitFrom_ok hf).2.2.1, mem_commitIds] at hi
  obtain ⟨c, hc, hk, hid⟩ := hi
  obtain ⟨ht, hch⟩ := emit_eq_some.mp (reported_true hcs c hc)
  exact ⟨c, hid ▸ ht, hch, hk⟩

/-- **exclusion**: an id whose basis path or working path lies at or below an
excluded path keeps its basis entry -/
theorem commit_excluded_untouched (v : Validation) (basis : Tree) (w : WT) (sel : Option (List Path)) (excl : List Path)
    (r : Result) (h : commitModel v basis w sel excl = .ok r) (i : Id)
    (hx : ((get basis i).isSome = true ∧ insideOpt excl (pathOf basis i) = true) ∨
          ((get w.inv i).isSome = true ∧ insideOpt excl (pathOf w.inv i) = true)) :
    get r.tree i = get basis i := by
  obtain ⟨cs, hcs, hf⟩ := commitModel_ok h
  apply commit_unselected hf
  intro hin
  rw [mem_commitIds] at hin
  obtain ⟨c, hc, hk, hid⟩ := hin
  obtain ⟨ht, _⟩ := emit_eq_some.mp (reported_true hcs c hc)
  rw [hid] at ht
  obtain ⟨_, _, _, hs, htg⟩ := change_spec ht
  unfold keepChange at hk
  rw [hs, htg] at hk
  rcases hx with ⟨ha, hb⟩ | ⟨ha, hb⟩
  · simp [ha, hb] at hk
  · simp [ha, hb] at hk

/-- **status afterwards**: a recorded id is identical in the new basis and the
working tree (any record of it is unchanged, it is no longer missing); an
unrecorded id keeps both its basis entry and its working entry, so its pending
change is still there -/
theorem status_after_commit (v : Validation) (basis : Tree) (w : WT) (S : List Id) (r : Result)
    (h : commitFrom v basis w S = .ok r) (i : Id) :
    (i ∈ S → get r.tree i = get r.wt.inv i ∧ i ∉ r.wt.missing ∧
        ∀ c, change r.tree r.wt.inv i = some c → c.isChanged = false) ∧
    (i ∉ S → get r.tree i = get basis i ∧ get r.wt.inv i = get w.inv i ∧
        (i ∈ r.wt.missing ↔ i ∈ w.missing)) := by
  obtain ⟨_, _, _, ht, hinv, hmis⟩ := commitFrom_ok h
  have hget : get r.wt.inv i = if (!(w.missing.contains i && S.contains i)) = true then get w.inv i else none := by
    rw [hinv]; exact get_filter_key w.inv (fun k => !(w.missing.contains k && S.contains k)) i
  constructor
  · intro hi
    have h1 : get r.tree i = get r.wt.inv i := by
      rw [ht, commitTree_get, hget, get_effective]
      by_cases hm : i ∈ w.missing <;> simp [hi, hm]
    refine ⟨h1, ?_, fun c hc => unchanged_of_get_eq h1 hc⟩
    rw [hmis]; simp [hi]
  · intro hi
    refine ⟨?_, ?_, ?_⟩
    · rw [ht, commitTree_get]; simp [hi]
    · rw [hget]; simp [hi]
    · rw [hmis]; simp [hi]

/-- **Witness (usability, not a violation of C01)**: the closure of
`_handle_precise_ids` does not always give a consistent delta — on the
well-formed pair of `C10.displaced_entry_witness` the partial commit of `x` is
refused with `InconsistentDelta` (the commit raises and nothing changes). -/
theorem closure_insufficient_witness :
    wf C10.dSrc = true ∧ wf C10.dTgt = true ∧
    (match commitModel .strict C10.dSrc ⟨C10.dTgt, []⟩ (some [["x"]]) [] with
     | .error e => some e
     | .ok _ => none) = some CErr.inconsistentDelta := by decide +kernel

def cBasis : Tree :=
  [("r", ⟨none, "", .dir⟩), ("d", ⟨some "r", "d", .dir⟩), ("s", ⟨some "d", "sub", .dir⟩),
   ("f", ⟨some "s", "f", .file "1" false⟩)]

/-- `d/sub` replaced by a file, `d/sub/f` unversioned -/
def cWt : WT :=
  ⟨[("r", ⟨none, "", .dir⟩), ("d", ⟨some "r", "d", .dir⟩), ("s", ⟨some "d", "sub", .file "2" false⟩)], []⟩

/-- **Witness (property violated by the code as found)**: `commit(exclude=["d/sub/f"])`
after replacing the directory `d/sub` by a file and removing `d/sub/f`:
`filter_excluded` drops the removal of `f`, the validation does not notice that
`f` is left below a file, and the commit *succeeds* with an ill-formed
inventory (the real revision cannot be read back).  With the strict validation
the same commit is refused. -/
theorem excluded_child_corrupt_witness :
    wf cBasis = true ∧ wf cWt.inv = true ∧
    (match commitModel .lax cBasis cWt none [["d", "sub", "f"]] with
     | .ok r => some (r.ids, wf r.tree, (get r.tree "s").map (·.node.kind), (get r.tree "f").map (·.parent))
     | .error _ => none) = some (["s"], false, some Kind.file, some (some "s")) ∧
    (match commitModel .strict cBasis cWt none [["d", "sub", "f"]] with
     | .ok _ => none
     | .error e => some e) = some CErr.inconsistentDelta := by decide +kernel

/-! non-vacuity: a rename from an unselected into a selected directory, a
pending edit left behind, a missing entry -/

def exBasis : Tree :=
  [("r", ⟨none, "", .dir⟩), ("A", ⟨some "r", "a", .dir⟩), ("B", ⟨some "r", "b", .dir⟩),
   ("f", ⟨some "A", "f", .file "1" false⟩), ("g", ⟨some "A", "g", .file "1" false⟩),
   ("m", ⟨some "B", "m", .file "1" false⟩)]

def exWt : WT :=
  ⟨[("r", ⟨none, "", .dir⟩), ("A", ⟨some "r", "a", .dir⟩), ("B", ⟨some "r", "b", .dir⟩),
    ("f", ⟨some "B", "f", .file "2" true⟩), ("g", ⟨some "A", "g", .file "2" false⟩),
    ("m", ⟨some "B", "m", .symlink "?"⟩)], ["m"]⟩

example :
    (match commitModel .strict exBasis exWt (some [["b"]]) [] with
     | .ok r => some (r.ids, get r.tree "f", get r.tree "g", get r.tree "m", r.wt.missing)
     | .error _ => none)
      = some (["f", "m"], some ⟨some "B", "f", .file "2" true⟩, some ⟨some "A", "g", .file "1" false⟩, none, []) := by
  decide +kernel

example : (∀ i ∈ exWt.missing, get exBasis i ≠ get exWt.inv i) ∧
    "f" ∈ selectIds exBasis exWt.inv (minSel [["b"]]) ∧
    insideOpt [] (pathOf exBasis "f") = false := by decide +kernel

example : insideOpt [["a"]] (pathOf exBasis "g") = true ∧
    (match commitModel .strict exBasis exWt none [["a"]] with
     | .ok r => some r.ids
     | .error _ => none) = some ["m"] := by decide +kernel

/-- **selected paths, in terms of paths**: for well-formed trees, every id whose
basis path or working path is at or below one of the paths passed as
`specific_files` (prefix relation on path components) and whose paths are not
excluded has its working entry in the new revision.  This does not mention the
model's own `selectIds`; `minimum_path_selection` is accounted for. -/
theorem commit_paths_prefix (v : Validation) (basis : Tree) (w : WT) (f : List Path) (excl : List Path)
    (r : Result) (h : commitModel v basis w (some f) excl = .ok r)
    (hb : wf basis = true) (hw : wf w.inv = true)
    (hm : ∀ i ∈ w.missing, get basis i ≠ get w.inv i)
    (i : Id) (p q : Path) (hp : p ∈ f) (hq : pathOf basis i = some q ∨ pathOf w.inv i = some q) (hpre : p <+: q)
    (h1 : insideOpt excl (pathOf basis i) = false) (h2 : insideOpt excl (pathOf w.inv i) = false) :
    get r.tree i = get (effective w) i := by
  obtain ⟨p', hp', hpre'⟩ := minSel_prefix f p.length p (Nat.le_refl _) hp
  apply commit_paths_selected v basis w (some f) excl r h hm i _ h1 h2
  show i ∈ selectIds basis w.inv (minSel f)
  rcases hq with hq | hq
  · exact selectIds_of_prefix_src hb hp' hq (hpre'.trans hpre)
  · exact selectIds_complete_tgt hw hp' hq (hpre'.trans hpre)

/-- **nothing else, part 3**: besides the ids at or below the selected paths, a
partial commit records only ids *pulled in* by the delta-consistency closure:
working-tree ancestors of recorded entries, basis entries displaced from the
working path of such an ancestor, and basis children of an entry that stopped
being a directory (`Pulled`) — and of those only the really changed, non-excluded
ones (`commit_only_changed`). -/
theorem commit_ids_justified (v : Validation) (basis : Tree) (w : WT) (f : List Path) (excl : List Path)
    (r : Result) (h : commitModel v basis w (some f) excl = .ok r) (i : Id) (hi : i ∈ r.ids) :
    i ∈ selectIds basis w.inv (minSel f) ∨ Pulled basis w.inv (selectIds basis w.inv (minSel f)) i := by
  obtain ⟨cs, hcs, hf⟩ := commitModel_ok h
  rw [(commitFrom_ok hf).2.2.1, mem_commitIds] at hi
  obtain ⟨c, hc, _, hid⟩ := hi
  have := filtered_ids_justified true .generic basis w.inv (minSel f) true cs hcs c hc
  rwa [hid] at this

/-- pending merges: a selection or an exclusion is refused -/
theorem commit_merge_refused (v : Validation) (basis : Tree) (w : WT) (sel : Option (List Path)) (excl : List Path)
    (h : sel ≠ none ∨ excl ≠ []) : commitModelM true v basis w sel excl = .error .selectedFileMerge := by
  unfold commitModelM
  rcases h with h | h
  · cases sel with
    | none => exact absurd rfl h
    | some f => simp
  · cases excl with
    | nil => exact absurd rfl h
    | cons a b => simp

/-- pending merges: a commit that succeeds is a full commit and records the whole
working tree -/
theorem commit_merge_all (v : Validation) (basis : Tree) (w : WT) (sel : Option (List Path)) (excl : List Path)
    (r : Result) (h : commitModelM true v basis w sel excl = .ok r)
    (hm : ∀ i ∈ w.missing, get basis i ≠ get w.inv i) (i : Id) :
    sel = none ∧ excl = [] ∧ get r.tree i = get (effective w) i := by
  unfold commitModelM at h
  cases sel with
  | some f => simp at h
  | none =>
    cases excl with
    | cons a b => simp at h
    | nil =>
      simp at h
      exact ⟨rfl, rfl, commit_all v basis w r h hm i⟩

example : (match commitModelM true .strict exBasis exWt (some [["b"]]) [] with
     | .ok _ => none
     | .error e => some e) = some CErr.selectedFileMerge ∧
    (match commitModelM true .strict exBasis exWt none [] with
     | .ok r => some r.ids
     | .error _ => none) = some ["f", "g", "m"] := by decide +kernel

/-- a full commit (no selection) does not depend on the closure at all -/
theorem commit_full_total (v : Validation) (basis : Tree) (w : WT) (excl : List Path) :
    commitModel v basis w none excl = commitFrom v basis w (commitIds excl (changesOf basis w.inv)) := by
  simp [commitModel, reportedChanges, iterChangesG]

/-- **the model always has a prediction**: the delta-consistency closure (as
repaired by /repo e6ca8fc) terminates on every pair of trees — well-formed or
not —, every selection and every exclusion list, so `fuel` is never answered -/
theorem commit_never_fuel (v : Validation) (basis : Tree) (w : WT) (sel : Option (List Path)) (excl : List Path) :
    commitModel v basis w sel excl ≠ .error .fuel := by
  have hf := fixed_loop_terminates .generic basis w.inv (sel.map minSel) false true
  unfold commitModel reportedChanges
  intro h
  split at h
  · cases h
  · rename_i heq; rw [heq] at hf; simp [isFuel] at hf
  · unfold commitFrom at h
    simp only at h
    split at h
    · cases h
    · split at h <;> cases h

/-- **Witness (termination of `_handle_precise_ids` as found, repaired by /repo
e6ca8fc)**: on a well-formed pair of trees the delta-consistency closure of the
unrepaired loop never terminates, whatever the fuel (the real generator yielded
the same record for ever, `brz status -r1..2 a/f/g` never returned): `a` renamed
to `z`, `d` renamed to `a`, and the file `a/f` moved into the unchanged
directory `d/f`, which now sits at `a/f` — the loop keeps finding the moved file
at the directory's new path and the directory as the moved file's new parent.
The repaired loop terminates and gives a consistent partial commit. -/
theorem closure_diverges_witness :
    wf loopSrc = true ∧ wf loopTgt = true ∧
    (∀ n, preciseLoop loopSrc loopTgt n loopStart = none) ∧
    isFuel (iterChanges .generic loopSrc loopTgt (some [["a", "f", "g"]]) false true) = true ∧
    (match commitModel .strict loopSrc ⟨loopTgt, []⟩ (some [["a", "f", "g"]]) [] with
     | .error _ => none
     | .ok r => some (r.ids, wf r.tree)) = some (["G", "D", "A"], true) :=
  ⟨by decide +kernel, by decide +kernel, preciseLoop_diverges,
    isFuel_of_diverges _ _ _ _ _ _ (by decide +kernel) preciseLoop_diverges, by decide +kernel⟩

def kBasis : Tree :=
  [("r", ⟨none, "", .dir⟩), ("c", ⟨some "r", "c", .dir⟩), ("a", ⟨some "c", "a", .dir⟩), ("b", ⟨some "a", "b", .file "1" false⟩)]
def kWt : WT :=
  ⟨[("r", ⟨none, "", .dir⟩), ("c", ⟨some "r", "c", .dir⟩), ("a", ⟨some "c", "b", .dir⟩), ("b", ⟨some "a", "b", .file "1" false⟩)], []⟩

/-- **Witness (the "path" part of the statement is not met for carried entries)**:
`c/a` renamed to `c/b`, its child `c/a/b` untouched; `commit(specific_files=["c/b/b"])`
records nothing — the selected entry is unchanged in id space and its moved
parent is neither selected nor needed by a recorded entry — so the selected
working path `c/b/b` does not exist in the new revision (the entry stays at
`c/a/b`).  `commit_paths_agree` covers recorded entries only. -/
theorem selected_path_carried_witness :
    wf kBasis = true ∧ wf kWt.inv = true ∧
    "b" ∈ selectIds kBasis kWt.inv (minSel [["c", "b", "b"]]) ∧
    pathOf kWt.inv "b" = some ["c", "b", "b"] ∧
    (match commitModel .strict kBasis kWt (some [["c", "b", "b"]]) [] with
     | .ok r => some (r.ids, pathOf r.tree "b")
     | .error _ => none) = some ([], some ["c", "a", "b"]) := by decide +kernel

/-! non-vacuity of `commit_paths_prefix` and `commit_ids_justified`: a new file in
a new directory, only the file selected — the directory is pulled in -/

def jBasis : Tree := [("r", ⟨none, "", .dir⟩)]
def jWt : WT := ⟨[("r", ⟨none, "", .dir⟩), ("D", ⟨some "r", "d", .dir⟩), ("f", ⟨some "D", "f", .file "1" false⟩)], []⟩

example : wf jBasis = true ∧ wf jWt.inv = true ∧ pathOf jWt.inv "f" = some ["d", "f"] ∧
    (match commitModel .strict jBasis jWt (some [["d", "f"]]) [] with
     | .ok r => some r.ids
     | .error _ => none) = some ["f", "D"] ∧
    "D" ∉ selectIds jBasis jWt.inv (minSel [["d", "f"]]) := by decide +kernel

example : Pulled jBasis jWt.inv (selectIds jBasis jWt.inv (minSel [["d", "f"]])) "D" :=
  Pulled.seed (x := "f") (r := ⟨"f", none, some ["d", "f"], true, none, some ⟨some "D", "f", .file, false⟩⟩)
    (by decide +kernel) (by decide +kernel) (by decide +kernel) (by decide +kernel)

/-- the committed git tree, extensionally: written paths carry the working
content, deleted paths are gone, every other path keeps its basis content -/
theorem glookup_gitCommitTree (basis wt : GTree) (cs : List GChange) (sel : Option (List Path)) (excl : List Path)
    (p : Path) :
    glookup (gitCommitTree basis wt cs sel excl) p =
      if p ∈ gWritten wt (cs.filter (gKeep sel excl)) then glookup wt p
      else if p ∈ gDeleted (cs.filter (gKeep sel excl)) then none else glookup basis p := by
  unfold gitCommitTree
  simp only
  rw [glookup_append, glookup_written,
    glookup_filter_key basis (fun q => !(gWritten wt (cs.filter (gKeep sel excl))).contains q &&
      !(gDeleted (cs.filter (gKeep sel excl))).contains q) p]
  by_cases h1 : p ∈ gWritten wt (cs.filter (gKeep sel excl))
  · cases glookup wt p <;> simp [h1]
  · by_cases h2 : p ∈ gDeleted (cs.filter (gKeep sel excl)) <;> simp [h1, h2]

/-- a path the kept changes write carries the working content -/
theorem git_written (basis wt : GTree) (cs : List GChange) (sel : Option (List Path)) (excl : List Path)
    (p : Path) (hp : p ∈ gWritten wt (cs.filter (gKeep sel excl))) :
    glookup (gitCommitTree basis wt cs sel excl) p = glookup wt p := by
  rw [glookup_gitCommitTree, if_pos hp]

/-- a path no kept change writes or deletes keeps its basis content -/
theorem git_untouched (basis wt : GTree) (cs : List GChange) (sel : Option (List Path)) (excl : List Path)
    (p : Path) (h1 : p ∉ gWritten wt (cs.filter (gKeep sel excl)))
    (h2 : p ∉ gDeleted (cs.filter (gKeep sel excl))) :
    glookup (gitCommitTree basis wt cs sel excl) p = glookup basis p := by
  rw [glookup_gitCommitTree, if_neg h1, if_neg h2]

/-- the old path of a kept change disappears unless a kept change writes it -/
theorem git_deleted (basis wt : GTree) (cs : List GChange) (sel : Option (List Path)) (excl : List Path)
    (p : Path) (h1 : p ∉ gWritten wt (cs.filter (gKeep sel excl)))
    (h2 : p ∈ gDeleted (cs.filter (gKeep sel excl))) :
    glookup (gitCommitTree basis wt cs sel excl) p = none := by
  rw [glookup_gitCommitTree, if_neg h1, if_pos h2]

example :
    gitCommitTree [(["a"], .file "1" false), (["d", "x"], .file "1" false)]
      [(["b"], .file "1" false), (["d", "x"], .file "2" false)]
      [⟨some ["a"], some ["b"]⟩, ⟨some ["d", "x"], some ["d", "x"]⟩] (some [["b"]]) []
      = [(["b"], .file "1" false), (["d", "x"], .file "1" false)] := by decide +kernel

/-- **selected paths (git)**: a path of the working tree at or below a selected
path and not excluded carries the working content in the new revision, provided
the reported change list is complete (`gCovers`) and coherent (`gCoherent`) and
no record moves an excluded path onto it (such a record is dropped as a whole
by `filter_excluded`) -/
theorem git_selected (basis wt : GTree) (cs : List GChange) (sel : Option (List Path)) (excl : List Path)
    (p : Path) (n : Node) (hwt : glookup wt p = some n)
    (hcov : gCovers basis wt cs = true) (hcoh : gCoherent wt cs = true)
    (hsel : ∀ f, sel = some f → insideAny f p = true) (hex : insideAny excl p = false)
    (hold : ∀ c ∈ cs, c.new = some p → insideOpt excl c.old = false) :
    glookup (gitCommitTree basis wt cs sel excl) p = some n := by
  have hsome : (glookup wt p).isSome = true := by simp [hwt]
  have hkeep : ∀ c ∈ cs, c.new = some p → gKeep sel excl c = true := by
    intro c hc hn
    unfold gKeep
    have h1 : insideOpt excl c.new = false := by rw [hn]; exact hex
    rw [hold c hc hn, h1]
    cases sel with
    | none => simp
    | some f =>
      have := hsel f rfl
      simp only [insideAny, List.any_eq_true] at this
      obtain ⟨g, hg, hgp⟩ := this
      have : relatedOpt f c.new = true := by
        rw [hn]
        simp only [relatedOpt, insideOrParentOfAny, List.any_eq_true]
        exact ⟨g, hg, by simp [hgp]⟩
      simp [this]
  by_cases hw : p ∈ gWritten wt (cs.filter (gKeep sel excl))
  · rw [git_written basis wt cs sel excl p hw, hwt]
  · -- not written: no record names `p` as its new path, so the content is unchanged
    have hno : ∀ c ∈ cs, c.new ≠ some p := by
      intro c hc hn
      exact hw (mem_gWritten_iff.mpr ⟨⟨c, List.mem_filter.mpr ⟨hc, hkeep c hc hn⟩, hn⟩, hsome⟩)
    have hsame : glookup basis p = glookup wt p :=
      (gCovers_spec hcov hwt).resolve_right fun ⟨c, hc, hn⟩ => hno c hc hn
    have hnd : p ∉ gDeleted (cs.filter (gKeep sel excl)) := by
      intro hd
      obtain ⟨c, hc, ho⟩ := mem_gDeleted.mp hd
      have hc' := (List.mem_filter.mp hc).1
      rcases gCoherent_spec hcoh hc' ho with h | h
      · exact hno c hc' h
      · rw [hwt] at h; cases h
    rw [git_untouched basis wt cs sel excl p hw hnd, hsame, hwt]

/-- **nothing else (git)**: a path no kept record names keeps its basis content -/
theorem git_unselected (basis wt : GTree) (cs : List GChange) (sel : Option (List Path)) (excl : List Path)
    (p : Path) (h : ∀ c ∈ cs, c.old = some p ∨ c.new = some p → gKeep sel excl c = false) :
    glookup (gitCommitTree basis wt cs sel excl) p = glookup basis p := by
  apply git_untouched
  · intro hw
    obtain ⟨⟨c, hc, hn⟩, _⟩ := mem_gWritten_iff.mp hw
    have := List.mem_filter.mp hc
    rw [h c this.1 (Or.inr hn)] at this
    exact absurd this.2 (by simp)
  · intro hd
    obtain ⟨c, hc, ho⟩ := mem_gDeleted.mp hd
    have := List.mem_filter.mp hc
    rw [h c this.1 (Or.inl ho)] at this
    exact absurd this.2 (by simp)

/-! non-vacuity: `a` renamed to `b` (selected), `d/x` modified (selected through
its directory), `e` modified (not selected) -/

def gB : GTree := [(["a"], .file "1" false), (["d", "x"], .file "1" false), (["e"], .file "1" false)]
def gW : GTree := [(["b"], .file "1" false), (["d", "x"], .file "2" true), (["e"], .file "2" false)]
def gC : List GChange := [⟨some ["a"], some ["b"]⟩, ⟨some ["d", "x"], some ["d", "x"]⟩, ⟨some ["e"], some ["e"]⟩]

example : gCovers gB gW gC = true ∧ gCoherent gW gC = true ∧ insideAny [["b"], ["d"]] ["d", "x"] = true ∧
    insideAny [] ["d", "x"] = false ∧
    gitCommitTree gB gW gC (some [["b"], ["d"]]) [] =
      [(["b"], .file "1" false), (["d", "x"], .file "2" true), (["e"], .file "1" false)] ∧
    (∀ c ∈ gC, c.old = some ["e"] ∨ c.new = some ["e"] → gKeep (some [["b"], ["d"]]) [] c = false) := by
  decide +kernel

/-- **abort is a no-op** (the part of the statement that holds), for any number
of texts, bound or not: a fault raised at *any* point before the write group
is committed — before or after the effect of any operation from the first
recorded text up to `add_revision`, or before `start_write_group` — makes the
commit raise and leaves the *whole* state as it was: visible revisions,
inventories and texts, the tip, the master branch, the tree basis; the write
group is closed and nothing is pending.
*Partial*: for the later fault points the statement is false, see the witnesses. -/
theorem commit_abort_noop_partial (new : Rev) (texts : List Key) (bound : Bool) (s : PState) (f : Fault)
    (hc : s.clean = true) (hk : f.executed ≤ (groupOps texts).length + 1) (h0 : ¬ (f.k = 0 ∧ f.after = true)) :
    runCommit new texts bound (some f) s = (s, true) := by
  have hkk : f.k ≤ f.executed := by unfold Fault.executed; split <;> omega
  have hlen : f.k < (program texts bound).length := by rw [program_length]; omega
  -- whatever ran only touched the write group, so aborting gives `s` back
  have hg := abort_foldl_group new _ s (take_group texts bound hk)
  rw [abort_clean hc] at hg
  unfold runCommit
  simp only [hlen, if_true]
  by_cases ht : inTry texts f.k = true
  · rw [if_pos ht, hg]
  · -- outside the `try` block: the fault is at `start_write_group`, before its effect
    have hz : f.k = 0 := by
      simp only [inTry, Bool.and_eq_true, decide_eq_true_eq] at ht
      omega
    have he : f.executed = 0 := by
      unfold Fault.executed
      cases ha : f.after with
      | false => simpa using hz
      | true => exact absurd ⟨hz, ha⟩ h0
    rw [if_neg ht, he]
    rfl

example : (⟨[], [], [], [], [], [], false, none, [], none, none⟩ : PState).clean = true ∧
    (⟨4, true⟩ : Fault).executed ≤ (groupOps ["t1", "t2"]).length + 1 ∧
    (program ["t1", "t2"] true)[4]? = some Op.addInv := by decide

/-- what can be observed at a fault point about the new revision -/
structure Ordered (new : Rev) (texts : List Key) (bound : Bool) (r : PState) : Prop where
  inv_iff : new ∈ r.revs ↔ new ∈ r.invs
  texts_of_rev : new ∈ r.revs → ∀ t ∈ texts, t ∈ r.texts
  tip_rev : r.tip = some new → new ∈ r.revs
  basis_tip : r.basis = some new → r.tip = some new
  master_rev : r.mtip = some new → new ∈ r.revs ∧ new ∈ r.mrevs
  master_first : bound = true → r.tip = some new → r.mtip = some new

/-- `Ordered` does not look at the write group -/
theorem ordered_abortGroup {new : Rev} {texts : List Key} {bound : Bool} {r : PState} :
    Ordered new texts bound (abortGroup r) ↔ Ordered new texts bound r :=
  ⟨fun ⟨a, b, c, d, e, f⟩ => ⟨a, b, c, d, e, f⟩, fun ⟨a, b, c, d, e, f⟩ => ⟨a, b, c, d, e, f⟩⟩

private theorem ite_eq_left_iff_of_ne {α : Type} {c : Prop} [Decidable c] {a b : α} (h : b ≠ a) :
    (if c then a else b) = a ↔ c := by
  by_cases hc : c <;> simp [hc, h]

/-- after publication the pointers move in the order master, tip, basis -/
theorem ordered_late (new : Rev) (texts : List Key) (bound : Bool) (s : PState)
    (hn : s.tip ≠ some new ∧ s.basis ≠ some new ∧ s.mtip ≠ some new) (j : Nat) :
    Ordered new texts bound (lateState new bound j (published new texts s)) := by
  have hr : new ∈ s.revs ++ [new] := List.mem_append_right _ (List.mem_singleton_self _)
  have hi : new ∈ s.invs ++ [new] := List.mem_append_right _ (List.mem_singleton_self _)
  have htip : (if (if bound then 3 else 2) ≤ j then some new else s.tip) = some new ↔ _ :=
    ite_eq_left_iff_of_ne hn.1
  have hbasis : (if (if bound then 6 else 4) ≤ j then some new else s.basis) = some new ↔ _ :=
    ite_eq_left_iff_of_ne hn.2.1
  have hmtip : (if bound = true ∧ 2 ≤ j then some new else s.mtip) = some new ↔ _ :=
    ite_eq_left_iff_of_ne hn.2.2
  refine ⟨iff_of_true hr hi, fun _ t ht => List.mem_append_right _ ht, fun _ => hr,
    fun hb => htip.2 ?_, fun hm => ⟨hr, ?_⟩, fun hb ht => hmtip.2 ⟨hb, ?_⟩⟩
  · have := hbasis.1 hb
    cases bound <;> exact Nat.le_trans (by decide) this
  · show new ∈ (if _ then _ else _)
    rw [if_pos (hmtip.1 hm)]
    exact List.mem_append_right _ (List.mem_singleton_self _)
  · subst hb
    exact Nat.le_trans (by decide) (htip.1 ht)

/-- **publication is atomic and ordered, at every fault point** (any operation,
before or after its effect, bound or not, any number of texts, or no fault):
the new revision is visible exactly when its inventory is, and then all its
texts are; the tip names it only when it is visible; the tree basis names it
only after the tip does; a master branch is updated before the local tip. -/
theorem publish_ordered (new : Rev) (texts : List Key) (bound : Bool) (s : PState) (fault : Option Fault)
    (hc : s.clean = true) (hr : new ∉ s.revs) (hi : new ∉ s.invs)
    (hn : s.tip ≠ some new ∧ s.basis ≠ some new ∧ s.mtip ≠ some new) :
    Ordered new texts bound (runCommit new texts bound fault s).1 := by
  have hstart : Ordered new texts bound s :=
    ⟨iff_of_false hr hi, fun h => absurd h hr, fun h => absurd h hn.1, fun h => absurd h hn.2.1,
      fun h => absurd h hn.2.2, fun _ h => absurd h hn.1⟩
  have hfull : Ordered new texts bound ((program texts bound).foldl (effect new) s) := by
    rw [foldl_program new texts bound s hc]
    exact ordered_late new texts bound s hn _
  unfold runCommit
  cases fault with
  | none => exact hfull
  | some f =>
    simp only
    split
    · -- the fault fires
      by_cases he : f.executed ≤ (groupOps texts).length + 1
      · -- before publication: only the write group was touched
        have hg := abort_foldl_group new _ s (take_group texts bound he)
        have := ordered_abortGroup.2 hstart
        rw [← hg] at this
        split
        · exact this
        · exact ordered_abortGroup.1 this
      · -- after publication
        obtain ⟨j, hj⟩ : ∃ j, f.executed = (groupOps texts).length + 2 + j := ⟨f.executed - ((groupOps texts).length + 2), by omega⟩
        rw [hj, take_late new texts bound s hc j]
        have ho := ordered_late new texts bound s hn j
        split
        · exact ordered_abortGroup.2 ho
        · exact ho
    · exact hfull

example : (⟨["r0"], ["r0"], [], [], [], [], false, some "r0", ["r0"], some "r0", some "r0"⟩ : PState).clean = true ∧
    (runCommit "new" ["t"] true (some ⟨9, false⟩) ⟨["r0"], ["r0"], [], [], [], [], false, some "r0", ["r0"], some "r0", some "r0"⟩)
      = (⟨["r0", "new"], ["r0", "new"], ["t"], [], [], [], false, none.orElse (fun _ => some "r0"), ["r0", "new"], some "new", some "r0"⟩, true) := by
  decide +kernel

/-- **Witness (property violated, DESIGN §7-F6)**: an exception raised after
`builder.commit()` and before the local tip is written — by a `pre_commit` hook,
by the update of the master branch, or by `set_last_revision_info` itself —
makes the commit raise with the tip unchanged, but the new revision (with its
inventory and texts) is visible in the repository. -/
theorem late_fault_leaves_revision_witness (new : Rev) (texts : List Key) (bound : Bool) (s : PState) (j : Nat)
    (hc : s.clean = true) (hj : j ≤ if bound then 2 else 1) :
    (runCommit new texts bound (some ⟨(groupOps texts).length + 2 + j, false⟩) s).2 = true ∧
    (runCommit new texts bound (some ⟨(groupOps texts).length + 2 + j, false⟩) s).1.tip = s.tip ∧
    (runCommit new texts bound (some ⟨(groupOps texts).length + 2 + j, false⟩) s).1.revs = s.revs ++ [new] := by
  have hl : j < (lateOps bound).length := by
    rw [lateOps_length]; cases bound <;> exact Nat.lt_of_le_of_lt hj (by decide)
  rw [runCommit_late new texts bound s hc hl false]
  refine ⟨rfl, if_neg ?_, rfl⟩
  cases bound <;> exact Nat.not_le_of_gt (Nat.lt_succ_of_le hj)

/-- **Witness**: for a bound branch an exception from the local
`set_last_revision_info` is raised when the master branch already has the new
revision as its tip: the commit raises, the local tip is unchanged, the master
moved. -/
theorem late_fault_master_ahead_witness (new : Rev) (texts : List Key) (s : PState) (hc : s.clean = true) :
    (runCommit new texts true (some ⟨(groupOps texts).length + 4, false⟩) s).2 = true ∧
    (runCommit new texts true (some ⟨(groupOps texts).length + 4, false⟩) s).1.tip = s.tip ∧
    (runCommit new texts true (some ⟨(groupOps texts).length + 4, false⟩) s).1.mtip = some new := by
  rw [show (groupOps texts).length + 4 = (groupOps texts).length + 2 + 2 from rfl,
    runCommit_late new texts true s hc (j := 2) (by decide) false]
  exact ⟨rfl, rfl, rfl⟩

/-- **Witness**: an exception raised once the tip is written (by
`update_basis_by_delta`, a `post_commit` hook, …) makes the commit raise with
the branch already at the new revision. -/
theorem late_fault_moves_tip_witness (new : Rev) (texts : List Key) (bound : Bool) (s : PState) (j : Nat) (after : Bool)
    (hc : s.clean = true) (hj : (if bound then 3 else 2) ≤ (if after then j + 1 else j))
    (hl : j < (lateOps bound).length) :
    (runCommit new texts bound (some ⟨(groupOps texts).length + 2 + j, after⟩) s).2 = true ∧
    (runCommit new texts bound (some ⟨(groupOps texts).length + 2 + j, after⟩) s).1.tip = some new ∧
    new ∈ (runCommit new texts bound (some ⟨(groupOps texts).length + 2 + j, after⟩) s).1.revs := by
  rw [runCommit_late new texts bound s hc hl after]
  exact ⟨rfl, if_pos hj, List.mem_append_right _ (List.mem_singleton_self _)⟩

/-- without a fault the revision, its inventory and its texts become visible,
then the master (bound branches), the tip and the tree basis move to it -/
theorem commit_no_fault (new : Rev) (texts : List Key) (bound : Bool) (s : PState) (hc : s.clean = true) :
    runCommit new texts bound none s =
      ({ s with revs := s.revs ++ [new], invs := s.invs ++ [new], texts := s.texts ++ texts, tip := some new,
                basis := some new, mrevs := if bound then s.mrevs ++ [new] else s.mrevs,
                mtip := if bound then some new else s.mtip }, false) := by
  show ((program texts bound).foldl (effect new) s, false) = _
  rw [foldl_program new texts bound s hc]
  cases bound <;> rfl

end BreezyVerif.C01
