import BreezyVerif.Lemmas.C50
import BreezyVerif.Lemmas.C50M
import BreezyVerif.Lemmas.C50W
/-!
C50 — theorems about the model of `breezy/cmdline.py`.

All statements are for every command line / argument list over *all* Unicode
scalar values (no length bound) and both values of `single_quotes_allowed`.
-/
namespace BreezyVerif.C50

/-- **Mixed command lines, as callers write them.**  A command line is a
sequence of arguments, each preceded by whitespace `p.1` (any characters of the
Unicode whitespace table; non-empty except possibly before the first argument)
and optionally followed by trailing whitespace.  Each argument `p.2` is a
non-empty run of segments written without whitespace between them: `Seg.q a`
is ANY text `a` (empty, with whitespace, quotes, backslashes) quoted by the
documented rules, `Seg.w s` is a non-empty unquoted text of ordinary characters
and backslashes.  Hypothesis `itemOk`: an unquoted segment that is directly
followed by another segment does not end in a backslash (`x\"a"` is the text
`x"a"`, not `x\` + `a`); before whitespace or the end a trailing backslash is
fine (`C:\dir\ "a"`).  Then splitting yields exactly one token per argument:
the concatenation of the segment texts, reported as quoted iff the argument
starts with a quoted segment.  `foo "a b" --opt="x y" bar` is the instance
`[w foo], [q "a b"], [w --opt=, q "x y"], [w bar]`. -/
theorem tokens_mixed_line (sq : Bool) (items : List (Str × List Seg)) (trail : Str)
    (hitems : ∀ p ∈ items, p.1.all isWs = true ∧ p.2 ≠ [] ∧ itemOk sq p.2 = true)
    (hsep : ∀ p ∈ items.tail, p.1 ≠ [])
    (htrail : trail.all isWs = true) :
    tokens sq (layout sq items ++ trail) = items.map (fun p => (itemQuoted p.2, itemVal p.2)) :=
  tokens_layout sq trail htrail items hitems hsep

/-- `cmdline.split` on a mixed command line gives the argument values -/
theorem split_mixed_line (sq : Bool) (items : List (Str × List Seg)) (trail : Str)
    (hitems : ∀ p ∈ items, p.1.all isWs = true ∧ p.2 ≠ [] ∧ itemOk sq p.2 = true)
    (hsep : ∀ p ∈ items.tail, p.1 ≠ [])
    (htrail : trail.all isWs = true) :
    split sq (layout sq items ++ trail) = items.map (fun p => itemVal p.2) := by
  simp [split, tokens_mixed_line sq items trail hitems hsep htrail, Function.comp_def]

/-- non-vacuity of the hypotheses, and what the layout looks like:
`<TAB>--using="my \"tool\"\\" <U+3000>C:\dir\ ""<NBSP><LF>"a b"c\d"'"<CR>`
(single quotes off: `'` is an ordinary character) -/
example :
    let items : List (Str × List Seg) :=
      [(['\t'], [.w "--using=".toList, .q "my \"tool\"\\".toList]),
       (" \u3000".toList, [.w "C:\\dir\\".toList]),
       ([' '], [.q []]),
       ("\u00a0\n".toList, [.q "a b".toList, .w "c\\d".toList, .q ['\'']])]
    (∀ p ∈ items, p.1.all isWs = true ∧ p.2 ≠ [] ∧ itemOk false p.2 = true)
      ∧ (∀ p ∈ items.tail, p.1 ≠ []) ∧ ['\r'].all isWs = true
      ∧ layout false items ++ ['\r']
        = "\t--using=\"my \\\"tool\\\"\\\\\" \u3000C:\\dir\\ \"\"\u00a0\n\"a b\"c\\d\"'\"\r".toList
      ∧ tokens false (layout false items ++ ['\r'])
        = [(false, "--using=my \"tool\"\\".toList), (false, "C:\\dir\\".toList), (true, []),
           (true, "a bc\\d'".toList)] := by
  -- string literals become character lists first: `String.toList` of a literal makes the kernel decode UTF-8
  repeat rw [String.toList_ofList]
  decide +kernel

/-- the hypothesis on unquoted segments is needed: `x\` directly followed by
`"a"` is read as the single text `x"a"` with an unterminated quote -/
example : itemOk true [.w "x\\".toList, .q ['a']] = false
    ∧ tokens true (layout true [([], [.w "x\\".toList, .q ['a']])]) = [(false, "x\"a".toList)] := by
  repeat rw [String.toList_ofList]
  decide +kernel

/-- **Arguments and plain words** (the special case with one segment per
argument): every item is either `quote a` for an arbitrary `a` or a non-empty
word of ordinary characters / backslashes, items are separated by arbitrary
non-empty whitespace; splitting yields `a` (quoted) resp. the word (unquoted). -/
theorem tokens_args_and_words (sq : Bool) (items : List (Str × Seg)) (trail : Str)
    (hitems : ∀ p ∈ items, p.1.all isWs = true ∧ itemOk sq [p.2] = true)
    (hsep : ∀ p ∈ items.tail, p.1 ≠ [])
    (htrail : trail.all isWs = true) :
    tokens sq (layout sq (items.map fun p => (p.1, [p.2])) ++ trail)
      = items.map (fun p => match p.2 with
          | .q a => (true, a)
          | .w s => (false, s)) := by
  rw [tokens_layout_map sq trail htrail _ items
    (fun p hp => ⟨(hitems p hp).1, List.cons_ne_nil _ _, (hitems p hp).2⟩) hsep]
  apply List.map_congr_left
  intro p _
  cases h : p.2 <;> simp [itemQuoted, itemVal, Seg.val]

/-- non-vacuity: `foo "a b"<TAB>\\host\x<U+3000>""` -/
example :
    let items : List (Str × Seg) :=
      [([], .w "foo".toList), ([' '], .q "a b".toList), (['\t'], .w "\\\\host\\x".toList),
       (['\u3000'], .q [])]
    (∀ p ∈ items, p.1.all isWs = true ∧ itemOk true [p.2] = true)
      ∧ (∀ p ∈ items.tail, p.1 ≠ [])
      ∧ layout true (items.map fun p => (p.1, [p.2]))
        = "foo \"a b\"\t\\\\host\\x\u3000\"\"".toList := by
  repeat rw [String.toList_ofList]
  decide +kernel

/-- **Round trip with arbitrary whitespace.**  Every list of arguments (any
characters, including the empty argument), each quoted by the documented rules
and preceded by arbitrary whitespace (non-empty between arguments; optional
before the first and after the last), is split back into exactly the same
list; every token is reported as quoted. -/
theorem tokens_join_quote_ws (sq : Bool) (items : List (Str × Str)) (trail : Str)
    (hws : ∀ p ∈ items, p.1.all isWs = true)
    (hsep : ∀ p ∈ items.tail, p.1 ≠ [])
    (htrail : trail.all isWs = true) :
    tokens sq (layout sq (items.map fun p => (p.1, [Seg.q p.2])) ++ trail)
      = items.map (fun p => (true, p.2)) := by
  rw [tokens_layout_map sq trail htrail _ items (fun p hp => ⟨hws p hp, List.cons_ne_nil _ _, rfl⟩) hsep]
  simp [itemQuoted, itemVal, Seg.val]

theorem split_join_quote_ws (sq : Bool) (items : List (Str × Str)) (trail : Str)
    (hws : ∀ p ∈ items, p.1.all isWs = true)
    (hsep : ∀ p ∈ items.tail, p.1 ≠ [])
    (htrail : trail.all isWs = true) :
    split sq (layout sq (items.map fun p => (p.1, [Seg.q p.2])) ++ trail) = items.map (·.2) := by
  simp [split, tokens_join_quote_ws sq items trail hws hsep htrail, Function.comp_def]

/-- non-vacuity: `<LF>"a b"<TAB><NBSP>""<U+2003>"\\"<U+3000>` -/
example :
    let items : List (Str × Str) := [(['\n'], "a b".toList), ("\t\u00a0".toList, []), (['\u2003'], ['\\'])]
    (∀ p ∈ items, p.1.all isWs = true) ∧ (∀ p ∈ items.tail, p.1 ≠ []) ∧ ['\u3000'].all isWs = true
      ∧ layout true (items.map fun p => (p.1, [Seg.q p.2])) ++ ['\u3000']
        = "\n\"a b\"\t\u00a0\"\"\u2003\"\\\\\"\u3000".toList := by
  repeat rw [String.toList_ofList]
  decide +kernel

/-- **Round trip** (the property as stated: joined with single spaces).  Every
list of arguments (any characters, including whitespace, quotes, backslashes
and the empty argument), each quoted by the documented rules and joined with
single spaces, is split back into exactly the same list; every token is
reported as quoted.  Instance of `tokens_mixed_line` (`joinSp_layout`). -/
theorem tokens_join_quote (sq : Bool) (args : List Str) :
    tokens sq (joinSp (args.map (quote sq))) = args.map (fun a => (true, a)) := by
  have h := tokens_layout sq [] rfl (spItems args)
    (by
      intro p hp
      cases args with
      | nil => simp [spItems] at hp
      | cons a r =>
        simp only [spItems, List.mem_cons, List.mem_map] at hp
        rcases hp with rfl | ⟨b, _, rfl⟩ <;> simp [itemOk])
    (by
      intro p hp
      cases args with
      | nil => simp [spItems] at hp
      | cons a r =>
        simp only [spItems, List.tail_cons, List.mem_map] at hp
        obtain ⟨b, _, rfl⟩ := hp
        simp)
  rw [joinSp_layout, ← List.append_nil (layout sq (spItems args)), h]
  cases args <;> simp [spItems, itemQuoted, itemVal, Seg.val, Function.comp_def]

/-- `cmdline.split(" ".join(quote(a) for a in args)) == args` -/
theorem split_join_quote (sq : Bool) (args : List Str) :
    split sq (joinSp (args.map (quote sq))) = args := by
  simp [split, tokens_join_quote, Function.comp_def]

/-- non-vacuity: an argument list with every special character and an empty
argument really is quoted into something non-trivial and comes back -/
example : joinSp (["a b".toList, [], "\\\"'\\".toList].map (quote true))
      = "\"a b\" \"\" \"\\\\\\\"'\\\\\"".toList
    ∧ split true (joinSp (["a b".toList, [], "\\\"'\\".toList].map (quote true)))
      = ["a b".toList, [], "\\\"'\\".toList] := by
  repeat rw [String.toList_ofList]
  decide +kernel

/-- **Unquoted words.**  Non-empty words made of characters outside the quoting
syntax and of backslashes (literal when no quote follows), separated by
arbitrary non-empty whitespace (any Unicode whitespace), with optional leading
and trailing whitespace, are split into exactly these words, none reported as
quoted.  `items` are (separator-before, word) pairs. -/
theorem split_unquoted_words (sq : Bool) (items : List (Str × Str)) (trail : Str)
    (hitems : ∀ p ∈ items, p.1.all isWs = true ∧ p.2 ≠ [] ∧ p.2.all (wordChar sq) = true)
    (hsep : ∀ p ∈ items.tail, p.1 ≠ [])
    (htrail : trail.all isWs = true) :
    tokens sq (wsJoin items ++ trail) = items.map (fun p => (false, p.2)) := by
  rw [wsJoin_layout sq, tokens_layout_map sq trail htrail _ items
    (fun p hp => ⟨(hitems p hp).1, List.cons_ne_nil _ _, by simp [itemOk, (hitems p hp).2]⟩) hsep]
  simp [itemQuoted, itemVal, Seg.val]

/-- non-vacuity of the hypotheses: `\tfoo\\  \u3000\\\\host\\x\n` -/
example :
    let items : List (Str × Str) := [(['\t'], "foo\\".toList), ("  \u3000".toList, "\\\\host\\x".toList)]
    (∀ p ∈ items, p.1.all isWs = true ∧ p.2 ≠ [] ∧ p.2.all (wordChar true) = true)
      ∧ (∀ p ∈ items.tail, p.1 ≠ []) ∧ ['\n'].all isWs = true
      ∧ wsJoin items ++ ['\n'] = "\tfoo\\  \u3000\\\\host\\x\n".toList := by
  repeat rw [String.toList_ofList]
  decide +kernel

/-- **Nothing invented.**  The concatenation of the tokens is a subsequence of
the command line. -/
theorem split_sublist (sq : Bool) (s : Str) : (split sq s).flatten.Sublist s := by
  have h := run_sublist sq s (.at (.plain .ws)) {}
  simpa [split, tokens, flat, pend] using h

/-- **Nothing lost outside the quoting syntax.**  The characters that are not
whitespace, allowed quote characters or backslashes survive, in order. -/
theorem split_keeps_plain (sq : Bool) (s : Str) :
    (split sq s).flatten.filter (plain sq) = s.filter (plain sq) := by
  have h := run_plain sq s (.at (.plain .ws)) {} (inv_start sq)
  simpa [split, tokens, flat] using h

/-- an unquoted token is never empty (`result` / StopIteration rule) -/
theorem tokens_unquoted_nonempty (sq : Bool) (s : Str) :
    ∀ t ∈ tokens sq s, t.1 = true ∨ t.2 ≠ [] := by
  have emit_ok : ∀ (x : Ctx) (rest : List (Bool × Str)),
      (∀ t ∈ rest, t.1 = true ∨ t.2 ≠ []) → ∀ t ∈ emit x rest, t.1 = true ∨ t.2 ≠ [] := by
    intro x rest hr t ht
    unfold emit at ht
    cases hres : result x with
    | none => simp [hres] at ht
    | some u =>
      simp only [hres, List.mem_cons] at ht
      rcases ht with rfl | ht
      · unfold result at hres
        split at hres
        · simp at hres
        · rename_i hc
          simp only [Option.some.injEq] at hres; subst hres
          cases hq : x.quoted
          · right
            simp only [hq, Bool.not_false, Bool.true_and, List.isEmpty_iff] at hc
            exact hc
          · left; rfl
      · exact hr t ht
  have gen : ∀ (s : Str) (st : State) (x : Ctx), ∀ t ∈ run sq st x s, t.1 = true ∨ t.2 ≠ [] := by
    intro s
    induction s with
    | nil => intro st x; rw [run_nil]; exact emit_ok _ _ (by simp)
    | cons c cs ih =>
      intro st x
      rw [run_cons]
      generalize step1 sq st x c = r
      obtain ⟨o, x'⟩ := r
      cases o with
      | some st' => exact ih st' x'
      | none => exact emit_ok _ _ (ih _ _)
  exact gen s _ _

/-- **Totality of the literal machine.**  The transcription of the Python
classes with the explicit push-back stack, the token as a list of appended
pieces and the `for next_char in self.seq` loop (fuel `2·len + 2`) never runs
out of fuel and computes exactly `tokens`; hence all theorems above hold for
it. -/
theorem split_total (sq : Bool) (s : Str) : splitM sq s = some (split sq s) := by
  simp [splitM, split, mTokens_eq sq s]

/-- the round trip, stated for the literal machine -/
theorem splitM_join_quote (sq : Bool) (args : List Str) :
    splitM sq (joinSp (args.map (quote sq))) = some args := by
  rw [split_total, split_join_quote]

/-- mixed command lines, stated for the literal machine -/
theorem splitM_mixed_line (sq : Bool) (items : List (Str × List Seg)) (trail : Str)
    (hitems : ∀ p ∈ items, p.1.all isWs = true ∧ p.2 ≠ [] ∧ itemOk sq p.2 = true)
    (hsep : ∀ p ∈ items.tail, p.1 ≠ [])
    (htrail : trail.all isWs = true) :
    splitM sq (layout sq items ++ trail) = some (items.map (fun p => itemVal p.2)) := by
  rw [split_total, split_mixed_line sq items trail hitems hsep htrail]

/-- the whitespace-general round trip, stated for the literal machine -/
theorem splitM_join_quote_ws (sq : Bool) (items : List (Str × Str)) (trail : Str)
    (hws : ∀ p ∈ items, p.1.all isWs = true)
    (hsep : ∀ p ∈ items.tail, p.1 ≠ [])
    (htrail : trail.all isWs = true) :
    splitM sq (layout sq (items.map fun p => (p.1, [Seg.q p.2])) ++ trail) = some (items.map (·.2)) := by
  rw [split_total, split_join_quote_ws sq items trail hws hsep htrail]

/-- examples from `test_cmdline.py` evaluated in the model (both machines) -/
example : tokens false "\"\\\\\\\\\" *.py".toList = [(true, "\\\\".toList), (false, "*.py".toList)]
    ∧ mTokens false "\\\\\\\\\\\" *.py".toList = some [(false, "\\\\\"".toList), (false, "*.py".toList)]
    ∧ tokens true "a '' c".toList = [(false, ['a']), (true, []), (false, ['c'])]
    ∧ tokens false "''".toList = [(false, "''".toList)] := by
  repeat rw [String.toList_ofList]
  decide +kernel

end BreezyVerif.C50
