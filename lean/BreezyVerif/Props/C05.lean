import BreezyVerif.Lemmas.C05Fine
/-!
C05 — concurrent pack writers and packers never lose committed data.

The theorems with a `sched` argument hold for EVERY schedule
(`List (pid × phase)`: any number of processes, any phases in any order — a
superset of all interleavings of all programs), every initial consistent
directory and every content assignment.
-/
namespace BreezyVerif.C05
open BreezyVerif.C04

/-- **The pack list a process writes is the three-way merge** of its own
changes with the changes made by others since it last read the list: a name is
listed after `save` iff (it was on disk and the process did not drop it) or
(the process added it). -/
theorem save_is_threeway_merge (s : Sys) (i : Nat) (clear : Bool) (n : Nat) :
    n ∈ (step s i (.save clear)).disk.names ↔
      (n ∈ s.disk.names ∧ ¬(n ∈ (s.procs i).atLoad ∧ n ∉ (s.procs i).names)) ∨
      (n ∈ (s.procs i).names ∧ n ∉ (s.procs i).atLoad ∧ n ∉ s.disk.names) := by
  simp only [step, names_saveStep]
  exact mem_mergeNames

/-- after the save the process' memory is synchronised with what it wrote -/
theorem save_synchronises (s : Sys) (i : Nat) (clear : Bool) :
    ((step s i (.save clear)).procs i).names = (step s i (.save clear)).disk.names ∧
    ((step s i (.save clear)).procs i).atLoad = (step s i (.save clear)).disk.names := by
  simp only [step, names_saveStep, upd_same, and_self]

/-- **Committed data is never lost.**  After every schedule every revision
whose write group's save completed is visible through the current
`pack-names`. -/
theorem committed_data_kept (chk : Bool) (d : Disk) (content : Nat → List Nat) (next : Nat)
    (hb : ∀ n ∈ d.names, n < next) (sched : Schedule) :
    ∀ r ∈ (exec (Sys.init chk d content next) sched).committed,
      r ∈ visible (exec (Sys.init chk d content next) sched) := by
  intro r hr
  have h := invA_exec _ sched (invA_init chk d content next hb)
  obtain ⟨n, hn, hrn⟩ := h.comm r hr
  obtain ⟨m, hm, hrm⟩ := h.kept n hn r hrn
  exact List.mem_flatMap.mpr ⟨m, hm, hrm⟩

/-- a pack operation may drop a listed name only together with listing a pack
that holds its data: whatever was ever listed stays visible -/
theorem listed_data_kept (chk : Bool) (d : Disk) (content : Nat → List Nat) (next : Nat)
    (hb : ∀ n ∈ d.names, n < next) (sched : Schedule) :
    let s := exec (Sys.init chk d content next) sched
    ∀ n ∈ s.ever, ∀ r ∈ s.content n, r ∈ visible s := by
  intro s n hn r hr
  have h := invA_exec _ sched (invA_init chk d content next hb)
  obtain ⟨m, hm, hrm⟩ := h.kept n hn r hr
  exact List.mem_flatMap.mpr ⟨m, hm, hrm⟩

/-- **A listed pack is findable**: after every schedule every pack listed in
`pack-names` has its `.pack` and all indices in `packs/` / `indices/` — because
a pack is obsoleted strictly after the save that removed its name, and only
then. -/
theorem listed_pack_findable (chk : Bool) (d : Disk) (content : Nat → List Nat) (next : Nat)
    (hb : ∀ n ∈ d.names, n < next) (hc : complete chk d = true) (sched : Schedule) :
    complete chk (exec (Sys.init chk d content next) sched).disk = true := by
  have := (inv_of_init chk d content next hb hc sched).2.r1
  rw [exec_chk] at this
  have e : (Sys.init chk d content next).chk = chk := rfl
  rw [e] at this
  simpa [complete] using this

/-- **A reader with a stale view finds the data after reloading.**  In every
reachable state, for every process and every pack `n` in its (possibly
outdated) list: after `reload_pack_names` its list contains a pack that holds
each revision of `n`, and that pack's files are in place. -/
theorem reload_finds_data (chk : Bool) (d : Disk) (content : Nat → List Nat) (next : Nat)
    (hb : ∀ n ∈ d.names, n < next) (hc : complete chk d = true) (sched : Schedule) (p : Nat) :
    let s := exec (Sys.init chk d content next) sched
    let s' := step s p .reload
    ∀ n ∈ (s.procs p).names, ∀ r ∈ s.content n,
      ∃ m ∈ (s'.procs p).names, r ∈ s'.content m ∧ ready s'.chk s'.disk m = true := by
  have hinv := inv_of_init chk d content next hb hc sched
  exact reload_finds_of_inv _ hinv.1 hinv.2 p

/-- deleting files that are not `f` keeps `f` -/
theorem mem_run_deletes (f : File) (l : List File) (d : Disk) (hf : f ∈ d.files) (hl : f ∉ l) :
    f ∈ (run d (l.map Op.delete)).files := by
  induction l generalizing d with
  | nil => exact hf
  | cons g rest ih =>
    simp only [List.map_cons, run_cons]
    apply ih
    · exact mem_step_files hf (by simpa using fun e => hl (by simp [e]))
    · exact fun h => hl (by simp [h])

/-- **Cleanup preserves the just-obsoleted packs**: `_clear_obsolete_packs(preserve)`
leaves every file of a preserved pack in `obsolete_packs/` where it is, and
deletes nothing outside `obsolete_packs/`. -/
theorem clear_preserves_just_obsoleted (d : Disk) (preserve : List Nat) (f : File) (hf : f ∈ d.files)
    (h : f.dir ≠ .obsolete ∨ f.stem ∈ preserve) :
    f ∈ (run d (clearOps d preserve)).files := by
  apply mem_run_deletes f _ d hf
  simp only [clearTargets, List.mem_filter, List.mem_append, Bool.and_eq_true, decide_eq_true_eq,
    Bool.not_eq_eq_eq_not, Bool.not_true, List.contains_eq_mem, decide_eq_false_iff_not, not_and]
  intro _ hdir
  rcases h with h | h
  · exact absurd hdir h
  · exact fun hn => hn h

/-- and what it reports as found (`already_obsolete`) is skipped by the
following `_obsolete_packs`: a pack that is in `obsolete_packs/` already is not
moved again over the preserved copy -/
theorem save_skips_already_obsolete (s : Sys) (i : Nat) (clear : Bool) (n : Nat)
    (hn : n ∈ alreadyObsolete s.disk) (hold : n ∉ (s.procs i).toObsolete) :
    n ∉ ((step s i (.save clear)).procs i).toObsolete := by
  simp only [step, upd_same, List.mem_append, List.mem_filter, not_or]
  exact ⟨hold, fun h => by simp [hn] at h⟩

/-- **Committed data stays listed AND readable**: every committed revision is
held by a pack that is listed in `pack-names` and whose `.pack` and indices are
all in place (the join of `committed_data_kept` and `listed_pack_findable`). -/
theorem committed_readable (chk : Bool) (d : Disk) (content : Nat → List Nat) (next : Nat)
    (hb : ∀ n ∈ d.names, n < next) (hc : complete chk d = true) (sched : Schedule) :
    let s := exec (Sys.init chk d content next) sched
    ∀ r ∈ s.committed, ∃ m ∈ s.disk.names, r ∈ s.content m ∧ ready s.chk s.disk m = true := by
  have hinv := inv_of_init chk d content next hb hc sched
  exact committed_readable_of_inv hinv.1 hinv.2

/-! ### transport-operation granularity (`Model/C05Fine.lean`)

The same statements when the deletes of `_clear_obsolete_packs` and the moves of
`_obsolete_packs` are single steps between which every other process may do
anything (begin phases, perform its own queued operations): for EVERY schedule
of `(process, begin phase | perform next queued operation)`. -/

theorem fine_inv (chk : Bool) (d : Disk) (content : Nat → List Nat) (next : Nat)
    (hb : ∀ n ∈ d.names, n < next) (hc : complete chk d = true) (sched : FSchedule) :
    FInv (fexec (FSys.init (Sys.init chk d content next)) sched) :=
  finv_exec _ sched (finv_init _ (invA_init chk d content next hb) (invB_init chk d content next hc))

/-- committed data is listed and readable after every operation-granularity schedule -/
theorem fine_committed_readable (chk : Bool) (d : Disk) (content : Nat → List Nat) (next : Nat)
    (hb : ∀ n ∈ d.names, n < next) (hc : complete chk d = true) (sched : FSchedule) :
    let s := (fexec (FSys.init (Sys.init chk d content next)) sched).s
    ∀ r ∈ s.committed, ∃ m ∈ s.disk.names, r ∈ s.content m ∧ ready s.chk s.disk m = true := by
  have hinv := fine_inv chk d content next hb hc sched
  exact committed_readable_of_inv hinv.a hinv.b

/-- **a listed pack never disappears, not even between two renames of
`_obsolete_packs` or two deletes of `_clear_obsolete_packs`** -/
theorem fine_listed_pack_findable (chk : Bool) (d : Disk) (content : Nat → List Nat) (next : Nat)
    (hb : ∀ n ∈ d.names, n < next) (hc : complete chk d = true) (sched : FSchedule) :
    complete chk (fexec (FSys.init (Sys.init chk d content next)) sched).s.disk = true := by
  have hinv := fine_inv chk d content next hb hc sched
  have := hinv.b.r1
  rw [fexec_chk] at this
  simpa [complete, FSys.init, Sys.init] using this

/-- **the reader clause at operation granularity**: whenever a process with a
stale list reloads — at any point between any two transport operations of the
others — its new list contains, for each revision of each pack it listed, a
pack holding it whose files are all in place. -/
theorem fine_reload_finds_data (chk : Bool) (d : Disk) (content : Nat → List Nat) (next : Nat)
    (hb : ∀ n ∈ d.names, n < next) (hc : complete chk d = true) (sched : FSchedule) (p : Nat) :
    let s := (fexec (FSys.init (Sys.init chk d content next)) sched).s
    let s' := step s p .reload
    ∀ n ∈ (s.procs p).names, ∀ r ∈ s.content n,
      ∃ m ∈ (s'.procs p).names, r ∈ s'.content m ∧ ready s'.chk s'.disk m = true := by
  intro s s'
  have hinv := fine_inv chk d content next hb hc sched
  exact reload_finds_of_inv s hinv.a hinv.b p

/-- non-vacuity at operation granularity: the packer (process 2) has saved and
is moving its sources to `obsolete_packs/` one file at a time; in between, a
writer saves, the stale reader 1 reloads and another process cleans
`obsolete_packs/`: the directory is complete after every prefix -/
example :
    let s0 := Sys.init true ⟨[0, 1], packFiles true 0 ++ packFiles true 1, [], false⟩
      (fun n => if n = 0 then [100] else if n = 1 then [101] else []) 10
    let sched : FSchedule :=
      [(0, .begin .reload), (1, .begin .reload), (2, .begin .reload), (0, .begin (.finish [102])),
       (2, .begin (.repack [0, 1])), (2, .begin (.save true)), (2, .op), (2, .begin .obsolete), (2, .op), (2, .op),
       (0, .begin (.save false)), (2, .op), (1, .begin .reload), (3, .begin .clearAll), (2, .op), (3, .op), (0, .op),
       (2, .op), (3, .op), (2, .op), (2, .op), (2, .op), (2, .op), (2, .op), (2, .op), (2, .op), (3, .op), (3, .op)]
    (∀ k ≤ sched.length, complete true (fexec (FSys.init s0) (sched.take k)).s.disk = true) ∧
    (fexec (FSys.init s0) sched).s.disk.names = [13, 11] ∧
    ((fexec (FSys.init s0) sched).s.procs 1).names = [13, 11] ∧
    ((fexec (FSys.init s0) sched).s.procs 2).toObsolete = [] := by
  intro s0 sched
  refine ⟨fun k _ => fine_listed_pack_findable true _ _ 10 (by decide) (by decide +kernel) (sched.take k), ?_⟩
  decide +kernel

/-- on schedules without name reuse `execX` (what the driver runs) is `exec` -/
theorem execX_base (s : Sys) (sched : Schedule) :
    execX s (sched.map (fun a => (a.1, XAct.base a.2))) = exec s sched := by
  induction sched generalizing s with
  | nil => rfl
  | cons a rest ih => exact ih _

/-- **Witness (reproduced on the real code, reported).**  Two processes fetch the
same revisions concurrently, so both write a pack with the same content hash
`11`.  Process 0 commits it, then packs: `11` is combined into `13` and is about
to be obsoleted.  Process 1 (which loaded the list before) finishes its
identical pack — `NewPack.finish` renames it over `packs/11.pack` — and saves:
the three-way merge lists `11` again (a new name for process 1).  Process 0 now
moves the files of `11` to `obsolete_packs/`: `11` is listed and its files are
gone.  All data is still held by `13`, but the directory lists a pack that
cannot be found, and reloading does not help. -/
theorem same_name_relisted_witness :
    let s0 := Sys.init true ⟨[0, 1], packFiles true 0 ++ packFiles true 1, [], false⟩
      (fun n => if n = 0 then [100] else if n = 1 then [101] else []) 10
    let sched : XSchedule :=
      [(1, .base .reload), (0, .base .reload), (0, .base (.finish [102])), (0, .base (.save false)),
       (0, .base .reload), (0, .base (.repack [0, 1, 11])), (0, .base (.save true)),
       (1, .finishAs 11 [102]), (1, .base (.save false)), (0, .base .obsolete)]
    let s := execX s0 sched
    s.disk.names = [13, 11] ∧ ready true s.disk 11 = false ∧ complete true s.disk = false ∧
    (∀ r ∈ [100, 101, 102], r ∈ s.content 13) := by
  decide +kernel

/-- **Witness, the other window.**  Process 1 has finished its identical pack
`11` but not saved yet; process 0 commits the same pack, packs and obsoletes
`11`; then process 1 saves and lists `11`, whose files are in
`obsolete_packs/`. -/
theorem same_name_obsoleted_before_save_witness :
    let s0 := Sys.init true ⟨[0, 1], packFiles true 0 ++ packFiles true 1, [], false⟩
      (fun n => if n = 0 then [100] else if n = 1 then [101] else []) 10
    let sched : XSchedule :=
      [(0, .base .reload), (1, .base .reload), (1, .base (.finish [102])), (0, .finishAs 11 [102]),
       (0, .base (.save false)), (0, .base .reload), (0, .base (.repack [0, 1, 11])), (0, .base (.save true)),
       (0, .base .obsolete), (1, .base (.save false))]
    let s := execX s0 sched
    s.disk.names = [15, 11] ∧ ready true s.disk 11 = false ∧ complete true s.disk = false := by
  decide +kernel

/-- **Witness.**  Two writers that loaded the same list and each add a pack: if
the second simply wrote its own list (no merge with the disk), the first
writer's committed pack would no longer be listed; with the real three-way
merge both are. -/
theorem overwrite_loses_witness :
    let s0 := Sys.init true ⟨[0], packFiles true 0, [], false⟩ (fun n => if n = 0 then [100] else []) 10
    let sched : Schedule := [(0, .reload), (1, .reload), (0, .finish [101]), (1, .finish [102]), (0, .save false)]
    let s := exec s0 sched
    -- process 1's own list (what an overwrite would put on disk) lacks process 0's pack 11
    11 ∈ s.disk.names ∧ 11 ∉ (s.procs 1).names ∧
    -- the real save keeps it
    (step s 1 (.save false)).disk.names = [0, 11, 13] := by
  decide +kernel

/-- two writers and a packer interleaved: both commits survive the concurrent
pack, everything committed is visible at the end -/
example :
    let s0 := Sys.init true ⟨[0, 1], packFiles true 0 ++ packFiles true 1, [], false⟩
      (fun n => if n = 0 then [100] else if n = 1 then [101] else []) 10
    let sched : Schedule :=
      [(0, .reload), (1, .reload), (2, .reload), (0, .finish [102]), (2, .repack [0, 1]), (1, .finish [103]),
       (2, .save true), (0, .save false), (2, .obsolete), (1, .save false), (0, .reload)]
    let s := exec s0 sched
    s.disk.names = [13, 11, 15] ∧ (∀ r ∈ [100, 101, 102, 103], r ∈ visible s) ∧
    complete true s.disk = true ∧ (s.procs 2).toObsolete = [] ∧
    (∀ n ∈ s0.disk.names, n < 10) := by
  decide +kernel

/-- a packer whose view is stale (its sources were already replaced by another
packer) and that is asked to repack packs it no longer lists reloads instead
(`_restart_autopack`); one whose copy is already made writes its pack, and the
merge keeps both combined packs — nothing is lost -/
example :
    let s0 := Sys.init false ⟨[0, 1], packFiles false 0 ++ packFiles false 1, [], false⟩
      (fun n => if n = 0 then [100] else if n = 1 then [101] else []) 10
    let sched : Schedule :=
      [(0, .reload), (1, .reload), (0, .repack [0, 1]), (0, .save true), (0, .obsolete),
       (1, .repack [0, 1]), (1, .save true), (1, .obsolete), (1, .repack [0, 1])]
    let s := exec s0 sched
    s.disk.names = [11, 13] ∧ (s.procs 1).names = [11, 13] ∧ (∀ r ∈ [100, 101], r ∈ visible s) ∧
    complete false s.disk = true := by
  decide +kernel

end BreezyVerif.C05
