import BreezyVerif.Lemmas.C34
import BreezyVerif.Lemmas.C34RT
import BreezyVerif.Lemmas.Lib.Span
/-!
C34 — importing then exporting a git commit reproduces it.

`exp_imp_id_partial`: for EVERY codec environment (Python's codec registry and
the behaviour of all its codecs other than utf-8 / latin-1 / ascii are a
parameter `env : Env` about which only `PyEnv` — the names "utf-8" and "latin1"
mean what they say — is assumed) and EVERY commit record (any field values, any
number of parents / mergetags / extra headers, any `encoding` header, strict or
not) that `import_commit` accepts, that is `Canon` and whose header codec is
`CodecFaithful` on the commit's text (automatic for every alias of utf-8 /
latin-1 / ascii, `std_codec_faithful`; FALSE for codecs whose decode is not
injective — finding `encoding-noninjective-codec`,
`encoding_noninjective_codec_witness`), `export_commit` of the imported revision
is exactly the original record.  `Canon` excludes the three
input families on which the code does not round-trip (each has a `_witness`
theorem and is reproduced on the real code by the check): missing message,
person identifiers that are not a fixed point of `fix_person_identifier`,
extra-header values with an embedded newline (continuation lines) — plus three
well-formedness facts of parsed commits (40-byte parent
shas, non-empty gpgsig if present, only recognised extra headers).
Record level: dulwich's (de)serialisation and SHA-1 are external, so "equal
record" is what the model can say about "identical bytes".
-/
namespace BreezyVerif.C34

/-- the accepted-and-round-trippable domain -/
def Canon (c : Commit) : Bool :=
  c.message.isSome &&
  decide (fixPerson c.committer = some c.committer) &&
  decide (fixPerson c.author = some c.author) &&
  decide (firstAuthor c.author = c.author) &&
  decide (c.gpgsig ≠ some []) &&
  c.parents.all (fun p => p.length = 40) &&
  extraOK c.extra

theorem Canon_with_encoding (c : Commit) (e : Option Bytes) : Canon { c with encoding := e } = Canon c := by
  simp only [Canon]

theorem fixPerson_ne_nil {t : Bytes} (h : fixPerson t = some t) : t ≠ [] := by
  rintro rfl
  exact absurd h (by decide)

/-- **Round trip** (partial: on `Canon` commits with a `CodecFaithful` header
codec, see the `_witness` theorems). -/
theorem exp_imp_id_partial (env : Env) (fx strict : Bool) (id : Bytes) (c : Commit) (rev : Rev)
    (hwf : PyEnv env) (himp : importCommit env fx strict id c = .ok rev) (hcanon : Canon c = true)
    (hcodec : CodecFaithful env c = true) :
    exportCommit env rev c.tree = .ok c := by
  simp only [Canon, Bool.and_eq_true, decide_eq_true_eq, List.all_eq_true] at hcanon
  obtain ⟨⟨⟨⟨⟨⟨hmsg, hfc⟩, hfa⟩, hfirst⟩, hsig⟩, hpar⟩, hextra⟩ := hcanon
  obtain ⟨cm, au, msg, impl, ls, un, hd, hx, -, rfl⟩ := importCommit_ok himp
  obtain ⟨hls, rfl⟩ := importExtra_ok strict c.extra ls un hextra hx
  obtain ⟨hdu, hname⟩ := importDecode_ok hwf hd
  obtain ⟨hcm, hau, hms⟩ := decodeUsing_ok hdu
  have hne : c.author ≠ [] := fixPerson_ne_nil hfa
  -- the codec export will use re-encodes what import decoded
  have hfaith : Faith env (encName c.encoding impl) c := by
    rcases hname with hstd | ⟨e, he, hf, hn⟩
    · exact faith_of_std hstd hne hfirst
    · rw [hn]; exact codecFaithful_iff.mp hcodec e he hf
  obtain ⟨m, hm⟩ := Option.isSome_iff_exists.mp hmsg
  obtain ⟨sm, rfl, hdm⟩ : ∃ s, msg = some s ∧ decodeName env (encName c.encoding impl) m = .ok s := by
    rcases hms with ⟨_, h0⟩ | ⟨m', s, h1, h2, h3⟩
    · rw [hm] at h0; cases h0
    · rw [hm] at h1; cases h1; exact ⟨s, h2, h3⟩
  have hparents := exportParents_map c.parents (fun p hp => by simpa using hpar p hp)
  have hcomm : exportIdent env (encName c.encoding impl) cm = .ok c.committer := by
    simp [exportIdent, hfaith.committer cm hcm, hfc]
  have hauth : ∀ (rev : Rev), rev.committer = cm → rev.props.author = au →
      exportAuthor env (encName c.encoding impl) rev = .ok c.author := by
    intro rev h1 h2
    unfold exportAuthor
    rw [h1, h2]
    rcases hau with ⟨rfl, hca⟩ | ⟨sa, rfl, _, hda⟩
    · rw [hca] at hcm
      obtain ⟨f1, f2, f3⟩ := hfaith.author cm hcm
      simp [f1, f2, exportIdent, f3, hfa]
    · obtain ⟨f1, f2, f3⟩ := hfaith.author sa hda
      simp [f1, f2, exportIdent, f3, hfa]
  have hgpg := gpgsig_roundtrip hsig
  have hextra' : exportGitExtra (importGitExtra ls) = .ok c.extra := by
    unfold importGitExtra
    by_cases hnil : c.extra = []
    · simp [hls, hnil, exportGitExtra]
    · have : ls ≠ [] := by rw [hls]; simpa using hnil
      simp only [this, ne_eq, not_false_eq_true, if_true, exportGitExtra, encode]
      rw [hls]
      exact extra_roundtrip c.extra hextra
  have hmsg' : encodeName env (encName c.encoding impl) sm = .ok m := hfaith.message m sm hm hdm
  unfold exportCommit
  simp only [importProps, hparents, hcomm, hgpg, hextra', hmsg', Option.isNone_some,
    Option.getD_some, mapM_encode_se]
  rw [hauth _ rfl rfl]
  simp only [Bool.false_eq_true, if_false, Except.ok.injEq]
  -- what is left is `c` field by field; the author's time and zone come back from the optional properties
  obtain ⟨tree, parents, author, authorTime, authorTz, authorNegUtc, committer, commitTime, commitTz,
    commitNegUtc, encoding, mergetags, extra, gpgsig, message⟩ := c
  simp only [Commit.mk.injEq, true_and]
  refine ⟨?_, ?_, hm.symm⟩
  · by_cases e : commitTime = authorTime <;> simp [e]
  · by_cases e : commitTz = authorTz <;> simp [e]

/-- every alias of utf-8 / latin-1 / ascii is faithful on every `Canon` commit: for
those the round trip needs no codec hypothesis (this is what makes `UTF_8`, `l1`,
`cp819`, `u8` … work) -/
theorem std_codec_faithful (env : Env) (c : Commit) (e : Bytes) (he : c.encoding = some e)
    (hstd : isStd (env.lookup e) = true) (hcanon : Canon c = true) : CodecFaithful env c = true := by
  simp only [Canon, Bool.and_eq_true, decide_eq_true_eq, List.all_eq_true] at hcanon
  obtain ⟨⟨⟨⟨⟨⟨_, _⟩, hfa⟩, hfirst⟩, _⟩, _⟩, _⟩ := hcanon
  refine codecFaithful_iff.mpr fun e' he' _ => ?_
  rw [he] at he'
  cases he'
  exact faith_of_std hstd (fixPerson_ne_nil hfa) hfirst

/-- the round trip for commits without an `encoding` header, with `encoding false`,
or with any name the registry resolves to utf-8 / latin-1 / ascii -/
theorem exp_imp_id_std_partial (env : Env) (fx strict : Bool) (id : Bytes) (c : Commit) (rev : Rev)
    (hwf : PyEnv env) (himp : importCommit env fx strict id c = .ok rev) (hcanon : Canon c = true)
    (hstd : ∀ e, c.encoding = some e → e = bs "false" ∨ isStd (env.lookup e) = true) :
    exportCommit env rev c.tree = .ok c := by
  refine exp_imp_id_partial env fx strict id c rev hwf himp hcanon ?_
  cases he : c.encoding with
  | none => simp [CodecFaithful, he]
  | some e =>
    rcases hstd e he with hf | hs
    · simp [CodecFaithful, he, hf]
    · exact std_codec_faithful env c e he hs hcanon

/-- what a re-encode check of the bytes cannot see: the decoded author str is
non-empty and is not cut by the `"," … ">"` hack of `export_commit` (for the
standard codecs this is part of `Canon`) -/
def AuthorStrCanon (env : Env) (c : Commit) : Bool :=
  match c.encoding with
  | some e =>
    if e = bs "false" then true
    else match decodeName env e c.author with
      | .ok s => decide (s.bytes ≠ []) && decide (firstAuthor s.bytes = s.bytes)
      | .error _ => true
  | none => true

/-- **Variant with the proposed fix** (`fx = true`: strict import refuses a header
codec that does not reproduce the text): every commit a strict import accepts has
a `CodecFaithful` header codec, up to the author-str condition -/
theorem fixed_strict_codec_faithful (env : Env) (id : Bytes) (c : Commit) (rev : Rev)
    (himp : importCommit env true true id c = .ok rev) (ha : AuthorStrCanon env c = true) :
    CodecFaithful env c = true := by
  refine codecFaithful_iff.mpr fun e he hf => ?_
  -- the strict import of this variant has run the re-encode check
  obtain ⟨_, _, _, _, _, _, hd, -, -, -⟩ := importCommit_ok himp
  have hr := (importDecode_header he hf hd).2.2.2 rfl rfl
  simp only [reencodes, Bool.and_eq_true, reenc_iff] at hr
  obtain ⟨⟨h1, h2⟩, h3⟩ := hr
  simp only [AuthorStrCanon, he, hf, if_false] at ha
  refine ⟨h1, fun s hd => ?_, fun m s hm => ?_⟩
  · simp only [hd, Bool.and_eq_true, decide_eq_true_eq] at ha
    exact ⟨ha.1, ha.2, h2 s hd⟩
  · rw [hm] at h3
    exact reenc_iff.mp h3 s

/-- the round trip in the variant with the fix, strict mode: no codec hypothesis -/
theorem exp_imp_id_fixed_strict_partial (env : Env) (id : Bytes) (c : Commit) (rev : Rev)
    (hwf : PyEnv env) (himp : importCommit env true true id c = .ok rev) (hcanon : Canon c = true)
    (ha : AuthorStrCanon env c = true) :
    exportCommit env rev c.tree = .ok c :=
  exp_imp_id_partial env true true id c rev hwf himp hcanon
    (fixed_strict_codec_faithful env id c rev himp ha)

/-- the revision id depends on the sha only -/
theorem revid_stable (env : Env) (fx strict : Bool) (id : Bytes) (c : Commit) (rev : Rev)
    (himp : importCommit env fx strict id c = .ok rev) : rev.revisionId = bs "git-v1:" ++ id := by
  obtain ⟨_, _, _, _, _, _, -, -, -, rfl⟩ := importCommit_ok himp
  rfl

theorem revid_independent (env env' : Env) (fx fx' s s' : Bool) (id : Bytes) (c c' : Commit) (rev rev' : Rev)
    (h : importCommit env fx s id c = .ok rev) (h' : importCommit env' fx' s' id c' = .ok rev') :
    rev.revisionId = rev'.revisionId := by
  rw [revid_stable env fx s id c rev h, revid_stable env' fx' s' id c' rev' h']

/-- strict import refuses a commit with an extra header it does not know -/
theorem imp_rejects_unknown_extra (env : Env) (fx : Bool) (id : Bytes) (c : Commit) (k v : Bytes)
    (hk : k ≠ bs "HG:rename-source" ∧ k ≠ bs "HG:extra") (hmem : (k, v) ∈ c.extra) :
    ∀ rev, importCommit env fx true id c ≠ .ok rev := by
  intro rev h
  obtain ⟨_, _, _, _, ls, un, -, hx, hun, -⟩ := importCommit_ok h
  -- `k` is among the unknown names that `importExtra` returns
  apply hun
  rw [(importExtra_spec true c.extra ls un hx).2]
  have : knownKey k = false := by simp [knownKey, hk.1, hk.2]
  exact ⟨List.ne_nil_of_mem
    (List.mem_map.mpr ⟨(k, v), List.mem_filter.mpr ⟨hmem, by simp [this]⟩, rfl⟩), rfl⟩

/-- strict import refuses an `HG:extra` header whose key is not in the known list
(when nothing earlier in the commit is refused first, the error is this one) -/
theorem imp_rejects_unknown_hg_extra (strict : Bool) (rest : List (Bytes × Bytes)) (hgk v : Bytes)
    (hb : beforeColon v = some hgk) (hk : hgk ∉ hgExtraKeys) :
    importExtra true ((bs "HG:extra", v) :: rest) = .error .unknownHgExtra ∧
    (strict = false → ∀ ls un, importExtra false rest = .ok (ls, un) →
      importExtra false ((bs "HG:extra", v) :: rest) = .ok ((bs "HG:extra" ++ [32] ++ v ++ [10]) :: ls, un)) := by
  have hne := hgExtra_ne_renameSource
  constructor
  · unfold importExtra; simp [hne, hb, hk]
  · intro _ ls un hr
    unfold importExtra; simp [hne, hb, hr, bind, Except.bind, pure, Except.pure]

/-! ### the excluded families are real failures (findings) -/

/-- import followed by export -/
def roundTripE (env : Env) (fx strict : Bool) (id : Bytes) (c : Commit) : Except Err (Except Err Commit) :=
  match importCommit env fx strict id c with
  | .error e => .error e
  | .ok rev => .ok (exportCommit env rev c.tree)

def bom : Bytes := [0xef, 0xbb, 0xbf]

/-- a concrete registry for the witnesses: the usual spellings of utf-8 / latin-1 /
ascii plus two aliases, `utf-8-sig` (on decode a leading BOM is dropped, on encode
one is prepended — what the real codec does on ASCII text), `x-rev` (an
artificial bijective codec: the str is the reversed input) and nothing else -/
def envW : Env where
  lookup := fun n =>
    if n = bs "utf-8" ∨ n = bs "UTF-8" ∨ n = bs "utf8" ∨ n = bs "UTF_8" then .utf8
    else if n = bs "latin1" ∨ n = bs "latin-1" ∨ n = bs "iso-8859-1" ∨ n = bs "l1" then .latin1
    else if n = bs "ascii" ∨ n = bs "us-ascii" then .ascii
    else if n = bs "utf-8-sig" ∨ n = bs "x-rev" then .ext
    else if n = bs "utf\x00" then .bad
    else .unknown
  dec := fun n b =>
    if n = bs "utf-8-sig" then .ok (if bom.isPrefixOf b then b.drop 3 else b)
    else if n = bs "x-rev" then .ok b.reverse
    else .error .envMiss
  enc := fun n r =>
    if n = bs "utf-8-sig" then .ok (bom ++ r)
    else if n = bs "x-rev" then .ok r.reverse
    else .error .envMiss

example : PyEnv envW := by decide +kernel

def roundTrip (strict : Bool) (id : Bytes) (c : Commit) : Except Err (Except Err Commit) :=
  roundTripE envW false strict id c

def wCommit : Commit :=
  { tree := bs "tree", parents := [List.replicate 40 97],
    author := bs "A <a@x>", authorTime := 10, authorTz := 3600, authorNegUtc := false,
    committer := bs "C <c@x>", commitTime := 12, commitTz := 0, commitNegUtc := true,
    encoding := some (bs "latin1"), mergetags := [bs "object x\n"],
    extra := [(bs "HG:rename-source", bs "a b"), (bs "HG:extra", bs "source:abc")],
    gpgsig := some (bs "sig"), message := some (bs "msg\n") }

/-- non-vacuity: a commit with an encoding header, distinct author, times, zones,
`-0000`, a mergetag, two extra headers and a signature is `Canon`, accepted, and
round-trips -/
theorem canon_example_ok : Canon wCommit = true ∧
    roundTrip true (bs "1234") wCommit = .ok (.ok wCommit) := by
  decide +kernel

/-- finding `missing-message`: accepted by import, export raises (AttributeError) -/
theorem missing_message_witness :
    roundTrip true (bs "1234") { wCommit with message := none } = .ok (.error .attr) := by
  decide +kernel

/-- finding `person-ident-noncanonical`: `A<a@x>` comes back as `A <a@x>`, and an
identifier ending in `>` without `<` is accepted by import but export raises -/
theorem person_ident_witness :
    roundTrip true (bs "1234") { wCommit with author := bs "A<a@x>" } =
      .ok (.ok { wCommit with author := bs "A <a@x>" }) ∧
    roundTrip true (bs "1234") { wCommit with author := bs "foo>" } = .ok (.error .value) := by
  decide +kernel

/-- finding `git-extra-embedded-newline`: a continuation line in an
`HG:rename-source` value is accepted by import; export raises (ValueError in
`l.split(" ", 1)`) or, when the continuation contains a space, invents a header -/
theorem git_extra_embedded_newline_witness :
    roundTrip true (bs "1234") { wCommit with extra := [(bs "HG:rename-source", [97, 10, 98])] } =
      .ok (.error .value) ∧
    roundTrip true (bs "1234") { wCommit with extra := [(bs "HG:rename-source", [97, 10, 98, 32, 99])] } =
      .ok (.ok { wCommit with extra := [(bs "HG:rename-source", [97]), ([98], [99])] }) := by
  decide +kernel

/-- (fixed in b3a449a) the other `str.splitlines()` boundaries — form feed, CR,
U+2028 … — in an extra-header value now round-trip -/
theorem git_extra_formfeed_roundtrips :
    roundTrip true (bs "1234")
        { wCommit with extra := [(bs "HG:rename-source", [97, 12, 98, 13, 0xe2, 0x80, 0xa8])] } =
      .ok (.ok { wCommit with extra := [(bs "HG:rename-source", [97, 12, 98, 13, 0xe2, 0x80, 0xa8])] }) := by
  decide +kernel

/-- finding `encoding-noninjective-codec`: with `encoding utf-8-sig` the commit is
accepted and comes back with a BOM in front of author, committer and message
(also when the message is empty); an alias of a standard codec (`UTF_8`, `l1`)
and a bijective environment codec round-trip -/
theorem encoding_noninjective_codec_witness :
    roundTrip true (bs "1234") { wCommit with encoding := some (bs "utf-8-sig") } =
      .ok (.ok { wCommit with encoding := some (bs "utf-8-sig"), author := bom ++ bs "A <a@x>",
                              committer := bom ++ bs "C <c@x>", message := some (bom ++ bs "msg\n") }) ∧
    CodecFaithful envW { wCommit with encoding := some (bs "utf-8-sig") } = false ∧
    roundTrip true (bs "1234") { wCommit with encoding := some (bs "utf-8-sig"), message := some [] } =
      .ok (.ok { wCommit with encoding := some (bs "utf-8-sig"), author := bom ++ bs "A <a@x>",
                              committer := bom ++ bs "C <c@x>", message := some bom }) ∧
    roundTrip true (bs "1234") { wCommit with encoding := some (bs "l1") } =
      .ok (.ok { wCommit with encoding := some (bs "l1") }) ∧
    roundTrip true (bs "1234") { wCommit with encoding := some (bs "x-rev") } =
      .ok (.ok { wCommit with encoding := some (bs "x-rev") }) := by
  decide +kernel

/-- in the variant with the fix the `utf-8-sig` commit is refused by a strict import
and a bijective codec is still accepted -/
theorem fixed_variant_refuses_witness :
    importCommit envW true true (bs "1234") { wCommit with encoding := some (bs "utf-8-sig") } =
      .error .irreversible ∧
    isOk (importCommit envW true true (bs "1234") { wCommit with encoding := some (bs "x-rev") }) = true ∧
    AuthorStrCanon envW { wCommit with encoding := some (bs "x-rev") } = true := by
  decide +kernel

/-- non-vacuity of `exp_imp_id_partial` for an environment codec: all hypotheses
hold for `x-rev` (and `canon_example_ok` for latin1) -/
example : PyEnv envW ∧ Canon { wCommit with encoding := some (bs "x-rev") } = true ∧
    CodecFaithful envW { wCommit with encoding := some (bs "x-rev") } = true ∧
    (∃ rev, importCommit envW true true (bs "1234") { wCommit with encoding := some (bs "x-rev") } = .ok rev) := by
  exact ⟨by decide +kernel, (Canon_with_encoding ..).trans canon_example_ok.1, by decide +kernel,
    exists_of_isOk fixed_variant_refuses_witness.2.1⟩

/-- an unknown codec name: import refuses (`UnknownCommitEncoding`); a name with an
embedded NUL: `ValueError` -/
theorem unknown_encoding_rejected :
    roundTrip true (bs "1234") { wCommit with encoding := some (bs "klingon") } = .error .unknownEncoding ∧
    roundTrip true (bs "1234") { wCommit with encoding := some (bs "utf\x00") } = .error .value := by
  decide +kernel

theorem decodeName_latin1_ok (env : Env) (hwf : PyEnv env) (b : Bytes) :
    decodeName env (bs "latin1") b = .ok ⟨.latin1, b⟩ := by
  unfold decodeName; rw [hwf.2]; simp [decode, decodable]

theorem decodeUsing_latin1_ok (env : Env) (hwf : PyEnv env) (c : Commit) :
    ∃ d, decodeUsing env (bs "latin1") c = .ok d := by
  unfold decodeUsing
  simp only [decodeName_latin1_ok env hwf]
  by_cases h : c.committer = c.author
  · simp only [h, ne_eq, not_true_eq_false, if_false]
    cases c.message <;> exact ⟨_, rfl⟩
  · simp only [h, ne_eq, not_false_eq_true, if_true, Except.map]
    cases c.message <;> exact ⟨_, rfl⟩

theorem decodeUsing_utf8_err (env : Env) (hwf : PyEnv env) (c : Commit) (e : Err)
    (h : decodeUsing env (bs "utf-8") c = .error e) : e = .unicodeDecode := by
  have hdn : ∀ b x, decodeName env (bs "utf-8") b = .error x → x = .unicodeDecode := by
    intro b x hx
    simp only [decodeName, hwf.1, decode] at hx
    split at hx <;> cases hx
    rfl
  -- the error is that of one of the three fields, and `lookupToUnknown` leaves it alone
  unfold decodeUsing at h
  split at h
  · next x hc => cases h; rw [hdn _ _ hc]; rfl
  · split at h
    · next x ha =>
      cases h
      split at ha
      · cases hd : decodeName env (bs "utf-8") c.author with
        | error y => rw [hd] at ha; cases ha; rw [hdn _ _ hd]; rfl
        | ok s => rw [hd] at ha; cases ha
      · cases ha
    · split at h
      · cases h
      · split at h
        · next x hm => cases h; exact hdn _ _ hm
        · cases h

/-- (fixed in b3a449a) EVERY `Canon` commit with `encoding false` whose extra
headers import accepts is accepted — the utf-8/latin-1 fallback cannot fail — and
round-trips, in every environment -/
theorem encoding_false_roundtrips (env : Env) (hwf : PyEnv env) (fx strict : Bool) (id : Bytes) (c : Commit)
    (he : c.encoding = some (bs "false")) (hx : ∃ p, importExtra strict c.extra = .ok p)
    (hcanon : Canon c = true) :
    ∃ rev, importCommit env fx strict id c = .ok rev ∧ exportCommit env rev c.tree = .ok c := by
  have hd : ∃ d, importDecode env fx strict c = .ok d := by
    rw [importDecode_fallback (Or.inr he), decodeFallback]
    cases h8 : decodeUsing env (bs "utf-8") c with
    | ok d => exact ⟨_, rfl⟩
    | error e =>
      obtain ⟨d, hl⟩ := decodeUsing_latin1_ok env hwf c
      have := decodeUsing_utf8_err env hwf c e h8
      subst this
      exact ⟨(d, some (bs "latin1")), by simp [hl, Except.map]⟩
  obtain ⟨⟨⟨cm, au, msg⟩, impl⟩, hd⟩ := hd
  obtain ⟨⟨ls, un⟩, hxx⟩ := hx
  have hok : extraOK c.extra = true := by
    simp only [Canon, Bool.and_eq_true] at hcanon; exact hcanon.2
  obtain ⟨_, hun⟩ := importExtra_ok strict c.extra ls un hok hxx
  cases hi : importCommit env fx strict id c with
  | ok rev =>
    exact ⟨rev, rfl, exp_imp_id_std_partial env fx strict id c rev hwf hi hcanon
      (fun e h => Or.inl (by rw [he] at h; cases h; rfl))⟩
  | error e =>
    unfold importCommit at hi
    simp only [hd, hxx, hun] at hi
    simp at hi

/-- non-vacuity of `encoding_false_roundtrips` (with extra headers) -/
example : Canon { wCommit with encoding := some (bs "false") } = true ∧
    (∃ p, importExtra true wCommit.extra = .ok p) := by
  exact ⟨(Canon_with_encoding ..).trans canon_example_ok.1, exists_of_isOk (by decide +kernel)⟩

/-- **`get_revision_id` agrees with import**: for every commit `import_commit`
accepts, `get_revision_id` does not raise and returns the id of the imported
revision (so `revision id derived from a commit` is one value, `git-v1:`+sha) -/
theorem get_revision_id_agrees (env : Env) (hwf : PyEnv env) (fx strict : Bool) (id : Bytes) (c : Commit)
    (rev : Rev) (himp : importCommit env fx strict id c = .ok rev) :
    getRevisionId env id c = .ok rev.revisionId ∧ rev.revisionId = bs "git-v1:" ++ id := by
  have hrid := revid_stable env fx strict id c rev himp
  refine ⟨?_, hrid⟩
  rw [hrid]
  -- decoding with utf-8 raises nothing but `UnicodeDecodeError`, which is swallowed
  have hu8 : ∀ m : Option Bytes, (match m with
      | none => (.ok (foreignToBzr id) : Except Err Bytes)
      | some m => revidOfDecode id (decodeName env (bs "utf-8") m)) = .ok (foreignToBzr id) := by
    intro m
    cases m with
    | none => rfl
    | some m =>
      simp only [decodeName, hwf.1, decode]
      by_cases hdc : decodable .utf8 m = true <;> simp [hdc, revidOfDecode]
  obtain ⟨cm, au, msg, impl, _, _, hd, -, -, -⟩ := importCommit_ok himp
  unfold getRevisionId revidEncName
  cases he : c.encoding with
  | none => exact hu8 c.message
  | some e =>
    by_cases hdef : e ≠ [] ∧ e ≠ bs "false"
    · -- the header's codec: import has checked the name and decoded the message with it
      obtain ⟨hasc, hdu, -, -⟩ := importDecode_header he hdef.2 hd
      obtain ⟨-, -, hms⟩ := decodeUsing_ok hdu
      simp only [if_pos hdef, hasc, if_true]
      rcases hms with ⟨_, h0⟩ | ⟨m, s, h1, _, h3⟩
      · simp only [h0]
        rfl
      · simp only [h1, h3, revidOfDecode]
        rfl
    · simp only [if_neg hdef]
      exact hu8 c.message

/-- **Canonical identifiers are fixed points.**  `name <email>` with no `<` in the
name and no `<`/`>` in the email is returned unchanged (the name may contain `>`). -/
theorem fixPerson_canonical (name email : Bytes) (hn : 60 ∉ name) (he : 60 ∉ email)
    (he' : 62 ∉ email) :
    fixPerson (name ++ bs " <" ++ email ++ bs ">") = some (name ++ bs " <" ++ email ++ bs ">") := by
  have hb1 : bs " <" = [32, 60] := by rw [bs_ofList]; decide +kernel
  have hb2 : bs ">" = [62] := by rw [bs_ofList]; decide +kernel
  rw [hb1, hb2]
  generalize ht' : name ++ [32, 60] ++ email ++ [62] = t
  have ht : t = name ++ [32, 60] ++ email ++ [62] := ht'.symm
  have m62 : (62 : UInt8) ∈ t := by simp [ht]
  have m60 : (60 : UInt8) ∈ t := by simp [ht]
  have hg : ridx 62 t = some (t.length - 1) := by
    unfold ridx
    have : t.reverse = 62 :: (name ++ [32, 60] ++ email).reverse := by simp [ht]
    rw [this]; simp [idx]
  obtain ⟨i, hi, hil⟩ := idx_some_of_mem 60 t.reverse (by simpa using m60)
  have hl : ridx 60 t = some (t.length - 1 - i) := by unfold ridx; simp [hi]
  have hsplit : lastTwoOfSplit2 t = some (name ++ [32], email ++ [62]) := by
    unfold lastTwoOfSplit2
    have h1 : t = (name ++ [32]) ++ 60 :: (email ++ [62]) := by simp [ht]
    have hn' : (60 : UInt8) ∉ name ++ [32] := by simp [hn]
    have he2 : (60 : UInt8) ∉ email ++ [62] := by simp [he]
    rw [h1, split1_nosep 60 _ _ hn']
    simp [split1_none 60 _ he2]
  unfold fixPerson
  have c1 : ¬ ((60 : UInt8) ∉ t ∧ (62 : UInt8) ∉ t) := fun h => h.1 m60
  have c2 : ¬ ((62 : UInt8) ∉ t) := fun h => h m62
  rw [if_neg c1, if_neg c2]
  simp only [hg, hl, hsplit]
  have : ¬ (t.length - 1 < t.length - 1 - i) := by omega
  rw [if_neg this]
  have hemail := (Lib.span_append (p := fun x => !decide (x = 62)) (l₁ := email) (l₂ := [62])
    (fun a ha => by simpa using fun e : a = 62 => he' (e ▸ ha)) (by simp)).1
  simp [hemail, ht, hb1, hb2]

example : fixPerson (bs "A b <a@x>") = some (bs "A b <a@x>") := by decide +kernel
example : fixPerson (bs " <>") = some (bs " <>") := by decide +kernel

/-! ### roundtrip.py: the `--BZR--` metadata block

(not reachable from the v1 mapping in lossy mode — `export_commit` only injects
when `not lossy`, and the only mapping with `experimental = True` has
`roundtripping = False` — but named by the property's anchors) -/

def exSupp : Supp :=
  { revisionId := some (bs "joe@example.com-2009-rev1"), parentIds := some [bs "p1", bs "ghost-2"],
    props := [(bs "branch-nick", bs "trunk"), (bs "bugs", bs "http://b/1 fixed\n\nhttp://b/2 fixed\n")],
    testament := some (bs "0123abcd") }

/-- non-vacuity of `parse_generate` / `extract_inject`: a supplement with every
kind of line, a three-line property value ending in a newline, and a message
containing `--BZR--` but not the marker -/
example : WF exSupp = true ∧ generate exSupp ≠ [] ∧
    noEarlyMarker (bs "fix\n--BZR--x\n") (generate exSupp) = true ∧
    WF emptySupp = true ∧ generate emptySupp = [] ∧ noMarkerIn (bs "fix\n--BZR--x\n") = true := by
  decide +kernel

/-- the hypotheses are needed: a message that already contains the marker is cut
there; a property name with `:` and an id with an inner space come back different
(these are preconditions of the API, not reachable from `import_commit`) -/
theorem roundtrip_metadata_precondition_witness :
    extractMeta (injectMeta (bs "a\n--BZR--\nrevision-id: evil\n") (some emptySupp)) =
      some (bs "a", some { emptySupp with revisionId := some (bs "evil") }) ∧
    parseMeta (generate { emptySupp with props := [(bs "a:b", bs "v")] }) =
      some { emptySupp with props := [(bs "a", bs ": v")] } ∧
    parseMeta (generate { emptySupp with parentIds := some [bs "a b"] }) =
      some { emptySupp with parentIds := some [bs "a", bs "b"] } := by
  decide +kernel

end BreezyVerif.C34
