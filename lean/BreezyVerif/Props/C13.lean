import BreezyVerif.Model.C13
import BreezyVerif.Lemmas.C13
import BreezyVerif.Lemmas.C13Erase
/-!
C13 — theorems.  Every file system state, every operation list, every fault
position (unbounded).
-/
namespace BreezyVerif.C13

/-- a rename onto a free target is undone exactly by the reverse rename (a free target is not
the source: that need not be assumed) -/
theorem rename_free_undo {fs fs' : FS} {a b : Path} (h : rename fs a b = .ok fs')
    (hb : keysUnder fs b = false) : rename fs' b a = .ok fs := by
  obtain ⟨hab, ha0, hb0, hpa, hpb, ⟨na, hna⟩, hab', rfl⟩ := rename_ok_inv h hb
  have hba : b.isPrefixOf a = false :=
    Bool.eq_false_iff.mpr fun hh => by rw [get_none_of_keysUnder_false hb a hh] at hna; cases hna
  have G := get_moveL fs a b hb
  -- no key of the moved list lies at or below `a`: such a key would lie below `b` as well
  have k_a : keysUnder (moveL fs a b) a = false := by
    unfold keysUnder moveL
    rw [List.any_eq_false]
    intro e' he'
    rcases List.mem_map.mp he' with ⟨e, he, rfl⟩
    by_cases hae : a.isPrefixOf e.1 = true
    · simp only [hae, if_true]
      intro hc
      rcases pre_comparable hc (pre_append b (e.1.drop a.length)) with h1 | h1
      · rw [h1] at hab'; cases hab'
      · rw [h1] at hba; cases hba
    · simp [hae]
  refine (rename_eq_moveL (na := na) hb0 ha0 ?_ ?_ ?_ (Ne.symm hab) hba hab' k_a).trans
    (congrArg _ (moveL_inverse fs a b hb))
  · rw [G, moveF_outside (not_pre_dropLast hb0) (not_pre_of_dropLast hab'), hpb]
  · rw [G, moveF_outside (not_pre_of_dropLast hba) (not_pre_dropLast ha0), hpa]
  · rw [G, moveF, if_pos (pre_refl b), List.drop_length, List.append_nil, hna]

/-- **Single-step inverse.**  A rename that succeeded and found nothing at or
below its target is undone exactly by the reverse rename. -/
theorem rename_undo (fs fs' : FS) (a b : Path) (h : rename fs a b = .ok fs')
    (hb : keysUnder fs b = false) (hab : a ≠ b) : rename fs' b a = .ok fs :=
  rename_free_undo h hb

/-- **Single-step inverse of a mode change.**  Setting the executable bit back
to the journalled value re-creates the very same file system. -/
theorem chmod_undo (fs fs' : FS) (p : Path) (x old : Bool) (h : chmod fs p x = .ok (fs', old)) :
    undo fs' (.mode p old) = .ok fs := by
  obtain ⟨c, hg, rfl⟩ := chmod_ok_inv h
  simp only [undo, chmod, get_setExec_self x hg, Except.map, setExec_setExec x hg]

/-- `rollback` undoes the newest journal entry first -/
theorem rollback_snoc (fs : FS) (past : List JEntry) (j : JEntry) :
    rollback fs (past ++ [j]) =
      (match undo fs j with | .ok fs1 => rollback fs1 past | .error e => (fs, some e)) := by
  simp only [rollback, List.reverse_append, List.reverse_cons, List.reverse_nil, List.nil_append,
    List.cons_append, rollbackRev]
  cases undo fs j <;> simp

/-- what a successful step does to the file system and the journal: nothing (a
swallowed ENOENT), a rename that is journalled, or a mode change that is
journalled iff `jc` -/
theorem step_ok_cases {jc : Bool} {m m' : Mover} {op : Op} (hs : m.step jc op = .ok m') :
    m' = m ∨
    (∃ a b, (op = .rename a b ∨ op = .preDelete a b) ∧ rename m.fs a b = .ok m'.fs ∧
      m'.past = m.past ++ [.ren a b]) ∨
    (∃ p x old, op = .chmod p x ∧ chmod m.fs p x = .ok (m'.fs, old) ∧
      m'.past = if jc then m.past ++ [.mode p old] else m.past) := by
  cases op with
  | rename a b =>
    simp only [Mover.step] at hs
    cases hr : rename m.fs a b with
    | ok fs' => rw [hr] at hs; cases hs; exact .inr (.inl ⟨a, b, .inl rfl, hr, rfl⟩)
    | error e =>
      simp only [hr] at hs
      split at hs
      · cases hs; exact .inl rfl
      · cases hs
  | preDelete a b =>
    simp only [Mover.step] at hs
    cases hr : rename m.fs a b with
    | ok fs' => rw [hr] at hs; cases hs; exact .inr (.inl ⟨a, b, .inr rfl, hr, rfl⟩)
    | error e => rw [hr] at hs; cases hs
  | chmod p x =>
    simp only [Mover.step] at hs
    cases hc : chmod m.fs p x with
    | ok r => rw [hc] at hs; cases hs; exact .inr (.inr ⟨p, x, r.2, rfl, hc, rfl⟩)
    | error e => rw [hc] at hs; cases hs

/-- invariant step: "the journal rolls back to `fs0`" survives an operation whose
rename finds nothing at or below its target and whose mode change is journalled
or changes nothing -/
theorem step_rollback (jc : Bool) (m m' : Mover) (op : Op) (fs0 : FS)
    (hs : m.step jc op = .ok m') (h0 : rollback m.fs m.past = (fs0, none))
    (hok : opNoClobber m.fs op = true) (hmode : jc = true ∨ opNoModeChange m.fs op = true) :
    rollback m'.fs m'.past = (fs0, none) := by
  rcases step_ok_cases hs with rfl | ⟨a, b, hop, hr, hp⟩ | ⟨p, x, old, rfl, hc, hp⟩
  · exact h0
  · have hok : a ≠ b ∧ keysUnder m.fs b = false := by
      rcases hop with rfl | rfl <;> simpa [opNoClobber, hr] using hok
    simp only [hp, rollback_snoc, undo, rename_undo m.fs m'.fs a b hr hok.2 hok.1]
    exact h0
  · cases jc with
    | true =>
      simp only [hp, if_true, rollback_snoc, chmod_undo m.fs m'.fs p x old hc]
      exact h0
    | false =>
      obtain ⟨c, hg, hfs⟩ := chmod_ok_inv hc
      have hx : old = x := by simpa [opNoModeChange, hg] using hmode
      subst hx
      rw [hp, hfs, setExec_same hg]
      exact h0

/-- invariant: a mover whose journal rolls back to `fs0` still does so after any
further operations that clobber nothing and whose mode changes are journalled
(or change nothing), wherever the run stops -/
theorem rollback_invariant (jc : Bool) (ops : List Op) (m : Mover) (fault : Option Nat) (fs0 : FS)
    (h0 : rollback m.fs m.past = (fs0, none)) (hn : noClobber jc m ops fault = true)
    (hj : jc = true ∨ noModeChange jc m ops fault = true) :
    rollback (runOps jc m ops fault).1.fs (runOps jc m ops fault).1.past = (fs0, none) := by
  induction ops generalizing m fault with
  | nil => exact h0
  | cons op rest ih =>
    unfold runOps
    unfold noClobber at hn
    unfold noModeChange at hj
    by_cases hf : fault = some 0
    · rw [if_pos hf]; exact h0
    · simp only [hf, if_false] at hn hj ⊢
      cases hs : m.step jc op with
      | error e => exact h0
      | ok m' =>
        simp only [hs, Bool.and_eq_true] at hn hj ⊢
        exact ih m' _ (step_rollback jc m m' op fs0 hs h0 hn.1 (hj.imp id (·.1))) hn.2
          (hj.imp id (·.2))

/-- **A failure before the transform is committed restores every file and
directory exactly** — contents, kinds, names AND executable bits — when mode
changes are journalled (`jc = true`): whatever the operation list, wherever the
fault or error strikes during the removal / insertion phases, if no executed
rename clobbered anything, the rollback succeeds and yields the original file
system. -/
theorem rollback_restores (fs : FS) (ops : List Op) (fault : Option Nat)
    (hn : noClobber true { fs := fs } ops fault = true) :
    rollback (runOps true { fs := fs } ops fault).1.fs (runOps true { fs := fs } ops fault).1.past
      = (fs, none) :=
  rollback_invariant true ops { fs := fs } fault fs rfl hn (Or.inl rfl)

/-- The same for the code as it is when `_set_executability` is NOT journalled
(`jc = false`), under the additional excluding hypothesis that no executed mode
change changed anything.  What is missing for the full statement is exactly
`execbit_witness`. -/
theorem rollback_restores_partial (fs : FS) (ops : List Op) (fault : Option Nat)
    (hn : noClobber false { fs := fs } ops fault = true)
    (hm : noModeChange false { fs := fs } ops fault = true) :
    rollback (runOps false { fs := fs } ops fault).1.fs (runOps false { fs := fs } ops fault).1.past
      = (fs, none) :=
  rollback_invariant false ops { fs := fs } fault fs rfl hn (Or.inr hm)

/-- an un-journalled run only ever journals renames -/
def onlyRen (past : List JEntry) : Bool := past.all fun j => match j with | .ren _ _ => true | .mode _ _ => false

/-- rolling back a rename-only journal on two file systems that differ in
executable bits only succeeds on both or fails on both, with results that again
differ in executable bits only -/
theorem rollbackRev_erase_congr (js : List JEntry) (hjs : onlyRen js = true) (fs1 fs2 fs1' : FS)
    (h : eraseExec fs1 = eraseExec fs2) (h1 : rollbackRev fs1 js none = (fs1', none)) :
    ∃ fs2', rollbackRev fs2 js none = (fs2', none) ∧ eraseExec fs1' = eraseExec fs2' := by
  induction js generalizing fs1 fs2 with
  | nil =>
    simp only [rollbackRev] at h1 ⊢
    cases h1
    exact ⟨fs2, rfl, h⟩
  | cons j rest ih =>
    simp only [onlyRen, List.all_cons, Bool.and_eq_true] at hjs
    cases j with
    | mode p o => simp at hjs
    | ren a b =>
      simp only [rollbackRev, undo, Option.map_none] at h1 ⊢
      have hc := rename_erase_congr h b a
      cases hr1 : rename fs1 b a with
      | error e => simp [hr1] at h1
      | ok g1 =>
        simp only [hr1] at h1 hc
        cases hr2 : rename fs2 b a with
        | error e => simp [hr2, Except.map] at hc
        | ok g2 =>
          simp only [hr2, Except.map, Except.ok.injEq] at hc ⊢
          exact ih (by simpa [onlyRen] using hjs.2) g1 g2 hc h1

/-- invariant for the un-journalled code: the journal holds renames only and
rolls back to the original file system *up to executable bits* -/
theorem rollback_invariant_modulo_exec (ops : List Op) (m : Mover) (fault : Option Nat) (fs0 : FS)
    (hp : onlyRen m.past = true)
    (h0 : ∃ r, rollback m.fs m.past = (r, none) ∧ eraseExec r = eraseExec fs0)
    (hn : noClobber false m ops fault = true) :
    ∃ r, rollback (runOps false m ops fault).1.fs (runOps false m ops fault).1.past = (r, none) ∧
      eraseExec r = eraseExec fs0 := by
  induction ops generalizing m fault with
  | nil => exact h0
  | cons op rest ih =>
    unfold runOps
    unfold noClobber at hn
    by_cases hf : fault = some 0
    · rw [if_pos hf]; exact h0
    · simp only [hf, if_false] at hn ⊢
      cases hs : m.step false op with
      | error e => exact h0
      | ok m' =>
        simp only [hs, Bool.and_eq_true] at hn ⊢
        obtain ⟨r, hr, he⟩ := h0
        rcases step_ok_cases hs with rfl | ⟨a, b, hop, _, hp'⟩ | ⟨p, x, old, rfl, hc, hp'⟩
        · exact ih m' _ hp ⟨r, hr, he⟩ hn.2
        · refine ih m' _ (by simpa [hp', onlyRen] using hp) ⟨r, ?_, he⟩ hn.2
          exact step_rollback false m m' op r hs hr hn.1 (.inr (by rcases hop with rfl | rfl <;> rfl))
        · -- the mode change is not journalled: the old journal is replayed on a file
          -- system that differs from `m.fs` in one executable bit
          obtain ⟨c, hg, hfs⟩ := chmod_ok_inv hc
          rw [if_neg Bool.false_ne_true] at hp'
          obtain ⟨r', hr', he'⟩ := rollbackRev_erase_congr m.past.reverse
            (by simpa [onlyRen] using hp) m.fs m'.fs r (by rw [hfs, eraseExec_setExec]) hr
          rw [← hp'] at hp hr'
          exact ih m' _ hp ⟨r', hr', he'.symm.trans he⟩ hn.2

/-- **What the un-journalled code still guarantees**: after a failure anywhere
in the removal / insertion phases the rollback succeeds and restores every
path, kind, content and link target; only executable bits may differ. -/
theorem rollback_restores_modulo_exec (fs : FS) (ops : List Op) (fault : Option Nat)
    (hn : noClobber false { fs := fs } ops fault = true) :
    ∃ r, rollback (runOps false { fs := fs } ops fault).1.fs
            (runOps false { fs := fs } ops fault).1.past = (r, none) ∧
      eraseExec r = eraseExec fs :=
  rollback_invariant_modulo_exec ops { fs := fs } fault fs rfl ⟨fs, rfl, rfl⟩ hn

/-- the same at the level of `apply`: a fault or error in the first two phases
leaves files and metadata in the old state (journalled mode changes, or none) -/
theorem apply_phase12_failure_restores (order : Order) (jc : Bool) (fs : FS) (ops : List Op)
    (f1 f2 : Option Nat) (e : Err)
    (hn : noClobber jc { fs := fs } ops f1 = true)
    (hj : jc = true ∨ noModeChange jc { fs := fs } ops f1 = true)
    (he : (runOps jc { fs := fs } ops f1).2 = some e) :
    let o := apply order jc fs ops f1 f2
    o.fs = fs ∧ o.md = .old ∧ o.raised = some e ∧ o.rollbackFailed = false := by
  have hr := rollback_invariant jc ops { fs := fs } f1 fs rfl hn hj
  unfold apply applyF
  cases hrun : runOps jc { fs := fs } ops f1 with
  | mk m oe =>
    rw [hrun] at he hr
    simp only at he hr
    subst he
    simp [hr]

/-- deleting the pending paths does not disturb anything outside them, however
far the loop gets (fault or failing `delete_any`) -/
theorem get_runDeletions (fs : FS) (ps : List Path) (fault : Option Nat) (q : Path)
    (hq : ∀ p ∈ ps, p.isPrefixOf q = false) :
    get (runDeletions fs ps fault).1 q = get fs q := by
  induction ps generalizing fs fault with
  | nil => rfl
  | cons p rest ih =>
    unfold runDeletions
    by_cases hf : fault = some 0
    · simp [hf]
    · simp only [hf, if_false]
      cases hd : deleteOne fs p with
      | error e => rfl
      | ok fs' =>
        have hne : p ≠ q := fun e => by
          have := hq p (by simp)
          rw [e, pre_refl] at this
          cases this
        simp only
        rw [ih _ _ (fun p' hp' => hq p' (by simp [hp'])), get_deleteOne hd, if_neg hne]

/-- **Metadata always agrees with the files** when the metadata is updated
before the replaced content is discarded: every outcome of `apply` is either
(old files, old metadata) or (new layout outside the pending-deletion area, new
metadata) — for every operation list and every fault position in any phase. -/
theorem metadata_agrees (jc : Bool) (fs : FS) (ops : List Op) (f1 f2 : Option Nat)
    (hn : noClobber jc { fs := fs } ops f1 = true)
    (hj : jc = true ∨ noModeChange jc { fs := fs } ops f1 = true) :
    let o := apply .metadataFirst jc fs ops f1 f2
    (o.fs = fs ∧ o.md = .old) ∨
    (o.md = .new ∧ (runOps jc { fs := fs } ops f1).2 = none ∧
      ∀ q, (∀ p ∈ (runOps jc { fs := fs } ops f1).1.pending, p.isPrefixOf q = false) →
        get o.fs q = get (runOps jc { fs := fs } ops f1).1.fs q) := by
  cases he : (runOps jc { fs := fs } ops f1).2 with
  | some e =>
    have := apply_phase12_failure_restores .metadataFirst jc fs ops f1 f2 e hn hj he
    exact Or.inl ⟨this.1, this.2.1⟩
  | none =>
    refine Or.inr ?_
    unfold apply applyF
    cases hrun : runOps jc { fs := fs } ops f1 with
    | mk m oe =>
      rw [hrun] at he
      simp only at he
      subst he
      simp only [Bool.false_eq_true, if_false]
      cases hd : runDeletions m.fs m.pending f2 with
      | mk fs' raised =>
        have hg := fun q hq => get_runDeletions m.fs m.pending f2 q hq
        rw [hd] at hg
        cases raised <;> simp only [true_and] <;> exact hg

/-- the un-journalled code, all faults: old metadata with the old files *up to
executable bits*, or new metadata with the new layout -/
theorem metadata_agrees_modulo_exec (fs : FS) (ops : List Op) (f1 f2 : Option Nat)
    (hn : noClobber false { fs := fs } ops f1 = true) :
    let o := apply .metadataFirst false fs ops f1 f2
    (eraseExec o.fs = eraseExec fs ∧ o.md = .old ∧ o.rollbackFailed = false) ∨
    (o.md = .new ∧ (runOps false { fs := fs } ops f1).2 = none) := by
  obtain ⟨r, hr, he⟩ := rollback_restores_modulo_exec fs ops f1 hn
  unfold apply applyF
  cases hrun : runOps false { fs := fs } ops f1 with
  | mk m oe =>
    rw [hrun] at hr
    simp only at hr
    cases oe with
    | some e => left; simp [hr, he]
    | none =>
      right
      simp only [Bool.false_eq_true, if_false]
      cases hd : runDeletions m.fs m.pending f2 with
      | mk fs' raised => cases raised <;> simp

theorem runDeletions_get_none (fs : FS) (ps : List Path) (q : Path) (h : get fs q = none) :
    get (runDeletions fs ps none).1 q = none := by
  induction ps generalizing fs with
  | nil => exact h
  | cons p rest ih =>
    unfold runDeletions
    simp only [reduceCtorEq, if_false, Option.map_none]
    cases hd : deleteOne fs p with
    | error e => exact h
    | ok fs' =>
      apply ih
      rw [get_deleteOne hd, h, ite_self]

/-- **Creation failures are invisible**: `finalize` runs `delete_any` over the
limbo files (children first) and then over the limbo directory `L` itself.
Whatever content was created inside `L` while the transform was being built,
in whatever order the paths are deleted and wherever that loop stops (a fault
or a failing `delete_any`), every path outside `L` reads as before. -/
theorem finalize_discards_limbo (fs : FS) (ps : List Path) (fault : Option Nat) (L q : Path)
    (hc : ∀ p ∈ ps, L.isPrefixOf p = true) (hq : L.isPrefixOf q = false) :
    get (runDeletions fs ps fault).1 q = get fs q := by
  apply get_runDeletions
  intro p hp
  cases h : p.isPrefixOf q
  · rfl
  · rw [pre_trans (hc p hp) h] at hq; cases hq

/-- …and when every `delete_any` succeeds, nothing is left at the deleted paths -/
theorem runDeletions_removes (fs : FS) (ps : List Path) (p : Path) (hp : p ∈ ps)
    (h : (runDeletions fs ps none).2 = none) : get (runDeletions fs ps none).1 p = none := by
  induction ps generalizing fs with
  | nil => cases hp
  | cons p0 rest ih =>
    unfold runDeletions at h ⊢
    simp only [reduceCtorEq, if_false, Option.map_none] at h ⊢
    cases hd : deleteOne fs p0 with
    | error e => simp [hd] at h
    | ok fs' =>
      simp only [hd] at h ⊢
      by_cases hmem : p ∈ rest
      · exact ih fs' hmem h
      · have : p = p0 := by
          rcases List.mem_cons.mp hp with h1 | h1
          · exact h1
          · exact absurd h1 hmem
        subst this
        -- `p` is not deleted again later: the remaining loop leaves `get · p` alone
        exact runDeletions_get_none fs' rest p (by rw [get_deleteOne hd, if_pos rfl])

/-- With the deletions performed *before* the metadata update (the order found
in the code at the pinned commit) a failure while discarding replaced content
leaves the new file layout described by the old metadata. -/
theorem deletions_first_witness :
    let fs : FS := [([], .dir), ([".d"], .dir), (["a"], .file "A" false), (["b"], .file "B" false)]
    let ops := [Op.preDelete ["b"] [".d", "x"], Op.rename ["a"] ["c"]]
    let o := apply .deletionsFirst true fs ops none (some 0)
    noClobber true { fs := fs } ops none = true ∧ o.md = .old ∧ o.raised = some .injected ∧
      get o.fs ["a"] = none ∧ get o.fs ["c"] = some (.file "A" false) ∧
      get fs ["a"] = some (.file "A" false) := by
  decide +kernel

/-- `noClobber` is needed: a rename that silently replaces an existing file
cannot be rolled back. -/
theorem clobber_witness :
    let fs : FS := [([], .dir), (["a"], .file "A" false), (["b"], .file "B" false)]
    let ops := [Op.rename ["a"] ["b"], Op.rename ["b"] ["c"]]
    noClobber true { fs := fs } ops (some 1) = false ∧
      (apply .metadataFirst true fs ops (some 1) none).fs ≠ fs := by
  decide +kernel

/-- **The un-journalled `_set_executability` breaks "restores exactly"**: revert
of an executable-bit change plus a rename, fault at the second rename.  No
rename clobbers anything, the rollback succeeds, the rename is undone — and
file `a` keeps the new mode although the metadata (and everything else) is back
in the old state.  With the mode change journalled the same run restores the
file system exactly. -/
theorem execbit_witness :
    let fs : FS := [([], .dir), ([".l"], .dir), (["a"], .file "A" true), (["zz"], .file "Z" false)]
    let ops := [Op.rename ["zz"] [".l", "1"], Op.chmod ["a"] false, Op.rename [".l", "1"] ["z"]]
    let o := apply .metadataFirst false fs ops (some 2) none
    noClobber false { fs := fs } ops (some 2) = true ∧ o.raised = some .injected ∧
      o.rollbackFailed = false ∧ o.md = .old ∧
      o.fs ≠ fs ∧ get o.fs ["a"] = some (.file "A" false) ∧ eraseExec o.fs = eraseExec fs ∧
      (apply .metadataFirst true fs ops (some 2) none).fs = fs := by
  decide +kernel

/-- A failure of the metadata update itself (`apply_inventory_delta` /
`_apply_index_changes` run after the `try … rollback` block) is outside the
property's quantifier (it is not a rename, deletion or creation) and is not
recovered: the files are in the new layout, nothing has been discarded yet, the
metadata is the old one.  The harness injects this fault too and compares. -/
theorem metadata_fault_outcome (jc : Bool) (fs : FS) (ops : List Op)
    (h : (runOps jc { fs := fs } ops none).2 = none) :
    let o := applyF .metadataFirst jc fs ops { metaUpdate := true }
    o.fs = (runOps jc { fs := fs } ops none).1.fs ∧ o.md = .old ∧ o.raised = some .injected := by
  unfold applyF
  cases hrun : runOps jc { fs := fs } ops none with
  | mk m oe =>
    rw [hrun] at h
    simp only at h
    subst h
    simp

/-- **A second failure, inside `rollback`, loses nothing**: whenever the
un-faulted rollback of a journal reaches `r`, a rollback that is interrupted
before its `j`-th undo step stops in a state from which undoing the remaining
journal entries still reaches `r` (the names under which the remaining entries
were journalled are still the right ones). -/
theorem rollback_fault_resumable (js : List JEntry) (fs r : FS) (j : Nat)
    (h : rollbackRev fs js none = (r, none)) :
    ∃ fsj, rollbackRev fs js (some j) = (fsj, if j < js.length then some .injected else none) ∧
      rollbackRev fsj (js.drop j) none = (r, none) := by
  induction js generalizing fs j with
  | nil => exact ⟨fs, by simp [rollbackRev], by simpa [rollbackRev] using h⟩
  | cons e rest ih =>
    cases j with
    | zero => exact ⟨fs, by simp [rollbackRev], by simpa using h⟩
    | succ j =>
      simp only [rollbackRev, Option.map_none] at h
      cases hu : undo fs e with
      | error err => simp [hu] at h
      | ok fs1 =>
        simp only [hu] at h
        obtain ⟨fsj, h1, h2⟩ := ih fs1 j h
        refine ⟨fsj, ?_, ?_⟩
        · simp only [rollbackRev, Option.some.injEq, Nat.add_one_ne_zero, if_false, hu, Option.map_some,
            Nat.add_sub_cancel, h1, List.length_cons, Nat.add_lt_add_iff_right]
        · simpa using h2

/-- a second failure, inside `rollback`, stops the rollback where it is: the
journal entries newer than the failing one have been undone, the others not -/
theorem rollback_fault_witness :
    let fs : FS := [([], .dir), ([".l"], .dir), (["a"], .file "A" false), (["b"], .file "B" false)]
    let ops := [Op.rename ["a"] [".l", "1"], Op.rename ["b"] [".l", "2"], Op.rename [".l", "1"] ["c"]]
    let o := applyF .metadataFirst true fs ops { mover := some 2, undo := some 1 }
    o.rollbackFailed = true ∧ o.md = .old ∧
      get o.fs ["b"] = some (.file "B" false) ∧ get o.fs ["a"] = none ∧
      get o.fs [".l", "1"] = some (.file "A" false) := by
  decide +kernel

/-- non-vacuity of `rollback_restores`: a swap through limbo with a mode change, fault at the last step -/
example :
    let fs : FS := [([], .dir), ([".l"], .dir), (["a"], .file "A" false), (["b"], .dir), (["b", "x"], .file "X" true)]
    let ops := [Op.rename ["b"] [".l", "1"], Op.rename ["a"] [".l", "2"],
                Op.rename [".l", "1"] ["a"], Op.chmod ["a", "x"] false, Op.rename [".l", "2"] ["b"]]
    noClobber true { fs := fs } ops (some 4) = true ∧
      (runOps true { fs := fs } ops (some 4)).1.past.length = 4 ∧
      get (runOps true { fs := fs } ops (some 4)).1.fs ["a", "x"] = some (.file "X" false) := by
  decide +kernel

/-- non-vacuity of `rollback_restores_partial`: the mode change re-asserts the current bit -/
example :
    let fs : FS := [([], .dir), ([".l"], .dir), (["a"], .file "A" true), (["b"], .file "B" false)]
    let ops := [Op.rename ["b"] [".l", "1"], Op.chmod ["a"] true, Op.rename [".l", "1"] ["c"]]
    noClobber false { fs := fs } ops (some 2) = true ∧ noModeChange false { fs := fs } ops (some 2) = true ∧
      (runOps false { fs := fs } ops (some 2)).1.past.length = 1 := by
  decide +kernel

/-- non-vacuity of `rollback_fault_resumable` -/
example :
    rollbackRev [([], .dir), ([".l"], .dir), ([".l", "1"], .file "A" false), (["c"], .file "B" true)]
      [.mode ["c"] false, .ren ["a"] [".l", "1"]] none =
    ([([], .dir), ([".l"], .dir), (["a"], .file "A" false), (["c"], .file "B" false)], none) := by
  decide +kernel

/-- non-vacuity of `metadata_fault_outcome` -/
example :
    let fs : FS := [([], .dir), (["a"], .file "A" false)]
    (runOps true { fs := fs } [Op.rename ["a"] ["b"]] none).2 = none := by
  decide +kernel

end BreezyVerif.C13
