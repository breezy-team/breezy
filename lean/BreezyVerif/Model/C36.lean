/-
C36 — git identifier mappings.  Executable model of

* `breezy/git/mapping.py`: `escape_file_id`, `unescape_file_id`,
  `decode_git_path`/`encode_git_path` (UTF-8 with `surrogateescape`),
  `BzrGitMapping.generate_file_id`/`parse_file_id`,
  `revision_id_foreign_to_bzr`/`revision_id_bzr_to_foreign`,
  `GitMappingRegistry.revision_id_bzr_to_foreign`;
* `breezy/git/refs.py`: `branch_name_to_ref`, `ref_to_branch_name`,
  `tag_name_to_ref`, `ref_to_tag_name`;
* `breezy/git/urls.py: git_url_to_bzr_url` and
  `crates/git/src/lib.rs: bzr_url_to_git_url` (with the segment-parameter
  helpers of `dromedary.urlutils` they call);
* `breezy/git/branch.py: GitBranch.set_parent` / `_get_parent_location` over the
  git config entries they read and write.

Representation: a Python `bytes` value is a `List Nat` with all entries `< 256`
(`isBytes`), a Python `str` is the `List Nat` of its code points (so that lone
surrogates, which `surrogateescape` produces, are representable).  `none` /
`Except.error` model the exception the real code raises.

`bzrUrlToGitUrl` and `getParentLocation` are the CORRECT (inverse) behaviour the
round-trip theorems are about; `bzrUrlToGitUrlLegacy` and
`getParentLocationLegacy` are literal models of the code as found at commit
0e9787b (candidate findings F1 and F14) and are used only for the witness
theorems and to classify differences seen by the correspondence run.
-/
import BreezyVerif.Common
namespace BreezyVerif.C36

abbrev NBytes := List Nat
abbrev Str := List Nat

def isBytes (l : List Nat) : Bool := l.all (· < 256)

/-! ## 1. file-id escaping -/

/-- `bytes.replace(bytes([c]), rep)` for a one-byte pattern -/
def replaceByte (c : Nat) (rep : List Nat) (l : List Nat) : List Nat :=
  l.flatMap fun x => if x = c then rep else [x]

/-- `escape_file_id`: three successive `replace` calls, in source order -/
def escapeFileId (f : NBytes) : NBytes :=
  replaceByte 0x0c [0x5f, 0x63] (replaceByte 0x20 [0x5f, 0x73] (replaceByte 0x5f [0x5f, 0x5f] f))

/-- `unescape_file_id`; `none` = `ValueError("unknown escape character")`
(also raised for a trailing lone `_`) -/
def unescapeFileId : NBytes → Option NBytes
  | [] => some []
  | c :: rest =>
    if c ≠ 0x5f then (unescapeFileId rest).map (c :: ·)
    else match rest with
      | [] => none
      | d :: rest' =>
        if d = 0x5f then (unescapeFileId rest').map (0x5f :: ·)
        else if d = 0x73 then (unescapeFileId rest').map (0x20 :: ·)
        else if d = 0x63 then (unescapeFileId rest').map (0x0c :: ·)
        else none

/-! ## 2. UTF-8 (strict and `surrogateescape`) -/

/-- UTF-8 encoding of one code point.  `se = true` is the `surrogateescape`
error handler: U+DC80..U+DCFF become the single byte `c - 0xDC00`; every other
surrogate (and, with `se = false`, every surrogate) is `UnicodeEncodeError`. -/
def encCp (se : Bool) (c : Nat) : Option NBytes :=
  if c < 0x80 then some [c]
  else if c < 0x800 then some [0xC0 + c / 64, 0x80 + c % 64]
  else if c < 0x10000 then
    if 0xD800 ≤ c ∧ c < 0xE000 then
      (if se = true ∧ 0xDC80 ≤ c ∧ c ≤ 0xDCFF then some [c - 0xDC00] else none)
    else some [0xE0 + c / 4096, 0x80 + c / 64 % 64, 0x80 + c % 64]
  else if c < 0x110000 then
    some [0xF0 + c / 262144, 0x80 + c / 4096 % 64, 0x80 + c / 64 % 64, 0x80 + c % 64]
  else none

def encodeUtf8 (se : Bool) : Str → Option NBytes
  | [] => some []
  | c :: cs =>
    match encCp se c, encodeUtf8 se cs with
    | some p, some q => some (p ++ q)
    | _, _ => none

/-- decode one well-formed UTF-8 sequence at the head (Unicode Table 3-7),
returning the code point and the remaining bytes -/
def decodeStep : NBytes → Option (Nat × NBytes)
  | [] => none
  | b0 :: rest =>
    if b0 < 0x80 then some (b0, rest)
    else if 0xC2 ≤ b0 ∧ b0 ≤ 0xDF then
      match rest with
      | b1 :: r =>
        if 0x80 ≤ b1 ∧ b1 ≤ 0xBF then some ((b0 - 0xC0) * 64 + (b1 - 0x80), r) else none
      | _ => none
    else if 0xE0 ≤ b0 ∧ b0 ≤ 0xEF then
      match rest with
      | b1 :: b2 :: r =>
        if (if b0 = 0xE0 then 0xA0 else 0x80) ≤ b1 ∧ b1 ≤ (if b0 = 0xED then 0x9F else 0xBF)
            ∧ 0x80 ≤ b2 ∧ b2 ≤ 0xBF then
          some ((b0 - 0xE0) * 4096 + (b1 - 0x80) * 64 + (b2 - 0x80), r)
        else none
      | _ => none
    else if 0xF0 ≤ b0 ∧ b0 ≤ 0xF4 then
      match rest with
      | b1 :: b2 :: b3 :: r =>
        if (if b0 = 0xF0 then 0x90 else 0x80) ≤ b1 ∧ b1 ≤ (if b0 = 0xF4 then 0x8F else 0xBF)
            ∧ 0x80 ≤ b2 ∧ b2 ≤ 0xBF ∧ 0x80 ≤ b3 ∧ b3 ≤ 0xBF then
          some ((b0 - 0xF0) * 262144 + (b1 - 0x80) * 4096 + (b2 - 0x80) * 64 + (b3 - 0x80), r)
        else none
      | _ => none
    else none

theorem decodeStep_length {l : NBytes} {c : Nat} {r : NBytes}
    (h : decodeStep l = some (c, r)) : r.length < l.length := by
  have : ∀ x ∈ decodeStep l, x.2.length < l.length := by
    fun_cases decodeStep l <;> simp +arith
  exact this _ h

/-- `bytes.decode("utf-8", "surrogateescape")`: a byte that does not start a
well-formed sequence becomes the lone surrogate `0xDC00 + byte` -/
def decodeSE : NBytes → Str
  | [] => []
  | b0 :: rest =>
    match h : decodeStep (b0 :: rest) with
    | some (c, r) => c :: decodeSE r
    | none => (0xDC00 + b0) :: decodeSE rest
termination_by l => l.length
decreasing_by
  · have := decodeStep_length h; simpa using this
  · simp

/-- `bytes.decode("utf-8")`; `none` = `UnicodeDecodeError` -/
def decodeStrict : NBytes → Option Str
  | [] => some []
  | b0 :: rest =>
    match h : decodeStep (b0 :: rest) with
    | some (c, r) => (decodeStrict r).map (c :: ·)
    | none => none
termination_by l => l.length
decreasing_by
  have := decodeStep_length h; simpa using this

/-! ## 3. file ids -/

/-- `b"TREE_ROOT"` -/
def rootId : NBytes := [84, 82, 69, 69, 95, 82, 79, 79, 84]
/-- `b"git:"` -/
def fileIdPrefix : NBytes := [103, 105, 116, 58]

/-- `generate_file_id(path: bytes)` -/
def generateFileId (path : NBytes) : NBytes :=
  if path = [] then rootId else fileIdPrefix ++ escapeFileId path

/-- `generate_file_id(path: str)`; `none` = `UnicodeEncodeError` -/
def generateFileIdStr (path : Str) : Option NBytes :=
  (encodeUtf8 true path).map generateFileId

/-- `parse_file_id`; `none` = `ValueError` -/
def parseFileId (fid : NBytes) : Option Str :=
  if fid = rootId then some []
  else if ¬ fileIdPrefix.isPrefixOf fid then none
  else (unescapeFileId (fid.drop fileIdPrefix.length)).map decodeSE

/-! ## 4. revision ids -/

/-- `b"null:"` -/
def nullRevision : NBytes := [110, 117, 108, 108, 58]
/-- 40 × `b"0"` -/
def zeroSha : NBytes := List.replicate 40 48
/-- `b"git-"` -/
def gitDash : NBytes := [103, 105, 116, 45]
/-- `b"git-v1"` -/
def pfxV1 : NBytes := [103, 105, 116, 45, 118, 49]
/-- `b"git-experimental"` -/
def pfxExp : NBytes := [103, 105, 116, 45, 101, 120, 112, 101, 114, 105, 109, 101, 110, 116, 97, 108]
/-- the mappings registered in `mapping_registry` -/
def knownMappings : List NBytes := [pfxV1, pfxExp]

inductive Err where
  | value | unicodeEncode | unicodeDecode | invalidRevisionId | key
  deriving DecidableEq, Repr

def Err.toString : Err → String
  | .value => "E:Value" | .unicodeEncode => "E:UnicodeEncode" | .unicodeDecode => "E:UnicodeDecode"
  | .invalidRevisionId => "E:InvalidRevisionId" | .key => "E:Key"

/-- `cls.revision_id_foreign_to_bzr(sha)` for the mapping with `revid_prefix = pfx` -/
def foreignToBzr (pfx sha : NBytes) : NBytes :=
  if sha = zeroSha then nullRevision else pfx ++ 58 :: sha

/-- `cls.revision_id_bzr_to_foreign(revid)` (sha part of the returned pair) -/
def mappingBzrToForeign (pfx revid : NBytes) : Except Err NBytes :=
  if (pfx ++ [58]).isPrefixOf revid then .ok (revid.drop (pfx.length + 1))
  else .error .invalidRevisionId

/-- `l.split(c, 1)`: `none` when `c` does not occur -/
def splitOnFirst (c : Nat) : List Nat → Option (List Nat × List Nat)
  | [] => none
  | x :: xs =>
    if x = c then some ([], xs)
    else match splitOnFirst c xs with
      | some (a, b) => some (x :: a, b)
      | none => none

/-- `mapping_registry.revision_id_bzr_to_foreign(revid)`: the sha and the
`revid_prefix` of the mapping (`none` for the null revision) -/
def registryBzrToForeign (revid : NBytes) : Except Err (NBytes × Option NBytes) :=
  if revid = nullRevision then .ok (zeroSha, none)
  else if ¬ gitDash.isPrefixOf revid then .error .invalidRevisionId
  else match splitOnFirst 58 revid with
    | none => .error .value          -- tuple unpacking of a 1-element split
    | some (version, _) =>
      if version ∈ knownMappings then
        match mappingBzrToForeign version revid with
        | .ok sha => .ok (sha, some version)
        | .error e => .error e
      else .error .key

/-! ## 5. ref names -/

/-- `b"HEAD"` -/
def headRef : NBytes := [72, 69, 65, 68]
/-- `"refs/"` -/
def refsSlash : List Nat := [114, 101, 102, 115, 47]
/-- `b"refs/heads/"` (`LOCAL_BRANCH_PREFIX`) -/
def headsPrefix : NBytes := [114, 101, 102, 115, 47, 104, 101, 97, 100, 115, 47]
/-- `b"refs/tags/"` (`LOCAL_TAG_PREFIX`) -/
def tagsPrefix : NBytes := [114, 101, 102, 115, 47, 116, 97, 103, 115, 47]

/-- `branch_name_to_ref`; `none` = `UnicodeEncodeError` -/
def branchNameToRef (name : Str) : Option NBytes :=
  if name = [] then some headRef
  else if ¬ refsSlash.isPrefixOf name then (encodeUtf8 false name).map (headsPrefix ++ ·)
  else encodeUtf8 false name

/-- `tag_name_to_ref` -/
def tagNameToRef (name : Str) : Option NBytes :=
  (encodeUtf8 false name).map (tagsPrefix ++ ·)

/-- `ref_to_branch_name(ref)` (`ref = none` is Python `None`, returned as is) -/
def refToBranchName (ref : Option NBytes) : Except Err (Option Str) :=
  match ref with
  | none => .ok none
  | some ref =>
    if ref = headRef then .ok (some [])
    else if headsPrefix.isPrefixOf ref then
      match decodeStrict (ref.drop headsPrefix.length) with
      | some s => .ok (some s)
      | none => .error .unicodeDecode
    else .error .value

/-- `ref_to_tag_name` -/
def refToTagName (ref : NBytes) : Except Err Str :=
  if tagsPrefix.isPrefixOf ref then
    match decodeStrict (ref.drop tagsPrefix.length) with
    | some s => .ok s
    | none => .error .unicodeDecode
  else .error .value

/-! ## 6. URLs -/

def isAlnum (b : Nat) : Bool :=
  (48 ≤ b && b ≤ 57) || (65 ≤ b && b ≤ 90) || (97 ≤ b && b ≤ 122)

/-- never escaped by `urlutils.escape` / `urllib.parse.quote`: alphanumerics and `-._~` -/
def isSafe (b : Nat) : Bool := isAlnum b || b = 45 || b = 46 || b = 95 || b = 126

/-- upper-case hex digit -/
def hexU (n : Nat) : Nat := if n < 10 then 48 + n else 55 + n

def hexValN (c : Nat) : Option Nat :=
  if 48 ≤ c ∧ c ≤ 57 then some (c - 48)
  else if 65 ≤ c ∧ c ≤ 70 then some (c - 55)
  else if 97 ≤ c ∧ c ≤ 102 then some (c - 87)
  else none

/-- percent-encode bytes, leaving `isSafe` bytes and those in `extra` alone -/
def pctEncode (extra : List Nat) (bs : NBytes) : Str :=
  bs.flatMap fun b => if isSafe b || extra.contains b then [b] else [37, hexU (b / 16), hexU (b % 16)]

/-- percent-decode (`percent_decode_str` / `unquote_to_bytes` on ASCII input):
`%XX` with two hex digits becomes a byte, anything else is copied -/
def pctDecode : Str → NBytes
  | [] => []
  | [a] => [a]
  | [a, b] => [a, b]
  | a :: b :: c :: rest =>
    if a = 37 then
      match hexValN b, hexValN c with
      | some x, some y => (x * 16 + y) :: pctDecode rest
      | _, _ => a :: pctDecode (b :: c :: rest)
    else a :: pctDecode (b :: c :: rest)

/-- `urlutils.escape(name, safe="")`; `none` = `UnicodeEncodeError` -/
def escapeStr (s : Str) : Option Str := (encodeUtf8 false s).map (pctEncode [])

/-- `urlutils.unescape(s)`: error on non-ASCII input; percent-decode and decode
as UTF-8; if that is not valid UTF-8 the input is returned unchanged -/
def unescapeStr (s : Str) : Except Err Str :=
  if s.all (· < 128) then
    match decodeStrict (pctDecode s) with
    | some t => .ok t
    | none => .ok s
  else .error .value

/-- `(directory part up to and including the last '/', last segment)` -/
def splitLastSlash : List Nat → List Nat × List Nat
  | [] => ([], [])
  | c :: r =>
    if r.contains 47 then ((c :: (splitLastSlash r).1), (splitLastSlash r).2)
    else if c = 47 then ([47], r) else ([], c :: r)

def splitOnAll (c : Nat) : List Nat → List (List Nat)
  | [] => [[]]
  | x :: xs =>
    if x = c then [] :: splitOnAll c xs
    else match splitOnAll c xs with
      | [] => [[x]]
      | h :: t => (x :: h) :: t

def isWs (c : Nat) : Bool := c = 32 || (9 ≤ c && c ≤ 13)

def trimWs (s : Str) : Str := ((s.dropWhile isWs).reverse.dropWhile isWs).reverse

/-- `strip_trailing_slash` (posix): the scheme is the text before the first ':'
when it has at least two characters and no '/'; the root slash of a URL is kept -/
def stripTrailingSlash (u : Str) : Str :=
  if u.getLast? ≠ some 47 then u
  else
    match splitOnFirst 58 u with
    | some (scheme, rest) =>
      if 2 ≤ scheme.length ∧ ¬ scheme.contains 47 then
        let path := if [47, 47].isPrefixOf rest then rest.drop 2 else rest
        -- index of the first '/' in `path` is its last index ⇔ no '/' in `path.dropLast`
        if path.dropLast.contains 47 then u.dropLast else u
      else u.dropLast
    | none => u.dropLast

/-- `split_segment_parameters_raw` -/
def splitSegParamsRaw (u : Str) : Str × List Str :=
  let lurl := stripTrailingSlash u
  let p := splitLastSlash lurl
  if ¬ p.2.contains 44 then (u, [])
  else
    match splitOnAll 44 p.2 with
    | first :: rest => (p.1 ++ first, rest.map trimWs)
    | [] => (u, [])

def parseSubsegs : List Str → Option (List (Str × Str))
  | [] => some []
  | s :: ss =>
    match splitOnFirst 61 s, parseSubsegs ss with
    | some (k, v), some r => some ((trimWs k, trimWs v) :: r)
    | _, _ => none

/-- `split_segment_parameters`; `none` = a sub-segment without `=` (error) -/
def splitSegParams (u : Str) : Option (Str × List (Str × Str)) :=
  match parseSubsegs (splitSegParamsRaw u).2 with
  | some ps => some ((splitSegParamsRaw u).1, ps)
  | none => none

/-- the parameters are collected into a map: the last occurrence of a key wins -/
def paramGet (ps : List (Str × Str)) (k : Str) : Option Str :=
  match ps with
  | [] => none
  | (k', v) :: rest =>
    match paramGet rest k with
    | some w => some w
    | none => if k' = k then some v else none

def strLt : List Nat → List Nat → Bool
  | [], [] => false
  | [], _ :: _ => true
  | _ :: _, [] => false
  | a :: as, b :: bs => a < b || (a = b && strLt as bs)

/-- insert into a key-sorted association list, replacing an equal key -/
def insertKV (k v : Str) : List (Str × Str) → List (Str × Str)
  | [] => [(k, v)]
  | (k', v') :: rest =>
    if k = k' then (k, v) :: rest
    else if strLt k k' then (k, v) :: (k', v') :: rest
    else (k', v') :: insertKV k v rest

def renderParams : List (Str × Str) → Str
  | [] => []
  | (k, v) :: rest => 44 :: (k ++ 61 :: v) ++ renderParams rest

/-- `join_segment_parameters(url, {k: v})` -/
def joinSegParam (u k v : Str) : Option Str :=
  match splitSegParams u with
  | none => none
  | some (base, ex) =>
    some (base ++ renderParams (insertKV k v (ex.foldl (fun acc kv => insertKV kv.1 kv.2 acc) [])))

/-- `"branch"` -/
def kBranch : Str := [98, 114, 97, 110, 99, 104]
/-- `"ref"` -/
def kRef : Str := [114, 101, 102]
/-- `"revno"` -/
def kRevno : Str := [114, 101, 118, 110, 111]

/-- scheme as parsed by `URL.from_string`: the text before the first ':' when
that is followed by `//`, else empty -/
def schemeOf (u : Str) : Str :=
  match splitOnFirst 58 u with
  | some (s, rest) => if [47, 47].isPrefixOf rest then s else []
  | none => []

/-- `"chroot-"` -/
def chrootDash : Str := [99, 104, 114, 111, 111, 116, 45]
/-- `"ssh"` -/
def sSsh : Str := [115, 115, 104]
/-- `"git+ssh"` -/
def sGitSsh : Str := [103, 105, 116, 43, 115, 115, 104]
/-- `KNOWN_GIT_SCHEMES` -/
def knownSchemes : List Str :=
  [sGitSsh, [103, 105, 116], [104, 116, 116, 112], [104, 116, 116, 112, 115], [102, 116, 112], sSsh]

/-- `l.rsplit(c, 1)` -/
def rsplitOnLast (c : Nat) (l : List Nat) : Option (List Nat × List Nat) :=
  match splitOnFirst c l.reverse with
  | some (a, b) => some (b.reverse, a.reverse)
  | none => none

/-- `dulwich.client.parse_rsync_url` -/
def parseRsync (u : Str) : Option (Option Str × Str × Str) :=
  match splitOnFirst 58 u with
  | none => none
  | some (uh, path) =>
    if ¬ u.contains 64 then some (none, uh, path)
    else match rsplitOnLast 64 uh with
      | some (user, host) => some (some user, host, path)
      | none => some (none, uh, path)

/-- `urllib.parse.quote(s, safe="/")` (equivalently `safe="/~"`); `none` = encode error -/
def quoteStr (s : Str) : Option Str := (encodeUtf8 false s).map (pctEncode [47])

inductive Loc where
  | unchanged            -- not a git URL: `git_url_to_bzr_url` returns its argument
  | url (u : Str)        -- normalised location
  | encodeError
  deriving DecidableEq, Repr

/-- the location part of `git_url_to_bzr_url`.  For `ssh://` the URL is
re-serialised by `str(URL)`; on the grammar used (no empty port, no
percent-escapes that `str(URL)` would normalise) that is the identity. -/
def normLoc (u : Str) : Loc :=
  let scheme := schemeOf u
  if knownSchemes.contains scheme || chrootDash.isPrefixOf scheme then
    if scheme = sSsh then .url (sGitSsh ++ u.drop 3) else .url u
  else
    match parseRsync u with
    | none => .unchanged
    | some (user, host, path) =>
      match quoteStr path, quoteStr host, (match user with | some x => quoteStr x | none => some []) with
      | some qp, some qh, some qu =>
        let qp := if [47].isPrefixOf qp then qp else 47 :: qp
        let up := if user = none ∨ user = some [] then [] else qu ++ [64]
        .url (sGitSsh ++ [58, 47, 47] ++ up ++ qh ++ qp)
      | _, _, _ => .encodeError

/-- what `git_url_to_bzr_url` makes of its `branch` / `ref` arguments before
writing them: `if ref == b"HEAD": ref = branch = None`; a non-empty ref that
`ref_to_branch_name` accepts becomes a branch name (`ValueError`, which includes
`UnicodeDecodeError`, keeps the ref); an empty ref is ignored -/
def normBR (branch : Option Str) (ref : Option NBytes) : Option Str × Option NBytes :=
  match ref with
  | some r =>
    if r = headRef ∨ r = [] then (none, none)
    else match refToBranchName (some r) with
      | .ok b => (b, none)
      | .error _ => (none, some r)
  | none => (branch, none)

/-- an empty branch name means "no branch" (used to state the round trip) -/
def cleanBR (p : Option Str × Option NBytes) : Option Str × Option NBytes :=
  (if p.1 = some [] then none else p.1, p.2)

/-- explicit side condition of the ref-level round trip: a ref that
`ref_to_branch_name` accepts is `HEAD`, or names a non-empty branch whose name
does not itself start with `refs/` (excludes `refs/heads/` and `refs/heads/refs/…`) -/
def refOk (ref : Option NBytes) : Bool :=
  match refToBranchName ref with
  | .ok (some n) => ref == some headRef || (n != [] && !refsSlash.isPrefixOf n)
  | _ => true

/-- the `branch` / `ref` segment parameter `git_url_to_bzr_url` appends to the
(normalised) location -/
def addRefParams (location : Str) (branch : Option Str) (ref : Option NBytes) : Except Err Str :=
  match normBR branch ref with
  | (_, some r) =>
    (match joinSegParam location kRef (pctEncode [] r) with | some x => .ok x | none => .error .value)
  | (none, none) => .ok location
  | (some b, none) =>
    if b = [] then .ok location else
      match escapeStr b with
      | some e => (match joinSegParam location kBranch e with | some x => .ok x | none => .error .value)
      | none => .error .unicodeEncode

/-- `git_url_to_bzr_url(location, branch=…, ref=…)`.  A location that is neither
a URL with a git scheme nor rsync-style (a local path) is kept as it is and
still receives the parameters.  `legacy = true` is the code as found: such a
location is returned early, *without* the parameters (finding F15). -/
def gitUrlToBzrUrlG (legacy : Bool) (loc : Str) (branch : Option Str) (ref : Option NBytes) :
    Except Err Str :=
  if branch ≠ none ∧ ref ≠ none then .error .value
  else
    match normLoc loc with
    | .unchanged => if legacy then .ok loc else addRefParams loc branch ref
    | .encodeError => .error .unicodeEncode
    | .url location => addRefParams location branch ref

def gitUrlToBzrUrl := gitUrlToBzrUrlG false
def gitUrlToBzrUrlLegacy := gitUrlToBzrUrlG true

/-- `bzr_url_to_git_url` — the inverse of `git_url_to_bzr_url`: the `branch`
parameter unescaped, the `ref` parameter percent-decoded to bytes. -/
def bzrUrlToGitUrl (u : Str) : Except Err (Str × Option Str × Option NBytes) :=
  match splitSegParams u with
  | none => .error .value
  | some (base, ps) =>
    match (match paramGet ps kBranch with
           | some b => (unescapeStr b).map some
           | none => .ok none) with
    | .error e => .error e
    | .ok branch =>
      match paramGet ps kRef with
      | none => .ok (base, branch, none)
      | some r =>
        -- the parameter is a `&str`: its UTF-8 bytes are percent-decoded
        match encodeUtf8 false r with
        | some bs => .ok (base, branch, some (pctDecode bs))
        | none => .error .unicodeEncode

/-- `bzr_url_to_git_url` as found (F1): reads the parameter `revno` instead of
`ref` and returns both values as they stand in the URL (still escaped). -/
def bzrUrlToGitUrlLegacy (u : Str) : Except Err (Str × Option Str × Option Str) :=
  match splitSegParams u with
  | none => .error .value
  | some (base, ps) => .ok (base, paramGet ps kBranch, paramGet ps kRevno)

/-- the git ref a `(branch, ref)` pair designates (what `set_parent` stores) -/
def effRef (branch : Option Str) (ref : Option NBytes) : Option NBytes :=
  match branch, ref with
  | some b, r =>
    if b = [] then (match r with | some r => if r = [] then some headRef else some r | none => some headRef)
    else branchNameToRef b
  | none, some r => if r = [] then some headRef else some r
  | none, none => some headRef

/-! ## 7. parent location -/

/-- the git config entries `set_parent`/`get_parent` touch:
`(section, subsection, name) ↦ value` -/
abbrev CfgKey := NBytes × NBytes × NBytes
abbrev Cfg := List (CfgKey × NBytes)

def cfgGet (c : Cfg) (k : CfgKey) : Option NBytes :=
  match c with
  | [] => none
  | (k', v) :: rest => if k' = k then some v else cfgGet rest k

def cfgSet (c : Cfg) (k : CfgKey) (v : NBytes) : Cfg :=
  match c with
  | [] => [(k, v)]
  | (k', v') :: rest => if k' = k then (k, v) :: rest else (k', v') :: cfgSet rest k v

/-- `b"remote"`, `b"branch"`, `b"url"`, `b"fetch"`, `b"merge"`, `b"origin"` -/
def bRemote : NBytes := [114, 101, 109, 111, 116, 101]
def bBranch : NBytes := [98, 114, 97, 110, 99, 104]
def bUrl : NBytes := [117, 114, 108]
def bFetch : NBytes := [102, 101, 116, 99, 104]
def bMerge : NBytes := [109, 101, 114, 103, 101]
def bOrigin : NBytes := [111, 114, 105, 103, 105, 110]
/-- `b"+refs/heads/*:refs/remotes/"` and `b"/*"` -/
def fetchA : NBytes := [43, 114, 101, 102, 115, 47, 104, 101, 97, 100, 115, 47, 42, 58, 114, 101, 102, 115, 47, 114,
  101, 109, 111, 116, 101, 115, 47]
def fetchB : NBytes := [47, 42]

/-- `_get_origin`: `branch.<name>.remote`, default `origin` (`name` already encoded) -/
def getOrigin (c : Cfg) (name : NBytes) : NBytes :=
  match cfgGet c (bBranch, name, bRemote) with
  | some r => r
  | none => bOrigin

/-- `GitBranch.set_parent(location)` for a branch called `name`, for target
URLs that are not relative to the branch's own URL (`relative_url` is then the
identity). -/
def setParent (c : Cfg) (name : Str) (loc : Str) : Except Err Cfg :=
  match encodeUtf8 false name with
  | none => .error .unicodeEncode
  | some nm =>
    let remote := getOrigin c nm
    match bzrUrlToGitUrl loc with
    | .error e => .error e
    | .ok (target, branch, ref) =>
      match encodeUtf8 false target with
      | none => .error .unicodeEncode
      | some t =>
        let c1 := cfgSet c (bRemote, remote, bUrl) t
        let c2 := cfgSet c1 (bRemote, remote, bFetch) (fetchA ++ remote ++ fetchB)
        if name = [] then .ok c2
        else
          match effRef branch ref with
          | some m => .ok (cfgSet c2 (bBranch, nm, bMerge) m)
          | none => .error .unicodeEncode

/-- `_get_related_merge_branch` reading `branch.<section>.merge` -/
def getParentWith (legacyUrl : Bool) (c : Cfg) (name : NBytes) (mergeSection : NBytes) :
    Except Err (Option Str) :=
  let remote := getOrigin c name
  match cfgGet c (bRemote, remote, bUrl) with
  | none => .ok none
  | some l =>
    match decodeStrict l with
    | none => .error .unicodeDecode
    | some location =>
      let ref := match cfgGet c (bBranch, mergeSection, bMerge) with
        | some r => r
        | none => headRef
      (gitUrlToBzrUrlG legacyUrl location none (some ref)).map some

/-- `GitBranch._get_parent_location()`: the merge ref is read from the section
`set_parent` writes, `[branch "<name>"]`. -/
def getParentLocation (c : Cfg) (name : Str) : Except Err (Option Str) :=
  match encodeUtf8 false name with
  | none => .error .unicodeEncode
  | some nm => getParentWith false c nm nm

/-- as found (F14): the merge ref is read from `[branch "<remote>"]`. -/
def getParentLocationLegacy (c : Cfg) (name : Str) : Except Err (Option Str) :=
  match encodeUtf8 false name with
  | none => .error .unicodeEncode
  | some nm => getParentWith true c nm (getOrigin c nm)

/-! ## 8. how dulwich's `ConfigFile` writes a value and reads it back

`set_parent` ends with `ConfigFile.write_to_file`, `get_parent` starts with
`ConfigFile.from_file`: every value goes through `_format_string` and comes
back through `_parse_string`. -/

/-- `_escape_value`: five successive `replace` calls, in source order -/
def cfgEscape (v : NBytes) : NBytes :=
  replaceByte 34 [92, 34] (replaceByte 9 [92, 116] (replaceByte 10 [92, 110]
    (replaceByte 13 [92, 114] (replaceByte 92 [92, 92] v))))

/-- the condition under which `_format_string` puts the value in double quotes:
it starts or ends with a space or tab, or contains `#` (note: *not* `;`) -/
def cfgNeedsQuote (v : NBytes) : Bool :=
  v.head? == some 32 || v.head? == some 9 || v.getLast? == some 32 || v.getLast? == some 9 || v.contains 35

/-- `_format_string` -/
def cfgFormat (v : NBytes) : NBytes :=
  if cfgNeedsQuote v then 34 :: cfgEscape v ++ [34] else cfgEscape v

/-- `_ESCAPE_TABLE` (`\\`, `\"`, `\n`, `\t`, `\b`) -/
def cfgUnescChar (c : Nat) : Option Nat :=
  if c = 92 then some 92 else if c = 34 then some 34 else if c = 110 then some 10
  else if c = 116 then some 9 else if c = 98 then some 8 else none

/-- the loop of `_parse_string` (after `strip()`), returning the bytes appended
to `ret` from here on.  `inq` = inside double quotes, `esc` = the previous
character was a backslash that has not been consumed yet, `ws` = the pending
run of unquoted spaces/tabs (kept only if something follows).  `none` =
`ValueError("missing end quote")`. -/
def cfgParseGo (inq esc : Bool) (ws : NBytes) : NBytes → Option NBytes
  | [] => if inq then none else some (if esc then ws ++ [92] else [])
  | c :: rest =>
    match (if esc then cfgUnescChar c else none) with
    | some v => (cfgParseGo inq false [] rest).map (ws ++ v :: ·)
    | none =>
      -- after an unknown escape the backslash is a literal and `c` is processed normally
      let pre := if esc then ws ++ [92] else []
      let ws := if esc then [] else ws
      if c = 92 then (cfgParseGo inq true ws rest).map (pre ++ ·)
      else if c = 34 then (cfgParseGo (!inq) false ws rest).map (pre ++ ·)
      else if (c = 35 || c = 59) && !inq then some pre        -- comment: the rest of the line is dropped
      else if c = 9 || c = 32 then
        if inq then (cfgParseGo inq false ws rest).map (pre ++ c :: ·)
        else (cfgParseGo inq false (ws ++ [c]) rest).map (pre ++ ·)
      else (cfgParseGo inq false [] rest).map (pre ++ ws ++ c :: ·)

/-- `_parse_string`: `bytes.strip()` removes the ASCII whitespace `isWs` -/
def cfgParse (s : NBytes) : Option NBytes := cfgParseGo false false [] (trimWs s)

/-- what `from_file` reads for a value `write_to_file` wrote as
`\t<name> = <formatted>\n`: the text after the first `=` up to and including
the newline goes to `_parse_string` -/
def cfgReread (v : NBytes) : Option NBytes := cfgParse (32 :: cfgFormat v ++ [10])

/-- the values dulwich writes and reads back unchanged: no carriage return
(written as `\r`, which `_parse_string` does not know); and, unless the value
is quoted anyway, no `;` (taken for a comment) and no vertical tab / form feed
at either end (removed by `strip()`) -/
def cfgValueSafe (v : NBytes) : Bool :=
  !v.contains 13 &&
    (cfgNeedsQuote v ||
      (!v.contains 59 && v.head? != some 11 && v.head? != some 12 && v.getLast? != some 11 && v.getLast? != some 12))

/-- the whole configuration after `write_to_file` + `from_file` (section and
variable names are taken as written: branch and remote names without `"`, `\`
or control characters) -/
def cfgRereadAll : Cfg → Option Cfg
  | [] => some []
  | (k, v) :: rest =>
    match cfgReread v, cfgRereadAll rest with
    | some v', some rest' => some ((k, v') :: rest')
    | _, _ => none

/-- `_escape_subsection` / `_unescape_subsection` (section headers `[branch "<name>"]`) -/
def subsecEscape (n : NBytes) : NBytes := replaceByte 34 [92, 34] (replaceByte 92 [92, 92] n)

def subsecUnescape : NBytes → NBytes
  | [] => []
  | [c] => [c]
  | c :: d :: rest => if c = 92 then d :: subsecUnescape rest else c :: subsecUnescape (d :: rest)

/-- "no comma in the last path segment", before and after `strip_trailing_slash`:
all that `split_segment_parameters` looks at -/
def lastSegCommaFree (u : Str) : Bool :=
  !(splitLastSlash (stripTrailingSlash u)).2.contains 44 && !(splitLastSlash u).2.contains 44

end BreezyVerif.C36
