/-
C14 — transform previews match their applied result.

Executable model of the `TreeTransform` bookkeeping of `breezy/transform.py`,
`breezy/bzr/transform.py` and `breezy/git/transform.py`:

* the maps `_new_name / _new_parent / _new_contents / _removed_contents /
  _new_executability / _new_id (git: _versioned) / _removed_id` over trans-ids,
  on top of a base tree whose paths all have a trans-id (the harness registers
  every path with `trans_id_tree_path` first, so `_tree_path_ids` is total);
* the `final_*` accessors, `by_parent`, `find_raw_conflicts` (all detectors, in
  the order of the source), the seven `CONFLICT_RESOLVERS`, `conflict_pass` and
  the fuelled loop of `resolve_conflicts`;
* `PreviewTree` / `InventoryPreviewTree` / `GitPreviewTree` accessors (`kind`,
  `get_file_text`, `get_symlink_target`, `is_executable`, `is_versioned`)
  behind `_path2trans_id`;
* `apply`: `_check_malformed`, the removal / insertion / chmod phases over an
  inode table (an entry is a directory entry `(parent, name)` plus a node, which
  is what `os.rename` manipulates), `_inventory_altered`,
  `_generate_inventory_delta`, `apply_inventory_delta` (bzr) and
  `_generate_index_changes` / `_apply_index_changes` (git).

Python dicts are insertion-ordered association lists (assignment to an
existing key keeps its position), Python sets are duplicate-free lists.
-/
namespace BreezyVerif.C14

abbrev Tid := Nat

inductive Kind where
  | file | dir | symlink
  deriving DecidableEq, Repr

/-- one registered tree path (`_tree_path_ids` entry); `kind = none` is a path
that does not exist on disk -/
structure Base where
  parent : Option Tid        -- `none` = ROOT_PARENT (only for the root)
  name : String
  kind : Option Kind
  data : String              -- file text / symlink target
  exec : Bool
  fid : Option String        -- file id if versioned (git: `some ""`)
  deriving DecidableEq, Repr

/-- which variant of the code is modelled (regenerated from the source by T1) -/
structure Flags where
  git : Bool
  /-- `get_file` / `get_symlink_target` of the preview tree read an unmodified
  entry at its *tree* path (true) or at the path it has in the preview (false) -/
  dataByTreePath : Bool
  /-- the same for `PreviewTree.is_executable` -/
  execByTreePath : Bool
  /-- resolvers read `by_parent().get(id, ())` (true) or `by_parent()[id]` (false) -/
  childrenGet : Bool
  /-- `resolve_duplicate` (two directories in a tree without versioned directories) calls
  `cancel_creation(existing)` only when `existing` has new contents (true) or always (false) -/
  cancelGuarded : Bool
  /-- `resolve_parent_loop` leaves a loop whose changed entry has no tree path (a loop of new
  entries) alone (true) or calls `get_tree_parent` on it, which raises KeyError (false) -/
  loopGuarded : Bool
  /-- `resolve_unversioned_parent` leaves a parent that has no inactive file id alone (true: the
  conflict stays and ends as MalformedTransform) or calls `version_file(file_id=None)`, which
  raises ValueError (false) -/
  upSkipsIdless : Bool := false
  /-- `resolve_non_directory_parent` releases the file id of the parent (`cancel_versioning`,
  `unversion_file`) *before* it creates the replacement directory with that id (true), or only
  unversions it afterwards (false: DuplicateKey when the id was assigned in this transform) -/
  npReleasesId : Bool := false
  /-- bzr: `_add_tree_children` catches the NoSuchFile of `stored_kind` for an unversioned path in
  `_removed_id`, and `_generate_inventory_delta` skips such paths (true); false: NoSuchFile -/
  unversionTolerant : Bool := false
  /-- bzr: `_generate_inventory_delta` also removes the tree file id of an entry that is given
  another id without `unversion_file` (true) -/
  deltaDropsOldId : Bool := false
  deriving DecidableEq, Repr

/-- the preview accessors read an unmodified entry at its tree path -/
def Flags.previewFixed (fl : Flags) : Bool := fl.dataByTreePath && fl.execByTreePath

/-- the resolvers use `by_parent().get`, guard `cancel_creation` and leave loops of new entries alone -/
def Flags.resolversFixed (fl : Flags) : Bool := fl.childrenGet && fl.cancelGuarded && fl.loopGuarded

structure TT where
  base : List Base
  next : Nat
  newName : List (Tid × String) := []
  newParent : List (Tid × Option Tid) := []
  newContents : List (Tid × (Kind × String)) := []
  removedContents : List Tid := []
  newExec : List (Tid × Bool) := []
  newId : List (Tid × String) := []
  removedId : List Tid := []
  deriving Repr

/-! ### association lists -/

def alookup {β : Type} (l : List (Tid × β)) (k : Tid) : Option β :=
  (l.find? (fun e => e.1 == k)).map (·.2)

def ahas {β : Type} (l : List (Tid × β)) (k : Tid) : Bool := l.any (fun e => e.1 == k)

/-- `d[k] = v` -/
def aset {β : Type} : List (Tid × β) → Tid → β → List (Tid × β)
  | [], k, v => [(k, v)]
  | (k', v') :: rest, k, v => if k' == k then (k, v) :: rest else (k', v') :: aset rest k v

def aerase {β : Type} (l : List (Tid × β)) (k : Tid) : List (Tid × β) := l.filter (fun e => e.1 != k)

def sadd (l : List Tid) (k : Tid) : List Tid := if l.contains k then l else l ++ [k]

/-! ### tree side -/

def TT.nbase (tt : TT) : Nat := tt.base.length

def TT.treeKind (tt : TT) (t : Tid) : Option Kind := (tt.base[t]?).bind (·.kind)
def TT.treeFid (tt : TT) (t : Tid) : Option String := (tt.base[t]?).bind (·.fid)
def TT.treeExec (tt : TT) (t : Tid) : Bool := ((tt.base[t]?).map (·.exec)).getD false
def TT.treeData (tt : TT) (t : Tid) : String := ((tt.base[t]?).map (·.data)).getD ""

/-! ### `final_*` -/

def TT.pathChanged (tt : TT) (t : Tid) : Bool := ahas tt.newName t || ahas tt.newParent t

/-- `final_name`; `none` = `NoFinalPath` -/
def TT.finalName (tt : TT) (t : Tid) : Option String :=
  match alookup tt.newName t with
  | some n => some n
  | none => (tt.base[t]?).map (·.name)

/-- `final_parent`: `none` = `KeyError`, `some none` = ROOT_PARENT -/
def TT.finalParent (tt : TT) (t : Tid) : Option (Option Tid) :=
  match alookup tt.newParent t with
  | some p => some p
  | none => (tt.base[t]?).map (·.parent)

def TT.finalKind (tt : TT) (t : Tid) : Option Kind :=
  match alookup tt.newContents t with
  | some (k, _) => some k
  | none => if tt.removedContents.contains t then none else tt.treeKind t

/-- `final_file_id` (git: `some ""` iff `final_is_versioned`) -/
def TT.finalFid (tt : TT) (t : Tid) : Option String :=
  match alookup tt.newId t with
  | some f => some f
  | none => if tt.removedId.contains t then none else tt.treeFid t

def TT.finalVersioned (tt : TT) (t : Tid) : Bool := (tt.finalFid t).isSome

/-- all trans-ids the transform knows -/
def TT.ids (tt : TT) : List Tid := List.range tt.next

/-- an entry that exists in the result: it has contents or is versioned -/
def TT.live (tt : TT) (t : Tid) : Bool := (tt.finalKind t).isSome || tt.finalVersioned t

/-! ### `by_parent` -/

def insertSorted (x : Tid) : List Tid → List Tid
  | [] => [x]
  | y :: ys => if x < y then x :: y :: ys else if x = y then y :: ys else y :: insertSorted x ys

def bpAdd (bp : List (Option Tid × List Tid)) (p : Option Tid) (c : Tid) : List (Option Tid × List Tid) :=
  match bp with
  | [] => [(p, [c])]
  | (p', cs) :: rest => if p' = p then (p', insertSorted c cs) :: rest else (p', cs) :: bpAdd rest p c

/-- `by_parent()`: keys in first-insertion order (`_new_parent` items, then the
tree ids with their `final_parent`); the children sets are kept sorted -/
def TT.byParent (tt : TT) : List (Option Tid × List Tid) :=
  let items := tt.newParent ++ (List.range tt.nbase).filterMap (fun t => (tt.finalParent t).map (fun p => (t, p)))
  items.foldl (fun bp e => bpAdd bp e.2 e.1) []

def TT.children (tt : TT) (p : Tid) : Option (List Tid) :=
  (tt.byParent.find? (fun e => e.1 == some p)).map (·.2)

/-! ### conflicts -/

inductive Conflict where
  | unversionedParent (p : Tid)
  | parentLoop (t : Tid)
  | duplicate (last cur : Tid) (name : String)
  | missingParent (p : Tid)
  | nonDirParent (p : Tid)
  | versioningNoContents (t : Tid)
  | unversionedExec (t : Tid)
  | nonFileExec (t : Tid)
  | overwrite (t : Tid) (name : String)
  | duplicateId (old new : Tid)
  deriving DecidableEq, Repr

def TT.unversionedParents (tt : TT) : List Conflict :=
  tt.byParent.filterMap fun e =>
    match e.1 with
    | none => none
    | some p =>
      if tt.finalVersioned p then none
      else if e.2.any tt.finalVersioned then some (.unversionedParent p) else none

/-- the walk of `_parent_loops` from `t`: does following `final_parent` come back to `t`? -/
def TT.loopWalk (tt : TT) (t : Tid) : Nat → Tid → List Tid → Bool
  | 0, _, _ => false
  | fuel + 1, cur, seen =>
    match tt.finalParent cur with
    | none => false                    -- KeyError: break
    | some none => false               -- reached ROOT_PARENT
    | some (some p) =>
      if p = t then true
      else if (cur :: seen).contains p then false
      else tt.loopWalk t fuel p (cur :: seen)

def TT.parentLoops (tt : TT) : List Conflict :=
  tt.newParent.filterMap fun e =>
    if tt.loopWalk e.1 (tt.next + 2) e.1 [] then some (.parentLoop e.1) else none

/-- order of trans-id strings `new-<n>` -/
def tidLe (a b : Tid) : Bool := decide (toString a ≤ toString b)

def nameIdLe (x y : String × Tid) : Bool :=
  if x.1 < y.1 then true else if x.1 = y.1 then tidLe x.2 y.2 else false

def insertBy {α : Type} (le : α → α → Bool) (x : α) : List α → List α
  | [] => [x]
  | y :: ys => if le x y then x :: y :: ys else y :: insertBy le x ys

/-- `name_ids.sort()` (insertion sort: structurally recursive, so the kernel can evaluate it) -/
def isort {α : Type} (le : α → α → Bool) : List α → List α
  | [] => []
  | x :: xs => insertBy le x (isort le xs)

def dupScan (tt : TT) : Option (String × Tid) → List (String × Tid) → List Conflict
  | _, [] => []
  | last, (n, t) :: rest =>
    if (tt.finalKind t).isNone && !tt.finalVersioned t then dupScan tt last rest
    else
      let here := match last with
        | some (ln, lt) => if ln = n then [Conflict.duplicate lt t n] else []
        | none => []
      here ++ dupScan tt (some (n, t)) rest

def TT.duplicateEntries (tt : TT) : List Conflict :=
  if tt.newName.isEmpty && tt.newParent.isEmpty then []
  else tt.byParent.flatMap fun e =>
    let nameIds := (e.2.filterMap fun c => (tt.finalName c).map fun n => (n, c)) |> isort nameIdLe
    dupScan tt none nameIds

def TT.parentTypeConflicts (tt : TT) : List Conflict :=
  tt.byParent.filterMap fun e =>
    match e.1 with
    | none => none
    | some p =>
      if e.2.all (fun c => (tt.finalKind c).isNone) then none
      else match tt.finalKind p with
        | none => some (.missingParent p)
        | some .dir => none
        | some _ => some (.nonDirParent p)

def TT.improperVersioning (tt : TT) : List Conflict :=
  tt.newId.filterMap fun e => if (tt.finalKind e.1).isNone then some (.versioningNoContents e.1) else none

def TT.executabilityConflicts (tt : TT) : List Conflict :=
  tt.newExec.filterMap fun e =>
    if !tt.finalVersioned e.1 then some (.unversionedExec e.1)
    else if tt.finalKind e.1 ≠ some .file then some (.nonFileExec e.1) else none

def TT.overwriteConflicts (tt : TT) : List Conflict :=
  tt.newContents.filterMap fun e =>
    if (tt.treeKind e.1).isNone then none
    else if tt.removedContents.contains e.1 then none
    else some (.overwrite e.1 ((tt.finalName e.1).getD ""))

/-- the tree trans-id that carries file id `f` -/
def TT.tidOfTreeFid (tt : TT) (f : String) : Option Tid :=
  (List.range tt.nbase).find? (fun t => tt.treeFid t == some f)

def TT.duplicateIds (tt : TT) : List Conflict :=
  let removed := tt.removedId.filterMap tt.treeFid
  tt.newId.filterMap fun e =>
    match tt.tidOfTreeFid e.2 with
    | some old => if removed.contains e.2 then none else some (.duplicateId old e.1)
    | none => none

/-- `_add_tree_children` (bzr) asks `self._tree.stored_kind(path)` for every tree
path in `_removed_id`; that raises NoSuchFile when the path is not versioned
(the git variant catches it) -/
def TT.addTreeChildrenRaises (fl : Flags) (tt : TT) : Bool :=
  !fl.git && !fl.unversionTolerant && tt.removedId.any (fun t => t < tt.nbase && (tt.treeFid t).isNone)

/-- `find_raw_conflicts` (bzr: `InventoryTreeTransform`, git: `TreeTransformBase` of git/transform.py) -/
def TT.findRawConflicts (fl : Flags) (tt : TT) : List Conflict :=
  (if fl.git then [] else tt.unversionedParents) ++ tt.parentLoops ++ tt.duplicateEntries ++
  tt.parentTypeConflicts ++ tt.improperVersioning ++ tt.executabilityConflicts ++ tt.overwriteConflicts ++
  (if fl.git then [] else tt.duplicateIds)

/-! ### operations -/

inductive Err where
  | duplicateKey | cantMoveRoot | keyError | noFinalPath | malformed | valueError | isADirectory | fileExists
  | renameFailed | inconsistentDelta
  deriving DecidableEq, Repr

def TT.root : Tid := 0

/-- `create_path` -/
def TT.createPath (tt : TT) (name : String) (parent : Tid) : TT × Tid :=
  ({ tt with next := tt.next + 1, newName := tt.newName ++ [(tt.next, name)],
             newParent := tt.newParent ++ [(tt.next, some parent)] }, tt.next)

/-- `version_file(trans_id, file_id=f)` -/
def TT.versionFile (fl : Flags) (tt : TT) (t : Tid) (f : String) : Except Err TT :=
  if ahas tt.newId t then .error .duplicateKey
  else if !fl.git && tt.newId.any (fun e => e.2 == f) then .error .duplicateKey   -- `_r_new_id`
  else .ok { tt with newId := tt.newId ++ [(t, if fl.git then "" else f)] }

def TT.createContents (tt : TT) (t : Tid) (k : Kind) (d : String) : Except Err TT :=
  if ahas tt.newContents t then .error .duplicateKey
  else .ok { tt with newContents := tt.newContents ++ [(t, (k, d))] }

def TT.setExec (tt : TT) (b : Bool) (t : Tid) : Except Err TT :=
  if ahas tt.newExec t then .error .duplicateKey
  else .ok { tt with newExec := tt.newExec ++ [(t, b)] }

def TT.adjustPath (tt : TT) (name : String) (parent : Tid) (t : Tid) : Except Err TT :=
  if t = TT.root then .error .cantMoveRoot
  else .ok { tt with newName := aset tt.newName t name, newParent := aset tt.newParent t (some parent) }

def TT.deleteContents (tt : TT) (t : Tid) : TT :=
  if (tt.treeKind t).isSome then { tt with removedContents := sadd tt.removedContents t } else tt

def TT.unversionFile (tt : TT) (t : Tid) : TT := { tt with removedId := sadd tt.removedId t }

/-- `cancel_versioning` -/
def TT.cancelVersioning (tt : TT) (t : Tid) : Except Err TT :=
  if ahas tt.newId t then .ok { tt with newId := aerase tt.newId t } else .error .keyError

/-- `new_file` / `new_directory` / `new_symlink` -/
def TT.newEntry (fl : Flags) (tt : TT) (name : String) (parent : Tid) (k : Kind) (d : String)
    (fid : Option String) (exec : Option Bool) : Except Err (TT × Tid) := do
  let (tt, t) := tt.createPath name parent
  let tt ← match fid with
    | some f => tt.versionFile fl t f
    | none => pure tt
  let tt ← tt.createContents t k d
  let tt ← match exec with
    | some b => tt.setExec b t
    | none => pure tt
  pure (tt, t)

inductive Op where
  | newFile (name : String) (parent : Tid) (data : String) (fid : Option String) (exec : Option Bool)
  | newDir (name : String) (parent : Tid) (fid : Option String)
  | newSymlink (name : String) (parent : Tid) (target : String) (fid : Option String)
  | deleteContents (t : Tid)
  | adjustPath (name : String) (parent : Tid) (t : Tid)
  | versionFile (t : Tid) (fid : String)
  | unversionFile (t : Tid)
  | setExec (b : Bool) (t : Tid)
  | createFile (data : String) (t : Tid)
  | createDir (t : Tid)
  deriving Repr

def TT.step (fl : Flags) (tt : TT) : Op → Except Err TT
  | .newFile n p d f e => (tt.newEntry fl n p .file d f e).map (·.1)
  | .newDir n p f => (tt.newEntry fl n p .dir "" f none).map (·.1)
  | .newSymlink n p d f => (tt.newEntry fl n p .symlink d f none).map (·.1)
  | .deleteContents t => .ok (tt.deleteContents t)
  | .adjustPath n p t => tt.adjustPath n p t
  | .versionFile t f => tt.versionFile fl t f
  | .unversionFile t => .ok (tt.unversionFile t)
  | .setExec b t => tt.setExec b t
  | .createFile d t =>
    -- `open(limbo_name, "wb")` comes before `unique_add`
    if (alookup tt.newContents t).map (·.1) = some .dir then .error .isADirectory else tt.createContents t .file d
  | .createDir t =>
    -- `os.mkdir(limbo_name)` comes before `unique_add`
    if ahas tt.newContents t then .error .fileExists else tt.createContents t .dir ""

/-- run the operations until the first one that raises; returns the log -/
def TT.steps (fl : Flags) (tt : TT) : List Op → TT × Option Err
  | [] => (tt, none)
  | op :: rest =>
    match tt.step fl op with
    | .ok tt' => tt'.steps fl rest
    | .error e => (tt, some e)

/-! ### resolvers (`CONFLICT_RESOLVERS`) -/

/-- `by_parent()[id]` / `by_parent().get(id, ())` -/
def TT.childrenOf (fl : Flags) (tt : TT) (p : Tid) : Except Err (List Tid) :=
  match tt.children p with
  | some cs => .ok cs
  | none => if fl.childrenGet then .ok [] else .error .keyError

/-- `_reparent_transform_children` -/
def TT.reparentChildren (fl : Flags) (tt : TT) (old new : Tid) : Except Err TT := do
  let cs ← tt.childrenOf fl old
  cs.foldlM (fun (tt : TT) c =>
    match tt.finalName c with
    | some n => tt.adjustPath n new c
    | none => .error .noFinalPath) tt

def TT.resolveDuplicateId (tt : TT) (old : Tid) : Except Err TT := .ok (tt.unversionFile old)

def TT.resolveDuplicate (fl : Flags) (tt : TT) (last cur : Tid) : Except Err TT :=
  match tt.finalParent last with
  | none => .error .keyError
  | some none => .error .valueError           -- adjust_path(parent=None)
  | some (some fp) =>
    let (existing, new) := if tt.pathChanged last then (cur, last) else (last, cur)
    if fl.git && tt.finalKind cur = some .dir && tt.finalKind last = some .dir then do
      let tt ← tt.reparentChildren fl existing new
      let tt := (tt.deleteContents existing).unversionFile existing
      -- cancel_creation: `del self._new_contents[trans_id]`
      if ahas tt.newContents existing then .ok { tt with newContents := aerase tt.newContents existing }
      else if fl.cancelGuarded then .ok tt
      else .error .keyError
    else
      match tt.finalName existing with
      | some n => tt.adjustPath (n ++ ".moved") fp existing
      | none => .error .noFinalPath

/-- the `while not tt.path_changed(cur): cur = tt.final_parent(cur)` walk -/
def TT.findChanged (tt : TT) : Nat → Tid → Except Err Tid
  | 0, _ => .error .keyError
  | fuel + 1, cur =>
    if tt.pathChanged cur then .ok cur
    else match tt.finalParent cur with
      | some (some p) => tt.findChanged fuel p
      | _ => .error .keyError          -- walked past the root: final_parent(ROOT_PARENT) raises KeyError

def TT.resolveParentLoop (fl : Flags) (tt : TT) (cur : Tid) : Except Err TT := do
  let cur ← tt.findChanged (tt.next + 2) cur
  if fl.loopGuarded && (tt.base[cur]?).isNone then return tt     -- no tree position to move back to
  -- adjust_path(final_name(cur), get_tree_parent(cur), cur)
  match tt.finalName cur, (tt.base[cur]?).map (·.parent) with
  | some n, some (some p) => tt.adjustPath n p cur
  | some _, some none => .error .valueError
  | _, _ => .error .keyError

def TT.resolveMissingParent (fl : Flags) (tt : TT) (t : Tid) : Except Err TT :=
  if tt.removedContents.contains t then do
    -- `_get_potential_orphans` reads by_parent()[t]; with the default orphan
    -- policy ("conflict") every outcome cancels the deletion
    let _ ← tt.childrenOf fl t
    pure { tt with removedContents := tt.removedContents.filter (· != t) }
  else
    match tt.finalName t with
    | none => .error .noFinalPath
    | some _ => tt.createContents t .dir ""

def TT.resolveUnversionedParent (fl : Flags) (tt : TT) (t : Tid) : Except Err TT :=
  match tt.treeFid t with
  | none =>
    if fl.upSkipsIdless then .ok tt         -- nothing to re-activate: the conflict stays
    else .error .valueError               -- version_file(trans_id, file_id=None)
  | some f => tt.versionFile fl t f

def TT.resolveNonDirParent (fl : Flags) (tt : TT) (p : Tid) : Except Err TT :=
  match tt.finalParent p, tt.finalName p with
  | some (some pp), some n => do
    let fid := if fl.git then some "" else tt.finalFid p
    if fl.npReleasesId then
      let tt := if fid.isSome then
          (match tt.cancelVersioning p with | .ok tt' => tt' | .error _ => tt).unversionFile p
        else tt
      let (tt, nd) ← tt.newEntry fl (n ++ ".new") pp .dir "" fid none
      tt.reparentChildren fl p nd
    else
      let (tt, nd) ← tt.newEntry fl (n ++ ".new") pp .dir "" fid none
      let tt ← tt.reparentChildren fl p nd
      pure (if fid.isSome then tt.unversionFile p else tt)
  | some none, some _ => .error .valueError
  | _, _ => .error .keyError

def TT.resolveOne (fl : Flags) (tt : TT) : Conflict → Except Err TT
  | .duplicateId old _ => tt.resolveDuplicateId old
  | .duplicate last cur _ => tt.resolveDuplicate fl last cur
  | .parentLoop t => tt.resolveParentLoop fl t
  | .missingParent p => tt.resolveMissingParent fl p
  | .unversionedParent p => tt.resolveUnversionedParent fl p
  | .nonDirParent p => tt.resolveNonDirParent fl p
  | .versioningNoContents t => tt.cancelVersioning t
  | _ => .ok tt                          -- no resolver registered: `continue`

/-- `conflict_pass`: every conflict found at the start of the pass is handed to
its resolver, in order, on the transform as changed by the earlier ones -/
def TT.conflictPass (fl : Flags) (tt : TT) (cs : List Conflict) : Except Err TT :=
  cs.foldlM (fun tt c => tt.resolveOne fl c) tt

inductive Resolved where
  | clean (tt : TT)                      -- `find_raw_conflicts() == []`: returned
  | malformed (cs : List Conflict)       -- MalformedTransform(conflicts=cs)
  | crashed (e : Err)                    -- a resolver raised

/-- `resolve_conflicts`: `fuel` passes (10 in the source) -/
def TT.resolve (fl : Flags) : Nat → TT → List Conflict → Resolved
  | 0, _, last => .malformed last
  | fuel + 1, tt, _ =>
    let cs := tt.findRawConflicts fl
    if cs.isEmpty then .clean tt
    else match tt.conflictPass fl cs with
      | .ok tt' => TT.resolve fl fuel tt' cs
      | .error e => .crashed e

def passCount : Nat := 10

def TT.resolveConflicts (fl : Flags) (tt : TT) : Resolved := TT.resolve fl passCount tt []

/-- the key of a raw conflict in `CONFLICT_RESOLVERS` -/
def Conflict.key : Conflict → String
  | .unversionedParent _ => "unversioned parent"
  | .parentLoop _ => "parent loop"
  | .duplicate _ _ _ => "duplicate"
  | .missingParent _ => "missing parent"
  | .nonDirParent _ => "non-directory parent"
  | .versioningNoContents _ => "versioning no contents"
  | .unversionedExec _ => "unversioned executability"
  | .nonFileExec _ => "non-file executability"
  | .overwrite _ _ => "overwrite"
  | .duplicateId _ _ => "duplicate id"

/-- the conflict types `resolveOne` has a resolver for -/
def Conflict.hasResolver : Conflict → Bool
  | .unversionedExec _ | .nonFileExec _ | .overwrite _ _ => false
  | _ => true

/-! ### the result as a tree: entries per trans-id, then the path walk -/

/-- what a tree shows for one entry -/
structure Entry where
  kind : Option Kind
  data : String := ""
  exec : Bool := false
  versioned : Bool := false
  deriving DecidableEq, Repr

/-- the path of a trans-id: names from the root down (`FinalPaths`), `none` on a
loop / missing name -/
def TT.finalPath (tt : TT) : Nat → Tid → Option (List String)
  | 0, _ => none
  | fuel + 1, t =>
    if t = TT.root then some []
    else match tt.finalParent t, tt.finalName t with
      | some (some p), some n => (tt.finalPath fuel p).map (· ++ [n])
      | _, _ => none

def TT.pathOf (tt : TT) (t : Tid) : Option (List String) := tt.finalPath (tt.next + 1) t

/-- the registered tree path of a tree id -/
def TT.treePath (tt : TT) : Nat → Tid → Option (List String)
  | 0, _ => none
  | fuel + 1, t =>
    if t = TT.root then some []
    else match tt.base[t]? with
      | some b => match b.parent with
        | some p => (tt.treePath fuel p).map (· ++ [b.name])
        | none => none
      | none => none

/-- the tree id registered for a tree path -/
def TT.tidOfTreePath (tt : TT) (p : List String) : Option Tid :=
  (List.range tt.nbase).find? (fun t => tt.treePath (tt.nbase + 1) t == some p)

/-! #### preview -/

/-- what `_tree.get_file(path)` / `get_symlink_target(path)` / `is_executable(path)`
give for a path of the *base* tree -/
def TT.baseDataAt (tt : TT) (k : Kind) (p : List String) : Option String :=
  match tt.tidOfTreePath p with
  | some t => if tt.treeKind t = some k then some (tt.treeData t) else none
  | none => none

def TT.baseExecAt (tt : TT) (p : List String) : Bool :=
  match tt.tidOfTreePath p with
  | some t => tt.treeKind t = some .file && tt.treeExec t
  | none => false

/-- `data = none` models an exception (NoSuchFile, IsADirectoryError, …) -/
structure PEntry where
  kind : Option Kind
  data : Option String
  exec : Bool
  versioned : Bool
  deriving DecidableEq, Repr

/-- the preview tree's answers for trans-id `t` found at path `p` -/
def TT.previewEntry (fl : Flags) (tt : TT) (t : Tid) (p : List String) : PEntry :=
  let kind := tt.finalKind t
  let newData := (alookup tt.newContents t).map (·.2)
  let treeData : Option String := if tt.removedContents.contains t then none else
    match kind with
    | some k => if tt.treeKind t = some k then some (tt.treeData t) else none
    | none => none
  let baseData : Option String := match kind with
    | some k => tt.baseDataAt k p
    | none => none
  let data : Option String :=
    match kind with
    | none | some .dir => some ""
    | some _ =>
      if fl.dataByTreePath then (match newData with | some d => some d | none => treeData)
      else if fl.git then (match newData with | some d => some d | none => treeData)
      else if newData.isSome && tt.finalVersioned t then newData     -- `_content_change(file_id)`
      else baseData
  let exec : Bool :=
    if kind ≠ some .file then false
    else match alookup tt.newExec t with
      | some b => b
      | none => if fl.execByTreePath then (tt.treeKind t = some .file && tt.treeExec t) else tt.baseExecAt p
  { kind := kind, data := data, exec := exec, versioned := tt.finalVersioned t }

/-! #### apply: disk -/

/-- an inode with its directory entry -/
structure Inode where
  parent : Option Tid      -- the directory entry: parent inode …
  name : String            -- … and name
  attached : Bool          -- has a directory entry in the tree (not in limbo / pending-deletion)
  kind : Option Kind
  data : String
  exec : Bool
  deriving DecidableEq, Repr

/-- one inode per trans-id (index = trans-id); ids without anything on disk have `kind = none` -/
abbrev Disk := List Inode

def Inode.empty : Inode := { parent := none, name := "", attached := false, kind := none, data := "", exec := false }

def TT.baseInode (tt : TT) (t : Tid) : Inode :=
  match tt.base[t]? with
  | some b => { parent := b.parent, name := b.name, attached := b.kind.isSome, kind := b.kind, data := b.data, exec := b.exec }
  | none => Inode.empty

def TT.baseDisk (tt : TT) : Disk := tt.ids.map tt.baseInode

/-- one step of `_apply_removals`: deleted contents go to pending-deletion,
an entry whose path changes goes to limbo (the root is skipped) -/
def TT.removalStep (tt : TT) (t : Tid) (i : Inode) : Inode :=
  if t = TT.root ∨ t ≥ tt.nbase then i
  else if tt.removedContents.contains t then { i with attached := false, kind := none }
  else if tt.pathChanged t then { i with attached := false }
  else i

def TT.applyRemovals (tt : TT) (d : Disk) : Disk := d.mapIdx (fun t i => tt.removalStep t i)

/-- the limbo file of a trans-id with new contents (`create_file` + `_set_mode`: the
mode of an existing regular file at the tree path is copied) -/
def TT.limboInode (tt : TT) (t : Tid) (i : Inode) (k : Kind) (data : String) : Inode :=
  { i with attached := false, kind := some k, data := data,
           exec := k = .file && tt.treeKind t = some .file && tt.treeExec t }

/-- one step of `_apply_insertions`: what is in limbo (new contents, or the entry
moved there by the removal phase) is renamed to its final place; a rename of
something that does not exist fails with ENOENT, which is swallowed -/
def TT.insertionStep (tt : TT) (t : Tid) (i : Inode) : Inode :=
  let i := match alookup tt.newContents t with
    | some (k, d) => tt.limboInode t i k d
    | none => i
  if ahas tt.newContents t || tt.pathChanged t then
    match tt.finalParent t, tt.finalName t with
    | some p, some n => { i with parent := p, name := n, attached := i.kind.isSome }
    | _, _ => i
  else i

/-- `_set_executability` for the ids in `_new_executability` -/
def TT.chmodStep (tt : TT) (t : Tid) (i : Inode) : Inode :=
  match alookup tt.newExec t with
  | some b => { i with exec := b }
  | none => i

def TT.applyInsertions (tt : TT) (d : Disk) : Disk :=
  (d.mapIdx (fun t i => tt.insertionStep t i)).mapIdx (fun t i => tt.chmodStep t i)

def TT.applyDisk (tt : TT) : Disk := tt.applyInsertions (tt.applyRemovals tt.baseDisk)

/-- the path of a trans-id read off a disk: names along the directory entries (`parent`, `name`)
of the inode table, from the root down -/
def diskPath (d : Disk) : Nat → Tid → Option (List String)
  | 0, _ => none
  | fuel + 1, t =>
    if t = TT.root then some []
    else match d[t]? with
      | some i => match i.parent with
        | some p => (diskPath d fuel p).map (· ++ [i.name])
        | none => none
      | none => none

/-! #### apply: bzr inventory -/

structure InvEntry where
  parentFid : Option String
  name : String
  kind : Option Kind
  deriving DecidableEq, Repr

abbrev Inv := List (String × InvEntry)

def TT.baseInv (tt : TT) : Inv :=
  (List.range tt.nbase).filterMap fun t =>
    match tt.base[t]? with
    | some b => b.fid.map fun f => (f, { parentFid := b.parent.bind tt.treeFid, name := b.name, kind := b.kind })
    | none => none

/-- `_inventory_altered` (as a set of trans-ids) -/
def TT.inventoryAltered (tt : TT) : List Tid :=
  let newFileId := tt.newId.filterMap fun e => if tt.treeFid e.1 = some e.2 then none else some e.1
  let changedKind := tt.removedContents.filter fun t => ahas tt.newContents t && tt.treeKind t ≠ tt.finalKind t
  let kids := newFileId.flatMap fun p => (List.range tt.nbase).filter fun c => (tt.base[c]?).bind (·.parent) = some p && (tt.treeKind c).isSome
  tt.ids.filter fun t =>
    ahas tt.newName t || ahas tt.newParent t || newFileId.contains t || ahas tt.newExec t ||
    changedKind.contains t || kids.contains t

inductive DeltaItem where
  | remove (fid : String)
  | put (fid : String) (e : InvEntry)
  deriving DecidableEq, Repr

/-- the new inventory entry `_generate_inventory_delta` builds for trans-id `t` with final file id `f`;
`none` = `final_name` raises NoFinalPath / `final_parent` raises KeyError -/
def TT.deltaEntry (tt : TT) (t : Tid) (f : String) : Option InvEntry :=
  match tt.finalParent t, tt.finalName t with
  | some pp, some n =>
    let kind := match tt.finalKind t with
      | some k => some k
      | none => (tt.tidOfTreeFid f).bind tt.treeKind     -- stored_kind(id2path(file_id))
    some { parentFid := pp.bind tt.finalFid, name := n, kind := kind }
  | _, _ => none

/-- trans-ids that are versioned in the tree, keep that file id (no `unversion_file`) and get
another one by `version_file`: the delta adds the new id at a path the old id still occupies -/
def TT.reversioned (tt : TT) : List Tid :=
  tt.ids.filter fun t =>
    match alookup tt.newId t, tt.treeFid t with
    | some f, some g => f != g && !tt.removedId.contains t
    | _, _ => false

/-- the removal items of `_generate_inventory_delta` -/
def TT.deltaRemovals (fl : Flags) (tt : TT) : List DeltaItem :=
  (tt.removedId.filterMap fun t =>
    match tt.treeFid t with
    | some f => if tt.newId.any (fun e => e.2 == f) then none else some (DeltaItem.remove f)
    | none => none) ++
  (if fl.deltaDropsOldId then
    tt.reversioned.filterMap fun t =>
      match tt.treeFid t with
      | some g => if tt.newId.any (fun e => e.2 == g) then none else some (DeltaItem.remove g)
      | none => none
   else [])

/-- the new-entry items of `_generate_inventory_delta`; an altered id without a final path makes
`FinalPaths.get_paths` (in `_inventory_altered`) raise NoFinalPath -/
def TT.deltaPuts (tt : TT) : Except Err (List DeltaItem) :=
  if tt.inventoryAltered.any (fun t => (tt.pathOf t).isNone) then .error .noFinalPath
  else .ok (tt.inventoryAltered.filterMap fun t =>
    match tt.finalFid t with
    | none => none
    | some f => (tt.deltaEntry t f).map (DeltaItem.put f))

/-- `_generate_inventory_delta` -/
def TT.generateDelta (fl : Flags) (tt : TT) : Except Err (List DeltaItem) :=
  match tt.deltaPuts with
  | .ok puts => .ok (tt.deltaRemovals fl ++ puts)
  | .error e => .error e

def applyDelta (inv : Inv) : List DeltaItem → Inv
  | [] => inv
  | .remove f :: rest => applyDelta (inv.filter (fun e => e.1 != f)) rest
  | .put f e :: rest => applyDelta (inv.filter (fun x => x.1 != f) ++ [(f, e)]) rest

/-- the inventory after `apply_inventory_delta` (the base inventory when no delta can be generated) -/
def TT.appliedInv (fl : Flags) (tt : TT) : Inv :=
  match tt.generateDelta fl with
  | .ok d => applyDelta tt.baseInv d
  | .error _ => tt.baseInv

/-- what `update_by_delta` checks of the result: no two entries share a directory entry
(parent file id, name), and every parent file id is present and a directory -/
def invConsistent (inv : Inv) : Bool :=
  inv.all fun e =>
    (inv.all fun e' => e'.1 == e.1 || !(e'.2.parentFid == e.2.parentFid && e'.2.name == e.2.name)) &&
    (match e.2.parentFid with
     | none => true
     | some pf => inv.any fun e' => e'.1 == pf && e'.2.kind == some .dir)

/-! #### apply: git index (paths of versioned non-directories) -/

/-- is a proper ancestor of `t` in the *base* tree a directory the transform renames or re-parents? -/
def TT.belowMovedDir (tt : TT) : Nat → Tid → Bool
  | 0, _ => false
  | fuel + 1, t =>
    match (tt.base[t]?).bind (·.parent) with
    | none => false
    | some p => (p != TT.root && tt.pathChanged p && tt.treeKind p == some .dir) || tt.belowMovedDir fuel p

/-- versioned non-directories below a moved directory: `_generate_index_changes` re-keys them -/
def TT.reindexed (tt : TT) : List Tid :=
  (List.range tt.nbase).filter fun t =>
    (tt.treeFid t).isSome && (tt.treeKind t).isSome && tt.treeKind t != some .dir && tt.belowMovedDir (tt.nbase + 1) t

/-- `removed_id` of `_generate_index_changes` -/
def TT.gitRemoved (tt : TT) : List Tid :=
  tt.ids.filter fun t =>
    tt.removedId.contains t || tt.removedContents.contains t || ahas tt.newName t || ahas tt.newParent t ||
    tt.reindexed.contains t

/-- `changed_ids` of `_generate_index_changes` -/
def TT.gitChanged (tt : TT) : List Tid :=
  tt.ids.filter fun t =>
    ahas tt.newName t || ahas tt.newParent t || ahas tt.newExec t || ahas tt.newContents t || ahas tt.newId t ||
    tt.reindexed.contains t

def TT.gitBaseIndex (tt : TT) : List (List String) :=
  (List.range tt.nbase).filterMap fun t =>
    if (tt.treeFid t).isSome && tt.treeKind t ≠ some .dir then tt.treePath (tt.nbase + 1) t else none

/-- paths `_apply_index_changes` adds: changed ids that end versioned, as a file or symlink -/
def TT.gitAdded (tt : TT) : List (List String) :=
  tt.gitChanged.filterMap fun t =>
    match tt.finalKind t with
    | none => none
    | some .dir => none               -- `_index_add_entry`: git indexes don't contain directories
    | some _ => if tt.finalVersioned t then tt.pathOf t else none

/-- paths `_apply_index_changes` deletes: tree paths of `removed_id`, and changed ids that end as
versioned directories -/
def TT.gitDeleted (tt : TT) : List (List String) :=
  tt.gitRemoved.filterMap (tt.treePath (tt.nbase + 1)) ++
  tt.gitChanged.filterMap fun t =>
    if tt.finalKind t = some .dir && tt.finalVersioned t then tt.pathOf t else none

/-- `_generate_index_changes` + `_apply_index_changes`: the index after apply (an added path
overrides a deletion of the same path: `changes` is a dict keyed by path, additions come last) -/
def TT.gitIndex (tt : TT) : List (List String) :=
  (tt.gitBaseIndex.filter fun p => !tt.gitDeleted.contains p && !tt.gitAdded.contains p) ++ tt.gitAdded

/-- `_generate_index_changes` as it was before fix a33311f: ids that only become versioned and the
children of moved directories are not looked at -/
def TT.gitIndexPinned (tt : TT) : List (List String) :=
  let treeP (t : Tid) := tt.treePath (tt.nbase + 1) t
  let removedIds := tt.ids.filter fun t =>
    tt.removedId.contains t || tt.removedContents.contains t || ahas tt.newName t || ahas tt.newParent t
  let removedPaths := removedIds.filterMap treeP
  let changed := tt.ids.filter fun t =>
    ahas tt.newName t || ahas tt.newParent t || ahas tt.newExec t || ahas tt.newContents t
  let added := changed.filterMap fun t =>
    match tt.finalKind t with
    | none => none
    | some .dir => none
    | some _ => if tt.finalVersioned t then tt.pathOf t else none
  let addedDirsDel := changed.filterMap fun t =>
    if tt.finalKind t = some .dir && tt.finalVersioned t then tt.pathOf t else none
  (tt.gitBaseIndex.filter fun p => !removedPaths.contains p && !addedDirsDel.contains p && !added.contains p) ++ added

/-! #### the applied tree, per trans-id -/

/-- the path of a file id in an inventory: names along the parent file ids -/
def invPath (inv : Inv) : Nat → String → Option (List String)
  | 0, _ => none
  | fuel + 1, f =>
    match (inv.find? (fun e => e.1 == f)).map (·.2) with
    | none => none
    | some e =>
      match e.parentFid with
      | none => if e.name.isEmpty then some [] else none
      | some pf => (invPath inv fuel pf).map (· ++ [e.name])

/-- is path `p` versioned in inventory `inv`? -/
def invHasPath (inv : Inv) (p : List String) : Bool :=
  inv.any fun e => invPath inv (inv.length + 1) e.1 == some p

def TT.appliedEntry (fl : Flags) (tt : TT) (t : Tid) (p : List String) : Entry :=
  match tt.applyDisk[t]? with
  | none => { kind := none, versioned := false }
  | some i =>
    let versioned := if fl.git then tt.gitIndex.any (fun q => p.isPrefixOf q) else invHasPath (tt.appliedInv fl) p
    let kind := if i.attached then i.kind else none
    { kind := kind, data := if kind = some .file ∨ kind = some .symlink then i.data else "",
      exec := kind = some .file && i.exec, versioned := versioned }

/-- the entry the `final_*` functions describe (the specification both sides are compared with) -/
def TT.finalEntry (tt : TT) (t : Tid) : Entry :=
  let kind := tt.finalKind t
  let data := if kind = some .file ∨ kind = some .symlink then
      (match alookup tt.newContents t with
        | some (_, d) => d
        | none => tt.treeData t)
    else ""
  let exec := kind = some .file && (match alookup tt.newExec t with
    | some b => b
    | none => tt.treeKind t = some .file && tt.treeExec t)
  { kind := kind, data := data, exec := exec, versioned := tt.finalVersioned t }

/-! #### apply as a whole: the phases and where they can fail -/

/-- tree ids without contents whose path changes and whose final parent is a file: nothing is in
limbo for them, and `os.rename(limbo/<id>, <file>/<name>)` fails with ENOTDIR (not the ENOENT that
`_apply_insertions` swallows) -/
def TT.dangling (tt : TT) : List Tid :=
  tt.ids.filter fun t =>
    t != TT.root && decide (t < tt.nbase) && tt.pathChanged t && (tt.finalKind t).isNone &&
    !tt.removedContents.contains t &&
    (match tt.finalParent t with
     | some (some p) => tt.finalKind p == some .file
     | _ => false)

/-- trans-ids without final contents that are versioned, below a final parent that is a file or a
symlink: `_parent_type_conflicts` does not look at children without contents, the inventory delta
puts the entry below a non-directory -/
def TT.versionedBelowNonDir (tt : TT) : List Tid :=
  tt.ids.filter fun t =>
    t != TT.root && (tt.finalKind t).isNone && tt.finalVersioned t &&
    (match tt.finalParent t with
     | some (some p) => (tt.finalKind p).isSome && tt.finalKind p != some .dir
     | _ => false)

inductive Outcome where
  | applied (tt : TT) (disk : Disk)      -- `apply()` returned
  | raised (e : Err) (disk : Disk)       -- an exception; `disk` is what is left behind

/-- `tt.apply()`: `_check_malformed`, `_generate_inventory_delta` (bzr), the removal and
insertion phases (a failing rename is rolled back by the `_FileMover`), then — outside the
rollback — `apply_inventory_delta` (bzr), which refuses an inconsistent delta *after* the files
have been moved.  `d0` is the disk before. -/
def TT.apply (fl : Flags) (tt : TT) (d0 : Disk) : Outcome :=
  if !(tt.findRawConflicts fl).isEmpty then .raised .malformed d0
  else match (if fl.git then .ok [] else tt.generateDelta fl) with
    | .error e => .raised e d0
    | .ok d =>
      if !tt.dangling.isEmpty then .raised .renameFailed d0
      else if !fl.git && !invConsistent (applyDelta tt.baseInv d) then .raised .inconsistentDelta tt.applyDisk
      else .applied tt tt.applyDisk

/-- `resolve_conflicts(tt); tt.apply()` on the disk the transform was made for -/
def TT.resolveAndApply (fl : Flags) (tt : TT) : Outcome :=
  match tt.resolveConflicts fl with
  | .clean tt' => tt'.apply fl tt.baseDisk
  | .malformed _ => .raised .malformed tt.baseDisk
  | .crashed e => .raised e tt.baseDisk

/-- `tt.apply()` when the file system fails during the removal / insertion phases (an `OSError`
out of an `os.rename` of the `_FileMover`, or any `BaseException` raised there).  The checks made
before the mover phases come first; then `apply` runs `mover.rollback()` and re-raises, and the
metadata update is never reached.  That `rollback` restores names, kinds, contents and — the mode
changes of `_set_executability` being journalled — executable bits, i.e. that the disk left behind
is `d0`, is property C13 (`rollback_restores`); here it is the definition, compared on every run
with real applies in which every `os.rename` in turn fails. -/
def TT.applyFaulted (fl : Flags) (tt : TT) (d0 : Disk) : Outcome :=
  if !(tt.findRawConflicts fl).isEmpty then .raised .malformed d0
  else match (if fl.git then .ok [] else tt.generateDelta fl) with
    | .error e => .raised e d0
    | .ok _ => .raised .renameFailed d0

/-- `resolve_conflicts(tt); tt.apply()` with a failing file system -/
def TT.resolveAndApplyFaulted (fl : Flags) (tt : TT) : Outcome :=
  match tt.resolveConflicts fl with
  | .clean tt' => tt'.applyFaulted fl tt.baseDisk
  | .malformed _ => .raised .malformed tt.baseDisk
  | .crashed e => .raised e tt.baseDisk

def Outcome.disk : Outcome → Disk
  | .applied _ d => d
  | .raised _ d => d

/-- the disk after `resolve_conflicts(tt); tt.apply()` -/
def TT.diskAfter (fl : Flags) (tt : TT) : Disk := (tt.resolveAndApply fl).disk

/-- what can be seen of an inode from outside: nothing but "not there" unless it has a directory entry -/
def Inode.observe (i : Inode) : Inode := if i.attached && i.kind.isSome then i else Inode.empty

/-- do two disks show the same tree? (ids beyond the shorter table have no inode) -/
def diskSame (a b : Disk) : Bool :=
  (List.range (max a.length b.length)).all fun t =>
    ((a[t]?).getD Inode.empty).observe == ((b[t]?).getD Inode.empty).observe

/-- the paths found on the applied disk: every inode with a directory entry, at the path its
directory entries spell -/
def TT.appliedPaths (tt : TT) : List (Tid × List String) :=
  tt.ids.filterMap fun t =>
    if t = TT.root then none
    else match tt.applyDisk[t]? with
      | some i => if i.attached && i.kind.isSome then (diskPath tt.applyDisk (tt.next + 1) t).map (fun p => (t, p)) else none
      | none => none

/-- well-formed transform state (what the operations of `TT.step` and the resolvers keep): tree
ids come first, the maps `_new_name` / `_new_parent` only mention known ids, and an id that is
not a tree id was made by `create_path` (it has a name and a parent) -/
def TT.wf (tt : TT) : Bool :=
  decide (0 < tt.nbase) && decide (tt.nbase ≤ tt.next) &&
  tt.newName.all (fun e => decide (e.1 < tt.next)) && tt.newParent.all (fun e => decide (e.1 < tt.next)) &&
  (tt.ids.all fun t => decide (t < tt.nbase) || (ahas tt.newName t && ahas tt.newParent t))

/-- well-formed base tree: the root is entry 0, every other registered path has its parent
directory registered before it (the harness registers paths in sorted order) -/
def TT.baseWf (tt : TT) : Bool :=
  (tt.base[0]?).map (·.parent) == some none &&
  (List.range tt.nbase).all fun t => t == 0 ||
    (match (tt.base[t]?).bind (·.parent) with
     | some p => decide (p < t)
     | none => false)

/-! #### path walk (what a dump of either tree enumerates) -/

/-- trans-ids with their paths, for everything below the root that exists -/
def TT.livePaths (tt : TT) : List (Tid × List String) :=
  tt.ids.filterMap fun t =>
    if t = TT.root then none
    else if tt.live t then (tt.pathOf t).map (fun p => (t, p)) else none

/-- paths at which `_path2trans_id` may bind a name to an entry that does not
exist in the result although another entry with that name does (the result
depends on set iteration order) -/
def TT.shadowed (tt : TT) : List (List String) :=
  let dead := tt.ids.filterMap fun t =>
    if t ≠ TT.root && !tt.live t && (tt.finalParent t).isSome then tt.pathOf t else none
  (tt.livePaths.filter fun e => dead.any (fun d => d.isPrefixOf e.2)).map (·.2)

/-- every registered path that exists has a parent directory that exists (a real tree) -/
def TT.baseDirs (tt : TT) : Bool :=
  (List.range tt.nbase).all fun c => c == 0 || !(tt.treeKind c).isSome ||
    (match (tt.base[c]?).bind (·.parent) with
     | some p => tt.treeKind p == some .dir
     | none => false)

/-- versioned tree paths exist on disk (the harness versions what it created) -/
def TT.versionedExist (tt : TT) : Bool :=
  (List.range tt.nbase).all fun c => !(tt.treeFid c).isSome || (tt.treeKind c).isSome

/-- distinct trans-ids are registered for distinct tree paths -/
def TT.treePathsInj (tt : TT) : Bool :=
  (List.range tt.nbase).all fun a => (List.range tt.nbase).all fun b =>
    a == b || (tt.treePath (tt.nbase + 1) a).isNone || tt.treePath (tt.nbase + 1) a != tt.treePath (tt.nbase + 1) b

/-- no two live trans-ids end at the same path (what `_duplicate_entries` is there to ensure) -/
def TT.livePathsInj (tt : TT) : Bool :=
  tt.livePaths.all fun a => tt.livePaths.all fun b => a.1 == b.1 || a.2 != b.2

/-- the hypotheses of `gitIndex_eq_final`, evaluated by the driver on every conflict-free
transform the harness reaches -/
def TT.gitHyps (tt : TT) : Bool :=
  tt.wf && tt.baseWf && tt.baseDirs && tt.versionedExist && tt.treePathsInj && tt.livePathsInj &&
  tt.finalKind TT.root == some .dir

/-- the fuels of `pathOf` and of the `_parent_loops` walk are enough for this state: twice the
fuel gives the same answers (by `finalPath_fuel_mono` / `loopWalk_findChanged_fuel_mono` more fuel only turns "no
answer" into an answer; the driver evaluates this on every transform the harness reaches) -/
def TT.fuelOk (tt : TT) : Bool :=
  (tt.ids.all fun t => tt.finalPath (tt.next + 1) t == tt.finalPath (2 * tt.next + 2) t) &&
  (tt.newParent.all fun e => tt.loopWalk e.1 (tt.next + 2) e.1 [] == tt.loopWalk e.1 (2 * tt.next + 4) e.1 [])

/-- distinct tree paths carry distinct file ids -/
def TT.baseFidsInj (tt : TT) : Bool :=
  (List.range tt.nbase).all fun a => (List.range tt.nbase).all fun b =>
    a == b || (tt.treeFid a).isNone || tt.treeFid a != tt.treeFid b

/-- no two trans-ids end with the same file id (what `_duplicate_ids` and `_r_new_id` are there to ensure) -/
def TT.finalFidInj (tt : TT) : Bool :=
  tt.ids.all fun a => tt.ids.all fun b => a == b || (tt.finalFid a).isNone || tt.finalFid a != tt.finalFid b

/-- a versioned entry has a versioned parent (what `_unversioned_parents` is there to ensure) -/
def TT.parentsVersioned (tt : TT) : Bool :=
  tt.ids.all fun t => !tt.finalVersioned t ||
    (match tt.finalParent t with
     | some (some p) => tt.finalVersioned p
     | _ => true)

/-- `_new_id` is a dict over known trans-ids: one entry per key -/
def TT.newIdFunctional (tt : TT) : Bool :=
  tt.newId.all fun e => decide (e.1 < tt.next) && alookup tt.newId e.1 == some e.2

/-- new contents only where there are none or where they are deleted (what `_overwrite_conflicts` ensures) -/
def TT.noOverwrite (tt : TT) : Bool :=
  tt.newContents.all fun e => (tt.treeKind e.1).isNone || tt.removedContents.contains e.1

/-- the root stays the root (no name, no parent) and nothing else is parentless -/
def TT.rootHyps (tt : TT) : Bool :=
  tt.finalParent TT.root == some none && tt.finalName TT.root == some "" &&
  tt.ids.all fun t => t == TT.root || tt.finalParent t != some none

/-- the hypotheses of `delta_sound`, evaluated by the driver on every conflict-free bzr
transform the harness reaches -/
def TT.bzrHyps (tt : TT) : Bool :=
  tt.wf && tt.baseFidsInj && tt.finalFidInj && tt.parentsVersioned && tt.newIdFunctional && tt.noOverwrite &&
  tt.versionedExist && tt.reversioned.isEmpty

end BreezyVerif.C14
